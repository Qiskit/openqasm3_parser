/-
The two `simp` sets of the side conditions `X ⊆ L`, `node ∈ L` of the range walk (`Props/C12SemaGen.lean`,
`span_side`): `span_defs`, the definitions of the range lists of the typed AST (`Ast.Expr.spans`, …), and
`span_fns`, what `span` is of a constructor.  Registered, so that the sets are built once and not at each of the
calls.  The lemmas are tagged at the end of `Props/C12SemaSpans.lean`.
-/
import Lean

/-- the range lists of the typed AST, unfolded -/
register_simp_attr span_defs

/-- `span` of a constructor of the typed AST -/
register_simp_attr span_fns
