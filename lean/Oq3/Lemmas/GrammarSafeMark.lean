/- GENERATED by /verif/tools/gen_grammar_safe.py from Oq3/Model/Grammar.lean — the proofs are checked by Lean. -/
import Oq3.Lemmas.GrammarSafeMark1
import Oq3.Lemmas.GrammarSafeMark2
import Oq3.Lemmas.GrammarSafeMark3

namespace Oq3.Grammar
open Oq3.Gen Oq3.Parser
open Oq3.Gen.Ops (Assoc)
open Oq3.Gen.TokenSets

theorem allMark : ∀ fuel, AllMark fuel
  | 0 => by constructor <;> intros <;> exact wp_fail (by decide)
  | fuel + 1 =>
    have ih := allMark fuel
    { optReturnSignature := MW.field0' (optReturnSignature_mw ih)
      delimited := fun bra ket consumeBraket delim firstSet parser => MW.field0' (delimited_mw ih bra ket consumeBraket delim firstSet parser)
      delimitedLoop := fun ket delim firstSet parser => MW.field0' (delimitedLoop_mw ih ket delim firstSet parser)
      delimitedParser := fun parser => MW.field0' (delimitedParser_mw ih parser)
      sourceFileContents := fun stopOnRCurly => MW.field0' (sourceFileContents_mw ih stopOnRCurly)
      item := fun stopOnRCurly => MW.field0' (item_mw ih stopOnRCurly)
      optItem := fun m => MW.fieldE (optItem_mw ih m)
      switchCaseStmt := fun m => MW.fieldM (switchCaseStmt_mw ih m)
      switchCaseLoop := MW.field0' (switchCaseLoop_mw ih)
      blockOrStatement := MW.field0' (blockOrStatement_mw ih)
      ifStmt := fun m => MW.fieldM (ifStmt_mw ih m)
      whileStmt := fun m => MW.fieldM (whileStmt_mw ih m)
      forStmt := fun m => MW.fieldM (forStmt_mw ih m)
      qubitDeclarationStmt := fun m => MW.fieldM (qubitDeclarationStmt_mw ih m)
      resetStmt := fun m => MW.fieldM (resetStmt_mw ih m)
      gateDefinition := fun m => MW.fieldM (gateDefinition_mw ih m)
      defcal_ := fun m => MW.fieldM (defcal__mw ih m)
      returnsBoolClassicalDeclarationStmt := fun m => MW.fieldM (returnsBoolClassicalDeclarationStmt_mw ih m)
      classicalDeclarationStmt := fun m => MW.fieldM (classicalDeclarationStmt_mw ih m)
      ioDeclarationStmt := fun m => MW.fieldM (ioDeclarationStmt_mw ih m)
      defStmt := fun m => MW.fieldM (defStmt_mw ih m)
      externStmt := fun m => MW.fieldM (externStmt_mw ih m)
      cal_ := fun m => MW.fieldM (cal__mw ih m)
      barrier_ := fun m => MW.fieldM (barrier__mw ih m)
      delayStmt := fun m => MW.fieldM (delayStmt_mw ih m)
      aliasStmt := fun m => MW.fieldM (aliasStmt_mw ih m)
      expr := MW.field0' (expr_mw ih)
      rangeExpr := MW.field0' (rangeExpr_mw ih)
      exprOrRangeExpr := MW.field0' (exprOrRangeExpr_mw ih)
      exprStmt := fun m => MW.fieldO (x := fun m => Oq3.Grammar.exprStmt (fuel + 1) m) (Y := fun m s r s' => (∀ cm bl, r = some (cm, bl) → Done s' cm ∧ obound m s ≤ cm.pos)) (exprStmt_none_mw ih) (fun m => exprStmt_some_mw ih m) m
      stmt := MW.field0' (stmt_mw ih)
      letStmt := fun m => MW.fieldM (letStmt_mw ih m)
      qOrCRegParam := MW.field0' (qOrCRegParam_mw ih)
      qOrCRegDeclaration := fun m => MW.fieldM (qOrCRegDeclaration_mw ih m)
      exprBlockStatements := MW.field0' (exprBlockStatements_mw ih)
      exprBp := fun m r bp => MW.fieldO (x := fun m => Oq3.Grammar.exprBp (fuel + 1) m r bp) (Y := fun m s r s' => (∀ cm bl, r = some (cm, bl) → Done s' cm ∧ obound m s ≤ cm.pos)) (exprBp_none_mw ih r bp) (fun m => exprBp_some_mw ih m r bp) m
      exprBpLoop := fun r bp lhs => MW.fieldL (exprBpLoop_mw ih r bp lhs)
      lhs := fun r => MW.field0 (lhs_mw ih r)
      postfixExpr := fun lhs blockLike allowCalls => MW.fieldL (postfixExpr_mw ih lhs blockLike allowCalls)
      callExpr := fun lhs => MW.fieldL (callExpr_mw ih lhs)
      paramTypeSpec := MW.field0' (paramTypeSpec_mw ih)
      typeSpec := MW.field0' (typeSpec_mw ih)
      arrayTypeSpec := fun wantArrayRefType => MW.field0' (arrayTypeSpec_mw ih wantArrayRefType)
      arrayTypeDimsLoop := MW.field0' (arrayTypeDimsLoop_mw ih)
      nonArrayTypeSpec := MW.field0' (nonArrayTypeSpec_mw ih)
      complexTypeSpec := MW.field0' (complexTypeSpec_mw ih)
      qubitTypeSpec := MW.field0' (qubitTypeSpec_mw ih)
      designator := MW.field0' (designator_mw ih)
      indexExpr := fun lhs => MW.fieldL (indexExpr_mw ih lhs)
      indexedIdentifier := fun lhs => MW.fieldL (indexedIdentifier_mw ih lhs)
      indexedIdentifierLoop := MW.field0' (indexedIdentifierLoop_mw ih)
      setExpression := MW.field0' (setExpression_mw ih)
      indexOperator := MW.field0' (indexOperator_mw ih)
      callArgList := MW.field0' (callArgList_mw ih)
      atomExpr := fun _r => MW.field0 (atomExpr_mw ih _r)
      castExpr := MW.field0 (castExpr_mw ih)
      gphaseCallExpr := MW.field0 (gphaseCallExpr_mw ih)
      modifiedGateCallExpr := MW.field0 (modifiedGateCallExpr_mw ih)
      modifiedGateCallExprLoop := MW.field0' (modifiedGateCallExprLoop_mw ih)
      gateCallExpr := MW.field0 (gateCallExpr_mw ih)
      measureExpression := MW.field0 (measureExpression_mw ih)
      tupleExpr := MW.field0 (tupleExpr_mw ih)
      tupleExprLoop := fun sawComma sawExpr => MW.field0' (tupleExprLoop_mw ih sawComma sawExpr)
      arrayExpr := MW.field0 (arrayExpr_mw ih)
      arrayExprLoop := fun nExprs hasSemi => MW.field0' (arrayExprLoop_mw ih nExprs hasSemi)
      tryBlockExpr := MW.field0' (tryBlockExpr_mw ih)
      blockExpr := MW.field0 (blockExpr_mw ih)
      returnExpr := MW.field0 (returnExpr_mw ih)
      boxExpr := fun m => MW.fieldO (x := fun m => Oq3.Grammar.boxExpr (fuel + 1) m) (Y := fun m s r s' => Done s' r ∧ obound m s ≤ r.pos) (boxExpr_none_mw ih) (fun m => boxExpr_some_mw ih m) m
      paramListGateParams := MW.field0' (paramListGateParams_mw ih)
      paramListGateQubits := MW.field0' (paramListGateQubits_mw ih)
      argListGateCallQubits := MW.field0' (argListGateCallQubits_mw ih)
      paramListDefParams := MW.field0' (paramListDefParams_mw ih)
      scalarTypeList := MW.field0' (scalarTypeList_mw ih)
      paramListDefcalParams := MW.field0' (paramListDefcalParams_mw ih)
      paramListDefcalQubits := MW.field0' (paramListDefcalQubits_mw ih)
      expressionList := MW.field0' (expressionList_mw ih)
      caseValueList := MW.field0' (caseValueList_mw ih)
      arrayLiteral := MW.field0' (arrayLiteral_mw ih)
      paramListOpenqasm := fun flavor => MW.field0' (paramListOpenqasm_mw ih flavor)
      paramListOpenqasmLoop := fun flavor numParams => MW.field0' (paramListOpenqasmLoop_mw ih flavor numParams)
      paramListItem := fun flavor m innerArrayLiteral => MW.fieldM (paramListItem_mw ih flavor m innerArrayLiteral)
      paramTyped := fun m => MW.fieldM (paramTyped_mw ih m)
      scalarType := fun m => MW.fieldM (scalarType_mw ih m)
      argGateCallQubit := fun m => MW.fieldM (argGateCallQubit_mw ih m) }

end Oq3.Grammar
