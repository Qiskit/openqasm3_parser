/-
Helper lemmas about the builder model (`Oq3/Model/Builder.lean`): the tree-builder stack
machine run beside `intersperse_trivia`.
-/
import Oq3.Model.Builder

namespace Oq3.Builder
open Oq3.Gen Oq3.Parser

theorem bind_eq_ok {ε α β : Type} {x : Except ε α} {f : α → Except ε β} {b : β} :
    (x >>= f) = .ok b ↔ ∃ a, x = .ok a ∧ f a = .ok b := by
  cases x <;> simp [bind, Except.bind]

theorem steps_cons_ok {toks : List RawTok} {s : Step} {ss : List Step} {b c : B} :
    steps toks (s :: ss) b = .ok c ↔ ∃ d, step toks b s = .ok d ∧ steps toks ss d = .ok c :=
  bind_eq_ok

theorem tbSteps_cons_ok {s : StrStep} {ss : List StrStep} {t r : TB} :
    tbSteps (s :: ss) t = .ok r ↔ ∃ u, tbStep t s = .ok u ∧ tbSteps ss u = .ok r :=
  bind_eq_ok

theorem step_token_ok {toks : List RawTok} {b c : B} {k : SyntaxKind} {n : Nat} :
    step toks b (.token k n) = .ok c ↔
      ∃ d, flushPending b = .ok d ∧ doToken toks (eatTrivias toks d) k n = .ok c :=
  bind_eq_ok

theorem flushPending_cases {b d : B} (h : flushPending b = .ok d) :
    b.state = .normal ∧ d = { b with state := .normal } ∨
      b.state = .pendingExit ∧ d = emit { b with state := .normal } .exit := by
  unfold flushPending at h
  split at h <;> cases h
  · exact .inr ⟨‹_›, rfl⟩
  · exact .inl ⟨‹_›, rfl⟩

theorem step_exit_ok {toks : List RawTok} {b c : B} :
    step toks b .exit = .ok c ↔ ∃ d, flushPending b = .ok d ∧ c = { d with state := .pendingExit } := by
  simp only [step, flushPending]
  cases b.state <;> simp [emit, eq_comm]

theorem flushPending_state {b d : B} (h : flushPending b = .ok d) : d.state = .normal := by
  obtain ⟨_, rfl⟩ | ⟨_, rfl⟩ := flushPending_cases h <;> rfl

theorem step_error_eq (toks : List RawTok) (b : B) (msg : String) :
    step toks b (.error msg) = .ok (emit b (.error msg (textStart toks b.pos))) := rfl

theorem step_enter_pending (toks : List RawTok) {b : B} (k : SyntaxKind) (h : b.state = .pendingEnter) :
    step toks b (.enter k) = .ok (emit { b with state := .normal } (.enter k)) := by
  simp only [step, h]

theorem drop_takeWhile_length {α} (p : α → Bool) (l : List α) :
    l.drop (l.takeWhile p).length = l.dropWhile p := by
  induction l with
  | nil => rfl
  | cons x xs ih =>
    cases h : p x <;> simp [h, ih]

theorem doToken_ok_iff {toks : List RawTok} {b c : B} {k : SyntaxKind} {n : Nat} :
    doToken toks b k n = .ok c ↔ 0 < n ∧ b.pos + n ≤ toks.length ∧
      c = emit { b with pos := b.pos + n }
        (.token k (((toks.drop b.pos).take n).map (·.text)).flatten) := by
  unfold doToken
  by_cases h : n = 0 ∨ b.pos + n > toks.length
  · rw [if_pos h]; simp; omega
  · rw [if_neg h]; simp only [Except.ok.injEq, eq_comm (a := c)]; constructor
    · intro e; exact ⟨by omega, by omega, e⟩
    · exact fun e => e.2.2

theorem intersperseTrivia_ok_iff {toks : List RawTok} {ss : List Step} {out : List StrStep}
    {eof : Bool} : intersperseTrivia toks ss = .ok (out, eof) ↔
    ∃ b, steps toks ss {} = .ok b ∧ b.state = .pendingExit ∧
      out = (eatTrivias toks b).out ++ [.exit] ∧ eof = ((eatTrivias toks b).pos == toks.length) := by
  unfold intersperseTrivia
  rw [bind_eq_ok]
  refine exists_congr fun b => and_congr_right fun _ => ?_
  cases b.state <;> simp [emit, eq_comm]

theorem tbFinish_ok_iff {t : TB} {tree : Tree} {errs : List SynErr} :
    tbFinish t = .ok (tree, errs) ↔
      ∃ k cs, t.top = [.node k cs] ∧ tree = .node k cs ∧ errs = t.errors := by
  unfold tbFinish
  split
  · rename_i k cs h
    simp only [Except.ok.injEq, Prod.mk.injEq, h, List.cons.injEq, Tree.node.injEq, and_true]
    exact ⟨fun ⟨a, b⟩ => ⟨k, cs, ⟨rfl, rfl⟩, a.symm, b.symm⟩, fun ⟨_, _, ⟨rfl, rfl⟩, a, b⟩ => ⟨a.symm, b.symm⟩⟩
  · rename_i h; simp; intro k cs hk; exact absurd hk (h k cs)

theorem buildTree_ok_iff {toks : List RawTok} {ss : List Step} {t : Tree} {e : List SynErr}
    {eof : Bool} : buildTree toks ss = .ok (t, e, eof) ↔
    ∃ out r, intersperseTrivia toks ss = .ok (out, eof) ∧ tbSteps out {} = .ok r ∧
      tbFinish r = .ok (t, e) := by
  simp only [buildTree, bind_eq_ok, Prod.exists, Except.ok.injEq, Prod.mk.injEq]
  constructor
  · rintro ⟨out, f, hi, r, hr, t', e', hf, rfl, rfl, rfl⟩; exact ⟨out, r, hi, hr, hf⟩
  · rintro ⟨out, r, hi, hr, hf⟩; exact ⟨out, eof, hi, r, hr, t, e, hf, rfl, rfl, rfl⟩

theorem eatNTrivias_succ_ok {toks : List RawTok} {n : Nat} {b c : B} :
    eatNTrivias toks (n + 1) b = .ok c ↔ ∃ t, toks[b.pos]? = some t ∧ t.kind.isTrivia = true ∧
      eatNTrivias toks n (emit { b with pos := b.pos + 1 } (.token t.kind t.text)) = .ok c := by
  simp only [eatNTrivias]
  cases toks[b.pos]? with
  | none => simp
  | some t => cases h : t.kind.isTrivia <;> simp [h]

theorem eatTriviasAux_pos (rest : List RawTok) (b : B) :
    (eatTriviasAux rest b).pos = b.pos + (rest.takeWhile (fun t => t.kind.isTrivia)).length := by
  induction rest generalizing b with
  | nil => rfl
  | cons t r ih =>
    simp only [eatTriviasAux, List.takeWhile_cons]
    cases hk : t.kind.isTrivia
    · simp
    · simp only [if_true, ih, emit, List.length_cons]; omega

theorem eatTriviasAux_state (rest : List RawTok) (b : B) : (eatTriviasAux rest b).state = b.state := by
  induction rest generalizing b with
  | nil => rfl
  | cons t r ih =>
    simp only [eatTriviasAux]
    split
    · rw [ih]; rfl
    · rfl

theorem eatTrivias_state (toks : List RawTok) (b : B) : (eatTrivias toks b).state = b.state :=
  eatTriviasAux_state _ b

theorem eatNTrivias_state_pos {toks : List RawTok} {n : Nat} {b c : B} (h : eatNTrivias toks n b = .ok c) :
    c.state = b.state ∧ c.pos = b.pos + n := by
  induction n generalizing b with
  | zero => cases h; exact ⟨rfl, rfl⟩
  | succ n ih =>
    obtain ⟨t, _, _, h⟩ := eatNTrivias_succ_ok.mp h
    obtain ⟨h1, h2⟩ := ih h
    exact ⟨h1, by rw [h2]; simp only [emit]; omega⟩

/-- the body of `enter` outside `PendingEnter` -/
def enterBody (toks : List RawTok) (b : B) (kind : SyntaxKind) : M B := do
  let b ← flushPending b
  let leading := (toks.drop b.pos).takeWhile (·.kind.isTrivia)
  let nTrivias := leading.length
  let nAtt := nAttachedTrivias kind leading.reverse
  let b ← eatNTrivias toks (nTrivias - nAtt) b
  let b := emit b (.enter kind)
  eatNTrivias toks nAtt b

theorem enterBody_ok_iff {toks : List RawTok} {b c : B} {k : SyntaxKind} :
    enterBody toks b k = .ok c ↔ ∃ d, flushPending b = .ok d ∧ ∃ e,
      eatNTrivias toks (((toks.drop d.pos).takeWhile (·.kind.isTrivia)).length -
        nAttachedTrivias k ((toks.drop d.pos).takeWhile (·.kind.isTrivia)).reverse) d = .ok e ∧
      eatNTrivias toks (nAttachedTrivias k ((toks.drop d.pos).takeWhile (·.kind.isTrivia)).reverse)
        (emit e (.enter k)) = .ok c := by
  simp only [enterBody, bind_eq_ok]

theorem step_enter_eq (toks : List RawTok) (b : B) (k : SyntaxKind) (h : b.state ≠ .pendingEnter) :
    step toks b (.enter k) = enterBody toks b k := by
  cases hb : b.state with
  | pendingEnter => exact absurd hb h
  | normal => simp only [step, hb, enterBody]
  | pendingExit => simp only [step, hb, enterBody]

theorem drop_eq_cons {α} {l : List α} {i : Nat} {x : α} (h : l[i]? = some x) :
    l.drop i = x :: l.drop (i + 1) := by
  obtain ⟨hi, rfl⟩ := List.getElem?_eq_some_iff.mp h
  exact List.drop_eq_getElem_cons hi

theorem of_drop_eq_cons {α} {l r : List α} {i : Nat} {x : α} (h : l.drop i = x :: r) :
    l[i]? = some x ∧ l.drop (i + 1) = r := by
  have h1 := congrArg List.head? h
  have h2 := congrArg List.tail h
  exact ⟨by simpa [List.head?_drop] using h1, by simpa [List.tail_drop] using h2⟩

/-- inside the root at depth `d ≥ 1`; depth 0 = root closed, nothing may follow -/
def wf : Nat → List Step → Bool
  | d, [] => d == 0
  | 0, _ :: _ => false
  | d + 1, .enter _ :: ss => wf (d + 2) ss
  | d + 1, .exit :: ss => wf d ss
  | d + 1, _ :: ss => wf (d + 1) ss

/-- the step list is one root node: `Enter … Exit`, never back at depth 0 before the end -/
def rooted : List Step → Bool
  | .enter _ :: ss => wf 1 ss
  | _ => false

theorem leavesList_append (a b : List Tree) :
    Tree.leavesList (a ++ b) = Tree.leavesList a ++ Tree.leavesList b := by
  induction a with
  | nil => simp [Tree.leavesList]
  | cons x xs ih => simp [Tree.leavesList, ih]

theorem leavesList_singleton (x : Tree) : Tree.leavesList [x] = x.leaves := by
  simp [Tree.leavesList]

/-- all leaves pushed so far, in document order -/
def TB.leaves (t : TB) : List (SyntaxKind × List Char) :=
  Tree.leavesList t.top.reverse ++
    (t.parents.reverse.map (fun p => Tree.leavesList p.2.reverse)).flatten

theorem TB.leaves_push (t : TB) (x : Tree) : (t.push x).leaves = t.leaves ++ x.leaves := by
  unfold TB.push TB.leaves
  split
  · rename_i k cs ps heq
    simp [heq, leavesList_append, leavesList_singleton]
  · rename_i heq
    simp [heq, leavesList_append, leavesList_singleton]

def tokensOf : List StrStep → List (SyntaxKind × List Char)
  | [] => []
  | .token k t :: ss => (k, t) :: tokensOf ss
  | _ :: ss => tokensOf ss

theorem tokensOf_append (a b : List StrStep) : tokensOf (a ++ b) = tokensOf a ++ tokensOf b := by
  induction a with
  | nil => rfl
  | cons x xs ih => cases x <;> simp [tokensOf, ih]

def errorsOf : List StrStep → List SynErr
  | [] => []
  | .error m p :: ss => ⟨m, p⟩ :: errorsOf ss
  | _ :: ss => errorsOf ss

theorem errorsOf_append (a b : List StrStep) : errorsOf (a ++ b) = errorsOf a ++ errorsOf b := by
  induction a with
  | nil => rfl
  | cons x xs ih => cases x <;> simp [errorsOf, ih]

theorem tbSteps_append (a b : List StrStep) (t : TB) :
    tbSteps (a ++ b) t = (tbSteps a t >>= fun t' => tbSteps b t') := by
  induction a generalizing t with
  | nil => rfl
  | cons x xs ih =>
    simp only [List.cons_append, tbSteps]
    cases h : tbStep t x with
    | error e => rfl
    | ok t' => exact ih t'

/-- the tree-builder state reached on the output emitted so far -/
structure TBInv (out : List StrStep) (depth : Nat) (tb : TB) : Prop where
  run : tbSteps out {} = .ok tb
  top_nil : tb.top = []
  parents_len : tb.parents.length = depth
  leaves_eq : tb.leaves = tokensOf out
  errors_eq : tb.errors = errorsOf out

theorem TBInv.emit_token {out d tb} (h : TBInv out d tb) (hd : 0 < d) (k : SyntaxKind)
    (t : List Char) : TBInv (out ++ [.token k t]) d (tb.push (.leaf k t)) := by
  have hp : tb.parents ≠ [] := by
    intro e; have := h.parents_len; rw [e] at this; simp at this; omega
  obtain ⟨p, ps, hps⟩ := List.exists_cons_of_ne_nil hp
  refine ⟨?_, ?_, ?_, ?_, ?_⟩
  · rw [tbSteps_append, h.run]; rfl
  · simp [TB.push, hps, h.top_nil]
  · simp [TB.push, hps, ← h.parents_len]
  · rw [TB.leaves_push, h.leaves_eq, tokensOf_append]; simp [tokensOf, Tree.leaves]
  · rw [errorsOf_append]; simp [errorsOf, TB.push, hps, h.errors_eq]

theorem TBInv.emit_enter {out d tb} (h : TBInv out d tb) (k : SyntaxKind) :
    TBInv (out ++ [.enter k]) (d + 1) { tb with parents := (k, []) :: tb.parents } := by
  refine ⟨?_, h.top_nil, by simp [h.parents_len], ?_, ?_⟩
  · rw [tbSteps_append, h.run]; rfl
  · rw [tokensOf_append, ← h.leaves_eq]; simp [TB.leaves, tokensOf, Tree.leavesList]
  · rw [errorsOf_append]; simp [errorsOf, h.errors_eq]

theorem TBInv.emit_error {out d tb} (h : TBInv out d tb) (m : String) (p : Nat) :
    TBInv (out ++ [.error m p]) d { tb with errors := tb.errors ++ [⟨m, p⟩] } := by
  refine ⟨?_, h.top_nil, h.parents_len, ?_, ?_⟩
  · rw [tbSteps_append, h.run]; rfl
  · rw [tokensOf_append, ← h.leaves_eq]; simp [TB.leaves, tokensOf]
  · rw [errorsOf_append]; simp [errorsOf, h.errors_eq]

theorem TBInv.emit_exit {out d tb} (h : TBInv out (d + 2) tb) :
    ∃ tb', TBInv (out ++ [.exit]) (d + 1) tb' := by
  have hl := h.parents_len
  match hps : tb.parents, hl with
  | (k, cs) :: (k2, cs2) :: ps, hl =>
    refine ⟨({ tb with parents := (k2, cs2) :: ps } : TB).push (.node k cs.reverse), ?_, ?_, ?_, ?_, ?_⟩
    · rw [tbSteps_append, h.run]; simp [tbSteps, tbStep, hps, bind, Except.bind]
    · simp [TB.push, h.top_nil]
    · simp [TB.push] at hl ⊢; omega
    · rw [TB.leaves_push, tokensOf_append, ← h.leaves_eq]
      simp [TB.leaves, hps, tokensOf, Tree.leaves]
    · rw [errorsOf_append]; simp [errorsOf, TB.push, h.errors_eq]

theorem TBInv.emit_exit_root {out tb} (h : TBInv out 1 tb) :
    ∃ k cs, tbSteps (out ++ [.exit]) {} =
        .ok { parents := [], top := [.node k cs], errors := errorsOf out } ∧
      (Tree.node k cs).leaves = tokensOf out := by
  have hl := h.parents_len
  match hps : tb.parents, hl with
  | [(k, cs)], _ =>
    refine ⟨k, cs.reverse, ?_, ?_⟩
    · rw [tbSteps_append, h.run]
      simp [tbSteps, tbStep, hps, bind, Except.bind, TB.push, h.top_nil, h.errors_eq]
    · rw [← h.leaves_eq]; simp [TB.leaves, hps, h.top_nil, Tree.leaves, Tree.leavesList]


def textsOf (l : List (SyntaxKind × List Char)) : List Char := (l.map (·.2)).flatten

def rawText (toks : List RawTok) : List Char := (toks.map (·.text)).flatten

theorem rawText_append (a b : List RawTok) : rawText (a ++ b) = rawText a ++ rawText b := by
  simp [rawText]

theorem textsOf_append (a b : List (SyntaxKind × List Char)) :
    textsOf (a ++ b) = textsOf a ++ textsOf b := by simp [textsOf]

def pendingExtra (st : BState) : Nat := if st = .pendingExit then 1 else 0

/-- invariant of the `Builder` after a processed prefix whose model depth is `d` -/
structure BInv (toks : List RawTok) (b : B) (d : Nat) : Prop where
  pos_le : b.pos ≤ toks.length
  text_eq : textsOf (tokensOf b.out) = rawText (toks.take b.pos)
  st : b.state ≠ .pendingEnter
  root : d = 0 → b.state = .pendingExit
  tb : ∃ tb, TBInv b.out (d + pendingExtra b.state) tb

theorem BInv.emit_raw {toks b d} (h : BInv toks b d) (t : RawTok) (ht : toks[b.pos]? = some t)
    (hd : 0 < d + pendingExtra b.state) :
    BInv toks (emit { b with pos := b.pos + 1 } (.token t.kind t.text)) d := by
  obtain ⟨tb, htb⟩ := h.tb
  have hlt : b.pos < toks.length := (List.getElem?_eq_some_iff.mp ht).1
  refine ⟨by simp [emit]; omega, ?_, h.st, h.root, ⟨_, htb.emit_token hd t.kind t.text⟩⟩
  simp only [emit, tokensOf_append, textsOf_append, h.text_eq, List.take_add_one, ht, rawText_append]
  simp [tokensOf, textsOf, rawText]

theorem eatTriviasAux_inv {toks : List RawTok} (rest : List RawTok) (b : B) (d : Nat)
    (h : BInv toks b d) (hr : toks.drop b.pos = rest) (hd : 0 < d + pendingExtra b.state) :
    BInv toks (eatTriviasAux rest b) d := by
  induction rest generalizing b with
  | nil => exact h
  | cons t rest ih =>
    simp only [eatTriviasAux]
    split
    · obtain ⟨ht, hr'⟩ := of_drop_eq_cons hr
      exact ih (emit { b with pos := b.pos + 1 } (.token t.kind t.text)) (h.emit_raw t ht hd) hr' hd
    · exact h

theorem eatTrivias_inv {toks : List RawTok} (b : B) (d : Nat) (h : BInv toks b d)
    (hd : 0 < d + pendingExtra b.state) : BInv toks (eatTrivias toks b) d :=
  eatTriviasAux_inv _ b d h rfl hd

theorem eatNTrivias_inv {toks : List RawTok} (n : Nat) (b b' : B) (d : Nat) (h : BInv toks b d)
    (hd : 0 < d + pendingExtra b.state) (hok : eatNTrivias toks n b = .ok b') : BInv toks b' d := by
  induction n generalizing b with
  | zero => simp only [eatNTrivias, Except.ok.injEq] at hok; subst hok; exact h
  | succ n ih =>
    obtain ⟨t, ht, _, hok⟩ := eatNTrivias_succ_ok.mp hok
    exact ih (emit { b with pos := b.pos + 1 } (.token t.kind t.text)) (h.emit_raw t ht hd) hd hok

theorem flushPending_inv {toks : List RawTok} (b b' : B) (d : Nat) (h : BInv toks b (d + 1))
    (hok : flushPending b = .ok b') : BInv toks b' (d + 1) := by
  obtain ⟨tb, htb⟩ := h.tb
  obtain ⟨hst, rfl⟩ | ⟨hst, rfl⟩ := flushPending_cases hok
  · exact ⟨h.pos_le, h.text_eq, by simp, by simp, tb, by simpa [hst, pendingExtra] using htb⟩
  · simp only [hst, pendingExtra, if_true] at htb
    obtain ⟨tb', htb'⟩ := htb.emit_exit
    refine ⟨h.pos_le, ?_, by simp [emit], by simp, tb', by simpa [emit, pendingExtra] using htb'⟩
    simp [emit, tokensOf_append, tokensOf, h.text_eq]

theorem doToken_inv {toks : List RawTok} (b b' : B) (d : Nat) (k : SyntaxKind) (n : Nat)
    (h : BInv toks b (d + 1)) (hst : b.state = .normal) (hok : doToken toks b k n = .ok b') :
    BInv toks b' (d + 1) ∧ b'.state = .normal := by
  unfold doToken at hok
  split at hok
  · simp at hok
  · rename_i hc
    simp only [Except.ok.injEq] at hok; subst hok
    obtain ⟨tb, htb⟩ := h.tb
    simp only [hst, pendingExtra] at htb
    have hfit : b.pos + n ≤ toks.length := by omega
    refine ⟨⟨by simp [emit]; omega, ?_, by simp [emit, hst], by simp, ?_⟩, by simp [emit, hst]⟩
    · simp only [emit, tokensOf_append, textsOf_append, h.text_eq]
      have : toks.take (b.pos + n) = toks.take b.pos ++ (toks.drop b.pos).take n := by
        rw [List.take_add]
      rw [this, rawText_append]
      simp [tokensOf, textsOf, rawText]
    · exact ⟨_, by simpa [emit, hst, pendingExtra] using htb.emit_token (by simp) k _⟩

theorem step_inv {toks : List RawTok} (b b' : B) (d : Nat) (s : Step) (ss : List Step)
    (h : BInv toks b (d + 1)) (hwf : wf (d + 1) (s :: ss) = true)
    (hok : step toks b s = .ok b') : ∃ d', BInv toks b' d' ∧ wf d' ss = true := by
  cases s with
  | token k n =>
    obtain ⟨b1, hb1, hok⟩ := step_token_ok.mp hok
    have hs1 := flushPending_state hb1
    have h2 := eatTrivias_inv b1 (d + 1) (flushPending_inv b b1 d h hb1) (by omega)
    exact ⟨d + 1, (doToken_inv _ b' d k n h2 (by rw [eatTrivias_state, hs1]) hok).1, by simpa [wf] using hwf⟩
  | enter k =>
    rw [step_enter_eq _ _ _ h.st] at hok
    obtain ⟨b1, hb1, b2, hb2, hok⟩ := enterBody_ok_iff.mp hok
    have h2 := eatNTrivias_inv _ b1 b2 (d + 1) (flushPending_inv b b1 d h hb1) (by omega) hb2
    have hs2' : b2.state = .normal := by rw [(eatNTrivias_state_pos hb2).1, flushPending_state hb1]
    have h3 : BInv toks (emit b2 (.enter k)) (d + 2) := by
      obtain ⟨tb, htb⟩ := h2.tb
      simp only [hs2', pendingExtra] at htb
      refine ⟨h2.pos_le, ?_, by simp [emit, hs2'], by simp,
        ⟨{ tb with parents := (k, []) :: tb.parents }, ?_⟩⟩
      · simp [emit, tokensOf_append, tokensOf, h2.text_eq]
      · simpa [emit, hs2', pendingExtra] using htb.emit_enter k
    exact ⟨d + 2, eatNTrivias_inv _ _ b' (d + 2) h3 (by omega) hok, by simpa [wf] using hwf⟩
  | exit =>
    obtain ⟨b1, hb1, rfl⟩ := step_exit_ok.mp hok
    have h1 := flushPending_inv b b1 d h hb1
    have hs1 := flushPending_state hb1
    obtain ⟨tb, htb⟩ := h1.tb
    simp only [hs1, pendingExtra] at htb
    exact ⟨d, ⟨h1.pos_le, h1.text_eq, by simp, by simp, ⟨tb, by simpa [pendingExtra] using htb⟩⟩,
      by simpa [wf] using hwf⟩
  | error msg =>
    rw [step_error_eq] at hok; cases hok
    obtain ⟨tb, htb⟩ := h.tb
    refine ⟨d + 1, ⟨h.pos_le, ?_, by simpa [emit] using h.st, by simp,
      ⟨{ tb with errors := tb.errors ++ [⟨msg, textStart toks b.pos⟩] }, ?_⟩⟩, by simpa [wf] using hwf⟩
    · simp [emit, tokensOf_append, tokensOf, h.text_eq]
    · simpa [emit] using htb.emit_error msg (textStart toks b.pos)

theorem steps_inv {toks : List RawTok} (ss : List Step) (b b' : B) (d : Nat)
    (h : BInv toks b d) (hwf : wf d ss = true) (hok : steps toks ss b = .ok b') :
    BInv toks b' 0 := by
  induction ss generalizing b d with
  | nil =>
    simp only [steps, Except.ok.injEq] at hok; subst hok
    cases d with
    | zero => exact h
    | succ d => simp [wf] at hwf
  | cons s ss ih =>
    cases d with
    | zero => simp [wf] at hwf
    | succ d =>
      obtain ⟨b1, hb1, hok⟩ := steps_cons_ok.mp hok
      obtain ⟨d', h1, hwf1⟩ := step_inv b b1 d s ss h hwf hb1
      exact ih b1 d' h1 hwf1 hok

theorem TBInv.nil : TBInv [] 0 {} :=
  ⟨rfl, rfl, rfl, by simp [TB.leaves, tokensOf, Tree.leavesList], rfl⟩

/-- after all parser steps of a rooted list the builder is in `PendingExit` with only the root
open, and everything emitted so far is accounted for -/
theorem steps_rooted (toks : List RawTok) (ss : List Step) (hr : rooted ss = true) (b : B)
    (hok : steps toks ss {} = .ok b) : BInv toks b 0 := by
  match ss, hr with
  | .enter k :: rest, hr =>
    obtain ⟨b0, hb0, hok⟩ := steps_cons_ok.mp hok
    cases hb0
    have hbase : BInv toks (emit { ({} : B) with state := .normal } (.enter k)) 1 := by
      refine ⟨by simp [emit], by simp [emit, tokensOf, textsOf, rawText], by simp [emit], by simp,
        ⟨{ ({} : TB) with parents := [(k, [])] }, ?_⟩⟩
      simpa [emit, pendingExtra] using TBInv.nil.emit_enter k
    exact steps_inv rest _ b 1 hbase hr hok

end Oq3.Builder
