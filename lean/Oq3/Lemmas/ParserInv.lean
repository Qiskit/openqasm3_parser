/-
The parser-state invariant `Inv` and its preservation by every primitive of the parser API
(`Oq3/Model/ParserApi.lean`).  Grammar-independent: any code written through the API keeps it.
-/
import Oq3.Lemmas.Process
import Oq3.Lemmas.Run

namespace Oq3.Parser
open Oq3.Gen

/-- weak depth machine over events in index order: tokens and errors are allowed at any depth,
a `Finish` needs an open node.  It runs while markers are still open (a tombstone does not count);
on the finished list it gives the strict machine `runE` of `Lemmas/Process.lean` (`runE_of_runW`). -/
def runW : Nat → List Ev → Option Nat
  | d, [] => some d
  | d, .start k _ :: es => if k == .TOMBSTONE then runW d es else runW (d + 1) es
  | 0, .finish :: _ => none
  | d + 1, .finish :: es => runW d es
  | d, _ :: es => runW d es

/-- raw tokens consumed according to the event list -/
def sumTok : List Ev → Nat
  | [] => 0
  | .token _ n :: es => n + sumTok es
  | _ :: es => sumTok es

/-- every token event spans `n ≥ 1` raw tokens and the raw tokens glued into one event are
marked joint in the input; `c` = raw tokens consumed before -/
def glueOK (joint : Array Bool) : Nat → List Ev → Bool
  | _, [] => true
  | c, .token _ n :: es =>
    (n ≥ 1) && (List.range (n - 1)).all (fun j => joint.getD (c + j) false) && glueOK joint (c + n) es
  | c, _ :: es => glueOK joint c es

/-- the raw tokens glued into one token event (all but its last) are never `FLOAT_NUMBER`
(`to_input` marks such a float joint even when trivia follows, so for them "joint" does not
mean "adjacent") -/
def glueKE (kinds : Array SyntaxKind) : Nat → List Ev → Bool
  | _, [] => true
  | c, .token _ n :: es =>
    (List.range (n - 1)).all (fun j => kinds.getD (c + j) .EOF != .FLOAT_NUMBER) && glueKE kinds (c + n) es
  | c, _ :: es => glueKE kinds c es

/-- forward-parent links point at `Start` events; a target that is still a tombstone is a live
marker created by `precede` and protected from being popped -/
def FpOKp (prot : List Nat) (evs : List Ev) : Prop :=
  ∀ j k f, evs[j]? = some (Ev.start k (some f)) →
    ∃ k' fp', evs[j + f]? = some (Ev.start k' fp') ∧ (k' = .TOMBSTONE → (j + f) ∈ prot)

theorem FpOKp.toFpOK {prot evs} (h : FpOKp prot evs) : FpOK evs := by
  intro j k f hj
  obtain ⟨k', fp', h1, _⟩ := h j k f hj
  exact ⟨k', fp', h1⟩

structure Inv (kinds : Array SyntaxKind) (joint : Array Bool) (s : P) : Prop where
  kinds_eq : s.kinds = kinds
  joint_eq : s.joint = joint
  dyck : runW 0 s.events.toList = some 0
  fp : FpOKp s.protectedPos s.events.toList
  tok : sumTok s.events.toList = s.pos
  pos_le : s.pos ≤ kinds.size
  glue : glueOK joint 0 s.events.toList = true
  gluek : glueKE kinds 0 s.events.toList = true

theorem runW_append (d : Nat) (a b : List Ev) :
    runW d (a ++ b) = (runW d a).bind fun d' => runW d' b := by
  induction a generalizing d with
  | nil => simp [runW]
  | cons e es ih =>
    cases e with
    | start k fp => simp only [List.cons_append, runW]; split <;> exact ih _
    | finish =>
      cases d with
      | zero => simp [runW]
      | succ d => simp only [List.cons_append, runW]; exact ih _
    | token k n => simp only [List.cons_append, runW]; exact ih _
    | error m => simp only [List.cons_append, runW]; exact ih _

theorem runW_shift (d r : Nat) (es : List Ev) (h : runW d es = some r) :
    runW (d + 1) es = some (r + 1) := by
  induction es generalizing d with
  | nil => simp only [runW, Option.some.injEq] at h ⊢; omega
  | cons e es ih =>
    cases e with
    | start k fp => simp only [runW] at h ⊢; split at h <;> simp_all
    | finish =>
      cases d with
      | zero => simp [runW] at h
      | succ d => simp only [runW] at h ⊢; exact ih _ h
    | token k n => simp only [runW] at h ⊢; exact ih _ h
    | error m => simp only [runW] at h ⊢; exact ih _ h

/-- completing a marker: its tombstone becomes a real `Start`, a `Finish` is appended -/
theorem runW_complete (a b : List Ev) (k : SyntaxKind) (fp fp' : Option Nat)
    (hk : (k == .TOMBSTONE) = false)
    (h : runW 0 (a ++ .start .TOMBSTONE fp :: b) = some 0) :
    runW 0 (a ++ .start k fp' :: b ++ [.finish]) = some 0 := by
  rw [runW_append] at h
  rw [List.append_assoc, runW_append]
  cases ha : runW 0 a with
  | none => simp [ha] at h
  | some da =>
    simp only [ha, Option.bind_some, runW, beq_self_eq_true, if_true] at h
    simp only [Option.bind_some, List.cons_append, runW, hk, Bool.false_eq_true, if_false]
    rw [runW_append, runW_shift _ _ _ h]
    simp [runW]

theorem sumTok_append (a b : List Ev) : sumTok (a ++ b) = sumTok a + sumTok b := by
  induction a with
  | nil => simp [sumTok]
  | cons e es ih => cases e <;> simp [sumTok, ih] <;> omega

theorem glueOK_append (joint : Array Bool) (c : Nat) (a b : List Ev) :
    glueOK joint c (a ++ b) = (glueOK joint c a && glueOK joint (c + sumTok a) b) := by
  induction a generalizing c with
  | nil => simp [glueOK, sumTok]
  | cons e es ih =>
    cases e with
    | token k n =>
      simp only [List.cons_append, glueOK, sumTok, ih, Bool.and_assoc]
      rw [show c + n + sumTok es = c + (n + sumTok es) by omega]
    | start k fp => simp [glueOK, sumTok, ih]
    | finish => simp [glueOK, sumTok, ih]
    | error m => simp [glueOK, sumTok, ih]

theorem sumTok_set_start (evs : List Ev) (t : Nat) (k k' : SyntaxKind) (fp fp' : Option Nat)
    (h : evs[t]? = some (.start k fp)) : sumTok (evs.set t (.start k' fp')) = sumTok evs := by
  induction evs generalizing t with
  | nil => simp at h
  | cons e es ih =>
    cases t with
    | zero => simp at h; subst h; simp [List.set, sumTok]
    | succ t => simp at h; cases e <;> simp [List.set, sumTok, ih t h]

theorem glueOK_set_start (joint : Array Bool) (c : Nat) (evs : List Ev) (t : Nat) (k k' : SyntaxKind)
    (fp fp' : Option Nat) (h : evs[t]? = some (.start k fp)) :
    glueOK joint c (evs.set t (.start k' fp')) = glueOK joint c evs := by
  induction evs generalizing t c with
  | nil => simp at h
  | cons e es ih =>
    cases t with
    | zero => simp at h; subst h; simp [List.set, glueOK]
    | succ t => simp at h; cases e <;> simp [List.set, glueOK, ih _ t h]

theorem glueKE_append (kinds : Array SyntaxKind) (c : Nat) (a b : List Ev) :
    glueKE kinds c (a ++ b) = (glueKE kinds c a && glueKE kinds (c + sumTok a) b) := by
  induction a generalizing c with
  | nil => simp [glueKE, sumTok]
  | cons e es ih =>
    cases e with
    | token k n =>
      simp only [List.cons_append, glueKE, sumTok, ih, Bool.and_assoc]
      rw [show c + n + sumTok es = c + (n + sumTok es) by omega]
    | start k fp => simp [glueKE, sumTok, ih]
    | finish => simp [glueKE, sumTok, ih]
    | error m => simp [glueKE, sumTok, ih]

theorem glueKE_set_start (kinds : Array SyntaxKind) (c : Nat) (evs : List Ev) (t : Nat) (k k' : SyntaxKind)
    (fp fp' : Option Nat) (h : evs[t]? = some (.start k fp)) :
    glueKE kinds c (evs.set t (.start k' fp')) = glueKE kinds c evs := by
  induction evs generalizing t c with
  | nil => simp at h
  | cons e es ih =>
    cases t with
    | zero => simp at h; subst h; simp [List.set, glueKE]
    | succ t => simp at h; cases e <;> simp [List.set, glueKE, ih _ t h]

theorem runW_set_fp (d : Nat) (evs : List Ev) (t : Nat) (k : SyntaxKind) (fp fp' : Option Nat)
    (h : evs[t]? = some (.start k fp)) : runW d (evs.set t (.start k fp')) = runW d evs := by
  induction evs generalizing t d with
  | nil => simp at h
  | cons e es ih =>
    cases t with
    | zero => simp at h; subst h; simp [List.set, runW]
    | succ t =>
      simp at h
      cases e with
      | start k2 fp2 => simp only [List.set, runW]; split <;> exact ih _ t h
      | finish => cases d <;> simp [List.set, runW, ih _ t h]
      | token k2 n => simp only [List.set, runW]; exact ih _ t h
      | error m => simp only [List.set, runW]; exact ih _ t h

theorem Inv.congr {kinds joint} {s s' : P} (h : Inv kinds joint s) (h1 : s'.kinds = s.kinds)
    (h2 : s'.joint = s.joint) (h3 : s'.events = s.events) (h4 : s'.pos = s.pos)
    (h5 : s'.protectedPos = s.protectedPos) : Inv kinds joint s' :=
  ⟨h1 ▸ h.kinds_eq, h2 ▸ h.joint_eq, h3 ▸ h.dyck, by rw [h3, h5]; exact h.fp, by rw [h3, h4]; exact h.tok,
   h4 ▸ h.pos_le, h3 ▸ h.glue, h3 ▸ h.gluek⟩

theorem nth_pres {kinds joint} (n : Nat) : Pres (Inv kinds joint) (nth n) :=
  ⟨fun s r hs h => by rw [nth_ok n s r h]; exact hs.congr rfl rfl rfl rfl rfl⟩

/-- events that none of the measures of `Inv` sees -/
def Ev.inert : Ev → Bool
  | .start .TOMBSTONE none => true
  | .error _ => true
  | _ => false

theorem runW_inert (d : Nat) (e : Ev) (h : e.inert = true) : runW d [e] = some d := by
  cases e with
  | start k fp => cases k <;> cases fp <;> simp_all [Ev.inert, runW]
  | error m => cases d <;> simp [runW]
  | finish => simp [Ev.inert] at h
  | token k n => simp [Ev.inert] at h

theorem sumTok_inert (e : Ev) (h : e.inert = true) : sumTok [e] = 0 := by
  cases e <;> simp_all [Ev.inert, sumTok]

theorem glueOK_inert (joint : Array Bool) (c : Nat) (e : Ev) (h : e.inert = true) :
    glueOK joint c [e] = true := by
  cases e <;> simp_all [Ev.inert, glueOK]

theorem glueKE_inert (kinds : Array SyntaxKind) (c : Nat) (e : Ev) (h : e.inert = true) :
    glueKE kinds c [e] = true := by
  cases e <;> simp_all [Ev.inert, glueKE]

theorem FpOKp.append_nolink {prot : List Nat} {l : List Ev} (h : FpOKp prot l) (e : Ev)
    (he : ∀ k f, e ≠ .start k (some f)) : FpOKp prot (l ++ [e]) := by
  intro j k f hj
  by_cases hjl : j < l.length
  · rw [List.getElem?_append_left hjl] at hj
    obtain ⟨k', fp', h1, h2⟩ := h j k f hj
    have : j + f < l.length := (List.getElem?_eq_some_iff.mp h1).1
    exact ⟨k', fp', by rw [List.getElem?_append_left this]; exact h1, h2⟩
  · have hj' := hj
    rw [List.getElem?_append_right (by omega)] at hj'
    match hm : j - l.length, hj' with
    | 0, hj' =>
      simp only [List.getElem?_cons_zero, Option.some.injEq] at hj'
      exact absurd hj' (he k f)
    | n + 1, hj' => simp at hj'

theorem Inv.push_inert {kinds joint} {s : P} (h : Inv kinds joint s) (e : Ev) (he : e.inert = true)
    (sb : Nat) : Inv kinds joint { s with events := s.events.push e, sinceBump := sb } := by
  have hnl : ∀ k f, e ≠ .start k (some f) := by
    intro k f hc; subst hc; cases k <;> simp [Ev.inert] at he
  refine ⟨h.kinds_eq, h.joint_eq, ?_, ?_, ?_, h.pos_le, ?_, ?_⟩
  · simp only [Array.toList_push, runW_append, h.dyck, Option.bind_some]; exact runW_inert 0 e he
  · simpa using h.fp.append_nolink e hnl
  · simp only [Array.toList_push, sumTok_append, sumTok_inert e he, h.tok, Nat.add_zero]
  · simp only [Array.toList_push, glueOK_append, h.glue, glueOK_inert _ _ e he, Bool.and_self]
  · simp only [Array.toList_push, glueKE_append, h.gluek, glueKE_inert _ _ e he, Bool.and_self]

theorem error_pres {kinds joint} (msg : String) : Pres (Inv kinds joint) (error msg) := by
  refine ⟨fun s r hs h => ?_⟩
  have := pushEvent_ok _ s r h
  subst this
  exact hs.push_inert _ rfl _

theorem start_pres {kinds joint} : Pres (Inv kinds joint) start := by
  refine ⟨fun s r hs h => ?_⟩
  have := start_ok s r h
  subst this
  exact (hs.push_inert Ev.tombstone rfl (s.sinceBump + 1)).congr rfl rfl rfl rfl rfl

theorem Inv.bump {kinds joint} {s : P} (h : Inv kinds joint s) (k : SyntaxKind) (n : Nat)
    (hfit : s.pos + n ≤ kinds.size) (hn : 1 ≤ n)
    (hj : ∀ j, j < n - 1 → joint.getD (s.pos + j) false = true)
    (hkf : ∀ j, j < n - 1 → kinds.getD (s.pos + j) .EOF ≠ .FLOAT_NUMBER) :
    Inv kinds joint { s with pos := s.pos + n, steps := 0, sinceBump := 1,
                             events := s.events.push (.token k n) } := by
  refine ⟨h.kinds_eq, h.joint_eq, ?_, ?_, ?_, hfit, ?_, ?_⟩
  · simp only [Array.toList_push, runW_append, h.dyck, Option.bind_some]; simp [runW]
  · simpa using h.fp.append_nolink (.token k n) (by intro _ _ hc; cases hc)
  · simp only [Array.toList_push, sumTok_append, h.tok]; simp [sumTok]
  · simp only [Array.toList_push, glueOK_append, h.glue, h.tok, Bool.true_and]
    simp only [glueOK, Nat.zero_add, Bool.and_true, Bool.and_eq_true, decide_eq_true_eq,
      List.all_eq_true, List.mem_range]
    exact ⟨hn, hj⟩
  · simp only [Array.toList_push, glueKE_append, h.gluek, h.tok, Bool.true_and]
    simp only [glueKE, Nat.zero_add, Bool.and_true, List.all_eq_true, List.mem_range, bne_iff_ne, ne_eq]
    exact hkf

theorem atF_true {kinds joint} {s : P} (hs : Inv kinds joint s) (k : SyntaxKind) (hk : k ≠ .EOF)
    (h : atF k s.kinds s.joint s.pos = true) :
    s.pos + eatRawTokens k ≤ kinds.size ∧ 1 ≤ eatRawTokens k ∧
      (∀ j, j < eatRawTokens k - 1 → joint.getD (s.pos + j) false = true) ∧
      (∀ j, j < eatRawTokens k - 1 → kinds.getD (s.pos + j) .EOF ≠ .FLOAT_NUMBER) := by
  have lt := kindAt_ne_eof_lt s
  simp only [P.kindAt, hs.kinds_eq] at lt
  rw [hs.kinds_eq, hs.joint_eq] at h
  unfold atF at h
  cases hc : compositePieces k with
  | none =>
    rw [hc] at h; rw [tablesOK.2 k hc]
    have := lt s.pos (by rw [beq_iff_eq.mp h]; exact hk)
    exact ⟨by omega, by omega, fun j hj => by omega, fun j hj => by omega⟩
  | some ps =>
    obtain ⟨hlen, heat, hne⟩ := tablesOK.1 k ps hc
    rw [hc] at h; rw [heat]
    rcases ps with _ | ⟨k1, _ | ⟨k2, _ | ⟨k3, _ | ⟨k4, rest⟩⟩⟩⟩ <;> try (cases h; done)
    · simp only [Bool.and_eq_true, beq_iff_eq] at h
      obtain ⟨⟨h1, h2⟩, j0⟩ := h
      have := lt (s.pos + 1) (by rw [h2]; exact (hne k2 (by simp)).1)
      refine ⟨by simp; omega, by simp, fun j hj => ?_, fun j hj => ?_⟩ <;>
        obtain rfl : j = 0 := by simp at hj; omega
      · exact j0
      · rw [Nat.add_zero, h1]; exact (hne k1 (by simp)).2
    · simp only [Bool.and_eq_true, beq_iff_eq] at h
      obtain ⟨⟨⟨⟨h1, h2⟩, h3⟩, j0⟩, j1⟩ := h
      have := lt (s.pos + 2) (by rw [h3]; exact (hne k3 (by simp)).1)
      refine ⟨by simp; omega, by simp, fun j hj => ?_, fun j hj => ?_⟩ <;>
        obtain rfl | rfl : j = 0 ∨ j = 1 := by simp at hj; omega
      · exact j0
      · exact j1
      · rw [Nat.add_zero, h1]; exact (hne k1 (by simp)).2
      · rw [h2]; exact (hne k2 (by simp)).2

theorem eat_pres {kinds joint} (k : SyntaxKind) : Pres (Inv kinds joint) (eat k) := by
  refine ⟨fun s r hs h => ?_⟩
  obtain ⟨hk, rfl | ⟨ha, rfl⟩⟩ := eat_ok k s r h
  · exact hs
  · obtain ⟨f1, f2, f3, f4⟩ := atF_true hs k hk ha
    exact hs.bump k _ f1 f2 f3 f4

theorem bumpAny_pres {kinds joint} : Pres (Inv kinds joint) bumpAny := by
  refine ⟨fun s r hs h => ?_⟩
  obtain e | ⟨hk, e⟩ := bumpAny_ok s r h <;> rw [e]
  · exact hs
  · have := kindAt_ne_eof_lt s _ hk
    rw [hs.kinds_eq] at this
    exact hs.bump _ 1 (by omega) (by omega) (by intro j hj; omega) (by intro j hj; omega)

theorem toList_set! (a : Array Ev) (i : Nat) (x : Ev) :
    (a.setIfInBounds i x).toList = a.toList.set i x := by
  simp

theorem set_split (l : List Ev) (t : Nat) (x y : Ev) (h : l[t]? = some x) :
    l = l.take t ++ x :: l.drop (t + 1) ∧ l.set t y = l.take t ++ y :: l.drop (t + 1) := by
  refine ⟨split_at l t x h, ?_⟩
  rw [List.set_eq_take_append_cons_drop, if_pos (List.getElem?_eq_some_iff.mp h).1]

theorem getElem?_set_start (l : List Ev) (t i : Nat) (k k' : SyntaxKind) (fp fp' : Option Nat)
    (ht : l[t]? = some (.start k fp)) :
    (l.set t (.start k' fp'))[i]? =
      if i = t then some (Ev.start k' fp') else l[i]? := by
  have hl : t < l.length := (List.getElem?_eq_some_iff.mp ht).1
  split
  · rename_i h; subst h; exact List.getElem?_set_self hl
  · rename_i h; exact List.getElem?_set_ne (fun e => h e.symm)

theorem complete_pres {kinds joint} (m : Marker) (kind : SyntaxKind) :
    Pres (Inv kinds joint) (m.complete kind) := by
  refine ⟨fun s r hs h => ?_⟩
  obtain ⟨fp, hm, hkind', rfl⟩ := complete_ok m kind s r h
  have hm' : s.events.toList[m.pos]? = some (.start .TOMBSTONE fp) := by simpa using hm
  obtain ⟨hsplit, hset⟩ := set_split _ _ _ (Ev.start kind fp) hm'
  refine ⟨hs.kinds_eq, hs.joint_eq, ?_, ?_, ?_, hs.pos_le, ?_, ?_⟩
  · simp only [P.slotSet, Array.set!_eq_setIfInBounds, Array.toList_push, toList_set!, hset]
    have := hs.dyck; rw [hsplit] at this
    exact runW_complete _ _ kind fp fp hkind' this
  · simp only [P.slotSet, Array.set!_eq_setIfInBounds, Array.toList_push, toList_set!]
    apply FpOKp.append_nolink _ _ (by intro _ _ hc; cases hc)
    intro j k f hj
    rw [getElem?_set_start _ _ _ _ _ _ _ hm'] at hj
    have old : ∀ jj kk ff, s.events.toList[jj]? = some (Ev.start kk (some ff)) →
        ∃ k' fp', (s.events.toList.set m.pos (Ev.start kind fp))[jj + ff]? = some (Ev.start k' fp') ∧
          (k' = .TOMBSTONE → jj + ff ∈ s.protectedPos.filter (· != m.pos)) := by
      intro jj kk ff hjj
      obtain ⟨k', fp', h1, h2⟩ := hs.fp jj kk ff hjj
      rw [getElem?_set_start _ _ _ _ _ _ _ hm']
      by_cases hjt : jj + ff = m.pos
      · simp only [hjt, if_true]
        exact ⟨kind, fp, rfl, fun e => by simp [e] at hkind'⟩
      · simp only [hjt, if_false]
        refine ⟨k', fp', h1, fun e => ?_⟩
        simp only [List.mem_filter, bne_iff_ne, ne_eq]
        exact ⟨h2 e, hjt⟩
    by_cases hjm : j = m.pos
    · simp only [hjm, if_true, Option.some.injEq, Ev.start.injEq] at hj
      obtain ⟨rfl, rfl⟩ := hj
      subst hjm
      exact old _ _ _ hm'
    · simp only [hjm, if_false] at hj
      exact old _ _ _ hj
  · simp only [P.slotSet, Array.set!_eq_setIfInBounds, Array.toList_push, toList_set!, sumTok_append,
      sumTok_set_start _ _ _ _ _ _ hm', hs.tok]; simp [sumTok]
  · simp only [P.slotSet, Array.set!_eq_setIfInBounds, Array.toList_push, toList_set!, glueOK_append,
      glueOK_set_start _ _ _ _ _ _ _ _ hm', hs.glue]; simp [glueOK]
  · simp only [P.slotSet, Array.set!_eq_setIfInBounds, Array.toList_push, toList_set!, glueKE_append,
      glueKE_set_start _ _ _ _ _ _ _ _ hm', hs.gluek]; simp [glueKE]

theorem dropLast_eq (l : List Ev) (x : Ev) (h : l.getLast? = some x) : l = l.dropLast ++ [x] := by
  have hne : l ≠ [] := by intro e; subst e; simp at h
  have := List.dropLast_concat_getLast hne
  rw [List.getLast?_eq_some_getLast hne] at h
  simp only [Option.some.injEq] at h
  rw [h] at this; exact this.symm

theorem abandon_pres {kinds joint} (m : Marker) : Pres (Inv kinds joint) m.abandon := by
  refine ⟨fun s r hs h => ?_⟩
  obtain ⟨hnp, e | ⟨hlast, hback, e⟩⟩ := abandon_ok m s r h <;> rw [e]
  · exact hs.congr rfl rfl rfl rfl rfl
  have hback' : s.events.toList.getLast? = some (.start .TOMBSTONE none) := by
    simpa [Array.back?] using hback
  have hl := dropLast_eq _ _ hback'
  have hlen : s.events.toList.length = s.events.toList.dropLast.length + 1 := by
    conv => lhs; rw [hl]
    simp
  have hmpos : m.pos = s.events.toList.dropLast.length := by
    simp at hlen ⊢; omega
  refine ⟨hs.kinds_eq, hs.joint_eq, ?_, ?_, ?_, hs.pos_le, ?_, ?_⟩
  · have := hs.dyck; rw [hl, runW_append] at this
    simp only [Array.toList_pop]
    cases hd : runW 0 s.events.toList.dropLast with
    | none => simp [hd] at this
    | some d => simp [hd, runW] at this; rw [this]
  · simp only [Array.toList_pop]
    intro j k f hj
    have hjl : j < s.events.toList.dropLast.length := (List.getElem?_eq_some_iff.mp hj).1
    have hj' : s.events.toList[j]? = some (Ev.start k (some f)) := by
      rw [hl, List.getElem?_append_left hjl]; exact hj
    obtain ⟨k', fp', h1, h2⟩ := hs.fp j k f hj'
    by_cases hjf : j + f < s.events.toList.dropLast.length
    · rw [hl, List.getElem?_append_left hjf] at h1
      exact ⟨k', fp', h1, h2⟩
    · -- the link would point at the popped tombstone, which then is protected: but `m` is not
      exfalso
      have hlt : j + f < s.events.toList.length := (List.getElem?_eq_some_iff.mp h1).1
      have heq : j + f = s.events.toList.dropLast.length := by omega
      rw [hl, heq, List.getElem?_append_right (Nat.le_refl _)] at h1
      simp at h1
      obtain ⟨rfl, _⟩ := h1
      have := h2 rfl
      rw [heq, ← hmpos] at this
      exact hnp this
  · have := hs.tok; rw [hl, sumTok_append] at this
    simp only [Array.toList_pop]; simp [sumTok] at this; exact this
  · have := hs.glue; rw [hl, glueOK_append] at this
    simp only [Array.toList_pop]; simp [glueOK] at this; exact this
  · have := hs.gluek; rw [hl, glueKE_append] at this
    simp only [Array.toList_pop]; simp [glueKE] at this; exact this

theorem Inv.set_link {kinds joint} {s : P} (h : Inv kinds joint s) (c : Nat) (k : SyntaxKind)
    (fp0 : Option Nat) (f : Nat) (prot' : List Nat) (live' : Nat)
    (hc : s.events.toList[c]? = some (.start k fp0))
    (hsub : ∀ x ∈ s.protectedPos, x ∈ prot')
    (htarget : ∃ k' fp', (s.events.toList.set c (Ev.start k (some f)))[c + f]? = some (Ev.start k' fp') ∧
      (k' = .TOMBSTONE → c + f ∈ prot')) :
    Inv kinds joint { s with events := s.events.setIfInBounds c (.start k (some f)),
                             protectedPos := prot', live := live' } := by
  refine ⟨h.kinds_eq, h.joint_eq, ?_, ?_, ?_, h.pos_le, ?_, ?_⟩
  · simp only [toList_set!, runW_set_fp _ _ _ _ _ _ hc, h.dyck]
  · simp only [toList_set!]
    intro j k2 f2 hj
    rw [getElem?_set_start _ _ _ _ _ _ _ hc] at hj
    by_cases hjc : j = c
    · simp only [hjc, if_true, Option.some.injEq, Ev.start.injEq] at hj
      obtain ⟨rfl, hf⟩ := hj
      subst hf; subst hjc
      exact htarget
    · simp only [hjc, if_false] at hj
      obtain ⟨k', fp', h1, h2⟩ := h.fp j k2 f2 hj
      rw [getElem?_set_start _ _ _ _ _ _ _ hc]
      by_cases hjf : j + f2 = c
      · simp only [hjf, if_true]
        rw [hjf, hc] at h1
        simp only [Option.some.injEq, Ev.start.injEq] at h1
        obtain ⟨rfl, _⟩ := h1
        exact ⟨k, some f, rfl, fun e => hsub _ (hjf ▸ h2 e)⟩
      · simp only [hjf, if_false]
        exact ⟨k', fp', h1, fun e => hsub _ (h2 e)⟩
  · simp only [toList_set!, sumTok_set_start _ _ _ _ _ _ hc, h.tok]
  · simp only [toList_set!, glueOK_set_start _ _ _ _ _ _ _ _ hc, h.glue]
  · simp only [toList_set!, glueKE_set_start _ _ _ _ _ _ _ _ hc, h.gluek]

theorem precede_pres {kinds joint} (cm : CompletedMarker) : Pres (Inv kinds joint) cm.precede := by
  refine ⟨fun s r hs h => ?_⟩
  have hs1 : Inv kinds joint s.started :=
    (hs.push_inert Ev.tombstone rfl (s.sinceBump + 1)).congr rfl rfl rfl rfl rfl
  obtain ⟨k, fp0, hm, hle, rfl⟩ := precede_ok cm s r h
  have hm' : s.started.events.toList[cm.pos]? = some (.start k fp0) := by simpa using hm
  have hadd : cm.pos + (s.events.size - cm.pos) = s.events.size := by omega
  refine hs1.set_link cm.pos k fp0 (s.events.size - cm.pos) (s.events.size :: s.protectedPos) _ hm'
    (fun x hx => List.mem_cons_of_mem _ hx) ?_
  rw [hadd, getElem?_set_start _ _ _ _ _ _ _ hm']
  by_cases hc : s.events.size = cm.pos
  · rw [if_pos hc]
    exact ⟨k, _, rfl, fun _ => by simp⟩
  · rw [if_neg hc]
    exact ⟨.TOMBSTONE, none, by simp [P.started, Ev.tombstone], fun _ => by simp⟩

theorem extendTo_pres {kinds joint} (cm : CompletedMarker) (m : Marker) :
    Pres (Inv kinds joint) (cm.extendTo m) := by
  refine ⟨fun s r hs h => ?_⟩
  obtain ⟨k, fp0, k', fp', hm, hle, hc, hk', rfl⟩ := extendTo_ok cm m s r h
  have hm' : s.events.toList[m.pos]? = some (.start k fp0) := by simpa using hm
  have hc' : s.events.toList[cm.pos]? = some (.start k' fp') := by simpa using hc
  have hadd : m.pos + (cm.pos - m.pos) = cm.pos := by omega
  refine hs.set_link m.pos k fp0 (cm.pos - m.pos) s.protectedPos (s.live - 1) hm' (fun _ hx => hx) ?_
  rw [hadd, getElem?_set_start _ _ _ _ _ _ _ hm']
  by_cases he : cm.pos = m.pos
  · simp only [he, if_true]
    rw [he, hm'] at hc'
    simp only [Option.some.injEq, Ev.start.injEq] at hc'
    obtain ⟨rfl, _⟩ := hc'
    exact ⟨k, _, rfl, fun e => absurd e hk'⟩
  · simp only [he, if_false]
    exact ⟨k', fp', hc', fun e => absurd e hk'⟩

theorem invClosed {kinds joint} : GClosed (Pres (Inv kinds joint)) :=
  Pres.closed (nth_pres 1) start_pres error_pres eat_pres bumpAny_pres complete_pres abandon_pres
    precede_pres extendTo_pres

end Oq3.Parser
