/-
C11 (gates) — lemmas about the concrete string entry point (`Lemmas/C11StagesDefs.lean`):
what `parseChecked` hands to the include layer, the gate of `analyzeTextInc` for any file system,
and the include scan on a machine without files (`noFS`).
-/
import Oq3.Lemmas.C11StagesParse
import Oq3.Lemmas.C11StagesSema
import Oq3.Props.C18Entry

namespace Oq3.Stages
open Oq3.Gen Oq3.Lexer Oq3.Lexed Oq3.Builder Oq3.Acc Oq3.Includes
open Oq3.Lemmas.Lexed

/-- a `Parsed` as `parse_check_lex` can produce it: the diagnostic count of a source without a
clean tree is not zero -/
def Counted : Parsed → Prop
  | .lexErrors n => n ≠ 0
  | .syntaxErrors n _ => n ≠ 0
  | .clean _ => True

theorem parseChecked_lex_error (uc : UC) (fuel npl : Nat) (s : List Char)
    (h : (lexedOf uc s).error ≠ []) :
    parseChecked uc fuel npl s = .ok (.lexErrors (lexedOf uc s).error.length) := by
  unfold parseChecked
  rw [checkLexParse_lex_error uc fuel npl s h]
  simp only [parsedOfChecked, lexErrorsOf_length]

theorem parseChecked_clean (uc : UC) (fuel npl : Nat) (s : List Char)
    (h : (lexedOf uc s).error = []) :
    parseChecked uc fuel npl s =
      match parserDiagnostics uc fuel npl s with
      | .error f => .error f
      | .ok (t, d) => parsedOfChecked (some t, d) := by
  unfold parseChecked
  rw [checkLexParse_clean uc fuel npl s h]
  cases parserDiagnostics uc fuel npl s with
  | error f => rfl
  | ok r => obtain ⟨t, d⟩ := r; rfl

theorem parsedOfChecked_tree_counted (t : Tree) (d : List SyntaxError) (p : Parsed)
    (h : parsedOfChecked (some t, d) = .ok p) :
    (d ≠ [] → ∃ incs, includesOfTree (cnodeOf t) = .ok incs ∧ p = .syntaxErrors d.length incs ∧ d.length ≠ 0) ∧
    (d = [] → ∃ ast, Build.program (cnodeOf t) = .ok ast ∧ p = .clean ast) := by
  unfold parsedOfChecked at h
  cases d with
  | nil =>
    refine ⟨fun h' => absurd rfl h', fun _ => ?_⟩
    simp only [List.length_nil, bne_self_eq_false, Bool.false_eq_true, if_false] at h
    cases hb : Build.program (cnodeOf t) with
    | error e => rw [hb] at h; cases h
    | ok ast => rw [hb] at h; simp only [Except.ok.injEq] at h; exact ⟨ast, rfl, h.symm⟩
  | cons x xs =>
    refine ⟨fun _ => ?_, fun h' => by cases h'⟩
    have : ((x :: xs).length != 0) = true := by simp
    simp only [this, if_true] at h
    cases hb : includesOfTree (cnodeOf t) with
    | error e => rw [hb] at h; cases h
    | ok incs =>
      rw [hb] at h; simp only [Except.ok.injEq] at h
      exact ⟨incs, rfl, h.symm, by simp⟩

theorem parseChecked_counted (uc : UC) (fuel npl : Nat) (s : List Char) (p : Parsed)
    (h : parseChecked uc fuel npl s = .ok p) : Counted p := by
  by_cases he : (lexedOf uc s).error = []
  · rw [parseChecked_clean uc fuel npl s he] at h
    cases hd : parserDiagnostics uc fuel npl s with
    | error f => rw [hd] at h; cases h
    | ok r =>
      obtain ⟨t, d⟩ := r
      rw [hd] at h
      simp only at h
      obtain ⟨h1, h2⟩ := parsedOfChecked_tree_counted t d p h
      by_cases hdn : d = []
      · obtain ⟨ast, -, rfl⟩ := h2 hdn; trivial
      · obtain ⟨incs, -, rfl, hn⟩ := h1 hdn; exact hn
  · rw [parseChecked_lex_error uc fuel npl s he] at h
    simp only [Except.ok.injEq] at h
    subst h
    show (lexedOf uc s).error.length ≠ 0
    intro h0
    exact he (List.eq_nil_of_length_eq_zero h0)

theorem haveSyntaxErrors_main (p : Parsed) (hp : Counted p) (incs : List PSrc) :
    haveSyntaxErrors (.mk "" (some p) none incs) =
      ((match p with | .clean _ => false | _ => true) || anyHaveSyntaxErrors incs) := by
  unfold haveSyntaxErrors
  cases p with
  | lexErrors n => have : n ≠ 0 := hp; simp [this]
  | syntaxErrors n i => have : n ≠ 0 := hp; simp [this]
  | clean ast => simp

theorem analyzeSource_none_iff (afuel : Nat) (p : Parsed) (hp : Counted p) (incs : List PSrc) :
    analyzeSource afuel p incs = .ok none ↔ haveSyntaxErrors (.mk "" (some p) none incs) = true := by
  constructor
  · intro h
    by_cases hg : haveSyntaxErrors (.mk "" (some p) none incs) = true
    · exact hg
    · exfalso
      have hg' : haveSyntaxErrors (.mk "" (some p) none incs) = false := by simpa using hg
      rw [haveSyntaxErrors_main p hp] at hg'
      cases p with
      | lexErrors n => simp at hg'
      | syntaxErrors n i => simp at hg'
      | clean ast =>
        unfold analyzeSource at h
        rw [haveSyntaxErrors_main _ hp, hg'] at h
        simp only [Bool.false_eq_true, if_false] at h
        split at h <;> cases h
  · exact Oq3.Props.C18.analysis_skipped_iff afuel p incs

theorem analyzeSource_run (afuel : Nat) (p : Parsed) (hp : Counted p) (incs : List PSrc)
    (hg : haveSyntaxErrors (.mk "" (some p) none incs) = false) :
    ∃ ast, p = .clean ast ∧ analyzeSource afuel p incs =
      match (syntaxToSemanticInc afuel ast.statements incs).run {} with
      | .ok (trees, c) => .ok (some (c, trees))
      | .error e => .error e := by
  have hg' := hg
  rw [haveSyntaxErrors_main p hp] at hg'
  cases p with
  | lexErrors n => simp at hg'
  | syntaxErrors n i => simp at hg'
  | clean ast =>
    refine ⟨ast, rfl, ?_⟩
    unfold analyzeSource
    rw [hg]
    simp only [Bool.false_eq_true, if_false]
    rfl

theorem resolve_noFS (file : String) : resolveFilePath noFS file none none = file := by
  unfold resolveFilePath; split <;> rfl

/-- one unit of fuel per include statement is enough; no source returned has a syntax diagnostic,
since each records "file not found" -/
theorem parseIncludedFiles_noFS (parse : String → Parsed) : ∀ (fuel : Nat) (incs : List (Option (Option String))),
    incs.length < fuel → ∃ res, parseIncludedFiles noFS parse none none fuel incs = .ok res ∧
      anyHaveSyntaxErrors res = false ∧ res.length = Oq3.Props.C18.nonStd incs := by
  intro fuel
  induction fuel with
  | zero => intro incs h; omega
  | succ k ih =>
    intro incs h
    cases incs with
    | nil => exact ⟨[], by simp [parseIncludedFiles], rfl, rfl⟩
    | cons x rest =>
      have hk : rest.length < k := by simp at h; omega
      obtain ⟨res, hr, hs, hl⟩ := ih rest hk
      cases x with
      | none => exact ⟨res, by simp only [parseIncludedFiles]; exact hr, hs, by simpa [Oq3.Props.C18.nonStd] using hl⟩
      | some y =>
        cases y with
        | none => exact ⟨res, by simp only [parseIncludedFiles]; exact hr, hs, by simpa [Oq3.Props.C18.nonStd] using hl⟩
        | some fp =>
          by_cases hstd : (fp == "stdgates.inc") = true
          · refine ⟨res, by simp only [parseIncludedFiles, hstd, if_true]; exact hr, hs, ?_⟩
            have : fp = "stdgates.inc" := by simpa using hstd
            subst this
            simpa [Oq3.Props.C18.nonStd] using hl
          · have hstd' : (fp == "stdgates.inc") = false := by simpa using hstd
            refine ⟨.mk (resolveFilePath noFS fp none none) none (some .notFound) [] :: res, ?_, ?_, ?_⟩
            · have hr' := hr
              unfold noFS at hr'
              simp only [parseIncludedFiles, hstd', Bool.false_eq_true, if_false, noFS, hr']
            · simp [anyHaveSyntaxErrors, haveSyntaxErrors, hs]
            · have hne : (fp != "stdgates.inc") = true := by simp [bne, hstd']
              simp only [Oq3.Props.C18.nonStd, List.filter_cons, hne, if_true, List.length_cons] at hl ⊢
              omega

end Oq3.Stages
