/-
The parser reads a joint bit only to glue a composite operator.

`Parser::at` (the only reader of `Input::is_joint`) looks at the joint bit of position `p` only after
it has compared the kinds at `p`, `p+1` (and `p+2`) with the pieces of a composite token.  So a
run is reproduced verbatim on an input whose joint bits differ only at positions whose two
neighbouring kinds are not adjacent pieces of any composite (`gluePair`): `JI`.

Primitive lemmas here; `jiClosed` collects them for the walk of the grammar
(`Lemmas/GrammarClosed.lean`), `Lemmas/GrammarJI.lean` states the result.
-/
import Oq3.Lemmas.Locality
set_option linter.unusedVariables false
set_option linter.unusedSimpArgs false

namespace Oq3.Parser
open Oq3.Gen

def adjPairs : List SyntaxKind → List (SyntaxKind × SyntaxKind)
  | a :: b :: l => (a, b) :: adjPairs (b :: l)
  | _ => []

/-- `a b` are adjacent pieces of some composite token: `at` may read the joint bit between them -/
def gluePair (a b : SyntaxKind) : Bool :=
  Ops.compositeTable.any fun p => (adjPairs p.2).contains (a, b)

/-- the joint arrays agree wherever a composite could be glued -/
def JAgree (K : Array SyntaxKind) (J J' : Array Bool) : Prop :=
  ∀ i, gluePair (K.getD i .EOF) (K.getD (i + 1) .EOF) = true → J.getD i false = J'.getD i false

theorem JAgree.symm {K J J'} (h : JAgree K J J') : JAgree K J' J := fun i hi => (h i hi).symm
theorem JAgree.refl (K J) : JAgree K J J := fun _ _ => rfl

theorem compositePieces_mem {k : SyntaxKind} {ps : List SyntaxKind} (h : compositePieces k = some ps) :
    (k, ps) ∈ Ops.compositeTable := by
  simp only [compositePieces, Option.map_eq_some_iff] at h
  obtain ⟨p, hp, hps⟩ := h
  have hm := List.mem_of_find?_eq_some hp
  have hk := List.find?_some hp
  have : p.1 = k := by simpa using hk
  obtain ⟨a, b⟩ := p
  simp only at this hps
  subst this; subst hps
  exact hm

theorem gluePair_of_pieces {k : SyntaxKind} {ps : List SyntaxKind} (h : compositePieces k = some ps)
    {a b : SyntaxKind} (hab : (a, b) ∈ adjPairs ps) : gluePair a b = true := by
  simp only [gluePair, List.any_eq_true]
  exact ⟨(k, ps), compositePieces_mem h, by simpa using hab⟩

theorem atF_jagree (k : SyntaxKind) (K : Array SyntaxKind) (J J' : Array Bool) (p : Nat)
    (h : JAgree K J J') : atF k K J p = atF k K J' p := by
  unfold atF
  cases hc : compositePieces k with
  | none => rfl
  | some ps =>
    rcases ps with _ | ⟨k1, _ | ⟨k2, _ | ⟨k3, _ | ⟨k4, rest⟩⟩⟩⟩
    · rfl
    · rfl
    · simp only
      by_cases hk : (K.getD p .EOF == k1 && K.getD (p + 1) .EOF == k2) = true
      · have hk' := hk
        simp only [Bool.and_eq_true, beq_iff_eq] at hk'
        have hg : gluePair (K.getD p .EOF) (K.getD (p + 1) .EOF) = true := by
          rw [hk'.1, hk'.2]; exact gluePair_of_pieces hc (by simp [adjPairs])
        rw [h p hg]
      · have : (K.getD p .EOF == k1 && K.getD (p + 1) .EOF == k2) = false := by simpa using hk
        simp only [this, Bool.false_and]
    · simp only
      by_cases hk : (K.getD p .EOF == k1 && K.getD (p + 1) .EOF == k2 && K.getD (p + 2) .EOF == k3) = true
      · have hk' := hk
        simp only [Bool.and_eq_true, beq_iff_eq] at hk'
        have hg1 : gluePair (K.getD p .EOF) (K.getD (p + 1) .EOF) = true := by
          rw [hk'.1.1, hk'.1.2]; exact gluePair_of_pieces hc (by simp [adjPairs])
        have hg2 : gluePair (K.getD (p + 1) .EOF) (K.getD (p + 1 + 1) .EOF) = true := by
          rw [hk'.1.2, show p + 1 + 1 = p + 2 by omega, hk'.2]
          exact gluePair_of_pieces hc (by simp [adjPairs])
        rw [h p hg1, h (p + 1) hg2]
      · have : (K.getD p .EOF == k1 && K.getD (p + 1) .EOF == k2 && K.getD (p + 2) .EOF == k3) = false := by
          simpa using hk
        simp only [this, Bool.false_and]
    · rfl

/-- `s'` is `s` with other joint bits outside the glue positions -/
def JEq (s s' : P) : Prop := ∃ J', s' = { s with joint := J' } ∧ JAgree s.kinds s.joint J'

theorem JEq.symm {s s' : P} (h : JEq s s') : JEq s' s := by
  obtain ⟨J', rfl, hA⟩ := h
  exact ⟨s.joint, rfl, hA.symm⟩

/-- **joint-insensitivity**: a successful run is reproduced verbatim (same value, same state up to
the joint array) on every input with other joint bits outside the glue positions -/
structure JI {α} (x : G α) : Prop where
  run : ∀ s s' r, JEq s s' → x s = .ok r → ∃ t', x s' = .ok (r.1, t') ∧ JEq r.2 t'

theorem JI.bind {α β} {x : G α} {f : α → G β} (hx : JI x) (hf : ∀ a, JI (f a)) : JI (x >>= f) := by
  refine ⟨fun s s' r hA h => ?_⟩
  obtain ⟨a, s1, h1, h2⟩ := (G.bind_ok x f s r).mp h
  obtain ⟨t1, ht1, hA1⟩ := hx.run s s' (a, s1) hA h1
  obtain ⟨t2, ht2, hA2⟩ := (hf a).run s1 t1 r hA1 h2
  exact ⟨t2, (G.bind_ok x f s' _).mpr ⟨a, t1, ht1, ht2⟩, hA2⟩

theorem JI.pure {α} (a : α) : JI (pure a : G α) := by
  refine ⟨fun s s' r hA h => ?_⟩
  simp at h; subst h
  exact ⟨s', by simp, hA⟩

theorem JI.fail {α} (o : Outcome) : JI (fail o : G α) := ⟨fun _ _ _ _ h => by simp at h⟩

theorem JI.of_closed {α} {x : G α} (F : P → Except Outcome (α × P))
    (hx : ∀ s, x s = F s)
    (hF : ∀ s J' r, F s = .ok r →
      F { s with joint := J' } = .ok (r.1, { r.2 with joint := J' }) ∧ r.2.kinds = s.kinds ∧ r.2.joint = s.joint) :
    JI x := by
  refine ⟨fun s s' r hA h => ?_⟩
  obtain ⟨J', rfl, hJ⟩ := hA
  rw [hx] at h ⊢
  obtain ⟨h1, h2, h3⟩ := hF s J' r h
  exact ⟨_, h1, J', rfl, by rw [h2, h3]; exact hJ⟩

theorem JI.of_obliv {α} {x : G α} (ho : Obliv x) (hk : KeepIn x) : JI x :=
  JI.of_closed x (fun _ => rfl) fun s J' r h => by
    obtain ⟨k1, k2⟩ := hk s r h
    refine ⟨(ho s s.kinds J').trans ?_, k1, k2⟩
    rw [h, ← k1]; rfl

theorem JI.of_oblivJ {α} {x : G α}
    (ho : ∀ s J, x { s with joint := J } = mapSt (fun t => { t with joint := J }) (x s))
    (hk : KeepIn x) : JI x :=
  JI.of_closed x (fun _ => rfl) fun s J' r h => by
    obtain ⟨k1, k2⟩ := hk s r h
    exact ⟨(ho s J').trans (by rw [h]; rfl), k1, k2⟩

theorem current_ji : JI current :=
  JI.of_oblivJ (fun _ _ => rfl) current_lm.keep

theorem at_ji (k : SyntaxKind) : JI (at' k) := by
  refine ⟨fun s s' r hA h => ?_⟩
  obtain ⟨J', rfl, hJ⟩ := hA
  rw [at_total] at h ⊢
  injection h with h; subst h
  refine ⟨_, ?_, J', rfl, hJ⟩
  show Except.ok (atF k s.kinds J' s.pos, _) = _
  rw [← atF_jagree k s.kinds s.joint J' s.pos hJ]

theorem atTs_ji (ts : TokenSet) : JI (atTs ts) :=
  JI.of_oblivJ (fun s J => by rw [atTs_eq, atTs_eq]; rfl) (atTs_lm ts).keep

theorem nth_ji (n : Nat) : JI (nth n) :=
  JI.of_oblivJ (fun s J => by rw [nth_eq, nth_eq]; fin)
    fun s r h => by rw [nth_ok n s r h]; exact ⟨rfl, rfl⟩

theorem start_ji : JI start := JI.of_obliv start_obliv start_lm.keep

theorem error_ji (msg : String) : JI (error msg) := JI.of_obliv (pushEvent_obliv _) (error_lm msg).keep

theorem eat_ji (k : SyntaxKind) : JI (eat k) := by
  refine ⟨fun s s' r hA h => ?_⟩
  obtain ⟨J', rfl, hJ⟩ := hA
  by_cases hk : (k == .EOF) = true
  · unfold eat at h; simp only [hk, if_true] at h; cases h
  · have hk' : (k == .EOF) = false := by simpa using hk
    rw [eat_eq k hk'] at h ⊢
    have e : atF k ({ s with joint := J' } : P).kinds ({ s with joint := J' } : P).joint
        ({ s with joint := J' } : P).pos = atF k s.kinds s.joint s.pos :=
      (atF_jagree k s.kinds s.joint J' s.pos hJ).symm
    rw [e]
    split at h
    · rename_i ha
      injection h with h; subst h
      simp only [ha, if_true]
      exact ⟨_, rfl, J', rfl, hJ⟩
    · rename_i ha
      injection h with h; subst h
      simp only [ha, if_false]
      exact ⟨_, rfl, J', rfl, hJ⟩

theorem bumpAny_ji : JI bumpAny :=
  JI.of_oblivJ (fun s J => by rw [bumpAny_eq, bumpAny_eq]; fin) bumpAny_lm.keep

theorem complete_ji (m : Marker) (kind : SyntaxKind) : JI (m.complete kind) :=
  JI.of_obliv (complete_obliv m kind) (complete_lm m kind).keep

theorem abandon_ji (m : Marker) : JI m.abandon := JI.of_obliv (abandon_obliv m) (abandon_lm m).keep

theorem precede_ji (cm : CompletedMarker) : JI cm.precede :=
  JI.of_obliv (precede_obliv cm) (precede_lm cm).keep

theorem extendTo_ji (cm : CompletedMarker) (m : Marker) : JI (cm.extendTo m) :=
  JI.of_obliv (extendTo_obliv cm m) (extendTo_lm cm m).keep

theorem jiClosed : GClosed JI :=
  { pure := JI.pure, bind := JI.bind, fail := JI.fail, current := current_ji, at' := at_ji,
    atTs := atTs_ji, nth1 := nth_ji 1, start := start_ji, error := error_ji, eat := eat_ji,
    bumpAny := bumpAny_ji, complete := complete_ji, abandon := abandon_ji, precede := precede_ji,
    extendTo := extendTo_ji }

end Oq3.Parser
