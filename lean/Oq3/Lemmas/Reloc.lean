/-
Relocation of parser runs (for C16): the events a grammar function produces do not depend on
where it runs.

A run from a state `s0` — input `K0`, position `q`, events `X` — is reproduced from every state
`lift c s0` whose input has `K0` as the suffix from position `c.p` on, whose position is `c.p + q`
and whose events are `c.E0 ++ X`: it produces the same new events (forward-parent links are
relative offsets, so the event list itself is position independent) and returns the same value up to
the shift of marker positions by `|c.E0|` (`Sh`).  `protectedPos` (a ghost list of absolute event
indices) is shifted likewise.

Primitive lemmas here; the grammar functions are lifted by the generated `Lemmas/GrammarReloc.lean`
(tools/gen_grammar_reloc.py).
-/
import Oq3.Lemmas.SafeTok
set_option linter.unusedVariables false
set_option linter.unusedSimpArgs false

namespace Oq3.Parser
open Oq3.Gen

class Sh (α : Type) where
  sh : Nat → α → α

instance : Sh Unit := ⟨fun _ a => a⟩
instance : Sh Bool := ⟨fun _ a => a⟩
instance : Sh Nat := ⟨fun _ a => a⟩
instance : Sh SyntaxKind := ⟨fun _ a => a⟩
instance : Sh Marker := ⟨fun n m => { m with pos := m.pos + n }⟩
instance : Sh CompletedMarker := ⟨fun n c => { c with pos := c.pos + n }⟩
instance {α} [Sh α] : Sh (Option α) := ⟨fun n o => o.map (Sh.sh n)⟩
instance {α β} [Sh α] [Sh β] : Sh (α × β) := ⟨fun n p => (Sh.sh n p.1, Sh.sh n p.2)⟩
instance : Sh (Except Marker Unit) :=
  ⟨fun n e => match e with | .ok u => .ok u | .error m => .error (Sh.sh n m)⟩

instance : Sh Oq3.Grammar.BlockLike := ⟨fun _ a => a⟩
instance : Sh Oq3.Gen.Ops.Assoc := ⟨fun _ a => a⟩
@[simp] theorem sh_blockLike (n : Nat) (a : Oq3.Grammar.BlockLike) : Sh.sh n a = a := rfl
@[simp] theorem sh_assoc (n : Nat) (a : Oq3.Gen.Ops.Assoc) : Sh.sh n a = a := rfl
@[simp] theorem sh_unit (n : Nat) (a : Unit) : Sh.sh n a = a := rfl
@[simp] theorem sh_bool (n : Nat) (a : Bool) : Sh.sh n a = a := rfl
@[simp] theorem sh_nat (n : Nat) (a : Nat) : Sh.sh n a = a := rfl
@[simp] theorem sh_kind (n : Nat) (a : SyntaxKind) : Sh.sh n a = a := rfl
@[simp] theorem sh_none {α} [Sh α] (n : Nat) : Sh.sh n (none : Option α) = none := rfl
@[simp] theorem sh_some {α} [Sh α] (n : Nat) (a : α) : Sh.sh n (some a) = some (Sh.sh n a) := rfl
@[simp] theorem sh_pair {α β} [Sh α] [Sh β] (n : Nat) (a : α) (b : β) :
    Sh.sh n (a, b) = (Sh.sh n a, Sh.sh n b) := rfl
@[simp] theorem sh_ok (n : Nat) (u : Unit) : Sh.sh n (Except.ok u : Except Marker Unit) = .ok u := rfl
@[simp] theorem sh_error (n : Nat) (m : Marker) :
    Sh.sh n (Except.error m : Except Marker Unit) = .error (Sh.sh n m) := rfl
@[simp] theorem sh_cm_kind (n : Nat) (c : CompletedMarker) : (Sh.sh n c).kind = c.kind := rfl
@[simp] theorem sh_cm_pos (n : Nat) (c : CompletedMarker) : (Sh.sh n c).pos = c.pos + n := rfl
@[simp] theorem sh_m_pos (n : Nat) (m : Marker) : (Sh.sh n m).pos = m.pos + n := rfl
@[simp] theorem sh_m_isFp (n : Nat) (m : Marker) : (Sh.sh n m).isFp = m.isFp := rfl
@[simp] theorem sh_isSome {α} [Sh α] (n : Nat) (o : Option α) : (Sh.sh n o).isSome = o.isSome := by
  cases o <;> rfl
@[simp] theorem sh_isNone {α} [Sh α] (n : Nat) (o : Option α) : (Sh.sh n o).isNone = o.isNone := by
  cases o <;> rfl

structure Ctx where
  K : Array SyntaxKind
  J : Array Bool
  p : Nat
  E0 : Array Ev
  P0 : List Nat

def lift (c : Ctx) (s0 : P) : P :=
  { s0 with kinds := c.K, joint := c.J, pos := c.p + s0.pos, events := c.E0 ++ s0.events,
            protectedPos := s0.protectedPos.map (· + c.E0.size) ++ c.P0 }

structure Fits (c : Ctx) (s0 : P) : Prop where
  kinds : ∀ i, c.K.getD (c.p + i) .EOF = s0.kinds.getD i .EOF
  joint : ∀ i, c.J.getD (c.p + i) false = s0.joint.getD i false
  prot : ∀ q ∈ c.P0, q < c.E0.size

theorem Fits.congr {c : Ctx} {s0 s1 : P} (h : Fits c s0) (hk : s1.kinds = s0.kinds) (hj : s1.joint = s0.joint) :
    Fits c s1 := ⟨by rw [hk]; exact h.kinds, by rw [hj]; exact h.joint, h.prot⟩

/-- `x` (the same computation as `x0` with its marker arguments shifted by `n`) reproduces every
successful run of `x0` in every context with `n` events -/
structure RL {α} [Sh α] (n : Nat) (x0 x : G α) : Prop where
  run : ∀ c s0 r0, c.E0.size = n → Fits c s0 → x0 s0 = .ok r0 →
    x (lift c s0) = .ok (Sh.sh n r0.1, lift c r0.2) ∧ Fits c r0.2

section
variable {α β : Type} [Sh α] [Sh β] {n : Nat}

theorem RL.bind {x0 x : G α} {f0 f : α → G β} (hx : RL n x0 x)
    (hf : ∀ a0, RL n (f0 a0) (f (Sh.sh n a0))) : RL n (x0 >>= f0) (x >>= f) := by
  refine ⟨fun c s0 r0 hn hF h => ?_⟩
  obtain ⟨a, s1, h1, h2⟩ := (G.bind_ok x0 f0 s0 r0).mp h
  obtain ⟨e1, hF1⟩ := hx.run c s0 (a, s1) hn hF h1
  obtain ⟨e2, hF2⟩ := (hf a).run c s1 r0 hn hF1 h2
  exact ⟨(G.bind_ok x f _ _).mpr ⟨_, _, e1, e2⟩, hF2⟩

theorem RL.bind_id {x0 x : G α} {f0 f : α → G β} (hx : RL n x0 x) (hid : ∀ a : α, Sh.sh n a = a)
    (hf : ∀ a, RL n (f0 a) (f a)) : RL n (x0 >>= f0) (x >>= f) :=
  RL.bind hx fun a => by rw [hid]; exact hf a

theorem RL.pure {a0 a : α} (h : a = Sh.sh n a0) : RL n (pure a0 : G α) (pure a) := by
  refine ⟨fun c s0 r0 hn hF hr => ?_⟩
  simp at hr; subst hr; subst h
  exact ⟨by simp, hF⟩

theorem RL.fail (o : Outcome) (x : G α) : RL n (fail o : G α) x := ⟨fun _ _ _ _ _ h => by simp at h⟩
theorem RL.panic (site : String) (x : G α) : RL n (panic site : G α) x := ⟨fun _ _ _ _ _ h => by simp at h⟩

theorem RL.ite (c : Prop) [Decidable c] {x0 y0 x y : G α} (hx : RL n x0 x) (hy : RL n y0 y) :
    RL n (if c then x0 else y0) (if c then x else y) := by
  split <;> assumption

theorem rl_andM {x0 y0 x y : G Bool} (hx : RL n x0 x) (hy : RL n y0 y) : RL n (x0 <&&> y0) (x <&&> y) := by
  unfold _root_.andM
  refine RL.bind hx ?_
  intro b; cases b
  · exact RL.pure rfl
  · exact hy

theorem rl_orM {x0 y0 x y : G Bool} (hx : RL n x0 x) (hy : RL n y0 y) : RL n (x0 <||> y0) (x <||> y) := by
  unfold _root_.orM
  refine RL.bind hx ?_
  intro b; cases b
  · exact hy
  · exact RL.pure rfl

theorem rl_map {f0 f : α → β} {x0 x : G α} (hx : RL n x0 x) (hf : ∀ a0, f (Sh.sh n a0) = Sh.sh n (f0 a0)) :
    RL n (f0 <$> x0) (f <$> x) := by
  refine ⟨fun c s0 r0 hn hF h => ?_⟩
  rw [G.map_ok] at h
  obtain ⟨a, s1, h1, h2⟩ := h
  subst h2
  obtain ⟨e1, hF1⟩ := hx.run c s0 (a, s1) hn hF h1
  exact ⟨(G.map_ok f x _ _).mpr ⟨_, _, e1, by rw [hf]⟩, hF1⟩

theorem rl_notM {x0 x : G Bool} (hx : RL n x0 x) : RL n (notM x0) (notM x) := by
  unfold _root_.notM
  exact rl_map hx (fun _ => rfl)

end

theorem lift_kindAt (c : Ctx) (s0 : P) (hF : Fits c s0) (i : Nat) :
    (lift c s0).kindAt ((lift c s0).pos + i) = s0.kindAt (s0.pos + i) := by
  show c.K.getD (c.p + s0.pos + i) .EOF = s0.kinds.getD (s0.pos + i) .EOF
  rw [Nat.add_assoc]; exact hF.kinds _

theorem lift_atF (k : SyntaxKind) (c : Ctx) (s0 : P) (hF : Fits c s0) :
    atF k (lift c s0).kinds (lift c s0).joint (lift c s0).pos = atF k s0.kinds s0.joint s0.pos := by
  have hk : ∀ i, c.K.getD (c.p + s0.pos + i) .EOF = s0.kinds.getD (s0.pos + i) .EOF := by
    intro i; rw [Nat.add_assoc]; exact hF.kinds _
  have hj : ∀ i, c.J.getD (c.p + s0.pos + i) false = s0.joint.getD (s0.pos + i) false := by
    intro i; rw [Nat.add_assoc]; exact hF.joint _
  have hk0 := hk 0
  have hj0 := hj 0
  simp only [Nat.add_zero] at hk0 hj0
  have e1 : (lift c s0).kinds = c.K := rfl
  have e2 : (lift c s0).joint = c.J := rfl
  have e3 : (lift c s0).pos = c.p + s0.pos := rfl
  rw [e1, e2, e3]
  unfold atF
  cases hc : compositePieces k with
  | none => simp only [hk0]
  | some ps =>
    rcases ps with _ | ⟨k1, _ | ⟨k2, _ | ⟨k3, _ | ⟨k4, rest⟩⟩⟩⟩
    · rfl
    · rfl
    · simp only [hk0, hj0, hk 1]
    · simp only [hk0, hj0, hk 1, hk 2, hj 1]
    · rfl

theorem current_rl {n : Nat} : RL n current current := by
  refine ⟨fun c s0 r0 hn hF h => ?_⟩
  rw [current_eq] at h ⊢
  injection h with h; subst h
  have := lift_kindAt c s0 hF 0
  simp only [Nat.add_zero] at this
  exact ⟨by rw [this]; rfl, hF⟩

theorem at_rl {n : Nat} (k : SyntaxKind) : RL n (at' k) (at' k) := by
  refine ⟨fun c s0 r0 hn hF h => ?_⟩
  rw [at_total] at h ⊢
  injection h with h; subst h
  exact ⟨by rw [lift_atF k c s0 hF]; rfl, hF⟩

theorem atTs_rl {n : Nat} (ts : TokenSet) : RL n (atTs ts) (atTs ts) := by
  refine ⟨fun c s0 r0 hn hF h => ?_⟩
  rw [atTs_eq] at h ⊢
  injection h with h; subst h
  have := lift_kindAt c s0 hF 0
  simp only [Nat.add_zero] at this
  exact ⟨by rw [this]; rfl, hF⟩

theorem nth_rl {n : Nat} (k : Nat) : RL n (nth k) (nth k) := by
  refine ⟨fun c s0 r0 hn hF h => ?_⟩
  rw [nth_eq] at h ⊢
  split at h
  · cases h
  · rename_i h1
    split at h
    · cases h
    · rename_i h2
      injection h with h; subst h
      have e2 : ¬ (lift c s0).steps > (lift c s0).stepLimit := h2
      simp only [h1, e2, if_false]
      rw [lift_kindAt c s0 hF k]
      exact ⟨rfl, hF.congr rfl rfl⟩

theorem lift_hookTrip (c : Ctx) (s0 : P) : (lift c s0).hookTrip = s0.hookTrip := rfl

theorem append_push (a b : Array Ev) (e : Ev) : (a ++ b).push e = a ++ b.push e := by
  apply Array.ext'
  simp

theorem start_rl {n : Nat} : RL n start start := by
  refine ⟨fun c s0 r0 hn hF h => ?_⟩
  rw [start_eq] at h ⊢
  rw [lift_hookTrip]
  split at h
  · cases h
  · rename_i h1
    injection h with h; subst h
    simp only [h1, if_false, Bool.false_eq_true]
    refine ⟨?_, hF.congr rfl rfl⟩
    have hsz : (lift c s0).events.size = s0.events.size + n := by
      show (c.E0 ++ s0.events).size = _
      rw [Array.size_append, hn]; omega
    simp only [hsz]
    refine congrArg Except.ok (Prod.ext rfl ?_)
    simp only [lift, append_push]

theorem error_rl {n : Nat} (msg : String) : RL n (error msg) (error msg) := by
  refine ⟨fun c s0 r0 hn hF h => ?_⟩
  rw [error_eq] at h ⊢
  rw [lift_hookTrip]
  split at h
  · cases h
  · rename_i h1
    injection h with h; subst h
    simp only [h1, if_false, Bool.false_eq_true]
    refine ⟨?_, hF.congr rfl rfl⟩
    refine congrArg Except.ok (Prod.ext rfl ?_)
    simp only [lift, append_push]

theorem app_getElem? (a b : Array Ev) (i : Nat) : (a ++ b)[i + a.size]? = b[i]? := by
  rw [Array.getElem?_append_right (by omega)]
  congr 1; omega

theorem app_set (a b : Array Ev) (i : Nat) (e : Ev) : (a ++ b).set! (i + a.size) e = a ++ b.set! i e := by
  apply Array.ext'
  simp only [Array.set!_eq_setIfInBounds, Array.toList_setIfInBounds, Array.toList_append]
  rw [List.set_append_right _ _ (by simp)]
  congr 2
  simp

theorem app_size (a b : Array Ev) : (a ++ b).size = b.size + a.size := by
  rw [Array.size_append]; omega

theorem app_pop (a b : Array Ev) (h : b.size ≠ 0) : (a ++ b).pop = a ++ b.pop := by
  apply Array.ext'
  simp only [Array.toList_pop, Array.toList_append]
  rw [List.dropLast_append_of_ne_nil]
  intro hb
  have : b.toList.length = 0 := by rw [hb]; rfl
  simp at this
  exact h (by rw [this]; rfl)

theorem app_back? (a b : Array Ev) (h : b.size ≠ 0) : (a ++ b).back? = b.back? := by
  simp only [Array.back?]
  rw [Array.size_append, show a.size + b.size - 1 = (b.size - 1) + a.size by omega, app_getElem?]

theorem eat_rl {n : Nat} (k : SyntaxKind) : RL n (eat k) (eat k) := by
  refine ⟨fun c s0 r0 hn hF h => ?_⟩
  by_cases hk : (k == .EOF) = true
  · unfold eat at h; simp only [hk, if_true] at h; cases h
  · have hk' : (k == .EOF) = false := by simpa using hk
    rw [eat_eq k hk'] at h ⊢
    rw [lift_atF k c s0 hF]
    split at h
    · rename_i ha
      injection h with h; subst h
      simp only [ha, if_true]
      refine ⟨congrArg Except.ok (Prod.ext rfl ?_), hF.congr rfl rfl⟩
      simp only [lift, append_push, Nat.add_assoc]
    · rename_i ha
      injection h with h; subst h
      simp only [ha, if_false]
      exact ⟨rfl, hF⟩

theorem bumpAny_rl {n : Nat} : RL n bumpAny bumpAny := by
  refine ⟨fun c s0 r0 hn hF h => ?_⟩
  rw [bumpAny_eq] at h ⊢
  have hk := lift_kindAt c s0 hF 0
  simp only [Nat.add_zero] at hk
  rw [hk]
  split at h
  · rename_i h1
    injection h with h; subst h
    simp only [h1, if_true]
    exact ⟨trivial, hF⟩
  · rename_i h1
    injection h with h; subst h
    simp only [h1, if_false]
    refine ⟨congrArg Except.ok (Prod.ext rfl ?_), hF.congr rfl rfl⟩
    simp only [lift, append_push, Nat.add_assoc]

theorem prot_filter (l P0 : List Nat) (n i : Nat) (h : ∀ q ∈ P0, q < n) :
    (l.map (· + n) ++ P0).filter (· != i + n) = (l.filter (· != i)).map (· + n) ++ P0 := by
  rw [List.filter_append, List.filter_map]
  congr 1
  · congr 1
    apply List.filter_congr
    intro x _
    show ((x + n != i + n) = (x != i))
    rw [Bool.eq_iff_iff]
    simp
  · rw [List.filter_eq_self]
    intro q hq
    have := h q hq
    simp; omega

theorem prot_contains (l P0 : List Nat) (n i : Nat) (h : ∀ q ∈ P0, q < n) :
    (l.map (· + n) ++ P0).contains (i + n) = l.contains i := by
  rw [Bool.eq_iff_iff]
  simp only [List.contains_iff_mem, List.mem_append, List.mem_map]
  constructor
  · rintro (⟨x, hx, he⟩ | hq)
    · have : x = i := by omega
      rw [← this]; exact hx
    · have := h _ hq; omega
  · intro hi; exact Or.inl ⟨i, hi, rfl⟩

theorem lift_events (c : Ctx) (s0 : P) : (lift c s0).events = c.E0 ++ s0.events := rfl

theorem complete_rl {n : Nat} (m0 : Marker) (kind : SyntaxKind) :
    RL n (m0.complete kind) ((Sh.sh n m0).complete kind) := by
  refine ⟨fun c s0 r0 hn hF h => ?_⟩
  subst hn
  rw [complete_eq] at h ⊢
  rw [lift_hookTrip, lift_events, sh_m_pos, app_getElem?]
  split at h
  · rename_i x k0 fp heq
    split at h
    · cases h
    · rename_i h1
      split at h
      · cases h
      · rename_i h2
        split at h
        · cases h
        · rename_i h3
          injection h with h; subst h
          simp only [h1, h2, h3, if_false]
          refine ⟨congrArg Except.ok (Prod.ext rfl ?_), hF.congr rfl rfl⟩
          simp only [lift, P.slotSet, app_set, append_push, prot_filter _ _ _ _ hF.prot]
  · cases h

theorem abandon_rl {n : Nat} (m0 : Marker) : RL n m0.abandon (Sh.sh n m0).abandon := by
  refine ⟨fun c s0 r0 hn hF h => ?_⟩
  subst hn
  rw [abandon_eq] at h ⊢
  have hprot : (lift c s0).protectedPos = s0.protectedPos.map (· + c.E0.size) ++ c.P0 := rfl
  rw [sh_m_isFp, sh_m_pos, hprot, prot_contains _ _ _ _ hF.prot, lift_events, app_size]
  split at h
  · cases h
  · rename_i h1
    split at h
    · cases h
    · rename_i h2
      have hsz : s0.events.size ≠ 0 := by simpa using h2
      have hz : (s0.events.size + c.E0.size == 0) = false := by
        simp only [beq_eq_false_iff_ne, ne_eq]; omega
      simp only [h1, hz, if_false, Bool.false_eq_true]
      split at h
      · rename_i h3
        have h3' : m0.pos = s0.events.size - 1 := by simpa using h3
        have hpos : (m0.pos + c.E0.size == s0.events.size + c.E0.size - 1) = true := by
          simp only [beq_iff_eq]; omega
        simp only [hpos, if_true]
        rw [app_back? _ _ hsz]
        split at h
        · rename_i x k fp heq
          split at h
          · rename_i h4
            injection h with h; subst h
            simp only [h4, if_true]
            refine ⟨congrArg Except.ok (Prod.ext rfl ?_), hF.congr rfl rfl⟩
            simp only [lift, app_pop _ _ hsz]
          · cases h
        · cases h
      · rename_i h3
        have h3' : ¬ m0.pos = s0.events.size - 1 := by simpa using h3
        have hpos : (m0.pos + c.E0.size == s0.events.size + c.E0.size - 1) = false := by
          simp only [beq_eq_false_iff_ne, ne_eq]; omega
        injection h with h; subst h
        simp only [hpos, if_false, Bool.false_eq_true]
        exact ⟨rfl, hF.congr rfl rfl⟩

theorem lift_started (c : Ctx) (s0 : P) : (lift c s0).started = lift c s0.started := by
  simp only [P.started, lift, append_push]

theorem precede_rl {n : Nat} (cm0 : CompletedMarker) : RL n cm0.precede (Sh.sh n cm0).precede := by
  refine ⟨fun c s0 r0 hn hF h => ?_⟩
  subst hn
  rw [precede_eq] at h ⊢
  rw [lift_hookTrip, lift_started, lift_events, lift_events, sh_cm_pos, app_getElem?, app_size]
  split at h
  · cases h
  · rename_i h1
    simp only [h1, if_false]
    split at h
    · rename_i x k fp heq
      split at h
      · cases h
      · rename_i h2
        have h2' : ¬ s0.events.size + c.E0.size < cm0.pos + c.E0.size := by omega
        injection h with h; subst h
        simp only [h2', if_false]
        refine ⟨congrArg Except.ok (Prod.ext rfl ?_), hF.congr rfl rfl⟩
        simp only [lift, P.started, app_set, append_push, Nat.add_sub_add_right, List.map_cons, List.cons_append]
    · cases h

theorem extendTo_rl {n : Nat} (cm0 : CompletedMarker) (m0 : Marker) :
    RL n (cm0.extendTo m0) ((Sh.sh n cm0).extendTo (Sh.sh n m0)) := by
  refine ⟨fun c s0 r0 hn hF h => ?_⟩
  subst hn
  rw [extendTo_eq] at h ⊢
  rw [lift_events, sh_m_pos, sh_cm_pos, app_getElem?, app_getElem?]
  split at h
  · rename_i x k fp heq
    split at h
    · cases h
    · rename_i h1
      have h1' : ¬ cm0.pos + c.E0.size < m0.pos + c.E0.size := by omega
      simp only [h1', if_false]
      split at h
      · rename_i x2 k2 fp2 heq2
        split at h
        · cases h
        · rename_i h2
          injection h with h; subst h
          simp only [h2, if_false]
          refine ⟨congrArg Except.ok (Prod.ext rfl ?_), hF.congr rfl rfl⟩
          simp only [lift, app_set, Nat.add_sub_add_right]
      · cases h
  · cases h

theorem bump_rl {n : Nat} (k : SyntaxKind) : RL n (bump k) (bump k) :=
  RL.bind (eat_rl k) fun _ => RL.ite _ (RL.panic _ _) (RL.pure rfl)

theorem expect_rl {n : Nat} (k : SyntaxKind) : RL n (expect k) (expect k) :=
  RL.bind (eat_rl k) fun _ => RL.ite _ (RL.pure rfl) (RL.bind (error_rl _) fun _ => RL.pure rfl)

theorem errRecover_rl {n : Nat} (msg : String) (rec : TokenSet) :
    RL n (errRecover msg rec) (errRecover msg rec) :=
  have err : RL n (do error msg; pure ()) (do error msg; pure ()) :=
    RL.bind (error_rl _) fun _ => RL.pure rfl
  RL.bind current_rl fun _ => RL.ite _ err <| RL.bind (atTs_rl _) fun _ => RL.ite _ err <|
    RL.bind start_rl fun _ => RL.bind (error_rl _) fun _ => RL.bind bumpAny_rl fun _ =>
      RL.bind (complete_rl _ _) fun _ => RL.pure rfl

theorem errAndBump_rl {n : Nat} (msg : String) : RL n (errAndBump msg) (errAndBump msg) :=
  errRecover_rl msg []

open Lean Elab Tactic Meta in
/-- case analysis of a value of type `Option _`, `_ × _`, `Except _ _` down to its positions -/
partial def shCases (g : MVarId) (fv : FVarId) : MetaM (List MVarId) := g.withContext do
  let ty ← whnfR (← inferType (mkFVar fv))
  let fn := ty.getAppFn
  if fn.isConstOf ``Option || fn.isConstOf ``Prod || fn.isConstOf ``Except then
    let subs ← g.cases fv
    let mut out : List MVarId := []
    for s in subs do
      let mut gs : List MVarId := [s.mvarId]
      for f in s.fields do
        if let .fvar fid := f then
          let mut gs' : List MVarId := []
          for gi in gs do
            gs' := gs' ++ (← shCases gi fid)
          gs := gs'
      out := out ++ gs
    return out
  else return [g]

open Lean Elab Tactic Meta in
/-- `intro` a value and split it into its positions -/
elab "rl_intro" : tactic => withMainContext do
  let g ← getMainGoal
  let t ← withReducible <| whnf (← instantiateMVars (← g.getType))
  unless t.isForall do throwError "rl_intro: nothing to introduce"
  let (fv, g1) ← g.intro1
  let gs ← shCases g1 fv
  replaceMainGoal gs

/-- One step of the walk through the body of a grammar function, by the head symbol of the
computation; for a call of a grammar function the matching proof among `ts`.  A value that its
shift leaves alone is passed on by `RL.bind_id`, so that no `Sh.sh` enters the continuation; any
other is split into its positions (`rl_intro`) and the shifts are pushed to the markers. -/
macro "rl_step " "[" ts:term,* "]" : tactic => `(tactic| first
  | with_reducible refine RL.bind_id ?_ (fun _ => rfl) fun _ => ?_
  | with_reducible apply RL.bind
  | (with_reducible refine RL.pure ?_) <;> first | rfl | (simp; done)
  | with_reducible exact complete_rl _ _
  | with_reducible apply RL.ite
  | with_reducible exact at_rl _
  | with_reducible exact expect_rl _
  | with_reducible exact error_rl _
  | with_reducible exact start_rl
  $[| with_reducible exact $ts]*
  | with_reducible exact bumpAny_rl
  | with_reducible exact bump_rl _
  | with_reducible exact current_rl
  | with_reducible exact eat_rl _
  | with_reducible exact abandon_rl _
  | with_reducible exact RL.panic _ _
  | with_reducible exact RL.fail _ _
  | with_reducible apply rl_notM
  | with_reducible apply rl_andM
  | with_reducible exact atTs_rl _
  | with_reducible apply rl_orM
  | with_reducible exact nth_rl _
  | with_reducible exact precede_rl _
  | with_reducible exact errRecover_rl _ _
  | with_reducible exact errAndBump_rl _
  | with_reducible exact extendTo_rl _ _
  | rl_intro
  | simp only [sh_unit, sh_bool, sh_nat, sh_kind, sh_none, sh_some, sh_pair, sh_ok, sh_error, sh_cm_kind,
      sh_isSome, sh_isNone, sh_blockLike, sh_assoc, Option.isNone_some, Option.isNone_none, Option.isSome_some,
      Option.isSome_none, Bool.false_eq_true, if_false, if_true]
  | split
  | dsimp only)

macro "rl " "[" ts:term,* "]" : tactic => `(tactic| repeat' rl_step [$ts,*])

end Oq3.Parser
