/- GENERATED by /verif/tools/gen_grammar_cost2.py from Oq3/Model/Grammar.lean — the proofs are checked by Lean. -/
import Oq3.Lemmas.GrammarWork0
set_option linter.unusedVariables false
set_option linter.unusedSimpArgs false

namespace Oq3.Grammar
open Oq3.Gen Oq3.Parser
open Oq3.Gen.Ops (Assoc)
open Oq3.Gen.TokenSets

theorem atomExpr_wk {M : Sys} {fuel : Nat} (ih : AllWork M fuel) (_r : Restrictions) (E : Env M ⟨8, 14, 1, 4, 29, 1, 8⟩ fuel) :
    W E .init (Oq3.Grammar.atomExpr (fuel + 1) _r) (Exit E fun r s' => (r.isSome = true → E.s₀.pos < s'.pos) ∧ (atomHalt (E.s₀.kindAt E.s₀.pos) = false → E.s₀.pos < s'.pos)) E.s₀ := by
  unfold Oq3.Grammar.atomExpr
  ww [identifier (W.callS identifier_spec), hardwareQubit (W.callSP hardwareQubit_spec), literal (W.callS literal_spec), castExpr (W.callFPX (.of_fieldX ih.castExpr)), gphaseCallExpr (W.callFP (.of_field ih.gphaseCallExpr)), modifiedGateCallExpr (W.callF (.of_field ih.modifiedGateCallExpr)), gateCallExpr (W.callF (.of_field ih.gateCallExpr)), measureExpression (W.callFP (.of_field ih.measureExpression)), tupleExpr (W.callFP (.of_field ih.tupleExpr)), arrayExpr (W.callFP (.of_field ih.arrayExpr)), blockExpr (W.callFP (.of_field ih.blockExpr)), returnExpr (W.callFP (.of_field ih.returnExpr)), boxExpr (W.callFP (.of_field (ih.boxExpr _)))]

theorem designator_wk {M : Sys} {fuel : Nat} (ih : AllWork M fuel) (E : Env M ⟨1, 2, 0, 0, 42, 0, 10⟩ fuel) :
    W E .init (Oq3.Grammar.designator (fuel + 1)) (Exit E fun _ s' => E.s₀.pos < s'.pos) E.s₀ := by
  unfold Oq3.Grammar.designator
  ww [expr (W.callF (.of_field ih.expr))]

theorem switchCaseLoop_wk {M : Sys} {fuel : Nat} (ih : AllWork M fuel) (E : Env M ⟨1, 2, 0, 0, 0, 0, 0⟩ fuel) :
    W E .init (Oq3.Grammar.switchCaseLoop (fuel + 1)) (Exit E fun _ _ => True) E.s₀ := by
  unfold Oq3.Grammar.switchCaseLoop
  ww [switchCaseLoop (W.callFN (.of_field' ih.switchCaseLoop)), tryBlockExpr (W.callFN (.of_field' ih.tryBlockExpr)), caseValueList (W.callFN (.of_field' ih.caseValueList))]

theorem ioDeclarationStmt_wk {M : Sys} {fuel : Nat} (ih : AllWork M fuel) (m : Marker) (E : Env M ⟨4, 9, 0, 9, 21, 0, 6⟩ fuel) :
    W E .init (Oq3.Grammar.ioDeclarationStmt (fuel + 1) m) (Exit E fun r s' => (E.s₀.kindAt E.s₀.pos ≠ .EOF → E.s₀.pos < s'.pos)) E.s₀ := by
  unfold Oq3.Grammar.ioDeclarationStmt
  ww [varName (W.callS varName_spec), typeSpec (W.callF (.of_field ih.typeSpec))]

theorem rangeExpr_wk {M : Sys} {fuel : Nat} (ih : AllWork M fuel) (E : Env M ⟨1, 2, 0, 0, 0, 0, 0⟩ fuel) :
    W E .init (Oq3.Grammar.rangeExpr (fuel + 1)) (Exit E fun _ s' => E.s₀.pos < s'.pos) E.s₀ := by
  unfold Oq3.Grammar.rangeExpr
  ww [exprBp (W.callF (.of_field (ih.exprBp _ _ _)))]

theorem callExpr_wk {M : Sys} {fuel : Nat} (ih : AllWork M fuel) (lhs : CompletedMarker) (E : Env M ⟨2, 4, 0, 0, 29, 0, 8⟩ fuel) :
    W E .init (Oq3.Grammar.callExpr (fuel + 1) lhs) (Exit E fun _ s' => E.s₀.pos < s'.pos) E.s₀ := by
  unfold Oq3.Grammar.callExpr
  ww [callArgList (W.callFP (.of_field ih.callArgList)), argListGateCallQubits (W.callFN (.of_field' ih.argListGateCallQubits))]

theorem indexedIdentifierLoop_wk {M : Sys} {fuel : Nat} (ih : AllWork M fuel) (E : Env M ⟨2, 2, 0, 0, 31, 0, 8⟩ fuel) :
    W E .init (Oq3.Grammar.indexedIdentifierLoop (fuel + 1)) (Exit E fun r s' => (atF .L_BRACK E.s₀.kinds E.s₀.joint E.s₀.pos = true → E.s₀.pos < s'.pos)) E.s₀ := by
  unfold Oq3.Grammar.indexedIdentifierLoop
  ww [indexedIdentifierLoop (W.callF (.of_field ih.indexedIdentifierLoop)), indexOperator (W.callFP (.of_field ih.indexOperator))]

theorem measureExpression_wk {M : Sys} {fuel : Nat} (ih : AllWork M fuel) (E : Env M ⟨1, 2, 0, 0, 25, 0, 8⟩ fuel) :
    W E .init (Oq3.Grammar.measureExpression (fuel + 1)) (Exit E fun _ s' => E.s₀.pos < s'.pos) E.s₀ := by
  unfold Oq3.Grammar.measureExpression
  ww [argGateCallQubit (W.callF (.of_field (ih.argGateCallQubit _)))]

theorem paramListGateParams_wk {M : Sys} {fuel : Nat} (ih : AllWork M fuel) (E : Env M ⟨4, 7, 0, 7, 0, 0, 0⟩ fuel) :
    W E .init (Oq3.Grammar.paramListGateParams (fuel + 1)) (Exit E fun _ _ => True) E.s₀ := by
  unfold Oq3.Grammar.paramListGateParams
  ww [paramListOpenqasm (W.callFX (.of_fieldX (ih.paramListOpenqasm _)))]

theorem caseValueList_wk {M : Sys} {fuel : Nat} (ih : AllWork M fuel) (E : Env M ⟨15, 19, 2, 12, 0, 2, 0⟩ fuel) :
    W E .init (Oq3.Grammar.caseValueList (fuel + 1)) (Exit E fun _ _ => True) E.s₀ := by
  unfold Oq3.Grammar.caseValueList
  ww [paramListOpenqasm (W.callFX (.of_fieldX (ih.paramListOpenqasm _)))]

end Oq3.Grammar
