/-
C04 for a recursive reference language: `process` on forward-parent chains and on the
pieces that the core and the extended language share (the theorems on programs are
`LangEv2Process.lean: process_evsP2` and, for the core language, `LangEvEmbed.lean: process_evsP`).

The forward-parent chains of statements are handled uniformly: a `SpineAt` is an event segment in
which a chain, entered at the offset `ent` (`Spine`: at the first event), ends in (or leaves through)
its root; `goSeg_spineAt` (the chain ends in the root: expressions, assignments),
`goSeg_spineAt_wrap` (the root links to a wrapper `Start` pushed by `precede` right after the segment:
`EXPR_STMT`) and `goSegT_spine` (the main loop reaches a chain whose root links to an operator walked before:
the callee of a call, the base of a postfix operator) turn a spine into a step of `process`.
-/
import Oq3.Lemmas.PrattEvProcess
import Oq3.Lemmas.LangEv

namespace Oq3.LangEv2
open Oq3.Gen Oq3.Parser Oq3.PrattEv

/-- the loop of `process` on a segment that is followed by a tombstone -/
def GoSegT (seg : List Ev) (steps : List Step) : Prop :=
  ∀ (n : Nat) (A R : List Ev) (out : List Step), ∃ A' : List Ev,
    processGo (n + seg.length) A.length (A ++ (seg ++ (Ev.tombstone :: R))) out =
      processGo n A'.length (A' ++ (Ev.tombstone :: R)) (out ++ steps)

theorem GoSeg.toT {seg : List Ev} {steps : List Step} (h : GoSeg seg steps) : GoSegT seg steps :=
  fun n A R out => h n A (Ev.tombstone :: R) out

theorem GoSegT.append {a b : List Ev} {sa sb : List Step} (ha : GoSegT a sa) (hb : GoSeg (Ev.tombstone :: b) sb) :
    GoSeg (a ++ (Ev.tombstone :: b)) (sa ++ sb) := by
  intro n A R out
  obtain ⟨A1, h1⟩ := ha (n + (b.length + 1)) A (b ++ R) out
  obtain ⟨A2, h2⟩ := hb n A1 R (out ++ sa)
  refine ⟨A2, ?_⟩
  have e : (a ++ (Ev.tombstone :: b)).length = (b.length + 1) + a.length := by simp; omega
  rw [e, ← Nat.add_assoc, List.append_assoc]
  simp only [List.cons_append] at h1 h2 ⊢
  rw [h1]
  rw [show (Ev.tombstone :: b).length = b.length + 1 from rfl] at h2
  rw [h2, List.append_assoc]

end Oq3.LangEv2

namespace Oq3.LangEv
open Oq3.Gen Oq3.Parser Oq3.PrattEv Oq3.LangEv2

/-- see the module doc: `X fp` is the segment with forward-parent link `fp` at its root, `sX` the
segment after the chain walk, `ks` the kinds collected (outermost first), `c` the number of links,
`ent` the offset at which the chain is entered, `off` the offset of the root -/
structure SpineAt (X : Option Nat → List Ev) (sX : List Ev) (ks : List SyntaxKind) (c ent off : Nat) : Prop where
  walk : ∀ (g : Nat) (A R : List Ev) (fp : Option Nat) (idx fwd : Nat) (acc : List SyntaxKind),
    idx + fwd = A.length + ent →
    chain (g + c) (A ++ (X fp ++ R)) idx fwd acc =
      match fp with
      | none => some (ks ++ acc, A ++ (sX ++ R))
      | some d => chain g (A ++ (sX ++ R)) (A.length + off) d (ks ++ acc)
  len : ∀ fp, (X fp).length = sX.length
  fuel : ∀ fp, c ≤ cntFp (X fp) + (if fp.isSome then 0 else 1)
  noTomb : ks.filter (· != .TOMBSTONE) = ks

abbrev Spine (X : Option Nat → List Ev) (sX : List Ev) (ks : List SyntaxKind) (c off : Nat) : Prop :=
  SpineAt X sX ks c 0 off

theorem spineAt_prim (P : List Ev) (k : SyntaxKind) (hk : (k != .TOMBSTONE) = true) (rest : List Ev) :
    SpineAt (fun fp => P ++ (.start k fp :: rest)) (P ++ (Ev.tombstone :: rest)) [k] 1 P.length P.length := by
  refine ⟨?_, fun _ => by simp, ?_, by simp [List.filter, hk]⟩
  · intro g A R fp idx fwd acc h
    simp only [List.append_assoc, List.cons_append, chain, h, get_mid2, set_mid2]
    cases fp <;> rfl
  · intro fp; cases fp <;> simp [cntFp_append, cntFp, Ev.hasFp] <;> omega

/-- **a postfix operator / binary operator on a chain**: the root of `X` links to a new `Start K` right after the
segment, which becomes the root -/
theorem SpineAt.post {X : Option Nat → List Ev} {sX : List Ev} {ks : List SyntaxKind} {c ent off : Nat}
    (hS : SpineAt X sX ks c ent off) (hoff : off ≤ sX.length) (K : SyntaxKind) (hK : (K != .TOMBSTONE) = true) (rest : List Ev) :
    SpineAt (fun fp => X (some (sX.length - off)) ++ (.start K fp :: rest)) (sX ++ (Ev.tombstone :: rest)) (K :: ks) (c + 1) ent sX.length := by
  refine ⟨?_, fun _ => by simp [hS.len], ?_, by simp [List.filter, hK, hS.noTomb]⟩
  · intro g A R fp idx fwd acc h
    simp only [List.append_assoc]
    rw [show g + (c + 1) = (g + 1) + c by omega, hS.walk (g + 1) A _ _ idx fwd acc h]
    simp only
    have hpos : A.length + off + (sX.length - off) = (A ++ sX).length := by
      rw [List.length_append]; omega
    have hlist : ∀ Y : List Ev, A ++ (sX ++ Y) = (A ++ sX) ++ Y := fun Y => (List.append_assoc _ _ _).symm
    rw [hlist]
    simp only [chain, hpos, List.cons_append, get_mid, set_mid]
    cases fp with
    | none => simp only [List.append_assoc]
    | some d => simp only [List.append_assoc, List.length_append]
  · intro fp
    have := hS.fuel (some (sX.length - off))
    cases fp <;> simp [cntFp_append, cntFp, Ev.hasFp] at this ⊢ <;> omega

theorem spine_prim (k : SyntaxKind) (hk : (k != .TOMBSTONE) = true) (rest : List Ev) :
    Spine (fun fp => .start k fp :: rest) (Ev.tombstone :: rest) [k] 1 0 :=
  spineAt_prim [] k hk rest

theorem goSeg_spineAt {X : Option Nat → List Ev} {sX : List Ev} {ks : List SyntaxKind} {c ent off : Nat}
    (hS : SpineAt X sX ks c ent off) {st : List Step} (hs : GoSeg sX st) :
    GoSeg (.start .TOMBSTONE (some (ent + 1)) :: X none) (ks.map .enter ++ st) := by
  intro n A R out
  obtain ⟨A', h'⟩ := hs n (A ++ [Ev.tombstone]) R (out ++ ks.map .enter)
  refine ⟨A', ?_⟩
  rw [← List.append_assoc out, ← h']
  have hc := hS.fuel none
  simp only [Option.isSome_none, Bool.false_eq_true, if_false] at hc
  rw [List.length_cons, hS.len none, ← Nat.add_assoc]
  simp only [List.cons_append, processGo, get_mid, set_mid]
  obtain ⟨g, hg⟩ : ∃ g, cntFp (A ++ (Ev.start SyntaxKind.TOMBSTONE (some (ent + 1)) :: (X none ++ R))) + 1 = g + c := by
    refine ⟨cntFp (A ++ (Ev.start SyntaxKind.TOMBSTONE (some (ent + 1)) :: (X none ++ R))) + 1 - c, ?_⟩
    have : cntFp (X none) + 1 ≤ cntFp (A ++ (Ev.start SyntaxKind.TOMBSTONE (some (ent + 1)) :: (X none ++ R))) := by
      rw [cntFp_append]
      simp only [cntFp, Ev.hasFp, if_true, cntFp_append]
      omega
    omega
  rw [hg, go_shift, hS.walk g (A ++ [Ev.tombstone]) R none A.length (ent + 1) _ (by simp; omega)]
  simp only [List.length_append, List.length_cons, List.length_nil]
  congr 1
  simp only [enters, List.filter_append, hS.noTomb, List.map_append]
  rw [show List.filter (fun x => x != SyntaxKind.TOMBSTONE) [SyntaxKind.TOMBSTONE] = [] from rfl]
  simp

theorem goSeg_spineAt_wrap {X : Option Nat → List Ev} {sX : List Ev} {ks : List SyntaxKind} {c ent off : Nat}
    (hS : SpineAt X sX ks c ent off) (hoff : off ≤ sX.length) (W : SyntaxKind) (hW : (W != .TOMBSTONE) = true)
    (tail : List Ev) {st stTail : List Step} (hs : GoSeg sX st) (ht : GoSeg (Ev.tombstone :: tail) stTail) :
    GoSeg (.start .TOMBSTONE (some (ent + 1)) :: (X (some (sX.length - off)) ++ (.start W none :: tail)))
      (.enter W :: (ks.map .enter ++ (st ++ stTail))) := by
  have hS' := hS.post hoff W hW tail
  have := goSeg_spineAt hS' (hs.append ht)
  exact GoSeg.cast this rfl (by simp)

theorem chain_first (G : Nat) (evs : List Ev) (i : Nat) (k : SyntaxKind) (f : Nat) (acc : List SyntaxKind)
    (h : evs[i]? = some (.start k (some f))) :
    chain (G + 1) evs i 0 acc = chain G (evs.set i Ev.tombstone) i f (k :: acc) := by
  simp only [chain, Nat.add_zero, h]

theorem unstep (m : Nat) (A Y : List Ev) (out : List Step) :
    processGo (m + 1) A.length (A ++ (Ev.tombstone :: Y)) out = processGo m (A.length + 1) (A ++ (Ev.tombstone :: Y)) out := by
  rw [processGo, get_mid]
  simp only [Ev.tombstone]
  rw [set_mid]
  simp [enters, List.filter]

theorem goSegT_spine {X : Option Nat → List Ev} {sX sX' : List Ev} {ks : List SyntaxKind} {c off : Nat}
    (hS : Spine X sX ks c off) (hoff : off ≤ sX.length) (hsX : sX = Ev.tombstone :: sX')
    (hhead : ∃ k f rest, X (some (sX.length - off)) = .start k (some f) :: rest)
    {st : List Step} (hs : GoSeg sX st) :
    GoSegT (X (some (sX.length - off))) (ks.map .enter ++ st) := by
  intro n A R out
  obtain ⟨A', h'⟩ := hs n A (Ev.tombstone :: R) (out ++ ks.map .enter)
  refine ⟨A', ?_⟩
  rw [← List.append_assoc out, ← h']
  obtain ⟨k, f, rest, hx⟩ := hhead
  have hc : c ≤ cntFp (X (some (sX.length - off))) := by
    have := hS.fuel (some (sX.length - off)); simpa using this
  have hlen := hS.len (some (sX.length - off))
  have hpos : A.length + off + (sX.length - off) = (A ++ sX).length := by rw [List.length_append]; omega
  have hwalk := hS.walk
  generalize sX.length - off = d at hx hc hlen hpos
  have hl1 : sX.length = sX'.length + 1 := by rw [hsX]; rfl
  rw [hlen, hl1, ← Nat.add_assoc]
  have hget : (A ++ (X (some d) ++ Ev.tombstone :: R))[A.length]? = some (.start k (some f)) := by
    rw [hx]; exact get_mid _ _ _
  rw [processGo, hget]
  simp only
  have hge : c + 1 ≤ cntFp (A ++ (X (some d) ++ Ev.tombstone :: R)) + 1 := by
    rw [cntFp_append, cntFp_append]; omega
  obtain ⟨g, hg⟩ : ∃ g, cntFp (A ++ (X (some d) ++ Ev.tombstone :: R)) + 1 + 1 = (g + 1) + c :=
    ⟨cntFp (A ++ (X (some d) ++ Ev.tombstone :: R)) + 1 - c, by omega⟩
  rw [← chain_first _ _ _ _ _ _ hget, hg, hwalk (g + 1) A _ _ A.length 0 [] rfl]
  simp only
  have hl : ∀ Y : List Ev, A ++ (sX ++ Y) = (A ++ sX) ++ Y := fun Y => (List.append_assoc _ _ _).symm
  rw [hl, chain, hpos, get_mid]
  simp only [Ev.tombstone, set_mid]
  rw [← hl, hsX]
  have := unstep (n + sX'.length) A (sX' ++ Ev.tombstone :: R) (out ++ ks.map .enter)
  simp only [List.cons_append, Ev.tombstone] at this ⊢
  rw [this]
  congr 1
  have hnt := hS.noTomb
  simp only [enters, List.filter_cons, List.filter_append] at hnt ⊢
  simp [hnt]

/-- the callee `IDENTIFIER` of a call: its link leads to the `GATE_CALL_EXPR` that `precede` put after it, a tombstone
once the chain through the marker of `stmt` has been walked -/
theorem goSegT_callee : GoSegT [Ev.start SyntaxKind.IDENTIFIER (some 3), Ev.token SyntaxKind.IDENT 1, Ev.finish]
    [Step.enter SyntaxKind.IDENTIFIER, Step.token SyntaxKind.IDENT 1, Step.exit] :=
  goSegT_spine (spine_prim .IDENTIFIER rfl [.token .IDENT 1, .finish]) (Nat.zero_le _) rfl ⟨_, _, _, rfl⟩
    (.tomb (.token (.finish .nil)))

theorem goSeg_block {inner : List Ev} {st : List Step} (h : GoSeg inner st) : GoSeg (blockEvs inner) (blockNodes st) :=
  .start rfl (.token (h.append (.token (.finish .nil))))

theorem goSeg_params : ∀ n : Nat, GoSeg (paramEvs n) (paramNodes n)
  | 0 => .start rfl (.token (.finish .nil))
  | n + 1 => .start rfl (.token (.finish (.token (goSeg_params n))))

theorem goSeg_typed : ∀ ps : List PTy, GoSeg (typedEvs ps) (typedNodes ps)
  | [] => .nil
  | [_] => .start rfl (.start rfl (.token (.finish (.start rfl (.token (.finish (.finish .nil)))))))
  | _ :: q :: qs =>
    .start rfl (.start rfl (.token (.finish (.start rfl (.token (.finish (.finish (.token (goSeg_typed (q :: qs))))))))))

theorem goSeg_retSig : ∀ ret : Option Ty, GoSeg (retEvs ret) (retNodes ret)
  | none => .nil
  | some _ => .start rfl (.token (.start rfl (.token (.finish (.finish .nil)))))

theorem goSeg_exprStmtTail : GoSeg (Ev.tombstone :: [.token .SEMICOLON 1, .finish]) [.token .SEMICOLON 1, .exit] :=
  .tomb (.token (.finish .nil))

end Oq3.LangEv
