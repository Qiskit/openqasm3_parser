/-
Parser-state invariant "no token event has a trivia kind" (discharges, in `Props/C17Lex.lean`, the
hypothesis `tokenKindsOk` (`Lemmas/BuilderHead.lean`) of `Props/C17Layout.lean`):
if the input contains no trivia kinds (as `to_input` guarantees), every `Token` event the parser
pushes has a non-trivia kind — it is the kind of the current input token (`bump_any`, a simple
`eat`) or a composite kind (`eat` of a glued operator).

Primitive lemmas from the readings of a successful run (`Lemmas/Run.lean`); `tokNTClosed` collects them for the
walk of the grammar (`Lemmas/GrammarClosed.lean`), `Lemmas/GrammarTokKinds.lean` states the result.
-/
import Oq3.Lemmas.SafeTok

namespace Oq3.Parser
open Oq3.Gen

def evNT : Ev → Bool
  | .token k _ => !k.isTrivia
  | _ => true

def TokNT (s : P) : Prop :=
  (∀ i, (s.kindAt i).isTrivia = false) ∧ s.events.toList.all evNT = true

theorem TokNT.of_events {s s' : P} (h : TokNT s) (h1 : s'.kinds = s.kinds)
    (h2 : s'.events.toList.all evNT = true) : TokNT s' :=
  ⟨fun i => by simpa only [P.kindAt, h1] using h.1 i, h2⟩

theorem TokNT.congr {s s' : P} (h : TokNT s) (h1 : s'.kinds = s.kinds) (h2 : s'.events = s.events) :
    TokNT s' :=
  h.of_events h1 (by rw [h2]; exact h.2)

theorem TokNT.push {s s' : P} (h : TokNT s) (e : Ev) (he : evNT e = true) (h1 : s'.kinds = s.kinds)
    (h2 : s'.events = s.events.push e) : TokNT s' :=
  h.of_events h1 (by rw [h2, Array.toList_push, List.all_append, h.2]; simp [he])

theorem TokNT.set {s s' : P} (h : TokNT s) (i : Nat) (k : SyntaxKind) (fp : Option Nat)
    (h1 : s'.kinds = s.kinds) (h2 : s'.events = s.events.set! i (.start k fp)) : TokNT s' := by
  refine h.of_events h1 ?_
  rw [h2, Array.set!_eq_setIfInBounds, Array.toList_setIfInBounds, List.all_eq_true]
  intro y hy
  rcases List.mem_or_eq_of_mem_set hy with hy | rfl
  · exact List.all_eq_true.mp h.2 y hy
  · rfl

theorem TokNT.pop {s s' : P} (h : TokNT s) (h1 : s'.kinds = s.kinds) (h2 : s'.events = s.events.pop) :
    TokNT s' := by
  refine h.of_events h1 ?_
  rw [h2, Array.toList_pop, List.all_eq_true]
  exact fun e he => List.all_eq_true.mp h.2 e (List.dropLast_subset _ he)

theorem composite_not_trivia : ∀ p ∈ Ops.compositeTable, p.1.isTrivia = false := by decide

theorem compositePieces_not_trivia {k : SyntaxKind} {ps : List SyntaxKind}
    (h : compositePieces k = some ps) : k.isTrivia = false := by
  simp only [compositePieces, Option.map_eq_some_iff] at h
  obtain ⟨p, hp, _⟩ := h
  have hm := List.mem_of_find?_eq_some hp
  have hk := List.find?_some hp
  have : p.1 = k := by simpa using hk
  rw [← this]; exact composite_not_trivia p hm

theorem atF_not_trivia {k : SyntaxKind} {s : P} (h : TokNT s) (ha : atF k s.kinds s.joint s.pos = true) :
    k.isTrivia = false := by
  cases hc : compositePieces k with
  | some ps => exact compositePieces_not_trivia hc
  | none =>
    rw [atF_simple hc] at ha
    have : s.kindAt s.pos = k := by simpa [P.kindAt] using ha
    rw [← this]; exact h.1 _

theorem nth_tk (n : Nat) : Pres TokNT (nth n) :=
  ⟨fun s r hs h => by rw [nth_ok n s r h]; exact hs.congr rfl rfl⟩

theorem start_tk : Pres TokNT start :=
  ⟨fun s r hs h => by rw [start_ok s r h]; exact hs.push Ev.tombstone rfl rfl rfl⟩

theorem error_tk (msg : String) : Pres TokNT (error msg) :=
  ⟨fun s r hs h => by rw [pushEvent_ok _ s r h]; exact hs.push (.error msg) rfl rfl rfl⟩

theorem eat_tk (k : SyntaxKind) : Pres TokNT (eat k) := by
  refine ⟨fun s r hs h => ?_⟩
  obtain ⟨_, rfl | ⟨ha, rfl⟩⟩ := eat_ok k s r h
  · exact hs
  · exact hs.push (.token k _) (by simp [evNT, atF_not_trivia hs ha]) rfl rfl

theorem bumpAny_tk : Pres TokNT bumpAny := by
  refine ⟨fun s r hs h => ?_⟩
  obtain e | ⟨_, e⟩ := bumpAny_ok s r h <;> rw [e]
  · exact hs
  · exact hs.push (.token _ _) (by simp [evNT, hs.1]) rfl rfl

theorem complete_tk (m : Marker) (kind : SyntaxKind) : Pres TokNT (m.complete kind) := by
  refine ⟨fun s r hs h => ?_⟩
  obtain ⟨fp, _, _, rfl⟩ := complete_ok m kind s r h
  have h1 : TokNT (s.slotSet m.pos kind fp) := hs.set m.pos kind fp rfl rfl
  exact h1.push .finish rfl rfl rfl

theorem abandon_tk (m : Marker) : Pres TokNT m.abandon := by
  refine ⟨fun s r hs h => ?_⟩
  obtain ⟨_, e | ⟨_, _, e⟩⟩ := abandon_ok m s r h <;> rw [e]
  · exact hs.congr rfl rfl
  · exact hs.pop rfl rfl

theorem precede_tk (cm : CompletedMarker) : Pres TokNT cm.precede := by
  refine ⟨fun s r hs h => ?_⟩
  obtain ⟨k, fp, _, _, rfl⟩ := precede_ok cm s r h
  have h1 : TokNT s.started := hs.push Ev.tombstone rfl rfl rfl
  exact h1.set _ _ _ rfl rfl

theorem extendTo_tk (cm : CompletedMarker) (m : Marker) : Pres TokNT (cm.extendTo m) := by
  refine ⟨fun s r hs h => ?_⟩
  obtain ⟨_, _, _, _, _, _, _, _, rfl⟩ := extendTo_ok cm m s r h
  exact hs.set _ _ _ rfl rfl

theorem tokNTClosed : GClosed (Pres TokNT) :=
  Pres.closed (nth_tk 1) start_tk error_tk eat_tk bumpAny_tk complete_tk abandon_tk precede_tk extendTo_tk

end Oq3.Parser
