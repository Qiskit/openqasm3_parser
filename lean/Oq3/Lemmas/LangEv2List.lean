/-
C04, extended reference language: the lists inside postfix operators — call arguments,
index items (expressions and ranges), index operators, the loop of an indexed identifier.
-/
import Oq3.Lemmas.LangEv2Atom
set_option linter.unusedSimpArgs false
set_option linter.unusedVariables false

namespace Oq3.LangEv2
open Oq3.Gen Oq3.Parser Oq3.Grammar Oq3.SymExec Oq3.PrattEv Oq3.LangEv

def countXs : XList → Nat
  | .nil => 0
  | .cons _ xs => countXs xs + 1

/-- the expressions of the list are accepted, the last one with fuel `n`, each earlier one with one more (the loop of
`delimited` spends one unit per element) -/
def XsOK : XList → Nat → Prop
  | .nil, _ => True
  | .cons x xs, n => ExprOKF x (n + countXs xs) ∧ XsOK xs n

theorem argLoopX : ∀ (a : X) (as : XList) (n F : Nat) (s : P), XsOK (.cons a as) n → n + 3 + countXs as ≤ F → RdyF 6 s →
    Toks s s.pos (toksXs (.cons a as)) → s.kindAt (s.pos + (toksXs (.cons a as)).length) = .R_PAREN →
    CanonXs (.cons a as) →
    Acc (delimitedLoop F .R_PAREN .COMMA TokenSets.EXPR_FIRST .exprIsSome) s (toksXs (.cons a as)).length
      (evsXs (.cons a as))
  | a, .nil, n, F, s, hok, hF, hr, htk, hclose, hc => by
    obtain ⟨g, rfl⟩ : ∃ g, F = g + 3 := ⟨F - 3, by omega⟩
    simp only [toksXs] at htk hclose
    have hclose' : s.kindAt (s.pos + (0 + (toksX a).length)) = .R_PAREN := by rw [Nat.zero_add]; exact hclose
    have ha := hok.1.exprAt g hr 0 htk hc.1 hclose' rfl (by simp only [countXs] at hF ⊢; omega)
    obtain ⟨j, ts, hts⟩ := toksX_first a
    have h0 : s.kindAt (s.pos + 0) = firstX a := Toks_head htk hts
    obtain ⟨-, e1, e2, -⟩ := xFirst_ne (h0 ▸ firstX_xFirst a)
    have b1 := beq_false_of_ne e1
    have b2 := beq_false_of_ne e2
    run_base2 [b1, b2, ha, hclose']
  | a, .cons b bs, n, F, s, hok, hF, hr, htk, hclose, hc => by
    obtain ⟨g, rfl⟩ : ∃ g, F = g + 3 := ⟨F - 3, by omega⟩
    simp only [countXs] at hF
    rw [show toksXs (.cons a (.cons b bs)) = toksX a ++ (tk .COMMA :: toksXs (.cons b bs)) from rfl] at htk hclose
    simp only [List.length_append, List.length_cons] at hclose
    tok_at [] at htk
    obtain ⟨hta, hcomma, htrest⟩ := htk
    have ha := hok.1.exprAt g hr 0 hta hc.1 hcomma rfl (by simp only [countXs]; omega)
    obtain ⟨sbR, hrec⟩ := RunAt.of_acc (fun E0 sb lv => argLoopX b bs n (g + 2) _ hok.2 (by omega)
      (hr.ov 6 E0 (0 + (toksX a).length + 1) 0 sb lv (by have := hr.lim; omega)) ((Toks_ov s _ _ _ _ _ _ _ _).2 htrest)
      (kindAt_pos hclose (by show s.pos + _ + _ = _; omega)) hc.2) rfl
    obtain ⟨j, ts, hts⟩ := toksX_first a
    have h0 : s.kindAt (s.pos + 0) = firstX a := Toks_head hta hts
    obtain ⟨-, e1, e2, -⟩ := xFirst_ne (h0 ▸ firstX_xFirst a)
    have b1 := beq_false_of_ne e1
    have b2 := beq_false_of_ne e2
    run_base2 [b1, b2, ha, hcomma, hrec]

theorem callArgsX (args : XList) (n F : Nat) (s : P) (hok : XsOK args n) (hF : n + 4 + countXs args ≤ F) (hr : RdyF 6 s)
    (h0 : s.kindAt (s.pos + 0) = .L_PAREN) (htk : Toks s (s.pos + 1) (toksXs args))
    (hclose : s.kindAt (s.pos + (1 + (toksXs args).length)) = .R_PAREN) (hc : CanonXs args) :
    callArgList F s = .ok ((), s.ov
      (.start .ARG_LIST none :: .start .EXPRESSION_LIST none :: .token .L_PAREN 1 ::
        (evsXs args ++ [.token .R_PAREN 1, .finish, .finish])) ((toksXs args).length + 2) 0 3 s.live s.protectedPos) := by
  obtain ⟨g, rfl⟩ : ∃ g, F = g + 3 := ⟨F - 3, by omega⟩
  cases args with
  | nil =>
    simp only [toksXs, List.length_nil, Nat.add_zero] at hclose
    run_exact [h0, hclose]
  | cons a as =>
    obtain ⟨st', sb', hle, hloop⟩ :=
      (argLoopX a as n (g + 1)
        (s.ov [.start .TOMBSTONE none, .start .TOMBSTONE none, .token .L_PAREN 1] 1 0 1 (s.live + 1 + 1) s.protectedPos)
        hok (by simp only [countXs] at hF; omega) (hr.ov 6 _ _ _ _ _ (by have := hr.steps; have := hr.lim; omega))
        ((Toks_ov s _ _ _ _ _ _ _ _).2 htk)
        (kindAt_pos hclose (by show s.pos + 1 + _ = _; omega)) hc).at_ov
    run_exact [h0, hloop, hclose]

/-- acceptance with some value (for calls whose result is discarded) -/
def AccA {α} (x : G α) (s : P) (n : Nat) (E : List Ev) : Prop := ∃ a, AccV x a s n E

theorem exprEnd_pos {s : P} {A B : Nat} (h : exprEnd2 (s.kindAt B) = true) (e : A = B) : exprEnd2 (s.kindAt A) = true := e ▸ h

def ItemOK : Item → Nat → Prop
  | .ex x, n => ExprOK x n
  | .r2 lo hi, n => ExprOK lo n ∧ ExprOK hi n
  | .r3 lo mid hi, n => ExprOK lo n ∧ ExprOK mid n ∧ ExprOK hi n

/-- `ItemOK` over `ExprOKF` -/
def ItemOKF : Item → Nat → Prop
  | .ex x, n => ExprOKF x n
  | .r2 lo hi, n => ExprOKF lo n ∧ ExprOKF hi n
  | .r3 lo mid hi, n => ExprOKF lo n ∧ ExprOKF mid n ∧ ExprOKF hi n

theorem ItemOKF.toOK : ∀ {i : Item} {n : Nat}, ItemOKF i n → ItemOK i n
  | .ex _, _, h => ExprOKF.toOK h
  | .r2 _ _, _, h => ⟨h.1.toOK, h.2.toOK⟩
  | .r3 _ _ _, _, h => ⟨h.1.toOK, h.2.1.toOK, h.2.2.toOK⟩

theorem evsX_len_pos (x : X) : 2 ≤ (evsX x).length := by
  rw [evsX_length]; have := lenX_pos x; omega

theorem item_acc (i : Item) (n F : Nat) (s : P) (hok : ItemOKF i n) (hF : n + 2 ≤ F) (hr : RdyF 6 s)
    (htk : Toks s s.pos (toksItem i)) (hc : CanonItem i)
    (hfol : s.kindAt (s.pos + (toksItem i).length) = .COMMA ∨ s.kindAt (s.pos + (toksItem i).length) = .R_BRACK ∨
      s.kindAt (s.pos + (toksItem i).length) = .R_CURLY ∨ s.kindAt (s.pos + (toksItem i).length) = .L_CURLY) :
    AccA (exprOrRangeExpr F) s (toksItem i).length (evsItem i) := by
  obtain ⟨g, rfl⟩ : ∃ g, F = g + 2 := ⟨F - 2, by omega⟩
  have hend : exprEnd2 (s.kindAt (s.pos + (toksItem i).length)) = true := by
    rcases hfol with h | h | h | h <;> rw [h] <;> rfl
  have hncol : s.kindAt (s.pos + (toksItem i).length) ≠ .COLON := by
    rcases hfol with h | h | h | h <;> rw [h] <;> decide
  cases i with
  | ex x =>
    simp only [toksItem] at htk hend hncol
    have hx := ExprOKF.bpAt hok 1 (g + 1) { preferStmt := false } hr 0 htk hc (Nat.le_refl _) (by decide) rfl
      (exprEnd_pos hend (by omega)) (by omega)
    have hncol' : s.kindAt (s.pos + (0 + (toksX x).length)) ≠ .COLON := by rw [Nat.zero_add]; exact hncol
    have hab := fun dp st sb lv => abandon_mid s hr.prot (Ev.start SyntaxKind.TOMBSTONE none :: evsX x) dp st sb lv 0
      (by have := evsX_len_pos x; simp only [List.length_cons]; omega)
    refine ⟨?_, ?_⟩
    rotate_left
    run_base2 [hx, hncol', hab]
  | r2 lo hi =>
    simp only [toksItem, List.length_append, List.length_cons] at hend hncol
    tok_at [toksItem] at htk
    obtain ⟨htl, hcol, hth⟩ := htk
    have hl := hok.1.bpAt 1 (g + 1) { preferStmt := false } hr 0 htl hc.1 (Nat.le_refl _) (by decide) hcol rfl (by omega)
    have hh := hok.2.bpAt 1 (g + 1) { preferStmt := false } hr _ hth hc.2 (Nat.le_refl _) (by decide) rfl
      (exprEnd_pos hend (by omega)) (by omega)
    have hncol' : s.kindAt (s.pos + (0 + (toksX lo).length + 1 + (toksX hi).length)) ≠ .COLON :=
      fun h => hncol (kindAt_pos h (by omega))
    refine ⟨?_, ?_⟩
    rotate_left
    run_base2 [hl, hcol, hh, hncol']
  | r3 lo mid hi =>
    simp only [toksItem, List.length_append, List.length_cons] at hend hncol
    tok_at [toksItem] at htk
    obtain ⟨htl, hcol, htm, hcol2, hth⟩ := htk
    have hl := hok.1.bpAt 1 (g + 1) { preferStmt := false } hr 0 htl hc.1 (Nat.le_refl _) (by decide) hcol rfl (by omega)
    have hm := hok.2.1.bpAt 1 (g + 1) { preferStmt := false } hr _ htm hc.2.1 (Nat.le_refl _) (by decide) hcol2 rfl (by omega)
    have hh := hok.2.2.bpAt 1 (g + 1) { preferStmt := false } hr _ hth hc.2.2 (Nat.le_refl _) (by decide) rfl
      (exprEnd_pos hend (by omega)) (by omega)
    refine ⟨?_, ?_⟩
    rotate_left
    run_base2 [hl, hcol, hm, hcol2, hh]

theorem toksItem_first (i : Item) : ∃ j ts, toksItem i = (firstItem i, j) :: ts := by
  cases i with
  | ex x => exact toksX_first x
  | r2 lo hi =>
    obtain ⟨j, ts, h⟩ := toksX_first lo
    exact ⟨j, ts ++ (tk .COLON :: toksX hi), by simp [toksItem, firstItem, h]⟩
  | r3 lo mid hi =>
    obtain ⟨j, ts, h⟩ := toksX_first lo
    exact ⟨j, ts ++ (tk .COLON :: (toksX mid ++ (tk .COLON :: toksX hi))), by simp [toksItem, firstItem, h]⟩

theorem firstItem_xFirst (i : Item) : xFirst (firstItem i) = true := by
  cases i <;> exact firstX_xFirst _

/-- the item test of `_param_list_openqasm` (`is_type || at_ts(PARAM_FIRST) || …`) on a first token of an
expression: `~` and `measure` are missing from `PARAM_FIRST` -/
theorem xFirst_param {k : SyntaxKind} (h : xFirst k = true) (h1 : k ≠ .TILDE) (h2 : k ≠ .MEASURE_KW) :
    isType k = false → (decide (k.toNat < 128) && TokenSets.PARAM_FIRST.contains k) = true := by
  simp only [xFirst, Bool.or_eq_true, beq_iff_eq] at h
  rcases h with ((((((((((((((((h | h) | h) | h) | h) | h) | h) | h) | h) | h) | h) | h) | h) | h) | h) | h) | h) | h <;>
    subst h <;> first | (exact absurd rfl h1) | (exact absurd rfl h2) | (exact fun _ => by decide) | (exact fun h => absurd h (by decide))

def ItemsOK : ItemList → Nat → Prop
  | .one i, n => ItemOKF i n
  | .cons i is, n => ItemOKF i n ∧ ItemsOK is n

def countItems : ItemList → Nat
  | .one _ => 0
  | .cons _ is => countItems is + 1

/-- the lists of items and the token that closes them: index operators `[ … ]` and set expressions `{ … }`
(flavor `expressionList`), the values of a `case` before its block (flavor `caseValues`) -/
def ItemsEnd (fl : DefFlavor) (cl : SyntaxKind) : Prop :=
  (fl = .expressionList ∧ (cl = .R_BRACK ∨ cl = .R_CURLY)) ∨ (fl = .caseValues ∧ cl = .L_CURLY)

/-- what the item loop asks of a flavor of `ItemsEnd`, which stays a variable in its runs: the token `tok` that
`at_list_end_token` looks for (the closer of a set expression is not that token: the loop ends there because no `,` follows),
and what an item is -/
theorem ItemsEnd.facts {fl : DefFlavor} {cl : SyntaxKind} (h : ItemsEnd fl cl) :
    ∃ tok, atListEndToken fl = at' tok ∧ (tok = .R_BRACK ∨ tok = .L_CURLY) ∧ (cl = tok ∨ cl = .R_CURLY) ∧
      (fl == .defParams) = false ∧
      ∀ f m b, paramListItem (f + 1) fl m b = (do m.abandon; let _ ← exprOrRangeExpr f; return true) := by
  rcases h with ⟨rfl, rfl | rfl⟩ | ⟨rfl, rfl⟩
  · exact ⟨.R_BRACK, rfl, Or.inl rfl, Or.inl rfl, rfl, fun _ _ _ => rfl⟩
  · exact ⟨.R_BRACK, rfl, Or.inl rfl, Or.inr rfl, rfl, fun _ _ _ => rfl⟩
  · exact ⟨.L_CURLY, rfl, Or.inr rfl, Or.inl rfl, rfl, fun _ _ _ => rfl⟩

theorem itemsLoop (fl : DefFlavor) (cl : SyntaxKind) (hfc : ItemsEnd fl cl) :
    ∀ (is : ItemList) (n F k : Nat) (s : P), ItemsOK is n → n + 4 + countItems is ≤ F → RdyF 6 s →
    Toks s s.pos (toksItems is) → s.kindAt (s.pos + (toksItems is).length) = cl →
    CanonItems is → ItemsFirstOK is →
    AccV (paramListOpenqasmLoop F fl k) (k + countItems is + 1) s (toksItems is).length (evsItems is)
  | .one i, n, F, k, s, hok, hF, hr, htk, hend, hc, hfo => by
    obtain ⟨g, rfl⟩ : ∃ g, F = g + 2 := ⟨F - 2, by omega⟩
    simp only [toksItems] at htk hend
    simp only [countItems] at hF
    have hcl : cl = .R_BRACK ∨ cl = .R_CURLY ∨ cl = .L_CURLY := by
      rcases hfc with ⟨-, h | h⟩ | ⟨-, h⟩ <;> simp [h]
    rw [← hend] at hcl
    obtain ⟨v, st', sb', hle, hitem⟩ :=
      (item_acc i n g (s.ov [] 0 s.steps (s.sinceBump + 1) s.live s.protectedPos) hok (by omega)
        (hr.ov 6 _ _ _ _ _ hr.steps)
        ((Toks_ov s _ _ _ _ _ _ _ _).2 (by rw [Nat.add_zero]; exact htk)) hc
        (Or.inr (by rw [← Nat.add_zero s.pos] at hcl; exact hcl)))
    obtain ⟨st2, sb2, hle2, hitem'⟩ := AccV.at_ov ⟨st', sb', hle, hitem⟩
    obtain ⟨j, ts, hts⟩ := toksItem_first i
    have h0 : s.kindAt (s.pos + 0) = firstItem i := Toks_head htk hts
    have hxf := h0 ▸ firstItem_xFirst i
    obtain ⟨-, -, e2, -, -, -, e3, -, e4, -⟩ := xFirst_ne hxf
    have b2 := beq_false_of_ne e2
    have b3 := beq_false_of_ne e3
    have b4 := beq_false_of_ne e4
    have hend' : s.kindAt (s.pos + (0 + (toksItem i).length)) = cl := by rw [Nat.zero_add]; exact hend
    have hP := xFirst_param hxf (h0 ▸ hfo.1) (h0 ▸ hfo.2)
    obtain ⟨tok, hfl, htok, hcl', hdp, hpi⟩ := hfc.facts
    have c1 : compositePieces tok = none := by rcases htok with rfl | rfl <;> rfl
    have bt : (s.kindAt (s.pos + 0) == tok) = false := by rcases htok with rfl | rfl <;> assumption
    rcases hcl' with rfl | rfl
    · cases hT : isType (s.kindAt (s.pos + 0)) <;>
        run_base2 [b2, bt, hT, hP, hitem', hend', hfl, hdp, hpi, c1, beq_self_eq_true]
    · have bc : (SyntaxKind.R_CURLY == tok) = false := by rcases htok with rfl | rfl <;> rfl
      cases hT : isType (s.kindAt (s.pos + 0)) <;>
        run_base2 [b2, bt, hT, hP, hitem', hend', hfl, hdp, hpi, c1, bc]
  | .cons i is, n, F, k, s, hok, hF, hr, htk, hend, hc, hfo => by
    obtain ⟨g, rfl⟩ : ∃ g, F = g + 2 := ⟨F - 2, by omega⟩
    rw [show toksItems (.cons i is) = toksItem i ++ (tk .COMMA :: toksItems is) from rfl] at htk hend
    simp only [List.length_append, List.length_cons] at hend
    simp only [countItems] at hF
    tok_at [] at htk
    obtain ⟨hti, hcomma, htrest⟩ := htk
    obtain ⟨v, st', sb', hle, hitem⟩ :=
      (item_acc i n g (s.ov [] 0 s.steps (s.sinceBump + 1) s.live s.protectedPos) hok.1 (by omega)
        (hr.ov 6 _ _ _ _ _ hr.steps)
        ((Toks_ov s _ _ _ _ _ _ _ _).2 hti) hc.1 (Or.inl (kindAt_pos hcomma (Nat.add_assoc _ _ _))))
    obtain ⟨st2, sb2, hle2, hitem'⟩ := AccV.at_ov ⟨st', sb', hle, hitem⟩
    obtain ⟨sbR, hrec⟩ := RunAt.of_acc (fun E0 sb lv => itemsLoop fl cl hfc is n (g + 1) (k + 1) _ hok.2 (by omega)
      (hr.ov 6 E0 (0 + (toksItem i).length + 1) 0 sb lv (by have := hr.lim; omega)) ((Toks_ov s _ _ _ _ _ _ _ _).2 htrest)
      (kindAt_pos hend (by show s.pos + _ + _ = _; omega)) hc.2 hfo.2) rfl
    obtain ⟨j, ts, hts⟩ := toksItem_first i
    have h0 : s.kindAt (s.pos + 0) = firstItem i := Toks_head hti hts
    have hxf := h0 ▸ firstItem_xFirst i
    obtain ⟨-, -, e2, -, -, -, e3, -, e4, -⟩ := xFirst_ne hxf
    have b2 := beq_false_of_ne e2
    have b3 := beq_false_of_ne e3
    have b4 := beq_false_of_ne e4
    simp only [List.nil_append] at hitem'
    show AccV (paramListOpenqasmLoop (g + 2) fl k) (k + (countItems is + 1) + 1) s _ _
    have hP := xFirst_param hxf (h0 ▸ hfo.1.1) (h0 ▸ hfo.1.2)
    obtain ⟨tok, hfl, htok, -, hdp, hpi⟩ := hfc.facts
    have c1 : compositePieces tok = none := by rcases htok with rfl | rfl <;> rfl
    have bt : (s.kindAt (s.pos + 0) == tok) = false := by rcases htok with rfl | rfl <;> assumption
    have bc : (SyntaxKind.COMMA == tok) = false := by rcases htok with rfl | rfl <;> rfl
    cases hT : isType (s.kindAt (s.pos + 0)) <;>
      run_base2 [b2, bt, hT, hP, hitem', hcomma, hrec, hfl, hdp, hpi, c1, bc]

theorem toksItems_first : ∀ is : ItemList, ∃ i j ts, toksItems is = (firstItem i, j) :: ts ∧ xFirst (firstItem i) = true
  | .one i => by
    obtain ⟨j, ts, h⟩ := toksItem_first i
    exact ⟨i, j, ts, h, firstItem_xFirst i⟩
  | .cons i is => by
    obtain ⟨j, ts, h⟩ := toksItem_first i
    exact ⟨i, j, ts ++ (tk .COMMA :: toksItems is), by simp [toksItems, h], firstItem_xFirst i⟩

theorem itemsLoop_runAt {fl : DefFlavor} {cl : SyntaxKind} (hfc : ItemsEnd fl cl) (is : ItemList) {n F : Nat} (k : Nat)
    (hok : ItemsOK is n) (hF : n + 4 + countItems is ≤ F) {s : P} {kr : Nat} (hr : RdyF kr s) {dp : Nat}
    (htk : Toks s (s.pos + dp) (toksItems is)) (hend : s.kindAt (s.pos + (dp + (toksItems is).length)) = cl)
    (hc : CanonItems is) (hfo : ItemsFirstOK is) :
    ∃ sb', RunAtS (paramListOpenqasmLoop F fl k) (k + countItems is + 1) s 6 dp (dp + (toksItems is).length) (evsItems is) sb' :=
  RunAtS.of_acc ((allHolds stepsIrr_closed F).paramListOpenqasmLoop fl k)
    (by obtain ⟨i, j, ts, h, -⟩ := toksItems_first is; rw [h]; exact Nat.le_add_left 1 _)
    (fun E0 st sb lv hst => itemsLoop fl cl hfc is n F k _ hok hF (hr.ov 6 E0 dp st sb lv hst)
      ((Toks_ov s _ _ _ _ _ _ _ _).2 htk) (kindAt_pos hend (Nat.add_assoc _ _ _)) hc hfo) rfl

theorem indexOp_acc (is : ItemList) (n F : Nat) (s : P) (hok : ItemsOK is n) (hF : n + 7 + countItems is ≤ F) (hr : RdyF 6 s)
    (h0 : s.kindAt (s.pos + 0) = .L_BRACK) (htk : Toks s (s.pos + 1) (toksItems is))
    (hend : s.kindAt (s.pos + (1 + (toksItems is).length)) = .R_BRACK) (hc : CanonItems is) (hfo : ItemsFirstOK is) :
    indexOperator F s = .ok ((), s.ov
      (.start .INDEX_OPERATOR none :: .token .L_BRACK 1 :: .start .EXPRESSION_LIST none ::
        (evsItems is ++ [.finish, .token .R_BRACK 1, .finish])) ((toksItems is).length + 2) 0 2 s.live s.protectedPos) := by
  obtain ⟨g, rfl⟩ : ∃ g, F = g + 3 := ⟨F - 3, by omega⟩
  obtain ⟨sbL, hloop⟩ := itemsLoop_runAt (Or.inl ⟨rfl, Or.inl rfl⟩) is 0 hok (F := g) (by omega) hr htk hend hc hfo
  obtain ⟨i, j, ts, hts, hxf⟩ := toksItems_first is
  have h1 : s.kindAt (s.pos + 1) = firstItem i := Toks_head htk hts
  obtain ⟨-, -, -, -, -, -, -, -, e1, -⟩ := xFirst_ne (h1 ▸ hxf)
  have hnum : (0 + countItems is + 1 < 1) = False := eq_false (by omega)
  run_exact [h0, e1, hloop, hnum, hend]

def IdxOK : IdxList → Nat → Prop
  | .one is, n => ItemsOK is n
  | .cons is rest, n => ItemsOK is n ∧ IdxOK rest n

def needIdxL : IdxList → Nat
  | .one is => countItems is + 8
  | .cons is rest => max (countItems is + 8) (needIdxL rest + 1)

theorem idxLoop : ∀ (ixs : IdxList) (n F : Nat) (s : P), IdxOK ixs n → n + needIdxL ixs ≤ F → RdyF 6 s →
    Toks s s.pos (toksIdx ixs) → s.kindAt (s.pos + (toksIdx ixs).length) ≠ .L_BRACK →
    CanonIdx ixs → IdxFirstOK ixs →
    indexedIdentifierLoop F s = .ok ((), s.ov (evsIdx ixs) (toksIdx ixs).length 0 2 s.live s.protectedPos)
  | .one is, n, F, s, hok, hF, hr, htk, hend, hc, hfo => by
    obtain ⟨g, rfl⟩ : ∃ g, F = g + 2 := ⟨F - 2, by simp only [needIdxL] at hF; omega⟩
    simp only [needIdxL] at hF
    simp only [toksIdx, List.length_cons, List.length_append, List.length_nil] at hend
    tok_at [toksIdx] at htk
    obtain ⟨h0, hti, hrb⟩ := htk
    have hop := fun E0 st sb lv (hst : st + 6 ≤ s.stepLimit) => ov_rule (indexOp_acc is n (g + 1) _ hok (by omega)
      (hr.ov 6 E0 0 st sb lv hst) h0 ((Toks_ov s _ _ _ _ _ _ _ _).2 hti) hrb hc hfo)
    have hend' : s.kindAt (s.pos + (0 + ((toksItems is).length + 2))) ≠ .L_BRACK := by
      intro h; exact hend (kindAt_pos h (by omega))
    have b1 := beq_false_of_ne hend'
    have bE : (s.kindAt (s.pos + 0) == SyntaxKind.EOF) = false := by rw [h0]; rfl
    run_exact [h0, bE, hop, b1]
  | .cons is rest, n, F, s, hok, hF, hr, htk, hend, hc, hfo => by
    obtain ⟨g, rfl⟩ : ∃ g, F = g + 2 := ⟨F - 2, by simp only [needIdxL] at hF; omega⟩
    simp only [needIdxL] at hF
    rw [show toksIdx (.cons is rest) = tk .L_BRACK :: (toksItems is ++ (tk .R_BRACK :: toksIdx rest)) from rfl] at htk hend
    simp only [List.length_cons, List.length_append] at hend
    tok_at [] at htk
    obtain ⟨h0, hti, hrb, htrest⟩ := htk
    have hop := fun E0 st sb lv (hst : st + 6 ≤ s.stepLimit) => ov_rule (indexOp_acc is n (g + 1) _ hok.1 (by omega)
      (hr.ov 6 E0 0 st sb lv hst) h0 ((Toks_ov s _ _ _ _ _ _ _ _).2 hti) hrb hc.1 hfo.1)
    have hrec := fun E0 st sb lv (hst : st + 6 ≤ s.stepLimit) => ov_rule (idxLoop rest n (g + 1) _ hok.2 (by omega)
      (hr.ov 6 E0 (0 + ((toksItems is).length + 2)) st sb lv hst) ((Toks_ov s _ _ _ _ _ _ _ _).2 (Toks_pos htrest (by show s.pos + _ = _; omega)))
      (by intro h; exact hend (kindAt_pos h (by show _ = s.pos + _ + _; omega))) hc.2 hfo.2)
    have bE : (s.kindAt (s.pos + 0) == SyntaxKind.EOF) = false := by rw [h0]; rfl
    run_exact [h0, bE, hop, hrec]


theorem toksIdx_head (ixs : IdxList) : ∃ ts, toksIdx ixs = tk .L_BRACK :: ts := by
  cases ixs <;> exact ⟨_, rfl⟩

theorem atom_measureIdx (ixs : IdxList) (n : Nat) (hok : IdxOK ixs n) : AtomRun (.measureIdx ixs) (n + needIdxL ixs + 5) := by
  intro F r s hF hr htk hend hc
  obtain ⟨g, rfl⟩ : ∃ g, F = g + 5 := ⟨F - 5, by omega⟩
  tok_at [toksP] at htk
  obtain ⟨h0, h1, hti⟩ := htk
  obtain ⟨ts, hts⟩ := toksIdx_head ixs
  have h2 : s.kindAt (s.pos + 2) = .L_BRACK := Toks_head hti hts
  have hloop := ov_rule (idxLoop ixs n (g + 1)
    (s.ov [Ev.start SyntaxKind.TOMBSTONE none, Ev.token SyntaxKind.MEASURE_KW 1, Ev.start SyntaxKind.IDENTIFIER (some 3),
        Ev.token SyntaxKind.IDENT 1, Ev.finish, Ev.start SyntaxKind.TOMBSTONE none]
      2 0 3 (s.live + 1 + 1) ((s.events.size + 5) :: s.protectedPos)) hok (by omega)
    (hr.ov_cons 6 _ _ _ _ _ (by have := hr.lim; omega) (by simp only [List.length_cons, List.length_nil]; omega))
    ((Toks_ov s _ _ _ _ _ _ _ _).2 hti)
    (by intro h; exact hend (kindAt_pos h (by simp only [toksP, List.length_cons]; show _ = s.pos + 2 + _; omega))) hc.1 hc.2)
  run_exact [h0, h1, h2, hloop]

/-- one iteration of `postfix_expr`: a call `( args )` on the node completed so far (root `Start` at
position `p`, anywhere in the events) -/
theorem post_iter_call (s : P) (hnp : s.noProgressLimit = 0) (hpr : ∀ p ∈ s.protectedPos, p < s.events.size)
    (p : Nat) (k kc : SyntaxKind) (fp0 : Option Nat) (hp : s.events[p]? = some (.start k fp0))
    (h0 : s.kindAt (s.pos + 0) = .L_PAREN) (f : Nat) (bl : BlockLike)
    (Ea : List Ev) (na sta sba : Nat)
    (hargs : callArgList f
        ((s.setEv p (Ev.start k (some (s.events.size + 0 - p)))).ov [Ev.start SyntaxKind.TOMBSTONE none] 0 s.steps
          (s.sinceBump + 1) (s.live + 1) ((s.events.size + 0) :: s.protectedPos)) =
      .ok ((), (s.setEv p (Ev.start k (some (s.events.size + 0 - p)))).ov (Ev.start SyntaxKind.TOMBSTONE none :: Ea) na sta sba
          (s.live + 1) ((s.events.size + 0) :: s.protectedPos)))
    (hn1 : s.kindAt (s.pos + na) ≠ .IDENT) (hn2 : s.kindAt (s.pos + na) ≠ .HARDWAREIDENT)
    (res : (CompletedMarker × BlockLike) × P)
    (hk : postfixExpr (f + 1) { pos := s.events.size + 0, kind := SyntaxKind.CALL_EXPR } BlockLike.notBlock true
        ((s.setEv p (Ev.start k (some (s.events.size + 0 - p)))).ov
          (Ev.start SyntaxKind.CALL_EXPR none :: (Ea ++ [Ev.finish])) na sta (sba + 1) s.live s.protectedPos) = .ok res) :
    postfixExpr (f + 2) ⟨p, kc⟩ bl true s = .ok res := by
  have hpre := precede_base s hnp p k kc fp0 hp
  have hcomp := fun E dp st sb lv pr i b kind =>
    complete_ov (s.setEv p (.start k (some (s.events.size + 0 - p)))) E dp st sb lv pr hnp i b kind
  simp only [setEv_size] at hcomp
  apply of_ov
  sym_eval [h0, hpre, hargs, hn1, hn2, hcomp, setEv_size, setEv_kindAt, setEv_pos, setEv_npl, setEv_stepLimit,
    filter_base s hpr, contains_base s hpr, bne_self_eq_false, hk]
  rfl

/-- kinds of nodes on which `[…]` makes an INDEX_EXPR -/
def indexBaseKind (k : SyntaxKind) : Bool :=
  k == .PAREN_EXPR || k == .CAST_EXPRESSION || k == .CALL_EXPR || k == .INDEX_EXPR

theorem post_iter_index (s : P) (hnp : s.noProgressLimit = 0) (hpr : ∀ p ∈ s.protectedPos, p < s.events.size)
    (p : Nat) (k kc : SyntaxKind) (hkc : indexBaseKind kc = true) (fp0 : Option Nat)
    (hp : s.events[p]? = some (.start k fp0))
    (h0 : s.kindAt (s.pos + 0) = .L_BRACK) (f : Nat) (bl : BlockLike)
    (Ea : List Ev) (na sta sba : Nat)
    (hop : indexOperator f
        ((s.setEv p (Ev.start k (some (s.events.size + 0 - p)))).ov [Ev.start SyntaxKind.TOMBSTONE none] 0 s.steps
          (s.sinceBump + 1) (s.live + 1) ((s.events.size + 0) :: s.protectedPos)) =
      .ok ((), (s.setEv p (Ev.start k (some (s.events.size + 0 - p)))).ov (Ev.start SyntaxKind.TOMBSTONE none :: Ea) na sta sba
          (s.live + 1) ((s.events.size + 0) :: s.protectedPos)))
    (res : (CompletedMarker × BlockLike) × P)
    (hk : postfixExpr (f + 1) { pos := s.events.size + 0, kind := SyntaxKind.INDEX_EXPR } BlockLike.notBlock true
        ((s.setEv p (Ev.start k (some (s.events.size + 0 - p)))).ov
          (Ev.start SyntaxKind.INDEX_EXPR none :: (Ea ++ [Ev.finish])) na sta (sba + 1) s.live s.protectedPos) = .ok res) :
    postfixExpr (f + 2) ⟨p, kc⟩ bl true s = .ok res := by
  have hpre := precede_base s hnp p k kc fp0 hp
  have hcomp := fun E dp st sb lv pr i b kind =>
    complete_ov (s.setEv p (.start k (some (s.events.size + 0 - p)))) E dp st sb lv pr hnp i b kind
  simp only [setEv_size] at hcomp
  apply of_ov
  -- `kc` stays a variable: `postfix_expr` only asks that it is neither an identifier nor one of the literal kinds
  obtain ⟨n1, n2, n3, n4⟩ : kc ≠ .IDENTIFIER ∧ kc ≠ .LITERAL ∧ kc ≠ .TIMING_LITERAL ∧ kc ≠ .HARDWARE_QUBIT := by
    simp only [indexBaseKind, Bool.or_eq_true, beq_iff_eq] at hkc
    rcases hkc with ((h | h) | h) | h <;> subst h <;> decide
  show _ = _
  sym_eval [h0, hpre, hop, hcomp, n1, n2, n3, n4, setEv_size, setEv_kindAt, setEv_pos, setEv_npl, setEv_stepLimit,
    filter_base s hpr, contains_base s hpr, bne_self_eq_false, hk]
  rfl

/-- one iteration of `postfix_expr`: all the index operators after an identifier (INDEXED_IDENTIFIER) -/
theorem post_iter_idIdx (s : P) (hnp : s.noProgressLimit = 0) (hpr : ∀ p ∈ s.protectedPos, p < s.events.size)
    (p : Nat) (k : SyntaxKind) (fp0 : Option Nat) (hp : s.events[p]? = some (.start k fp0))
    (h0 : s.kindAt (s.pos + 0) = .L_BRACK) (f : Nat) (bl : BlockLike)
    (Ea : List Ev) (na sta sba : Nat)
    (hop : indexedIdentifierLoop f
        ((s.setEv p (Ev.start k (some (s.events.size + 0 - p)))).ov [Ev.start SyntaxKind.TOMBSTONE none] 0 s.steps
          (s.sinceBump + 1) (s.live + 1) ((s.events.size + 0) :: s.protectedPos)) =
      .ok ((), (s.setEv p (Ev.start k (some (s.events.size + 0 - p)))).ov (Ev.start SyntaxKind.TOMBSTONE none :: Ea) na sta sba
          (s.live + 1) ((s.events.size + 0) :: s.protectedPos)))
    (res : (CompletedMarker × BlockLike) × P)
    (hk : postfixExpr (f + 1) { pos := s.events.size + 0, kind := SyntaxKind.INDEXED_IDENTIFIER } BlockLike.notBlock true
        ((s.setEv p (Ev.start k (some (s.events.size + 0 - p)))).ov
          (Ev.start SyntaxKind.INDEXED_IDENTIFIER none :: (Ea ++ [Ev.finish])) na sta (sba + 1) s.live s.protectedPos) = .ok res) :
    postfixExpr (f + 2) ⟨p, .IDENTIFIER⟩ bl true s = .ok res := by
  have hpre := precede_base s hnp p k .IDENTIFIER fp0 hp
  have hcomp := fun E dp st sb lv pr i b kind =>
    complete_ov (s.setEv p (.start k (some (s.events.size + 0 - p)))) E dp st sb lv pr hnp i b kind
  simp only [setEv_size] at hcomp
  apply of_ov
  sym_eval [h0, hpre, hop, hcomp, setEv_size, setEv_kindAt, setEv_pos, setEv_npl, setEv_stepLimit,
    filter_base s hpr, contains_base s hpr, bne_self_eq_false, hk]
  rfl

theorem post_stop (s : P) (E : List Ev) (dp st sb lv : Nat) (pr : List Nat) (f : Nat) (cm : CompletedMarker)
    (bl : BlockLike) (e1 : s.kindAt (s.pos + dp) ≠ .L_PAREN) (e2 : s.kindAt (s.pos + dp) ≠ .L_BRACK) :
    postfixExpr (f + 1) cm bl true (s.ov E dp st sb lv pr) = .ok ((cm, bl), s.ov E dp st sb lv pr) := by
  sym_eval [e1, e2]
  rfl

end Oq3.LangEv2
