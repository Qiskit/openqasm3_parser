/-
C04, extended reference language: the top level — `item` versus `stmt` on the extended statements
(`let` is an ALIAS_DECLARATION_STATEMENT where `item` dispatches it and a LET_STMT elsewhere), the
well-formedness of whole programs `WFTop`, `source_file_contents`, `source_file`.
-/
import Oq3.Lemmas.LangEv2Prog
import Oq3.Lemmas.LangEvTop
set_option linter.unusedSimpArgs false
set_option linter.unusedVariables false

namespace Oq3.LangEv2
open Oq3.Gen Oq3.Parser Oq3.Grammar Oq3.SymExec Oq3.PrattEv Oq3.LangEv
open Oq3.Gen.Ops (Assoc)

/-- statements on which the top-level dispatcher `item` parses one statement itself (`opt_item` succeeds) -/
def isItem2 : Stmt2 → Bool
  | .oldReg _ _ | .assign _ _ | .exprS _ | .gate _ _ | .modGate _ _ _ _ | .gphase _ | .modGphase _ _ _
  | .pragma | .annot | .block _ | .ret _ => false
  | _ => true

/-- first tokens of the statements that `item` hands to the statement loop -/
def restFirst (k : SyntaxKind) : Bool :=
  exprStmtFirst2 k || k == .CREG_KW || k == .QREG_KW || k == .PRAGMA || k == .ANNOTATION || k == .L_CURLY

theorem notItem_first2 (st : Stmt2) (hwf : WFS2 st) (h : isItem2 st = false) : restFirst (firstTokS2 st) = true := by
  cases st with
  | oldReg c items => cases c <;> rfl
  | exprS x => simp only [firstTokS2, restFirst, hwf.2, Bool.true_or]
  | modGate m ms args qs => rcases firstMod_cases m with h' | h' | h' | h' <;> simp only [firstTokS2, h'] <;> rfl
  | modGphase m ms x => rcases firstMod_cases m with h' | h' | h' | h' <;> simp only [firstTokS2, h'] <;> rfl
  | assign _ _ => rfl
  | gate _ _ => rfl
  | gphase _ => rfl
  | pragma => rfl
  | annot => rfl
  | block _ => rfl
  | ret _ => rfl
  | _ => cases h

theorem restFirst_props {k : SyntaxKind} (h : restFirst k = true) :
    isClassicalType k = false ∧ Oq3.Props.C16.itemKeyword k = false ∧ k ≠ .R_CURLY ∧ k ≠ .EOF := by
  simp only [restFirst, exprStmtFirst2, Bool.or_eq_true, beq_iff_eq] at h
  rcases h with (((((((((((((((((((((h | h) | h) | h) | h) | h) | h) | h) | h) | h) | h) | h) | h) | h) | h) | h) | h) | h) | h) | h) | h) | h) | h <;>
    subst h <;> exact ⟨rfl, rfl, by decide, by decide⟩

def isLet : Stmt2 → Bool
  | .letS _ => true
  | .alias _ => true
  | _ => false

theorem isItem2_first (st : Stmt2) (h : isItem2 st = true) (hl : isLet st = false) (s : P) (htk : Toks s s.pos (toksS2 st)) :
    Oq3.Props.C16.itemFirst (s.kindAt s.pos) (s.kindAt (s.pos + 1)) = true ∧ s.kindAt s.pos ≠ .LET_KW := by
  cases st with
  | decl cst ty w init =>
    cases cst with
    | true =>
      have h0 : s.kindAt s.pos = .CONST_KW := by
        cases init <;> simp only [toksS2, if_true, List.cons_append, List.nil_append, Toks, tk] at htk <;> exact htk.1
      rw [h0]; exact ⟨by simp [Oq3.Props.C16.itemFirst, Oq3.Props.C16.itemKeyword], by decide⟩
    | false =>
      have h1 : s.kindAt s.pos = ty.kind ∧ s.kindAt (s.pos + 1) ≠ .L_PAREN := by
        cases w <;> cases init <;>
          simp only [toksS2, tyToksX, Toks, Toks_append, tk, List.cons_append, List.nil_append, Bool.false_eq_true, if_false] at htk <;>
          exact ⟨htk.1, by rw [htk.2.2.1]; decide⟩
      rw [h1.1]
      have h2 := h1.2
      cases ty <;> simp [Oq3.Props.C16.itemFirst, isClassicalType, SyntaxKind.isScalarType, Ty.kind, h2]
  | io out ty w =>
    cases out <;> simp only [toksS2, Toks, tk, Bool.false_eq_true, if_false, if_true] at htk <;> rw [htk.1] <;>
      exact ⟨by simp [Oq3.Props.C16.itemFirst, Oq3.Props.C16.itemKeyword], by decide⟩
  | qubit w =>
    cases w <;> simp only [toksS2, Toks, tk] at htk <;> rw [htk.1] <;>
      exact ⟨by simp [Oq3.Props.C16.itemFirst, Oq3.Props.C16.itemKeyword], by decide⟩
  | gateDef ps nq body =>
    cases ps <;> simp only [toksS2, Toks, tk] at htk <;> rw [htk.1] <;>
      exact ⟨by simp [Oq3.Props.C16.itemFirst, Oq3.Props.C16.itemKeyword], by decide⟩
  | letS _ => cases hl
  | alias _ => cases hl
  | oldReg _ _ => cases h
  | assign _ _ => cases h
  | exprS _ => cases h
  | gate _ _ => cases h
  | modGate _ _ _ _ => cases h
  | gphase _ => cases h
  | modGphase _ _ _ => cases h
  | pragma => cases h
  | annot => cases h
  | block _ => cases h
  | ret _ => cases h
  | _ =>
    simp only [toksS2, Toks, tk] at htk
    rw [htk.1]
    exact ⟨by simp [Oq3.Props.C16.itemFirst, Oq3.Props.C16.itemKeyword], by decide⟩

theorem item_alias (e : X) (F : Nat) (s : P) (hr : RdyF 8 s) (hF : fuelX e + 6 ≤ F)
    (htk : Toks s s.pos (toksS2 (.alias e))) (hc : CanonX 1 e)
    (hnext : s.kindAt (s.pos + (toksS2 (.alias e)).length) ≠ .SEMICOLON) :
    Acc (item F false) s (toksS2 (.alias e)).length (evsS2 (.alias e)) := by
  obtain ⟨g, rfl⟩ : ∃ g, F = g + 1 + 3 := ⟨F - 4, by omega⟩
  simp only [toksS2, List.length_cons, List.length_append, List.length_nil] at hnext ⊢
  tok_at [toksS2] at htk
  obtain ⟨h0, h1, h2, hte, hsemi⟩ := htk
  have he := (exprX_okF e).exprAt g hr 3 hte hc hsemi rfl (by omega)
  have hnext' : s.kindAt (s.pos + (3 + (toksX e).length + 1)) ≠ .SEMICOLON := by
    intro h; exact hnext (kindAt_pos h (by omega))
  run_base2 [h0, h1, h2, he, hsemi, hnext']

/-- among the statements that `item` parses itself, `let` is an alias declaration -/
def WFItem : Stmt2 → Prop
  | .alias e => CanonX 1 e
  | .letS _ => False
  | st => WFS2 st

theorem WFItem_eq (st : Stmt2) (h : isLet st = false) : WFItem st = WFS2 st := by
  cases st <;> first | rfl | cases h

/-- **well-formed programs**: a run of statements that the top-level dispatcher `item` parses itself (with `let` as
alias declaration), then — from the first statement that `item` does not dispatch — a statement list parsed by the
statement loop (with `let` as LET_STMT) -/
def WFTop : Stmts2 → Prop
  | .nil => True
  | .cons st ss =>
    (isItem2 st = true ∧ WFItem st ∧ WFTop ss ∧ (endsAssign st = true → startsMinus2 ss = false)) ∨
    (isItem2 st = false ∧ WFL2 false (.cons st ss))

theorem closerOf_false {k : SyntaxKind} (h : k = .EOF) : closerOf false k := by unfold closerOf; simpa using h

theorem sfc_ok2 : ∀ (p : Stmts2) (F : Nat) (s : P), needL2 p + 3 ≤ F → RdyF 9 s → Toks s s.pos (toksL2 p) →
    s.kindAt (s.pos + (toksL2 p).length) = .EOF → WFTop p →
    AccW (sourceFileContents F false) s (toksL2 p).length (evsL2 p)
  | .nil, F, s, hF, hr, htk, heof, _ => by
    obtain ⟨g, rfl⟩ : ∃ g, F = g + 1 := ⟨F - 1, by omega⟩
    obtain ⟨st, sb, -, h⟩ := sfc_nil g s heof
    exact ⟨st, sb, h⟩
  | .cons st ss, F, s, hF, hr, htk, heof, hwf => by
    obtain ⟨g, rfl⟩ : ∃ g, F = g + 1 + 1 + 1 := ⟨F - 3, by omega⟩
    have hF' := hF
    simp only [needL2] at hF'
    obtain ⟨j, ts, hts⟩ := toksS2_first st
    have htk' := htk
    simp only [toksL2, Toks_append, List.length_append] at htk' heof ⊢
    have h0 : s.kindAt s.pos = firstTokS2 st := Toks_head htk'.1 hts
    obtain ⟨hne1, hne2, -⟩ := stmtFirst_props _ (firstTokS2_stmtFirst st)
    have hnext := (next_ne ss false s _ htk'.2 (closerOf_false (by rw [Nat.add_assoc]; exact heof))).2
    rcases hwf with ⟨hit, hwi, hws, hm⟩ | ⟨hnit, hwl⟩
    · have hss := fun (st1 sb1 : Nat) (hle : st1 ≤ s.steps) => sfc_ok2 ss (g + 1 + 1)
        (s.ov (evsS2 st) (toksS2 st).length st1 sb1 s.live s.protectedPos) (by omega)
        (hr.ov 9 _ _ _ _ _ (by have := hr.steps; omega))
        ((Toks_ov s _ _ _ _ _ _ _ _).2 htk'.2)
        (by show s.kindAt (s.pos + _ + _) = _; rw [Nat.add_assoc]; exact heof) hws
      cases hl : isLet st with
      | true =>
        cases st <;> first | (cases hl; done) | skip
        · exact absurd hwi (by simp [WFItem])
        · rename_i e
          obtain ⟨st1, sb1, hle1, hx⟩ := item_alias e (g + 1 + 1) s (hr.mono (by omega)) (by simp only [needS2] at hF'; omega) htk'.1 hwi hnext
          exact sfc_cons (g + 1 + 1) s _ _ _ _ st1 sb1 (by rw [h0]; exact hne1) (by rw [h0]; exact hne2) hx (hss st1 sb1 hle1)
      | false =>
        obtain ⟨hif, hlet⟩ := isItem2_first st hit hl s htk'.1
        rw [WFItem_eq st hl] at hwi
        obtain ⟨st1, sb1, hle1, hx⟩ := item_of_stmt (g + 1) s _ _
            (stmt_ok2 st hwi (g + 1 + 1) s (by omega) (hr.mono (by omega)) htk'.1
              (followS2_next st ss false s _ htk'.2 (closerOf_false (by rw [Nat.add_assoc]; exact heof)) hm (fun _ h => by cases h)))
            hif hlet hnext
        exact sfc_cons (g + 1 + 1) s _ _ _ _ st1 sb1 (by rw [h0]; exact hne1) (by rw [h0]; exact hne2) hx (hss st1 sb1 hle1)
    · have hall := stmts_ok2 false (.cons st ss) hwl (g + 1)
        (s.ov [] 0 (s.steps + 1) (s.sinceBump + 1) s.live s.protectedPos) (by omega)
        (hr.ov 8 _ _ _ _ _ (by have := hr.steps; omega))
        ((Toks_ov s _ _ _ _ _ _ _ _).2 (by rw [Nat.add_zero]; exact htk))
        (closerOf_false (by show s.kindAt (s.pos + 0 + _) = _; rw [Nat.add_zero]; simp only [toksL2, List.length_append]; exact heof))
      obtain ⟨st', sb', hle, hrest'⟩ := hall.at_ov
      simp only [List.nil_append, Nat.zero_add] at hrest'
      have hrf := restFirst_props (notItem_first2 st hwl.1 hnit)
      have hitem := item_rest g s (hr.mono (by omega)).rdy _ h0 hrf.1 hrf.2.1 hrf.2.2.1 hrf.2.2.2 _ hrest'
      obtain ⟨st2, sb2, -, hnil⟩ := sfc_nil (g + 1) (s.ov (evsL2 (.cons st ss)) (toksL2 (.cons st ss)).length st' sb' s.live s.protectedPos)
        (by show s.kindAt (s.pos + _) = _; simp only [toksL2, List.length_append]; exact heof)
      have := sfc_cons (g + 2) s _ 0 _ [] st' sb' (by rw [h0]; exact hne1) (by rw [h0]; exact hne2) hitem ⟨st2, sb2, hnil⟩
      simpa [toksL2, evsL2] using this

theorem sourceFile_ok2 (p : Stmts2) (F : Nat) (s : P) (hF : needL2 p + 3 ≤ F) (hr : RdyF 9 s)
    (htk : Toks s s.pos (toksL2 p)) (heof : s.kindAt (s.pos + (toksL2 p).length) = .EOF) (hwf : WFTop p) :
    AccW (sourceFile F) s (toksL2 p).length (evsP2 p) :=
  sourceFile_of_sfc F s hr.rdy _ _ (sfc_ok2 p F _ hF (hr.ov 9 _ _ _ _ _ hr.steps)
    ((Toks_ov s _ _ _ _ _ _ _ _).2 (by rw [Nat.add_zero]; exact htk))
    (by show s.kindAt (s.pos + 0 + _) = _; rw [Nat.add_zero]; exact heof) hwf)

end Oq3.LangEv2
