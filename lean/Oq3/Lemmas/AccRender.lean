/-
`Dump.program` (the I5 S-expression of `Model/Accessors.lean`, validated character for character
against `oq3-run ast`) FACTORS through the structured `Build.program`:

   `Build.program t = .ok p  →  Dump.program t = Render.program p`        (`dump_eq_render`)

where `Render` prints a value of `Ast.Program` in the I5 format (the inverse of the decoder in
`Driver/Sema.lean`).  So the typed AST the layout theorems speak about is the one the dump shows.
(When `Build.program` fails with `badAst` the dump contains a `!` for a panicked text/kind accessor,
which the decoder rejects as `BAD-AST`.)
-/
import Oq3.Lemmas.AccBuild

namespace Oq3.Acc.Render
open Oq3.Gen Oq3.Acc.Dump

def rspan (s : Ast.Span) : String := s!"{s.start} {s.stop}"

def rStr (t : String) : String := hexOf t.toList

def rName (n : Ast.Name) : String := s!"(Name {rspan n.span} {rStr n.text})"
def rIdent (n : Ast.Identifier) : String := s!"(Identifier {rspan n.span} {rStr n.text})"
def rHw (n : Ast.HardwareQubit) : String := s!"(HardwareQubit {rspan n.span} {rStr n.text})"
def rParam (n : Ast.Param) : String := s!"(Param {rspan n.span} {rStr n.text})"
def rParamList (n : Ast.ParamList) : String := s!"(ParamList {rspan n.span} {list (n.params.map rParam)})"

def rLiteralKind : Ast.LiteralKind → String
  | .intNumber t v => s!"(IntNumber {rStr t} {opt v toString})"
  | .floatNumber t v => s!"(FloatNumber {rStr t} {opt v rStr})"
  | .bitString t v => s!"(BitString {rStr t} {opt v rStr})"
  | .bool v => s!"(Bool {b v})"
  | .byte => "Byte"
  | .char => "Char"
  | .string => "String"

def rLiteral (n : Ast.Literal) : String := s!"(Literal {rspan n.span} {rLiteralKind n.kind})"

def rFilePath (n : Ast.FilePath) : String := s!"(FilePath {rspan n.span} {opt n.toString? rStr})"

def rScalarTypeKind : Ast.ScalarTypeKind → String := scalarTypeKind

mutual
def rExpr : Ast.Expr → String
  | .prefixExpr s op e => s!"(PrefixExpr {rspan s} {opt op unaryOp} {rOExpr e})"
  | .parenExpr p => rParen p
  | .binExpr s op l r => s!"(BinExpr {rspan s} {opt op binaryOp} {rOExpr l} {rOExpr r})"
  | .literal l => rLiteral l
  | .timingLiteral s u t l => s!"(TimingLiteral {rspan s} {opt u timeUnit} {opt t rStr} {opt l rLiteral})"
  | .identifier i => rIdent i
  | .hardwareQubit h => rHw h
  | .rangeExpr r => rRange r
  | .indexExpr s e ix => s!"(IndexExpr {rspan s} {rOExpr e} {rOIndexOp ix})"
  | .indexedIdentifier ii => rIndexedIdent ii
  | .measureExpression s g => s!"(MeasureExpression {rspan s} {rOGateOperand g})"
  | .returnExpr s e => s!"(ReturnExpr {rspan s} {rOExpr e})"
  | .castExpression s st e => s!"(CastExpression {rspan s} {rOScalarType st} {rOExpr e})"
  | .callExpr s al i => s!"(CallExpr {rspan s} {rOArgList al} {opt i rIdent})"
  | .gateCallExpr g => rGateCall g
  | .gPhaseCallExpr g => rGPhase g
  | .modifiedGateCallExpr s ms g gp =>
    s!"(ModifiedGateCallExpr {rspan s} {list (rModifiers ms)} {rOGateCall g} {rOGPhase gp})"
  | .unsupported .blockExpr s => s!"(BlockExprE {rspan s})"
  | .unsupported .arrayExpr s => s!"(ArrayExpr {rspan s})"
  | .unsupported .arrayLiteral s => s!"(ArrayLiteral {rspan s})"
  | .unsupported .boxExpr s => s!"(BoxExpr {rspan s})"
  | .unsupported .dimExpr s => s!"(DimExpr {rspan s})"
def rOExpr : Option Ast.Expr → String
  | none => "_"
  | some e => rExpr e
def rExprs : List Ast.Expr → List String
  | [] => []
  | e :: es => rExpr e :: rExprs es
def rParen : Ast.ParenExpr → String
  | .mk s e => s!"(ParenExpr {rspan s} {rOExpr e})"
def rOParen : Option Ast.ParenExpr → String
  | none => "_"
  | some p => rParen p
def rRange : Ast.RangeExpr → String
  | .mk s a b c => s!"(RangeExpr {rspan s} {rOExpr a} {rOExpr b} {rOExpr c})"
def rDesignator : Ast.Designator → String
  | .mk s e => s!"(Designator {rspan s} {rOExpr e})"
def rODesignator : Option Ast.Designator → String
  | none => "_"
  | some d => rDesignator d
def rScalarType : Ast.ScalarType → String
  | .mk s k d st => s!"(ScalarType {rspan s} {rScalarTypeKind k} {rODesignator d} {rOScalarType st})"
def rOScalarType : Option Ast.ScalarType → String
  | none => "_"
  | some s => rScalarType s
def rExprList : Ast.ExpressionList → String
  | .mk s es => s!"(ExpressionList {rspan s} {list (rExprs es)})"
def rOExprList : Option Ast.ExpressionList → String
  | none => "_"
  | some el => rExprList el
def rSet : Ast.SetExpression → String
  | .mk s el => s!"(SetExpression {rspan s} {rOExprList el})"
def rIndexKind : Ast.IndexKind → String
  | .setExpression s => rSet s
  | .expressionList el => rExprList el
def rOIndexKind : Option Ast.IndexKind → String
  | none => "_"
  | some k => rIndexKind k
def rIndexOp : Ast.IndexOperator → String
  | .mk s k => s!"(IndexOperator {rspan s} {rOIndexKind k})"
def rOIndexOp : Option Ast.IndexOperator → String
  | none => "_"
  | some i => rIndexOp i
def rIndexOps : List Ast.IndexOperator → List String
  | [] => []
  | i :: is => rIndexOp i :: rIndexOps is
def rIndexedIdent : Ast.IndexedIdentifier → String
  | .mk s i ixs => s!"(IndexedIdentifier {rspan s} {opt i rIdent} {list (rIndexOps ixs)})"
def rGateOperand : Ast.GateOperand → String
  | .hardwareQubit h => rHw h
  | .identifier i => rIdent i
  | .indexedIdentifier ii => rIndexedIdent ii
def rOGateOperand : Option Ast.GateOperand → String
  | none => "_"
  | some g => rGateOperand g
def rGateOperands : List Ast.GateOperand → List String
  | [] => []
  | g :: gs => rGateOperand g :: rGateOperands gs
def rQubitList : Ast.QubitList → String
  | .mk s gs => s!"(QubitList {rspan s} {list (rGateOperands gs)})"
def rOQubitList : Option Ast.QubitList → String
  | none => "_"
  | some q => rQubitList q
def rArgList : Ast.ArgList → String
  | .mk s el => s!"(ArgList {rspan s} {rOExprList el})"
def rOArgList : Option Ast.ArgList → String
  | none => "_"
  | some a => rArgList a
def rGateCall : Ast.GateCallExpr → String
  | .mk s ql al i => s!"(GateCallExpr {rspan s} {rOQubitList ql} {rOArgList al} {opt i rIdent})"
def rOGateCall : Option Ast.GateCallExpr → String
  | none => "_"
  | some g => rGateCall g
def rGPhase : Ast.GPhaseCallExpr → String
  | .mk s a => s!"(GPhaseCallExpr {rspan s} {rOExpr a})"
def rOGPhase : Option Ast.GPhaseCallExpr → String
  | none => "_"
  | some g => rGPhase g
def rModifier : Ast.Modifier → String
  | .invModifier s => s!"(InvModifier {rspan s})"
  | .powModifier s p => s!"(PowModifier {rspan s} {rOParen p})"
  | .ctrlModifier s p => s!"(CtrlModifier {rspan s} {rOParen p})"
  | .negCtrlModifier s p => s!"(NegCtrlModifier {rspan s} {rOParen p})"
def rModifiers : List Ast.Modifier → List String
  | [] => []
  | m :: ms => rModifier m :: rModifiers ms
end

def rParamType : Ast.ParamType → String
  | .scalarType s => rScalarType s
  | .arrayRefType s => s!"(ArrayRefType {rspan s})"

def rTypedParam (p : Ast.TypedParam) : String :=
  s!"(TypedParam {rspan p.span} {opt p.paramType rParamType} {b p.oldTypedParam} {opt p.name rName})"

def rTypedParamList (l : Ast.TypedParamList) : String :=
  s!"(TypedParamList {rspan l.span} {list (l.typedParams.map rTypedParam)})"

def rReturnSignature (r : Ast.ReturnSignature) : String :=
  s!"(ReturnSignature {rspan r.span} {rOScalarType r.scalarType})"

def rQubitType (q : Ast.QubitType) : String := s!"(QubitType {rspan q.span} {rODesignator q.designator})"

def rForIterable (f : Ast.ForIterable) : String :=
  s!"(ForIterable {rspan f.span} {opt f.setExpression rSet} {opt f.rangeExpr rRange} {rOExpr f.forIterableExpr})"

mutual
def rStmt : Ast.Stmt → String
  | .ifStmt s c t f => s!"(IfStmt {rspan s} {rOExpr c} {rAccBos t} {rOBos f})"
  | .whileStmt s c bd => s!"(WhileStmt {rspan s} {rOExpr c} {rAccBos bd})"
  | .forStmt s v st it bd =>
    s!"(ForStmt {rspan s} {opt v rName} {rOScalarType st} {opt it rForIterable} {rAccBos bd})"
  | .switchCaseStmt s c cs d => s!"(SwitchCaseStmt {rspan s} {rOExpr c} {list (rCases cs)} {rOBlock d})"
  | .classicalDeclarationStatement s a st k n e =>
    s!"(ClassicalDeclarationStatement {rspan s} {b a} {rOScalarType st} {b k} {opt n rName} {rOExpr e})"
  | .ioDeclarationStatement s a st n i =>
    s!"(IODeclarationStatement {rspan s} {b a} {rOScalarType st} {opt n rName} {b i})"
  | .quantumDeclarationStatement s n h q =>
    s!"(QuantumDeclarationStatement {rspan s} {opt n rName} {opt h rHw} {opt q rQubitType})"
  | .assignmentStmt s i rhs ii =>
    s!"(AssignmentStmt {rspan s} {opt i rIdent} {rOExpr rhs} {opt ii rIndexedIdent})"
  | .breakStmt s => s!"(BreakStmt {rspan s})"
  | .continueStmt s => s!"(ContinueStmt {rspan s})"
  | .endStmt s => s!"(EndStmt {rspan s})"
  | .gate s n a q bd => s!"(Gate {rspan s} {opt n rName} {opt a rParamList} {opt q rParamList} {rOBlock bd})"
  | .defStmt s n tp bd rs =>
    s!"(Def {rspan s} {opt n rName} {opt tp rTypedParamList} {rOBlock bd} {opt rs rReturnSignature})"
  | .barrier s q => s!"(Barrier {rspan s} {rOQubitList q})"
  | .delayStmt s q d => s!"(DelayStmt {rspan s} {rOQubitList q} {rODesignator d})"
  | .reset s g => s!"(Reset {rspan s} {rOGateOperand g})"
  | .includeStmt s f => s!"(Include {rspan s} {opt f rFilePath})"
  | .exprStmt s e => s!"(ExprStmt {rspan s} {rOExpr e})"
  | .versionString s => s!"(VersionString {rspan s})"
  | .pragmaStatement s t => s!"(PragmaStatement {rspan s} {rStr t})"
  | .annotationStatement s t => s!"(AnnotationStatement {rspan s} {rStr t})"
  | .aliasDeclarationStatement s n e => s!"(AliasDeclarationStatement {rspan s} {opt n rName} {rOExpr e})"
  | .notImpl .oldStyleDeclarationStatement s => s!"(OldStyleDeclarationStatement {rspan s})"
  | .notImpl .defCal s => s!"(DefCal {rspan s})"
  | .notImpl .cal s => s!"(Cal {rspan s})"
  | .notImpl .defCalGrammar s => s!"(DefCalGrammar {rspan s})"
  | .notImpl .letStmt s => s!"(LetStmt {rspan s})"
  | .notImpl .measure s => s!"(Measure {rspan s})"
  | .notImpl .externStmt s => s!"(ExternStmt {rspan s})"
def rStmts : List Ast.Stmt → List String
  | [] => []
  | s :: ss => rStmt s :: rStmts ss
def rBlock : Ast.BlockExpr → String
  | .mk s ss => s!"(BlockExpr {rspan s} {list (rStmts ss)})"
def rOBlock : Option Ast.BlockExpr → String
  | none => "_"
  | some bl => rBlock bl
def rBos : Ast.BlockOrStmt → String
  | .blockExpr bl => s!"(BosBlock {rBlock bl})"
  | .stmt s => s!"(BosStmt {rStmt s})"
def rOBos : Option Ast.BlockOrStmt → String
  | none => "_"
  | some v => rBos v
def rAccBos : Ast.Acc Ast.BlockOrStmt → String
  | .ok v => rBos v
  | .panicked => "!"
def rCase : Ast.CaseExpr → String
  | .mk s el bl => s!"(CaseExpr {rspan s} {rOExprList el} {rOBlock bl})"
def rCases : List Ast.CaseExpr → List String
  | [] => []
  | c :: cs => rCase c :: rCases cs
end

def program (p : Ast.Program) : String := s!"(Program {rspan p.span} {list (rStmts p.statements)})"

theorem rOExpr_eq (o : Option Ast.Expr) : rOExpr o = opt o rExpr := by cases o <;> rfl
theorem rExprs_eq (l : List Ast.Expr) : rExprs l = l.map rExpr := by
  induction l with
  | nil => rfl
  | cons x xs ih => simp [rExprs, ih]
theorem rOParen_eq (o : Option Ast.ParenExpr) : rOParen o = opt o rParen := by cases o <;> rfl
theorem rODesignator_eq (o : Option Ast.Designator) : rODesignator o = opt o rDesignator := by cases o <;> rfl
theorem rOScalarType_eq (o : Option Ast.ScalarType) : rOScalarType o = opt o rScalarType := by cases o <;> rfl
theorem rOExprList_eq (o : Option Ast.ExpressionList) : rOExprList o = opt o rExprList := by cases o <;> rfl
theorem rOIndexKind_eq (o : Option Ast.IndexKind) : rOIndexKind o = opt o rIndexKind := by cases o <;> rfl
theorem rOIndexOp_eq (o : Option Ast.IndexOperator) : rOIndexOp o = opt o rIndexOp := by cases o <;> rfl
theorem rIndexOps_eq (l : List Ast.IndexOperator) : rIndexOps l = l.map rIndexOp := by
  induction l with
  | nil => rfl
  | cons x xs ih => simp [rIndexOps, ih]
theorem rOGateOperand_eq (o : Option Ast.GateOperand) : rOGateOperand o = opt o rGateOperand := by
  cases o <;> rfl
theorem rGateOperands_eq (l : List Ast.GateOperand) : rGateOperands l = l.map rGateOperand := by
  induction l with
  | nil => rfl
  | cons x xs ih => simp [rGateOperands, ih]
theorem rOQubitList_eq (o : Option Ast.QubitList) : rOQubitList o = opt o rQubitList := by cases o <;> rfl
theorem rOArgList_eq (o : Option Ast.ArgList) : rOArgList o = opt o rArgList := by cases o <;> rfl
theorem rOGateCall_eq (o : Option Ast.GateCallExpr) : rOGateCall o = opt o rGateCall := by cases o <;> rfl
theorem rOGPhase_eq (o : Option Ast.GPhaseCallExpr) : rOGPhase o = opt o rGPhase := by cases o <;> rfl
theorem rModifiers_eq (l : List Ast.Modifier) : rModifiers l = l.map rModifier := by
  induction l with
  | nil => rfl
  | cons x xs ih => simp [rModifiers, ih]
theorem rStmts_eq (l : List Ast.Stmt) : rStmts l = l.map rStmt := by
  induction l with
  | nil => rfl
  | cons x xs ih => simp [rStmts, ih]
theorem rOBlock_eq (o : Option Ast.BlockExpr) : rOBlock o = opt o rBlock := by cases o <;> rfl
theorem rOBos_eq (o : Option Ast.BlockOrStmt) : rOBos o = opt o rBos := by cases o <;> rfl
theorem rCases_eq (l : List Ast.CaseExpr) : rCases l = l.map rCase := by
  induction l with
  | nil => rfl
  | cons x xs ih => simp [rCases, ih]

theorem map_ok {α β : Type} {x : BM α} {f : α → β} {v : β} (h : x.map f = .ok v) :
    ∃ a, x = .ok a ∧ v = f a := by
  cases x with
  | error e => cases h
  | ok a => cases h; exact ⟨a, rfl, rfl⟩

theorem bind_ok {α β : Type} {x : BM α} {f : α → BM β} {v : β}
    (h : (match x with | Except.error e => Except.error e | Except.ok a => f a) = .ok v) :
    ∃ a, x = .ok a ∧ f a = .ok v := by
  cases x with
  | error e => cases h
  | ok a => exact ⟨a, rfl, h⟩

theorem optM_render {α : Type} {f : CNode → BM α} {g : CNode → String} {r : α → String}
    (o : Option CNode) (h : ∀ c a, f c = .ok a → g c = r a) {e : Option α}
    (he : Build.optM f o = .ok e) : opt o g = opt e r := by
  cases o with
  | none => cases he; rfl
  | some c =>
    obtain ⟨a, ha, rfl⟩ := map_ok he
    exact h c a ha

theorem listM_render {α : Type} {f : CNode → BM α} {g : CNode → String} {r : α → String}
    (l : List CNode) (h : ∀ c a, f c = .ok a → g c = r a) {as : List α}
    (he : Build.listM f l = .ok as) : l.map g = as.map r := by
  induction l generalizing as with
  | nil => cases he; rfl
  | cons c cs ih =>
    simp only [Build.listM] at he
    obtain ⟨a, ha, hrest⟩ := bind_ok he
    obtain ⟨as', has, rfl⟩ := map_ok hrest
    simp [h c a ha, ih has]

theorem rng_eq (n : CNode) : rng n = rspan (Build.span n) := rfl

theorem rStr_str (cs : List Char) : rStr (Build.str cs) = hexOf cs := by
  simp [rStr, Build.str]

/-- `bmcase x as a hx at h`: `h` is `(match x with | .error e => .error e | .ok a => ..) = .ok v`;
keep the `.ok a` case with `hx : x = .ok a` -/
syntax "bmcase " term " as " ident ident " at " ident : tactic
macro_rules
  | `(tactic| bmcase $x as $a $hx at $h) =>
    `(tactic| (
        have hex : ∃ a, $x = Except.ok a := by
          cases hx0 : $x with
          | ok a => exact ⟨a, rfl⟩
          | error e => rw [hx0] at $h:ident; cases $h:ident
        have ⟨$a:ident, $hx:ident⟩ := hex
        rw [$hx:ident] at $h:ident
        simp only at $h:ident))

theorem text_render {n : CNode} {t : String} (h : Build.text n = .ok t) :
    pText (HasTextNode.text n) = rStr t := by
  unfold Build.text at h
  obtain ⟨a, ha, rfl⟩ := map_ok h
  cases hx : HasTextNode.text n with
  | panic => rw [hx] at ha; cases ha
  | ok cs => rw [hx] at ha; cases ha; simp [pText, rStr_str]

theorem name_render (n : CNode) (v : Ast.Name) (h : Build.name n = .ok v) : name n = rName v := by
  unfold Build.name at h
  obtain ⟨t, ht, rfl⟩ := map_ok h
  unfold name rName; rw [text_render ht]; rfl

theorem identifier_render (n : CNode) (v : Ast.Identifier) (h : Build.identifier n = .ok v) :
    identifier n = rIdent v := by
  unfold Build.identifier at h
  obtain ⟨t, ht, rfl⟩ := map_ok h
  unfold identifier rIdent; rw [text_render ht]; rfl

theorem hardwareQubit_render (n : CNode) (v : Ast.HardwareQubit) (h : Build.hardwareQubit n = .ok v) :
    hardwareQubit n = rHw v := by
  unfold Build.hardwareQubit at h
  obtain ⟨t, ht, rfl⟩ := map_ok h
  unfold hardwareQubit rHw; rw [text_render ht]; rfl

theorem param_render (n : CNode) (v : Ast.Param) (h : Build.param n = .ok v) : param n = rParam v := by
  unfold Build.param at h
  obtain ⟨t, ht, rfl⟩ := map_ok h
  unfold param rParam; rw [text_render ht]; rfl

theorem paramList_render (n : CNode) (v : Ast.ParamList) (h : Build.paramList n = .ok v) :
    paramList n = rParamList v := by
  unfold Build.paramList at h
  obtain ⟨ps, hps, rfl⟩ := map_ok h
  unfold paramList rParamList; rw [listM_render _ param_render hps]; rfl

theorem opt_map_str (o : Option (List Char)) : opt (o.map Build.str) rStr = opt o hexOf := by
  cases o with
  | none => rfl
  | some cs => exact rStr_str cs

theorem literalKind_render (k : LiteralKind) : literalKind k = rLiteralKind (Build.literalKind k) := by
  cases k with
  | intNumber t => simp only [literalKind, rLiteralKind, Build.literalKind, rStr_str]
  | floatNumber t => simp only [literalKind, rLiteralKind, Build.literalKind, rStr_str, opt_map_str]
  | bitString t => simp only [literalKind, rLiteralKind, Build.literalKind, rStr_str, opt_map_str]
  | bool v => rfl
  | byte t => rfl
  | char t => rfl
  | string t => rfl

theorem literal_render (n : CNode) (v : Ast.Literal) (h : Build.literal n = .ok v) :
    literal n = rLiteral v := by
  unfold Build.literal at h
  obtain ⟨k, hk, rfl⟩ := map_ok h
  cases hx : Literal.kind n with
  | panic => rw [hx] at hk; cases hk
  | ok k' =>
    rw [hx] at hk; cases hk
    unfold literal rLiteral
    simp only [hx, literalKind_render]; rfl

theorem timingLiteral_render (n : CNode) (v : Ast.Expr) (h : Build.timingLiteral n = .ok v) :
    timingLiteral n = rExpr v := by
  unfold Build.timingLiteral at h
  cases hx : TimingLiteral.time_unit n with
  | panic => rw [hx] at h; cases h
  | ok u =>
    rw [hx] at h
    simp only [Build.ofPRes] at h
    bmcase Build.optM Build.text (TimingLiteral.identifier n) as it hit at h
    obtain ⟨l, hl, rfl⟩ := map_ok h
    unfold timingLiteral
    simp only [hx]
    rw [optM_render (g := fun i => pText (HasTextNode.text i)) (r := rStr) _ (fun c a hc => text_render hc) hit,
      optM_render _ literal_render hl]
    rfl

theorem filePath_render (n : CNode) (v : Ast.FilePath) (h : Build.filePath n = .ok v) :
    filePath n = rFilePath v := by
  unfold Build.filePath at h
  obtain ⟨s, hs, rfl⟩ := map_ok h
  cases hx : FilePath.to_string n with
  | panic => rw [hx] at hs; cases hs
  | ok s' =>
    rw [hx] at hs; cases hs
    unfold filePath rFilePath
    simp only [hx, opt_map_str]; rfl

/-! Every `s_X` below goes the same way: unfold `Build.X` at `fuel + 1`; invert its binds from the outside in (`bmcase` for
each but the last, `map_ok` for the last), which names the built constituents; unfold `Dump.X` and rewrite each printed
constituent into the print of the built one (`optM_render` / `listM_render` with the induction hypothesis, `rng_eq` for
the span); fold `opt o rY` back into the `rOY` of the mutual block (`← rOY_eq`); the two sides are then the same string. -/

structure IH1 (fuel : Nat) : Prop where
  expr : ∀ n v, Build.expr fuel n = .ok v → expr fuel n = rExpr v
  designator : ∀ n v, Build.designator fuel n = .ok v → designator fuel n = rDesignator v
  scalarType : ∀ n v, Build.scalarType fuel n = .ok v → scalarType fuel n = rScalarType v
  expressionList : ∀ n v, Build.expressionList fuel n = .ok v → expressionList fuel n = rExprList v
  setExpression : ∀ n v, Build.setExpression fuel n = .ok v → setExpression fuel n = rSet v
  rangeExpr : ∀ n v, Build.rangeExpr fuel n = .ok v → rangeExpr fuel n = rRange v
  indexOperator : ∀ n v, Build.indexOperator fuel n = .ok v → indexOperator fuel n = rIndexOp v
  indexedIdentifier : ∀ n v, Build.indexedIdentifier fuel n = .ok v →
    indexedIdentifier fuel n = rIndexedIdent v
  gateOperand : ∀ n v, Build.gateOperand fuel n = .ok v → gateOperand fuel n = rGateOperand v
  qubitList : ∀ n v, Build.qubitList fuel n = .ok v → qubitList fuel n = rQubitList v
  argList : ∀ n v, Build.argList fuel n = .ok v → argList fuel n = rArgList v
  parenExpr : ∀ n v, Build.parenExpr fuel n = .ok v → parenExpr fuel n = rParen v
  gateCallExpr : ∀ n v, Build.gateCallExpr fuel n = .ok v → gateCallExpr fuel n = rGateCall v
  gPhaseCallExpr : ∀ n v, Build.gPhaseCallExpr fuel n = .ok v → gPhaseCallExpr fuel n = rGPhase v
  modifier : ∀ n v, Build.modifier fuel n = .ok v → modifier fuel n = rModifier v

variable {fuel : Nat}

theorem s_designator (ih : IH1 fuel) (n : CNode) (v : Ast.Designator)
    (h : Build.designator (fuel + 1) n = .ok v) : designator (fuel + 1) n = rDesignator v := by
  unfold Build.designator at h
  obtain ⟨e, he, rfl⟩ := map_ok h
  unfold designator
  rw [optM_render _ ih.expr he, rng_eq, ← rOExpr_eq]; rfl

theorem s_scalarType (ih : IH1 fuel) (n : CNode) (v : Ast.ScalarType)
    (h : Build.scalarType (fuel + 1) n = .ok v) : scalarType (fuel + 1) n = rScalarType v := by
  unfold Build.scalarType at h
  cases hx : ScalarType.kind n with
  | panic => rw [hx] at h; cases h
  | ok k' =>
    rw [hx] at h
    simp only [Build.ofPRes] at h
    bmcase Build.optM (Build.designator fuel) (ScalarType.designator n) as d hd at h
    obtain ⟨s, hs, rfl⟩ := map_ok h
    unfold scalarType
    simp only [hx]
    rw [optM_render _ ih.designator hd, optM_render _ ih.scalarType hs, rng_eq,
      ← rODesignator_eq, ← rOScalarType_eq]; rfl

theorem s_expressionList (ih : IH1 fuel) (n : CNode) (v : Ast.ExpressionList)
    (h : Build.expressionList (fuel + 1) n = .ok v) : expressionList (fuel + 1) n = rExprList v := by
  unfold Build.expressionList at h
  obtain ⟨es, hes, rfl⟩ := map_ok h
  unfold expressionList
  rw [listM_render _ ih.expr hes, rng_eq, ← rExprs_eq]; rfl

theorem s_setExpression (ih : IH1 fuel) (n : CNode) (v : Ast.SetExpression)
    (h : Build.setExpression (fuel + 1) n = .ok v) : setExpression (fuel + 1) n = rSet v := by
  unfold Build.setExpression at h
  obtain ⟨e, he, rfl⟩ := map_ok h
  unfold setExpression
  rw [optM_render _ ih.expressionList he, rng_eq, ← rOExprList_eq]; rfl

theorem s_rangeExpr (ih : IH1 fuel) (n : CNode) (v : Ast.RangeExpr)
    (h : Build.rangeExpr (fuel + 1) n = .ok v) : rangeExpr (fuel + 1) n = rRange v := by
  unfold Build.rangeExpr at h
  bmcase Build.optM (Build.expr fuel) (RangeExpr.start_step_stop n).1 as a ha at h
  bmcase Build.optM (Build.expr fuel) (RangeExpr.start_step_stop n).2.1 as b hb at h
  obtain ⟨c, hc, rfl⟩ := map_ok h
  unfold rangeExpr
  simp only
  rw [optM_render _ ih.expr ha, optM_render _ ih.expr hb, optM_render _ ih.expr hc, rng_eq,
    ← rOExpr_eq, ← rOExpr_eq, ← rOExpr_eq]; rfl

theorem indexKindOf_render (ih : IH1 fuel) (c : CNode) (a : Ast.IndexKind)
    (h : Build.indexKindOf (Build.setExpression fuel) (Build.expressionList fuel) c = .ok a) :
    (if c.kind == .SET_EXPRESSION then setExpression fuel c else expressionList fuel c) = rIndexKind a := by
  unfold Build.indexKindOf at h
  split at h
  · rename_i hk
    obtain ⟨x, hx, rfl⟩ := map_ok h
    simp only [hk, if_true, rIndexKind]; exact ih.setExpression c x hx
  · rename_i hk
    obtain ⟨x, hx, rfl⟩ := map_ok h
    simp only [hk, rIndexKind]; exact ih.expressionList c x hx

theorem s_indexOperator (ih : IH1 fuel) (n : CNode) (v : Ast.IndexOperator)
    (h : Build.indexOperator (fuel + 1) n = .ok v) : indexOperator (fuel + 1) n = rIndexOp v := by
  unfold Build.indexOperator at h
  obtain ⟨k, hk, rfl⟩ := map_ok h
  unfold indexOperator
  simp only
  rw [optM_render _ (indexKindOf_render ih) hk, rng_eq, ← rOIndexKind_eq]; rfl

theorem s_indexedIdentifier (ih : IH1 fuel) (n : CNode) (v : Ast.IndexedIdentifier)
    (h : Build.indexedIdentifier (fuel + 1) n = .ok v) :
    indexedIdentifier (fuel + 1) n = rIndexedIdent v := by
  unfold Build.indexedIdentifier at h
  bmcase Build.optM Build.identifier (IndexedIdentifier.identifier n) as i hi at h
  obtain ⟨ops, hops, rfl⟩ := map_ok h
  unfold indexedIdentifier
  rw [optM_render _ identifier_render hi, listM_render _ ih.indexOperator hops, rng_eq, ← rIndexOps_eq]; rfl

theorem s_gateOperand (ih : IH1 fuel) (n : CNode) (v : Ast.GateOperand)
    (h : Build.gateOperand (fuel + 1) n = .ok v) : gateOperand (fuel + 1) n = rGateOperand v := by
  unfold Build.gateOperand at h
  unfold gateOperand
  split
  · rename_i hk
    simp only [hk, beq_self_eq_true, if_true] at h
    obtain ⟨x, hx, rfl⟩ := map_ok h
    exact hardwareQubit_render n x hx
  · rename_i hk
    simp only [hk, show (SyntaxKind.IDENTIFIER == SyntaxKind.HARDWARE_QUBIT) = false from rfl,
      Bool.false_eq_true, if_false, beq_self_eq_true, if_true] at h
    obtain ⟨x, hx, rfl⟩ := map_ok h
    exact identifier_render n x hx
  · rename_i h1 h2
    simp only [beq_false_of_ne h1, beq_false_of_ne h2, Bool.false_eq_true, if_false] at h
    obtain ⟨x, hx, rfl⟩ := map_ok h
    exact ih.indexedIdentifier n x hx

theorem s_qubitList (ih : IH1 fuel) (n : CNode) (v : Ast.QubitList)
    (h : Build.qubitList (fuel + 1) n = .ok v) : qubitList (fuel + 1) n = rQubitList v := by
  unfold Build.qubitList at h
  obtain ⟨gs, hgs, rfl⟩ := map_ok h
  unfold qubitList
  rw [listM_render _ ih.gateOperand hgs, rng_eq, ← rGateOperands_eq]; rfl

theorem s_argList (ih : IH1 fuel) (n : CNode) (v : Ast.ArgList)
    (h : Build.argList (fuel + 1) n = .ok v) : argList (fuel + 1) n = rArgList v := by
  unfold Build.argList at h
  obtain ⟨e, he, rfl⟩ := map_ok h
  unfold argList
  rw [optM_render _ ih.expressionList he, rng_eq, ← rOExprList_eq]; rfl

theorem s_parenExpr (ih : IH1 fuel) (n : CNode) (v : Ast.ParenExpr)
    (h : Build.parenExpr (fuel + 1) n = .ok v) : parenExpr (fuel + 1) n = rParen v := by
  unfold Build.parenExpr at h
  obtain ⟨e, he, rfl⟩ := map_ok h
  unfold parenExpr
  rw [optM_render _ ih.expr he, rng_eq, ← rOExpr_eq]; rfl

theorem s_gateCallExpr (ih : IH1 fuel) (n : CNode) (v : Ast.GateCallExpr)
    (h : Build.gateCallExpr (fuel + 1) n = .ok v) : gateCallExpr (fuel + 1) n = rGateCall v := by
  unfold Build.gateCallExpr at h
  bmcase Build.optM (Build.qubitList fuel) (GateCallExpr.qubit_list n) as q hq at h
  bmcase Build.optM (Build.argList fuel) (GateCallExpr.arg_list n) as a ha at h
  obtain ⟨i, hi, rfl⟩ := map_ok h
  unfold gateCallExpr
  rw [optM_render _ ih.qubitList hq, optM_render _ ih.argList ha, optM_render _ identifier_render hi,
    rng_eq, ← rOQubitList_eq, ← rOArgList_eq]; rfl

theorem s_gPhaseCallExpr (ih : IH1 fuel) (n : CNode) (v : Ast.GPhaseCallExpr)
    (h : Build.gPhaseCallExpr (fuel + 1) n = .ok v) : gPhaseCallExpr (fuel + 1) n = rGPhase v := by
  unfold Build.gPhaseCallExpr at h
  obtain ⟨e, he, rfl⟩ := map_ok h
  unfold gPhaseCallExpr
  rw [optM_render _ ih.expr he, rng_eq, ← rOExpr_eq]; rfl

theorem s_modifier (ih : IH1 fuel) (n : CNode) (v : Ast.Modifier)
    (h : Build.modifier (fuel + 1) n = .ok v) : modifier (fuel + 1) n = rModifier v := by
  unfold Build.modifier at h
  unfold modifier
  split
  · rename_i hk
    simp only [hk, beq_self_eq_true, if_true] at h
    cases h; rfl
  · rename_i hk
    simp only [hk, show (SyntaxKind.POW_MODIFIER == SyntaxKind.INV_MODIFIER) = false from rfl,
      Bool.false_eq_true, if_false, beq_self_eq_true, if_true] at h
    obtain ⟨p, hp, rfl⟩ := map_ok h
    rw [optM_render _ ih.parenExpr hp, rng_eq, ← rOParen_eq]; rfl
  · rename_i hk
    simp only [hk, show (SyntaxKind.CTRL_MODIFIER == SyntaxKind.INV_MODIFIER) = false from rfl,
      show (SyntaxKind.CTRL_MODIFIER == SyntaxKind.POW_MODIFIER) = false from rfl,
      Bool.false_eq_true, if_false, beq_self_eq_true, if_true] at h
    obtain ⟨p, hp, rfl⟩ := map_ok h
    rw [optM_render _ ih.parenExpr hp, rng_eq, ← rOParen_eq]; rfl
  · rename_i h1 h2 h3
    simp only [beq_false_of_ne h1, beq_false_of_ne h2, beq_false_of_ne h3, Bool.false_eq_true, if_false] at h
    obtain ⟨p, hp, rfl⟩ := map_ok h
    rw [optM_render _ ih.parenExpr hp, rng_eq, ← rOParen_eq]; rfl

theorem s_expr (ih : IH1 fuel) (n : CNode) (v : Ast.Expr)
    (h : Build.expr (fuel + 1) n = .ok v) : expr (fuel + 1) n = rExpr v := by
  unfold expr
  split
  -- `hk` says which kind `n.kind` is (in the last arm: none of them) and selects the arm of `Build.expr`
  all_goals (rename_i hk; simp only [Build.expr, hk] at h)
  · -- PREFIX_EXPR
    obtain ⟨e, he, rfl⟩ := map_ok h
    rw [optM_render _ ih.expr he, rng_eq, ← rOExpr_eq]; rfl
  · obtain ⟨x, hx, rfl⟩ := map_ok h
    exact ih.parenExpr n x hx
  · -- BIN_EXPR
    bmcase Build.optM (Build.expr fuel) (BinExpr.lhs n) as l hl at h
    obtain ⟨r, hr, rfl⟩ := map_ok h
    rw [optM_render _ ih.expr hl, optM_render _ ih.expr hr, rng_eq, ← rOExpr_eq, ← rOExpr_eq]; rfl
  · obtain ⟨x, hx, rfl⟩ := map_ok h
    exact literal_render n x hx
  · exact timingLiteral_render n v h
  · obtain ⟨x, hx, rfl⟩ := map_ok h
    exact identifier_render n x hx
  · obtain ⟨x, hx, rfl⟩ := map_ok h
    exact hardwareQubit_render n x hx
  · obtain ⟨x, hx, rfl⟩ := map_ok h
    exact ih.rangeExpr n x hx
  · -- INDEX_EXPR
    bmcase Build.optM (Build.expr fuel) (IndexExpr.expr n) as e he at h
    obtain ⟨i, hi, rfl⟩ := map_ok h
    rw [optM_render _ ih.expr he, optM_render _ ih.indexOperator hi, rng_eq, ← rOExpr_eq, ← rOIndexOp_eq]; rfl
  · obtain ⟨x, hx, rfl⟩ := map_ok h
    exact ih.indexedIdentifier n x hx
  · -- MEASURE_EXPRESSION
    obtain ⟨g, hg, rfl⟩ := map_ok h
    rw [optM_render _ ih.gateOperand hg, rng_eq, ← rOGateOperand_eq]; rfl
  · -- RETURN_EXPR
    obtain ⟨e, he, rfl⟩ := map_ok h
    rw [optM_render _ ih.expr he, rng_eq, ← rOExpr_eq]; rfl
  · -- CAST_EXPRESSION
    bmcase Build.optM (Build.scalarType fuel) (CastExpression.scalar_type n) as st hst at h
    obtain ⟨e, he, rfl⟩ := map_ok h
    rw [optM_render _ ih.scalarType hst, optM_render _ ih.expr he, rng_eq, ← rOScalarType_eq, ← rOExpr_eq]; rfl
  · -- CALL_EXPR
    bmcase Build.optM (Build.argList fuel) (CallExpr.arg_list n) as a ha at h
    obtain ⟨i, hi, rfl⟩ := map_ok h
    rw [optM_render _ ih.argList ha, optM_render _ identifier_render hi, rng_eq, ← rOArgList_eq]; rfl
  · obtain ⟨x, hx, rfl⟩ := map_ok h
    exact ih.gateCallExpr n x hx
  · obtain ⟨x, hx, rfl⟩ := map_ok h
    exact ih.gPhaseCallExpr n x hx
  · -- MODIFIED_GATE_CALL_EXPR
    bmcase Build.listM (Build.modifier fuel) (ModifiedGateCallExpr.modifiers n) as ms hms at h
    bmcase Build.optM (Build.gateCallExpr fuel) (ModifiedGateCallExpr.gate_call_expr n) as g hg at h
    obtain ⟨p, hp, rfl⟩ := map_ok h
    rw [listM_render _ ih.modifier hms, optM_render _ ih.gateCallExpr hg, optM_render _ ih.gPhaseCallExpr hp,
      rng_eq, ← rModifiers_eq, ← rOGateCall_eq, ← rOGPhase_eq]; rfl
  · cases h; rfl
  · cases h; rfl
  · cases h; rfl
  · cases h; rfl
  · cases h; rfl
  · cases h  -- not an `Expr` kind: `Build.expr` fails

theorem ih1_zero : IH1 0 := by
  constructor <;> intro n v h <;> cases h

theorem ih1_succ (ih : IH1 fuel) : IH1 (fuel + 1) :=
  ⟨s_expr ih, s_designator ih, s_scalarType ih, s_expressionList ih, s_setExpression ih, s_rangeExpr ih,
   s_indexOperator ih, s_indexedIdentifier ih, s_gateOperand ih, s_qubitList ih, s_argList ih,
   s_parenExpr ih, s_gateCallExpr ih, s_gPhaseCallExpr ih, s_modifier ih⟩

theorem ih1 : ∀ fuel, IH1 fuel
  | 0 => ih1_zero
  | fuel + 1 => ih1_succ (ih1 fuel)

theorem paramType_render (fuel : Nat) (n : CNode) (v : Ast.ParamType)
    (h : Build.paramType fuel n = .ok v) : paramType fuel n = rParamType v := by
  cases fuel with
  | zero => simp only [Build.paramType] at h; cases h
  | succ fuel =>
    simp only [Build.paramType] at h
    unfold paramType
    dsimp only
    split at h
    · rename_i hk
      obtain ⟨x, hx, rfl⟩ := map_ok h
      simp only [hk, if_true, rParamType]; exact (ih1 fuel).scalarType n x hx
    · rename_i hk
      cases h
      simp only [hk]; rfl

theorem typedParam_render (fuel : Nat) (n : CNode) (v : Ast.TypedParam)
    (h : Build.typedParam fuel n = .ok v) : typedParam fuel n = rTypedParam v := by
  cases fuel with
  | zero => simp only [Build.typedParam] at h; cases h
  | succ fuel =>
    simp only [Build.typedParam] at h
    bmcase Build.optM (Build.paramType fuel) (TypedParam.param_type n) as pt hpt at h
    obtain ⟨nm, hnm, rfl⟩ := map_ok h
    unfold typedParam
    dsimp only
    rw [optM_render _ (paramType_render fuel) hpt, optM_render _ name_render hnm, rng_eq]
    unfold rTypedParam
    rfl

theorem typedParamList_render (fuel : Nat) (n : CNode) (v : Ast.TypedParamList)
    (h : Build.typedParamList fuel n = .ok v) : typedParamList fuel n = rTypedParamList v := by
  cases fuel with
  | zero => simp only [Build.typedParamList] at h; cases h
  | succ fuel =>
    simp only [Build.typedParamList] at h
    obtain ⟨ps, hps, rfl⟩ := map_ok h
    unfold typedParamList
    dsimp only
    rw [listM_render _ (typedParam_render fuel) hps, rng_eq]
    unfold rTypedParamList
    rfl

theorem forIterable_render (fuel : Nat) (n : CNode) (v : Ast.ForIterable)
    (h : Build.forIterable fuel n = .ok v) : forIterable fuel n = rForIterable v := by
  cases fuel with
  | zero => simp only [Build.forIterable] at h; cases h
  | succ fuel =>
    simp only [Build.forIterable] at h
    bmcase Build.optM (Build.setExpression fuel) (ForIterable.set_expression n) as s hs at h
    bmcase Build.optM (Build.rangeExpr fuel) (ForIterable.range_expr n) as r hr at h
    obtain ⟨e, he, rfl⟩ := map_ok h
    unfold forIterable
    dsimp only
    rw [optM_render _ (ih1 fuel).setExpression hs, optM_render _ (ih1 fuel).rangeExpr hr,
      optM_render _ (ih1 fuel).expr he, rng_eq, ← rOExpr_eq]
    unfold rForIterable
    rfl

theorem qubitType_render (fuel : Nat) (q : CNode) (v : Ast.QubitType)
    (h : Build.qubitType fuel q = .ok v) :
    s!"(QubitType {rng q} {opt (QubitType.designator q) (designator fuel)})" = rQubitType v := by
  unfold Build.qubitType at h
  obtain ⟨d, hd, rfl⟩ := map_ok h
  rw [optM_render _ (ih1 fuel).designator hd, rng_eq, ← rODesignator_eq]
  unfold rQubitType
  rfl

theorem returnSignature_render (fuel : Nat) (r : CNode) (v : Ast.ReturnSignature)
    (h : Build.returnSignature fuel r = .ok v) :
    s!"(ReturnSignature {rng r} {opt (ReturnSignature.scalar_type r) (scalarType fuel)})" =
      rReturnSignature v := by
  unfold Build.returnSignature at h
  obtain ⟨s, hs, rfl⟩ := map_ok h
  rw [optM_render _ (ih1 fuel).scalarType hs, rng_eq, ← rOScalarType_eq]
  unfold rReturnSignature
  rfl

structure IH2 (fuel : Nat) : Prop where
  stmt : ∀ n v, Build.stmt fuel n = .ok v → stmt fuel n = rStmt v
  blockExpr : ∀ n v, Build.blockExpr fuel n = .ok v → blockExpr fuel n = rBlock v
  bos : ∀ x v, Build.blockOrStmt fuel x = .ok v → blockOrStmt fuel (.ok x) = rBos v
  caseExpr : ∀ n v, Build.caseExpr fuel n = .ok v → caseExpr fuel n = rCase v

theorem s_blockExpr (ih : IH2 fuel) (n : CNode) (v : Ast.BlockExpr)
    (h : Build.blockExpr (fuel + 1) n = .ok v) : blockExpr (fuel + 1) n = rBlock v := by
  unfold Build.blockExpr at h
  obtain ⟨ss, hss, rfl⟩ := map_ok h
  unfold blockExpr
  rw [listM_render _ ih.stmt hss, rng_eq, ← rStmts_eq]; rfl

theorem s_bos (ih : IH2 fuel) (x : BlockOrStmt) (v : Ast.BlockOrStmt)
    (h : Build.blockOrStmt (fuel + 1) x = .ok v) : blockOrStmt (fuel + 1) (.ok x) = rBos v := by
  cases x with
  | blockExpr bl =>
    simp only [Build.blockOrStmt] at h
    obtain ⟨a, ha, rfl⟩ := map_ok h
    simp only [blockOrStmt, ih.blockExpr bl a ha]; rfl
  | stmt s =>
    simp only [Build.blockOrStmt] at h
    obtain ⟨a, ha, rfl⟩ := map_ok h
    simp only [blockOrStmt, ih.stmt s a ha]; rfl

theorem accBos_render (ih : IH2 fuel) (r : PRes BlockOrStmt) (v : Ast.Acc Ast.BlockOrStmt)
    (h : Build.accBosOf fuel (Build.blockOrStmt fuel) r = .ok v) : blockOrStmt fuel r = rAccBos v := by
  cases r with
  | panic =>
    simp only [Build.accBosOf] at h
    split at h
    · cases h
    · cases h
      cases fuel with
      | zero => contradiction
      | succ f => rfl
  | ok x =>
    simp only [Build.accBosOf] at h
    obtain ⟨a, ha, rfl⟩ := map_ok h
    exact ih.bos x a ha

theorem optBos_render (ih : IH2 fuel) (o : Option BlockOrStmt) (v : Option Ast.BlockOrStmt)
    (h : Build.optBosOf (Build.blockOrStmt fuel) o = .ok v) :
    opt o (fun x => blockOrStmt fuel (.ok x)) = rOBos v := by
  cases o with
  | none => cases h; rfl
  | some x =>
    simp only [Build.optBosOf] at h
    obtain ⟨a, ha, rfl⟩ := map_ok h
    exact ih.bos x a ha

theorem s_caseExpr (ih : IH2 fuel) (n : CNode) (v : Ast.CaseExpr)
    (h : Build.caseExpr (fuel + 1) n = .ok v) : caseExpr (fuel + 1) n = rCase v := by
  unfold Build.caseExpr at h
  bmcase Build.optM (Build.expressionList fuel) (CaseExpr.expression_list n) as el hel at h
  obtain ⟨bl, hbl, rfl⟩ := map_ok h
  unfold caseExpr
  rw [optM_render _ (ih1 fuel).expressionList hel, optM_render _ ih.blockExpr hbl, rng_eq,
    ← rOExprList_eq, ← rOBlock_eq]; rfl

theorem s_stmt (ih : IH2 fuel) (n : CNode) (v : Ast.Stmt)
    (h : Build.stmt (fuel + 1) n = .ok v) : stmt (fuel + 1) n = rStmt v := by
  have i1 := ih1 fuel
  unfold stmt
  split
  -- `hk` says which kind `n.kind` is (in the last arm: none of them) and selects the arm of `Build.stmt`
  all_goals (rename_i hk; simp only [Build.stmt, hk] at h)
  · -- IF_STMT
    bmcase Build.optM (Build.expr fuel) (IfStmt.condition n) as c hc at h
    bmcase Build.accBosOf fuel (Build.blockOrStmt fuel) (IfStmt.true_body_block_or_stmt n) as t ht at h
    obtain ⟨f, hf, rfl⟩ := map_ok h
    rw [optM_render _ i1.expr hc, accBos_render ih _ _ ht, optBos_render ih _ _ hf, rng_eq, ← rOExpr_eq]; rfl
  · -- WHILE_STMT
    bmcase Build.optM (Build.expr fuel) (WhileStmt.condition n) as c hc at h
    obtain ⟨t, ht, rfl⟩ := map_ok h
    rw [optM_render _ i1.expr hc, accBos_render ih _ _ ht, rng_eq, ← rOExpr_eq]; rfl
  · -- FOR_STMT
    bmcase Build.optM Build.name (ForStmt.loop_var n) as lv hlv at h
    bmcase Build.optM (Build.scalarType fuel) (ForStmt.scalar_type n) as st hst at h
    bmcase Build.optM (Build.forIterable fuel) (ForStmt.for_iterable n) as it hit at h
    obtain ⟨t, ht, rfl⟩ := map_ok h
    rw [optM_render _ name_render hlv, optM_render _ i1.scalarType hst,
      optM_render _ (forIterable_render fuel) hit, accBos_render ih _ _ ht, rng_eq, ← rOScalarType_eq]; rfl
  · -- SWITCH_CASE_STMT
    bmcase Build.optM (Build.expr fuel) (SwitchCaseStmt.control n) as c hc at h
    bmcase Build.listM (Build.caseExpr fuel) (SwitchCaseStmt.case_exprs n) as cs hcs at h
    obtain ⟨d, hd, rfl⟩ := map_ok h
    rw [optM_render _ i1.expr hc, listM_render _ ih.caseExpr hcs, optM_render _ ih.blockExpr hd, rng_eq,
      ← rOExpr_eq, ← rCases_eq, ← rOBlock_eq]; rfl
  · -- CLASSICAL_DECLARATION_STATEMENT
    bmcase Build.optM (Build.scalarType fuel) (ClassicalDeclarationStatement.scalar_type n) as st hst at h
    bmcase Build.optM Build.name (ClassicalDeclarationStatement.name n) as nm hnm at h
    obtain ⟨e, he, rfl⟩ := map_ok h
    rw [optM_render _ i1.scalarType hst, optM_render _ name_render hnm, optM_render _ i1.expr he, rng_eq,
      ← rOScalarType_eq, ← rOExpr_eq]; rfl
  · -- I_O_DECLARATION_STATEMENT
    bmcase Build.optM (Build.scalarType fuel) (IODeclarationStatement.scalar_type n) as st hst at h
    obtain ⟨nm, hnm, rfl⟩ := map_ok h
    rw [optM_render _ i1.scalarType hst, optM_render _ name_render hnm, rng_eq, ← rOScalarType_eq]; rfl
  · -- QUANTUM_DECLARATION_STATEMENT
    bmcase Build.optM Build.name (QuantumDeclarationStatement.name n) as nm hnm at h
    bmcase Build.optM Build.hardwareQubit (QuantumDeclarationStatement.hardware_qubit n) as hw hhw at h
    obtain ⟨q, hq, rfl⟩ := map_ok h
    rw [optM_render _ name_render hnm, optM_render _ hardwareQubit_render hhw,
      optM_render _ (qubitType_render fuel) hq, rng_eq]; rfl
  · -- ASSIGNMENT_STMT
    bmcase Build.optM Build.identifier (AssignmentStmt.identifier n) as i hi at h
    bmcase Build.optM (Build.expr fuel) (AssignmentStmt.rhs n) as r hr at h
    obtain ⟨ii, hii, rfl⟩ := map_ok h
    rw [optM_render _ identifier_render hi, optM_render _ i1.expr hr,
      optM_render _ i1.indexedIdentifier hii, rng_eq, ← rOExpr_eq]; rfl
  · cases h; rfl
  · cases h; rfl
  · cases h; rfl
  · -- GATE
    bmcase Build.optM Build.name (Gate.name n) as nm hnm at h
    bmcase Build.optM Build.paramList (Gate.angle_params n) as ap hap at h
    bmcase Build.optM Build.paramList (Gate.qubit_params n) as qp hqp at h
    obtain ⟨bd, hbd, rfl⟩ := map_ok h
    rw [optM_render _ name_render hnm, optM_render _ paramList_render hap, optM_render _ paramList_render hqp,
      optM_render _ ih.blockExpr hbd, rng_eq, ← rOBlock_eq]; rfl
  · -- DEF
    bmcase Build.optM Build.name (Def.name n) as nm hnm at h
    bmcase Build.optM (Build.typedParamList fuel) (Def.typed_param_list n) as tp htp at h
    bmcase Build.optM (Build.blockExpr fuel) (Def.body n) as bd hbd at h
    obtain ⟨rs, hrs, rfl⟩ := map_ok h
    rw [optM_render _ name_render hnm, optM_render _ (typedParamList_render fuel) htp,
      optM_render _ ih.blockExpr hbd, optM_render _ (returnSignature_render fuel) hrs, rng_eq, ← rOBlock_eq]; rfl
  · -- BARRIER
    obtain ⟨q, hq, rfl⟩ := map_ok h
    rw [optM_render _ i1.qubitList hq, rng_eq, ← rOQubitList_eq]; rfl
  · -- DELAY_STMT
    bmcase Build.optM (Build.qubitList fuel) (DelayStmt.qubit_list n) as q hq at h
    obtain ⟨d, hd, rfl⟩ := map_ok h
    rw [optM_render _ i1.qubitList hq, optM_render _ i1.designator hd, rng_eq, ← rOQubitList_eq,
      ← rODesignator_eq]; rfl
  · -- RESET
    obtain ⟨g, hg, rfl⟩ := map_ok h
    rw [optM_render _ i1.gateOperand hg, rng_eq, ← rOGateOperand_eq]; rfl
  · -- INCLUDE
    obtain ⟨f, hf, rfl⟩ := map_ok h
    rw [optM_render _ filePath_render hf, rng_eq]; rfl
  · -- EXPR_STMT
    obtain ⟨e, he, rfl⟩ := map_ok h
    rw [optM_render _ i1.expr he, rng_eq, ← rOExpr_eq]; rfl
  · cases h; rfl
  · -- PRAGMA_STATEMENT
    cases hx : PragmaStatement.pragma_text n with
    | panic => rw [hx] at h; cases h
    | ok t =>
      rw [hx] at h; cases h
      simp only [pText]; rw [← rStr_str t]; rfl
  · -- ANNOTATION_STATEMENT
    cases hx : AnnotationStatement.annotation_text n with
    | panic => rw [hx] at h; cases h
    | ok t =>
      rw [hx] at h; cases h
      simp only [pText]; rw [← rStr_str t]; rfl
  · -- ALIAS_DECLARATION_STATEMENT
    bmcase Build.optM Build.name (AliasDeclarationStatement.name n) as nm hnm at h
    obtain ⟨e, he, rfl⟩ := map_ok h
    rw [optM_render _ name_render hnm, optM_render _ i1.expr he, rng_eq, ← rOExpr_eq]; rfl
  · cases h; rfl
  · cases h; rfl
  · cases h; rfl
  · cases h; rfl
  · cases h; rfl
  · cases h; rfl
  · cases h; rfl
  · cases h  -- not a `Stmt` kind: `Build.stmt` fails

theorem ih2_zero : IH2 0 := by
  constructor <;> intro n v h <;> cases h

theorem ih2_succ (ih : IH2 fuel) : IH2 (fuel + 1) :=
  ⟨s_stmt ih, s_blockExpr ih, s_bos ih, s_caseExpr ih⟩

theorem ih2 : ∀ fuel, IH2 fuel
  | 0 => ih2_zero
  | fuel + 1 => ih2_succ (ih2 fuel)

theorem dump_eq_render (root : CNode) (p : Ast.Program) (h : Build.program root = .ok p) :
    Dump.program root = Render.program p := by
  unfold Build.program Build.programWith Build.defaultFuel at h
  obtain ⟨ss, hss, rfl⟩ := map_ok h
  unfold Dump.program Render.program
  rw [listM_render _ (ih2 _).stmt hss, rng_eq, ← rStmts_eq]

end Oq3.Acc.Render
