/-
Event-level Pratt round trip: `current_op` and `bump(op)` on the operators of the table.  For each of the
19 binary operators, `opF` (`current_op` as a pure function of the input, `Lemmas/SymExec.lean`) at its
(joint) pieces, followed by a token that is not a second piece of a composite token, is `(pow, kind, left)`
(`opF_binop`), and `bump(kind)` consumes exactly the pieces (`bump_atF_ov`, `atF_binop`).
-/
import Oq3.Lemmas.PrattEv
import Oq3.Lemmas.Safe
import Oq3.Lemmas.SymExec

namespace Oq3.PrattEv
open Oq3.Gen Oq3.Parser Oq3.Grammar
open Oq3.Gen.Ops (Assoc)

/-- the input of `s` holds the tokens `ts` from position `q` on; a `true` joint bit is required,
a `false` one is not constrained -/
def Toks (s : P) : Nat → List (SyntaxKind × Bool) → Prop
  | _, [] => True
  | q, (k, j) :: ts => s.kindAt q = k ∧ (j = true → s.joint.getD q false = true) ∧ Toks s (q + 1) ts

theorem Toks_append (s : P) (q : Nat) (a b : List (SyntaxKind × Bool)) :
    Toks s q (a ++ b) ↔ Toks s q a ∧ Toks s (q + a.length) b := by
  induction a generalizing q with
  | nil => simp [Toks]
  | cons x xs ih =>
    obtain ⟨k, j⟩ := x
    simp only [List.cons_append, Toks, ih, List.length_cons]
    rw [show q + 1 + xs.length = q + (xs.length + 1) by omega]
    constructor
    · rintro ⟨a, b, c, d⟩; exact ⟨⟨a, b, c⟩, d⟩
    · rintro ⟨⟨a, b, c⟩, d⟩; exact ⟨a, b, c, d⟩

theorem BinOp.pieces_length (o : BinOp) : o.toks.length = o.pieces.length := by
  cases o <;> rfl

/-- tokens that can start an operand of our trees -/
def operandFirst (k : SyntaxKind) : Bool :=
  k == .IDENT || k == .INT_NUMBER || k == .L_PAREN || k == .TILDE || k == .BANG || k == .MINUS

/-- the token cannot be glued to an operator piece before it to form a composite token -/
def NoSecond (k : SyntaxKind) : Prop :=
  k ≠ .EQ ∧ k ≠ .PLUS ∧ k ≠ .STAR ∧ k ≠ .AMP ∧ k ≠ .PIPE ∧ k ≠ .L_ANGLE ∧ k ≠ .R_ANGLE ∧ k ≠ .DOT

theorem operandFirst_ne {k : SyntaxKind} (h : operandFirst k = true) : NoSecond k := by
  simp only [operandFirst, Bool.or_eq_true, beq_iff_eq] at h
  unfold NoSecond
  rcases h with ((((h | h) | h) | h) | h) | h <;> subst h <;> decide

theorem operandFirst_ne_close {k : SyntaxKind} (h : operandFirst k = true) :
    k ≠ .R_PAREN ∧ k ≠ .EOF ∧ k ≠ .R_CURLY ∧ k ≠ .COMMA ∧ k ≠ .SEMICOLON := by
  simp only [operandFirst, Bool.or_eq_true, beq_iff_eq] at h
  rcases h with ((((h | h) | h) | h) | h) | h <;> subst h <;> decide

theorem atF_comp2 (k k1 k2 : SyntaxKind) (hc : compositePieces k = some [k1, k2])
    (K : Array SyntaxKind) (J : Array Bool) (p : Nat) :
    atF k K J p = (K.getD p .EOF == k1 && K.getD (p + 1) .EOF == k2 && J.getD p false) := by
  unfold atF; rw [hc]

theorem atF_comp3 (k k1 k2 k3 : SyntaxKind) (hc : compositePieces k = some [k1, k2, k3])
    (K : Array SyntaxKind) (J : Array Bool) (p : Nat) :
    atF k K J p = (K.getD p .EOF == k1 && K.getD (p + 1) .EOF == k2 && K.getD (p + 2) .EOF == k3
      && J.getD p false && J.getD (p + 1) false) := by
  unfold atF; rw [hc]

/-- only the rows whose first token is the current token matter -/
theorem scanF_filter (cur : SyntaxKind) (K : Array SyntaxKind) (J : Array Bool) (p : Nat)
    (rows : List (SyntaxKind × Option SyntaxKind × Option (Nat × SyntaxKind × Assoc))) :
    scanF cur K J p rows = scanF cur K J p (rows.filter (·.1 == cur)) := by
  induction rows with
  | nil => rfl
  | cons r rows ih =>
    obtain ⟨k, g, res⟩ := r
    by_cases hk : (k == cur) = true
    · simp only [List.filter, hk, scanF, if_true]
      cases g with
      | none => rfl
      | some g => simp only [ih]
    · simp only [List.filter, hk, scanF, if_false, Bool.false_eq_true]; exact ih

set_option hygiene false in
/-- one operator case of an `opF` lemma (names `s q h hn` of the statement); `opF_binop` uses `op_case2` -/
macro "op_case " rows:ident : tactic => `(tactic| (
  simp only [BinOp.toks, BinOp.pieces, jointed, Toks, P.kindAt, true_implies] at h hn
  have hne := operandFirst_ne hn
  unfold opF
  rw [h.1, scanF_filter, $rows:ident]
  obtain ⟨e1, e2, e3, e4, e5, e6, e7, e8⟩ := hne
  simp only [scanF, atF_MINUSEQ, atF_NEQ, atF_STAREQ, atF_SLASHEQ, atF_AMP2, atF_AMPEQ, atF_PERCENTEQ,
    atF_CARETEQ, atF_PLUSEQ, atF_DOUBLE_PLUS, atF_DOUBLE_STAR, atF_SHL, atF_LTEQ, atF_EQ2,
    atF_FAT_ARROW, atF_GTEQ, atF_SHR, atF_PIPEEQ, atF_PIPE2, atF_SHLEQ, atF_SHREQ, h,
    e1, e2, e3, e4, e5, e6, e7, e8,
    Bool.and_eq_true, beq_iff_eq, false_and, and_false, if_false, if_true, true_and, and_true,
    Option.getD_some, Option.getD_none, notAnOp, BinOp.pow, BinOp.kind, reduceCtorEq, beq_self_eq_true,
    Bool.true_and, Bool.and_true, and_self]))

end Oq3.PrattEv

namespace Oq3.LangEv2
open Oq3.Gen Oq3.Parser Oq3.Grammar Oq3.PrattEv

set_option hygiene false in
/-- one case of `opF_binop` (names `s q h hne` of the statement) -/
macro "op_case2 " rows:ident : tactic => `(tactic| (
  simp only [BinOp.toks, BinOp.pieces, jointed, Toks, P.kindAt, true_implies, List.length_cons, List.length_nil, Nat.zero_add, Nat.reduceAdd] at h hne
  unfold opF
  rw [h.1, scanF_filter, $rows:ident]
  obtain ⟨e1, e2, e3, e4, e5, e6, e7, e8⟩ := hne
  simp only [scanF, atF_MINUSEQ, atF_NEQ, atF_STAREQ, atF_SLASHEQ, atF_AMP2, atF_AMPEQ, atF_PERCENTEQ,
    atF_CARETEQ, atF_PLUSEQ, atF_DOUBLE_PLUS, atF_DOUBLE_STAR, atF_SHL, atF_LTEQ, atF_EQ2,
    atF_FAT_ARROW, atF_GTEQ, atF_SHR, atF_PIPEEQ, atF_PIPE2, atF_SHLEQ, atF_SHREQ, h,
    e1, e2, e3, e4, e5, e6, e7, e8,
    Bool.and_eq_true, beq_iff_eq, false_and, and_false, if_false, if_true, true_and, and_true,
    Option.getD_some, Option.getD_none, notAnOp, BinOp.pow, BinOp.kind, reduceCtorEq, beq_self_eq_true,
    Bool.true_and, Bool.and_true, and_self]))

end Oq3.LangEv2

namespace Oq3.PrattEv
open Oq3.Gen Oq3.Parser Oq3.Grammar
open Oq3.Gen.Ops (Assoc)

-- BEGIN GENERATED (tools/gen_prattev_ops.py)
/-- closed forms of `atF` for the composite kinds -/
theorem atF_MINUSEQ (K : Array SyntaxKind) (J : Array Bool) (p : Nat) :
    atF .MINUSEQ K J p = (K.getD p .EOF == .MINUS && K.getD (p + 1) .EOF == .EQ && J.getD p false) :=
  atF_comp2 .MINUSEQ .MINUS .EQ (by decide) K J p
theorem atF_THIN_ARROW (K : Array SyntaxKind) (J : Array Bool) (p : Nat) :
    atF .THIN_ARROW K J p = (K.getD p .EOF == .MINUS && K.getD (p + 1) .EOF == .R_ANGLE && J.getD p false) :=
  atF_comp2 .THIN_ARROW .MINUS .R_ANGLE (by decide) K J p
theorem atF_COLON2 (K : Array SyntaxKind) (J : Array Bool) (p : Nat) :
    atF .COLON2 K J p = (K.getD p .EOF == .COLON && K.getD (p + 1) .EOF == .COLON && J.getD p false) :=
  atF_comp2 .COLON2 .COLON .COLON (by decide) K J p
theorem atF_NEQ (K : Array SyntaxKind) (J : Array Bool) (p : Nat) :
    atF .NEQ K J p = (K.getD p .EOF == .BANG && K.getD (p + 1) .EOF == .EQ && J.getD p false) :=
  atF_comp2 .NEQ .BANG .EQ (by decide) K J p
theorem atF_DOT2 (K : Array SyntaxKind) (J : Array Bool) (p : Nat) :
    atF .DOT2 K J p = (K.getD p .EOF == .DOT && K.getD (p + 1) .EOF == .DOT && J.getD p false) :=
  atF_comp2 .DOT2 .DOT .DOT (by decide) K J p
theorem atF_STAREQ (K : Array SyntaxKind) (J : Array Bool) (p : Nat) :
    atF .STAREQ K J p = (K.getD p .EOF == .STAR && K.getD (p + 1) .EOF == .EQ && J.getD p false) :=
  atF_comp2 .STAREQ .STAR .EQ (by decide) K J p
theorem atF_SLASHEQ (K : Array SyntaxKind) (J : Array Bool) (p : Nat) :
    atF .SLASHEQ K J p = (K.getD p .EOF == .SLASH && K.getD (p + 1) .EOF == .EQ && J.getD p false) :=
  atF_comp2 .SLASHEQ .SLASH .EQ (by decide) K J p
theorem atF_AMP2 (K : Array SyntaxKind) (J : Array Bool) (p : Nat) :
    atF .AMP2 K J p = (K.getD p .EOF == .AMP && K.getD (p + 1) .EOF == .AMP && J.getD p false) :=
  atF_comp2 .AMP2 .AMP .AMP (by decide) K J p
theorem atF_AMPEQ (K : Array SyntaxKind) (J : Array Bool) (p : Nat) :
    atF .AMPEQ K J p = (K.getD p .EOF == .AMP && K.getD (p + 1) .EOF == .EQ && J.getD p false) :=
  atF_comp2 .AMPEQ .AMP .EQ (by decide) K J p
theorem atF_PERCENTEQ (K : Array SyntaxKind) (J : Array Bool) (p : Nat) :
    atF .PERCENTEQ K J p = (K.getD p .EOF == .PERCENT && K.getD (p + 1) .EOF == .EQ && J.getD p false) :=
  atF_comp2 .PERCENTEQ .PERCENT .EQ (by decide) K J p
theorem atF_CARETEQ (K : Array SyntaxKind) (J : Array Bool) (p : Nat) :
    atF .CARETEQ K J p = (K.getD p .EOF == .CARET && K.getD (p + 1) .EOF == .EQ && J.getD p false) :=
  atF_comp2 .CARETEQ .CARET .EQ (by decide) K J p
theorem atF_PLUSEQ (K : Array SyntaxKind) (J : Array Bool) (p : Nat) :
    atF .PLUSEQ K J p = (K.getD p .EOF == .PLUS && K.getD (p + 1) .EOF == .EQ && J.getD p false) :=
  atF_comp2 .PLUSEQ .PLUS .EQ (by decide) K J p
theorem atF_DOUBLE_PLUS (K : Array SyntaxKind) (J : Array Bool) (p : Nat) :
    atF .DOUBLE_PLUS K J p = (K.getD p .EOF == .PLUS && K.getD (p + 1) .EOF == .PLUS && J.getD p false) :=
  atF_comp2 .DOUBLE_PLUS .PLUS .PLUS (by decide) K J p
theorem atF_DOUBLE_STAR (K : Array SyntaxKind) (J : Array Bool) (p : Nat) :
    atF .DOUBLE_STAR K J p = (K.getD p .EOF == .STAR && K.getD (p + 1) .EOF == .STAR && J.getD p false) :=
  atF_comp2 .DOUBLE_STAR .STAR .STAR (by decide) K J p
theorem atF_SHL (K : Array SyntaxKind) (J : Array Bool) (p : Nat) :
    atF .SHL K J p = (K.getD p .EOF == .L_ANGLE && K.getD (p + 1) .EOF == .L_ANGLE && J.getD p false) :=
  atF_comp2 .SHL .L_ANGLE .L_ANGLE (by decide) K J p
theorem atF_LTEQ (K : Array SyntaxKind) (J : Array Bool) (p : Nat) :
    atF .LTEQ K J p = (K.getD p .EOF == .L_ANGLE && K.getD (p + 1) .EOF == .EQ && J.getD p false) :=
  atF_comp2 .LTEQ .L_ANGLE .EQ (by decide) K J p
theorem atF_EQ2 (K : Array SyntaxKind) (J : Array Bool) (p : Nat) :
    atF .EQ2 K J p = (K.getD p .EOF == .EQ && K.getD (p + 1) .EOF == .EQ && J.getD p false) :=
  atF_comp2 .EQ2 .EQ .EQ (by decide) K J p
theorem atF_FAT_ARROW (K : Array SyntaxKind) (J : Array Bool) (p : Nat) :
    atF .FAT_ARROW K J p = (K.getD p .EOF == .EQ && K.getD (p + 1) .EOF == .R_ANGLE && J.getD p false) :=
  atF_comp2 .FAT_ARROW .EQ .R_ANGLE (by decide) K J p
theorem atF_GTEQ (K : Array SyntaxKind) (J : Array Bool) (p : Nat) :
    atF .GTEQ K J p = (K.getD p .EOF == .R_ANGLE && K.getD (p + 1) .EOF == .EQ && J.getD p false) :=
  atF_comp2 .GTEQ .R_ANGLE .EQ (by decide) K J p
theorem atF_SHR (K : Array SyntaxKind) (J : Array Bool) (p : Nat) :
    atF .SHR K J p = (K.getD p .EOF == .R_ANGLE && K.getD (p + 1) .EOF == .R_ANGLE && J.getD p false) :=
  atF_comp2 .SHR .R_ANGLE .R_ANGLE (by decide) K J p
theorem atF_PIPEEQ (K : Array SyntaxKind) (J : Array Bool) (p : Nat) :
    atF .PIPEEQ K J p = (K.getD p .EOF == .PIPE && K.getD (p + 1) .EOF == .EQ && J.getD p false) :=
  atF_comp2 .PIPEEQ .PIPE .EQ (by decide) K J p
theorem atF_PIPE2 (K : Array SyntaxKind) (J : Array Bool) (p : Nat) :
    atF .PIPE2 K J p = (K.getD p .EOF == .PIPE && K.getD (p + 1) .EOF == .PIPE && J.getD p false) :=
  atF_comp2 .PIPE2 .PIPE .PIPE (by decide) K J p
theorem atF_DOT3 (K : Array SyntaxKind) (J : Array Bool) (p : Nat) :
    atF .DOT3 K J p = (K.getD p .EOF == .DOT && K.getD (p + 1) .EOF == .DOT && K.getD (p + 2) .EOF == .DOT
      && J.getD p false && J.getD (p + 1) false) :=
  atF_comp3 .DOT3 .DOT .DOT .DOT (by decide) K J p
theorem atF_DOT2EQ (K : Array SyntaxKind) (J : Array Bool) (p : Nat) :
    atF .DOT2EQ K J p = (K.getD p .EOF == .DOT && K.getD (p + 1) .EOF == .DOT && K.getD (p + 2) .EOF == .EQ
      && J.getD p false && J.getD (p + 1) false) :=
  atF_comp3 .DOT2EQ .DOT .DOT .EQ (by decide) K J p
theorem atF_SHLEQ (K : Array SyntaxKind) (J : Array Bool) (p : Nat) :
    atF .SHLEQ K J p = (K.getD p .EOF == .L_ANGLE && K.getD (p + 1) .EOF == .L_ANGLE && K.getD (p + 2) .EOF == .EQ
      && J.getD p false && J.getD (p + 1) false) :=
  atF_comp3 .SHLEQ .L_ANGLE .L_ANGLE .EQ (by decide) K J p
theorem atF_SHREQ (K : Array SyntaxKind) (J : Array Bool) (p : Nat) :
    atF .SHREQ K J p = (K.getD p .EOF == .R_ANGLE && K.getD (p + 1) .EOF == .R_ANGLE && K.getD (p + 2) .EOF == .EQ
      && J.getD p false && J.getD (p + 1) false) :=
  atF_comp3 .SHREQ .R_ANGLE .R_ANGLE .EQ (by decide) K J p

theorem rows_PIPE : Ops.currentOpRows.filter (·.1 == SyntaxKind.PIPE) =
    [(.PIPE, some .PIPE2, some (3, .PIPE2, .left)),
     (.PIPE, some .PIPEEQ, some (1, .PIPEEQ, .right)),
     (.PIPE, none, some (6, .PIPE, .left))] := by decide
theorem rows_R_ANGLE : Ops.currentOpRows.filter (·.1 == SyntaxKind.R_ANGLE) =
    [(.R_ANGLE, some .SHREQ, some (1, .SHREQ, .right)),
     (.R_ANGLE, some .SHR, some (9, .SHR, .left)),
     (.R_ANGLE, some .GTEQ, some (5, .GTEQ, .left)),
     (.R_ANGLE, none, some (5, .R_ANGLE, .left))] := by decide
theorem rows_EQ : Ops.currentOpRows.filter (·.1 == SyntaxKind.EQ) =
    [(.EQ, some .FAT_ARROW, none),
     (.EQ, some .EQ2, some (5, .EQ2, .left)),
     (.EQ, none, some (12, .EQ, .right))] := by decide
theorem rows_L_ANGLE : Ops.currentOpRows.filter (·.1 == SyntaxKind.L_ANGLE) =
    [(.L_ANGLE, some .LTEQ, some (5, .LTEQ, .left)),
     (.L_ANGLE, some .SHLEQ, some (1, .SHLEQ, .right)),
     (.L_ANGLE, some .SHL, some (9, .SHL, .left)),
     (.L_ANGLE, none, some (5, .L_ANGLE, .left))] := by decide
theorem rows_PLUS : Ops.currentOpRows.filter (·.1 == SyntaxKind.PLUS) =
    [(.PLUS, some .PLUSEQ, some (1, .PLUSEQ, .right)),
     (.PLUS, some .DOUBLE_PLUS, some (2, .DOUBLE_PLUS, .left)),
     (.PLUS, none, some (10, .PLUS, .left))] := by decide
theorem rows_STAR : Ops.currentOpRows.filter (·.1 == SyntaxKind.STAR) =
    [(.STAR, some .DOUBLE_STAR, some (7, .DOUBLE_STAR, .left)),
     (.STAR, some .STAREQ, some (1, .STAREQ, .right)),
     (.STAR, none, some (11, .STAR, .left))] := by decide
theorem rows_CARET : Ops.currentOpRows.filter (·.1 == SyntaxKind.CARET) =
    [(.CARET, some .CARETEQ, some (1, .CARETEQ, .right)),
     (.CARET, none, some (7, .CARET, .left))] := by decide
theorem rows_PERCENT : Ops.currentOpRows.filter (·.1 == SyntaxKind.PERCENT) =
    [(.PERCENT, some .PERCENTEQ, some (1, .PERCENTEQ, .right)),
     (.PERCENT, none, some (11, .PERCENT, .left))] := by decide
theorem rows_AMP : Ops.currentOpRows.filter (·.1 == SyntaxKind.AMP) =
    [(.AMP, some .AMPEQ, some (1, .AMPEQ, .right)),
     (.AMP, some .AMP2, some (4, .AMP2, .left)),
     (.AMP, none, some (8, .AMP, .left))] := by decide
theorem rows_SLASH : Ops.currentOpRows.filter (·.1 == SyntaxKind.SLASH) =
    [(.SLASH, some .SLASHEQ, some (1, .SLASHEQ, .right)),
     (.SLASH, none, some (11, .SLASH, .left))] := by decide
theorem rows_DOT : Ops.currentOpRows.filter (·.1 == SyntaxKind.DOT) =
    [(.DOT, some .DOT2EQ, some (2, .DOT2EQ, .left)),
     (.DOT, some .DOT2, some (2, .DOT2, .left))] := by decide
theorem rows_BANG : Ops.currentOpRows.filter (·.1 == SyntaxKind.BANG) =
    [(.BANG, some .NEQ, some (5, .NEQ, .left))] := by decide
theorem rows_MINUS : Ops.currentOpRows.filter (·.1 == SyntaxKind.MINUS) =
    [(.MINUS, some .MINUSEQ, some (1, .MINUSEQ, .right)),
     (.MINUS, none, some (10, .MINUS, .left))] := by decide
-- END GENERATED

theorem opF_binop (o : BinOp) (s : P) (q : Nat) (h : Toks s q o.toks)
    (hne : NoSecond (s.kindAt (q + o.pieces.length))) :
    opF s.kinds s.joint q = (o.pow, o.kind, .left) := by
  unfold NoSecond at hne
  cases o
  · op_case2 rows_PIPE
  · op_case2 rows_AMP
  · op_case2 rows_PIPE
  · op_case2 rows_CARET
  · op_case2 rows_AMP
  · op_case2 rows_EQ
  · op_case2 rows_BANG
  · op_case2 rows_L_ANGLE
  · op_case2 rows_L_ANGLE
  · op_case2 rows_R_ANGLE
  · op_case2 rows_R_ANGLE
  · op_case2 rows_L_ANGLE
  · op_case2 rows_R_ANGLE
  · op_case2 rows_PLUS
  · op_case2 rows_MINUS
  · op_case2 rows_STAR
  · op_case2 rows_SLASH
  · op_case2 rows_PERCENT
  · op_case2 rows_STAR

theorem atF_binop (o : BinOp) (s : P) (q : Nat) (h : Toks s q o.toks) :
    atF o.kind s.kinds s.joint q = true := by
  cases o <;>
    simp only [BinOp.toks, BinOp.pieces, jointed, Toks, P.kindAt, true_implies] at h <;>
    simp only [BinOp.kind, atF_AMP2, atF_NEQ, atF_DOUBLE_STAR, atF_SHL, atF_LTEQ, atF_EQ2, atF_GTEQ, atF_SHR,
      atF_PIPE2, h, beq_self_eq_true, Bool.and_self] <;>
    (rw [atF_simple (by decide)]; simp only [h, beq_self_eq_true])

theorem BinOp.eatRaw (o : BinOp) : eatRawTokens o.kind = o.pieces.length := by
  cases o <;> decide

theorem BinOp.kind_ne_eof (o : BinOp) : (o.kind == .EOF) = false := by cases o <;> rfl
theorem BinOp.kind_ne_eq (o : BinOp) : (o.kind == .EQ) = false := by cases o <;> rfl
theorem BinOp.pow_pos (o : BinOp) : 1 ≤ o.pow := by cases o <;> decide
theorem BinOp.pow_lt (o : BinOp) : o.pow < 255 := by cases o <;> decide
theorem BinOp.pieces_pos (o : BinOp) : 1 ≤ o.pieces.length := by cases o <;> decide

/-- what `expr_bp` and `lhs` ask of a prefix operator: it is in `EXPR_FIRST`, it is one of the three tokens that `lhs` takes
for a prefix operator, and `bump_any` does not see the end of the input -/
theorem PreOp.kind_props (o : PreOp) : (decide (o.kind.toNat < 128) && TokenSets.EXPR_FIRST.contains o.kind) = true ∧
    (o.kind == .TILDE || o.kind == .BANG || o.kind == .MINUS) = true ∧ (o.kind == .EOF) = false := by
  cases o <;> decide

/-- the first token of an operator is none of `(`, `[`, `IDENT`, `HARDWAREIDENT` (what `EndOK` forbids
after an operand) -/
theorem BinOp.first_tok (o : BinOp) : ∃ k j ts, o.toks = (k, j) :: ts ∧
    k ≠ .L_PAREN ∧ k ≠ .L_BRACK ∧ k ≠ .IDENT ∧ k ≠ .HARDWAREIDENT := by
  cases o <;> exact ⟨_, _, _, rfl, by decide, by decide, by decide, by decide⟩

theorem bump_atF_ov (k : SyntaxKind) (hk : (k == .EOF) = false) (s : P) (E : List Ev)
    (dp st sb lv : Nat) (pr : List Nat) (h : atF k s.kinds s.joint (s.pos + dp) = true) :
    bump k (s.ov E dp st sb lv pr) =
      .ok ((), s.ov (E ++ [.token k (eatRawTokens k)]) (dp + eatRawTokens k) 0 1 lv pr) := by
  unfold bump eat
  simp only [hk, Bool.false_eq_true, if_false]
  rw [G.bind_apply, G.bind_apply, at_total]
  have h' : atF k (s.ov E dp st sb lv pr).kinds (s.ov E dp st sb lv pr).joint (s.ov E dp st sb lv pr).pos
      = true := h
  simp only [h', Bool.not_true, Bool.false_eq_true, if_false]
  rw [G.bind_apply, doBump_ov]
  rfl

theorem BinOp.pow_impl (o : BinOp) : Oq3.Pratt.implTab.pow o.kind = o.pow := by
  cases o <;> decide +kernel

theorem BinOp.assoc_impl (o : BinOp) : Oq3.Pratt.implTab.assoc o.kind = .left := by
  cases o <;> decide +kernel

theorem BinOp.rbp_impl (o : BinOp) : Oq3.Pratt.rbp Oq3.Pratt.implTab o.kind = o.pow + 1 := by
  unfold Oq3.Pratt.rbp
  rw [o.assoc_impl, o.pow_impl]

theorem PreOp.preOK_impl (o : PreOp) : Oq3.Pratt.implTab.preOK o.kind = true := by
  cases o <;> decide +kernel

end Oq3.PrattEv
