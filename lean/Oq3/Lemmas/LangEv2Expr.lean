/-
C04, extended reference language: the run of `expr_bp` on extended expressions, by mutual
induction over `X` / `Prim` / the lists inside postfix operators (`exprX_okF`).
-/
import Oq3.Lemmas.LangEv2List
set_option linter.unusedSimpArgs false
set_option linter.unusedVariables false

namespace Oq3.LangEv2
open Oq3.Gen Oq3.Parser Oq3.Grammar Oq3.SymExec Oq3.PrattEv Oq3.LangEv

/-- number of postfix operators of a primary (an indexed identifier counts one) -/
def dP : Prim → Nat
  | .idIdx _ => 1
  | .call p _ => dP p + 1
  | .index p _ => dP p + 1
  | _ => 0

mutual
/-- fuel that must be left for the loop of `expr_bp` -/
def needX : X → Nat
  | .prim p => lhsNeed p + dP p + 4
  | .pre _ e => needX e + cFX e + 1
  | .bin _ l r => needX l + needX r + cFX r
def lhsNeed : Prim → Nat
  | .id => 4
  | .lit _ => 4
  | .timing _ => 4
  | .hw => 4
  | .measureE => 6
  | .measureHw => 6
  | .measureIdx ixs => sumIdx ixs + needIdxL ixs + 6
  | .paren e => needX e + cFX e + 8
  | .cast0 _ e => needX e + cFX e + 9
  | .castW _ w e => (needX w + cFX w) + (needX e + cFX e) + 10
  | .idIdx ixs => sumIdx ixs + needIdxL ixs + 6
  | .call p args => lhsNeed p + sumXs args + countXs args + 8
  | .index p items => lhsNeed p + sumItems items + countItems items + 10
def sumXs : XList → Nat
  | .nil => 0
  | .cons x xs => needX x + cFX x + sumXs xs
def sumItem : Item → Nat
  | .ex x => needX x + cFX x
  | .r2 lo hi => (needX lo + cFX lo) + (needX hi + cFX hi)
  | .r3 lo mid hi => (needX lo + cFX lo) + (needX mid + cFX mid) + (needX hi + cFX hi)
def sumItems : ItemList → Nat
  | .one i => sumItem i
  | .cons i is => sumItem i + sumItems is
def sumIdx : IdxList → Nat
  | .one is => sumItems is
  | .cons is rest => sumItems is + sumIdx rest
end

/-- **explicit fuel bound for an expression**: `expr_bp` accepts `x` with every fuel ≥ `fuelX x` -/
def fuelX (x : X) : Nat := needX x + cFX x

theorem ExprOKF.mono {x : X} {n n' : Nat} (h : ExprOKF x n) (hn : n ≤ n') : ExprOKF x n' :=
  fun bp f r s E0 dp st sb lv pr a b b' c d e g hf => h bp f r s E0 dp st sb lv pr a b b' c d e g (Nat.le_trans hn hf)

theorem XsOK.mono : ∀ {xs : XList} {n n' : Nat}, XsOK xs n → n ≤ n' → XsOK xs n'
  | .nil, _, _, _, _ => trivial
  | .cons x xs, _, _, h, hn => ⟨h.1.mono (by omega), XsOK.mono h.2 hn⟩

theorem ItemOKF.mono {i : Item} {n n' : Nat} (h : ItemOKF i n) (hn : n ≤ n') : ItemOKF i n' := by
  cases i with
  | ex x => exact ExprOKF.mono h hn
  | r2 lo hi => exact ⟨ExprOKF.mono h.1 hn, ExprOKF.mono h.2 hn⟩
  | r3 lo mid hi => exact ⟨ExprOKF.mono h.1 hn, ExprOKF.mono h.2.1 hn, ExprOKF.mono h.2.2 hn⟩

theorem ItemsOK.mono : ∀ {is : ItemList} {n n' : Nat}, ItemsOK is n → n ≤ n' → ItemsOK is n'
  | .one i, _, _, h, hn => ItemOKF.mono h hn
  | .cons i is, _, _, h, hn => ⟨ItemOKF.mono h.1 hn, ItemsOK.mono h.2 hn⟩

theorem IdxOK.mono : ∀ {ixs : IdxList} {n n' : Nat}, IdxOK ixs n → n ≤ n' → IdxOK ixs n'
  | .one is, _, _, h, hn => ItemsOK.mono h hn
  | .cons is rest, _, _, h, hn => ⟨ItemsOK.mono h.1 hn, IdxOK.mono h.2 hn⟩

theorem firstP_notPre : ∀ p : Prim, firstP p ≠ .TILDE ∧ firstP p ≠ .BANG ∧ firstP p ≠ .MINUS
  | .id => by decide
  | .lit k => by cases k <;> decide
  | .timing k => by cases k <;> decide
  | .hw => by decide
  | .paren _ => by simp only [firstP]; decide
  | .cast0 ty _ => by cases ty <;> simp only [firstP, Ty.kind] <;> decide
  | .castW ty _ _ => by cases ty <;> simp only [firstP, Ty.kind] <;> decide
  | .measureE => by decide
  | .measureHw => by decide
  | .measureIdx _ => by simp only [firstP]; decide
  | .idIdx _ => by simp only [firstP]; decide
  | .call p _ => firstP_notPre p
  | .index p _ => firstP_notPre p

theorem Prim.kind_ne_tomb (p : Prim) : (p.kind == .TOMBSTONE) = false := by cases p <;> rfl

theorem kindAt_ne_pos {s : P} {A B : Nat} {K : SyntaxKind} (h : s.kindAt B ≠ K) (e : A = B) : s.kindAt A ≠ K := e ▸ h

/-- `lhs` = `atom_expr`, then the loop of `postfix_expr` -/
theorem lhs_of_atom (f : Nat) (r : Restrictions) (s : P) (k0 : SyntaxKind) (h0 : s.kindAt (s.pos + 0) = k0)
    (hk0 : k0 ≠ .TILDE ∧ k0 ≠ .BANG ∧ k0 ≠ .MINUS) (kind : SyntaxKind) (B : List Ev) (nb sbb : Nat)
    (hatom : atomExpr (f + 1) r s = .ok (some (⟨s.events.size + 0, kind⟩, .notBlock), s.ov B nb 0 sbb s.live s.protectedPos))
    (res : CompletedMarker × BlockLike) (S'' : P)
    (hk : postfixExpr (f + 1) ⟨s.events.size + 0, kind⟩ .notBlock true (s.ov B nb 0 sbb s.live s.protectedPos) =
      .ok (res, S'')) :
    lhs (f + 2) r s = .ok (some res, S'') := by
  have hatom' := to_ov hatom
  have b1 := beq_false_of_ne (h0 ▸ hk0.1)
  have b2 := beq_false_of_ne (h0 ▸ hk0.2.1)
  have b3 := beq_false_of_ne (h0 ▸ hk0.2.2)
  have hallow : (!(r.preferStmt && BlockLike.notBlock.isBlock)) = true := by cases r.preferStmt <;> rfl
  have hk' : postfixExpr (f + 1) ⟨s.events.size + 0, kind⟩ .notBlock (!(r.preferStmt && BlockLike.notBlock.isBlock))
      (s.ov B nb 0 sbb s.live s.protectedPos) = .ok (res, S'') := by rw [hallow]; exact hk
  apply of_ov
  sym_eval [b1, b2, b3, hatom', hk']
  rfl

/-- continuation form for a primary: `lhs` on its print is the loop of `postfix_expr` continued after it -/
def LhsCPS (p : Prim) : Prop :=
  ∀ (f : Nat) (r : Restrictions) (s : P) (res : CompletedMarker × BlockLike) (S'' : P),
    lhsNeed p ≤ f → RdyL 3 s → Toks s s.pos (toksP p) → EndIn (lastP p) (s.kindAt (s.pos + (toksP p).length)) → CanonP p →
    postfixExpr (f + 1) ⟨s.events.size + rootP p, p.kind⟩ .notBlock true
      (s.ov (bodyP p none) (toksP p).length 0 (sbP p) s.live s.protectedPos) = .ok (res, S'') →
    lhs (f + dP p + 2) r s = .ok (some res, S'')

/-- `LhsCPS` from `RdyF` -/
def LhsCPSF (p : Prim) : Prop :=
  ∀ (f : Nat) (r : Restrictions) (s : P) (res : CompletedMarker × BlockLike) (S'' : P),
    lhsNeed p ≤ f → RdyF 3 s → Toks s s.pos (toksP p) → EndIn (lastP p) (s.kindAt (s.pos + (toksP p).length)) → CanonP p →
    postfixExpr (f + 1) ⟨s.events.size + rootP p, p.kind⟩ .notBlock true
      (s.ov (bodyP p none) (toksP p).length 0 (sbP p) s.live s.protectedPos) = .ok (res, S'') →
    lhs (f + dP p + 2) r s = .ok (some res, S'')

theorem lhsC_of_atom {p : Prim} {need : Nat} (h : AtomRun p need) (hn : need ≤ lhsNeed p + 1) (hroot : rootP p = 0)
    (hd : dP p = 0) : LhsCPSF p := by
  intro f r s res S'' hf hr htk hend hc hk
  obtain ⟨j, ts, hts⟩ := toksP_first p
  rw [hroot] at hk
  rw [hd]
  exact lhs_of_atom f r s _ (Toks_head htk hts) (firstP_notPre p) _ _ _ _ (h (f + 1) r s (by omega) hr htk hend hc) res S'' hk

theorem endIn_lparen (l : LastTok) : EndIn l .L_PAREN := by cases l <;> simp [EndIn]

theorem lhsC_call (p : Prim) (args : XList) (ihp : LhsCPSF p) (hargs : XsOK args (sumXs args)) : LhsCPSF (.call p args) := by
  intro f r s res S'' hf hr htk hend hc hk
  simp only [toksP, Toks_append, Toks, tk, List.length_cons, List.length_append, List.length_nil] at htk hend hk
  obtain ⟨htp, hlp, -, hta, hrp, -, -⟩ := htk
  simp only [lhsNeed] at hf
  simp only [CanonP] at hc
  show lhs (f + (dP p + 1) + 2) r s = _
  rw [show f + (dP p + 1) + 2 = (f + 1) + dP p + 2 by omega]
  apply ihp (f + 1) r s res S'' (by omega) hr htp (by rw [hlp]; exact endIn_lparen _) hc.1
  -- one iteration of `postfix_expr` from the state after `p`
  have hroot := lenP_pos p
  have hB := bodyP_length p none
  have e : s.events.size + lenP p + 0 - (s.events.size + rootP p) = lenP p - rootP p := by omega
  have hca := callArgsX args (sumXs args) f
    (s.ov ((bodyP p none).set (rootP p) (.start p.kind (some (lenP p - rootP p))) ++ [Ev.start SyntaxKind.TOMBSTONE none])
      ((toksP p).length + 0) 0 (sbP p + 1) (s.live + 1) ((s.events.size + lenP p + 0) :: s.protectedPos))
    hargs (by omega)
    (hr.ov_cons 6 _ _ _ _ _ (by have := hr.lim; omega) (by simp only [List.length_append, List.length_set, List.length_cons, List.length_nil, hB]; omega))
    (kindAt_pos hlp (by show s.pos + _ + 0 = _; omega))
    ((Toks_ov s _ _ _ _ _ _ _ _).2 (Toks_pos hta (by show s.pos + _ + 1 = _; omega)))
    (kindAt_pos hrp (by show s.pos + _ + _ = _; omega)) hc.2
  rw [ov_ov] at hca
  refine post_iter_call (s.ov (bodyP p none) (toksP p).length 0 (sbP p) s.live s.protectedPos) hr.hook (fun q hq => ?_)
    (s.events.size + rootP p) p.kind p.kind none ?_ (kindAt_pos hlp (by show s.pos + _ + 0 = _; omega)) f .notBlock
    (.start .ARG_LIST none :: .start .EXPRESSION_LIST none :: .token .L_PAREN 1 ::
      (evsXs args ++ [.token .R_PAREN 1, .finish, .finish])) ((toksXs args).length + 2) 0 3 ?_ ?_ ?_ (res, S'') ?_
  · rw [ov_events_size]; exact Nat.lt_add_right _ (hr.prot q hq)
  · rw [ov_events_get]; exact bodyP_root p none
  · rw [setEv_ov_ov, setEv_ov_ov, ov_events_size, hB, e]
    simp only [List.append_assoc, List.cons_append, List.nil_append] at hca ⊢
    exact hca
  · exact kindAt_ne_pos hend.1 (by show s.pos + _ + _ = _; omega)
  · exact kindAt_ne_pos hend.2 (by show s.pos + _ + _ = _; omega)
  · rw [setEv_ov_ov, ov_events_size, hB, e]
    have eE : (bodyP p none).set (rootP p) (.start p.kind (some (lenP p - rootP p))) ++
        (Ev.start SyntaxKind.CALL_EXPR none :: ((Ev.start SyntaxKind.ARG_LIST none ::
          Ev.start SyntaxKind.EXPRESSION_LIST none :: Ev.token SyntaxKind.L_PAREN 1 ::
          (evsXs args ++ [Ev.token SyntaxKind.R_PAREN 1, Ev.finish, Ev.finish])) ++ [Ev.finish])) =
        bodyP (.call p args) none := by
      rw [bodyP_set_root]
      simp only [bodyP, List.cons_append, List.nil_append, List.append_assoc]
    rw [eE, show (toksP p).length + ((toksXs args).length + 2) = (toksP p).length + ((toksXs args).length + (0 + 1) + 1) by omega]
    exact hk

theorem endIn_lbrack (p : Prim) (h : indexable p = true) : EndIn (lastP p) .L_BRACK := by
  cases p <;> simp_all [indexable, lastP, EndIn]

theorem lhsC_index (p : Prim) (items : ItemList) (ihp : LhsCPSF p) (hitems : ItemsOK items (sumItems items)) : LhsCPSF (.index p items) := by
  intro f r s res S'' hf hr htk hend hc hk
  simp only [toksP, Toks_append, Toks, tk, List.length_cons, List.length_append, List.length_nil] at htk hend hk
  obtain ⟨htp, hlp, -, hta, hrp, -, -⟩ := htk
  have hkc : indexBaseKind p.kind = true := by
    have := hc.2.1
    cases p <;> simp_all [indexable, indexBaseKind, Prim.kind, X.kind]
  simp only [lhsNeed] at hf
  simp only [CanonP] at hc
  show lhs (f + (dP p + 1) + 2) r s = _
  rw [show f + (dP p + 1) + 2 = (f + 1) + dP p + 2 by omega]
  apply ihp (f + 1) r s res S'' (by omega) hr htp (by rw [hlp]; exact endIn_lbrack p hc.2.1) hc.1
  -- one iteration of `postfix_expr` from the state after `p`
  have hroot := lenP_pos p
  have hB := bodyP_length p none
  have e : s.events.size + lenP p + 0 - (s.events.size + rootP p) = lenP p - rootP p := by omega
  have hca := indexOp_acc items (sumItems items) f
    (s.ov ((bodyP p none).set (rootP p) (.start p.kind (some (lenP p - rootP p))) ++ [Ev.start SyntaxKind.TOMBSTONE none])
      ((toksP p).length + 0) 0 (sbP p + 1) (s.live + 1) ((s.events.size + lenP p + 0) :: s.protectedPos))
    hitems (by omega)
    (hr.ov_cons 6 _ _ _ _ _ (by have := hr.lim; omega) (by simp only [List.length_append, List.length_set, List.length_cons, List.length_nil, hB]; omega))
    (kindAt_pos hlp (by show s.pos + _ + 0 = _; omega))
    ((Toks_ov s _ _ _ _ _ _ _ _).2 (Toks_pos hta (by show s.pos + _ + 1 = _; omega)))
    (kindAt_pos hrp (by show s.pos + _ + _ = _; omega)) hc.2.2.1 hc.2.2.2
  rw [ov_ov] at hca
  refine post_iter_index (s.ov (bodyP p none) (toksP p).length 0 (sbP p) s.live s.protectedPos) hr.hook (fun q hq => ?_)
    (s.events.size + rootP p) p.kind p.kind hkc none ?_ (kindAt_pos hlp (by show s.pos + _ + 0 = _; omega)) f .notBlock
    (.start .INDEX_OPERATOR none :: .token .L_BRACK 1 :: .start .EXPRESSION_LIST none ::
      (evsItems items ++ [.finish, .token .R_BRACK 1, .finish])) ((toksItems items).length + 2) 0 2 ?_ (res, S'') ?_
  · rw [ov_events_size]; exact Nat.lt_add_right _ (hr.prot q hq)
  · rw [ov_events_get]; exact bodyP_root p none
  · rw [setEv_ov_ov, setEv_ov_ov, ov_events_size, hB, e]
    simp only [List.append_assoc, List.cons_append, List.nil_append] at hca ⊢
    exact hca
  · rw [setEv_ov_ov, ov_events_size, hB, e]
    have eE : (bodyP p none).set (rootP p) (.start p.kind (some (lenP p - rootP p))) ++
        (Ev.start SyntaxKind.INDEX_EXPR none :: ((Ev.start SyntaxKind.INDEX_OPERATOR none ::
          Ev.token SyntaxKind.L_BRACK 1 :: Ev.start SyntaxKind.EXPRESSION_LIST none ::
          (evsItems items ++ [Ev.finish, Ev.token SyntaxKind.R_BRACK 1, Ev.finish])) ++ [Ev.finish])) =
        bodyP (.index p items) none := by
      rw [bodyP_set_root]
      simp only [bodyP, List.cons_append, List.nil_append, List.append_assoc]
    rw [eE, show (toksP p).length + ((toksItems items).length + 2) = (toksP p).length + ((toksItems items).length + (0 + 1) + 1) by omega]
    exact hk

theorem lhsC_idIdx (ixs : IdxList) (hixs : IdxOK ixs (sumIdx ixs)) : LhsCPSF (.idIdx ixs) := by
  intro f r s res S'' hf hr htk hend hc hk
  simp only [toksP, Toks, tk, List.length_cons] at htk hend hk
  obtain ⟨h0, -, hti⟩ := htk
  rw [show s.pos = s.pos + 0 from rfl] at h0
  have h1 : s.kindAt (s.pos + 1) = .L_BRACK := by
    obtain ⟨ts, hts⟩ := toksIdx_head ixs
    exact Toks_head hti hts
  simp only [lhsNeed] at hf
  simp only [CanonP] at hc
  show lhs (f + 1 + 2) r s = _
  refine lhs_of_atom (f + 1) r s _ h0 (by decide) _ _ _ _
    (atom_id (f + 2) r s (by omega) hr ⟨h0, nofun, trivial⟩ (show s.kindAt (s.pos + 1) ≠ _ ∧ s.kindAt (s.pos + 1) ≠ _ from ⟨by rw [h1]; decide, by rw [h1]; decide⟩) trivial) res S'' ?_
  have e : s.events.size + 3 + 0 - (s.events.size + 0) = 3 := by omega
  have hca := idxLoop ixs (sumIdx ixs) f
    (s.ov [.start .IDENTIFIER (some 3), .token .IDENT 1, .finish, .start .TOMBSTONE none] (1 + 0) 0 (2 + 1) (s.live + 1)
      ((s.events.size + 3 + 0) :: s.protectedPos))
    hixs (by omega)
    (hr.ov_cons 6 _ _ _ _ _ (by have := hr.lim; omega) (by simp only [List.length_cons, List.length_nil]; omega))
    ((Toks_ov s _ _ _ _ _ _ _ _).2 hti)
    (kindAt_ne_pos hend (by show s.pos + _ + _ = _; omega)) hc.1 hc.2
  rw [ov_ov] at hca
  refine post_iter_idIdx (s.ov (bodyP .id none) 1 0 2 s.live s.protectedPos) hr.hook (fun q hq => ?_)
    (s.events.size + 0) .IDENTIFIER none ?_ h1 f .notBlock (evsIdx ixs) (toksIdx ixs).length 0 2 ?_ (res, S'') ?_
  · rw [ov_events_size]; exact Nat.lt_add_right _ (hr.prot q hq)
  · rw [ov_events_get]; rfl
  · rw [setEv_ov_ov, setEv_ov_ov, ov_events_size]
    simp only [bodyP, List.length_cons, List.length_nil, List.set_cons_zero, List.cons_append, List.nil_append,
      Nat.reduceAdd, e] at hca ⊢
    exact hca
  · rw [setEv_ov_ov, ov_events_size, Nat.add_comm 1]
    simp only [bodyP, List.length_cons, List.length_nil, List.set_cons_zero, List.cons_append, List.nil_append,
      Nat.reduceAdd, e] at hk ⊢
    exact hk

theorem lhsX_ov (p : Prim) (h : LhsCPSF p) (F : Nat) (r : Restrictions) (s : P) (E0 : List Ev) (dp st sb lv : Nat)
    (pr : List Nat) (hnp : s.noProgressLimit = 0) (hst : st + 3 ≤ s.stepLimit) (hlim : 8 ≤ s.stepLimit)
    (hpr : ∀ q ∈ pr, q < s.events.size + E0.length) (htk : Toks s (s.pos + dp) (toksP p))
    (hend : EndOKL (lastP p) (s.kindAt (s.pos + dp + (toksP p).length))) (hc : CanonP p)
    (hF : lhsNeed p + dP p + 3 ≤ F) :
    lhs F r (s.ov E0 dp st sb lv pr) =
      .ok (some (⟨s.events.size + E0.length + rootP p, p.kind⟩, .notBlock),
        s.ov (E0 ++ bodyP p none) (dp + (toksP p).length) 0 (sbP p) lv pr) := by
  obtain ⟨f, rfl⟩ : ∃ f, F = (f + 1) + dP p + 2 := ⟨F - dP p - 3, by omega⟩
  have e1 : (s.ov E0 dp st sb lv pr).events.size = s.events.size + E0.length := ov_size _ _
  have := h (f + 1) r (s.ov E0 dp st sb lv pr) (⟨s.events.size + E0.length + rootP p, p.kind⟩, .notBlock)
    (s.ov (E0 ++ bodyP p none) (dp + (toksP p).length) 0 (sbP p) lv pr) (by omega)
    (RdyF_ov 3 s _ _ _ _ _ _ hnp hst hpr hlim) ((Toks_ov s _ _ _ _ _ _ _ _).2 htk) hend.2.2 hc
    (by
      rw [e1, ov_ov]
      exact post_stop s _ (dp + (toksP p).length) _ _ _ _ (f + 1) _ _ (kindAt_ne_pos hend.1 (by omega)) (kindAt_ne_pos hend.2.1 (by omega)))
  exact this

/-- continuation form of the round trip for one expression, from a base state -/
def MBaseX (x : X) : Prop :=
  ∀ (bp f : Nat) (r : Restrictions) (s : P) (a : Option (CompletedMarker × BlockLike)) (S'' : P),
    RdyF 5 s → FitsX x s s.pos → CanonX bp x → needX x ≤ f →
    exprBpLoop f r bp ⟨s.events.size + (rootX x + 1), x.kind⟩
      (s.ov (evsX x) (toksX x).length 0 (sbX x) s.live s.protectedPos) = .ok (a, S'') →
    exprBp (f + cFX x) none r bp s = .ok (a, S'')

def isTyKw (k : SyntaxKind) : Bool :=
  k == .INT_TY || k == .UINT_TY || k == .FLOAT_TY || k == .ANGLE_TY || k == .BIT_TY || k == .BOOL_TY

def isEF (k : SyntaxKind) : Bool := decide (k.toNat < 128) && TokenSets.EXPR_FIRST.contains k

theorem isEF_true : [SyntaxKind.IDENT, .INT_NUMBER, .FLOAT_NUMBER, .BIT_STRING, .TRUE_KW, .FALSE_KW, .HARDWAREIDENT, .L_PAREN,
    .MEASURE_KW].all isEF = true := by decide
theorem isEF_of_mem {k : SyntaxKind} (h : [SyntaxKind.IDENT, .INT_NUMBER, .FLOAT_NUMBER, .BIT_STRING, .TRUE_KW, .FALSE_KW,
    .HARDWAREIDENT, .L_PAREN, .MEASURE_KW].contains k = true) : isEF k = true :=
  List.all_eq_true.1 isEF_true k (List.contains_iff_mem.1 h)
theorem isEF_ty (ty : Ty) : isEF ty.kind = false ∧ isClassicalType ty.kind = true := by cases ty <;> decide

theorem firstP_cases : ∀ p : Prim,
    isEF (firstP p) = true ∨
    (isEF (firstP p) = false ∧ isClassicalType (firstP p) = true ∧
      ∃ j k2 j2 ts, toksP p = (firstP p, j) :: (k2, j2) :: ts ∧ (k2 = .L_PAREN ∨ k2 = .L_BRACK))
  | .lit k => Or.inl (isEF_of_mem (by cases k <;> rfl))
  | .timing k => Or.inl (isEF_of_mem (by cases k <;> rfl))
  | .id | .hw | .paren _ | .measureE | .measureHw | .measureIdx _ | .idIdx _ => Or.inl (isEF_of_mem rfl)
  | .cast0 ty e => Or.inr ⟨(isEF_ty ty).1, (isEF_ty ty).2, _, _, _, _, rfl, Or.inl rfl⟩
  | .castW ty w e => Or.inr ⟨(isEF_ty ty).1, (isEF_ty ty).2, _, _, _, _, rfl, Or.inr rfl⟩
  | .call p args => by
    rcases firstP_cases p with h | ⟨h1, h2, j, k2, j2, ts, ht, hk⟩
    · exact Or.inl h
    · exact Or.inr ⟨h1, h2, j, k2, j2, ts ++ (tk .L_PAREN :: (toksXs args ++ [tk .R_PAREN])), by simp [toksP, firstP, ht], hk⟩
  | .index p items => by
    rcases firstP_cases p with h | ⟨h1, h2, j, k2, j2, ts, ht, hk⟩
    · exact Or.inl h
    · exact Or.inr ⟨h1, h2, j, k2, j2, ts ++ (tk .L_BRACK :: (toksItems items ++ [tk .R_BRACK])), by simp [toksP, firstP, ht], hk⟩

theorem MX_prim (p : Prim) (h : LhsCPSF p) : MBaseX (.prim p) := by
  intro bp f r s a S'' hr hfit hcan hf hloop
  obtain ⟨htk, hend, -⟩ := hfit
  simp only [toksX, lastX, EndOKX] at htk hend hloop
  simp only [CanonX] at hcan
  simp only [needX] at hf
  obtain ⟨j, ts, hts⟩ := toksP_first p
  have h0 : s.kindAt (s.pos + 0) = firstP p := Toks_head htk hts
  have hl : ∀ st, st + 3 ≤ s.stepLimit → lhs f r (s.ov [Ev.start SyntaxKind.TOMBSTONE none] 0 st (s.sinceBump + 1) (s.live + 1) s.protectedPos) = _ :=
    fun st hst => lhsX_ov p h f r s _ 0 st _ _ _ hr.hook hst hr.lim (hr.prot' _) (by rw [Nat.add_zero]; exact htk)
      (by rw [Nat.add_zero]; exact hend) hcan (by omega)
  have e1 : s.events.size + 1 + rootP p = s.events.size + (rootP p + 1) := by omega
  simp only [List.cons_append, List.nil_append, List.length_cons, List.length_nil, Nat.zero_add, e1] at hl
  have hnp := hr.hook
  have hpr := hr.prot
  have hsteps := hr.steps
  have hst : s.steps ≤ s.stepLimit := by omega
  have hroot := bodyP_root p none
  have hkt := Prim.kind_ne_tomb p
  show exprBp (f + 1) none r bp s = _
  apply of_ov
  have hloop' : exprBpLoop f r bp ⟨s.events.size + (rootP p + 1), p.kind⟩
      (s.ov (Ev.start SyntaxKind.TOMBSTONE (some (rootP p + 1)) :: bodyP p none) (toksP p).length 0 (sbP p) s.live
        s.protectedPos) = .ok (a, S'') := hloop
  rcases firstP_cases p with hEF | ⟨hEF, hICT, j, k2, j2, ts2, ht2, hk2⟩
  · rw [← h0] at hEF
    unfold isEF at hEF
    show _ = _
    sym_eval [filter_base s hpr, contains_base s hpr, hEF, hl, hroot, hkt, Nat.sub_zero, hloop']
    rfl
  · rw [← h0] at hEF hICT
    unfold isEF at hEF
    have h1 : s.kindAt (s.pos + 1) = k2 := by rw [ht2] at htk; exact htk.2.2.1
    have hla : (s.kindAt (s.pos + 1) == SyntaxKind.L_PAREN || s.kindAt (s.pos + 1) == SyntaxKind.L_BRACK) = true := by
      rw [h1]; rcases hk2 with h | h <;> rw [h] <;> rfl
    show _ = _
    sym_eval [filter_base s hpr, contains_base s hpr, hEF, hICT, hla, hl, hroot, hkt, Nat.sub_zero, hloop']
    rfl

theorem cFX_pos (x : X) : 1 ≤ cFX x := by cases x <;> simp only [cFX] <;> omega

theorem needX_pos (x : X) : 1 ≤ needX x := by
  cases x with
  | prim p => simp only [needX]; omega
  | pre o e => simp only [needX]; omega
  | bin o l r => have := cFX_pos r; simp only [needX]; omega

theorem RightStopsX_kinds (s s' : P) (hk : s'.kinds = s.kinds) (hj : s'.joint = s.joint) :
    ∀ (x : X) (q : Nat), RightStopsX x s' q ↔ RightStopsX x s q
  | .prim _, _ => Iff.rfl
  | .pre o e, q => by simp only [RightStopsX, RightStopsX_kinds s s' hk hj e q, StopsAt_kinds s s' hk hj]
  | .bin o l r, q => by simp only [RightStopsX, RightStopsX_kinds s s' hk hj r q, StopsAt_kinds s s' hk hj]

theorem FitsX_kinds (s s' : P) (hk : s'.kinds = s.kinds) (hj : s'.joint = s.joint) (x : X) (q : Nat) :
    FitsX x s' q ↔ FitsX x s q := by
  constructor
  · rintro ⟨a, b, c⟩
    exact ⟨(Toks_kinds s s' hk hj _ _).1 a, by simpa only [P.kindAt, hk] using b,
      (RightStopsX_kinds s s' hk hj _ _).1 c⟩
  · rintro ⟨a, b, c⟩
    exact ⟨(Toks_kinds s s' hk hj _ _).2 a, by simpa only [P.kindAt, hk] using b,
      (RightStopsX_kinds s s' hk hj _ _).2 c⟩

/-- the value form from the continuation form (the loop stops at the follow token) -/
theorem ExprOKF_of_MBaseX (x : X) (h : MBaseX x) : ExprOKF x (needX x + cFX x) := by
  intro bp f r s E0 dp st sb lv pr hnp hst hlim hpr hfit hcan hstop hf
  have hn := needX_pos x
  obtain ⟨g, rfl⟩ : ∃ g, f = (g + 1) + cFX x := ⟨f - cFX x - 1, by omega⟩
  have e1 : (s.ov E0 dp st sb lv pr).events.size = s.events.size + E0.length := ov_size _ _
  have hfit' : FitsX x (s.ov E0 dp st sb lv pr) (s.ov E0 dp st sb lv pr).pos :=
    (FitsX_kinds s (s.ov E0 dp st sb lv pr) rfl rfl x _).2 hfit
  have hstop' : StopsAt (s.ov E0 dp st sb lv pr) ((s.ov E0 dp st sb lv pr).pos + (toksX x).length) bp :=
    (StopsAt_kinds s (s.ov E0 dp st sb lv pr) rfl rfl _ _).2 hstop
  have := h bp (g + 1) r (s.ov E0 dp st sb lv pr) _ _ (RdyF_ov 5 s _ _ _ _ _ _ hnp hst hpr hlim) hfit' hcan (by omega)
    (loop_stop (s.ov E0 dp st sb lv pr) (evsX x) (toksX x).length 0 (sbX x) lv pr g bp r _ hstop')
  rw [this, ov_ov, e1]

theorem MX_pre (o : PreOp) (e : X) (ih : MBaseX e) : MBaseX (.pre o e) := by
  intro bp f r s a S'' hr hfit hcan hf hloop
  obtain ⟨g, rfl⟩ : ∃ g, f = g + 1 := ⟨f - 1, by simp only [needX] at hf; omega⟩
  have hg : needX e + cFX e ≤ g := by simp only [needX] at hf; omega
  obtain ⟨htk, hend, hright⟩ := hfit
  simp only [toksX, Toks, List.length_cons, lastX, EndOKX] at htk hend hright
  obtain ⟨h0, -, htk⟩ := htk
  simp only [CanonX] at hcan
  have hfit' : FitsX e s (s.pos + 1) :=
    ⟨htk, by rw [Nat.add_assoc, Nat.add_comm 1]; exact hend,
      by rw [Nat.add_assoc, Nat.add_comm 1]; exact hright.2⟩
  have hsub := fun st sb lv E0 h1 => ExprOKF_of_MBaseX e ih 255 g r s E0 1 st sb lv s.protectedPos hr.hook h1 hr.lim (hr.prot' _) hfit' hcan
    (by rw [Nat.add_assoc, Nat.add_comm 1]; exact hright.1) hg
  rw [show s.pos = s.pos + 0 from rfl] at h0
  have hloop' : exprBpLoop (g + 1) r bp ⟨s.events.size + 1, .PREFIX_EXPR⟩
      (s.ov (.start .TOMBSTONE (some 1) :: .start .PREFIX_EXPR none :: .token o.kind 1 :: (evsX e ++ [.finish]))
        (1 + (toksX e).length) 0 (sbX e + 1) s.live s.protectedPos) = .ok (a, S'') := by
    rw [show (toksX (.pre o e)).length = 1 + (toksX e).length from by simp only [toksX, List.length_cons, Nat.add_comm]]
      at hloop
    exact hloop
  have hnp := hr.hook
  have hpr := hr.prot
  have hsteps := hr.steps
  have hlim := hr.lim
  have hst : s.steps ≤ s.stepLimit := by omega
  show exprBp (g + 1 + 1) none r bp s = _
  apply of_ov
  -- the operator stays a variable: the run asks `o.kind_props` of it
  obtain ⟨f1, f2, f3⟩ := o.kind_props
  sym_eval [filter_base s hpr, contains_base s hpr, h0, f1, f2, f3, hsub, hloop']
  rfl


theorem MX_bin (o : BinOp) (l r : X) (ihl : MBaseX l) (ihr : MBaseX r) : MBaseX (.bin o l r) := by
  intro bp f r' s a S'' hrd hfit hcan hf hloop
  simp only [needX] at hf
  obtain ⟨htk, hend, hright⟩ := hfit
  simp only [toksX, Toks_append, List.length_append, BinOp.pieces_length, lastX, EndOKX] at htk hend hright
  obtain ⟨htl, hto, htr⟩ := htk
  simp only [CanonX] at hcan
  obtain ⟨hbp, hcr, hcl⟩ := hcan
  obtain ⟨jr, tsr, htsr⟩ := toksX_first r
  have hnext : NoSecond (s.kindAt (s.pos + (toksX l).length + o.pieces.length)) := by
    rw [htsr] at htr; rw [htr.1]; exact (xFirst_ne (firstX_xFirst r)).1
  have hop := opF_binop o s _ hto hnext
  have hnp := hrd.hook
  have hpr := hrd.prot
  have hcl' : CanonX bp l := by cases l <;> first | exact hcl | exact hcl.2
  have hfitl : FitsX l s s.pos := by
    refine ⟨htl, ?_, ?_⟩
    · obtain ⟨k, j, ts, hk, h1, h2, h3, h4⟩ := o.first_tok
      rw [hk] at hto
      rw [hto.1]
      unfold EndOKX EndOKL
      refine ⟨h1, h2, ?_⟩
      cases lastX l
      · exact ⟨h3, h4⟩
      · exact h3
      · exact ⟨h3, h4⟩
      · exact h2
      · trivial
    · cases l with
      | prim p => trivial
      | pre o' e' =>
        simp only [CanonX] at hcl
        have h255 : StopsAt s (s.pos + (toksX (X.pre o' e')).length) 255 := by
          unfold StopsAt; rw [hop]; exact o.pow_lt
        exact ⟨h255, rightStopsX_of_canon e' 255 s _ hcl h255 (Nat.le_refl _)⟩
      | bin o' l' r' =>
        obtain ⟨hlt, hcl2⟩ := hcl
        simp only [CanonX] at hcl2
        have hs : StopsAt s (s.pos + (toksX (X.bin o' l' r')).length) (o'.pow + 1) := by
          unfold StopsAt; rw [hop]; exact hlt
        exact ⟨hs, rightStopsX_of_canon r' (o'.pow + 1) s _ hcl2.2.1 hs (by have := o'.pow_lt; omega)⟩
  show exprBp (f + (cFX l + 1)) none r' bp s = _
  rw [show f + (cFX l + 1) = (f + 1) + cFX l by omega]
  apply ihl bp (f + 1) r' s a S'' hrd hfitl hcl' (by omega)
  -- one iteration of the loop, from the state after the left operand
  have hlen := lenX_pos l
  have hfitr : FitsX r s (s.pos + (toksX l).length + o.pieces.length) :=
    ⟨htr, by rw [Nat.add_assoc, Nat.add_assoc]; exact hend,
      by rw [Nat.add_assoc, Nat.add_assoc]; exact hright.2⟩
  have hstopr : StopsAt s (s.pos + (toksX l).length + o.pieces.length + (toksX r).length) (o.pow + 1) := by
    rw [Nat.add_assoc, Nat.add_assoc]; exact hright.1
  refine loop_iter_ov s hnp hpr (evsX l) _ _ _ l.kind (evsX_root l) o hto hnext bp hbp f r' _ (evsX r) (toksX r).length (sbX r)
    (ExprOKF_of_MBaseX r ihr (o.pow + 1) f _ s _ _ 0 1 _ _ hnp (by have := hrd.lim; omega) hrd.lim ?_
      (by rw [← Nat.add_assoc]; exact hfitr) hcr (by rw [← Nat.add_assoc]; exact hstopr) (by omega)) a S'' ?_
  · exact prot_cons hpr (by simp only [List.length_append, List.length_set, List.length_cons, List.length_nil]; omega)
  · have eE : (evsX l).set (rootX l + 1) (.start l.kind (some ((evsX l).length - (rootX l + 1)))) ++
        (.start .BIN_EXPR none :: .token o.kind o.pieces.length :: (evsX r ++ [.finish])) = evsX (.bin o l r) := by
      rw [evsX_set_root, evsX_length, show lenX l + 1 - (rootX l + 1) = lenX l - rootX l by omega]
      simp only [evsX, bodyX, headOff, List.cons_append, List.nil_append, List.append_assoc]
    have eN : (toksX l).length + o.pieces.length + (toksX r).length = (toksX (.bin o l r)).length := by
      simp only [toksX, List.length_append, BinOp.pieces_length]; omega
    have eP : s.events.size + (evsX l).length = s.events.size + (rootX (.bin o l r) + 1) := by
      rw [evsX_length]; rfl
    rw [eE, eN, eP]
    exact hloop

mutual
theorem mbaseX : ∀ x : X, MBaseX x
  | .prim p => MX_prim p (lhsCPSF p)
  | .pre o e => MX_pre o e (mbaseX e)
  | .bin o l r => MX_bin o l r (mbaseX l) (mbaseX r)
theorem lhsCPSF : ∀ p : Prim, LhsCPSF p
  | .id => lhsC_of_atom atom_id (by decide) rfl rfl
  | .lit k => lhsC_of_atom (atom_lit k) (Nat.le_add_left _ _) rfl rfl
  | .timing k => lhsC_of_atom (atom_timing k) (Nat.le_add_left _ _) rfl rfl
  | .hw => lhsC_of_atom atom_hw (by decide) rfl rfl
  | .measureE => lhsC_of_atom atom_measure (by decide) rfl rfl
  | .measureHw => lhsC_of_atom atom_measureHw (by decide) rfl rfl
  | .measureIdx ixs => lhsC_of_atom (atom_measureIdx ixs _ (idxOK ixs)) (by simp only [lhsNeed]; omega) rfl rfl
  | .paren e => lhsC_of_atom (atom_paren e _ (ExprOKF_of_MBaseX e (mbaseX e))) (by simp only [lhsNeed, fuelX]; omega) rfl rfl
  | .cast0 ty e => lhsC_of_atom (atom_cast0 ty e _ (ExprOKF_of_MBaseX e (mbaseX e))) (by simp only [lhsNeed, fuelX]; omega) rfl rfl
  | .castW ty w e => lhsC_of_atom (atom_castW ty w e _ _ (ExprOKF_of_MBaseX w (mbaseX w)) (ExprOKF_of_MBaseX e (mbaseX e)))
      (by simp only [lhsNeed, fuelX]; omega) rfl rfl
  | .idIdx ixs => lhsC_idIdx ixs (idxOK ixs)
  | .call p args => lhsC_call p args (lhsCPSF p) (xsOK args)
  | .index p items => lhsC_index p items (lhsCPSF p) (itemsOK items)
theorem xsOK : ∀ xs : XList, XsOK xs (sumXs xs)
  | .nil => trivial
  | .cons x xs => ⟨(ExprOKF_of_MBaseX x (mbaseX x)).mono (by simp only [sumXs]; omega),
      (xsOK xs).mono (by simp only [sumXs]; omega)⟩
theorem itemOKF : ∀ i : Item, ItemOKF i (sumItem i)
  | .ex x => ExprOKF_of_MBaseX x (mbaseX x)
  | .r2 lo hi => ⟨(ExprOKF_of_MBaseX lo (mbaseX lo)).mono (by simp only [sumItem]; omega),
      (ExprOKF_of_MBaseX hi (mbaseX hi)).mono (by simp only [sumItem]; omega)⟩
  | .r3 lo mid hi => ⟨(ExprOKF_of_MBaseX lo (mbaseX lo)).mono (by simp only [sumItem]; omega),
      (ExprOKF_of_MBaseX mid (mbaseX mid)).mono (by simp only [sumItem]; omega),
      (ExprOKF_of_MBaseX hi (mbaseX hi)).mono (by simp only [sumItem]; omega)⟩
theorem itemsOK : ∀ is : ItemList, ItemsOK is (sumItems is)
  | .one i => itemOKF i
  | .cons i is => ⟨(itemOKF i).mono (by simp only [sumItems]; omega), (itemsOK is).mono (by simp only [sumItems]; omega)⟩
theorem idxOK : ∀ ixs : IdxList, IdxOK ixs (sumIdx ixs)
  | .one is => itemsOK is
  | .cons is rest => ⟨(itemsOK is).mono (by simp only [sumIdx]; omega), (idxOK rest).mono (by simp only [sumIdx]; omega)⟩
end

/-- **the expression rule for the extended expressions**: `expr_bp` parses the print of `x` with exactly
the events `evsX x`, for every fuel ≥ `fuelX x` -/
theorem exprX_okF (x : X) : ExprOKF x (fuelX x) := ExprOKF_of_MBaseX x (mbaseX x)

theorem exprX_ok (x : X) : ExprOK x (fuelX x) := (exprX_okF x).toOK

theorem itemOK : ∀ i : Item, ItemOK i (sumItem i) := fun i => (itemOKF i).toOK

theorem lhsCPS : ∀ p : Prim, LhsCPS p := fun p f r s res S'' hf hr => lhsCPSF p f r s res S'' hf hr.toF

end Oq3.LangEv2
