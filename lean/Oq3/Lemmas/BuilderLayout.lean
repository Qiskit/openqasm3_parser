/-
The tree builder (`Model/Builder.lean`: `intersperse_trivia` + `SyntaxTreeBuilder`) puts trivia
INTO the tree but nothing else depends on it:

* `intersperse_sim`: for two raw token tables with the same non-trivia sub-sequence and the same
  parser steps, the emitted step lists agree up to trivia tokens and error offsets (`norm`);
* `tbRun_norm`: the tree built from a step list, with its trivia leaves erased, is the tree built
  from the normalised step list;
* `buildTree_layout`: hence `eraseTriviaT tree₁ = eraseTriviaT tree₂`.

The one extra hypothesis, `glueOk`: a composite token step (`token k n`, `n ≥ 2`: `>>=`, `&&`, …,
which the parser forms only from JOINT raw tokens) does not swallow a trivia token.  It is
necessary (`glue_needed` in `Props/C17Layout.lean`: `[>, >]` against `[>, ␣, >]` under the step `token SHR 2`).
-/
import Oq3.Lemmas.Builder

namespace Oq3.BuilderLayout
open Oq3.Gen Oq3.Parser Oq3.Builder

/-- drop trivia tokens, forget error offsets -/
def norm : List StrStep → List StrStep
  | [] => []
  | .token k t :: r => if k.isTrivia then norm r else .token k t :: norm r
  | .error m _ :: r => .error m 0 :: norm r
  | s :: r => s :: norm r

theorem norm_append (a b : List StrStep) : norm (a ++ b) = norm a ++ norm b := by
  induction a with
  | nil => rfl
  | cons x xs ih =>
    cases x with
    | token k t => by_cases h : k.isTrivia = true <;> simp [norm, h, ih]
    | enter k => simp [norm, ih]
    | exit => simp [norm, ih]
    | error m p => simp [norm, ih]

def nt (l : List RawTok) : List RawTok := l.filter (fun t => !t.kind.isTrivia)

theorem nt_cons_trivia {t : RawTok} {l : List RawTok} (h : t.kind.isTrivia = true) : nt (t :: l) = nt l := by
  simp [nt, h]

theorem nt_cons_non {t : RawTok} {l : List RawTok} (h : t.kind.isTrivia = false) :
    nt (t :: l) = t :: nt l := by
  simp [nt, h]

theorem nt_append_non {a b : List RawTok} (h : ∀ t ∈ a, t.kind.isTrivia = false) :
    nt (a ++ b) = a ++ nt b := by
  induction a with
  | nil => rfl
  | cons x xs ih =>
    rw [List.cons_append, nt_cons_non (h x List.mem_cons_self),
      ih (fun t ht => h t (List.mem_cons_of_mem _ ht)), List.cons_append]

theorem nt_drop_take (toks : List RawTok) (p n : Nat)
    (g : ((toks.drop p).take n).all (fun t => !t.kind.isTrivia) = true) :
    nt (toks.drop p) = (toks.drop p).take n ++ nt (toks.drop (p + n)) := by
  conv => lhs; rw [← List.take_append_drop n (toks.drop p)]
  rw [nt_append_non (by
    intro t ht; have := List.all_eq_true.mp g t ht; simpa using this), List.drop_drop]

/-- the two builder states agree on what trivia cannot change: the state, the output up to `norm`,
the non-trivia raw tokens still to come.  For one token table and two states of one run
(`Sim toks toks b b'`) it says that the run from `b` to `b'` consumed trivia only. -/
structure Sim (toks1 toks2 : List RawTok) (b1 b2 : B) : Prop where
  state : b1.state = b2.state
  out : norm b1.out = norm b2.out
  rest : nt (toks1.drop b1.pos) = nt (toks2.drop b2.pos)

theorem Sim.refl (toks : List RawTok) (b : B) : Sim toks toks b b := ⟨rfl, rfl, rfl⟩

theorem Sim.symm {toks1 toks2 : List RawTok} {b1 b2 : B} (h : Sim toks1 toks2 b1 b2) :
    Sim toks2 toks1 b2 b1 := ⟨h.state.symm, h.out.symm, h.rest.symm⟩

theorem Sim.trans {toks1 toks2 toks3 : List RawTok} {a b c : B} (h1 : Sim toks1 toks2 a b)
    (h2 : Sim toks2 toks3 b c) : Sim toks1 toks3 a c :=
  ⟨h1.state.trans h2.state, h1.out.trans h2.out, h1.rest.trans h2.rest⟩

theorem Sim.emit {toks1 toks2 : List RawTok} {b1 b2 : B} (h : Sim toks1 toks2 b1 b2) {x y : StrStep}
    (hxy : norm [x] = norm [y]) : Sim toks1 toks2 (emit b1 x) (emit b2 y) := by
  refine ⟨h.state, ?_, h.rest⟩
  show norm (b1.out ++ [x]) = norm (b2.out ++ [y])
  rw [norm_append, norm_append, h.out, hxy]

theorem quiet_emit_trivia {toks : List RawTok} {b : B} {t : RawTok} (ht : toks[b.pos]? = some t)
    (hk : t.kind.isTrivia = true) :
    Sim toks toks b (emit { b with pos := b.pos + 1 } (.token t.kind t.text)) := by
  refine ⟨rfl, ?_, ?_⟩
  · simp [emit, norm_append, norm, hk]
  · show nt (toks.drop b.pos) = nt (toks.drop (b.pos + 1))
    rw [drop_eq_cons ht, nt_cons_trivia hk]

theorem eatTriviasAux_quiet {toks : List RawTok} (rest : List RawTok) (b : B)
    (hr : toks.drop b.pos = rest) :
    Sim toks toks b (eatTriviasAux rest b) ∧
      ∀ t, (toks.drop (eatTriviasAux rest b).pos).head? = some t → t.kind.isTrivia = false := by
  induction rest generalizing b with
  | nil =>
    refine ⟨Sim.refl _ _, ?_⟩
    intro t ht; simp only [eatTriviasAux] at ht; rw [hr] at ht; cases ht
  | cons t r ih =>
    simp only [eatTriviasAux]
    obtain ⟨ht, hr'⟩ := of_drop_eq_cons hr
    by_cases hk : t.kind.isTrivia = true
    · simp only [hk, if_true]
      obtain ⟨h1, h2⟩ := ih (emit { b with pos := b.pos + 1 } (.token t.kind t.text)) hr'
      exact ⟨(quiet_emit_trivia ht hk).trans h1, h2⟩
    · have hk' : t.kind.isTrivia = false := by simpa using hk
      simp only [hk', Bool.false_eq_true, if_false]
      refine ⟨Sim.refl _ _, ?_⟩
      intro t' ht'; rw [hr] at ht'; cases ht'
      exact hk'

theorem eatTrivias_pos_congr (toks : List RawTok) {b d : B} (h : d.pos = b.pos) :
    (eatTrivias toks d).pos = (eatTrivias toks b).pos := by
  simp only [eatTrivias, eatTriviasAux_pos, h]

theorem eatTrivias_quiet (toks : List RawTok) (b : B) :
    Sim toks toks b (eatTrivias toks b) ∧
      ∀ t, (toks.drop (eatTrivias toks b).pos).head? = some t → t.kind.isTrivia = false :=
  eatTriviasAux_quiet _ b rfl

theorem eatNTrivias_quiet {toks : List RawTok} (n : Nat) (b b' : B)
    (h : eatNTrivias toks n b = .ok b') : Sim toks toks b b' := by
  induction n generalizing b with
  | zero => simp only [eatNTrivias] at h; cases h; exact Sim.refl _ _
  | succ n ih =>
    obtain ⟨t, ht, hk, h⟩ := eatNTrivias_succ_ok.mp h
    exact (quiet_emit_trivia ht hk).trans (ih _ h)

theorem flushPending_sim {toks1 toks2 : List RawTok} {b1 b2 c1 c2 : B} (hs : Sim toks1 toks2 b1 b2)
    (h1 : flushPending b1 = .ok c1) (h2 : flushPending b2 = .ok c2) :
    Sim toks1 toks2 c1 c2 ∧ c1.state = .normal ∧ c1.pos = b1.pos ∧ c2.pos = b2.pos := by
  have hst := hs.state
  have hn : Sim toks1 toks2 { b1 with state := .normal } { b2 with state := .normal } :=
    ⟨rfl, hs.out, hs.rest⟩
  obtain ⟨e1, rfl⟩ | ⟨e1, rfl⟩ := flushPending_cases h1 <;>
    obtain ⟨e2, rfl⟩ | ⟨e2, rfl⟩ := flushPending_cases h2 <;> rw [e1, e2] at hst <;> cases hst
  · exact ⟨hn, rfl, rfl, rfl⟩
  · exact ⟨hn.emit rfl, rfl, rfl, rfl⟩

/-- the raw tokens a `token k n` step glues are not trivia -/
def tokenGlue (toks : List RawTok) (b : B) (n : Nat) : Bool :=
  ((toks.drop (eatTrivias toks b).pos).take n).all (fun t => !t.kind.isTrivia)

def stepGlue (toks : List RawTok) (b : B) : Step → Bool
  | .token _ n => tokenGlue toks b n
  | _ => true

/-- `glueOk` along a run: every composite token step consumes non-trivia raw tokens only -/
def glueOkFrom (toks : List RawTok) : List Step → B → Bool
  | [], _ => true
  | s :: ss, b =>
    match step toks b s with
    | .error _ => true
    | .ok b' => stepGlue toks b s && glueOkFrom toks ss b'

def glueOk (toks : List RawTok) (ss : List Step) : Bool := glueOkFrom toks ss {}

theorem doToken_sim {toks1 toks2 : List RawTok} {b1 b2 c1 c2 : B} {k : SyntaxKind} {n : Nat}
    (hs : Sim toks1 toks2 b1 b2)
    (g1 : ((toks1.drop b1.pos).take n).all (fun t => !t.kind.isTrivia) = true)
    (g2 : ((toks2.drop b2.pos).take n).all (fun t => !t.kind.isTrivia) = true)
    (h1 : doToken toks1 b1 k n = .ok c1) (h2 : doToken toks2 b2 k n = .ok c2) :
    Sim toks1 toks2 c1 c2 := by
  obtain ⟨_, hc1, rfl⟩ := doToken_ok_iff.mp h1
  obtain ⟨_, hc2, rfl⟩ := doToken_ok_iff.mp h2
  have hl1 : ((toks1.drop b1.pos).take n).length = n := by
    rw [List.length_take, List.length_drop]; omega
  have hl2 : ((toks2.drop b2.pos).take n).length = n := by
    rw [List.length_take, List.length_drop]; omega
  have e1 := nt_drop_take toks1 b1.pos n g1
  have e2 := nt_drop_take toks2 b2.pos n g2
  have hr := hs.rest
  rw [e1, e2] at hr
  obtain ⟨ha, hb⟩ := List.append_inj hr (hl1.trans hl2.symm)
  refine ⟨hs.state, ?_, ?_⟩
  · simp only [emit, norm_append, hs.out, ha]
  · simpa [emit] using hb

theorem enter_sim {toks1 toks2 : List RawTok} {b1 b2 c1 c2 : B} {k : SyntaxKind}
    (hs : Sim toks1 toks2 b1 b2)
    (h1 : enterBody toks1 b1 k = .ok c1) (h2 : enterBody toks2 b2 k = .ok c2) :
    Sim toks1 toks2 c1 c2 := by
  obtain ⟨d1, hf1, e1, he1, h1⟩ := enterBody_ok_iff.mp h1
  obtain ⟨d2, hf2, e2, he2, h2⟩ := enterBody_ok_iff.mp h2
  obtain ⟨hsd, _, _, _⟩ := flushPending_sim hs hf1 hf2
  have he : Sim toks1 toks2 e1 e2 :=
    (eatNTrivias_quiet _ _ _ he1).symm.trans (hsd.trans (eatNTrivias_quiet _ _ _ he2))
  exact (eatNTrivias_quiet _ _ _ h1).symm.trans ((he.emit rfl).trans (eatNTrivias_quiet _ _ _ h2))

theorem step_sim {toks1 toks2 : List RawTok} {b1 b2 c1 c2 : B} (s : Step)
    (hs : Sim toks1 toks2 b1 b2)
    (g1 : stepGlue toks1 b1 s = true) (g2 : stepGlue toks2 b2 s = true)
    (h1 : step toks1 b1 s = .ok c1) (h2 : step toks2 b2 s = .ok c2) : Sim toks1 toks2 c1 c2 := by
  cases s with
  | token k n =>
    obtain ⟨d1, hf1, h1⟩ := step_token_ok.mp h1
    obtain ⟨d2, hf2, h2⟩ := step_token_ok.mp h2
    obtain ⟨hsd, _, hp1, hp2⟩ := flushPending_sim hs hf1 hf2
    have hs' : Sim toks1 toks2 (eatTrivias toks1 d1) (eatTrivias toks2 d2) :=
      (eatTrivias_quiet toks1 d1).1.symm.trans (hsd.trans (eatTrivias_quiet toks2 d2).1)
    have e1 := eatTrivias_pos_congr toks1 hp1
    have e2 := eatTrivias_pos_congr toks2 hp2
    simp only [stepGlue, tokenGlue] at g1 g2
    rw [← e1] at g1; rw [← e2] at g2
    exact doToken_sim hs' g1 g2 h1 h2
  | enter k =>
    by_cases hb : b1.state = .pendingEnter
    · rw [step_enter_pending _ k hb] at h1; rw [step_enter_pending _ k (hs.state ▸ hb)] at h2
      cases h1; cases h2
      have hn : Sim toks1 toks2 { b1 with state := .normal } { b2 with state := .normal } :=
        ⟨rfl, hs.out, hs.rest⟩
      exact hn.emit rfl
    · rw [step_enter_eq _ _ _ hb] at h1
      rw [step_enter_eq _ _ _ (hs.state ▸ hb)] at h2
      exact enter_sim hs h1 h2
  | exit =>
    obtain ⟨d1, hf1, rfl⟩ := step_exit_ok.mp h1
    obtain ⟨d2, hf2, rfl⟩ := step_exit_ok.mp h2
    obtain ⟨hsd, _, _, _⟩ := flushPending_sim hs hf1 hf2
    exact ⟨rfl, hsd.out, hsd.rest⟩
  | error m =>
    rw [step_error_eq] at h1 h2; cases h1; cases h2
    exact hs.emit rfl

theorem steps_sim {toks1 toks2 : List RawTok} (ss : List Step) {b1 b2 c1 c2 : B}
    (hs : Sim toks1 toks2 b1 b2)
    (g1 : glueOkFrom toks1 ss b1 = true) (g2 : glueOkFrom toks2 ss b2 = true)
    (h1 : steps toks1 ss b1 = .ok c1) (h2 : steps toks2 ss b2 = .ok c2) : Sim toks1 toks2 c1 c2 := by
  induction ss generalizing b1 b2 with
  | nil => simp only [steps] at h1 h2; cases h1; cases h2; exact hs
  | cons s ss ih =>
    obtain ⟨d1, hs1, h1⟩ := steps_cons_ok.mp h1
    obtain ⟨d2, hs2, h2⟩ := steps_cons_ok.mp h2
    simp only [glueOkFrom, hs1, hs2, Bool.and_eq_true] at g1 g2
    exact ih (step_sim s hs g1.1 g2.1 hs1 hs2) g1.2 g2.2 h1 h2

/-- **`intersperse_trivia` is layout-blind**: same non-trivia raw tokens, same parser steps (`glueOk` on
both sides) ⇒ the emitted steps agree up to trivia tokens and error offsets -/
theorem intersperse_sim {toks1 toks2 : List RawTok} {ss : List Step} {out1 out2 : List StrStep}
    {eof1 eof2 : Bool} (hnt : nt toks1 = nt toks2)
    (g1 : glueOk toks1 ss = true) (g2 : glueOk toks2 ss = true)
    (h1 : intersperseTrivia toks1 ss = .ok (out1, eof1))
    (h2 : intersperseTrivia toks2 ss = .ok (out2, eof2)) : norm out1 = norm out2 := by
  obtain ⟨c1, hb1, _, rfl, _⟩ := intersperseTrivia_ok_iff.mp h1
  obtain ⟨c2, hb2, _, rfl, _⟩ := intersperseTrivia_ok_iff.mp h2
  have hs : Sim toks1 toks2 c1 c2 := steps_sim ss ⟨rfl, rfl, by simpa using hnt⟩ g1 g2 hb1 hb2
  exact (((eatTrivias_quiet toks1 c1).1.symm.trans (hs.trans (eatTrivias_quiet toks2 c2).1)).emit
    (x := .exit) rfl).out

def isTriviaLeaf : Tree → Bool
  | .leaf k _ => k.isTrivia
  | .node .. => false

mutual
def eraseTriviaT : Tree → Tree
  | .node k cs => .node k (eraseTriviaTL cs)
  | .leaf k t => .leaf k t
def eraseTriviaTL : List Tree → List Tree
  | [] => []
  | c :: cs => if isTriviaLeaf c then eraseTriviaTL cs else eraseTriviaT c :: eraseTriviaTL cs
end

theorem eraseTriviaTL_append (a b : List Tree) :
    eraseTriviaTL (a ++ b) = eraseTriviaTL a ++ eraseTriviaTL b := by
  induction a with
  | nil => rfl
  | cons x xs ih => by_cases h : isTriviaLeaf x = true <;> simp [eraseTriviaTL, h, ih]

theorem eraseTriviaTL_reverse (l : List Tree) : eraseTriviaTL l.reverse = (eraseTriviaTL l).reverse := by
  induction l with
  | nil => rfl
  | cons x xs ih =>
    rw [List.reverse_cons, eraseTriviaTL_append, ih]
    by_cases h : isTriviaLeaf x = true <;> simp [eraseTriviaTL, h]

/-- the builder state on `norm out` mirrors the one on `out` -/
structure TRel (t t' : TB) : Prop where
  parents : t'.parents = t.parents.map (fun p => (p.1, eraseTriviaTL p.2))
  top : t'.top = eraseTriviaTL t.top

theorem TRel.push_keep {t t' : TB} (h : TRel t t') (x : Tree) (hx : isTriviaLeaf x = false) :
    TRel (t.push x) (t'.push (eraseTriviaT x)) := by
  unfold TB.push
  rcases hp : t.parents with _ | ⟨⟨k, cs⟩, ps⟩
  · have : t'.parents = [] := by rw [h.parents, hp]; rfl
    simp only [this]
    exact ⟨by simp, by simp [eraseTriviaTL, hx, h.top]⟩
  · have : t'.parents = (k, eraseTriviaTL cs) :: ps.map (fun p => (p.1, eraseTriviaTL p.2)) := by
      rw [h.parents, hp]; rfl
    simp only [this]
    exact ⟨by simp [eraseTriviaTL, hx], h.top⟩

theorem TRel.push_drop {t t' : TB} (h : TRel t t') (x : Tree) (hx : isTriviaLeaf x = true) :
    TRel (t.push x) t' := by
  unfold TB.push
  rcases hp : t.parents with _ | ⟨⟨k, cs⟩, ps⟩
  · exact ⟨by simp [h.parents, hp], by simp [eraseTriviaTL, hx, h.top]⟩
  · exact ⟨by simp [h.parents, hp, eraseTriviaTL, hx], h.top⟩

theorem tbSteps_norm (out : List StrStep) {t t' r : TB} (h : TRel t t') (hr : tbSteps out t = .ok r) :
    ∃ r', tbSteps (norm out) t' = .ok r' ∧ TRel r r' := by
  induction out generalizing t t' with
  | nil => simp only [tbSteps] at hr; cases hr; exact ⟨t', rfl, h⟩
  | cons s ss ih =>
    obtain ⟨u, hs, hr⟩ := tbSteps_cons_ok.mp hr
    cases s with
    | token k txt =>
      simp only [tbStep] at hs; cases hs
      by_cases hk : k.isTrivia = true
      · simp only [norm, hk, if_true]
        exact ih (h.push_drop (.leaf k txt) hk) hr
      · have hk' : k.isTrivia = false := by simpa using hk
        simp only [norm, hk', Bool.false_eq_true, if_false, tbSteps, tbStep, bind, Except.bind]
        exact ih (h.push_keep (.leaf k txt) hk') hr
    | enter k =>
      simp only [tbStep] at hs; cases hs
      simp only [norm, tbSteps, tbStep, bind, Except.bind]
      exact ih (t := { t with parents := (k, []) :: t.parents })
        (t' := { t' with parents := (k, []) :: t'.parents })
        ⟨by simp [h.parents, eraseTriviaTL], h.top⟩ hr
    | exit =>
      simp only [tbStep] at hs
      rcases hp : t.parents with _ | ⟨⟨k, cs⟩, ps⟩
      · rw [hp] at hs; cases hs
      · rw [hp] at hs
        simp only at hs; cases hs
        have hp' : t'.parents = (k, eraseTriviaTL cs) :: ps.map (fun p => (p.1, eraseTriviaTL p.2)) := by
          rw [h.parents, hp]; rfl
        simp only [norm, tbSteps, tbStep, hp', bind, Except.bind]
        have hrel : TRel ({ t with parents := ps } : TB) ({ t' with parents := ps.map (fun p => (p.1, eraseTriviaTL p.2)) } : TB) :=
          ⟨rfl, h.top⟩
        have := hrel.push_keep (.node k cs.reverse) rfl
        simp only [eraseTriviaT, eraseTriviaTL_reverse] at this
        exact ih this hr
    | error m p =>
      simp only [tbStep] at hs; cases hs
      simp only [norm, tbSteps, tbStep, bind, Except.bind]
      exact ih (t := { t with errors := t.errors ++ [⟨m, p⟩] })
        (t' := { t' with errors := t'.errors ++ [⟨m, 0⟩] }) ⟨h.parents, h.top⟩ hr

theorem tbRun_norm (out : List StrStep) {r : TB} {tree : Tree} {errs : List SynErr}
    (hr : tbSteps out {} = .ok r) (hf : tbFinish r = .ok (tree, errs)) :
    ∃ r' errs', tbSteps (norm out) {} = .ok r' ∧ tbFinish r' = .ok (eraseTriviaT tree, errs') := by
  obtain ⟨r', hr', hrel⟩ := tbSteps_norm out (t := {}) (t' := {}) ⟨rfl, rfl⟩ hr
  obtain ⟨k, cs, ht, rfl, _⟩ := tbFinish_ok_iff.mp hf
  refine ⟨r', r'.errors, hr', tbFinish_ok_iff.mpr ⟨k, eraseTriviaTL cs, ?_, rfl, rfl⟩⟩
  rw [hrel.top, ht]
  simp [eraseTriviaTL, isTriviaLeaf, eraseTriviaT]

/-- **the builder is layout-blind**: same non-trivia raw tokens and same parser steps (`glueOk` on both
sides) ⇒ the two trees agree once their trivia leaves are erased -/
theorem buildTree_layout {toks1 toks2 : List RawTok} {ss : List Step}
    {t1 t2 : Tree} {e1 e2 : List SynErr} {eof1 eof2 : Bool} (hnt : nt toks1 = nt toks2)
    (g1 : glueOk toks1 ss = true) (g2 : glueOk toks2 ss = true)
    (h1 : buildTree toks1 ss = .ok (t1, e1, eof1)) (h2 : buildTree toks2 ss = .ok (t2, e2, eof2)) :
    eraseTriviaT t1 = eraseTriviaT t2 := by
  obtain ⟨out1, r1, hi1, hr1, hf1⟩ := buildTree_ok_iff.mp h1
  obtain ⟨out2, r2, hi2, hr2, hf2⟩ := buildTree_ok_iff.mp h2
  obtain ⟨r1', _, hr1', hf1'⟩ := tbRun_norm out1 hr1 hf1
  obtain ⟨r2', _, hr2', hf2'⟩ := tbRun_norm out2 hr2 hf2
  rw [intersperse_sim hnt g1 g2 hi1 hi2, hr2'] at hr1'
  cases hr1'
  rw [hf1'] at hf2'
  exact (Prod.mk.inj (Except.ok.inj hf2')).1

end Oq3.BuilderLayout
