/-
C16 for the inductive language of `Props/C04Lang2.lean`: the subtree of a statement covers exactly
the tokens of the statement — `width (nodesS2 s) = (toksS2 s).length` for EVERY statement (`width` = the sum
of the `n_input_tokens` of the token steps; a composite operator such as `==` is one step over two tokens).
Hence, in a sequence, the subtree of the i-th statement covers the token range that starts after the
tokens of the statements before it (`Props/C16Lang.lean: tokens_of_nth`).
-/
import Oq3.Lemmas.C16LangTree

namespace Oq3.C16Lang
open Oq3.Gen Oq3.Parser Oq3.PrattEv Oq3.LangEv Oq3.LangEv2

theorem binop_toks_length (o : BinOp) : o.toks.length = o.pieces.length := by cases o <;> rfl

mutual
theorem widthX : ∀ x : X, width (nodesX x) = (toksX x).length
  | .prim p => by simp [nodesX, toksX, widthP p]
  | .bin o l r => by
    simp [nodesX, toksX, width, width_append, widthX l, widthX r, binop_toks_length]
  | .pre o e => by simp [nodesX, toksX, width, width_append, widthX e]; omega
theorem widthP : ∀ p : Prim, width (LangEv2.nodesP p) = (toksP p).length
  | .id => rfl
  | .lit _ => rfl
  | .timing _ => rfl
  | .hw => rfl
  | .measureE => rfl
  | .measureHw => rfl
  | .measureIdx ixs => by simp [LangEv2.nodesP, toksP, width, width_append, widthIdx ixs]; omega
  | .paren e => by simp [LangEv2.nodesP, toksP, width, width_append, widthX e]; omega
  | .cast0 _ e => by simp [LangEv2.nodesP, toksP, width, width_append, widthX e]; omega
  | .castW _ w e => by simp [LangEv2.nodesP, toksP, width, width_append, widthX e, widthX w]; omega
  | .idIdx ixs => by simp [LangEv2.nodesP, toksP, width, width_append, widthIdx ixs]; omega
  | .call p args => by simp [LangEv2.nodesP, toksP, width, width_append, widthP p, widthXs args]; omega
  | .index p items => by simp [LangEv2.nodesP, toksP, width, width_append, widthP p, widthItems items]; omega
theorem widthXs : ∀ xs : XList, width (nodesXs xs) = (toksXs xs).length
  | .nil => rfl
  | .cons x .nil => by simp [nodesXs, toksXs, widthX x]
  | .cons x (.cons y ys) => by
    simp [nodesXs, toksXs, width, width_append, widthX x, widthXs (.cons y ys)]; omega
theorem widthItem : ∀ i : LangEv2.Item, width (nodesItem i) = (toksItem i).length
  | .ex x => by simp [nodesItem, toksItem, widthX x]
  | .r2 lo hi => by simp [nodesItem, toksItem, width, width_append, widthX lo, widthX hi]; omega
  | .r3 lo mid hi => by
    simp [nodesItem, toksItem, width, width_append, widthX lo, widthX mid, widthX hi]; omega
theorem widthItems : ∀ is : ItemList, width (nodesItems is) = (toksItems is).length
  | .one i => by simp [nodesItems, toksItems, widthItem i]
  | .cons i is => by simp [nodesItems, toksItems, width, width_append, widthItem i, widthItems is]; omega
theorem widthIdx : ∀ ixs : IdxList, width (nodesIdx ixs) = (toksIdx ixs).length
  | .one is => by simp [nodesIdx, toksIdx, width, width_append, widthItems is]; omega
  | .cons is rest => by simp [nodesIdx, toksIdx, width, width_append, widthItems is, widthIdx rest]; omega
end

theorem widthQ : ∀ q : Q, width (nodesQ q) = (toksQ q).length
  | .id => rfl
  | .hw => rfl
  | .idx ixs => by simp [nodesQ, toksQ, width, width_append, widthIdx]; omega

theorem widthQs : ∀ qs : QList, width (nodesQs qs) = (toksQs qs).length
  | .one q => by simp [nodesQs, toksQs, widthQ]
  | .cons q qs => by simp [nodesQs, toksQs, width, width_append, widthQ, widthQs qs]; omega

theorem widthParen (e : X) : width (parenNodes e) = (parenToks e).length := by
  simp [parenNodes, parenToks, width, width_append, widthX]; omega

theorem widthMod (m : Mod) : width (nodesMod m) = (toksMod m).length := by
  cases m with
  | inv => rfl
  | pow e => simp [nodesMod, toksMod, width, width_append, widthParen]; omega
  | ctrl e => cases e <;> simp [nodesMod, toksMod, width, width_append, widthParen] <;> omega
  | negctrl e => cases e <;> simp [nodesMod, toksMod, width, width_append, widthParen] <;> omega

theorem widthMods : ∀ ms : List Mod, width (nodesMods ms) = (toksMods ms).length
  | [] => rfl
  | m :: ms => by simp [nodesMods, toksMods, width_append, widthMod, widthMods ms]

theorem widthTyX (ty : Ty) (w : Option X) : width (tyNodesX ty w) = (tyToksX ty w).length := by
  cases w <;> simp [tyNodesX, tyToksX, width, width_append, widthX] <;> omega

theorem widthDesig (w : X) : width (desigNodes w) = (desigToks w).length := by
  simp [desigNodes, desigToks, width, width_append, widthX]; omega

theorem widthArgList (args : XList) : width (argListNodes args) = (argListToks args).length := by
  cases args <;> simp [argListNodes, argListToks, width, width_append, widthXs] <;> omega

theorem widthQlist (qs : QList) : width (qlistNodes qs) = (toksQs qs).length := by
  simp [qlistNodes, width, width_append, widthQs]

theorem widthName : width nameNodes = 1 := rfl

theorem widthIter (it : Iter) : width (iterNodes it) = (iterToks it).length := by
  cases it <;> simp [iterNodes, iterToks, width, width_append, widthX, widthItems] <;> omega

theorem widthTyList : ∀ ts : List Ty, width (tyListNodes ts) = (tyListToks ts).length
  | [] => rfl
  | [t] => rfl
  | t :: u :: us => by simp [tyListNodes, tyListToks, width, widthTyList (u :: us)]; omega

theorem widthParams : ∀ n : Nat, width (paramNodes n) = (qubitToks n).length
  | 0 => rfl
  | n + 1 => by simp [paramNodes, qubitToks, width, widthParams n]; omega

theorem widthTyped : ∀ ps : List PTy, width (typedNodes ps) = (typedToks ps).length
  | [] => rfl
  | [p] => rfl
  | p :: q :: ps => by simp [typedNodes, typedToks, width, widthTyped (q :: ps)]; omega

theorem widthRet (ret : Option Ty) : width (retNodes ret) = (retToks ret).length := by
  cases ret <;> rfl

theorem widthGateInner (args : XList) (qs : QList) :
    width (gateCallInnerNodes args qs) = 1 + (argListToks args).length + (toksQs qs).length := by
  simp [gateCallInnerNodes, width, width_append, widthArgList, widthQlist]; omega

theorem widthBlock (inner : List Step) : width (blockNodes inner) = width inner + 2 := by
  simp [blockNodes, width, width_append]; omega

mutual
theorem widthS2 : ∀ st : Stmt2, width (nodesS2 st) = (toksS2 st).length
  | .decl cst ty w none => by
    cases cst <;> simp [nodesS2, toksS2, width, width_append, widthTyX, widthName] <;> omega
  | .decl cst ty w (some e) => by
    cases cst <;> simp [nodesS2, toksS2, width, width_append, widthTyX, widthName, widthX] <;> omega
  | .io out ty w => by simp [nodesS2, toksS2, width, width_append, widthTyX, widthName]; omega
  | .qubit none => rfl
  | .qubit (some w) => by simp [nodesS2, toksS2, width, width_append, widthDesig, widthName]; omega
  | .oldReg c items => by simp [nodesS2, toksS2, width, width_append, widthItems]; omega
  | .letS e => by simp [nodesS2, toksS2, width, width_append, widthX]; omega
  | .alias e => by simp [nodesS2, toksS2, width, width_append, widthX, widthName]; omega
  | .assign ixs rhs => by simp [nodesS2, toksS2, width, width_append, widthX, widthP]; omega
  | .exprS x => by simp [nodesS2, toksS2, width, width_append, widthX]
  | .gate args qs => by simp [nodesS2, toksS2, wrapNodes, width, width_append, widthGateInner]; omega
  | .modGate m ms args qs => by
    simp [nodesS2, toksS2, wrapNodes, width, width_append, widthGateInner, widthMods]; omega
  | .gphase x => by simp [nodesS2, toksS2, wrapNodes, width, width_append, widthX]; omega
  | .modGphase m ms x => by simp [nodesS2, toksS2, wrapNodes, width, width_append, widthX, widthMods]; omega
  | .reset q => by simp [nodesS2, toksS2, width, width_append, widthQ]; omega
  | .barrier qs => by simp [nodesS2, toksS2, width, width_append, widthQlist]; omega
  | .delay d qs => by simp [nodesS2, toksS2, width, width_append, widthQlist, widthDesig]; omega
  | .brk => rfl
  | .cont => rfl
  | .endS => rfl
  | .pragma => rfl
  | .annot => rfl
  | .incl => rfl
  | .version => rfl
  | .externS tys ret => by
    simp [nodesS2, toksS2, width, width_append, widthName, widthTyList, widthRet]; omega
  | .ifS c thn => by simp [nodesS2, toksS2, parenToks, width, width_append, widthX, widthB thn]; omega
  | .ifElse c thn els => by
    simp [nodesS2, toksS2, parenToks, width, width_append, widthX, widthB thn, widthB els]; omega
  | .whileS c body => by simp [nodesS2, toksS2, parenToks, width, width_append, widthX, widthB body]; omega
  | .forS ty w it body => by
    simp [nodesS2, toksS2, width, width_append, widthTyX, widthName, widthIter, widthB body]; omega
  | .switchS c cs => by simp [nodesS2, toksS2, parenToks, width, width_append, widthX, widthC cs]; omega
  | .block ss => by simp [nodesS2, toksS2, width, width_append, widthBlock, widthL2 ss]
  | .gateDef none nq body => by
    simp [nodesS2, toksS2, width, width_append, widthParams, widthBlock, widthL2 body]; omega
  | .gateDef (some k) nq body => by
    simp [nodesS2, toksS2, width, width_append, widthParams, widthBlock, widthL2 body]; omega
  | .defS ps ret body => by
    simp [nodesS2, toksS2, width, width_append, widthTyped, widthRet, widthBlock, widthL2 body]; omega
  | .cal body => by simp [nodesS2, toksS2, width, width_append, widthBlock, widthL2 body]; omega
  | .ret none => rfl
  | .ret (some e) => by simp [nodesS2, toksS2, wrapNodes, width, width_append, widthX]; omega
theorem widthB : ∀ b : Body, width (nodesB b) = (toksB b).length
  | .blk ss => by simp [nodesB, toksB, widthBlock, widthL2 ss]
  | .one s => by simp [nodesB, toksB, widthS2 s]
theorem widthC : ∀ cs : Cases, width (nodesC cs) = (toksC cs).length
  | .nil => rfl
  | .dflt body => by simp [nodesC, toksC, width, widthBlock, widthL2 body]; omega
  | .cons vals body rest => by
    simp [nodesC, toksC, width, width_append, widthItems, widthBlock, widthL2 body, widthC rest]; omega
theorem widthL2 : ∀ ss : Stmts2, width (nodesL2 ss) = (toksL2 ss).length
  | .nil => rfl
  | .cons st ss => by simp [nodesL2, toksL2, width_append, widthS2 st, widthL2 ss]
end

end Oq3.C16Lang
