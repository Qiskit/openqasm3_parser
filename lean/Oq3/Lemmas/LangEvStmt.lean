/-
C04 for a recursive reference language: the `EXPR_STMT` wrapper of `stmt` (`stmt_wrap`, shared with
the extended language) and the two statements whose fuel bound is below what the extended language needs at
their image — `measure q;` and `x = measure q;` — each as an acceptance of `stmt` from an arbitrary `Ready`
state.  The other statements are in `LangEvAccept.lean`.
-/
import Oq3.Lemmas.LangEvRun
import Oq3.Props.C16
set_option linter.unusedSimpArgs false
set_option linter.unusedVariables false

namespace Oq3.LangEv2
open Oq3.Gen

/-- first tokens of the statements that `stmt` hands to `expr_stmt` -/
def exprStmtFirst2 (k : SyntaxKind) : Bool :=
  k == .IDENT || k == .INT_NUMBER || k == .FLOAT_NUMBER || k == .BIT_STRING || k == .TRUE_KW || k == .FALSE_KW ||
  k == .HARDWAREIDENT || k == .L_PAREN || k == .TILDE || k == .BANG || k == .MINUS || k == .MEASURE_KW || k == .RETURN_KW ||
  k == .INV_KW || k == .POW_KW || k == .CTRL_KW || k == .NEGCTRL_KW || k == .GPHASE_KW

end Oq3.LangEv2

namespace Oq3.LangEv
open Oq3.Gen Oq3.Parser Oq3.Grammar Oq3.SymExec Oq3.PrattEv Oq3.LangEv2
open Oq3.Gen.Ops (Assoc)

theorem ov_rebase (s : P) (X : List Ev) (n st sb lv : Nat) (pr : List Nat) :
    s.ov X n st sb lv pr = (s.ov X n st sb lv pr).ov [] 0 st sb lv pr := by
  rw [ov_ov]; simp

theorem AccV.congr {α} {x : G α} {a : α} {s : P} {n n' : Nat} {E E' : List Ev} (h : AccV x a s n E)
    (hE : E = E') (hn : n = n') : AccV x a s n' E' := by subst hE; subst hn; exact h

theorem Toks_pos {s : P} {A B : Nat} {ts : List Tok} (h : Toks s B ts) (e : A = B) : Toks s A ts := e ▸ h
theorem kindAt_pos {s : P} {A B : Nat} {K : SyntaxKind} (h : s.kindAt B = K) (e : A = B) : s.kindAt A = K := e ▸ h

/-! The first token `k` of an expression statement stays a variable in the run of `stmt`: it is none of the
tokens `stmt` and `item` look for, it is no type keyword, and it is in `EXPR_FIRST`. -/

theorem exprStmtFirst2_beq {k K : SyntaxKind} (h : exprStmtFirst2 k = true) (hK : exprStmtFirst2 K = false) :
    (k == K) = false := by
  rw [beq_eq_false_iff_ne]; rintro rfl; rw [h] at hK; cases hK

theorem exprStmtFirst2_props {k : SyntaxKind} (h : exprStmtFirst2 k = true) :
    isClassicalType k = false ∧ Oq3.Props.C16.itemKeyword k = false ∧
      (decide (k.toNat < 128) && TokenSets.EXPR_FIRST.contains k) = true := by
  simp only [exprStmtFirst2, Bool.or_eq_true, beq_iff_eq] at h
  rcases h with ((((((((((((((((h | h) | h) | h) | h) | h) | h) | h) | h) | h) | h) | h) | h) | h) | h) | h) | h) | h <;>
    subst h <;> exact ⟨rfl, rfl, by decide⟩

theorem optItem_other (fuel : Nat) (m : Marker) (s : P) (E : List Ev) (dp st sb lv : Nat) (pr : List Nat)
    (hst : st ≤ s.stepLimit) (hc : isClassicalType (s.kindAt (s.pos + dp)) = false)
    (hk : Oq3.Props.C16.itemKeyword (s.kindAt (s.pos + dp)) = false) :
    optItem (fuel + 1) m (s.ov E dp st sb lv pr) = .ok (.error m, s.ov E dp (st + 1) sb lv pr) := by
  rw [optItem.run_2, G.bind_apply, nth_ov _ _ _ _ _ _ _ 1 (by omega) hst]
  simp only [G.bind_apply, current_ov, hc, Bool.false_and, Bool.false_eq_true, if_false]
  generalize s.kindAt (s.pos + dp) = k at hk
  -- the `match` of `opt_item` on the current token: every keyword arm contradicts `hk`
  split <;> first | rfl | cases hk

/-- The state after `expr_stmt` (events `X`, the root `Start` at the offset `off`) as a base state `s₁` of its own.
`precede` reaches back to an offset that is not a numeral: the wrapper of `stmt` is run from `s₁`, where that event is
a fact about the base, and the end state is carried back to `s` by the last clause. -/
theorem wrap_base (s : P) (hnp : s.noProgressLimit = 0) (hpr : ∀ p ∈ s.protectedPos, p < s.events.size)
    (X : List Ev) (n st sbx off : Nat) (kr : SyntaxKind) (hroot : X[off]? = some (.start kr none)) :
    ∃ s₁ : P, s.ov X n st sbx s.live s.protectedPos = s₁.ov [] 0 st sbx s₁.live s₁.protectedPos ∧
      s₁.noProgressLimit = 0 ∧ (∀ p ∈ s₁.protectedPos, p < s₁.events.size) ∧
      s₁.events[s.events.size + off]? = some (.start kr none) ∧ s₁.kindAt (s₁.pos + 0) = s.kindAt (s.pos + n) ∧
      ∀ (T : List Ev) (dn sb : Nat),
        (s₁.setEv (s.events.size + off) (.start kr (some (s₁.events.size + 0 - (s.events.size + off))))).ov T dn 0 sb
            s₁.live s₁.protectedPos =
          s.ov (X.set off (.start kr (some (X.length - off))) ++ T) (n + dn) 0 sb s.live s.protectedPos := by
  have hoff : off < X.length := by
    rcases Nat.lt_or_ge off X.length with h | h
    · exact h
    · rw [List.getElem?_eq_none h] at hroot; cases hroot
  have hsz : (s.ov X n st sbx s.live s.protectedPos).events.size = s.events.size + X.length := ov_size _ _
  refine ⟨s.ov X n st sbx s.live s.protectedPos, ov_rebase s X n st sbx _ _, hnp,
    fun p hp => by rw [hsz]; exact Nat.lt_add_right _ (hpr p hp), ?_, rfl, fun T dn sb => ?_⟩
  · show (s.events ++ X.toArray)[s.events.size + off]? = _
    rw [ov_get, hroot]
  · rw [hsz, setEv_ov_ov, show s.events.size + X.length + 0 - (s.events.size + off) = X.length - off by omega]
    rfl

/-- **the `EXPR_STMT` wrapper of `stmt`**: whatever `expr_stmt` parsed (result `X`, root `Start` at
offset `off`), followed by `;`, becomes an expression statement by `precede` -/
theorem stmt_wrap (f : Nat) (s : P) (hr : Rdy 8 s) (k0 : SyntaxKind) (hk0 : exprStmtFirst2 k0 = true)
    (h0 : s.kindAt (s.pos + 0) = k0) (X : List Ev) (n off sbx : Nat) (stx : Nat) (kr : SyntaxKind)
    (hsub : exprStmt (f + 1) (some { pos := s.events.size + 0 })
        (s.ov [Ev.start SyntaxKind.TOMBSTONE none] 0 (s.steps + 1) (s.sinceBump + 1) (s.live + 1) s.protectedPos) =
      .ok (some (⟨s.events.size + off, kr⟩, .notBlock), s.ov X n stx sbx s.live s.protectedPos))
    (hroot : X[off]? = some (.start kr none)) (hkr : (kr == .ASSIGNMENT_STMT) = false)
    (hsemi : s.kindAt (s.pos + n) = .SEMICOLON) :
    Acc (stmt (f + 2)) s (n + 1)
      (X.set off (.start kr (some (X.length - off))) ++ exprStmtTail) := by
  have hnp := hr.hook
  have hpr := hr.prot
  have hst : s.steps ≤ s.stepLimit := by have := hr.steps; omega
  obtain ⟨s₁, hS, h1n, hpr₁, hp, hk1, hfin⟩ := wrap_base s hnp hpr X n stx sbx off kr hroot
  rw [hS] at hsub
  have h1semi : s₁.kindAt (s₁.pos + 0) = .SEMICOLON := hk1.trans hsemi
  have hpre := precede_base s₁ h1n (s.events.size + off) kr kr none hp
  have hcomp := fun E dp st sb lv pr i b kind =>
    complete_ov (s₁.setEv (s.events.size + off) (.start kr (some (s₁.events.size + 0 - (s.events.size + off))))) E dp st sb lv pr h1n i b kind
  simp only [setEv_size] at hcomp
  obtain ⟨hct, hkw, hef⟩ := exprStmtFirst2_props hk0
  have hopt := fun m E st sb lv pr h => optItem_other f m s E 0 st sb lv pr h (h0 ▸ hct) (h0 ▸ hkw)
  refine ⟨0, 2, Nat.zero_le _, of_ov _ _ _ ?_⟩
  sym_eval [filter_base s hpr, contains_base s hpr, h0, exprStmtFirst2_beq hk0, hct, hef, hopt, hsub, hkr, hpre, hcomp, h1semi,
    setEv_size, setEv_kindAt, setEv_pos, setEv_npl, setEv_stepLimit, filter_base s₁ hpr₁, contains_base s₁ hpr₁,
    bne_self_eq_false]
  rw [hfin]
  rfl

theorem operandFirst_exprStmtFirst2 {k : SyntaxKind} (h : operandFirst k = true) : exprStmtFirst2 k = true := by
  simp only [operandFirst, exprStmtFirst2, Bool.or_eq_true, beq_iff_eq] at h ⊢
  rcases h with ((((h | h) | h) | h) | h) | h <;> simp [h]

theorem kind_ne_assign (e : E) : (e.kind == .ASSIGNMENT_STMT) = false := by cases e <;> rfl

theorem stmt_measure (F : Nat) (s : P) (hr : Rdy 8 s) (hF : 8 ≤ F)
    (htk : Toks s s.pos (toksS .measure)) :
    Acc (stmt F) s (toksS .measure).length (evsS .measure) := by
  obtain ⟨f, rfl⟩ : ∃ f, F = f + 6 + 2 := ⟨F - 8, by omega⟩
  tok_at [toksS] at htk
  obtain ⟨h0, h1, h2⟩ := htk
  have hnp := hr.hook
  have hpr := hr.prot
  have hst : s.steps + 1 ≤ s.stepLimit := by have := hr.steps; omega
  have hsub : exprStmt (f + 6 + 1) (some { pos := s.events.size + 0 })
      (s.ov [Ev.start SyntaxKind.TOMBSTONE none] 0 (s.steps + 1) (s.sinceBump + 1) (s.live + 1) s.protectedPos) =
      .ok (some (⟨s.events.size + 1, .MEASURE_EXPRESSION⟩, .notBlock),
        s.ov [tombLink, .start .MEASURE_EXPRESSION none, .token .MEASURE_KW 1, .start .IDENTIFIER none,
          .token .IDENT 1, .finish, .finish] 2 0 3 s.live s.protectedPos) := by
    sym_eval [filter_base s hpr, contains_base s hpr, h0, h1, h2]
    rfl
  exact stmt_wrap (f + 6) s hr _ (by decide) h0 _ 2 1 3 _ _ hsub rfl rfl h2

theorem qubitToks_head (n : Nat) : ∃ ts, qubitToks n = tk .IDENT :: ts := by
  cases n <;> exact ⟨_, rfl⟩

theorem opF_assign (s : P) (q : Nat) (h0 : s.kindAt q = .EQ) (h1 : s.kindAt (q + 1) ≠ .EQ)
    (h2 : s.kindAt (q + 1) ≠ .R_ANGLE) : opF s.kinds s.joint q = (12, .EQ, .right) := by
  simp only [P.kindAt] at h0 h1 h2
  unfold opF
  rw [h0, scanF_filter, rows_EQ]
  simp only [scanF, atF_FAT_ARROW, atF_EQ2, h0, h1, h2, Bool.and_eq_true, beq_iff_eq, false_and, and_false, if_false,
    Option.getD_some, reduceCtorEq, true_and, if_true]

theorem stmt_assignMeasure (F : Nat) (s : P) (hr : Rdy 8 s) (hF : 12 ≤ F)
    (htk : Toks s s.pos (toksS .assignMeasure))
    (hfol : StopsAt s (s.pos + (toksS .assignMeasure).length) 1) :
    Acc (stmt F) s (toksS .assignMeasure).length (evsS .assignMeasure) := by
  obtain ⟨f, rfl⟩ : ∃ f, F = f + 12 := ⟨F - 12, by omega⟩
  simp only [toksS, List.length_cons, List.length_nil] at hfol ⊢
  tok_at [toksS] at htk
  obtain ⟨h0, h1, h2, h3, h4⟩ := htk
  have hop : ∀ E st sb lv pr, currentOp (s.ov E 1 st sb lv pr) =
      .ok ((12, SyntaxKind.EQ, Assoc.right), s.ov E 1 st sb lv pr) := by
    intro E st sb lv pr
    rw [currentOp_ov, opF_assign s (s.pos + 1) h1 (by rw [h2]; decide) (by rw [h2]; decide)]
  have hop2 : ∀ E st sb lv pr, currentOp (s.ov E 5 st sb lv pr) =
      .ok (opF s.kinds s.joint (s.pos + 5), s.ov E 5 st sb lv pr) :=
    fun E st sb lv pr => currentOp_ov s E _ st sb lv pr
  unfold StopsAt at hfol
  simp only [Nat.reduceAdd] at hfol
  generalize opF s.kinds s.joint (s.pos + 5) = x at hfol hop2
  obtain ⟨pw, op, as⟩ := x
  have hlt : (pw < 1) = True := eq_true hfol
  run_base [h0, h1, h2, h3, h4, hop, hop2, hlt, bne_self_eq_false]

theorem abandon_mid (s : P) (hpr : ∀ p ∈ s.protectedPos, p < s.events.size) (E : List Ev) (dp st sb lv i : Nat)
    (h : i + 1 < E.length) :
    Marker.abandon { pos := s.events.size + i, isFp := false } (s.ov E dp st sb lv s.protectedPos) =
      .ok ((), s.ov E dp st sb (lv - 1) s.protectedPos) := by
  rw [abandon_ov _ _ _ _ _ _ _ _ (by intro h0; rw [h0] at h; simp at h), contains_base s hpr]
  have : (i + 1 == E.length) = false := by
    rw [beq_eq_false_iff_ne]; omega
  simp only [this, Bool.false_eq_true, if_false]

end Oq3.LangEv
