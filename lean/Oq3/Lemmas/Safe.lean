/-
Weakest preconditions for runs of the parser monad, parametrised by the set `A` of error outcomes
that are tolerated, the rules for the look-ahead primitives (`at`, `current`, `at_ts`), the
state-hiding judgement `Walk`, and the dispatch tactics (`wp_rule`, `goal_kind`).

`wp A x Q s`: the run `x s` either succeeds with a value and state satisfying `Q`, or fails with
an outcome in `A`.  Every specification of the grammar with per-function preconditions is stated with it:
token-level assertions (`SafeTok`, `A1`), marker discipline (`SafeMark`, `A2`), progress (`Progress`, `A3`:
anything but fuel exhaustion), work bounds (`Cost2`, `A5`: neither fuel exhaustion nor a hang detector).
-/
import Lean
import Oq3.Lemmas.Run
set_option linter.unusedSimpArgs false

namespace Oq3.Parser
open Oq3.Gen

def markSites : List Outcome := [
  .panic "Marker::complete unreachable", .panic "Marker::abandon underflow",
  .panic "Marker::abandon unreachable", .panic "CompletedMarker::precede u32 underflow",
  .panic "CompletedMarker::precede unreachable", .panic "CompletedMarker::extend_to u32 underflow",
  .panic "CompletedMarker::extend_to unreachable",
  .modelError "Marker::complete: marker already completed", .modelError "Marker::complete with TOMBSTONE",
  .modelError "Marker::abandon of a forward-parent marker",
  .modelError "CompletedMarker::extend_to: not a completed marker"]

/-- the outcomes that are not assertion failures: the fuel of the model ran out, or one of the two
hang detectors fired (`PARSER_STEP_LIMIT` in `Parser::nth`, the `oq3_verif` no-progress hook) -/
def hangSites : List Outcome := [
  .fuel, .panic "Parser::nth the parser seems stuck", .panic "oq3_verif: no progress"]

def post {α} (A : Outcome → Prop) (Q : α → P → Prop) : Except Outcome (α × P) → Prop
  | .ok (a, s') => Q a s'
  | .error o => A o

def wp {α} (A : Outcome → Prop) (x : G α) (Q : α → P → Prop) (s : P) : Prop :=
  post A Q (x s)

theorem wp_def {α} {A : Outcome → Prop} {x : G α} {Q : α → P → Prop} {s : P} (h : post A Q (x s)) :
    wp A x Q s := h

section
variable {A : Outcome → Prop} {α β : Type} {s : P}

theorem wp_bind {x : G α} {f : α → G β} {Q : β → P → Prop}
    (h : wp A x (fun a s' => wp A (f a) Q s') s) : wp A (x >>= f) Q s := by
  unfold wp post at h ⊢
  rw [G.bind_apply]
  cases hx : x s with
  | error e => simpa [hx] using h
  | ok p => obtain ⟨a, s1⟩ := p; simpa [hx] using h

theorem wp_pure {a : α} {Q : α → P → Prop} (h : Q a s) : wp A (pure a : G α) Q s := h

theorem wp_conseq {x : G α} {Q0 Q : α → P → Prop} (h : wp A x Q0 s)
    (hq : ∀ a s', Q0 a s' → Q a s') : wp A x Q s := by
  unfold wp post at h ⊢
  cases hx : x s with
  | error e => simpa [hx] using h
  | ok p => obtain ⟨a, s1⟩ := p; rw [hx] at h; exact hq _ _ h

theorem wp_and {x : G α} {A A' : Outcome → Prop} {Q Q' : α → P → Prop} (h : wp A x Q s) (h' : wp A' x Q' s) :
    wp (fun o => A o ∧ A' o) x (fun a s' => Q a s' ∧ Q' a s') s := by
  unfold wp at *
  revert h h'
  cases x s with
  | error o => exact fun h h' => ⟨h, h'⟩
  | ok p => exact fun h h' => ⟨h, h'⟩

theorem wp_weaken {x : G α} {A A' : Outcome → Prop} {Q Q' : α → P → Prop} (h : wp A x Q s) (hA : ∀ o, A o → A' o)
    (hQ : ∀ a s', Q a s' → Q' a s') : wp A' x Q' s := by
  unfold wp at *
  revert h
  cases x s with
  | error o => exact hA o
  | ok p => exact hQ _ _

theorem wp_ite {c : Prop} [Decidable c] {x y : G α} {Q : α → P → Prop}
    (h1 : c → wp A x Q s) (h2 : ¬ c → wp A y Q s) : wp A (if c then x else y) Q s := by
  split
  · exact h1 ‹_›
  · exact h2 ‹_›

theorem wp_fail {o : Outcome} {Q : α → P → Prop} (h : A o) : wp A (fail o : G α) Q s := h
theorem wp_panic {site : String} {Q : α → P → Prop} (h : A (.panic site)) :
    wp A (panic site : G α) Q s := h

theorem wp_andM {x y : G Bool} {Q : Bool → P → Prop}
    (h : wp A x (fun b s' => if b = true then wp A y Q s' else Q false s') s) : wp A (x <&&> y) Q s := by
  unfold wp post at h ⊢
  rw [G.andM_apply]
  cases hx : x s with
  | error e => simpa [hx] using h
  | ok p =>
    obtain ⟨b, s1⟩ := p
    rw [hx] at h
    cases b
    · simpa using h
    · simpa [wp] using h

theorem wp_orM {x y : G Bool} {Q : Bool → P → Prop}
    (h : wp A x (fun b s' => if b = true then Q true s' else wp A y Q s') s) : wp A (x <||> y) Q s := by
  unfold wp post at h ⊢
  rw [G.orM_apply]
  cases hx : x s with
  | error e => simpa [hx] using h
  | ok p =>
    obtain ⟨b, s1⟩ := p
    rw [hx] at h
    cases b
    · simpa [wp] using h
    · simpa using h

theorem wp_notM {x : G Bool} {Q : Bool → P → Prop}
    (h : wp A x (fun b s' => Q (!b) s') s) : wp A (notM x) Q s := by
  unfold wp post at h ⊢
  rw [G.notM_apply]
  cases hx : x s with
  | error e => simpa [hx] using h
  | ok p => obtain ⟨b, s1⟩ := p; simpa [hx] using h

theorem wp_map {f : α → β} {x : G α} {Q : β → P → Prop}
    (h : wp A x (fun a s' => Q (f a) s') s) : wp A (f <$> x) Q s := by
  unfold wp post at h ⊢
  rw [G.map_apply]
  cases hx : x s with
  | error e => simpa [hx] using h
  | ok p => obtain ⟨a, s1⟩ := p; simpa [hx] using h

end

/-- From every state that the abstract state `g` describes (`Inv g s`), `x` runs into a state described by some `g'`
with `Q r g'`, or fails with a tolerated outcome.  The structural rules are those of `wp` (the grammar has no `<$>`).  A walk adds one rule for every
parser-API call and every callee, which says what the call does to the abstract state and is where `Inv` is used:
`Lemmas/Work.lean` (the account of events and steps), `Lemmas/SafeMark.lean` (the markers owned). -/
def Walk {α γ : Type} (A : Outcome → Prop) (Inv : γ → P → Prop) (x : G α) (Q : α → γ → Prop) (g : γ) : Prop :=
  ∀ s, Inv g s → wp A x (fun r s' => ∃ g', Inv g' s' ∧ Q r g') s

section
variable {A : Outcome → Prop} {α β γ : Type} {Inv : γ → P → Prop} {g : γ} {Q : α → γ → Prop}

theorem Walk.pure {a : α} (h : Q a g) : Walk A Inv (pure a) Q g := fun _ w => wp_pure ⟨g, w, h⟩

theorem Walk.bind {x : G α} {f : α → G β} {Q : β → γ → Prop}
    (h : Walk A Inv x (fun a g' => Walk A Inv (f a) Q g') g) : Walk A Inv (x >>= f) Q g := fun s w =>
  wp_bind (wp_conseq (h s w) fun _ _ ⟨_, w', h'⟩ => h' _ w')

theorem Walk.fail {o : Outcome} (h : A o) : Walk A Inv (fail o : G α) Q g := fun _ _ => wp_fail h

theorem Walk.panic {site : String} (h : A (.panic site)) : Walk A Inv (panic site : G α) Q g := fun _ _ => wp_panic h

theorem Walk.ite {p : Prop} [Decidable p] {x y : G α} (h1 : p → Walk A Inv x Q g) (h2 : ¬ p → Walk A Inv y Q g) :
    Walk A Inv (if p then x else y) Q g := by
  split
  · exact h1 ‹_›
  · exact h2 ‹_›

theorem Walk.andM {x y : G Bool} {Q : Bool → γ → Prop}
    (h : Walk A Inv x (fun b g' => if b = true then Walk A Inv y Q g' else Q false g') g) :
    Walk A Inv (x <&&> y) Q g := fun s w =>
  wp_andM (wp_conseq (h s w) fun b s' ⟨g', w', h'⟩ => by
    cases b
    · exact ⟨g', w', h'⟩
    · exact h' s' w')

theorem Walk.orM {x y : G Bool} {Q : Bool → γ → Prop}
    (h : Walk A Inv x (fun b g' => if b = true then Q true g' else Walk A Inv y Q g') g) :
    Walk A Inv (x <||> y) Q g := fun s w =>
  wp_orM (wp_conseq (h s w) fun b s' ⟨g', w', h'⟩ => by
    cases b
    · exact h' s' w'
    · exact ⟨g', w', h'⟩)

theorem Walk.notM {x : G Bool} {Q : Bool → γ → Prop} (h : Walk A Inv x (fun b g' => Q (!b) g') g) :
    Walk A Inv (notM x) Q g := fun s w => wp_notM (h s w)

end

/-- what the look-ahead primitives can see -/
def P.tv (s : P) : Array SyntaxKind × Array Bool × Nat := (s.kinds, s.joint, s.pos)

theorem atF_simple {k : SyntaxKind} (hc : compositePieces k = none) (K : Array SyntaxKind)
    (J : Array Bool) (p : Nat) : atF k K J p = (K.getD p .EOF == k) := by
  unfold atF; rw [hc]

section
variable {A : Outcome → Prop} {s : P}

theorem wp_at {k : SyntaxKind} {Q : Bool → P → Prop} (h : Q (atF k s.kinds s.joint s.pos) s) :
    wp A (at' k) Q s := by
  unfold wp post; rw [at_total]; exact h

theorem wp_current {Q : SyntaxKind → P → Prop} (h : Q (s.kindAt s.pos) s) : wp A current Q s := h

theorem wp_atTs {ts : TokenSet} {Q : Bool → P → Prop}
    (h : Q (decide ((s.kindAt s.pos).toNat < 128) && ts.contains (s.kindAt s.pos)) s) :
    wp A (atTs ts) Q s := by
  unfold wp post; rw [atTs_eq]; exact h

end

/-! ### dispatch on the head of the program (speeds up the generated proofs) -/

open Lean Elab Tactic Meta in
/-- goal `wp A prog Q s` or `Walk A Inv prog Q g`: apply the rule registered for the head constant of `prog`.  The
argument is a list of pairs `constant rule`; the first pair whose constant is the head wins, so a special rule for a
constant goes before the general one. -/
elab "wp_rule " "[" rules:(ident term:max),* "]" : tactic => withMainContext do
  let g ← getMainGoal
  let t ← whnfR (← instantiateMVars (← g.getType))
  -- in `wp A x Q s` and in `Walk A Inv x Q g` the program is the third argument from the end
  unless t.isAppOfArity ``Oq3.Parser.wp 5 || t.isAppOf ``Oq3.Parser.Walk do throwError "wp_rule: not a wp goal"
  let prog ← whnfR t.getAppArgs[t.getAppNumArgs - 3]!
  let .const fn _ := prog.getAppFn | throwError "wp_rule: no head constant"
  for r in rules.getElems do
    let hd := r.raw[0].getId.eraseMacroScopes
    let rule := r.raw[1]
    let hdFull ← try realizeGlobalConstNoOverload (mkIdent hd) catch _ => pure hd
    if hdFull == fn then
      evalTactic (← `(tactic| with_reducible apply $(⟨rule⟩)))
      return
  throwError "wp_rule: no rule for {fn}"

open Lean Elab Tactic Meta in
/-- `goal_kind wp` / `pi` / `and` / `other`: succeeds iff the goal (after beta) is a `wp` or `Walk` statement /
a `∀`,`→` / a conjunction / none of these; a beta-redex is reduced on the way -/
elab "goal_kind " k:ident : tactic => withMainContext do
  let g ← getMainGoal
  let t ← instantiateMVars (← g.getType)
  let t' := t.cleanupAnnotations.headBeta
  let w ← whnfR t'
  let kind :=
    if w.isAppOfArity ``Oq3.Parser.wp 5 || w.isAppOf ``Oq3.Parser.Walk then `wp
    else if t'.isForall then `pi
    else if t'.isAppOfArity ``And 2 then `and
    else `other
  unless kind == k.getId.eraseMacroScopes do throwError "goal_kind: {kind}"
  if t' != t then
    replaceMainGoal [← g.replaceTargetDefEq t']

end Oq3.Parser
