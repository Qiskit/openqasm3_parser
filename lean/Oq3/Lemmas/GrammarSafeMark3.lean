/- GENERATED by /verif/tools/gen_grammar_safe.py from Oq3/Model/Grammar.lean — the proofs are checked by Lean. -/
import Oq3.Lemmas.GrammarSafeMark0
set_option linter.unusedVariables false

namespace Oq3.Grammar
open Oq3.Gen Oq3.Parser
open Oq3.Gen.Ops (Assoc)
open Oq3.Gen.TokenSets

theorem delimitedLoop_mw {fuel : Nat} (ih : AllMark fuel) (ket delim : SyntaxKind) (firstSet : TokenSet) (parser : DelimitedParser) :
    Walk0 (Oq3.Grammar.delimitedLoop (fuel + 1) ket delim firstSet parser) fun _ _ _ => True := fun a => by
  unfold Oq3.Grammar.delimitedLoop; mw [delimitedLoop (MW.call0 (ih.delimitedLoop _ _ _ _)), delimitedParser (MW.call0 (ih.delimitedParser _))]

theorem item_mw {fuel : Nat} (ih : AllMark fuel) (stopOnRCurly : Bool) :
    Walk0 (Oq3.Grammar.item (fuel + 1) stopOnRCurly) fun _ _ _ => True := fun a => by
  unfold Oq3.Grammar.item; mw [optItem (MW.callE (ih.optItem _)), exprBlockStatements (MW.call0 ih.exprBlockStatements)]

theorem switchCaseLoop_mw {fuel : Nat} (ih : AllMark fuel) :
    Walk0 (Oq3.Grammar.switchCaseLoop (fuel + 1)) fun _ _ _ => True := fun a => by
  unfold Oq3.Grammar.switchCaseLoop; mw [switchCaseLoop (MW.call0 ih.switchCaseLoop), tryBlockExpr (MW.call0 ih.tryBlockExpr), caseValueList (MW.call0 ih.caseValueList)]

theorem whileStmt_mw {fuel : Nat} (ih : AllMark fuel) (m : Marker) :
    WalkM m (Oq3.Grammar.whileStmt (fuel + 1) m) fun _ _ _ => True := fun a hm => by
  unfold Oq3.Grammar.whileStmt; mw [blockOrStatement (MW.call0 ih.blockOrStatement), expr (MW.call0 ih.expr)]

theorem resetStmt_mw {fuel : Nat} (ih : AllMark fuel) (m : Marker) :
    WalkM m (Oq3.Grammar.resetStmt (fuel + 1) m) fun _ _ _ => True := fun a hm => by
  unfold Oq3.Grammar.resetStmt; mw [argGateCallQubit (MW.callM (ih.argGateCallQubit _))]

theorem returnsBoolClassicalDeclarationStmt_mw {fuel : Nat} (ih : AllMark fuel) (m : Marker) :
    WalkM m (Oq3.Grammar.returnsBoolClassicalDeclarationStmt (fuel + 1) m) fun _ _ _ => True := fun a hm => by
  unfold Oq3.Grammar.returnsBoolClassicalDeclarationStmt; mw [varName (MW.call0 varName_mark), expr (MW.call0 ih.expr), typeSpec (MW.call0 ih.typeSpec), arrayLiteral (MW.call0 ih.arrayLiteral)]

theorem defStmt_mw {fuel : Nat} (ih : AllMark fuel) (m : Marker) :
    WalkM m (Oq3.Grammar.defStmt (fuel + 1) m) fun _ _ _ => True := fun a hm => by
  unfold Oq3.Grammar.defStmt; mw [nameR (MW.call0 (nameR_mark _)), optReturnSignature (MW.call0 ih.optReturnSignature), tryBlockExpr (MW.call0 ih.tryBlockExpr), paramListDefParams (MW.call0 ih.paramListDefParams)]

theorem barrier__mw {fuel : Nat} (ih : AllMark fuel) (m : Marker) :
    WalkM m (Oq3.Grammar.barrier_ (fuel + 1) m) fun _ _ _ => True := fun a hm => by
  unfold Oq3.Grammar.barrier_; mw [argListGateCallQubits (MW.call0 ih.argListGateCallQubits)]

theorem expr_mw {fuel : Nat} (ih : AllMark fuel) :
    Walk0 (Oq3.Grammar.expr (fuel + 1)) fun _ _ _ => True := fun a => by
  unfold Oq3.Grammar.expr; mw [exprBp (MW.call0 (optNone (ih.exprBp _ _ _)))]

theorem exprStmt_none_mw {fuel : Nat} (ih : AllMark fuel) :
    Walk0 (Oq3.Grammar.exprStmt (fuel + 1) none) fun s r s' => (∀ cm bl, r = some (cm, bl) → Done s' cm ∧ obound none s ≤ cm.pos) := fun a => by
  unfold Oq3.Grammar.exprStmt; mw [exprBp (MW.callO (optNoneO (ih.exprBp _ _ _)))]

theorem letStmt_mw {fuel : Nat} (ih : AllMark fuel) (m : Marker) :
    WalkM m (Oq3.Grammar.letStmt (fuel + 1) m) fun _ _ _ => True := fun a hm => by
  unfold Oq3.Grammar.letStmt; mw [expr (MW.call0 ih.expr)]

theorem exprBlockStatements_mw {fuel : Nat} (ih : AllMark fuel) :
    Walk0 (Oq3.Grammar.exprBlockStatements (fuel + 1)) fun _ _ _ => True := fun a => by
  unfold Oq3.Grammar.exprBlockStatements; mw [stmt (MW.call0 ih.stmt), exprBlockStatements (MW.call0 ih.exprBlockStatements)]

theorem exprBpLoop_mw {fuel : Nat} (ih : AllMark fuel) (r : Restrictions) (bp : Nat) (lhs : CompletedMarker) :
    WalkL lhs (Oq3.Grammar.exprBpLoop (fuel + 1) r bp lhs) fun s r s' => (∀ cm bl, r = some (cm, bl) → Done s' cm ∧ lhs.pos ≤ cm.pos) := fun a hl => by
  unfold Oq3.Grammar.exprBpLoop; mw [exprBp (MW.call0 (optNone (ih.exprBp _ _ _))), exprBpLoop (MW.callLO (ih.exprBpLoop _ _ _))]

theorem callExpr_mw {fuel : Nat} (ih : AllMark fuel) (lhs : CompletedMarker) :
    WalkL lhs (Oq3.Grammar.callExpr (fuel + 1) lhs) fun s r s' => Done s' r ∧ lhs.pos ≤ r.pos := fun a hl => by
  unfold Oq3.Grammar.callExpr; mw [callArgList (MW.call0 ih.callArgList), argListGateCallQubits (MW.call0 ih.argListGateCallQubits)]

theorem arrayTypeSpec_mw {fuel : Nat} (ih : AllMark fuel) (wantArrayRefType : Bool) :
    Walk0 (Oq3.Grammar.arrayTypeSpec (fuel + 1) wantArrayRefType) fun _ _ _ => True := fun a => by
  unfold Oq3.Grammar.arrayTypeSpec; mw [expr (MW.call0 ih.expr), typeSpec (MW.call0 ih.typeSpec), arrayTypeDimsLoop (MW.call0 ih.arrayTypeDimsLoop)]

theorem complexTypeSpec_mw {fuel : Nat} (ih : AllMark fuel) :
    Walk0 (Oq3.Grammar.complexTypeSpec (fuel + 1)) fun _ _ _ => True := fun a => by
  unfold Oq3.Grammar.complexTypeSpec; mw [nonArrayTypeSpec (MW.call0 ih.nonArrayTypeSpec)]

theorem indexExpr_mw {fuel : Nat} (ih : AllMark fuel) (lhs : CompletedMarker) :
    WalkL lhs (Oq3.Grammar.indexExpr (fuel + 1) lhs) fun s r s' => Done s' r ∧ lhs.pos ≤ r.pos := fun a hl => by
  unfold Oq3.Grammar.indexExpr; mw [indexOperator (MW.call0 ih.indexOperator)]

theorem setExpression_mw {fuel : Nat} (ih : AllMark fuel) :
    Walk0 (Oq3.Grammar.setExpression (fuel + 1)) fun _ _ _ => True := fun a => by
  unfold Oq3.Grammar.setExpression; mw [expressionList (MW.call0 ih.expressionList)]

theorem atomExpr_mw {fuel : Nat} (ih : AllMark fuel) (_r : Restrictions) :
    Walk0 (Oq3.Grammar.atomExpr (fuel + 1) _r) fun s r s' => (∀ cm bl, r = some (cm, bl) → Done s' cm ∧ s.events.size ≤ cm.pos) := fun a => by
  unfold Oq3.Grammar.atomExpr; mw [identifier (MW.callD identifier_mark), hardwareQubit (MW.callD hardwareQubit_mark), literal (MW.callO1 literal_mark), castExpr (MW.callD ih.castExpr), gphaseCallExpr (MW.callD ih.gphaseCallExpr), modifiedGateCallExpr (MW.callD ih.modifiedGateCallExpr), gateCallExpr (MW.callD ih.gateCallExpr), measureExpression (MW.callD ih.measureExpression), tupleExpr (MW.callD ih.tupleExpr), arrayExpr (MW.callD ih.arrayExpr), blockExpr (MW.callD ih.blockExpr), returnExpr (MW.callD ih.returnExpr), boxExpr (MW.callD (optNoneD (ih.boxExpr _)))]

theorem modifiedGateCallExpr_mw {fuel : Nat} (ih : AllMark fuel) :
    Walk0 (Oq3.Grammar.modifiedGateCallExpr (fuel + 1)) fun s r s' => Done s' r ∧ s.events.size ≤ r.pos := fun a => by
  unfold Oq3.Grammar.modifiedGateCallExpr; mw [gphaseCallExpr (MW.callD ih.gphaseCallExpr), modifiedGateCallExprLoop (MW.call0 ih.modifiedGateCallExprLoop), gateCallExpr (MW.callD ih.gateCallExpr)]

theorem measureExpression_mw {fuel : Nat} (ih : AllMark fuel) :
    Walk0 (Oq3.Grammar.measureExpression (fuel + 1)) fun s r s' => Done s' r ∧ s.events.size ≤ r.pos := fun a => by
  unfold Oq3.Grammar.measureExpression; mw [argGateCallQubit (MW.callM (ih.argGateCallQubit _))]

theorem arrayExpr_mw {fuel : Nat} (ih : AllMark fuel) :
    Walk0 (Oq3.Grammar.arrayExpr (fuel + 1)) fun s r s' => Done s' r ∧ s.events.size ≤ r.pos := fun a => by
  unfold Oq3.Grammar.arrayExpr; mw [arrayExprLoop (MW.call0 (ih.arrayExprLoop _ _))]

theorem blockExpr_mw {fuel : Nat} (ih : AllMark fuel) :
    Walk0 (Oq3.Grammar.blockExpr (fuel + 1)) fun s r s' => Done s' r ∧ s.events.size ≤ r.pos := fun a => by
  unfold Oq3.Grammar.blockExpr; mw [exprBlockStatements (MW.call0 ih.exprBlockStatements)]

theorem boxExpr_some_mw {fuel : Nat} (ih : AllMark fuel) (m : Marker) :
    WalkM m (Oq3.Grammar.boxExpr (fuel + 1) (some m)) fun s r s' => Done s' r ∧ obound (some m) s ≤ r.pos := fun a hm => by
  unfold Oq3.Grammar.boxExpr; mw [expr (MW.call0 ih.expr)]

theorem argListGateCallQubits_mw {fuel : Nat} (ih : AllMark fuel) :
    Walk0 (Oq3.Grammar.argListGateCallQubits (fuel + 1)) fun _ _ _ => True := fun a => by
  unfold Oq3.Grammar.argListGateCallQubits; mw [paramListOpenqasm (MW.call0 (ih.paramListOpenqasm _))]

theorem paramListDefcalParams_mw {fuel : Nat} (ih : AllMark fuel) :
    Walk0 (Oq3.Grammar.paramListDefcalParams (fuel + 1)) fun _ _ _ => True := fun a => by
  unfold Oq3.Grammar.paramListDefcalParams; mw [paramListOpenqasm (MW.call0 (ih.paramListOpenqasm _))]

theorem caseValueList_mw {fuel : Nat} (ih : AllMark fuel) :
    Walk0 (Oq3.Grammar.caseValueList (fuel + 1)) fun _ _ _ => True := fun a => by
  unfold Oq3.Grammar.caseValueList; mw [paramListOpenqasm (MW.call0 (ih.paramListOpenqasm _))]

theorem paramListOpenqasmLoop_mw {fuel : Nat} (ih : AllMark fuel) (flavor : DefFlavor) (numParams : Nat) :
    Walk0 (Oq3.Grammar.paramListOpenqasmLoop (fuel + 1) flavor numParams) fun _ _ _ => True := fun a => by
  unfold Oq3.Grammar.paramListOpenqasmLoop; mw [atListEndToken (MW.call0 (atListEndToken_mark _)), paramListOpenqasmLoop (MW.call0 (ih.paramListOpenqasmLoop _ _)), paramListItem (MW.callM (ih.paramListItem _ _ _))]

theorem scalarType_mw {fuel : Nat} (ih : AllMark fuel) (m : Marker) :
    WalkM m (Oq3.Grammar.scalarType (fuel + 1) m) fun _ _ _ => True := fun a hm => by
  unfold Oq3.Grammar.scalarType; mw [typeSpec (MW.call0 ih.typeSpec)]

end Oq3.Grammar
