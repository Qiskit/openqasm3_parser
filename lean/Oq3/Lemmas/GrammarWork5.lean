/- GENERATED by /verif/tools/gen_grammar_cost2.py from Oq3/Model/Grammar.lean — the proofs are checked by Lean. -/
import Oq3.Lemmas.GrammarWork0
set_option linter.unusedVariables false
set_option linter.unusedSimpArgs false

namespace Oq3.Grammar
open Oq3.Gen Oq3.Parser
open Oq3.Gen.Ops (Assoc)
open Oq3.Gen.TokenSets

theorem modifiedGateCallExprLoop_wk {M : Sys} {fuel : Nat} (ih : AllWork M fuel) (E : Env M ⟨1, 2, 0, 0, 39, 0, 8⟩ fuel) :
    W E .init (Oq3.Grammar.modifiedGateCallExprLoop (fuel + 1)) (Exit E fun r s' => (modHead (E.s₀.kindAt E.s₀.pos) = true → E.s₀.pos < s'.pos)) E.s₀ := by
  unfold Oq3.Grammar.modifiedGateCallExprLoop
  ww [expr (W.callF (.of_field ih.expr)), modifiedGateCallExprLoop (W.callF (.of_field ih.modifiedGateCallExprLoop))]

theorem exprBpLoop_wk {M : Sys} {fuel : Nat} (ih : AllWork M fuel) (r : Restrictions) (bp : Nat) (lhs : CompletedMarker) (E : Env M ⟨1, 2, 0, 0, 29, 0, 8⟩ fuel) :
    W E .init (Oq3.Grammar.exprBpLoop (fuel + 1) r bp lhs) (Exit E fun _ _ => True) E.s₀ := by
  unfold Oq3.Grammar.exprBpLoop
  ww [exprBp (W.callF (.of_field (ih.exprBp _ _ _))), exprBpLoop (W.callFN (.of_field' (ih.exprBpLoop _ _ _)))]

theorem delimitedLoop_wk {M : Sys} {fuel : Nat} (ih : AllWork M fuel) (ket delim : SyntaxKind) (firstSet : TokenSet) (parser : DelimitedParser) (E : Env M ⟨13, 15, 2, 5, 1, 2, 0⟩ fuel) :
    W E .init (Oq3.Grammar.delimitedLoop (fuel + 1) ket delim firstSet parser) (Exit E fun _ _ => True) E.s₀ := by
  unfold Oq3.Grammar.delimitedLoop
  ww [delimitedLoop (W.callFN (.of_field' (ih.delimitedLoop _ _ _ _))), delimitedParser (W.callF (.of_field (ih.delimitedParser _)))]

theorem gateDefinition_wk {M : Sys} {fuel : Nat} (ih : AllWork M fuel) (m : Marker) (E : Env M ⟨1, 1, 0, 0, 12, 0, 6⟩ fuel) :
    W E .init (Oq3.Grammar.gateDefinition (fuel + 1) m) (Exit E fun _ s' => E.s₀.pos < s'.pos) E.s₀ := by
  unfold Oq3.Grammar.gateDefinition
  ww [nameR (W.callSN (nameR_spec _)), tryBlockExpr (W.callFN (.of_field' ih.tryBlockExpr)), paramListGateParams (W.callFN (.of_field' ih.paramListGateParams)), paramListGateQubits (W.callFN (.of_field' ih.paramListGateQubits))]

theorem delayStmt_wk {M : Sys} {fuel : Nat} (ih : AllWork M fuel) (m : Marker) (E : Env M ⟨1, 1, 0, 0, 12, 0, 6⟩ fuel) :
    W E .init (Oq3.Grammar.delayStmt (fuel + 1) m) (Exit E fun _ s' => E.s₀.pos < s'.pos) E.s₀ := by
  unfold Oq3.Grammar.delayStmt
  ww [designator (W.callFP (.of_field ih.designator)), argListGateCallQubits (W.callFN (.of_field' ih.argListGateCallQubits))]

theorem exprBlockStatements_wk {M : Sys} {fuel : Nat} (ih : AllWork M fuel) (E : Env M ⟨16, 24, 5, 0, 1, 0, 1⟩ fuel) :
    W E .init (Oq3.Grammar.exprBlockStatements (fuel + 1)) (Exit E fun r s' => (atomHalt (E.s₀.kindAt E.s₀.pos) = false → E.s₀.pos < s'.pos)) E.s₀ := by
  unfold Oq3.Grammar.exprBlockStatements
  ww [stmt (W.callF (.of_field ih.stmt)), exprBlockStatements (W.callF (.of_field ih.exprBlockStatements))]

theorem qubitTypeSpec_wk {M : Sys} {fuel : Nat} (ih : AllWork M fuel) (E : Env M ⟨2, 4, 0, 0, 17, 0, 6⟩ fuel) :
    W E .init (Oq3.Grammar.qubitTypeSpec (fuel + 1)) (Exit E fun _ s' => E.s₀.pos < s'.pos) E.s₀ := by
  unfold Oq3.Grammar.qubitTypeSpec
  ww [designator (W.callFP (.of_field ih.designator))]

theorem gphaseCallExpr_wk {M : Sys} {fuel : Nat} (ih : AllWork M fuel) (E : Env M ⟨1, 2, 0, 0, 27, 0, 8⟩ fuel) :
    W E .init (Oq3.Grammar.gphaseCallExpr (fuel + 1)) (Exit E fun _ s' => E.s₀.pos < s'.pos) E.s₀ := by
  unfold Oq3.Grammar.gphaseCallExpr
  ww [expr (W.callF (.of_field ih.expr))]

theorem blockExpr_wk {M : Sys} {fuel : Nat} (ih : AllWork M fuel) (E : Env M ⟨1, 2, 0, 0, 31, 0, 8⟩ fuel) :
    W E .init (Oq3.Grammar.blockExpr (fuel + 1)) (Exit E fun _ s' => E.s₀.pos < s'.pos) E.s₀ := by
  unfold Oq3.Grammar.blockExpr
  ww [exprBlockStatements (W.callF (.of_field ih.exprBlockStatements))]

theorem paramListDefcalParams_wk {M : Sys} {fuel : Nat} (ih : AllWork M fuel) (E : Env M ⟨8, 13, 0, 13, 0, 0, 0⟩ fuel) :
    W E .init (Oq3.Grammar.paramListDefcalParams (fuel + 1)) (Exit E fun _ _ => True) E.s₀ := by
  unfold Oq3.Grammar.paramListDefcalParams
  ww [paramListOpenqasm (W.callFX (.of_fieldX (ih.paramListOpenqasm _)))]

theorem scalarType_wk {M : Sys} {fuel : Nat} (ih : AllWork M fuel) (m : Marker) (E : Env M ⟨4, 5, 0, 4, 36, 0, 6⟩ fuel) :
    W E .init (Oq3.Grammar.scalarType (fuel + 1) m) (Exit E fun r s' => (r = true → E.s₀.pos < s'.pos)) E.s₀ := by
  unfold Oq3.Grammar.scalarType
  ww [typeSpec (W.callF (.of_field ih.typeSpec))]

end Oq3.Grammar
