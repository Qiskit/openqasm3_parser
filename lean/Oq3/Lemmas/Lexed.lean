/-
Helper lemmas for `Oq3.Props.C14`, `LexedStr` layer: byte slicing on character boundaries, the
closed form of `LexedStr::new`.  Core only (no Mathlib).
-/
import Oq3.Model.Lexed
import Oq3.Lemmas.Lexer

namespace Oq3.Lemmas.Lexed
open Oq3.Lexer Oq3.Lexed Oq3.Gen Oq3.Lemmas.Lexer

theorem dropBytes_zero (s : List Char) : dropBytes s 0 = some s := by
  cases s <;> simp [dropBytes]

theorem takeBytes_zero (s : List Char) : takeBytes s 0 = some [] := by
  cases s <;> simp [takeBytes]

theorem dropBytes_append (a r : List Char) : dropBytes (a ++ r) (utf8Len a) = some r := by
  induction a with
  | nil => simp [utf8Len, dropBytes_zero]
  | cons c cs ih =>
    have := Char.utf8Size_pos c
    simp only [List.cons_append, utf8Len, dropBytes]
    rw [if_neg (by omega), if_pos (by omega)]
    rw [show c.utf8Size + utf8Len cs - c.utf8Size = utf8Len cs by omega]
    exact ih

theorem takeBytes_append (b r : List Char) : takeBytes (b ++ r) (utf8Len b) = some b := by
  induction b with
  | nil => simp [utf8Len, takeBytes_zero]
  | cons c cs ih =>
    have := Char.utf8Size_pos c
    simp only [List.cons_append, utf8Len, takeBytes]
    rw [if_neg (by omega), if_pos (by omega)]
    rw [show c.utf8Size + utf8Len cs - c.utf8Size = utf8Len cs by omega, ih]
    rfl

theorem sliceBytes_append (a b c : List Char) :
    sliceBytes (a ++ b ++ c) (utf8Len a) (utf8Len a + utf8Len b) = some b := by
  unfold sliceBytes
  rw [if_pos (by omega), List.append_assoc, dropBytes_append]
  simp only [Option.bind_some]
  rw [show utf8Len a + utf8Len b - utf8Len a = utf8Len b by omega]
  exact takeBytes_append b c

def synKind (t : Token) : SyntaxKind := (innerExtendToken t.kind t.text).2.1

/-- `""` = no error -/
def errMsg (t : Token) : String := (innerExtendToken t.kind t.text).1

def offsets (off : Nat) : List Token → List Nat
  | [] => []
  | t :: ts => off :: offsets (off + utf8Len t.text) ts

def specErrors (idx : Nat) : List Token → List LexError
  | [] => []
  | t :: ts =>
    (if (errMsg t).isEmpty then [] else [⟨errMsg t, idx⟩]) ++ specErrors (idx + 1) ts

def texts (ts : List Token) : List Char := (ts.map (·.text)).flatten

theorem extendLiteralFunc_len (n : Nat) (k : LiteralKind) : (extendLiteralFunc n k).2.2 = n := by
  cases k <;> rfl

theorem innerExtendToken_len (k : TokenKind) (txt : List Char) :
    (innerExtendToken k txt).2.2 = utf8Len txt := by
  cases k <;> simp only [innerExtendToken, extendLiteralFunc_len]
  split <;> rfl

theorem extendToken_eq (c : Converter) (k : TokenKind) (txt : List Char) :
    c.extendToken k txt =
      ⟨{ text := c.res.text
         kind := c.res.kind ++ [(innerExtendToken k txt).2.1]
         start := c.res.start ++ [c.offset]
         error := c.res.error ++
           (if (innerExtendToken k txt).1.isEmpty then []
            else [⟨(innerExtendToken k txt).1, c.res.kind.length⟩]) },
       c.offset + utf8Len txt⟩ := by
  simp only [Converter.extendToken, Converter.push, LexedStr.push, innerExtendToken_len]
  split <;> rename_i h
  · split at h
    · cases h
    · cases h; simp [*, LexedStr.len]
  · split at h
    · simp [*]
    · cases h

theorem texts_cons (t : Token) (ts : List Token) : texts (t :: ts) = t.text ++ texts ts := by
  simp [texts]

theorem texts_append (a b : List Token) : texts (a ++ b) = texts a ++ texts b := by
  simp [texts]

theorem texts_tokenize (uc : UC) (s : List Char) : texts (tokenize uc s) = s := tokenize_texts uc s

/-- the conversion loop never slices off a character boundary, and computes this -/
theorem loop_closed : ∀ (ts : List Token) (c : Converter) (pre post : List Char),
    c.res.text = pre ++ texts ts ++ post → c.offset = utf8Len pre →
    (∀ t ∈ ts, t.len = utf8Len t.text) →
    c.loop (ts.map fun t => (t.kind, t.len)) =
      some ⟨{ text := c.res.text
              kind := c.res.kind ++ ts.map synKind
              start := c.res.start ++ offsets c.offset ts
              error := c.res.error ++ specErrors c.res.kind.length ts },
            c.offset + utf8Len (texts ts)⟩ := by
  intro ts
  induction ts with
  | nil => intro c pre post _ _ _; simp [Converter.loop, offsets, specErrors, texts, utf8Len]
  | cons t ts ih =>
    intro c pre post htext hoff hlen
    have ht : t.len = utf8Len t.text := hlen t (by simp)
    simp only [List.map_cons, Converter.loop]
    have hslice : (dropBytes c.res.text c.offset).bind (fun r => takeBytes r t.len) = some t.text := by
      rw [htext, hoff, texts_cons, List.append_assoc, dropBytes_append, ht]
      simp only [Option.bind_some, List.append_assoc]
      exact takeBytes_append _ _
    rw [hslice]
    simp only []
    have := ih (c.extendToken t.kind t.text) (pre ++ t.text) post
      (by rw [extendToken_eq]; simp [htext, texts_cons])
      (by rw [extendToken_eq]; simp [hoff, utf8Len_append])
      (fun t' h' => hlen t' (by simp [h']))
    rw [this, extendToken_eq]
    simp [offsets, specErrors, synKind, errMsg, texts_cons, utf8Len_append, Nat.add_assoc]

def lexedOf (uc : UC) (s : List Char) : LexedStr :=
  { text := s
    kind := (tokenize uc s).map synKind ++ [.EOF]
    start := offsets 0 (tokenize uc s) ++ [utf8Len s]
    error := specErrors 0 (tokenize uc s) }

/-- `LexedStr::new` never panics and returns `lexedOf` -/
theorem new_eq (uc : UC) (s : List Char) : LexedStr.new uc s = some (lexedOf uc s) := by
  have htx := texts_tokenize uc s
  simp only [LexedStr.new, Converter.new, dropBytes_zero]
  rw [loop_closed (tokenize uc s) _ [] [] (by simp [htx]) rfl
    (forall_tokenize uc (fun t => t.len = utf8Len t.text) (tokenAt_len uc) s)]
  simp [Converter.finalizeWithEof, LexedStr.push, htx, lexedOf]

theorem offsets_length (off : Nat) (ts : List Token) : (offsets off ts).length = ts.length := by
  induction ts generalizing off with
  | nil => rfl
  | cons t ts ih => simp [offsets, ih]

theorem offsets_getElem? (ts : List Token) : ∀ (off i : Nat), i ≤ ts.length →
    (offsets off ts ++ [off + utf8Len (texts ts)])[i]? = some (off + utf8Len (texts (ts.take i))) := by
  induction ts with
  | nil => intro off i hi; simp at hi; subst hi; simp [offsets, texts, utf8Len]
  | cons t ts ih =>
    intro off i hi
    cases i with
    | zero => simp [offsets, texts, utf8Len]
    | succ j =>
      simp only [offsets, List.cons_append, List.getElem?_cons_succ, List.take_succ_cons, texts_cons,
        utf8Len_append]
      have := ih (off + utf8Len t.text) j (by simpa using hi)
      rw [Nat.add_assoc] at this
      rw [this, Nat.add_assoc]

theorem offsets_ge (ts : List Token) : ∀ (off : Nat),
    ∀ x ∈ offsets off ts ++ [off + utf8Len (texts ts)], off ≤ x := by
  induction ts with
  | nil => intro off x hx; simp [offsets] at hx; omega
  | cons t ts ih =>
    intro off x hx
    simp only [offsets, List.cons_append, List.mem_cons, texts_cons, utf8Len_append] at hx
    rcases hx with rfl | hx
    · exact Nat.le_refl _
    · have := ih (off + utf8Len t.text) x (by rw [Nat.add_assoc]; exact hx)
      omega

theorem offsets_pairwise (ts : List Token) (hne : ∀ t ∈ ts, t.text ≠ []) : ∀ (off : Nat),
    List.Pairwise (· < ·) (offsets off ts ++ [off + utf8Len (texts ts)]) := by
  induction ts with
  | nil => intro off; simp [offsets]
  | cons t ts ih =>
    intro off
    simp only [offsets, List.cons_append, List.pairwise_cons, texts_cons, utf8Len_append]
    have hpos := utf8Len_pos (hne t (by simp))
    constructor
    · intro x hx
      have := offsets_ge ts (off + utf8Len t.text) x (by rw [Nat.add_assoc]; exact hx)
      omega
    · have := ih (fun t' h' => hne t' (by simp [h'])) (off + utf8Len t.text)
      rw [Nat.add_assoc] at this
      exact this

theorem specErrors_token (ts : List Token) : ∀ (idx : Nat),
    ∀ e ∈ specErrors idx ts, idx ≤ e.token ∧ e.token < idx + ts.length := by
  induction ts with
  | nil => intro idx e he; simp [specErrors] at he
  | cons t ts ih =>
    intro idx e he
    simp only [specErrors, List.mem_append] at he
    rcases he with he | he
    · split at he
      · simp at he
      · simp at he; subst he; simp
    · have := ih (idx + 1) e he
      simp only [List.length_cons]; omega

theorem specErrors_mem (a : List Token) (t : Token) (b : List Token) (idx : Nat)
    (h : (errMsg t).isEmpty = false) : ⟨errMsg t, idx + a.length⟩ ∈ specErrors idx (a ++ t :: b) := by
  induction a generalizing idx with
  | nil => simp [specErrors, h]
  | cons x xs ih =>
    simp only [List.cons_append, specErrors, List.mem_append, List.length_cons]
    right
    have := ih (idx + 1)
    rwa [show idx + 1 + xs.length = idx + (xs.length + 1) by omega] at this

theorem lexedOf_len (uc : UC) (s : List Char) : (lexedOf uc s).len = (tokenize uc s).length := by
  simp [lexedOf, LexedStr.len]

theorem lexedOf_start (uc : UC) (s : List Char) (i : Nat) (hi : i ≤ (tokenize uc s).length) :
    (lexedOf uc s).start[i]? = some (utf8Len (texts ((tokenize uc s).take i))) := by
  have := offsets_getElem? (tokenize uc s) 0 i hi
  simp only [Nat.zero_add, texts_tokenize] at this
  exact this

theorem lexedOf_kindAt (uc : UC) (s : List Char) (i : Nat) (hi : i < (tokenize uc s).length) :
    (lexedOf uc s).kindAt i = some (synKind (tokenize uc s)[i]) := by
  simp only [LexedStr.kindAt, lexedOf_len, hi, if_true]
  simp [lexedOf, List.getElem?_append_left, hi]

theorem lexedOf_textAt (uc : UC) (s : List Char) (i : Nat) (hi : i < (tokenize uc s).length) :
    (lexedOf uc s).textAt i = some (tokenize uc s)[i].text := by
  have htx := texts_tokenize uc s
  simp only [LexedStr.textAt, LexedStr.rangeText, lexedOf_len]
  rw [if_pos ⟨by omega, by omega⟩, lexedOf_start uc s i (by omega), lexedOf_start uc s (i + 1) (by omega)]
  simp only []
  have htake : (tokenize uc s).take (i + 1) = (tokenize uc s).take i ++ [(tokenize uc s)[i]] := by
    rw [List.take_succ_eq_append_getElem hi]
  have hsplit : s = texts ((tokenize uc s).take i) ++ (tokenize uc s)[i].text
      ++ texts ((tokenize uc s).drop (i + 1)) := by
    conv => lhs; rw [← htx, ← List.take_append_drop (i + 1) (tokenize uc s), texts_append, htake,
      texts_append]
    simp [texts]
  rw [htake, texts_append, utf8Len_append]
  have h1 : texts [(tokenize uc s)[i]] = (tokenize uc s)[i].text := by simp [texts]
  rw [h1]
  show sliceBytes s _ _ = _
  conv => lhs; arg 1; rw [hsplit]
  exact sliceBytes_append _ _ _

/-- loop invariant of `to_input` (used in `Lemmas/Bridge.lean`) -/
def InputInv (st : ToInputState) : Prop :=
  st.res.joint.length = st.res.kind.length ∧ (st.wasJoint = true → st.res.kind ≠ [])

def table (l : LexedStr) : List (Option SyntaxKind × Option (List Char)) :=
  (List.range l.len).map fun i => (l.kindAt i, l.textAt i)

theorem table_lexedOf (uc : UC) (s : List Char) :
    table (lexedOf uc s) = (tokenize uc s).map fun t => (some (synKind t), some t.text) := by
  apply List.ext_getElem
  · simp [table, lexedOf_len]
  · intro i h1 h2
    have hi : i < (tokenize uc s).length := by simpa using h2
    simp [table, lexedOf_kindAt uc s i hi, lexedOf_textAt uc s i hi]

def nonTrivia (l : LexedStr) : List (SyntaxKind × List Char) :=
  (table l).filterMap fun e =>
    match e.1, e.2 with
    | some k, some t => if k.isTrivia then none else some (k, t)
    | _, _ => none

theorem nonTrivia_lexedOf (uc : UC) (s : List Char) :
    nonTrivia (lexedOf uc s) =
      ((tokenize uc s).filter (fun t => !(synKind t).isTrivia)).map fun t => (synKind t, t.text) := by
  rw [nonTrivia, table_lexedOf]
  induction tokenize uc s with
  | nil => rfl
  | cons t ts ih =>
    simp only [List.map_cons, List.filterMap_cons, List.filter_cons]
    cases h : (synKind t).isTrivia <;> simp [ih]

theorem specErrors_nil_iff (ts : List Token) (idx : Nat) :
    specErrors idx ts = [] ↔ ∀ t ∈ ts, (errMsg t).isEmpty = true := by
  induction ts generalizing idx with
  | nil => simp [specErrors]
  | cons t ts ih =>
    simp only [specErrors, List.append_eq_nil_iff, ih, List.mem_cons, forall_eq_or_imp]
    constructor
    · rintro ⟨h1, h2⟩
      refine ⟨?_, h2⟩
      cases h : (errMsg t).isEmpty with
      | true => rfl
      | false => simp [h] at h1
    · rintro ⟨h1, h2⟩
      exact ⟨by simp [h1], h2⟩

end Oq3.Lemmas.Lexed
