/-
Locality of the parser API (for C16): a run only depends on the input up to two tokens beyond the
position it reaches.  `LM x` collects what the walk of the grammar (`Lemmas/GrammarLoc.lean`, an
instance of `Lemmas/GrammarClosed.lean`) needs of a computation `x`; `lmClosed` supplies it for the
primitives.  The primitives that do not look at the input arrays at all are `Obliv`.
-/
import Oq3.Lemmas.Run
set_option linter.unusedSimpArgs false
namespace Oq3.Parser
open Oq3.Gen

/-- `s'` is `s` with a possibly different input from index `m` on -/
structure Agree (m : Nat) (s s' : P) : Prop where
  rest : s' = { s with kinds := s'.kinds, joint := s'.joint }
  kinds : ∀ i, i < m → s'.kindAt i = s.kindAt i
  joint : ∀ i, i < m → s'.joint.getD i false = s.joint.getD i false

/-- **Locality**: a successful run that ends at position `p` with `p + 3 ≤ m` is reproduced
verbatim (same value, same state up to the input arrays) on every input that agrees on the
first `m` tokens.  The window of 3 is the look-ahead of the API: `nth(n)` for `n ≤ 2` and the
three raw tokens of a composite `at`. -/
def Loc {α} (x : G α) : Prop :=
  ∀ m s s' r, Agree m s s' → x s = .ok r → r.2.pos + 3 ≤ m →
    ∃ t', x s' = .ok (r.1, t') ∧ Agree m r.2 t'

def Mono {α} (x : G α) : Prop := ∀ s r, x s = .ok r → s.pos ≤ r.2.pos

def KeepIn {α} (x : G α) : Prop := ∀ s r, x s = .ok r → r.2.kinds = s.kinds ∧ r.2.joint = s.joint

structure LM {α} (x : G α) : Prop where
  loc : Loc x
  mono : Mono x
  keep : KeepIn x

theorem LM.bind {α β} {x : G α} {f : α → G β} (hx : LM x) (hf : ∀ a, LM (f a)) : LM (x >>= f) := by
  constructor
  · intro m s s' r hA h hm
    obtain ⟨a, s1, h1, h2⟩ := (G.bind_ok x f s r).mp h
    have hmono := (hf a).mono s1 r h2
    obtain ⟨t1, ht1, hA1⟩ := hx.loc m s s' (a, s1) hA h1 (by simp only; omega)
    obtain ⟨t2, ht2, hA2⟩ := (hf a).loc m s1 t1 r hA1 h2 hm
    exact ⟨t2, (G.bind_ok x f s' _).mpr ⟨a, t1, ht1, ht2⟩, hA2⟩
  · intro s r h
    obtain ⟨a, s1, h1, h2⟩ := (G.bind_ok x f s r).mp h
    have := hx.mono s _ h1
    have := (hf a).mono s1 r h2
    simp only at *; omega
  · intro s r h
    obtain ⟨a, s1, h1, h2⟩ := (G.bind_ok x f s r).mp h
    have k1 := hx.keep s _ h1
    have k2 := (hf a).keep s1 r h2
    simp only at k1 k2
    exact ⟨k2.1.trans k1.1, k2.2.trans k1.2⟩

theorem LM.pure {α} (a : α) : LM (pure a : G α) := by
  constructor
  · intro m s s' r hA h _
    simp at h; subst h
    exact ⟨s', by simp, hA⟩
  · intro s r h; simp at h; subst h; exact Nat.le_refl _
  · intro s r h; simp at h; subst h; exact ⟨rfl, rfl⟩

theorem LM.fail {α} (o : Outcome) : LM (fail o : G α) :=
  ⟨fun _ _ _ _ _ h => by simp at h, fun _ _ h => by simp at h, fun _ _ h => by simp at h⟩

theorem LM.of_readOnly {α} {x : G α} (hro : ReadOnly x) (hl : Loc x) : LM x :=
  ⟨hl, fun s r h => by rw [hro s r h]; exact Nat.le_refl _, fun s r h => by rw [hro s r h]; exact ⟨rfl, rfl⟩⟩

def mapSt {α} (g : P → P) : Except Outcome (α × P) → Except Outcome (α × P)
  | .ok (a, t) => .ok (a, g t)
  | .error e => .error e

/-- computations that neither read nor write the input arrays -/
def Obliv {α} (x : G α) : Prop :=
  ∀ s K J, x { s with kinds := K, joint := J } = mapSt (fun t => { t with kinds := K, joint := J }) (x s)

/-- computations that keep `pos`, `kinds`, `joint` -/
def KeepsInput {α} (x : G α) : Prop :=
  ∀ s, x s = mapSt (fun t => { t with kinds := s.kinds, joint := s.joint, pos := s.pos }) (x s)

theorem LM.of_obliv {α} {x : G α} (ho : Obliv x) (hk : KeepsInput x) : LM x := by
  constructor
  · intro m s s' r hA h _
    have e1 := ho s s'.kinds s'.joint
    rw [← hA.rest, h] at e1
    have hk' := hk s
    rw [h] at hk'
    simp only [mapSt, Except.ok.injEq] at hk'
    refine ⟨_, e1, ⟨rfl, ?_, ?_⟩⟩
    · intro i hi
      have := hA.kinds i hi
      have e : r.2.kinds = s.kinds := by rw [hk']
      simp only [P.kindAt] at this ⊢
      rw [e]; exact this
    · intro i hi
      have e : r.2.joint = s.joint := by rw [hk']
      simp only; rw [e]; exact hA.joint i hi
  · intro s r h
    have hk' := hk s
    rw [h] at hk'
    simp only [mapSt, Except.ok.injEq] at hk'
    rw [hk']; exact Nat.le_refl _
  · intro s r h
    have hk' := hk s
    rw [h] at hk'
    simp only [mapSt, Except.ok.injEq] at hk'
    rw [hk']; exact ⟨rfl, rfl⟩

theorem hookTrip_input (s : P) (K : Array SyntaxKind) (J : Array Bool) :
    ({ s with kinds := K, joint := J } : P).hookTrip = s.hookTrip := rfl

@[simp] theorem mapSt_ok {α} (g : P → P) (a : α) (t : P) : mapSt g (.ok (a, t)) = .ok (a, g t) := rfl
@[simp] theorem mapSt_error {α} (g : P → P) (e : Outcome) : mapSt (α := α) g (.error e) = .error e := rfl
theorem mapSt_ite {α} (g : P → P) (c : Prop) [Decidable c] (a b : Except Outcome (α × P)) :
    mapSt g (if c then a else b) = if c then mapSt g a else mapSt g b := by
  split <;> rfl

macro "fin" : tactic => `(tactic| ((repeat rw [mapSt_ite]); rfl))

theorem pushEvent_obliv (e : Ev) : Obliv (pushEvent e) := by
  intro s K J; rw [pushEvent_eq, pushEvent_eq]; fin
theorem pushEvent_keepsInput (e : Ev) : KeepsInput (pushEvent e) := by
  intro s; rw [pushEvent_eq]; fin
theorem start_obliv : Obliv start := by
  intro s K J; rw [start_eq, start_eq]; fin
theorem complete_obliv (m : Marker) (k : SyntaxKind) : Obliv (m.complete k) := by
  intro s K J; rw [complete_eq, complete_eq]
  show (match s.events[m.pos]? with | some (.start k0 fp) => _ | _ => _) = _
  cases s.events[m.pos]? with
  | none => rfl
  | some e => cases e <;> first | rfl | fin
theorem abandon_obliv (m : Marker) : Obliv m.abandon := by
  intro s K J; rw [abandon_eq, abandon_eq]
  show (if _ then _ else if _ then _ else if _ then (match s.events.back? with | some (.start k fp) => _ | _ => _) else _) = _
  cases s.events.back? with
  | none => fin
  | some e => cases e <;> fin
theorem precede_obliv (cm : CompletedMarker) : Obliv cm.precede := by
  intro s K J; rw [precede_eq, precede_eq]
  show (if _ then _ else (match s.started.events[cm.pos]? with | some (.start k _) => _ | _ => _)) = _
  cases s.started.events[cm.pos]? with
  | none => fin
  | some e => cases e <;> fin
theorem extendTo_obliv (cm : CompletedMarker) (m : Marker) : Obliv (cm.extendTo m) := by
  intro s K J; rw [extendTo_eq, extendTo_eq]
  show (match s.events[m.pos]? with | some (.start k _) => _ | _ => _) = _
  cases s.events[m.pos]? with
  | none => rfl
  | some e =>
    cases e <;> (try rfl)
    show (if _ then _ else (match s.events[cm.pos]? with | some (.start k' _) => _ | _ => _)) = _
    cases s.events[cm.pos]? with
    | none => fin
    | some e2 => cases e2 <;> fin

theorem error_lm (msg : String) : LM (error msg) := LM.of_obliv (pushEvent_obliv _) (pushEvent_keepsInput _)
theorem start_lm : LM start := LM.of_obliv start_obliv fun s => by rw [start_eq]; fin
theorem complete_lm (m : Marker) (k : SyntaxKind) : LM (m.complete k) := by
  refine LM.of_obliv (complete_obliv m k) fun s => ?_
  rw [complete_eq]
  cases s.events[m.pos]? with
  | none => rfl
  | some e => cases e <;> first | rfl | fin
theorem abandon_lm (m : Marker) : LM m.abandon := by
  refine LM.of_obliv (abandon_obliv m) fun s => ?_
  rw [abandon_eq]
  cases s.events.back? with
  | none => fin
  | some e => cases e <;> fin
theorem precede_lm (cm : CompletedMarker) : LM cm.precede := by
  refine LM.of_obliv (precede_obliv cm) fun s => ?_
  rw [precede_eq]
  cases s.started.events[cm.pos]? with
  | none => fin
  | some e => cases e <;> fin
theorem extendTo_lm (cm : CompletedMarker) (m : Marker) : LM (cm.extendTo m) := by
  refine LM.of_obliv (extendTo_obliv cm m) fun s => ?_
  rw [extendTo_eq]
  cases s.events[m.pos]? with
  | none => rfl
  | some e =>
    cases e <;> (try rfl)
    show (if _ then _ else (match s.events[cm.pos]? with | some (.start k' _) => _ | _ => _)) = _
    cases s.events[cm.pos]? with
    | none => fin
    | some e2 => cases e2 <;> fin

theorem Agree.pos_eq {m s s'} (h : Agree m s s') : s'.pos = s.pos := by rw [h.rest]
theorem Agree.steps_eq {m s s'} (h : Agree m s s') : s'.steps = s.steps := by rw [h.rest]
theorem Agree.stepLimit_eq {m s s'} (h : Agree m s s') : s'.stepLimit = s.stepLimit := by rw [h.rest]

theorem Agree.upd {m s s'} (h : Agree m s s') (f : P → P)
    (hf : ∀ t K J, f { t with kinds := K, joint := J } = { f t with kinds := K, joint := J })
    (hk : (f s).kinds = s.kinds) (hj : (f s).joint = s.joint) : Agree m (f s) (f s') := by
  have e : f s' = { f s with kinds := s'.kinds, joint := s'.joint } := by
    conv => lhs; rw [h.rest]
    exact hf s s'.kinds s'.joint
  refine ⟨?_, ?_, ?_⟩
  · rw [e]
  · intro i hi
    have := h.kinds i hi
    simp only [P.kindAt] at this ⊢
    rw [e, hk]; exact this
  · intro i hi
    rw [e, hj]; exact h.joint i hi

theorem current_lm : LM current := by
  refine LM.of_readOnly current_readOnly fun m s s' r hA h hm => ?_
  rw [current_eq] at h; cases h
  exact ⟨s', by rw [current_eq, hA.pos_eq, hA.kinds _ (by simp only at hm; omega)], hA⟩

theorem nth_lm (n : Nat) (hn : n ≤ 2) : LM (nth n) := by
  refine ⟨fun m s s' r hA h hm => ?_, fun s r h => by rw [nth_ok n s r h]; exact Nat.le_refl _,
    fun s r h => by rw [nth_ok n s r h]; exact ⟨rfl, rfl⟩⟩
  rw [nth_eq] at h
  split at h
  · cases h
  rename_i h1
  split at h <;> cases h
  rename_i h2
  have hm' : s.pos + 3 ≤ m := hm
  refine ⟨{ s' with steps := s'.steps + 1 }, ?_, ?_⟩
  · rw [nth_eq, hA.steps_eq, hA.stepLimit_eq, hA.pos_eq]
    simp only [h1, h2, if_false]
    rw [hA.kinds _ (by omega)]
  · exact hA.upd (fun t => { t with steps := t.steps + 1 }) (fun _ _ _ => rfl) rfl rfl

theorem atF_agree {m s s'} (hA : Agree m s s') (k : SyntaxKind) (hm : s.pos + 3 ≤ m) :
    atF k s'.kinds s'.joint s'.pos = atF k s.kinds s.joint s.pos := by
  have hk : ∀ i, i < 3 → s'.kinds.getD (s.pos + i) .EOF = s.kinds.getD (s.pos + i) .EOF :=
    fun i hi => hA.kinds _ (by omega)
  have hj : ∀ i, i < 3 → s'.joint.getD (s.pos + i) false = s.joint.getD (s.pos + i) false :=
    fun i hi => hA.joint _ (by omega)
  have hk0 := hk 0 (by omega); have hj0 := hj 0 (by omega)
  simp only [Nat.add_zero] at hk0 hj0
  rw [hA.pos_eq]; unfold atF
  split <;> simp only [hk0, hj0, hk 1 (by omega), hk 2 (by omega), hj 1 (by omega)]

theorem at_lm (k : SyntaxKind) : LM (at' k) := by
  refine LM.of_readOnly (at_readOnly k) fun m s s' r hA h hm => ?_
  rw [at_total] at h ⊢; cases h
  exact ⟨s', by rw [atF_agree hA k hm], hA⟩

theorem atTs_lm (ts : TokenSet) : LM (atTs ts) := by
  refine LM.of_readOnly (atTs_readOnly ts) fun m s s' r hA h hm => ?_
  rw [atTs_eq] at h ⊢; cases h
  exact ⟨s', by rw [hA.pos_eq, hA.kinds _ (by simp only at hm; omega)], hA⟩

theorem doBump_lm (k : SyntaxKind) (n : Nat) : LM (doBump k n) := by
  constructor
  · intro m s s' r hA h _
    rw [doBump_eq] at h ⊢
    simp only [Except.ok.injEq] at h; subst h
    exact ⟨_, rfl, hA.upd (P.bumped k n) (fun _ _ _ => rfl) rfl rfl⟩
  · intro s r h
    rw [doBump_eq] at h
    simp only [Except.ok.injEq] at h; subst h
    exact Nat.le_add_right _ _
  · intro s r h
    rw [doBump_eq] at h
    simp only [Except.ok.injEq] at h; subst h
    exact ⟨rfl, rfl⟩

theorem eat_lm (k : SyntaxKind) : LM (eat k) := by
  unfold eat
  split
  · exact LM.fail _
  · refine LM.bind (at_lm k) fun b => ?_
    split
    · exact LM.pure _
    · exact LM.bind (doBump_lm _ _) fun _ => LM.pure _

theorem bumpAny_lm : LM bumpAny := by
  unfold bumpAny
  refine LM.bind current_lm fun k => ?_
  split
  · exact LM.pure _
  · exact doBump_lm _ _

theorem lmClosed : GClosed LM :=
  { pure := LM.pure, bind := LM.bind, fail := LM.fail, current := current_lm, at' := at_lm,
    atTs := atTs_lm, nth1 := nth_lm 1 (by decide), start := start_lm, error := error_lm,
    eat := eat_lm, bumpAny := bumpAny_lm, complete := complete_lm, abandon := abandon_lm,
    precede := precede_lm, extendTo := extendTo_lm }

end Oq3.Parser
