/-
C17 (renaming through lexer and parser) — the typed-accessor layer commutes with renaming:

  `Build.program (mapC (phi ρ) t) = (Build.program t).map (renameAst ρ)`     (`program_rename`)

for every tree `t` that satisfies the side condition `renOk ρ` of `Lemmas/RenameTextAcc.lean`
(below the root).  `mapC (phi ρ)` applies `ρ` to the text of every `IDENT` token; `renameAst ρ`
(`Props/C17Rename.lean`) applies `ρ` to every name of the typed AST.  `R_build ρ`: the instance
`T := mapC (phi ρ)`, `m := rnMap ρ` of `BuildMap` (`Lemmas/AccBuildMap.lean`): the accessors commute
with `mapC (phi ρ)` (`Lemmas/RenameTextAcc.lean`), and `rnMap ρ` (`Props/C17Rename.lean`) is the lawful
map of the typed AST that applies `ρ.f` to the names.
-/
import Oq3.Lemmas.RenameTextAcc
import Oq3.Lemmas.AccBuildMap
import Oq3.Props.C17Rename

namespace Oq3.RenameText
open Oq3.Gen Oq3.Acc Oq3.C17Rename

variable {ρ : Ren}

local notation "R" => mapC (phi ρ)

mutual
theorem depth_R : ∀ c : CNode, (R c).depth = c.depth
  | .token .. => rfl
  | .node k s e cs => by
    simp only [mapC, CNode.depth]
    rw [depthList_R cs]
theorem depthList_R : ∀ cs : List CNode,
    CNode.depth.depthList (mapCs (phi ρ) cs) = CNode.depth.depthList cs
  | [] => rfl
  | c :: cs => by
    simp only [mapCs, CNode.depth.depthList, depth_R c, depthList_R cs]
end

theorem nameHead {n : CNode} (hn : renOk ρ n = true)
    (hk : n.kind = .NAME ∨ n.kind = .IDENTIFIER ∨ n.kind = .PARAM) :
    ∀ k t, headTok n = some (k, t) → (k == SyntaxKind.IDENT || fixes ρ t) = true := by
  have hl := renOk_local hn
  unfold localOk at hl
  intro k t h
  rcases hk with hk | hk | hk <;> rw [hk] at hl <;> simp only [h] at hl <;> exact hl

theorem fixHead {n : CNode} (hn : renOk ρ n = true)
    (hk : n.kind = .HARDWARE_QUBIT ∨ n.kind = .PRAGMA_STATEMENT ∨ n.kind = .ANNOTATION_STATEMENT) :
    ∀ k t, headTok n = some (k, t) → (k != SyntaxKind.IDENT || fixes ρ t) = true := by
  have hl := renOk_local hn
  unfold localOk at hl
  intro k t h
  rcases hk with hk | hk | hk <;> rw [hk] at hl <;> simp only [h] at hl <;> exact hl

/-- the identifier of a timing literal (the time unit) keeps its text; `localOk` gives `fixes ρ t`, stated
here in the weaker form that `textOfFirstToken_R_fix` takes -/
theorem timingHead {n : CNode} (hn : renOk ρ n = true) (hk : n.kind = .TIMING_LITERAL) {i : CNode}
    (hi : support.child Identifier.canCast n = some i) :
    ∀ k t, headTok i = some (k, t) → (k != SyntaxKind.IDENT || fixes ρ t) = true := by
  have hl := renOk_local hn
  unfold localOk at hl
  rw [hk] at hl
  simp only [hi] at hl
  intro k t h
  simp only [h] at hl
  simp [hl]

variable (ρ) in
theorem R_build : BuildMap (rnMap ρ) (mapC (phi ρ)) (fun n => renOk ρ n = true) where
  toNodeMap := R_map ρ
  toLawful := rnMap_lawful ρ
  ok_children := renOk_children
  depth := depth_R
  span := span_R
  nameText := fun hn hk => text_R_name (nameHead hn hk)
  fixedText := fun hn hk => textOfFirstToken_R_fix (fixHead hn hk)
  timeUnit := fun hn hk hi => textOfFirstToken_R_fix (timingHead hn hk hi)
  prefixHead := fun _ _ => head_children_R _

variable (ρ) in
/-- fifteen fields of `BuildMap.IH (rnMap ρ) (mapC (phi ρ)) _ fuel` (which `(R_build ρ).ih fuel`
proves) spelt with `rn*`; no proof uses it.  `gateOperand` asks for the kind of the node, which
nothing needs. -/
structure IH1 (fuel : Nat) : Prop where
  expr : ∀ n, renOk ρ n = true → Build.expr fuel (R n) = (Build.expr fuel n).map (rnExpr ρ)
  designator : ∀ n, renOk ρ n = true → Build.designator fuel (R n) = (Build.designator fuel n).map (rnDesignator ρ)
  scalarType : ∀ n, renOk ρ n = true → Build.scalarType fuel (R n) = (Build.scalarType fuel n).map (rnScalarType ρ)
  expressionList : ∀ n, renOk ρ n = true →
    Build.expressionList fuel (R n) = (Build.expressionList fuel n).map (rnExprList ρ)
  setExpression : ∀ n, renOk ρ n = true → Build.setExpression fuel (R n) = (Build.setExpression fuel n).map (rnSet ρ)
  rangeExpr : ∀ n, renOk ρ n = true → Build.rangeExpr fuel (R n) = (Build.rangeExpr fuel n).map (rnRange ρ)
  indexOperator : ∀ n, renOk ρ n = true →
    Build.indexOperator fuel (R n) = (Build.indexOperator fuel n).map (rnIndexOp ρ)
  indexedIdentifier : ∀ n, renOk ρ n = true →
    Build.indexedIdentifier fuel (R n) = (Build.indexedIdentifier fuel n).map (rnIndexedIdent ρ)
  gateOperand : ∀ n, renOk ρ n = true → GateOperand.canCast n.kind = true →
    Build.gateOperand fuel (R n) = (Build.gateOperand fuel n).map (rnGateOperand ρ)
  qubitList : ∀ n, renOk ρ n = true → Build.qubitList fuel (R n) = (Build.qubitList fuel n).map (rnQubitList ρ)
  argList : ∀ n, renOk ρ n = true → Build.argList fuel (R n) = (Build.argList fuel n).map (rnArgList ρ)
  parenExpr : ∀ n, renOk ρ n = true → Build.parenExpr fuel (R n) = (Build.parenExpr fuel n).map (rnParen ρ)
  gateCallExpr : ∀ n, renOk ρ n = true →
    Build.gateCallExpr fuel (R n) = (Build.gateCallExpr fuel n).map (rnGateCall ρ)
  gPhaseCallExpr : ∀ n, renOk ρ n = true →
    Build.gPhaseCallExpr fuel (R n) = (Build.gPhaseCallExpr fuel n).map (rnGPhase ρ)
  modifier : ∀ n, renOk ρ n = true → Build.modifier fuel (R n) = (Build.modifier fuel n).map (rnModifier ρ)

/-- an instance of `R_map` for reference; no proof uses it -/
theorem isSome_child_R (can : SyntaxKind → Bool) (n : CNode) :
    (support.child can (R n)).isSome = (support.child can n).isSome :=
  (R_map ρ).child_supp_isSome can n

/-- the side condition below the root -/
def rootRenOk (ρ : Ren) (root : CNode) : Bool := renOkL ρ root.children

theorem program_rename (root : CNode) (h : rootRenOk ρ root = true) :
    Build.program (R root) = (Build.program root).map (renameAst ρ) :=
  (R_build ρ).program root (fun _ hc => renOkL_mem h hc)

end Oq3.RenameText
