/-
C17 (renaming through lexer and parser) — the tree builder is natural in the token texts
(`buildTree_rename`), for a `φ` that changes `IDENT` texts only.
-/
import Oq3.Lemmas.RenameTextDefs
import Oq3.Lemmas.TreeCNode

namespace Oq3.RenameText
open Oq3.Gen Oq3.Parser Oq3.Builder Oq3.BuilderLayout Oq3.Acc

theorem isTriviaLeaf_mapTree (φ : SyntaxKind → List Char → List Char) (t : Tree) :
    isTriviaLeaf (mapTree φ t) = isTriviaLeaf t := by
  cases t <;> rfl

mutual
theorem eraseTriviaT_mapTree (φ : SyntaxKind → List Char → List Char) :
    ∀ t : Tree, eraseTriviaT (mapTree φ t) = mapTree φ (eraseTriviaT t)
  | .leaf k txt => rfl
  | .node k cs => by
    simp only [mapTree, eraseTriviaT]
    rw [eraseTriviaTL_mapTrees φ cs]
theorem eraseTriviaTL_mapTrees (φ : SyntaxKind → List Char → List Char) :
    ∀ cs : List Tree, eraseTriviaTL (mapTrees φ cs) = mapTrees φ (eraseTriviaTL cs)
  | [] => rfl
  | c :: cs => by
    simp only [mapTrees, eraseTriviaTL, isTriviaLeaf_mapTree]
    split
    · exact eraseTriviaTL_mapTrees φ cs
    · simp only [mapTrees]
      rw [eraseTriviaT_mapTree φ c, eraseTriviaTL_mapTrees φ cs]
end

mutual
theorem zeroTree_mapTree (φ : SyntaxKind → List Char → List Char) :
    ∀ t : Tree, zeroTree (mapTree φ t) = mapC φ (zeroTree t)
  | .leaf k txt => rfl
  | .node k cs => by
    simp only [mapTree, zeroTree, mapC]
    rw [zeroTrees_mapTrees φ cs]
theorem zeroTrees_mapTrees (φ : SyntaxKind → List Char → List Char) :
    ∀ cs : List Tree, zeroTrees (mapTrees φ cs) = mapCs φ (zeroTrees cs)
  | [] => rfl
  | c :: cs => by
    simp only [mapTrees, zeroTrees, mapCs]
    rw [zeroTree_mapTree φ c, zeroTrees_mapTrees φ cs]
end

theorem eraseTrivia_cnodeOf_mapTree (φ : SyntaxKind → List Char → List Char) (t : Tree) :
    eraseTrivia (cnodeOf (mapTree φ t)) = mapC φ (eraseTrivia (cnodeOf t)) := by
  unfold cnodeOf
  rw [E_ofTree, E_ofTree, eraseTriviaT_mapTree, zeroTree_mapTree]

/-- `tokId1` on the raw tokens `l` glued into one token step of kind `k` (`chk_of_tokId1`); several
are a composite operator -/
def chk (l : List RawTok) (k : SyntaxKind) : Bool :=
  if l.length = 1 then l.all (fun x => x.kind == k)
  else k != .IDENT && l.all (fun x => x.kind != .IDENT)

/-- `tokIdI` read along the raw token table (trivia included) -/
def idGo : List RawTok → List Item → Bool
  | _, [] => true
  | r, .token k n :: is =>
    chk ((r.dropWhile (fun t => t.kind.isTrivia)).take n) k &&
      idGo ((r.dropWhile (fun t => t.kind.isTrivia)).drop n) is
  | r, .error _ :: is => idGo r is

theorem dropWhile_cons_trivia (t : RawTok) (r : List RawTok) (ht : t.kind.isTrivia = true) :
    (t :: r).dropWhile (fun t => t.kind.isTrivia) = r.dropWhile (fun t => t.kind.isTrivia) := by
  rw [List.dropWhile_cons, if_pos ht]

theorem idGo_cons_trivia (t : RawTok) (r : List RawTok) (is : List Item)
    (ht : t.kind.isTrivia = true) : idGo (t :: r) is = idGo r is := by
  induction is with
  | nil => rfl
  | cons i is ih =>
    cases i with
    | token k n => simp only [idGo, dropWhile_cons_trivia t r ht]
    | error m => simpa [idGo] using ih

theorem idGo_dropWhile (r : List RawTok) (is : List Item) :
    idGo (r.dropWhile (fun t => t.kind.isTrivia)) is = idGo r is := by
  induction r with
  | nil => rfl
  | cons t r ih =>
    cases ht : t.kind.isTrivia with
    | true => rw [List.dropWhile_cons, if_pos ht, ih, idGo_cons_trivia t r is ht]
    | false => rw [List.dropWhile_cons, if_neg (by simp [ht])]

theorem chk_of_tokId1 (pre : List SyntaxKind) (l : List RawTok) (rest : List SyntaxKind)
    (k : SyntaxKind) (n : Nat) (hl : l.length = n)
    (h : tokId1 (fun i => (pre ++ (l.map (·.kind) ++ rest)).getD i .EOF) pre.length k n = true) :
    chk l k = true := by
  have hget : ∀ j (hj : j < l.length),
      (pre ++ (l.map (·.kind) ++ rest)).getD (pre.length + j) .EOF = l[j].kind := by
    intro j hj
    simp [List.getD_eq_getElem?_getD, List.getElem?_append_right, List.getElem?_append_left, hj]
  unfold tokId1 at h
  dsimp only at h
  unfold chk
  rw [hl]
  split
  · rename_i hn
    rw [if_pos hn] at h
    subst hn
    obtain ⟨x, rfl⟩ := List.length_eq_one_iff.mp hl
    have := hget 0 (by simp)
    simp only [Nat.add_zero] at this
    rw [this] at h
    simpa using h
  · rename_i hn
    rw [if_neg hn] at h
    simp only [Bool.and_eq_true, List.all_eq_true, List.mem_range] at h ⊢
    refine ⟨h.1, ?_⟩
    intro x hx
    obtain ⟨j, hj, rfl⟩ := List.mem_iff_getElem.mp hx
    have := h.2 j (by omega)
    rwa [hget j hj] at this

theorem idGo_of_fits (is : List Item) : ∀ (r : List RawTok) (pre : List SyntaxKind),
    fitsGo r is = true → tokIdI (pre ++ ntKinds r) pre.length is = true → idGo r is = true := by
  induction is with
  | nil => intro _ _ _ _; rfl
  | cons i is ih =>
    intro r pre hf hi
    cases i with
    | error m => simp only [fitsGo, tokIdI, idGo] at hf hi ⊢; exact ih r pre hf hi
    | token k n =>
      simp only [fitsGo] at hf
      split at hf
      · simp at hf
      · split at hf
        · rename_i r' hr'
          obtain ⟨l, hl, hsplit, hnon⟩ := takeN_split hr'
          have hk : ntKinds r = l.map (·.kind) ++ ntKinds r' := by
            rw [← (adjBits_dropWhile r).2, hsplit]
            show (nt (l ++ r')).map (·.kind) = _
            rw [nt_append_non hnon, List.map_append]; rfl
          simp only [tokIdI, Bool.and_eq_true] at hi
          rw [hk] at hi
          simp only [idGo, Bool.and_eq_true]
          rw [hsplit]
          have htake : (l ++ r').take n = l := by rw [← hl]; simp
          have hdrop : (l ++ r').drop n = r' := by rw [← hl]; simp
          rw [htake, hdrop]
          refine ⟨chk_of_tokId1 pre l _ k n hl hi.1, ?_⟩
          apply ih r' (pre ++ l.map (·.kind)) hf
          have := hi.2
          simpa [hl, List.append_assoc] using this
        · simp at hf

def rn (φ : SyntaxKind → List Char → List Char) (x : RawTok) : RawTok := ⟨x.kind, φ x.kind x.text⟩

section
variable (φ : SyntaxKind → List Char → List Char)

inductive SRel : StrStep → StrStep → Prop
  | token (k : SyntaxKind) (t : List Char) : SRel (.token k t) (.token k (φ k t))
  | enter (k : SyntaxKind) : SRel (.enter k) (.enter k)
  | exit : SRel .exit .exit
  | error (m : String) (p p' : Nat) : SRel (.error m p) (.error m p')

inductive ORel : List StrStep → List StrStep → Prop
  | nil : ORel [] []
  | cons {s s' : StrStep} {r r' : List StrStep} : SRel φ s s' → ORel r r' → ORel (s :: r) (s' :: r')

theorem ORel.snoc {a a' : List StrStep} {s s' : StrStep} (h : ORel φ a a') (hs : SRel φ s s') :
    ORel φ (a ++ [s]) (a' ++ [s']) := by
  induction h with
  | nil => exact .cons hs .nil
  | cons h1 _ ih => exact .cons h1 ih

structure Rel (b b' : B) : Prop where
  pos : b'.pos = b.pos
  state : b'.state = b.state
  out : ORel φ b.out b'.out
end

variable {φ : SyntaxKind → List Char → List Char}

theorem isTrivia_ne_ident {k : SyntaxKind} (h : k.isTrivia = true) : k ≠ .IDENT := by
  intro e; subst e; cases h

theorem SRel.same (hφ : ∀ k t, k ≠ SyntaxKind.IDENT → φ k t = t) {k : SyntaxKind} (t : List Char)
    (h : k ≠ .IDENT) : SRel φ (.token k t) (.token k t) := by
  have := SRel.token (φ := φ) k t
  rwa [hφ k t h] at this

theorem Rel.emit {b b' : B} {s s' : StrStep} (h : Rel φ b b') (hs : SRel φ s s') :
    Rel φ (emit b s) (emit b' s') := ⟨h.pos, h.state, h.out.snoc φ hs⟩

theorem Rel.adv {b b' : B} (h : Rel φ b b') (n : Nat) :
    Rel φ { b with pos := b.pos + n } { b' with pos := b'.pos + n } :=
  ⟨by simp [h.pos], h.state, h.out⟩

theorem Rel.setState {b b' : B} (h : Rel φ b b') (st : BState) :
    Rel φ { b with state := st } { b' with state := st } := ⟨h.pos, rfl, h.out⟩

theorem rn_kind (x : RawTok) : (rn φ x).kind = x.kind := rfl

/-- named for its main use: on trivia, through `isTrivia_ne_ident` -/
theorem rn_trivia (hφ : ∀ k t, k ≠ SyntaxKind.IDENT → φ k t = t) {x : RawTok}
    (h : x.kind ≠ .IDENT) : rn φ x = x := by
  cases x with
  | mk k t => simp only [rn]; rw [hφ k t h]

theorem eatTriviasAux_rel (hφ : ∀ k t, k ≠ SyntaxKind.IDENT → φ k t = t) (rest : List RawTok) :
    ∀ {b b' : B}, Rel φ b b' → Rel φ (eatTriviasAux rest b) (eatTriviasAux (rest.map (rn φ)) b') := by
  induction rest with
  | nil => intro b b' h; exact h
  | cons t r ih =>
    intro b b' h
    simp only [List.map_cons, eatTriviasAux, rn_kind]
    by_cases ht : t.kind.isTrivia = true
    · simp only [ht, if_true]
      rw [rn_trivia hφ (isTrivia_ne_ident ht)]
      exact ih ((h.adv 1).emit (SRel.same hφ _ (isTrivia_ne_ident ht)))
    · simp only [ht]
      exact h

theorem eatTrivias_rel (hφ : ∀ k t, k ≠ SyntaxKind.IDENT → φ k t = t) (toks : List RawTok)
    {b b' : B} (h : Rel φ b b') : Rel φ (eatTrivias toks b) (eatTrivias (toks.map (rn φ)) b') := by
  unfold eatTrivias
  rw [h.pos, ← List.map_drop]
  exact eatTriviasAux_rel hφ _ h

theorem eatNTrivias_rel (hφ : ∀ k t, k ≠ SyntaxKind.IDENT → φ k t = t) (toks : List RawTok)
    (n : Nat) : ∀ {b b' c : B}, Rel φ b b' → eatNTrivias toks n b = .ok c →
      ∃ c', eatNTrivias (toks.map (rn φ)) n b' = .ok c' ∧ Rel φ c c' ∧
        ∀ is, idGo (toks.drop c.pos) is = idGo (toks.drop b.pos) is := by
  induction n with
  | zero =>
    intro b b' c h hc
    simp only [eatNTrivias] at hc; cases hc
    exact ⟨b', rfl, h, fun _ => rfl⟩
  | succ n ih =>
    intro b b' c h hc
    obtain ⟨t, ht, hk, hc⟩ := eatNTrivias_succ_ok.mp hc
    obtain ⟨c', h1, h2, h3⟩ :=
      ih ((h.adv 1).emit (SRel.same hφ t.text (isTrivia_ne_ident hk))) hc
    refine ⟨c', eatNTrivias_succ_ok.mpr ⟨t, ?_, hk, h1⟩, h2, ?_⟩
    · rw [h.pos, List.getElem?_map, ht, Option.map_some, rn_trivia hφ (isTrivia_ne_ident hk)]
    · intro is
      rw [h3 is]
      simp only [Builder.emit]
      rw [drop_eq_cons ht, idGo_cons_trivia _ _ _ hk]

theorem flushPending_rel {b b' c : B} (h : Rel φ b b') (hc : flushPending b = .ok c) :
    ∃ c', flushPending b' = .ok c' ∧ Rel φ c c' ∧ c.pos = b.pos := by
  unfold flushPending at hc ⊢
  rw [h.state]
  cases hb : b.state <;> rw [hb] at hc <;> simp only at hc ⊢
  · cases hc
  · cases hc; exact ⟨_, rfl, h.setState _, rfl⟩
  · cases hc; exact ⟨_, rfl, (h.setState _).emit .exit, rfl⟩

theorem chk_text (hφ : ∀ k t, k ≠ SyntaxKind.IDENT → φ k t = t) (l : List RawTok) (k : SyntaxKind)
    (h : chk l k = true) :
    ((l.map (rn φ)).map (·.text)).flatten = φ k ((l.map (·.text)).flatten) := by
  unfold chk at h
  split at h
  · rename_i hl
    obtain ⟨x, rfl⟩ := List.length_eq_one_iff.mp hl
    have : x.kind = k := by simpa using h
    subst this
    simp [rn]
  · simp only [Bool.and_eq_true, List.all_eq_true, bne_iff_ne, ne_eq] at h
    have : l.map (rn φ) = l := by
      conv => rhs; rw [← List.map_id l]
      exact List.map_congr_left (fun x hx => rn_trivia hφ (h.2 x hx))
    rw [this, hφ k _ h.1]

theorem doToken_rel (hφ : ∀ k t, k ≠ SyntaxKind.IDENT → φ k t = t) (toks : List RawTok)
    {b b' c : B} {k : SyntaxKind} {n : Nat} (h : Rel φ b b')
    (hk : chk ((toks.drop b.pos).take n) k = true) (hc : doToken toks b k n = .ok c) :
    ∃ c', doToken (toks.map (rn φ)) b' k n = .ok c' ∧ Rel φ c c' ∧ c.pos = b.pos + n := by
  obtain ⟨hn, hlen, rfl⟩ := doToken_ok_iff.mp hc
  refine ⟨_, doToken_ok_iff.mpr ⟨hn, by rw [List.length_map, h.pos]; exact hlen, rfl⟩, ?_, rfl⟩
  have ht : ((((toks.map (rn φ)).drop b'.pos).take n).map (·.text)).flatten =
      φ k ((((toks.drop b.pos).take n).map (·.text)).flatten) := by
    rw [h.pos, ← List.map_drop, ← List.map_take]; exact chk_text hφ _ k hk
  rw [ht]
  exact (h.adv n).emit (SRel.token k _)

theorem takeWhile_rn (hφ : ∀ k t, k ≠ SyntaxKind.IDENT → φ k t = t) (l : List RawTok) :
    (l.map (rn φ)).takeWhile (fun t => t.kind.isTrivia) = l.takeWhile (fun t => t.kind.isTrivia) := by
  induction l with
  | nil => rfl
  | cons t r ih =>
    simp only [List.map_cons, List.takeWhile_cons, rn_kind]
    by_cases ht : t.kind.isTrivia = true
    · simp only [ht, if_true, ih, rn_trivia hφ (isTrivia_ne_ident ht)]
    · simp only [ht]
      rfl

theorem enter_rel (hφ : ∀ k t, k ≠ SyntaxKind.IDENT → φ k t = t) (toks : List RawTok)
    {b b' c : B} (k : SyntaxKind) (h : Rel φ b b') (hc : enterBody toks b k = .ok c) :
    ∃ c', enterBody (toks.map (rn φ)) b' k = .ok c' ∧ Rel φ c c' ∧
      ∀ is, idGo (toks.drop c.pos) is = idGo (toks.drop b.pos) is := by
  obtain ⟨d, hf, e1, he, hc⟩ := enterBody_ok_iff.mp hc
  obtain ⟨d', hf', hd, hp⟩ := flushPending_rel h hf
  obtain ⟨e1', he', hre, hi1⟩ := eatNTrivias_rel hφ toks _ hd he
  obtain ⟨c', hc', hrc, hi2⟩ := eatNTrivias_rel hφ toks _ (hre.emit (.enter k)) hc
  refine ⟨c', enterBody_ok_iff.mpr ⟨d', hf', e1', ?_, ?_⟩, hrc, ?_⟩
  · rw [← List.map_drop, takeWhile_rn hφ, hd.pos]; exact he'
  · rw [← List.map_drop, takeWhile_rn hφ, hd.pos]; exact hc'
  · intro is
    rw [hi2 is]
    simp only [Builder.emit]
    rw [hi1 is, hp]

theorem step_rel (hφ : ∀ k t, k ≠ SyntaxKind.IDENT → φ k t = t) (toks : List RawTok)
    {b b' c : B} (s : Step) (ss : List Step) (h : Rel φ b b')
    (hid : idGo (toks.drop b.pos) (itemsS (s :: ss)) = true) (hc : step toks b s = .ok c) :
    ∃ c', step (toks.map (rn φ)) b' s = .ok c' ∧ Rel φ c c' ∧
      idGo (toks.drop c.pos) (itemsS ss) = true := by
  cases s with
  | token k n =>
    obtain ⟨d, hf, hc⟩ := step_token_ok.mp hc
    obtain ⟨d', hf', hd, hp⟩ := flushPending_rel h hf
    obtain ⟨hdrop, _⟩ := eatTrivias_drop toks d
    simp only [itemsS, idGo, Bool.and_eq_true] at hid
    rw [← hp, ← hdrop] at hid
    obtain ⟨c', h1, h2, h3⟩ := doToken_rel hφ toks (eatTrivias_rel hφ toks hd) hid.1 hc
    refine ⟨c', step_token_ok.mpr ⟨d', hf', h1⟩, h2, ?_⟩
    rw [h3, ← List.drop_drop]
    exact hid.2
  | enter k =>
    by_cases hb : b.state = .pendingEnter
    · have hb' : b'.state = .pendingEnter := by rw [h.state, hb]
      simp only [step, hb] at hc
      simp only [step, hb']
      cases hc
      exact ⟨_, rfl, (h.setState _).emit (.enter k), by simpa [itemsS, Builder.emit] using hid⟩
    · rw [step_enter_eq _ _ _ hb] at hc
      obtain ⟨c', h1, h2, h3⟩ := enter_rel hφ toks k h hc
      refine ⟨c', ?_, h2, ?_⟩
      · rw [step_enter_eq _ _ _ (by rw [h.state]; exact hb)]; exact h1
      · rw [h3]; simpa [itemsS] using hid
  | exit =>
    simp only [itemsS] at hid
    obtain ⟨d, hf, rfl⟩ := step_exit_ok.mp hc
    obtain ⟨d', hf', hd, hp⟩ := flushPending_rel h hf
    exact ⟨_, step_exit_ok.mpr ⟨d', hf', rfl⟩, hd.setState _, by simpa [hp] using hid⟩
  | error m =>
    simp only [itemsS, idGo] at hid
    simp only [step] at hc ⊢
    cases hc
    exact ⟨_, rfl, h.emit (.error m _ _), hid⟩

theorem steps_rel (hφ : ∀ k t, k ≠ SyntaxKind.IDENT → φ k t = t) (toks : List RawTok)
    (ss : List Step) : ∀ {b b' c : B}, Rel φ b b' →
      idGo (toks.drop b.pos) (itemsS ss) = true → steps toks ss b = .ok c →
      ∃ c', steps (toks.map (rn φ)) ss b' = .ok c' ∧ Rel φ c c' := by
  induction ss with
  | nil => intro b b' c h _ hc; simp only [steps] at hc; cases hc; exact ⟨b', rfl, h⟩
  | cons s ss ih =>
    intro b b' c h hid hc
    obtain ⟨d, hs, hc⟩ := steps_cons_ok.mp hc
    obtain ⟨d', h1, h2, h3⟩ := step_rel hφ toks s ss h hid hs
    obtain ⟨c', hc', hr⟩ := ih h2 h3 hc
    exact ⟨c', steps_cons_ok.mpr ⟨d', h1, hc'⟩, hr⟩

theorem intersperse_rel (hφ : ∀ k t, k ≠ SyntaxKind.IDENT → φ k t = t) (toks : List RawTok)
    (ss : List Step) (hid : idGo toks (itemsS ss) = true) {out : List StrStep} {eof : Bool}
    (h : intersperseTrivia toks ss = .ok (out, eof)) :
    ∃ out', intersperseTrivia (toks.map (rn φ)) ss = .ok (out', eof) ∧ ORel φ out out' := by
  obtain ⟨c, hb, hst, rfl, rfl⟩ := intersperseTrivia_ok_iff.mp h
  obtain ⟨c', hc', hrel⟩ := steps_rel hφ toks ss (b := {}) (b' := {}) ⟨rfl, rfl, .nil⟩
    (by simpa using hid) hb
  have hr := (eatTrivias_rel hφ toks hrel).emit (s := .exit) (s' := .exit) .exit
  refine ⟨_, intersperseTrivia_ok_iff.mpr ⟨c', hc', by rw [hrel.state, hst], rfl, ?_⟩, hr.out⟩
  rw [List.length_map, (eatTrivias_rel hφ toks hrel).pos]

structure MRel (φ : SyntaxKind → List Char → List Char) (t t' : TB) : Prop where
  parents : t'.parents = t.parents.map (fun p => (p.1, p.2.map (mapTree φ)))
  top : t'.top = t.top.map (mapTree φ)

theorem MRel.parents_cons {t t' : TB} (h : MRel φ t t') {k : SyntaxKind} {cs : List Tree}
    {ps : List (SyntaxKind × List Tree)} (hp : t.parents = (k, cs) :: ps) :
    t'.parents = (k, cs.map (mapTree φ)) :: ps.map (fun p => (p.1, p.2.map (mapTree φ))) := by
  rw [h.parents, hp]; rfl

theorem MRel.push {t t' : TB} (h : MRel φ t t') (x : Tree) :
    MRel φ (t.push x) (t'.push (mapTree φ x)) := by
  unfold TB.push
  rcases hp : t.parents with _ | ⟨⟨k, cs⟩, ps⟩
  · have : t'.parents = [] := by rw [h.parents, hp]; rfl
    simp only [this]
    exact ⟨by simp, by simp [h.top]⟩
  · simp only [h.parents_cons hp]
    exact ⟨by simp, h.top⟩

theorem tbSteps_rel {out out' : List StrStep} (ho : ORel φ out out') :
    ∀ {t t' r : TB}, MRel φ t t' → tbSteps out t = .ok r →
      ∃ r', tbSteps out' t' = .ok r' ∧ MRel φ r r' := by
  induction ho with
  | nil => intro t t' r h hr; simp only [tbSteps] at hr; cases hr; exact ⟨t', rfl, h⟩
  | cons hs _ ih =>
    intro t t' r h hr
    simp only [tbSteps, bind, Except.bind] at hr ⊢
    cases hs with
    | token k txt =>
      simp only [tbStep] at hr ⊢
      exact ih (h.push (.leaf k txt)) hr
    | enter k =>
      simp only [tbStep] at hr ⊢
      exact ih (t := { t with parents := (k, []) :: t.parents })
        (t' := { t' with parents := (k, []) :: t'.parents }) ⟨by simp [h.parents], h.top⟩ hr
    | exit =>
      simp only [tbStep] at hr ⊢
      rcases hp : t.parents with _ | ⟨⟨k, cs⟩, ps⟩
      · rw [hp] at hr; cases hr
      · rw [hp] at hr
        simp only at hr
        rw [h.parents_cons hp]
        simp only
        have hrel : MRel φ ({ t with parents := ps } : TB)
            ({ t' with parents := ps.map (fun p => (p.1, p.2.map (mapTree φ))) } : TB) :=
          ⟨rfl, h.top⟩
        have := hrel.push (.node k cs.reverse)
        simp only [mapTree, mapTrees_eq, List.map_reverse] at this
        exact ih this hr
    | error m p p' =>
      simp only [tbStep] at hr ⊢
      exact ih (t := { t with errors := t.errors ++ [⟨m, p⟩] })
        (t' := { t' with errors := t'.errors ++ [⟨m, p'⟩] }) ⟨h.parents, h.top⟩ hr

theorem tbFinish_rel {r r' : TB} (h : MRel φ r r') {tree : Tree} {errs : List SynErr}
    (hf : tbFinish r = .ok (tree, errs)) : tbFinish r' = .ok (mapTree φ tree, r'.errors) := by
  obtain ⟨k, cs, ht, rfl, _⟩ := tbFinish_ok_iff.mp hf
  exact tbFinish_ok_iff.mpr ⟨k, mapTrees φ cs, by rw [h.top, ht]; simp [mapTree], rfl, rfl⟩

/-- **the builder is natural in the token texts** (tree and `is_eof`; the error list `e'` is left
unrelated to `e`) -/
theorem buildTree_rename (φ : SyntaxKind → List Char → List Char)
    (hφ : ∀ k t, k ≠ SyntaxKind.IDENT → φ k t = t)
    (toks : List RawTok) (ss : List Step) (hr : rooted ss = true)
    (hfit : fitsGo toks (itemsS ss) = true)
    (hid : tokIdI (ntKinds toks) 0 (itemsS ss) = true)
    {t : Tree} {e : List SynErr} {eof : Bool}
    (h : buildTree toks ss = .ok (t, e, eof)) :
    ∃ e', buildTree (toks.map fun x => ⟨x.kind, φ x.kind x.text⟩) ss = .ok (mapTree φ t, e', eof) := by
  have _ := hr  -- rootedness is implied by `h`; kept for a uniform interface
  have hgo : idGo toks (itemsS ss) = true := idGo_of_fits _ toks [] hfit (by simpa using hid)
  obtain ⟨out, r, hi, hr1, hf⟩ := buildTree_ok_iff.mp h
  obtain ⟨out', hi', ho⟩ := intersperse_rel hφ toks ss hgo hi
  obtain ⟨r', hr', hm⟩ := tbSteps_rel ho (t := {}) (t' := {}) ⟨rfl, rfl⟩ hr1
  exact ⟨r'.errors, buildTree_ok_iff.mpr ⟨out', r', hi', hr', tbFinish_rel hm hf⟩⟩

end Oq3.RenameText
