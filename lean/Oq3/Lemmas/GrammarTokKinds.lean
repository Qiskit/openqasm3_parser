/- GENERATED by /verif/tools/gen_grammar_closed.py from Oq3/Model/Grammar.lean — the proofs are checked by Lean. -/
import Oq3.Lemmas.TokKinds
import Oq3.Lemmas.GrammarClosed

namespace Oq3.Grammar
open Oq3.Gen Oq3.Parser
open Oq3.Parser (Pres TokNT)
open Oq3.Gen.Ops (Assoc)
open Oq3.Gen.TokenSets

/-- all functions of the mutual block at one fuel level -/
structure AllTK (fuel : Nat) : Prop where
  optReturnSignature : Pres TokNT (Oq3.Grammar.optReturnSignature fuel )
  delimited : ∀ (bra ket : SyntaxKind) (consumeBraket : Bool) (delim : SyntaxKind) (firstSet : TokenSet) (parser : DelimitedParser), Pres TokNT (Oq3.Grammar.delimited fuel bra ket consumeBraket delim firstSet parser)
  delimitedLoop : ∀ (ket delim : SyntaxKind) (firstSet : TokenSet) (parser : DelimitedParser), Pres TokNT (Oq3.Grammar.delimitedLoop fuel ket delim firstSet parser)
  delimitedParser : ∀ (parser : DelimitedParser), Pres TokNT (Oq3.Grammar.delimitedParser fuel parser)
  sourceFileContents : ∀ (stopOnRCurly : Bool), Pres TokNT (Oq3.Grammar.sourceFileContents fuel stopOnRCurly)
  item : ∀ (stopOnRCurly : Bool), Pres TokNT (Oq3.Grammar.item fuel stopOnRCurly)
  optItem : ∀ (m : Marker), Pres TokNT (Oq3.Grammar.optItem fuel m)
  switchCaseStmt : ∀ (m : Marker), Pres TokNT (Oq3.Grammar.switchCaseStmt fuel m)
  switchCaseLoop : Pres TokNT (Oq3.Grammar.switchCaseLoop fuel )
  blockOrStatement : Pres TokNT (Oq3.Grammar.blockOrStatement fuel )
  ifStmt : ∀ (m : Marker), Pres TokNT (Oq3.Grammar.ifStmt fuel m)
  whileStmt : ∀ (m : Marker), Pres TokNT (Oq3.Grammar.whileStmt fuel m)
  forStmt : ∀ (m : Marker), Pres TokNT (Oq3.Grammar.forStmt fuel m)
  qubitDeclarationStmt : ∀ (m : Marker), Pres TokNT (Oq3.Grammar.qubitDeclarationStmt fuel m)
  resetStmt : ∀ (m : Marker), Pres TokNT (Oq3.Grammar.resetStmt fuel m)
  gateDefinition : ∀ (m : Marker), Pres TokNT (Oq3.Grammar.gateDefinition fuel m)
  defcal_ : ∀ (m : Marker), Pres TokNT (Oq3.Grammar.defcal_ fuel m)
  returnsBoolClassicalDeclarationStmt : ∀ (m : Marker), Pres TokNT (Oq3.Grammar.returnsBoolClassicalDeclarationStmt fuel m)
  classicalDeclarationStmt : ∀ (m : Marker), Pres TokNT (Oq3.Grammar.classicalDeclarationStmt fuel m)
  ioDeclarationStmt : ∀ (m : Marker), Pres TokNT (Oq3.Grammar.ioDeclarationStmt fuel m)
  defStmt : ∀ (m : Marker), Pres TokNT (Oq3.Grammar.defStmt fuel m)
  externStmt : ∀ (m : Marker), Pres TokNT (Oq3.Grammar.externStmt fuel m)
  cal_ : ∀ (m : Marker), Pres TokNT (Oq3.Grammar.cal_ fuel m)
  barrier_ : ∀ (m : Marker), Pres TokNT (Oq3.Grammar.barrier_ fuel m)
  delayStmt : ∀ (m : Marker), Pres TokNT (Oq3.Grammar.delayStmt fuel m)
  aliasStmt : ∀ (m : Marker), Pres TokNT (Oq3.Grammar.aliasStmt fuel m)
  expr : Pres TokNT (Oq3.Grammar.expr fuel )
  rangeExpr : Pres TokNT (Oq3.Grammar.rangeExpr fuel )
  exprOrRangeExpr : Pres TokNT (Oq3.Grammar.exprOrRangeExpr fuel )
  exprStmt : ∀ (m : Option Marker), Pres TokNT (Oq3.Grammar.exprStmt fuel m)
  stmt : Pres TokNT (Oq3.Grammar.stmt fuel )
  letStmt : ∀ (m : Marker), Pres TokNT (Oq3.Grammar.letStmt fuel m)
  qOrCRegParam : Pres TokNT (Oq3.Grammar.qOrCRegParam fuel )
  qOrCRegDeclaration : ∀ (m : Marker), Pres TokNT (Oq3.Grammar.qOrCRegDeclaration fuel m)
  exprBlockStatements : Pres TokNT (Oq3.Grammar.exprBlockStatements fuel )
  exprBp : ∀ (m : Option Marker) (r : Restrictions) (bp : Nat), Pres TokNT (Oq3.Grammar.exprBp fuel m r bp)
  exprBpLoop : ∀ (r : Restrictions) (bp : Nat) (lhs : CompletedMarker), Pres TokNT (Oq3.Grammar.exprBpLoop fuel r bp lhs)
  lhs : ∀ (r : Restrictions), Pres TokNT (Oq3.Grammar.lhs fuel r)
  postfixExpr : ∀ (lhs : CompletedMarker) (blockLike : BlockLike) (allowCalls : Bool), Pres TokNT (Oq3.Grammar.postfixExpr fuel lhs blockLike allowCalls)
  callExpr : ∀ (lhs : CompletedMarker), Pres TokNT (Oq3.Grammar.callExpr fuel lhs)
  paramTypeSpec : Pres TokNT (Oq3.Grammar.paramTypeSpec fuel )
  typeSpec : Pres TokNT (Oq3.Grammar.typeSpec fuel )
  arrayTypeSpec : ∀ (wantArrayRefType : Bool), Pres TokNT (Oq3.Grammar.arrayTypeSpec fuel wantArrayRefType)
  arrayTypeDimsLoop : Pres TokNT (Oq3.Grammar.arrayTypeDimsLoop fuel )
  nonArrayTypeSpec : Pres TokNT (Oq3.Grammar.nonArrayTypeSpec fuel )
  complexTypeSpec : Pres TokNT (Oq3.Grammar.complexTypeSpec fuel )
  qubitTypeSpec : Pres TokNT (Oq3.Grammar.qubitTypeSpec fuel )
  designator : Pres TokNT (Oq3.Grammar.designator fuel )
  indexExpr : ∀ (lhs : CompletedMarker), Pres TokNT (Oq3.Grammar.indexExpr fuel lhs)
  indexedIdentifier : ∀ (lhs : CompletedMarker), Pres TokNT (Oq3.Grammar.indexedIdentifier fuel lhs)
  indexedIdentifierLoop : Pres TokNT (Oq3.Grammar.indexedIdentifierLoop fuel )
  setExpression : Pres TokNT (Oq3.Grammar.setExpression fuel )
  indexOperator : Pres TokNT (Oq3.Grammar.indexOperator fuel )
  callArgList : Pres TokNT (Oq3.Grammar.callArgList fuel )
  atomExpr : ∀ (_r : Restrictions), Pres TokNT (Oq3.Grammar.atomExpr fuel _r)
  castExpr : Pres TokNT (Oq3.Grammar.castExpr fuel )
  gphaseCallExpr : Pres TokNT (Oq3.Grammar.gphaseCallExpr fuel )
  modifiedGateCallExpr : Pres TokNT (Oq3.Grammar.modifiedGateCallExpr fuel )
  modifiedGateCallExprLoop : Pres TokNT (Oq3.Grammar.modifiedGateCallExprLoop fuel )
  gateCallExpr : Pres TokNT (Oq3.Grammar.gateCallExpr fuel )
  measureExpression : Pres TokNT (Oq3.Grammar.measureExpression fuel )
  tupleExpr : Pres TokNT (Oq3.Grammar.tupleExpr fuel )
  tupleExprLoop : ∀ (sawComma sawExpr : Bool), Pres TokNT (Oq3.Grammar.tupleExprLoop fuel sawComma sawExpr)
  arrayExpr : Pres TokNT (Oq3.Grammar.arrayExpr fuel )
  arrayExprLoop : ∀ (nExprs : Nat) (hasSemi : Bool), Pres TokNT (Oq3.Grammar.arrayExprLoop fuel nExprs hasSemi)
  tryBlockExpr : Pres TokNT (Oq3.Grammar.tryBlockExpr fuel )
  blockExpr : Pres TokNT (Oq3.Grammar.blockExpr fuel )
  returnExpr : Pres TokNT (Oq3.Grammar.returnExpr fuel )
  boxExpr : ∀ (m : Option Marker), Pres TokNT (Oq3.Grammar.boxExpr fuel m)
  paramListGateParams : Pres TokNT (Oq3.Grammar.paramListGateParams fuel )
  paramListGateQubits : Pres TokNT (Oq3.Grammar.paramListGateQubits fuel )
  argListGateCallQubits : Pres TokNT (Oq3.Grammar.argListGateCallQubits fuel )
  paramListDefParams : Pres TokNT (Oq3.Grammar.paramListDefParams fuel )
  scalarTypeList : Pres TokNT (Oq3.Grammar.scalarTypeList fuel )
  paramListDefcalParams : Pres TokNT (Oq3.Grammar.paramListDefcalParams fuel )
  paramListDefcalQubits : Pres TokNT (Oq3.Grammar.paramListDefcalQubits fuel )
  expressionList : Pres TokNT (Oq3.Grammar.expressionList fuel )
  caseValueList : Pres TokNT (Oq3.Grammar.caseValueList fuel )
  arrayLiteral : Pres TokNT (Oq3.Grammar.arrayLiteral fuel )
  paramListOpenqasm : ∀ (flavor : DefFlavor), Pres TokNT (Oq3.Grammar.paramListOpenqasm fuel flavor)
  paramListOpenqasmLoop : ∀ (flavor : DefFlavor) (numParams : Nat), Pres TokNT (Oq3.Grammar.paramListOpenqasmLoop fuel flavor numParams)
  paramListItem : ∀ (flavor : DefFlavor) (m : Marker) (innerArrayLiteral : Bool), Pres TokNT (Oq3.Grammar.paramListItem fuel flavor m innerArrayLiteral)
  paramTyped : ∀ (m : Marker), Pres TokNT (Oq3.Grammar.paramTyped fuel m)
  scalarType : ∀ (m : Marker), Pres TokNT (Oq3.Grammar.scalarType fuel m)
  argGateCallQubit : ∀ (m : Marker), Pres TokNT (Oq3.Grammar.argGateCallQubit fuel m)

theorem allTK (fuel : Nat) : AllTK fuel :=
  (allHolds tokNTClosed fuel).rec AllTK.mk

theorem sourceFile_tkp (fuel : Nat) : Pres TokNT (sourceFile fuel) :=
  sourceFile_closed tokNTClosed fuel

theorem entryExpr_tkp (fuel : Nat) : Pres TokNT (entryExpr fuel) :=
  entryExpr_closed tokNTClosed fuel

end Oq3.Grammar
