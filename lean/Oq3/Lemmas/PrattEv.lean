/-
Event-level Pratt round trip: definitions, fuel bound, lengths.

Expression trees over the 19 binary and 3 prefix operators of OpenQASM 3 with the atoms
identifier / integer literal / parenthesised expression; their minimal-parenthesis print as
parser input (`toks`, composite operators as joint single-character pieces); the event list the
model grammar `Oq3.Grammar.exprBp` emits for them (`evs`, forward-parent links included); and the
pre-order node sequence `process` turns these events into (`nodes`).

The forward-parent links of `event.rs` are RELATIVE offsets, so `evs t` does not depend on the
position at which it is pushed: no relocation is needed.  Shape, for one call of `expr_bp` that
parses a primary `p` and then `k ≥ 0` operator/right-operand pairs `(o₁,r₁) … (o_k,r_k)`:

    Start TOMBSTONE (fp 1)                       -- `m` of `expr_bp`, linked by `extend_to` to the primary
    Start kind(p) (fp → BIN₁) … Finish           -- the primary (`lhs`)
    Start BIN_EXPR (fp → BIN₂)  Token o₁  evs r₁  Finish     -- `lhs.precede`, `bump(op)`, `expr_bp`, `complete`
    …
    Start BIN_EXPR (no fp)      Token o_k evs r_k Finish     -- the ROOT of the tree

`process` follows the chain TOMBSTONE → primary → BIN₁ → … → BIN_k when it reaches the first event
and enters the nodes outermost first.
-/
import Oq3.Model.Grammar
import Oq3.Model.Process
import Oq3.Model.Pratt

namespace Oq3.PrattEv
open Oq3.Gen Oq3.Parser

/-- the 19 binary operators of OpenQASM 3 (`Oq3.Props.C05.binOps`) -/
inductive BinOp
  | pipe2 | amp2 | pipe | caret | amp | eq2 | neq | lt | lteq | gt | gteq | shl | shr
  | plus | minus | star | slash | percent | dstar
  deriving DecidableEq, Repr, Inhabited

/-- the three prefix operators handled by `lhs` -/
inductive PreOp | tilde | bang | minus
  deriving DecidableEq, Repr, Inhabited

def BinOp.kind : BinOp → SyntaxKind
  | .pipe2 => .PIPE2 | .amp2 => .AMP2 | .pipe => .PIPE | .caret => .CARET | .amp => .AMP
  | .eq2 => .EQ2 | .neq => .NEQ | .lt => .L_ANGLE | .lteq => .LTEQ | .gt => .R_ANGLE
  | .gteq => .GTEQ | .shl => .SHL | .shr => .SHR | .plus => .PLUS | .minus => .MINUS
  | .star => .STAR | .slash => .SLASH | .percent => .PERCENT | .dstar => .DOUBLE_STAR

/-- the single-character tokens the lexer delivers for the operator -/
def BinOp.pieces : BinOp → List SyntaxKind
  | .pipe2 => [.PIPE, .PIPE] | .amp2 => [.AMP, .AMP] | .pipe => [.PIPE] | .caret => [.CARET]
  | .amp => [.AMP] | .eq2 => [.EQ, .EQ] | .neq => [.BANG, .EQ] | .lt => [.L_ANGLE]
  | .lteq => [.L_ANGLE, .EQ] | .gt => [.R_ANGLE] | .gteq => [.R_ANGLE, .EQ]
  | .shl => [.L_ANGLE, .L_ANGLE] | .shr => [.R_ANGLE, .R_ANGLE] | .plus => [.PLUS]
  | .minus => [.MINUS] | .star => [.STAR] | .slash => [.SLASH] | .percent => [.PERCENT]
  | .dstar => [.STAR, .STAR]

/-- binding power in the implementation's table (`current_op`); tied to
`Oq3.Pratt.implTab` by `BinOp.pow_impl` -/
def BinOp.pow : BinOp → Nat
  | .pipe2 => 3 | .amp2 => 4 | .pipe => 6 | .caret => 7 | .amp => 8
  | .eq2 | .neq | .lt | .lteq | .gt | .gteq => 5
  | .shl | .shr => 9 | .plus | .minus => 10 | .star | .slash | .percent => 11 | .dstar => 7

def PreOp.kind : PreOp → SyntaxKind
  | .tilde => .TILDE | .bang => .BANG | .minus => .MINUS

inductive E
  | id
  | int
  | bin (o : BinOp) (l r : E)
  | pre (o : PreOp) (e : E)
  | paren (e : E)
  deriving DecidableEq, Repr, Inhabited

/-- the tree of the abstract Pratt core (`Oq3.Pratt.E`); identifier = atom 0, literal = atom 1 -/
def E.toPratt : E → Oq3.Pratt.E
  | .id => .atom 0
  | .int => .atom 1
  | .bin o l r => .bin o.kind l.toPratt r.toPratt
  | .pre o e => .pre o.kind e.toPratt
  | .paren e => .paren e.toPratt

/-- operator tokens: the pieces, every piece but the last one joint with its successor -/
def jointed : List SyntaxKind → List (SyntaxKind × Bool)
  | [] => []
  | [k] => [(k, false)]
  | k :: ks => (k, true) :: jointed ks

def BinOp.toks (o : BinOp) : List (SyntaxKind × Bool) := jointed o.pieces

/-- minimal-parenthesis print as parser input: token kind and joint bit (a `true` joint bit is
required of the input, a `false` one is "don't care") -/
def toks : E → List (SyntaxKind × Bool)
  | .id => [(.IDENT, false)]
  | .int => [(.INT_NUMBER, false)]
  | .bin o l r => toks l ++ (o.toks ++ toks r)
  | .pre o e => (o.kind, false) :: toks e
  | .paren e => (.L_PAREN, false) :: (toks e ++ [(.R_PAREN, false)])

/-- syntax kind of the root node -/
def E.kind : E → SyntaxKind
  | .id => .IDENTIFIER
  | .int => .LITERAL
  | .bin _ _ _ => .BIN_EXPR
  | .pre _ _ => .PREFIX_EXPR
  | .paren _ => .PAREN_EXPR

/-- the `Start` that `CompletedMarker::extend_to` leaves at the position of `expr_bp`'s marker -/
def tombLink : Ev := .start .TOMBSTONE (some 1)

/-- number of events of `evs t` -/
def len : E → Nat
  | .id | .int => 4
  | .bin _ l r => len l + len r + 3
  | .pre _ e => len e + 4
  | .paren e => len e + 5

/-- offset of the root `Start` inside `body t` -/
def rootOff : E → Nat
  | .bin _ l _ => len l - 1
  | _ => 0

/-- events after the leading `tombLink`; `fp` is the forward-parent link of the ROOT `Start` -/
def body : E → Option Nat → List Ev
  | .id, fp => [.start .IDENTIFIER fp, .token .IDENT 1, .finish]
  | .int, fp => [.start .LITERAL fp, .token .INT_NUMBER 1, .finish]
  | .pre o e, fp => [.start .PREFIX_EXPR fp, .token o.kind 1] ++ ((tombLink :: body e none) ++ [.finish])
  | .paren e, fp =>
    [.start .PAREN_EXPR fp, .token .L_PAREN 1] ++ ((tombLink :: body e none) ++ [.token .R_PAREN 1, .finish])
  | .bin o l r, fp =>
    body l (some (len l - 1 - rootOff l)) ++
      ([.start .BIN_EXPR fp, .token o.kind o.pieces.length] ++ ((tombLink :: body r none) ++ [.finish]))

/-- **the event encoding**: what `expr_bp` pushes for the tree -/
def evs (t : E) : List Ev := tombLink :: body t none

/-- the pre-order node sequence (`Step`s) of the tree -/
def nodes : E → List Step
  | .id => [.enter .IDENTIFIER, .token .IDENT 1, .exit]
  | .int => [.enter .LITERAL, .token .INT_NUMBER 1, .exit]
  | .bin o l r => [.enter .BIN_EXPR] ++ (nodes l ++ ([.token o.kind o.pieces.length] ++ (nodes r ++ [.exit])))
  | .pre o e => [.enter .PREFIX_EXPR, .token o.kind 1] ++ (nodes e ++ [.exit])
  | .paren e => [.enter .PAREN_EXPR, .token .L_PAREN 1] ++ (nodes e ++ [.token .R_PAREN 1, .exit])

def size : E → Nat
  | .id | .int => 1
  | .bin _ l r => size l + size r + 1
  | .pre _ e => size e + 1
  | .paren e => size e + 1

/-- `sinceBump` after the tree: events pushed since the last token -/
def sbOf : E → Nat
  | .id | .int | .paren _ => 2
  | .bin _ _ r => sbOf r + 1
  | .pre _ e => sbOf e + 1

/-- the last token of the print -/
inductive Last | id | int | paren
  deriving DecidableEq, Repr

def last : E → Last
  | .id => .id
  | .int => .int
  | .paren _ => .paren
  | .bin _ _ r => last r
  | .pre _ e => last e

/-- fuel `expr_bp` uses before it enters its loop with the root as `lhs`: 1 + length of the left spine -/
def cF : E → Nat
  | .bin _ l _ => cF l + 1
  | _ => 1

/-- fuel that must be left for the loop -/
def need : E → Nat
  | .id | .int => 2
  | .pre _ e => need e + cF e + 1
  | .paren e => need e + cF e + 5
  | .bin _ l r => max (need l) (need r + cF r)

theorem cF_le_size (t : E) : cF t ≤ size t := by
  induction t with
  | bin o l r ihl ihr => simp only [cF, size]; omega
  | _ => simp only [cF, size] <;> omega

theorem need_ge (t : E) : 2 ≤ need t := by
  induction t with
  | bin o l r ihl ihr => simp only [need]; omega
  | _ => simp only [need] <;> omega

theorem fuel_bound (t : E) : need t + cF t ≤ 6 * size t := by
  induction t with
  | id => decide
  | int => decide
  | pre o e ih => simp only [need, cF, size]; omega
  | paren e ih => simp only [need, cF, size]; omega
  | bin o l r ihl ihr =>
    have := cF_le_size l
    simp only [need, cF, size]; omega

theorem body_length (t : E) (fp : Option Nat) : (body t fp).length + 1 = len t := by
  induction t generalizing fp with
  | id => rfl
  | int => rfl
  | pre o e ih => have := ih none; simp only [body, len, List.length_append, List.length_cons, List.length_nil]; omega
  | paren e ih => have := ih none; simp only [body, len, List.length_append, List.length_cons, List.length_nil]; omega
  | bin o l r ihl ihr =>
    have h1 := ihl (some (len l - 1 - rootOff l))
    have h2 := ihr none
    simp only [body, len, List.length_append, List.length_cons, List.length_nil]; omega

theorem evs_length (t : E) : (evs t).length = len t := by
  simp only [evs, List.length_cons, body_length]

theorem len_pos (t : E) : 4 ≤ len t := by
  induction t with
  | id => decide
  | int => decide
  | pre o e ih => simp only [len]; omega
  | paren e ih => simp only [len]; omega
  | bin o l r ihl ihr => simp only [len]; omega

end Oq3.PrattEv
