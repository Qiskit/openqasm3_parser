/- GENERATED by /verif/tools/gen_grammar_cost2.py from Oq3/Model/Grammar.lean — the proofs are checked by Lean. -/
import Oq3.Lemmas.GrammarProg0
import Oq3.Lemmas.Work
set_option linter.unusedVariables false
set_option linter.unusedSimpArgs false

namespace Oq3.Grammar
open Oq3.Gen Oq3.Parser
open Oq3.Gen.Ops (Assoc)
open Oq3.Gen.TokenSets

/-- price of one token: events (also events since the last bump) / nth-steps -/
def workRE : Nat := 61
def workRS : Nat := 19
/-- budget of `source_file` beyond `workRE * n` / `workRS * n` -/
def workFE : Nat := 27
def workFS : Nat := 6

def wEBudList : DefFlavor → Nat
  | .gateParams => 7
  | .gateQubits => 7
  | .gateCallQubits => 7
  | .defParams => 13
  | .defCalParams => 13
  | .defCalQubits => 7
  | .expressionList => 19
  | .arrayLiteral => 2
  | .caseValues => 19
  | .typeListFlavor => 10

def wEBudLoop : DefFlavor → Nat
  | .gateParams => 3
  | .gateQubits => 3
  | .gateCallQubits => 3
  | .defParams => 9
  | .defCalParams => 9
  | .defCalQubits => 3
  | .expressionList => 17
  | .arrayLiteral => 16
  | .caseValues => 17
  | .typeListFlavor => 6

def wEBudItem : DefFlavor → Nat
  | .gateParams => 1
  | .gateQubits => 1
  | .gateCallQubits => 1
  | .defParams => 7
  | .defCalParams => 7
  | .defCalQubits => 2
  | .expressionList => 16
  | .arrayLiteral => 15
  | .caseValues => 16
  | .typeListFlavor => 5

def wENList : DefFlavor → Nat
  | .gateParams => 7
  | .gateQubits => 7
  | .gateCallQubits => 7
  | .defParams => 13
  | .defCalParams => 13
  | .defCalQubits => 7
  | .expressionList => 12
  | .arrayLiteral => 0
  | .caseValues => 12
  | .typeListFlavor => 10

def wENLoop : DefFlavor → Nat
  | .gateParams => 2
  | .gateQubits => 2
  | .gateCallQubits => 2
  | .defParams => 8
  | .defCalParams => 8
  | .defCalQubits => 2
  | .expressionList => 7
  | .arrayLiteral => 6
  | .caseValues => 7
  | .typeListFlavor => 5

def wENItem : DefFlavor → Nat
  | .gateParams => 1
  | .gateQubits => 1
  | .gateCallQubits => 1
  | .defParams => 7
  | .defCalParams => 7
  | .defCalQubits => 1
  | .expressionList => 6
  | .arrayLiteral => 5
  | .caseValues => 6
  | .typeListFlavor => 4

def wEDList : DefFlavor → Nat
  | .gateParams => 0
  | .gateQubits => 0
  | .gateCallQubits => 40
  | .defParams => 32
  | .defCalParams => 0
  | .defCalQubits => 0
  | .expressionList => 0
  | .arrayLiteral => 24
  | .caseValues => 0
  | .typeListFlavor => 30

def wEDLoop : DefFlavor → Nat
  | .gateParams => 0
  | .gateQubits => 0
  | .gateCallQubits => 40
  | .defParams => 32
  | .defCalParams => 0
  | .defCalQubits => 0
  | .expressionList => 0
  | .arrayLiteral => 0
  | .caseValues => 0
  | .typeListFlavor => 30

def wEDItem : DefFlavor → Nat
  | .gateParams => 3
  | .gateQubits => 3
  | .gateCallQubits => 43
  | .defParams => 41
  | .defCalParams => 9
  | .defCalQubits => 3
  | .expressionList => 8
  | .arrayLiteral => 7
  | .caseValues => 8
  | .typeListFlavor => 36

def wSBudList : DefFlavor → Nat
  | .gateParams => 0
  | .gateQubits => 0
  | .gateCallQubits => 0
  | .defParams => 0
  | .defCalParams => 0
  | .defCalQubits => 0
  | .expressionList => 2
  | .arrayLiteral => 0
  | .caseValues => 2
  | .typeListFlavor => 0

def wSBudLoop : DefFlavor → Nat
  | .gateParams => 0
  | .gateQubits => 0
  | .gateCallQubits => 0
  | .defParams => 0
  | .defCalParams => 0
  | .defCalQubits => 0
  | .expressionList => 2
  | .arrayLiteral => 2
  | .caseValues => 2
  | .typeListFlavor => 0

def wSBudItem : DefFlavor → Nat
  | .gateParams => 0
  | .gateQubits => 0
  | .gateCallQubits => 0
  | .defParams => 0
  | .defCalParams => 0
  | .defCalQubits => 0
  | .expressionList => 2
  | .arrayLiteral => 2
  | .caseValues => 2
  | .typeListFlavor => 0

def wSNList : DefFlavor → Nat
  | .gateParams => 0
  | .gateQubits => 0
  | .gateCallQubits => 0
  | .defParams => 0
  | .defCalParams => 0
  | .defCalQubits => 0
  | .expressionList => 2
  | .arrayLiteral => 0
  | .caseValues => 2
  | .typeListFlavor => 0

def wSNLoop : DefFlavor → Nat
  | .gateParams => 0
  | .gateQubits => 0
  | .gateCallQubits => 0
  | .defParams => 0
  | .defCalParams => 0
  | .defCalQubits => 0
  | .expressionList => 2
  | .arrayLiteral => 2
  | .caseValues => 2
  | .typeListFlavor => 0

def wSNItem : DefFlavor → Nat
  | .gateParams => 0
  | .gateQubits => 0
  | .gateCallQubits => 0
  | .defParams => 0
  | .defCalParams => 0
  | .defCalQubits => 0
  | .expressionList => 2
  | .arrayLiteral => 2
  | .caseValues => 2
  | .typeListFlavor => 0

def wSDList : DefFlavor → Nat
  | .gateParams => 0
  | .gateQubits => 0
  | .gateCallQubits => 8
  | .defParams => 6
  | .defCalParams => 0
  | .defCalQubits => 0
  | .expressionList => 0
  | .arrayLiteral => 6
  | .caseValues => 0
  | .typeListFlavor => 6

def wSDLoop : DefFlavor → Nat
  | .gateParams => 0
  | .gateQubits => 0
  | .gateCallQubits => 8
  | .defParams => 6
  | .defCalParams => 0
  | .defCalQubits => 0
  | .expressionList => 0
  | .arrayLiteral => 0
  | .caseValues => 0
  | .typeListFlavor => 6

def wSDItem : DefFlavor → Nat
  | .gateParams => 0
  | .gateQubits => 0
  | .gateCallQubits => 8
  | .defParams => 6
  | .defCalParams => 0
  | .defCalQubits => 0
  | .expressionList => 2
  | .arrayLiteral => 2
  | .caseValues => 2
  | .typeListFlavor => 6

theorem nameR_spec {M : Sys} (recovery : TokenSet) :
    Spec M ⟨0, 4, 0, 4, 39, 0, 13⟩ (nameR recovery) (fun _ => True) (fun _ _ _ => True) :=
  .of_walk fun E _ => by unfold nameR; ww []

theorem name_spec {M : Sys} :
    Spec M ⟨0, 4, 0, 4, 39, 0, 13⟩ (name) (fun _ => True) (fun _ _ _ => True) :=
  .of_walk fun E _ => by unfold name; ww [nameR (W.callSN (nameR_spec _))]

theorem break__spec {M : Sys} (m : Marker) :
    Spec M ⟨0, 1, 0, 0, 12, 0, 6⟩ (break_ m) (fun _ => True) (fun s r s' => (s.pos < s'.pos)) :=
  .of_walk fun E _ => by unfold break_; ww []

theorem continue__spec {M : Sys} (m : Marker) :
    Spec M ⟨0, 1, 0, 0, 12, 0, 6⟩ (continue_ m) (fun _ => True) (fun s r s' => (s.pos < s'.pos)) :=
  .of_walk fun E _ => by unfold continue_; ww []

theorem end__spec {M : Sys} (m : Marker) :
    Spec M ⟨0, 1, 0, 0, 12, 0, 6⟩ (end_ m) (fun _ => True) (fun s r s' => (s.pos < s'.pos)) :=
  .of_walk fun E _ => by unfold end_; ww []

theorem filepathR_spec {M : Sys} (recovery : TokenSet) :
    Spec M ⟨0, 4, 0, 4, 19, 0, 6⟩ (filepathR recovery) (fun _ => True) (fun _ _ _ => True) :=
  .of_walk fun E _ => by unfold filepathR; ww []

theorem defcalgrammar__spec {M : Sys} (m : Marker) :
    Spec M ⟨0, 1, 0, 0, 12, 0, 6⟩ (defcalgrammar_ m) (fun _ => True) (fun s r s' => (s.pos < s'.pos)) :=
  .of_walk fun E _ => by unfold defcalgrammar_; ww [filepathR (W.callSN (filepathR_spec _))]

theorem include'_spec {M : Sys} (m : Marker) :
    Spec M ⟨0, 1, 0, 0, 12, 0, 6⟩ (include' m) (fun _ => True) (fun s r s' => (s.pos < s'.pos)) :=
  .of_walk fun E _ => by unfold include'; ww [filepathR (W.callSN (filepathR_spec _))]

theorem version__spec {M : Sys} :
    Spec M ⟨0, 4, 0, 4, 18, 0, 6⟩ (version_) (fun _ => True) (fun _ _ _ => True) :=
  .of_walk fun E _ => by unfold version_; ww []

theorem versionString_spec {M : Sys} (m : Marker) :
    Spec M ⟨0, 1, 0, 0, 12, 0, 6⟩ (versionString m) (fun _ => True) (fun s r s' => (s.pos < s'.pos)) :=
  .of_walk fun E _ => by unfold versionString; ww [version_ (W.callSN version__spec)]

theorem varName_spec {M : Sys} :
    Spec M ⟨0, 3, 0, 3, 41, 0, 8⟩ (varName) (fun _ => True) (fun s r s' => (atF .IDENT s.kinds s.joint s.pos = true → s.pos < s'.pos)) :=
  .of_walk fun E _ => by unfold varName; ww []

theorem identifier_spec {M : Sys} :
    Spec M ⟨0, 3, 0, 3, 50, 0, 9⟩ (identifier) (fun _ => True) (fun s r s' => (atF .IDENT s.kinds s.joint s.pos = true → s.pos < s'.pos)) :=
  .of_walk fun E _ => by unfold identifier; ww []

theorem hardwareQubit_spec {M : Sys} :
    Spec M ⟨0, 2, 0, 0, 25, 0, 8⟩ (hardwareQubit) (fun _ => True) (fun s r s' => (s.pos < s'.pos)) :=
  .of_walk fun E _ => by unfold hardwareQubit; ww []

theorem literal_spec {M : Sys} :
    Spec M ⟨0, 5, 1, 0, 40, 0, 8⟩ (literal) (fun _ => True) (fun s r s' => (r.isSome = true → s.pos < s'.pos) ∧ (r = none → s'.tv = s.tv)) :=
  .of_walk fun E _ => by unfold literal; ww [identifier (W.callS identifier_spec)]

theorem atListEndToken_spec {M : Sys} (flavor : DefFlavor) :
    Spec M ⟨0, 0, 0, 0, 43, 0, 8⟩ (atListEndToken flavor) (fun _ => True) (fun s r s' => (s'.tv = s.tv)) :=
  .of_walk fun E _ => by unfold atListEndToken; ww []

theorem paramUntyped_spec {M : Sys} (m : Marker) :
    Spec M ⟨0, 1, 0, 1, 3, 0, 0⟩ (paramUntyped m) (fun _ => True) (fun s r s' => (r = true → s.pos < s'.pos)) :=
  .of_walk fun E _ => by unfold paramUntyped; ww []

theorem paramUntypedOrHardwareQubit_spec {M : Sys} (m : Marker) :
    Spec M ⟨0, 2, 0, 1, 3, 0, 0⟩ (paramUntypedOrHardwareQubit m) (fun _ => True) (fun s r s' => (r = true → s.pos < s'.pos)) :=
  .of_walk fun E _ => by unfold paramUntypedOrHardwareQubit; ww [hardwareQubit (W.callSP hardwareQubit_spec)]

/-- all functions of the mutual block at one fuel level -/
structure AllWork (M : Sys) (fuel : Nat) : Prop where
  optReturnSignature : ∀  (B Bs : Nat) (s : P), 1 + 20 * s.kinds.size ≤ fuel + 20 * s.pos ∧ s.pos ≤ s.kinds.size ∧ M.Good B Bs s ∧ M.val s + 2 + 61 * s.kinds.size ≤ B + 61 * s.pos ∧ P.steps s + 0 + 19 * s.kinds.size ≤ Bs + 19 * s.pos →
    wp M.A (Oq3.Grammar.optReturnSignature fuel ) (fun r s' => Adv s s' ∧ M.Good B Bs s' ∧ M.val s' + 61 * s.pos ≤ M.val s + 61 * s'.pos + 0 ∧ (s.pos < s'.pos → M.val s' + 61 * s.pos + 32 ≤ M.val s + 61 * s'.pos + 0) ∧ P.steps s' + 19 * s.pos ≤ P.steps s + 19 * s'.pos + 0 ∧ (s.pos < s'.pos → P.steps s' + 19 * s.pos + 6 ≤ P.steps s + 19 * s'.pos + 0)) s
  delimited : ∀ (bra ket : SyntaxKind) (consumeBraket : Bool) (delim : SyntaxKind) (firstSet : TokenSet) (parser : DelimitedParser) (B Bs : Nat) (s : P), 14 + 20 * s.kinds.size ≤ fuel + 20 * s.pos ∧ s.pos ≤ s.kinds.size ∧ M.Good B Bs s ∧ M.val s + 15 + 61 * s.kinds.size ≤ B + 61 * s.pos ∧ P.steps s + 2 + 19 * s.kinds.size ≤ Bs + 19 * s.pos →
    wp M.A (Oq3.Grammar.delimited fuel bra ket consumeBraket delim firstSet parser) (fun r s' => Adv s s' ∧ M.Good B Bs s' ∧ M.val s' + 61 * s.pos ≤ M.val s + 61 * s'.pos + 6 ∧ (s.pos < s'.pos → M.val s' + 61 * s.pos + 0 ≤ M.val s + 61 * s'.pos + 6) ∧ P.steps s' + 19 * s.pos ≤ P.steps s + 19 * s'.pos + 2 ∧ (s.pos < s'.pos → P.steps s' + 19 * s.pos + 0 ≤ P.steps s + 19 * s'.pos + 2) ∧ (consumeBraket = true → s.pos < s'.pos)) s
  delimitedLoop : ∀ (ket delim : SyntaxKind) (firstSet : TokenSet) (parser : DelimitedParser) (B Bs : Nat) (s : P), 13 + 20 * s.kinds.size ≤ fuel + 20 * s.pos ∧ s.pos ≤ s.kinds.size ∧ M.Good B Bs s ∧ M.val s + 15 + 61 * s.kinds.size ≤ B + 61 * s.pos ∧ P.steps s + 2 + 19 * s.kinds.size ≤ Bs + 19 * s.pos →
    wp M.A (Oq3.Grammar.delimitedLoop fuel ket delim firstSet parser) (fun r s' => Adv s s' ∧ M.Good B Bs s' ∧ M.val s' + 61 * s.pos ≤ M.val s + 61 * s'.pos + 5 ∧ (s.pos < s'.pos → M.val s' + 61 * s.pos + 1 ≤ M.val s + 61 * s'.pos + 5) ∧ P.steps s' + 19 * s.pos ≤ P.steps s + 19 * s'.pos + 2 ∧ (s.pos < s'.pos → P.steps s' + 19 * s.pos + 0 ≤ P.steps s + 19 * s'.pos + 2)) s
  delimitedParser : ∀ (parser : DelimitedParser) (B Bs : Nat) (s : P), 12 + 20 * s.kinds.size ≤ fuel + 20 * s.pos ∧ s.pos ≤ s.kinds.size ∧ M.Good B Bs s ∧ M.val s + 15 + 61 * s.kinds.size ≤ B + 61 * s.pos ∧ P.steps s + 2 + 19 * s.kinds.size ≤ Bs + 19 * s.pos →
    wp M.A (Oq3.Grammar.delimitedParser fuel parser) (fun r s' => Adv s s' ∧ M.Good B Bs s' ∧ M.val s' + 61 * s.pos ≤ M.val s + 61 * s'.pos + 5 ∧ (s.pos < s'.pos → M.val s' + 61 * s.pos + 7 ≤ M.val s + 61 * s'.pos + 5) ∧ P.steps s' + 19 * s.pos ≤ P.steps s + 19 * s'.pos + 2 ∧ (s.pos < s'.pos → P.steps s' + 19 * s.pos + 2 ≤ P.steps s + 19 * s'.pos + 2) ∧ (r = true → s.pos < s'.pos)) s
  sourceFileContents : ∀ (stopOnRCurly : Bool) (B Bs : Nat) (s : P), 18 + 20 * s.kinds.size ≤ fuel + 20 * s.pos ∧ s.pos ≤ s.kinds.size ∧ M.Good B Bs s ∧ M.val s + 25 + 61 * s.kinds.size ≤ B + 61 * s.pos ∧ P.steps s + 6 + 19 * s.kinds.size ≤ Bs + 19 * s.pos →
    wp M.A (Oq3.Grammar.sourceFileContents fuel stopOnRCurly) (fun r s' => Adv s s' ∧ M.Good B Bs s' ∧ M.val s' + 61 * s.pos ≤ M.val s + 61 * s'.pos + 0 ∧ (s.pos < s'.pos → M.val s' + 61 * s.pos + 0 ≤ M.val s + 61 * s'.pos + 0) ∧ P.steps s' + 19 * s.pos ≤ P.steps s + 19 * s'.pos + 0 ∧ (s.pos < s'.pos → P.steps s' + 19 * s.pos + 0 ≤ P.steps s + 19 * s'.pos + 0)) s
  item : ∀ (stopOnRCurly : Bool) (B Bs : Nat) (s : P), 17 + 20 * s.kinds.size ≤ fuel + 20 * s.pos ∧ s.pos ≤ s.kinds.size ∧ M.Good B Bs s ∧ M.val s + 25 + 61 * s.kinds.size ≤ B + 61 * s.pos ∧ P.steps s + 6 + 19 * s.kinds.size ≤ Bs + 19 * s.pos →
    wp M.A (Oq3.Grammar.item fuel stopOnRCurly) (fun r s' => Adv s s' ∧ M.Good B Bs s' ∧ M.val s' + 61 * s.pos ≤ M.val s + 61 * s'.pos + 5 ∧ (s.pos < s'.pos → M.val s' + 61 * s.pos + 5 ≤ M.val s + 61 * s'.pos + 5) ∧ P.steps s' + 19 * s.pos ≤ P.steps s + 19 * s'.pos + 1 ∧ (s.pos < s'.pos → P.steps s' + 19 * s.pos + 1 ≤ P.steps s + 19 * s'.pos + 1) ∧ ((atF .EOF s.kinds s.joint s.pos || (atF .R_CURLY s.kinds s.joint s.pos && stopOnRCurly)) = false → s.pos < s'.pos)) s
  optItem : ∀ (m : Marker) (B Bs : Nat) (s : P), 14 + 20 * s.kinds.size ≤ fuel + 20 * s.pos ∧ s.pos ≤ s.kinds.size ∧ M.Good B Bs s ∧ M.val s + 23 + 61 * s.kinds.size ≤ B + 61 * s.pos ∧ P.steps s + 3 + 19 * s.kinds.size ≤ Bs + 19 * s.pos →
    wp M.A (Oq3.Grammar.optItem fuel m) (fun r s' => Adv s s' ∧ M.Good B Bs s' ∧ M.val s' + 61 * s.pos ≤ M.val s + 61 * s'.pos + 0 ∧ (s.pos < s'.pos → M.val s' + 61 * s.pos + 12 ≤ M.val s + 61 * s'.pos + 0) ∧ P.steps s' + 19 * s.pos ≤ P.steps s + 19 * s'.pos + 1 ∧ (s.pos < s'.pos → P.steps s' + 19 * s.pos + 6 ≤ P.steps s + 19 * s'.pos + 1) ∧ (r.isOk = true → s.pos < s'.pos) ∧ (r.isOk = false → s'.tv = s.tv)) s
  switchCaseStmt : ∀ (m : Marker) (B Bs : Nat) (s : P), 1 + 20 * s.kinds.size ≤ fuel + 20 * s.pos ∧ s.pos ≤ s.kinds.size ∧ M.Good B Bs s ∧ M.val s + 1 + 61 * s.kinds.size ≤ B + 61 * s.pos ∧ P.steps s + 0 + 19 * s.kinds.size ≤ Bs + 19 * s.pos →
    wp M.A (Oq3.Grammar.switchCaseStmt fuel m) (fun r s' => Adv s s' ∧ M.Good B Bs s' ∧ M.val s' + 61 * s.pos ≤ M.val s + 61 * s'.pos + 0 ∧ (s.pos < s'.pos → M.val s' + 61 * s.pos + 12 ≤ M.val s + 61 * s'.pos + 0) ∧ P.steps s' + 19 * s.pos ≤ P.steps s + 19 * s'.pos + 0 ∧ (s.pos < s'.pos → P.steps s' + 19 * s.pos + 6 ≤ P.steps s + 19 * s'.pos + 0) ∧ (s.pos < s'.pos)) s
  switchCaseLoop : ∀  (B Bs : Nat) (s : P), 1 + 20 * s.kinds.size ≤ fuel + 20 * s.pos ∧ s.pos ≤ s.kinds.size ∧ M.Good B Bs s ∧ M.val s + 2 + 61 * s.kinds.size ≤ B + 61 * s.pos ∧ P.steps s + 0 + 19 * s.kinds.size ≤ Bs + 19 * s.pos →
    wp M.A (Oq3.Grammar.switchCaseLoop fuel ) (fun r s' => Adv s s' ∧ M.Good B Bs s' ∧ M.val s' + 61 * s.pos ≤ M.val s + 61 * s'.pos + 0 ∧ (s.pos < s'.pos → M.val s' + 61 * s.pos + 0 ≤ M.val s + 61 * s'.pos + 0) ∧ P.steps s' + 19 * s.pos ≤ P.steps s + 19 * s'.pos + 0 ∧ (s.pos < s'.pos → P.steps s' + 19 * s.pos + 0 ≤ P.steps s + 19 * s'.pos + 0)) s
  blockOrStatement : ∀  (B Bs : Nat) (s : P), 16 + 20 * s.kinds.size ≤ fuel + 20 * s.pos ∧ s.pos ≤ s.kinds.size ∧ M.Good B Bs s ∧ M.val s + 24 + 61 * s.kinds.size ≤ B + 61 * s.pos ∧ P.steps s + 5 + 19 * s.kinds.size ≤ Bs + 19 * s.pos →
    wp M.A (Oq3.Grammar.blockOrStatement fuel ) (fun r s' => Adv s s' ∧ M.Good B Bs s' ∧ M.val s' + 61 * s.pos ≤ M.val s + 61 * s'.pos + 9 ∧ (s.pos < s'.pos → M.val s' + 61 * s.pos + 0 ≤ M.val s + 61 * s'.pos + 9) ∧ P.steps s' + 19 * s.pos ≤ P.steps s + 19 * s'.pos + 5 ∧ (s.pos < s'.pos → P.steps s' + 19 * s.pos + 0 ≤ P.steps s + 19 * s'.pos + 5)) s
  ifStmt : ∀ (m : Marker) (B Bs : Nat) (s : P), 1 + 20 * s.kinds.size ≤ fuel + 20 * s.pos ∧ s.pos ≤ s.kinds.size ∧ M.Good B Bs s ∧ M.val s + 1 + 61 * s.kinds.size ≤ B + 61 * s.pos ∧ P.steps s + 0 + 19 * s.kinds.size ≤ Bs + 19 * s.pos →
    wp M.A (Oq3.Grammar.ifStmt fuel m) (fun r s' => Adv s s' ∧ M.Good B Bs s' ∧ M.val s' + 61 * s.pos ≤ M.val s + 61 * s'.pos + 0 ∧ (s.pos < s'.pos → M.val s' + 61 * s.pos + 12 ≤ M.val s + 61 * s'.pos + 0) ∧ P.steps s' + 19 * s.pos ≤ P.steps s + 19 * s'.pos + 0 ∧ (s.pos < s'.pos → P.steps s' + 19 * s.pos + 6 ≤ P.steps s + 19 * s'.pos + 0) ∧ (s.pos < s'.pos)) s
  whileStmt : ∀ (m : Marker) (B Bs : Nat) (s : P), 1 + 20 * s.kinds.size ≤ fuel + 20 * s.pos ∧ s.pos ≤ s.kinds.size ∧ M.Good B Bs s ∧ M.val s + 1 + 61 * s.kinds.size ≤ B + 61 * s.pos ∧ P.steps s + 0 + 19 * s.kinds.size ≤ Bs + 19 * s.pos →
    wp M.A (Oq3.Grammar.whileStmt fuel m) (fun r s' => Adv s s' ∧ M.Good B Bs s' ∧ M.val s' + 61 * s.pos ≤ M.val s + 61 * s'.pos + 0 ∧ (s.pos < s'.pos → M.val s' + 61 * s.pos + 12 ≤ M.val s + 61 * s'.pos + 0) ∧ P.steps s' + 19 * s.pos ≤ P.steps s + 19 * s'.pos + 0 ∧ (s.pos < s'.pos → P.steps s' + 19 * s.pos + 6 ≤ P.steps s + 19 * s'.pos + 0) ∧ (s.pos < s'.pos)) s
  forStmt : ∀ (m : Marker) (B Bs : Nat) (s : P), 1 + 20 * s.kinds.size ≤ fuel + 20 * s.pos ∧ s.pos ≤ s.kinds.size ∧ M.Good B Bs s ∧ M.val s + 1 + 61 * s.kinds.size ≤ B + 61 * s.pos ∧ P.steps s + 0 + 19 * s.kinds.size ≤ Bs + 19 * s.pos →
    wp M.A (Oq3.Grammar.forStmt fuel m) (fun r s' => Adv s s' ∧ M.Good B Bs s' ∧ M.val s' + 61 * s.pos ≤ M.val s + 61 * s'.pos + 0 ∧ (s.pos < s'.pos → M.val s' + 61 * s.pos + 12 ≤ M.val s + 61 * s'.pos + 0) ∧ P.steps s' + 19 * s.pos ≤ P.steps s + 19 * s'.pos + 0 ∧ (s.pos < s'.pos → P.steps s' + 19 * s.pos + 6 ≤ P.steps s + 19 * s'.pos + 0) ∧ (s.pos < s'.pos)) s
  qubitDeclarationStmt : ∀ (m : Marker) (B Bs : Nat) (s : P), 3 + 20 * s.kinds.size ≤ fuel + 20 * s.pos ∧ s.pos ≤ s.kinds.size ∧ M.Good B Bs s ∧ M.val s + 4 + 61 * s.kinds.size ≤ B + 61 * s.pos ∧ P.steps s + 0 + 19 * s.kinds.size ≤ Bs + 19 * s.pos →
    wp M.A (Oq3.Grammar.qubitDeclarationStmt fuel m) (fun r s' => Adv s s' ∧ M.Good B Bs s' ∧ M.val s' + 61 * s.pos ≤ M.val s + 61 * s'.pos + 0 ∧ (s.pos < s'.pos → M.val s' + 61 * s.pos + 12 ≤ M.val s + 61 * s'.pos + 0) ∧ P.steps s' + 19 * s.pos ≤ P.steps s + 19 * s'.pos + 0 ∧ (s.pos < s'.pos → P.steps s' + 19 * s.pos + 6 ≤ P.steps s + 19 * s'.pos + 0) ∧ (s.pos < s'.pos)) s
  resetStmt : ∀ (m : Marker) (B Bs : Nat) (s : P), 1 + 20 * s.kinds.size ≤ fuel + 20 * s.pos ∧ s.pos ≤ s.kinds.size ∧ M.Good B Bs s ∧ M.val s + 1 + 61 * s.kinds.size ≤ B + 61 * s.pos ∧ P.steps s + 0 + 19 * s.kinds.size ≤ Bs + 19 * s.pos →
    wp M.A (Oq3.Grammar.resetStmt fuel m) (fun r s' => Adv s s' ∧ M.Good B Bs s' ∧ M.val s' + 61 * s.pos ≤ M.val s + 61 * s'.pos + 0 ∧ (s.pos < s'.pos → M.val s' + 61 * s.pos + 12 ≤ M.val s + 61 * s'.pos + 0) ∧ P.steps s' + 19 * s.pos ≤ P.steps s + 19 * s'.pos + 0 ∧ (s.pos < s'.pos → P.steps s' + 19 * s.pos + 6 ≤ P.steps s + 19 * s'.pos + 0) ∧ (s.pos < s'.pos)) s
  gateDefinition : ∀ (m : Marker) (B Bs : Nat) (s : P), 1 + 20 * s.kinds.size ≤ fuel + 20 * s.pos ∧ s.pos ≤ s.kinds.size ∧ M.Good B Bs s ∧ M.val s + 1 + 61 * s.kinds.size ≤ B + 61 * s.pos ∧ P.steps s + 0 + 19 * s.kinds.size ≤ Bs + 19 * s.pos →
    wp M.A (Oq3.Grammar.gateDefinition fuel m) (fun r s' => Adv s s' ∧ M.Good B Bs s' ∧ M.val s' + 61 * s.pos ≤ M.val s + 61 * s'.pos + 0 ∧ (s.pos < s'.pos → M.val s' + 61 * s.pos + 12 ≤ M.val s + 61 * s'.pos + 0) ∧ P.steps s' + 19 * s.pos ≤ P.steps s + 19 * s'.pos + 0 ∧ (s.pos < s'.pos → P.steps s' + 19 * s.pos + 6 ≤ P.steps s + 19 * s'.pos + 0) ∧ (s.pos < s'.pos)) s
  defcal_ : ∀ (m : Marker) (B Bs : Nat) (s : P), 1 + 20 * s.kinds.size ≤ fuel + 20 * s.pos ∧ s.pos ≤ s.kinds.size ∧ M.Good B Bs s ∧ M.val s + 1 + 61 * s.kinds.size ≤ B + 61 * s.pos ∧ P.steps s + 0 + 19 * s.kinds.size ≤ Bs + 19 * s.pos →
    wp M.A (Oq3.Grammar.defcal_ fuel m) (fun r s' => Adv s s' ∧ M.Good B Bs s' ∧ M.val s' + 61 * s.pos ≤ M.val s + 61 * s'.pos + 0 ∧ (s.pos < s'.pos → M.val s' + 61 * s.pos + 12 ≤ M.val s + 61 * s'.pos + 0) ∧ P.steps s' + 19 * s.pos ≤ P.steps s + 19 * s'.pos + 0 ∧ (s.pos < s'.pos → P.steps s' + 19 * s.pos + 6 ≤ P.steps s + 19 * s'.pos + 0) ∧ (s.pos < s'.pos)) s
  returnsBoolClassicalDeclarationStmt : ∀ (m : Marker) (B Bs : Nat) (s : P), 12 + 20 * s.kinds.size ≤ fuel + 20 * s.pos ∧ s.pos ≤ s.kinds.size ∧ M.Good B Bs s ∧ M.val s + 23 + 61 * s.kinds.size ≤ B + 61 * s.pos ∧ P.steps s + 2 + 19 * s.kinds.size ≤ Bs + 19 * s.pos →
    wp M.A (Oq3.Grammar.returnsBoolClassicalDeclarationStmt fuel m) (fun r s' => Adv s s' ∧ M.Good B Bs s' ∧ M.val s' + 61 * s.pos ≤ M.val s + 61 * s'.pos + 15 ∧ (s.pos < s'.pos → M.val s' + 61 * s.pos + 27 ≤ M.val s + 61 * s'.pos + 15) ∧ P.steps s' + 19 * s.pos ≤ P.steps s + 19 * s'.pos + 2 ∧ (s.pos < s'.pos → P.steps s' + 19 * s.pos + 8 ≤ P.steps s + 19 * s'.pos + 2) ∧ ((isClassicalType (s.kindAt s.pos) = true ∨ atF .CONST_KW s.kinds s.joint s.pos = true) → s.pos < s'.pos)) s
  classicalDeclarationStmt : ∀ (m : Marker) (B Bs : Nat) (s : P), 13 + 20 * s.kinds.size ≤ fuel + 20 * s.pos ∧ s.pos ≤ s.kinds.size ∧ M.Good B Bs s ∧ M.val s + 23 + 61 * s.kinds.size ≤ B + 61 * s.pos ∧ P.steps s + 2 + 19 * s.kinds.size ≤ Bs + 19 * s.pos →
    wp M.A (Oq3.Grammar.classicalDeclarationStmt fuel m) (fun r s' => Adv s s' ∧ M.Good B Bs s' ∧ M.val s' + 61 * s.pos ≤ M.val s + 61 * s'.pos + 15 ∧ (s.pos < s'.pos → M.val s' + 61 * s.pos + 27 ≤ M.val s + 61 * s'.pos + 15) ∧ P.steps s' + 19 * s.pos ≤ P.steps s + 19 * s'.pos + 2 ∧ (s.pos < s'.pos → P.steps s' + 19 * s.pos + 8 ≤ P.steps s + 19 * s'.pos + 2) ∧ ((isClassicalType (s.kindAt s.pos) = true ∨ atF .CONST_KW s.kinds s.joint s.pos = true) → s.pos < s'.pos)) s
  ioDeclarationStmt : ∀ (m : Marker) (B Bs : Nat) (s : P), 4 + 20 * s.kinds.size ≤ fuel + 20 * s.pos ∧ s.pos ≤ s.kinds.size ∧ M.Good B Bs s ∧ M.val s + 9 + 61 * s.kinds.size ≤ B + 61 * s.pos ∧ P.steps s + 0 + 19 * s.kinds.size ≤ Bs + 19 * s.pos →
    wp M.A (Oq3.Grammar.ioDeclarationStmt fuel m) (fun r s' => Adv s s' ∧ M.Good B Bs s' ∧ M.val s' + 61 * s.pos ≤ M.val s + 61 * s'.pos + 9 ∧ (s.pos < s'.pos → M.val s' + 61 * s.pos + 21 ≤ M.val s + 61 * s'.pos + 9) ∧ P.steps s' + 19 * s.pos ≤ P.steps s + 19 * s'.pos + 0 ∧ (s.pos < s'.pos → P.steps s' + 19 * s.pos + 6 ≤ P.steps s + 19 * s'.pos + 0) ∧ (s.kindAt s.pos ≠ .EOF → s.pos < s'.pos)) s
  defStmt : ∀ (m : Marker) (B Bs : Nat) (s : P), 9 + 20 * s.kinds.size ≤ fuel + 20 * s.pos ∧ s.pos ≤ s.kinds.size ∧ M.Good B Bs s ∧ M.val s + 1 + 61 * s.kinds.size ≤ B + 61 * s.pos ∧ P.steps s + 0 + 19 * s.kinds.size ≤ Bs + 19 * s.pos →
    wp M.A (Oq3.Grammar.defStmt fuel m) (fun r s' => Adv s s' ∧ M.Good B Bs s' ∧ M.val s' + 61 * s.pos ≤ M.val s + 61 * s'.pos + 0 ∧ (s.pos < s'.pos → M.val s' + 61 * s.pos + 12 ≤ M.val s + 61 * s'.pos + 0) ∧ P.steps s' + 19 * s.pos ≤ P.steps s + 19 * s'.pos + 0 ∧ (s.pos < s'.pos → P.steps s' + 19 * s.pos + 6 ≤ P.steps s + 19 * s'.pos + 0) ∧ (s.pos < s'.pos)) s
  externStmt : ∀ (m : Marker) (B Bs : Nat) (s : P), 9 + 20 * s.kinds.size ≤ fuel + 20 * s.pos ∧ s.pos ≤ s.kinds.size ∧ M.Good B Bs s ∧ M.val s + 1 + 61 * s.kinds.size ≤ B + 61 * s.pos ∧ P.steps s + 0 + 19 * s.kinds.size ≤ Bs + 19 * s.pos →
    wp M.A (Oq3.Grammar.externStmt fuel m) (fun r s' => Adv s s' ∧ M.Good B Bs s' ∧ M.val s' + 61 * s.pos ≤ M.val s + 61 * s'.pos + 0 ∧ (s.pos < s'.pos → M.val s' + 61 * s.pos + 12 ≤ M.val s + 61 * s'.pos + 0) ∧ P.steps s' + 19 * s.pos ≤ P.steps s + 19 * s'.pos + 0 ∧ (s.pos < s'.pos → P.steps s' + 19 * s.pos + 6 ≤ P.steps s + 19 * s'.pos + 0) ∧ (s.pos < s'.pos)) s
  cal_ : ∀ (m : Marker) (B Bs : Nat) (s : P), 1 + 20 * s.kinds.size ≤ fuel + 20 * s.pos ∧ s.pos ≤ s.kinds.size ∧ M.Good B Bs s ∧ M.val s + 1 + 61 * s.kinds.size ≤ B + 61 * s.pos ∧ P.steps s + 0 + 19 * s.kinds.size ≤ Bs + 19 * s.pos →
    wp M.A (Oq3.Grammar.cal_ fuel m) (fun r s' => Adv s s' ∧ M.Good B Bs s' ∧ M.val s' + 61 * s.pos ≤ M.val s + 61 * s'.pos + 0 ∧ (s.pos < s'.pos → M.val s' + 61 * s.pos + 12 ≤ M.val s + 61 * s'.pos + 0) ∧ P.steps s' + 19 * s.pos ≤ P.steps s + 19 * s'.pos + 0 ∧ (s.pos < s'.pos → P.steps s' + 19 * s.pos + 6 ≤ P.steps s + 19 * s'.pos + 0) ∧ (s.pos < s'.pos)) s
  barrier_ : ∀ (m : Marker) (B Bs : Nat) (s : P), 1 + 20 * s.kinds.size ≤ fuel + 20 * s.pos ∧ s.pos ≤ s.kinds.size ∧ M.Good B Bs s ∧ M.val s + 1 + 61 * s.kinds.size ≤ B + 61 * s.pos ∧ P.steps s + 0 + 19 * s.kinds.size ≤ Bs + 19 * s.pos →
    wp M.A (Oq3.Grammar.barrier_ fuel m) (fun r s' => Adv s s' ∧ M.Good B Bs s' ∧ M.val s' + 61 * s.pos ≤ M.val s + 61 * s'.pos + 0 ∧ (s.pos < s'.pos → M.val s' + 61 * s.pos + 12 ≤ M.val s + 61 * s'.pos + 0) ∧ P.steps s' + 19 * s.pos ≤ P.steps s + 19 * s'.pos + 0 ∧ (s.pos < s'.pos → P.steps s' + 19 * s.pos + 6 ≤ P.steps s + 19 * s'.pos + 0) ∧ (s.pos < s'.pos)) s
  delayStmt : ∀ (m : Marker) (B Bs : Nat) (s : P), 1 + 20 * s.kinds.size ≤ fuel + 20 * s.pos ∧ s.pos ≤ s.kinds.size ∧ M.Good B Bs s ∧ M.val s + 1 + 61 * s.kinds.size ≤ B + 61 * s.pos ∧ P.steps s + 0 + 19 * s.kinds.size ≤ Bs + 19 * s.pos →
    wp M.A (Oq3.Grammar.delayStmt fuel m) (fun r s' => Adv s s' ∧ M.Good B Bs s' ∧ M.val s' + 61 * s.pos ≤ M.val s + 61 * s'.pos + 0 ∧ (s.pos < s'.pos → M.val s' + 61 * s.pos + 12 ≤ M.val s + 61 * s'.pos + 0) ∧ P.steps s' + 19 * s.pos ≤ P.steps s + 19 * s'.pos + 0 ∧ (s.pos < s'.pos → P.steps s' + 19 * s.pos + 6 ≤ P.steps s + 19 * s'.pos + 0) ∧ (s.pos < s'.pos)) s
  aliasStmt : ∀ (m : Marker) (B Bs : Nat) (s : P), 12 + 20 * s.kinds.size ≤ fuel + 20 * s.pos ∧ s.pos ≤ s.kinds.size ∧ M.Good B Bs s ∧ M.val s + 1 + 61 * s.kinds.size ≤ B + 61 * s.pos ∧ P.steps s + 0 + 19 * s.kinds.size ≤ Bs + 19 * s.pos →
    wp M.A (Oq3.Grammar.aliasStmt fuel m) (fun r s' => Adv s s' ∧ M.Good B Bs s' ∧ M.val s' + 61 * s.pos ≤ M.val s + 61 * s'.pos + 0 ∧ (s.pos < s'.pos → M.val s' + 61 * s.pos + 12 ≤ M.val s + 61 * s'.pos + 0) ∧ P.steps s' + 19 * s.pos ≤ P.steps s + 19 * s'.pos + 0 ∧ (s.pos < s'.pos → P.steps s' + 19 * s.pos + 6 ≤ P.steps s + 19 * s'.pos + 0) ∧ (s.pos < s'.pos)) s
  expr : ∀  (B Bs : Nat) (s : P), 11 + 20 * s.kinds.size ≤ fuel + 20 * s.pos ∧ s.pos ≤ s.kinds.size ∧ M.Good B Bs s ∧ M.val s + 15 + 61 * s.kinds.size ≤ B + 61 * s.pos ∧ P.steps s + 2 + 19 * s.kinds.size ≤ Bs + 19 * s.pos →
    wp M.A (Oq3.Grammar.expr fuel ) (fun r s' => Adv s s' ∧ M.Good B Bs s' ∧ M.val s' + 61 * s.pos ≤ M.val s + 61 * s'.pos + 5 ∧ (s.pos < s'.pos → M.val s' + 61 * s.pos + 29 ≤ M.val s + 61 * s'.pos + 5) ∧ P.steps s' + 19 * s.pos ≤ P.steps s + 19 * s'.pos + 2 ∧ (s.pos < s'.pos → P.steps s' + 19 * s.pos + 8 ≤ P.steps s + 19 * s'.pos + 2) ∧ (r.isSome = true → s.pos < s'.pos) ∧ (exprHalt (s.kindAt s.pos) = false → s.pos < s'.pos)) s
  rangeExpr : ∀  (B Bs : Nat) (s : P), 1 + 20 * s.kinds.size ≤ fuel + 20 * s.pos ∧ s.pos ≤ s.kinds.size ∧ M.Good B Bs s ∧ M.val s + 2 + 61 * s.kinds.size ≤ B + 61 * s.pos ∧ P.steps s + 0 + 19 * s.kinds.size ≤ Bs + 19 * s.pos →
    wp M.A (Oq3.Grammar.rangeExpr fuel ) (fun r s' => Adv s s' ∧ M.Good B Bs s' ∧ M.val s' + 61 * s.pos ≤ M.val s + 61 * s'.pos + 0 ∧ (s.pos < s'.pos → M.val s' + 61 * s.pos + 0 ≤ M.val s + 61 * s'.pos + 0) ∧ P.steps s' + 19 * s.pos ≤ P.steps s + 19 * s'.pos + 0 ∧ (s.pos < s'.pos → P.steps s' + 19 * s.pos + 0 ≤ P.steps s + 19 * s'.pos + 0) ∧ (s.pos < s'.pos)) s
  exprOrRangeExpr : ∀  (B Bs : Nat) (s : P), 11 + 20 * s.kinds.size ≤ fuel + 20 * s.pos ∧ s.pos ≤ s.kinds.size ∧ M.Good B Bs s ∧ M.val s + 16 + 61 * s.kinds.size ≤ B + 61 * s.pos ∧ P.steps s + 2 + 19 * s.kinds.size ≤ Bs + 19 * s.pos →
    wp M.A (Oq3.Grammar.exprOrRangeExpr fuel ) (fun r s' => Adv s s' ∧ M.Good B Bs s' ∧ M.val s' + 61 * s.pos ≤ M.val s + 61 * s'.pos + 6 ∧ (s.pos < s'.pos → M.val s' + 61 * s.pos + 8 ≤ M.val s + 61 * s'.pos + 6) ∧ P.steps s' + 19 * s.pos ≤ P.steps s + 19 * s'.pos + 2 ∧ (s.pos < s'.pos → P.steps s' + 19 * s.pos + 2 ≤ P.steps s + 19 * s'.pos + 2) ∧ (exprHalt (s.kindAt s.pos) = false → s.pos < s'.pos)) s
  exprStmt : ∀ (m : Option Marker) (B Bs : Nat) (s : P), 11 + 20 * s.kinds.size ≤ fuel + 20 * s.pos ∧ s.pos ≤ s.kinds.size ∧ M.Good B Bs s ∧ M.val s + 15 + 61 * s.kinds.size ≤ B + 61 * s.pos ∧ P.steps s + 2 + 19 * s.kinds.size ≤ Bs + 19 * s.pos →
    wp M.A (Oq3.Grammar.exprStmt fuel m) (fun r s' => Adv s s' ∧ M.Good B Bs s' ∧ M.val s' + 61 * s.pos ≤ M.val s + 61 * s'.pos + 5 ∧ (s.pos < s'.pos → M.val s' + 61 * s.pos + 12 ≤ M.val s + 61 * s'.pos + 5) ∧ P.steps s' + 19 * s.pos ≤ P.steps s + 19 * s'.pos + 2 ∧ (s.pos < s'.pos → P.steps s' + 19 * s.pos + 6 ≤ P.steps s + 19 * s'.pos + 2) ∧ (r.isSome = true → s.pos < s'.pos) ∧ (exprHalt (s.kindAt s.pos) = false → s.pos < s'.pos)) s
  stmt : ∀  (B Bs : Nat) (s : P), 15 + 20 * s.kinds.size ≤ fuel + 20 * s.pos ∧ s.pos ≤ s.kinds.size ∧ M.Good B Bs s ∧ M.val s + 24 + 61 * s.kinds.size ≤ B + 61 * s.pos ∧ P.steps s + 5 + 19 * s.kinds.size ≤ Bs + 19 * s.pos →
    wp M.A (Oq3.Grammar.stmt fuel ) (fun r s' => Adv s s' ∧ M.Good B Bs s' ∧ M.val s' + 61 * s.pos ≤ M.val s + 61 * s'.pos + 9 ∧ (s.pos < s'.pos → M.val s' + 61 * s.pos + 10 ≤ M.val s + 61 * s'.pos + 9) ∧ P.steps s' + 19 * s.pos ≤ P.steps s + 19 * s'.pos + 5 ∧ (s.pos < s'.pos → P.steps s' + 19 * s.pos + 6 ≤ P.steps s + 19 * s'.pos + 5) ∧ (atomHalt (s.kindAt s.pos) = false → s.pos < s'.pos)) s
  letStmt : ∀ (m : Marker) (B Bs : Nat) (s : P), 1 + 20 * s.kinds.size ≤ fuel + 20 * s.pos ∧ s.pos ≤ s.kinds.size ∧ M.Good B Bs s ∧ M.val s + 1 + 61 * s.kinds.size ≤ B + 61 * s.pos ∧ P.steps s + 0 + 19 * s.kinds.size ≤ Bs + 19 * s.pos →
    wp M.A (Oq3.Grammar.letStmt fuel m) (fun r s' => Adv s s' ∧ M.Good B Bs s' ∧ M.val s' + 61 * s.pos ≤ M.val s + 61 * s'.pos + 0 ∧ (s.pos < s'.pos → M.val s' + 61 * s.pos + 3 ≤ M.val s + 61 * s'.pos + 0) ∧ P.steps s' + 19 * s.pos ≤ P.steps s + 19 * s'.pos + 0 ∧ (s.pos < s'.pos → P.steps s' + 19 * s.pos + 1 ≤ P.steps s + 19 * s'.pos + 0) ∧ (s.pos < s'.pos)) s
  qOrCRegParam : ∀  (B Bs : Nat) (s : P), 2 + 20 * s.kinds.size ≤ fuel + 20 * s.pos ∧ s.pos ≤ s.kinds.size ∧ M.Good B Bs s ∧ M.val s + 3 + 61 * s.kinds.size ≤ B + 61 * s.pos ∧ P.steps s + 0 + 19 * s.kinds.size ≤ Bs + 19 * s.pos →
    wp M.A (Oq3.Grammar.qOrCRegParam fuel ) (fun r s' => Adv s s' ∧ M.Good B Bs s' ∧ M.val s' + 61 * s.pos ≤ M.val s + 61 * s'.pos + 2 ∧ (s.pos < s'.pos → M.val s' + 61 * s.pos + 36 ≤ M.val s + 61 * s'.pos + 2) ∧ P.steps s' + 19 * s.pos ≤ P.steps s + 19 * s'.pos + 0 ∧ (s.pos < s'.pos → P.steps s' + 19 * s.pos + 6 ≤ P.steps s + 19 * s'.pos + 0) ∧ (s.kindAt s.pos ≠ .EOF → s.pos < s'.pos)) s
  qOrCRegDeclaration : ∀ (m : Marker) (B Bs : Nat) (s : P), 3 + 20 * s.kinds.size ≤ fuel + 20 * s.pos ∧ s.pos ≤ s.kinds.size ∧ M.Good B Bs s ∧ M.val s + 4 + 61 * s.kinds.size ≤ B + 61 * s.pos ∧ P.steps s + 0 + 19 * s.kinds.size ≤ Bs + 19 * s.pos →
    wp M.A (Oq3.Grammar.qOrCRegDeclaration fuel m) (fun r s' => Adv s s' ∧ M.Good B Bs s' ∧ M.val s' + 61 * s.pos ≤ M.val s + 61 * s'.pos + 4 ∧ (s.pos < s'.pos → M.val s' + 61 * s.pos + 7 ≤ M.val s + 61 * s'.pos + 4) ∧ P.steps s' + 19 * s.pos ≤ P.steps s + 19 * s'.pos + 0 ∧ (s.pos < s'.pos → P.steps s' + 19 * s.pos + 2 ≤ P.steps s + 19 * s'.pos + 0) ∧ (s.kindAt s.pos ≠ .EOF → s.pos < s'.pos)) s
  exprBlockStatements : ∀  (B Bs : Nat) (s : P), 16 + 20 * s.kinds.size ≤ fuel + 20 * s.pos ∧ s.pos ≤ s.kinds.size ∧ M.Good B Bs s ∧ M.val s + 24 + 61 * s.kinds.size ≤ B + 61 * s.pos ∧ P.steps s + 5 + 19 * s.kinds.size ≤ Bs + 19 * s.pos →
    wp M.A (Oq3.Grammar.exprBlockStatements fuel ) (fun r s' => Adv s s' ∧ M.Good B Bs s' ∧ M.val s' + 61 * s.pos ≤ M.val s + 61 * s'.pos + 0 ∧ (s.pos < s'.pos → M.val s' + 61 * s.pos + 1 ≤ M.val s + 61 * s'.pos + 0) ∧ P.steps s' + 19 * s.pos ≤ P.steps s + 19 * s'.pos + 0 ∧ (s.pos < s'.pos → P.steps s' + 19 * s.pos + 1 ≤ P.steps s + 19 * s'.pos + 0) ∧ (atomHalt (s.kindAt s.pos) = false → s.pos < s'.pos)) s
  exprBp : ∀ (m : Option Marker) (r : Restrictions) (bp : Nat) (B Bs : Nat) (s : P), 10 + 20 * s.kinds.size ≤ fuel + 20 * s.pos ∧ s.pos ≤ s.kinds.size ∧ M.Good B Bs s ∧ M.val s + 15 + 61 * s.kinds.size ≤ B + 61 * s.pos ∧ P.steps s + 2 + 19 * s.kinds.size ≤ Bs + 19 * s.pos →
    wp M.A (Oq3.Grammar.exprBp fuel m r bp) (fun r s' => Adv s s' ∧ M.Good B Bs s' ∧ M.val s' + 61 * s.pos ≤ M.val s + 61 * s'.pos + 5 ∧ (s.pos < s'.pos → M.val s' + 61 * s.pos + 29 ≤ M.val s + 61 * s'.pos + 5) ∧ P.steps s' + 19 * s.pos ≤ P.steps s + 19 * s'.pos + 2 ∧ (s.pos < s'.pos → P.steps s' + 19 * s.pos + 8 ≤ P.steps s + 19 * s'.pos + 2) ∧ (r.isSome = true → s.pos < s'.pos) ∧ (exprHalt (s.kindAt s.pos) = false → s.pos < s'.pos)) s
  exprBpLoop : ∀ (r : Restrictions) (bp : Nat) (lhs : CompletedMarker) (B Bs : Nat) (s : P), 1 + 20 * s.kinds.size ≤ fuel + 20 * s.pos ∧ s.pos ≤ s.kinds.size ∧ M.Good B Bs s ∧ M.val s + 2 + 61 * s.kinds.size ≤ B + 61 * s.pos ∧ P.steps s + 0 + 19 * s.kinds.size ≤ Bs + 19 * s.pos →
    wp M.A (Oq3.Grammar.exprBpLoop fuel r bp lhs) (fun r s' => Adv s s' ∧ M.Good B Bs s' ∧ M.val s' + 61 * s.pos ≤ M.val s + 61 * s'.pos + 0 ∧ (s.pos < s'.pos → M.val s' + 61 * s.pos + 29 ≤ M.val s + 61 * s'.pos + 0) ∧ P.steps s' + 19 * s.pos ≤ P.steps s + 19 * s'.pos + 0 ∧ (s.pos < s'.pos → P.steps s' + 19 * s.pos + 8 ≤ P.steps s + 19 * s'.pos + 0)) s
  lhs : ∀ (r : Restrictions) (B Bs : Nat) (s : P), 9 + 20 * s.kinds.size ≤ fuel + 20 * s.pos ∧ s.pos ≤ s.kinds.size ∧ M.Good B Bs s ∧ M.val s + 14 + 61 * s.kinds.size ≤ B + 61 * s.pos ∧ P.steps s + 1 + 19 * s.kinds.size ≤ Bs + 19 * s.pos →
    wp M.A (Oq3.Grammar.lhs fuel r) (fun r s' => Adv s s' ∧ M.Good B Bs s' ∧ M.val s' + 61 * s.pos ≤ M.val s + 61 * s'.pos + 4 ∧ (s.pos < s'.pos → M.val s' + 61 * s.pos + 29 ≤ M.val s + 61 * s'.pos + 4) ∧ P.steps s' + 19 * s.pos ≤ P.steps s + 19 * s'.pos + 1 ∧ (s.pos < s'.pos → P.steps s' + 19 * s.pos + 8 ≤ P.steps s + 19 * s'.pos + 1) ∧ (r.isSome = true → s.pos < s'.pos) ∧ (atomHalt (s.kindAt s.pos) = false → s.pos < s'.pos)) s
  postfixExpr : ∀ (lhs : CompletedMarker) (blockLike : BlockLike) (allowCalls : Bool) (B Bs : Nat) (s : P), 4 + 20 * s.kinds.size ≤ fuel + 20 * s.pos ∧ s.pos ≤ s.kinds.size ∧ M.Good B Bs s ∧ M.val s + 4 + 61 * s.kinds.size ≤ B + 61 * s.pos ∧ P.steps s + 0 + 19 * s.kinds.size ≤ Bs + 19 * s.pos →
    wp M.A (Oq3.Grammar.postfixExpr fuel lhs blockLike allowCalls) (fun r s' => Adv s s' ∧ M.Good B Bs s' ∧ M.val s' + 61 * s.pos ≤ M.val s + 61 * s'.pos + 0 ∧ (s.pos < s'.pos → M.val s' + 61 * s.pos + 29 ≤ M.val s + 61 * s'.pos + 0) ∧ P.steps s' + 19 * s.pos ≤ P.steps s + 19 * s'.pos + 0 ∧ (s.pos < s'.pos → P.steps s' + 19 * s.pos + 8 ≤ P.steps s + 19 * s'.pos + 0)) s
  callExpr : ∀ (lhs : CompletedMarker) (B Bs : Nat) (s : P), 2 + 20 * s.kinds.size ≤ fuel + 20 * s.pos ∧ s.pos ≤ s.kinds.size ∧ M.Good B Bs s ∧ M.val s + 4 + 61 * s.kinds.size ≤ B + 61 * s.pos ∧ P.steps s + 0 + 19 * s.kinds.size ≤ Bs + 19 * s.pos →
    wp M.A (Oq3.Grammar.callExpr fuel lhs) (fun r s' => Adv s s' ∧ M.Good B Bs s' ∧ M.val s' + 61 * s.pos ≤ M.val s + 61 * s'.pos + 0 ∧ (s.pos < s'.pos → M.val s' + 61 * s.pos + 29 ≤ M.val s + 61 * s'.pos + 0) ∧ P.steps s' + 19 * s.pos ≤ P.steps s + 19 * s'.pos + 0 ∧ (s.pos < s'.pos → P.steps s' + 19 * s.pos + 8 ≤ P.steps s + 19 * s'.pos + 0) ∧ (s.pos < s'.pos)) s
  paramTypeSpec : ∀  (B Bs : Nat) (s : P), 3 + 20 * s.kinds.size ≤ fuel + 20 * s.pos ∧ s.pos ≤ s.kinds.size ∧ M.Good B Bs s ∧ M.val s + 5 + 61 * s.kinds.size ≤ B + 61 * s.pos ∧ P.steps s + 0 + 19 * s.kinds.size ≤ Bs + 19 * s.pos →
    wp M.A (Oq3.Grammar.paramTypeSpec fuel ) (fun r s' => Adv s s' ∧ M.Good B Bs s' ∧ M.val s' + 61 * s.pos ≤ M.val s + 61 * s'.pos + 3 ∧ (s.pos < s'.pos → M.val s' + 61 * s.pos + 41 ≤ M.val s + 61 * s'.pos + 3) ∧ P.steps s' + 19 * s.pos ≤ P.steps s + 19 * s'.pos + 0 ∧ (s.pos < s'.pos → P.steps s' + 19 * s.pos + 6 ≤ P.steps s + 19 * s'.pos + 0) ∧ ((isType (s.kindAt s.pos) || atF .L_BRACK s.kinds s.joint s.pos || atF .ARRAY_KW s.kinds s.joint s.pos || atF .MUTABLE_KW s.kinds s.joint s.pos || atF .READONLY_KW s.kinds s.joint s.pos) = true → s.pos < s'.pos) ∧ ((isType (s.kindAt s.pos) || atF .L_BRACK s.kinds s.joint s.pos || atF .ARRAY_KW s.kinds s.joint s.pos || atF .MUTABLE_KW s.kinds s.joint s.pos || atF .READONLY_KW s.kinds s.joint s.pos) = false → s'.tv = s.tv)) s
  typeSpec : ∀  (B Bs : Nat) (s : P), 3 + 20 * s.kinds.size ≤ fuel + 20 * s.pos ∧ s.pos ≤ s.kinds.size ∧ M.Good B Bs s ∧ M.val s + 5 + 61 * s.kinds.size ≤ B + 61 * s.pos ∧ P.steps s + 0 + 19 * s.kinds.size ≤ Bs + 19 * s.pos →
    wp M.A (Oq3.Grammar.typeSpec fuel ) (fun r s' => Adv s s' ∧ M.Good B Bs s' ∧ M.val s' + 61 * s.pos ≤ M.val s + 61 * s'.pos + 3 ∧ (s.pos < s'.pos → M.val s' + 61 * s.pos + 37 ≤ M.val s + 61 * s'.pos + 3) ∧ P.steps s' + 19 * s.pos ≤ P.steps s + 19 * s'.pos + 0 ∧ (s.pos < s'.pos → P.steps s' + 19 * s.pos + 10 ≤ P.steps s + 19 * s'.pos + 0) ∧ ((isType (s.kindAt s.pos) || atF .L_BRACK s.kinds s.joint s.pos) = true → s.pos < s'.pos)) s
  arrayTypeSpec : ∀ (wantArrayRefType : Bool) (B Bs : Nat) (s : P), 1 + 20 * s.kinds.size ≤ fuel + 20 * s.pos ∧ s.pos ≤ s.kinds.size ∧ M.Good B Bs s ∧ M.val s + 5 + 61 * s.kinds.size ≤ B + 61 * s.pos ∧ P.steps s + 0 + 19 * s.kinds.size ≤ Bs + 19 * s.pos ∧ (wantArrayRefType = true → (atF .ARRAY_KW s.kinds s.joint s.pos = true ∨ atF .MUTABLE_KW s.kinds s.joint s.pos = true ∨ atF .READONLY_KW s.kinds s.joint s.pos = true)) →
    wp M.A (Oq3.Grammar.arrayTypeSpec fuel wantArrayRefType) (fun r s' => Adv s s' ∧ M.Good B Bs s' ∧ M.val s' + 61 * s.pos ≤ M.val s + 61 * s'.pos + 0 ∧ (s.pos < s'.pos → M.val s' + 61 * s.pos + 38 ≤ M.val s + 61 * s'.pos + 0) ∧ P.steps s' + 19 * s.pos ≤ P.steps s + 19 * s'.pos + 0 ∧ (s.pos < s'.pos → P.steps s' + 19 * s.pos + 10 ≤ P.steps s + 19 * s'.pos + 0) ∧ (s.pos < s'.pos)) s
  arrayTypeDimsLoop : ∀  (B Bs : Nat) (s : P), 12 + 20 * s.kinds.size ≤ fuel + 20 * s.pos ∧ s.pos ≤ s.kinds.size ∧ M.Good B Bs s ∧ M.val s + 15 + 61 * s.kinds.size ≤ B + 61 * s.pos ∧ P.steps s + 2 + 19 * s.kinds.size ≤ Bs + 19 * s.pos →
    wp M.A (Oq3.Grammar.arrayTypeDimsLoop fuel ) (fun r s' => Adv s s' ∧ M.Good B Bs s' ∧ M.val s' + 61 * s.pos ≤ M.val s + 61 * s'.pos + 6 ∧ (s.pos < s'.pos → M.val s' + 61 * s.pos + 0 ≤ M.val s + 61 * s'.pos + 6) ∧ P.steps s' + 19 * s.pos ≤ P.steps s + 19 * s'.pos + 2 ∧ (s.pos < s'.pos → P.steps s' + 19 * s.pos + 0 ≤ P.steps s + 19 * s'.pos + 2)) s
  nonArrayTypeSpec : ∀  (B Bs : Nat) (s : P), 2 + 20 * s.kinds.size ≤ fuel + 20 * s.pos ∧ s.pos ≤ s.kinds.size ∧ M.Good B Bs s ∧ M.val s + 5 + 61 * s.kinds.size ≤ B + 61 * s.pos ∧ P.steps s + 0 + 19 * s.kinds.size ≤ Bs + 19 * s.pos →
    wp M.A (Oq3.Grammar.nonArrayTypeSpec fuel ) (fun r s' => Adv s s' ∧ M.Good B Bs s' ∧ M.val s' + 61 * s.pos ≤ M.val s + 61 * s'.pos + 3 ∧ (s.pos < s'.pos → M.val s' + 61 * s.pos + 41 ≤ M.val s + 61 * s'.pos + 3) ∧ P.steps s' + 19 * s.pos ≤ P.steps s + 19 * s'.pos + 0 ∧ (s.pos < s'.pos → P.steps s' + 19 * s.pos + 10 ≤ P.steps s + 19 * s'.pos + 0) ∧ ((isType (s.kindAt s.pos) || atF .L_BRACK s.kinds s.joint s.pos) = true → s.pos < s'.pos) ∧ ((isType (s.kindAt s.pos) || atF .L_BRACK s.kinds s.joint s.pos) = false → s'.tv = s.tv)) s
  complexTypeSpec : ∀  (B Bs : Nat) (s : P), 1 + 20 * s.kinds.size ≤ fuel + 20 * s.pos ∧ s.pos ≤ s.kinds.size ∧ M.Good B Bs s ∧ M.val s + 2 + 61 * s.kinds.size ≤ B + 61 * s.pos ∧ P.steps s + 0 + 19 * s.kinds.size ≤ Bs + 19 * s.pos →
    wp M.A (Oq3.Grammar.complexTypeSpec fuel ) (fun r s' => Adv s s' ∧ M.Good B Bs s' ∧ M.val s' + 61 * s.pos ≤ M.val s + 61 * s'.pos + 0 ∧ (s.pos < s'.pos → M.val s' + 61 * s.pos + 38 ≤ M.val s + 61 * s'.pos + 0) ∧ P.steps s' + 19 * s.pos ≤ P.steps s + 19 * s'.pos + 0 ∧ (s.pos < s'.pos → P.steps s' + 19 * s.pos + 10 ≤ P.steps s + 19 * s'.pos + 0) ∧ (s.pos < s'.pos)) s
  qubitTypeSpec : ∀  (B Bs : Nat) (s : P), 2 + 20 * s.kinds.size ≤ fuel + 20 * s.pos ∧ s.pos ≤ s.kinds.size ∧ M.Good B Bs s ∧ M.val s + 4 + 61 * s.kinds.size ≤ B + 61 * s.pos ∧ P.steps s + 0 + 19 * s.kinds.size ≤ Bs + 19 * s.pos →
    wp M.A (Oq3.Grammar.qubitTypeSpec fuel ) (fun r s' => Adv s s' ∧ M.Good B Bs s' ∧ M.val s' + 61 * s.pos ≤ M.val s + 61 * s'.pos + 0 ∧ (s.pos < s'.pos → M.val s' + 61 * s.pos + 17 ≤ M.val s + 61 * s'.pos + 0) ∧ P.steps s' + 19 * s.pos ≤ P.steps s + 19 * s'.pos + 0 ∧ (s.pos < s'.pos → P.steps s' + 19 * s.pos + 6 ≤ P.steps s + 19 * s'.pos + 0) ∧ (s.pos < s'.pos)) s
  designator : ∀  (B Bs : Nat) (s : P), 1 + 20 * s.kinds.size ≤ fuel + 20 * s.pos ∧ s.pos ≤ s.kinds.size ∧ M.Good B Bs s ∧ M.val s + 2 + 61 * s.kinds.size ≤ B + 61 * s.pos ∧ P.steps s + 0 + 19 * s.kinds.size ≤ Bs + 19 * s.pos →
    wp M.A (Oq3.Grammar.designator fuel ) (fun r s' => Adv s s' ∧ M.Good B Bs s' ∧ M.val s' + 61 * s.pos ≤ M.val s + 61 * s'.pos + 0 ∧ (s.pos < s'.pos → M.val s' + 61 * s.pos + 42 ≤ M.val s + 61 * s'.pos + 0) ∧ P.steps s' + 19 * s.pos ≤ P.steps s + 19 * s'.pos + 0 ∧ (s.pos < s'.pos → P.steps s' + 19 * s.pos + 10 ≤ P.steps s + 19 * s'.pos + 0) ∧ (s.pos < s'.pos)) s
  indexExpr : ∀ (lhs : CompletedMarker) (B Bs : Nat) (s : P), 2 + 20 * s.kinds.size ≤ fuel + 20 * s.pos ∧ s.pos ≤ s.kinds.size ∧ M.Good B Bs s ∧ M.val s + 3 + 61 * s.kinds.size ≤ B + 61 * s.pos ∧ P.steps s + 0 + 19 * s.kinds.size ≤ Bs + 19 * s.pos →
    wp M.A (Oq3.Grammar.indexExpr fuel lhs) (fun r s' => Adv s s' ∧ M.Good B Bs s' ∧ M.val s' + 61 * s.pos ≤ M.val s + 61 * s'.pos + 0 ∧ (s.pos < s'.pos → M.val s' + 61 * s.pos + 30 ≤ M.val s + 61 * s'.pos + 0) ∧ P.steps s' + 19 * s.pos ≤ P.steps s + 19 * s'.pos + 0 ∧ (s.pos < s'.pos → P.steps s' + 19 * s.pos + 8 ≤ P.steps s + 19 * s'.pos + 0) ∧ (s.pos < s'.pos)) s
  indexedIdentifier : ∀ (lhs : CompletedMarker) (B Bs : Nat) (s : P), 3 + 20 * s.kinds.size ≤ fuel + 20 * s.pos ∧ s.pos ≤ s.kinds.size ∧ M.Good B Bs s ∧ M.val s + 3 + 61 * s.kinds.size ≤ B + 61 * s.pos ∧ P.steps s + 0 + 19 * s.kinds.size ≤ Bs + 19 * s.pos →
    wp M.A (Oq3.Grammar.indexedIdentifier fuel lhs) (fun r s' => Adv s s' ∧ M.Good B Bs s' ∧ M.val s' + 61 * s.pos ≤ M.val s + 61 * s'.pos + 0 ∧ (s.pos < s'.pos → M.val s' + 61 * s.pos + 29 ≤ M.val s + 61 * s'.pos + 0) ∧ P.steps s' + 19 * s.pos ≤ P.steps s + 19 * s'.pos + 0 ∧ (s.pos < s'.pos → P.steps s' + 19 * s.pos + 8 ≤ P.steps s + 19 * s'.pos + 0) ∧ (s.pos < s'.pos)) s
  indexedIdentifierLoop : ∀  (B Bs : Nat) (s : P), 2 + 20 * s.kinds.size ≤ fuel + 20 * s.pos ∧ s.pos ≤ s.kinds.size ∧ M.Good B Bs s ∧ M.val s + 2 + 61 * s.kinds.size ≤ B + 61 * s.pos ∧ P.steps s + 0 + 19 * s.kinds.size ≤ Bs + 19 * s.pos →
    wp M.A (Oq3.Grammar.indexedIdentifierLoop fuel ) (fun r s' => Adv s s' ∧ M.Good B Bs s' ∧ M.val s' + 61 * s.pos ≤ M.val s + 61 * s'.pos + 0 ∧ (s.pos < s'.pos → M.val s' + 61 * s.pos + 31 ≤ M.val s + 61 * s'.pos + 0) ∧ P.steps s' + 19 * s.pos ≤ P.steps s + 19 * s'.pos + 0 ∧ (s.pos < s'.pos → P.steps s' + 19 * s.pos + 8 ≤ P.steps s + 19 * s'.pos + 0) ∧ (atF .L_BRACK s.kinds s.joint s.pos = true → s.pos < s'.pos)) s
  setExpression : ∀  (B Bs : Nat) (s : P), 1 + 20 * s.kinds.size ≤ fuel + 20 * s.pos ∧ s.pos ≤ s.kinds.size ∧ M.Good B Bs s ∧ M.val s + 2 + 61 * s.kinds.size ≤ B + 61 * s.pos ∧ P.steps s + 0 + 19 * s.kinds.size ≤ Bs + 19 * s.pos →
    wp M.A (Oq3.Grammar.setExpression fuel ) (fun r s' => Adv s s' ∧ M.Good B Bs s' ∧ M.val s' + 61 * s.pos ≤ M.val s + 61 * s'.pos + 0 ∧ (s.pos < s'.pos → M.val s' + 61 * s.pos + 0 ≤ M.val s + 61 * s'.pos + 0) ∧ P.steps s' + 19 * s.pos ≤ P.steps s + 19 * s'.pos + 0 ∧ (s.pos < s'.pos → P.steps s' + 19 * s.pos + 0 ≤ P.steps s + 19 * s'.pos + 0) ∧ (s.pos < s'.pos)) s
  indexOperator : ∀  (B Bs : Nat) (s : P), 1 + 20 * s.kinds.size ≤ fuel + 20 * s.pos ∧ s.pos ≤ s.kinds.size ∧ M.Good B Bs s ∧ M.val s + 2 + 61 * s.kinds.size ≤ B + 61 * s.pos ∧ P.steps s + 0 + 19 * s.kinds.size ≤ Bs + 19 * s.pos →
    wp M.A (Oq3.Grammar.indexOperator fuel ) (fun r s' => Adv s s' ∧ M.Good B Bs s' ∧ M.val s' + 61 * s.pos ≤ M.val s + 61 * s'.pos + 0 ∧ (s.pos < s'.pos → M.val s' + 61 * s.pos + 38 ≤ M.val s + 61 * s'.pos + 0) ∧ P.steps s' + 19 * s.pos ≤ P.steps s + 19 * s'.pos + 0 ∧ (s.pos < s'.pos → P.steps s' + 19 * s.pos + 8 ≤ P.steps s + 19 * s'.pos + 0) ∧ (s.pos < s'.pos)) s
  callArgList : ∀  (B Bs : Nat) (s : P), 1 + 20 * s.kinds.size ≤ fuel + 20 * s.pos ∧ s.pos ≤ s.kinds.size ∧ M.Good B Bs s ∧ M.val s + 3 + 61 * s.kinds.size ≤ B + 61 * s.pos ∧ P.steps s + 0 + 19 * s.kinds.size ≤ Bs + 19 * s.pos →
    wp M.A (Oq3.Grammar.callArgList fuel ) (fun r s' => Adv s s' ∧ M.Good B Bs s' ∧ M.val s' + 61 * s.pos ≤ M.val s + 61 * s'.pos + 0 ∧ (s.pos < s'.pos → M.val s' + 61 * s.pos + 40 ≤ M.val s + 61 * s'.pos + 0) ∧ P.steps s' + 19 * s.pos ≤ P.steps s + 19 * s'.pos + 0 ∧ (s.pos < s'.pos → P.steps s' + 19 * s.pos + 8 ≤ P.steps s + 19 * s'.pos + 0) ∧ (s.pos < s'.pos)) s
  atomExpr : ∀ (_r : Restrictions) (B Bs : Nat) (s : P), 8 + 20 * s.kinds.size ≤ fuel + 20 * s.pos ∧ s.pos ≤ s.kinds.size ∧ M.Good B Bs s ∧ M.val s + 14 + 61 * s.kinds.size ≤ B + 61 * s.pos ∧ P.steps s + 1 + 19 * s.kinds.size ≤ Bs + 19 * s.pos →
    wp M.A (Oq3.Grammar.atomExpr fuel _r) (fun r s' => Adv s s' ∧ M.Good B Bs s' ∧ M.val s' + 61 * s.pos ≤ M.val s + 61 * s'.pos + 4 ∧ (s.pos < s'.pos → M.val s' + 61 * s.pos + 29 ≤ M.val s + 61 * s'.pos + 4) ∧ P.steps s' + 19 * s.pos ≤ P.steps s + 19 * s'.pos + 1 ∧ (s.pos < s'.pos → P.steps s' + 19 * s.pos + 8 ≤ P.steps s + 19 * s'.pos + 1) ∧ (r.isSome = true → s.pos < s'.pos) ∧ (atomHalt (s.kindAt s.pos) = false → s.pos < s'.pos)) s
  castExpr : ∀  (B Bs : Nat) (s : P), 4 + 20 * s.kinds.size ≤ fuel + 20 * s.pos ∧ s.pos ≤ s.kinds.size ∧ M.Good B Bs s ∧ M.val s + 6 + 61 * s.kinds.size ≤ B + 61 * s.pos ∧ P.steps s + 0 + 19 * s.kinds.size ≤ Bs + 19 * s.pos ∧ isClassicalType (s.kindAt s.pos) = true →
    wp M.A (Oq3.Grammar.castExpr fuel ) (fun r s' => Adv s s' ∧ M.Good B Bs s' ∧ M.val s' + 61 * s.pos ≤ M.val s + 61 * s'.pos + 0 ∧ (s.pos < s'.pos → M.val s' + 61 * s.pos + 25 ≤ M.val s + 61 * s'.pos + 0) ∧ P.steps s' + 19 * s.pos ≤ P.steps s + 19 * s'.pos + 0 ∧ (s.pos < s'.pos → P.steps s' + 19 * s.pos + 8 ≤ P.steps s + 19 * s'.pos + 0) ∧ (s.pos < s'.pos)) s
  gphaseCallExpr : ∀  (B Bs : Nat) (s : P), 1 + 20 * s.kinds.size ≤ fuel + 20 * s.pos ∧ s.pos ≤ s.kinds.size ∧ M.Good B Bs s ∧ M.val s + 2 + 61 * s.kinds.size ≤ B + 61 * s.pos ∧ P.steps s + 0 + 19 * s.kinds.size ≤ Bs + 19 * s.pos →
    wp M.A (Oq3.Grammar.gphaseCallExpr fuel ) (fun r s' => Adv s s' ∧ M.Good B Bs s' ∧ M.val s' + 61 * s.pos ≤ M.val s + 61 * s'.pos + 0 ∧ (s.pos < s'.pos → M.val s' + 61 * s.pos + 27 ≤ M.val s + 61 * s'.pos + 0) ∧ P.steps s' + 19 * s.pos ≤ P.steps s + 19 * s'.pos + 0 ∧ (s.pos < s'.pos → P.steps s' + 19 * s.pos + 8 ≤ P.steps s + 19 * s'.pos + 0) ∧ (s.pos < s'.pos)) s
  modifiedGateCallExpr : ∀  (B Bs : Nat) (s : P), 7 + 20 * s.kinds.size ≤ fuel + 20 * s.pos ∧ s.pos ≤ s.kinds.size ∧ M.Good B Bs s ∧ M.val s + 14 + 61 * s.kinds.size ≤ B + 61 * s.pos ∧ P.steps s + 0 + 19 * s.kinds.size ≤ Bs + 19 * s.pos →
    wp M.A (Oq3.Grammar.modifiedGateCallExpr fuel ) (fun r s' => Adv s s' ∧ M.Good B Bs s' ∧ M.val s' + 61 * s.pos ≤ M.val s + 61 * s'.pos + 14 ∧ (s.pos < s'.pos → M.val s' + 61 * s.pos + 39 ≤ M.val s + 61 * s'.pos + 14) ∧ P.steps s' + 19 * s.pos ≤ P.steps s + 19 * s'.pos + 0 ∧ (s.pos < s'.pos → P.steps s' + 19 * s.pos + 8 ≤ P.steps s + 19 * s'.pos + 0) ∧ (modHead (s.kindAt s.pos) = true → s.pos < s'.pos)) s
  modifiedGateCallExprLoop : ∀  (B Bs : Nat) (s : P), 1 + 20 * s.kinds.size ≤ fuel + 20 * s.pos ∧ s.pos ≤ s.kinds.size ∧ M.Good B Bs s ∧ M.val s + 2 + 61 * s.kinds.size ≤ B + 61 * s.pos ∧ P.steps s + 0 + 19 * s.kinds.size ≤ Bs + 19 * s.pos →
    wp M.A (Oq3.Grammar.modifiedGateCallExprLoop fuel ) (fun r s' => Adv s s' ∧ M.Good B Bs s' ∧ M.val s' + 61 * s.pos ≤ M.val s + 61 * s'.pos + 0 ∧ (s.pos < s'.pos → M.val s' + 61 * s.pos + 39 ≤ M.val s + 61 * s'.pos + 0) ∧ P.steps s' + 19 * s.pos ≤ P.steps s + 19 * s'.pos + 0 ∧ (s.pos < s'.pos → P.steps s' + 19 * s.pos + 8 ≤ P.steps s + 19 * s'.pos + 0) ∧ (modHead (s.kindAt s.pos) = true → s.pos < s'.pos)) s
  gateCallExpr : ∀  (B Bs : Nat) (s : P), 6 + 20 * s.kinds.size ≤ fuel + 20 * s.pos ∧ s.pos ≤ s.kinds.size ∧ M.Good B Bs s ∧ M.val s + 12 + 61 * s.kinds.size ≤ B + 61 * s.pos ∧ P.steps s + 0 + 19 * s.kinds.size ≤ Bs + 19 * s.pos →
    wp M.A (Oq3.Grammar.gateCallExpr fuel ) (fun r s' => Adv s s' ∧ M.Good B Bs s' ∧ M.val s' + 61 * s.pos ≤ M.val s + 61 * s'.pos + 12 ∧ (s.pos < s'.pos → M.val s' + 61 * s.pos + 40 ≤ M.val s + 61 * s'.pos + 12) ∧ P.steps s' + 19 * s.pos ≤ P.steps s + 19 * s'.pos + 0 ∧ (s.pos < s'.pos → P.steps s' + 19 * s.pos + 8 ≤ P.steps s + 19 * s'.pos + 0) ∧ (atF .IDENT s.kinds s.joint s.pos = true → s.pos < s'.pos)) s
  measureExpression : ∀  (B Bs : Nat) (s : P), 1 + 20 * s.kinds.size ≤ fuel + 20 * s.pos ∧ s.pos ≤ s.kinds.size ∧ M.Good B Bs s ∧ M.val s + 2 + 61 * s.kinds.size ≤ B + 61 * s.pos ∧ P.steps s + 0 + 19 * s.kinds.size ≤ Bs + 19 * s.pos →
    wp M.A (Oq3.Grammar.measureExpression fuel ) (fun r s' => Adv s s' ∧ M.Good B Bs s' ∧ M.val s' + 61 * s.pos ≤ M.val s + 61 * s'.pos + 0 ∧ (s.pos < s'.pos → M.val s' + 61 * s.pos + 25 ≤ M.val s + 61 * s'.pos + 0) ∧ P.steps s' + 19 * s.pos ≤ P.steps s + 19 * s'.pos + 0 ∧ (s.pos < s'.pos → P.steps s' + 19 * s.pos + 8 ≤ P.steps s + 19 * s'.pos + 0) ∧ (s.pos < s'.pos)) s
  tupleExpr : ∀  (B Bs : Nat) (s : P), 1 + 20 * s.kinds.size ≤ fuel + 20 * s.pos ∧ s.pos ≤ s.kinds.size ∧ M.Good B Bs s ∧ M.val s + 2 + 61 * s.kinds.size ≤ B + 61 * s.pos ∧ P.steps s + 0 + 19 * s.kinds.size ≤ Bs + 19 * s.pos →
    wp M.A (Oq3.Grammar.tupleExpr fuel ) (fun r s' => Adv s s' ∧ M.Good B Bs s' ∧ M.val s' + 61 * s.pos ≤ M.val s + 61 * s'.pos + 0 ∧ (s.pos < s'.pos → M.val s' + 61 * s.pos + 25 ≤ M.val s + 61 * s'.pos + 0) ∧ P.steps s' + 19 * s.pos ≤ P.steps s + 19 * s'.pos + 0 ∧ (s.pos < s'.pos → P.steps s' + 19 * s.pos + 8 ≤ P.steps s + 19 * s'.pos + 0) ∧ (s.pos < s'.pos)) s
  tupleExprLoop : ∀ (sawComma sawExpr : Bool) (B Bs : Nat) (s : P), 12 + 20 * s.kinds.size ≤ fuel + 20 * s.pos ∧ s.pos ≤ s.kinds.size ∧ M.Good B Bs s ∧ M.val s + 15 + 61 * s.kinds.size ≤ B + 61 * s.pos ∧ P.steps s + 2 + 19 * s.kinds.size ≤ Bs + 19 * s.pos →
    wp M.A (Oq3.Grammar.tupleExprLoop fuel sawComma sawExpr) (fun r s' => Adv s s' ∧ M.Good B Bs s' ∧ M.val s' + 61 * s.pos ≤ M.val s + 61 * s'.pos + 5 ∧ (s.pos < s'.pos → M.val s' + 61 * s.pos + 0 ≤ M.val s + 61 * s'.pos + 5) ∧ P.steps s' + 19 * s.pos ≤ P.steps s + 19 * s'.pos + 2 ∧ (s.pos < s'.pos → P.steps s' + 19 * s.pos + 0 ≤ P.steps s + 19 * s'.pos + 2)) s
  arrayExpr : ∀  (B Bs : Nat) (s : P), 1 + 20 * s.kinds.size ≤ fuel + 20 * s.pos ∧ s.pos ≤ s.kinds.size ∧ M.Good B Bs s ∧ M.val s + 2 + 61 * s.kinds.size ≤ B + 61 * s.pos ∧ P.steps s + 0 + 19 * s.kinds.size ≤ Bs + 19 * s.pos →
    wp M.A (Oq3.Grammar.arrayExpr fuel ) (fun r s' => Adv s s' ∧ M.Good B Bs s' ∧ M.val s' + 61 * s.pos ≤ M.val s + 61 * s'.pos + 0 ∧ (s.pos < s'.pos → M.val s' + 61 * s.pos + 25 ≤ M.val s + 61 * s'.pos + 0) ∧ P.steps s' + 19 * s.pos ≤ P.steps s + 19 * s'.pos + 0 ∧ (s.pos < s'.pos → P.steps s' + 19 * s.pos + 8 ≤ P.steps s + 19 * s'.pos + 0) ∧ (s.pos < s'.pos)) s
  arrayExprLoop : ∀ (nExprs : Nat) (hasSemi : Bool) (B Bs : Nat) (s : P), 12 + 20 * s.kinds.size ≤ fuel + 20 * s.pos ∧ s.pos ≤ s.kinds.size ∧ M.Good B Bs s ∧ M.val s + 15 + 61 * s.kinds.size ≤ B + 61 * s.pos ∧ P.steps s + 2 + 19 * s.kinds.size ≤ Bs + 19 * s.pos →
    wp M.A (Oq3.Grammar.arrayExprLoop fuel nExprs hasSemi) (fun r s' => Adv s s' ∧ M.Good B Bs s' ∧ M.val s' + 61 * s.pos ≤ M.val s + 61 * s'.pos + 6 ∧ (s.pos < s'.pos → M.val s' + 61 * s.pos + 0 ≤ M.val s + 61 * s'.pos + 6) ∧ P.steps s' + 19 * s.pos ≤ P.steps s + 19 * s'.pos + 2 ∧ (s.pos < s'.pos → P.steps s' + 19 * s.pos + 0 ≤ P.steps s + 19 * s'.pos + 2)) s
  tryBlockExpr : ∀  (B Bs : Nat) (s : P), 2 + 20 * s.kinds.size ≤ fuel + 20 * s.pos ∧ s.pos ≤ s.kinds.size ∧ M.Good B Bs s ∧ M.val s + 2 + 61 * s.kinds.size ≤ B + 61 * s.pos ∧ P.steps s + 0 + 19 * s.kinds.size ≤ Bs + 19 * s.pos →
    wp M.A (Oq3.Grammar.tryBlockExpr fuel ) (fun r s' => Adv s s' ∧ M.Good B Bs s' ∧ M.val s' + 61 * s.pos ≤ M.val s + 61 * s'.pos + 1 ∧ (s.pos < s'.pos → M.val s' + 61 * s.pos + 32 ≤ M.val s + 61 * s'.pos + 1) ∧ P.steps s' + 19 * s.pos ≤ P.steps s + 19 * s'.pos + 0 ∧ (s.pos < s'.pos → P.steps s' + 19 * s.pos + 6 ≤ P.steps s + 19 * s'.pos + 0)) s
  blockExpr : ∀  (B Bs : Nat) (s : P), 1 + 20 * s.kinds.size ≤ fuel + 20 * s.pos ∧ s.pos ≤ s.kinds.size ∧ M.Good B Bs s ∧ M.val s + 2 + 61 * s.kinds.size ≤ B + 61 * s.pos ∧ P.steps s + 0 + 19 * s.kinds.size ≤ Bs + 19 * s.pos →
    wp M.A (Oq3.Grammar.blockExpr fuel ) (fun r s' => Adv s s' ∧ M.Good B Bs s' ∧ M.val s' + 61 * s.pos ≤ M.val s + 61 * s'.pos + 0 ∧ (s.pos < s'.pos → M.val s' + 61 * s.pos + 31 ≤ M.val s + 61 * s'.pos + 0) ∧ P.steps s' + 19 * s.pos ≤ P.steps s + 19 * s'.pos + 0 ∧ (s.pos < s'.pos → P.steps s' + 19 * s.pos + 8 ≤ P.steps s + 19 * s'.pos + 0) ∧ (s.pos < s'.pos)) s
  returnExpr : ∀  (B Bs : Nat) (s : P), 1 + 20 * s.kinds.size ≤ fuel + 20 * s.pos ∧ s.pos ≤ s.kinds.size ∧ M.Good B Bs s ∧ M.val s + 2 + 61 * s.kinds.size ≤ B + 61 * s.pos ∧ P.steps s + 0 + 19 * s.kinds.size ≤ Bs + 19 * s.pos →
    wp M.A (Oq3.Grammar.returnExpr fuel ) (fun r s' => Adv s s' ∧ M.Good B Bs s' ∧ M.val s' + 61 * s.pos ≤ M.val s + 61 * s'.pos + 0 ∧ (s.pos < s'.pos → M.val s' + 61 * s.pos + 25 ≤ M.val s + 61 * s'.pos + 0) ∧ P.steps s' + 19 * s.pos ≤ P.steps s + 19 * s'.pos + 0 ∧ (s.pos < s'.pos → P.steps s' + 19 * s.pos + 8 ≤ P.steps s + 19 * s'.pos + 0) ∧ (s.pos < s'.pos)) s
  boxExpr : ∀ (m : Option Marker) (B Bs : Nat) (s : P), 1 + 20 * s.kinds.size ≤ fuel + 20 * s.pos ∧ s.pos ≤ s.kinds.size ∧ M.Good B Bs s ∧ M.val s + 2 + 61 * s.kinds.size ≤ B + 61 * s.pos ∧ P.steps s + 0 + 19 * s.kinds.size ≤ Bs + 19 * s.pos →
    wp M.A (Oq3.Grammar.boxExpr fuel m) (fun r s' => Adv s s' ∧ M.Good B Bs s' ∧ M.val s' + 61 * s.pos ≤ M.val s + 61 * s'.pos + 0 ∧ (s.pos < s'.pos → M.val s' + 61 * s.pos + 25 ≤ M.val s + 61 * s'.pos + 0) ∧ P.steps s' + 19 * s.pos ≤ P.steps s + 19 * s'.pos + 0 ∧ (s.pos < s'.pos → P.steps s' + 19 * s.pos + 8 ≤ P.steps s + 19 * s'.pos + 0) ∧ (s.pos < s'.pos)) s
  paramListGateParams : ∀  (B Bs : Nat) (s : P), 4 + 20 * s.kinds.size ≤ fuel + 20 * s.pos ∧ s.pos ≤ s.kinds.size ∧ M.Good B Bs s ∧ M.val s + 7 + 61 * s.kinds.size ≤ B + 61 * s.pos ∧ P.steps s + 0 + 19 * s.kinds.size ≤ Bs + 19 * s.pos →
    wp M.A (Oq3.Grammar.paramListGateParams fuel ) (fun r s' => Adv s s' ∧ M.Good B Bs s' ∧ M.val s' + 61 * s.pos ≤ M.val s + 61 * s'.pos + 7 ∧ (s.pos < s'.pos → M.val s' + 61 * s.pos + 0 ≤ M.val s + 61 * s'.pos + 7) ∧ P.steps s' + 19 * s.pos ≤ P.steps s + 19 * s'.pos + 0 ∧ (s.pos < s'.pos → P.steps s' + 19 * s.pos + 0 ≤ P.steps s + 19 * s'.pos + 0)) s
  paramListGateQubits : ∀  (B Bs : Nat) (s : P), 4 + 20 * s.kinds.size ≤ fuel + 20 * s.pos ∧ s.pos ≤ s.kinds.size ∧ M.Good B Bs s ∧ M.val s + 7 + 61 * s.kinds.size ≤ B + 61 * s.pos ∧ P.steps s + 0 + 19 * s.kinds.size ≤ Bs + 19 * s.pos →
    wp M.A (Oq3.Grammar.paramListGateQubits fuel ) (fun r s' => Adv s s' ∧ M.Good B Bs s' ∧ M.val s' + 61 * s.pos ≤ M.val s + 61 * s'.pos + 7 ∧ (s.pos < s'.pos → M.val s' + 61 * s.pos + 0 ≤ M.val s + 61 * s'.pos + 7) ∧ P.steps s' + 19 * s.pos ≤ P.steps s + 19 * s'.pos + 0 ∧ (s.pos < s'.pos → P.steps s' + 19 * s.pos + 0 ≤ P.steps s + 19 * s'.pos + 0)) s
  argListGateCallQubits : ∀  (B Bs : Nat) (s : P), 5 + 20 * s.kinds.size ≤ fuel + 20 * s.pos ∧ s.pos ≤ s.kinds.size ∧ M.Good B Bs s ∧ M.val s + 7 + 61 * s.kinds.size ≤ B + 61 * s.pos ∧ P.steps s + 0 + 19 * s.kinds.size ≤ Bs + 19 * s.pos →
    wp M.A (Oq3.Grammar.argListGateCallQubits fuel ) (fun r s' => Adv s s' ∧ M.Good B Bs s' ∧ M.val s' + 61 * s.pos ≤ M.val s + 61 * s'.pos + 7 ∧ (s.pos < s'.pos → M.val s' + 61 * s.pos + 40 ≤ M.val s + 61 * s'.pos + 7) ∧ P.steps s' + 19 * s.pos ≤ P.steps s + 19 * s'.pos + 0 ∧ (s.pos < s'.pos → P.steps s' + 19 * s.pos + 8 ≤ P.steps s + 19 * s'.pos + 0)) s
  paramListDefParams : ∀  (B Bs : Nat) (s : P), 8 + 20 * s.kinds.size ≤ fuel + 20 * s.pos ∧ s.pos ≤ s.kinds.size ∧ M.Good B Bs s ∧ M.val s + 13 + 61 * s.kinds.size ≤ B + 61 * s.pos ∧ P.steps s + 0 + 19 * s.kinds.size ≤ Bs + 19 * s.pos →
    wp M.A (Oq3.Grammar.paramListDefParams fuel ) (fun r s' => Adv s s' ∧ M.Good B Bs s' ∧ M.val s' + 61 * s.pos ≤ M.val s + 61 * s'.pos + 13 ∧ (s.pos < s'.pos → M.val s' + 61 * s.pos + 32 ≤ M.val s + 61 * s'.pos + 13) ∧ P.steps s' + 19 * s.pos ≤ P.steps s + 19 * s'.pos + 0 ∧ (s.pos < s'.pos → P.steps s' + 19 * s.pos + 6 ≤ P.steps s + 19 * s'.pos + 0)) s
  scalarTypeList : ∀  (B Bs : Nat) (s : P), 8 + 20 * s.kinds.size ≤ fuel + 20 * s.pos ∧ s.pos ≤ s.kinds.size ∧ M.Good B Bs s ∧ M.val s + 10 + 61 * s.kinds.size ≤ B + 61 * s.pos ∧ P.steps s + 0 + 19 * s.kinds.size ≤ Bs + 19 * s.pos →
    wp M.A (Oq3.Grammar.scalarTypeList fuel ) (fun r s' => Adv s s' ∧ M.Good B Bs s' ∧ M.val s' + 61 * s.pos ≤ M.val s + 61 * s'.pos + 10 ∧ (s.pos < s'.pos → M.val s' + 61 * s.pos + 30 ≤ M.val s + 61 * s'.pos + 10) ∧ P.steps s' + 19 * s.pos ≤ P.steps s + 19 * s'.pos + 0 ∧ (s.pos < s'.pos → P.steps s' + 19 * s.pos + 6 ≤ P.steps s + 19 * s'.pos + 0)) s
  paramListDefcalParams : ∀  (B Bs : Nat) (s : P), 8 + 20 * s.kinds.size ≤ fuel + 20 * s.pos ∧ s.pos ≤ s.kinds.size ∧ M.Good B Bs s ∧ M.val s + 13 + 61 * s.kinds.size ≤ B + 61 * s.pos ∧ P.steps s + 0 + 19 * s.kinds.size ≤ Bs + 19 * s.pos →
    wp M.A (Oq3.Grammar.paramListDefcalParams fuel ) (fun r s' => Adv s s' ∧ M.Good B Bs s' ∧ M.val s' + 61 * s.pos ≤ M.val s + 61 * s'.pos + 13 ∧ (s.pos < s'.pos → M.val s' + 61 * s.pos + 0 ≤ M.val s + 61 * s'.pos + 13) ∧ P.steps s' + 19 * s.pos ≤ P.steps s + 19 * s'.pos + 0 ∧ (s.pos < s'.pos → P.steps s' + 19 * s.pos + 0 ≤ P.steps s + 19 * s'.pos + 0)) s
  paramListDefcalQubits : ∀  (B Bs : Nat) (s : P), 4 + 20 * s.kinds.size ≤ fuel + 20 * s.pos ∧ s.pos ≤ s.kinds.size ∧ M.Good B Bs s ∧ M.val s + 7 + 61 * s.kinds.size ≤ B + 61 * s.pos ∧ P.steps s + 0 + 19 * s.kinds.size ≤ Bs + 19 * s.pos →
    wp M.A (Oq3.Grammar.paramListDefcalQubits fuel ) (fun r s' => Adv s s' ∧ M.Good B Bs s' ∧ M.val s' + 61 * s.pos ≤ M.val s + 61 * s'.pos + 7 ∧ (s.pos < s'.pos → M.val s' + 61 * s.pos + 0 ≤ M.val s + 61 * s'.pos + 7) ∧ P.steps s' + 19 * s.pos ≤ P.steps s + 19 * s'.pos + 0 ∧ (s.pos < s'.pos → P.steps s' + 19 * s.pos + 0 ≤ P.steps s + 19 * s'.pos + 0)) s
  expressionList : ∀  (B Bs : Nat) (s : P), 15 + 20 * s.kinds.size ≤ fuel + 20 * s.pos ∧ s.pos ≤ s.kinds.size ∧ M.Good B Bs s ∧ M.val s + 19 + 61 * s.kinds.size ≤ B + 61 * s.pos ∧ P.steps s + 2 + 19 * s.kinds.size ≤ Bs + 19 * s.pos →
    wp M.A (Oq3.Grammar.expressionList fuel ) (fun r s' => Adv s s' ∧ M.Good B Bs s' ∧ M.val s' + 61 * s.pos ≤ M.val s + 61 * s'.pos + 12 ∧ (s.pos < s'.pos → M.val s' + 61 * s.pos + 0 ≤ M.val s + 61 * s'.pos + 12) ∧ P.steps s' + 19 * s.pos ≤ P.steps s + 19 * s'.pos + 2 ∧ (s.pos < s'.pos → P.steps s' + 19 * s.pos + 0 ≤ P.steps s + 19 * s'.pos + 2)) s
  caseValueList : ∀  (B Bs : Nat) (s : P), 15 + 20 * s.kinds.size ≤ fuel + 20 * s.pos ∧ s.pos ≤ s.kinds.size ∧ M.Good B Bs s ∧ M.val s + 19 + 61 * s.kinds.size ≤ B + 61 * s.pos ∧ P.steps s + 2 + 19 * s.kinds.size ≤ Bs + 19 * s.pos →
    wp M.A (Oq3.Grammar.caseValueList fuel ) (fun r s' => Adv s s' ∧ M.Good B Bs s' ∧ M.val s' + 61 * s.pos ≤ M.val s + 61 * s'.pos + 12 ∧ (s.pos < s'.pos → M.val s' + 61 * s.pos + 0 ≤ M.val s + 61 * s'.pos + 12) ∧ P.steps s' + 19 * s.pos ≤ P.steps s + 19 * s'.pos + 2 ∧ (s.pos < s'.pos → P.steps s' + 19 * s.pos + 0 ≤ P.steps s + 19 * s'.pos + 2)) s
  arrayLiteral : ∀  (B Bs : Nat) (s : P), 2 + 20 * s.kinds.size ≤ fuel + 20 * s.pos ∧ s.pos ≤ s.kinds.size ∧ M.Good B Bs s ∧ M.val s + 2 + 61 * s.kinds.size ≤ B + 61 * s.pos ∧ P.steps s + 0 + 19 * s.kinds.size ≤ Bs + 19 * s.pos ∧ atF .L_CURLY s.kinds s.joint s.pos = true →
    wp M.A (Oq3.Grammar.arrayLiteral fuel ) (fun r s' => Adv s s' ∧ M.Good B Bs s' ∧ M.val s' + 61 * s.pos ≤ M.val s + 61 * s'.pos + 0 ∧ (s.pos < s'.pos → M.val s' + 61 * s.pos + 24 ≤ M.val s + 61 * s'.pos + 0) ∧ P.steps s' + 19 * s.pos ≤ P.steps s + 19 * s'.pos + 0 ∧ (s.pos < s'.pos → P.steps s' + 19 * s.pos + 6 ≤ P.steps s + 19 * s'.pos + 0) ∧ (s.pos < s'.pos)) s
  paramListOpenqasm : ∀ (flavor : DefFlavor) (B Bs : Nat) (s : P), rkList flavor + 20 * s.kinds.size ≤ fuel + 20 * s.pos ∧ s.pos ≤ s.kinds.size ∧ M.Good B Bs s ∧ M.val s + wEBudList flavor + 61 * s.kinds.size ≤ B + 61 * s.pos ∧ P.steps s + wSBudList flavor + 19 * s.kinds.size ≤ Bs + 19 * s.pos ∧ (flavor = .arrayLiteral → atF .L_CURLY s.kinds s.joint s.pos = true) →
    wp M.A (Oq3.Grammar.paramListOpenqasm fuel flavor) (fun r s' => Adv s s' ∧ M.Good B Bs s' ∧ M.val s' + 61 * s.pos ≤ M.val s + 61 * s'.pos + wENList flavor ∧ (s.pos < s'.pos → M.val s' + 61 * s.pos + wEDList flavor ≤ M.val s + 61 * s'.pos + wENList flavor) ∧ P.steps s' + 19 * s.pos ≤ P.steps s + 19 * s'.pos + wSNList flavor ∧ (s.pos < s'.pos → P.steps s' + 19 * s.pos + wSDList flavor ≤ P.steps s + 19 * s'.pos + wSNList flavor) ∧ (flavor = .arrayLiteral → s.pos < s'.pos)) s
  paramListOpenqasmLoop : ∀ (flavor : DefFlavor) (numParams : Nat) (B Bs : Nat) (s : P), rkLoop flavor + 20 * s.kinds.size ≤ fuel + 20 * s.pos ∧ s.pos ≤ s.kinds.size ∧ M.Good B Bs s ∧ M.val s + wEBudLoop flavor + 61 * s.kinds.size ≤ B + 61 * s.pos ∧ P.steps s + wSBudLoop flavor + 19 * s.kinds.size ≤ Bs + 19 * s.pos →
    wp M.A (Oq3.Grammar.paramListOpenqasmLoop fuel flavor numParams) (fun r s' => Adv s s' ∧ M.Good B Bs s' ∧ M.val s' + 61 * s.pos ≤ M.val s + 61 * s'.pos + wENLoop flavor ∧ (s.pos < s'.pos → M.val s' + 61 * s.pos + wEDLoop flavor ≤ M.val s + 61 * s'.pos + wENLoop flavor) ∧ P.steps s' + 19 * s.pos ≤ P.steps s + 19 * s'.pos + wSNLoop flavor ∧ (s.pos < s'.pos → P.steps s' + 19 * s.pos + wSDLoop flavor ≤ P.steps s + 19 * s'.pos + wSNLoop flavor)) s
  paramListItem : ∀ (flavor : DefFlavor) (m : Marker) (innerArrayLiteral : Bool) (B Bs : Nat) (s : P), rkItem flavor + 20 * s.kinds.size ≤ fuel + 20 * s.pos ∧ s.pos ≤ s.kinds.size ∧ M.Good B Bs s ∧ M.val s + wEBudItem flavor + 61 * s.kinds.size ≤ B + 61 * s.pos ∧ P.steps s + wSBudItem flavor + 19 * s.kinds.size ≤ Bs + 19 * s.pos ∧ (s.kindAt s.pos ≠ .EOF ∧ (innerArrayLiteral = true → atF .L_CURLY s.kinds s.joint s.pos = true) ∧ (itemGuard (s.kindAt s.pos) innerArrayLiteral = true ∨ (flavor = .defParams ∧ (atF .MUTABLE_KW s.kinds s.joint s.pos = true ∨ atF .READONLY_KW s.kinds s.joint s.pos = true)))) →
    wp M.A (Oq3.Grammar.paramListItem fuel flavor m innerArrayLiteral) (fun r s' => Adv s s' ∧ M.Good B Bs s' ∧ M.val s' + 61 * s.pos ≤ M.val s + 61 * s'.pos + wENItem flavor ∧ (s.pos < s'.pos → M.val s' + 61 * s.pos + wEDItem flavor ≤ M.val s + 61 * s'.pos + wENItem flavor) ∧ P.steps s' + 19 * s.pos ≤ P.steps s + 19 * s'.pos + wSNItem flavor ∧ (s.pos < s'.pos → P.steps s' + 19 * s.pos + wSDItem flavor ≤ P.steps s + 19 * s'.pos + wSNItem flavor) ∧ (r = true → s.pos < s'.pos)) s
  paramTyped : ∀ (m : Marker) (B Bs : Nat) (s : P), 4 + 20 * s.kinds.size ≤ fuel + 20 * s.pos ∧ s.pos ≤ s.kinds.size ∧ M.Good B Bs s ∧ M.val s + 7 + 61 * s.kinds.size ≤ B + 61 * s.pos ∧ P.steps s + 0 + 19 * s.kinds.size ≤ Bs + 19 * s.pos →
    wp M.A (Oq3.Grammar.paramTyped fuel m) (fun r s' => Adv s s' ∧ M.Good B Bs s' ∧ M.val s' + 61 * s.pos ≤ M.val s + 61 * s'.pos + 7 ∧ (s.pos < s'.pos → M.val s' + 61 * s.pos + 41 ≤ M.val s + 61 * s'.pos + 7) ∧ P.steps s' + 19 * s.pos ≤ P.steps s + 19 * s'.pos + 0 ∧ (s.pos < s'.pos → P.steps s' + 19 * s.pos + 6 ≤ P.steps s + 19 * s'.pos + 0) ∧ (r = true → s.pos < s'.pos)) s
  scalarType : ∀ (m : Marker) (B Bs : Nat) (s : P), 4 + 20 * s.kinds.size ≤ fuel + 20 * s.pos ∧ s.pos ≤ s.kinds.size ∧ M.Good B Bs s ∧ M.val s + 5 + 61 * s.kinds.size ≤ B + 61 * s.pos ∧ P.steps s + 0 + 19 * s.kinds.size ≤ Bs + 19 * s.pos →
    wp M.A (Oq3.Grammar.scalarType fuel m) (fun r s' => Adv s s' ∧ M.Good B Bs s' ∧ M.val s' + 61 * s.pos ≤ M.val s + 61 * s'.pos + 4 ∧ (s.pos < s'.pos → M.val s' + 61 * s.pos + 36 ≤ M.val s + 61 * s'.pos + 4) ∧ P.steps s' + 19 * s.pos ≤ P.steps s + 19 * s'.pos + 0 ∧ (s.pos < s'.pos → P.steps s' + 19 * s.pos + 6 ≤ P.steps s + 19 * s'.pos + 0) ∧ (r = true → s.pos < s'.pos)) s
  argGateCallQubit : ∀ (m : Marker) (B Bs : Nat) (s : P), 1 + 20 * s.kinds.size ≤ fuel + 20 * s.pos ∧ s.pos ≤ s.kinds.size ∧ M.Good B Bs s ∧ M.val s + 1 + 61 * s.kinds.size ≤ B + 61 * s.pos ∧ P.steps s + 0 + 19 * s.kinds.size ≤ Bs + 19 * s.pos →
    wp M.A (Oq3.Grammar.argGateCallQubit fuel m) (fun r s' => Adv s s' ∧ M.Good B Bs s' ∧ M.val s' + 61 * s.pos ≤ M.val s + 61 * s'.pos + 1 ∧ (s.pos < s'.pos → M.val s' + 61 * s.pos + 43 ≤ M.val s + 61 * s'.pos + 1) ∧ P.steps s' + 19 * s.pos ≤ P.steps s + 19 * s'.pos + 0 ∧ (s.pos < s'.pos → P.steps s' + 19 * s.pos + 8 ≤ P.steps s + 19 * s'.pos + 0) ∧ (r = true → s.pos < s'.pos)) s

end Oq3.Grammar
