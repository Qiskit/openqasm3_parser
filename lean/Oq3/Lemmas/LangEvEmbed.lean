/-
The core reference language inside the extended one.

`E.toX`, `Stmt.toS2`, `Stmts.toL2` read an expression / statement / program of the core language as one of the
extended language; print, event encoding, node sequence and canonicity agree.  Facts about the event encoding of
the core language (`process` on the events) are therefore those of the extended language at the image.

The acceptance theorems of the extended language do not give those of the core language at the image: the
fuel bounds of the core language (`6 * size t` for an expression, `needS`) are smaller (`fuelX t.toX`,
`needS2 st.toS2`), and `exprBp_cps` needs no lower bound on the step limit.  What transfers is the rule for one
expression, in the other direction: `exprOK_toX` states `exprBp_cps` in the form `ExprOKF t.toX (6 * size t)` that
the statement lemmas of the extended language take as a hypothesis (`Lemmas/LangEvAccept.lean`).
-/
import Oq3.Lemmas.LangEv2Process

namespace Oq3.PrattEv
open Oq3.Gen Oq3.Parser Oq3.Grammar Oq3.LangEv Oq3.LangEv2

def E.toX : E → X
  | .id => .prim .id
  | .int => .prim (.lit .int)
  | .bin o l r => .bin o l.toX r.toX
  | .pre o e => .pre o e.toX
  | .paren e => .prim (.paren e.toX)

theorem toksX_toX (t : E) : toksX t.toX = toks t := by
  induction t with
  | id => rfl
  | int => rfl
  | bin o l r ihl ihr => simp only [E.toX, toksX, toks, ihl, ihr]
  | pre o e ih => simp only [E.toX, toksX, toks, ih]
  | paren e ih => simp only [E.toX, toksX, toksP, toks, ih, tk]

theorem lenX_toX (t : E) : lenX t.toX + 1 = len t := by
  induction t with
  | id => rfl
  | int => rfl
  | bin o l r ihl ihr => simp only [E.toX, lenX, len]; omega
  | pre o e ih => simp only [E.toX, lenX, len]; omega
  | paren e ih => simp only [E.toX, lenX, lenP, len]; omega

theorem rootX_toX (t : E) : rootX t.toX = rootOff t := by
  cases t with
  | bin o l r => have := lenX_toX l; simp only [E.toX, rootX, rootOff]; omega
  | _ => rfl

theorem headOff_toX (t : E) : headOff t.toX = 0 := by
  induction t with
  | bin o l r ihl ihr => simpa only [E.toX, headOff] using ihl
  | _ => rfl

theorem bodyX_toX (t : E) (fp : Option Nat) : bodyX t.toX fp = body t fp := by
  induction t generalizing fp with
  | id => rfl
  | int => rfl
  | bin o l r ihl ihr =>
    have := lenX_toX l
    simp only [E.toX, bodyX, body, ihl, ihr, headOff_toX, rootX_toX, tombLink,
      show lenX l.toX = len l - 1 by omega]
  | pre o e ih => simp only [E.toX, bodyX, body, ih, headOff_toX, tombLink]
  | paren e ih => simp only [E.toX, bodyX, bodyP, body, ih, headOff_toX, tombLink]

theorem evsX_toX (t : E) : evsX t.toX = evs t := by
  simp only [evsX, evs, bodyX_toX, headOff_toX, tombLink]

theorem nodesX_toX (t : E) : nodesX t.toX = nodes t := by
  induction t with
  | id => rfl
  | int => rfl
  | bin o l r ihl ihr => simp only [E.toX, nodesX, nodes, ihl, ihr]
  | pre o e ih => simp only [E.toX, nodesX, nodes, ih]
  | paren e ih => simp only [E.toX, nodesX, LangEv2.nodesP, nodes, ih]

theorem kind_toX (t : E) : t.toX.kind = t.kind := by cases t <;> rfl

theorem sbX_toX (t : E) : sbX t.toX = sbOf t := by
  induction t with
  | bin o l r ihl ihr => simp only [E.toX, sbX, sbOf, ihr]
  | pre o e ih => simp only [E.toX, sbX, sbOf, ih]
  | _ => rfl

theorem canonX_toX (t : E) : ∀ bp, CanonX bp t.toX ↔ CanonE bp t := by
  induction t with
  | id => intro bp; simp only [E.toX, CanonX, CanonP, CanonE]
  | int => intro bp; simp only [E.toX, CanonX, CanonP, CanonE]
  | paren e ih => intro bp; simp only [E.toX, CanonX, CanonP, CanonE, ih]
  | pre o e ih => intro bp; simp only [E.toX, CanonX, CanonE, ih]
  | bin o l r ihl ihr =>
    intro bp
    have hl := ihl bp
    cases l <;> simp only [E.toX, CanonX, CanonP, CanonE, ihr] at hl ⊢ <;> (try simp only [hl])

theorem rightStops_toX (t : E) (s : P) (q : Nat) : RightStopsX t.toX s q → RightStops t s q := by
  induction t with
  | bin o l r ihl ihr => exact fun h => ⟨h.1, ihr h.2⟩
  | pre o e ih => exact fun h => ⟨h.1, ih h.2⟩
  | _ => exact fun _ => trivial

theorem endOK_toX (t : E) (k : SyntaxKind) (h : EndOKX t.toX k) : EndOK t k := by
  refine ⟨h.1, h.2.1, ?_⟩
  have h3 := h.2.2
  clear h
  induction t with
  | bin o l r ihl ihr => exact ihr h3
  | pre o e ih => exact ih h3
  | id => exact h3
  | int => exact h3
  | paren e ih => trivial

theorem fits_toX (t : E) (s : P) (q : Nat) (h : FitsX t.toX s q) : Fits t s q := by
  obtain ⟨h1, h2, h3⟩ := h
  rw [toksX_toX] at h1 h2 h3
  exact ⟨h1, endOK_toX t _ h2, rightStops_toX t s _ h3⟩

theorem exprOK_toX (t : E) : ExprOKF t.toX (6 * size t) := by
  intro bp f r s E0 dp st sb lv pr hnp hst _ hpr hfit hc hstop hf
  rw [toksX_toX] at hstop
  rw [rootX_toX, kind_toX, evsX_toX, toksX_toX, sbX_toX]
  exact VOv_of_MBase t (exprBp_cps t) bp f r s E0 dp st sb lv pr hnp (by omega) hpr (fits_toX t s _ hfit)
    ((canonX_toX t bp).1 hc) hstop (by have := fuel_bound t; omega)

theorem goSeg_evs (t : E) : GoSeg (evs t) (nodes t) := by
  rw [← evsX_toX, ← nodesX_toX]; exact goSeg_evsX t.toX

/-- **`process` turns the events of a tree into its pre-order node sequence** -/
theorem process_evs (t : E) : process (evs t) = some (nodes t) := by
  obtain ⟨A', h⟩ := goSeg_evs t 0 [] [] []
  unfold process
  simp only [Nat.zero_add, List.nil_append, List.append_nil, List.length_nil] at h
  rw [h]
  rfl

end Oq3.PrattEv

namespace Oq3.LangEv
open Oq3.Gen Oq3.Parser Oq3.PrattEv Oq3.LangEv2

/-- `q0, …, q_n` -/
def qsOf : Nat → QList
  | 0 => .one .id
  | n + 1 => .cons .id (qsOf n)

def xsOf : List E → XList
  | [] => .nil
  | a :: as => .cons a.toX (xsOf as)

mutual
def Stmt.toS2 : Stmt → Stmt2
  | .decl ty w init => .decl false ty (w.map E.toX) (init.map E.toX)
  | .assign rhs => .assign none rhs.toX
  | .exprS e => .exprS e.toX
  | .gate args nq => .gate (xsOf args) (qsOf nq)
  | .measure => .exprS (.prim .measureE)
  | .assignMeasure => .assign none (.prim .measureE)
  | .reset => .reset .id
  | .barrier nq => .barrier (qsOf nq)
  | .brk => .brk
  | .cont => .cont
  | .endS => .endS
  | .ifS c thn => .ifS c.toX (.blk thn.toL2)
  | .ifElse c thn els => .ifElse c.toX (.blk thn.toL2) (.blk els.toL2)
  | .whileS c body => .whileS c.toX (.blk body.toL2)
  | .forS ty lo hi body => .forS ty none (.range2 lo.toX hi.toX) (.blk body.toL2)
  | .gateDef ps nq body => .gateDef ps nq body.toL2
  | .defS ps ret body => .defS ps ret body.toL2
  | .ret e => .ret (e.map E.toX)
def Stmts.toL2 : Stmts → Stmts2
  | .nil => .nil
  | .cons s ss => .cons s.toS2 ss.toL2
end

theorem toksQs_qsOf (n : Nat) : toksQs (qsOf n) = qubitToks n := by
  induction n with
  | zero => rfl
  | succ n ih => simp only [qsOf, toksQs, toksQ, qubitToks, ih, List.cons_append, List.nil_append]

theorem toksXs_xsOf : ∀ as : List E, toksXs (xsOf as) = argToks as
  | [] => rfl
  | [a] => toksX_toX a
  | a :: b :: bs => by
    have := toksXs_xsOf (b :: bs)
    simp only [xsOf] at this
    simp only [xsOf, toksXs, argToks, this]
    exact congrArg (· ++ _) (toksX_toX a)

theorem tyToksX_toX (ty : Ty) (w : Option E) : tyToksX ty (w.map E.toX) = tyToks ty w := by
  cases w <;> simp only [Option.map, tyToksX, tyToks, toksX_toX]

mutual
theorem toksS2_toS2 : ∀ st : Stmt, toksS2 st.toS2 = toksS st
  | .decl ty w none => by simp [Stmt.toS2, toksS2, toksS, tyToksX_toX]
  | .decl ty w (some e) => by simp [Stmt.toS2, toksS2, toksS, tyToksX_toX, toksX_toX]
  | .assign rhs => by simp [Stmt.toS2, toksS2, toksS, lhsP, toksP, toksX_toX]
  | .exprS e => by simp only [Stmt.toS2, toksS2, toksS, toksX_toX]
  | .gate [] nq => by simp [Stmt.toS2, xsOf, toksS2, toksS, argListToks, toksQs_qsOf]
  | .gate (a :: as) nq => by
    have := toksXs_xsOf (a :: as)
    simp only [xsOf] at this
    simp [Stmt.toS2, xsOf, toksS2, toksS, argListToks, toksQs_qsOf, this]
  | .measure => rfl
  | .assignMeasure => rfl
  | .reset => rfl
  | .barrier nq => by simp only [Stmt.toS2, toksS2, toksS, toksQs_qsOf]
  | .brk => rfl
  | .cont => rfl
  | .endS => rfl
  | .ifS c thn => by simp [Stmt.toS2, toksS2, toksB, toksS, parenToks, toksX_toX, toksL2_toL2 thn]
  | .ifElse c thn els => by
    simp [Stmt.toS2, toksS2, toksB, toksS, parenToks, toksX_toX, toksL2_toL2 thn, toksL2_toL2 els]
  | .whileS c body => by simp [Stmt.toS2, toksS2, toksB, toksS, parenToks, toksX_toX, toksL2_toL2 body]
  | .forS ty lo hi body => by
    simp [Stmt.toS2, toksS2, toksB, toksS, tyToksX, iterToks, toksX_toX, toksL2_toL2 body]
  | .gateDef none nq body => by simp only [Stmt.toS2, toksS2, toksS, toksL2_toL2 body]
  | .gateDef (some k) nq body => by simp only [Stmt.toS2, toksS2, toksS, toksL2_toL2 body]
  | .defS ps ret body => by simp only [Stmt.toS2, toksS2, toksS, toksL2_toL2 body]
  | .ret none => rfl
  | .ret (some e) => by simp only [Stmt.toS2, Option.map, toksS2, toksS, toksX_toX]
theorem toksL2_toL2 : ∀ ss : Stmts, toksL2 ss.toL2 = toksL ss
  | .nil => rfl
  | .cons st ss => by simp only [Stmts.toL2, toksL2, toksL, toksS2_toS2 st, toksL2_toL2 ss]
end

theorem evsQs_qsOf (n : Nat) : evsQs (qsOf n) = qubitEvs n := by
  induction n with
  | zero => rfl
  | succ n ih => simp only [qsOf, evsQs, evsQ, qubitEvs, ih, List.cons_append, List.nil_append]

theorem evsXs_xsOf : ∀ as : List E, evsXs (xsOf as) = argEvs as
  | [] => rfl
  | [a] => evsX_toX a
  | a :: b :: bs => by
    have := evsXs_xsOf (b :: bs)
    simp only [xsOf] at this
    simp only [xsOf, evsXs, argEvs, this]
    exact congrArg (· ++ _) (evsX_toX a)

theorem tyEvsX_toX (ty : Ty) (w : Option E) : tyEvsX ty (w.map E.toX) = tyEvs ty w := by
  cases w <;> simp only [Option.map, tyEvsX, tyEvs, evsX_toX]

mutual
theorem evsS2_toS2 : ∀ st : Stmt, evsS2 st.toS2 = evsS st
  | .decl ty w none => by simp [Stmt.toS2, evsS2, evsS, tyEvsX_toX, nameEvs]
  | .decl ty w (some e) => by simp [Stmt.toS2, evsS2, evsS, tyEvsX_toX, nameEvs, evsX_toX]
  | .assign rhs => by simp [Stmt.toS2, evsS2, evsS, lhsP, rootP, lenP, bodyP, tombLink, evsX_toX]
  | .exprS e => by
    have := lenX_toX e
    simp only [Stmt.toS2, evsS2, evsS, headOff_toX, bodyX_toX, rootX_toX, tombLink, show lenX e.toX = len e - 1 by omega]
  | .gate [] nq => by
    simp [Stmt.toS2, xsOf, evsS2, evsS, wrapStmt, gateCallInner, argListEvs, qlistEvs, evsQs_qsOf, tombLink]
  | .gate (a :: as) nq => by
    have := evsXs_xsOf (a :: as)
    simp only [xsOf] at this
    simp [Stmt.toS2, xsOf, evsS2, evsS, argListEvs, qlistEvs, evsQs_qsOf, this]
    omega
  | .measure => rfl
  | .assignMeasure => rfl
  | .reset => rfl
  | .barrier nq => by simp [Stmt.toS2, evsS2, evsS, qlistEvs, evsQs_qsOf]
  | .brk => rfl
  | .cont => rfl
  | .endS => rfl
  | .ifS c thn => by simp only [Stmt.toS2, evsS2, evsB, evsS, evsX_toX, evsL2_toL2 thn]
  | .ifElse c thn els => by simp only [Stmt.toS2, evsS2, evsB, evsS, evsX_toX, evsL2_toL2 thn, evsL2_toL2 els]
  | .whileS c body => by simp only [Stmt.toS2, evsS2, evsB, evsS, evsX_toX, evsL2_toL2 body]
  | .forS ty lo hi body => by
    simp [Stmt.toS2, evsS2, evsB, evsS, tyEvsX, nameEvs, iterEvs, evsX_toX, evsL2_toL2 body]
  | .gateDef none nq body => by simp only [Stmt.toS2, evsS2, evsS, evsL2_toL2 body]
  | .gateDef (some k) nq body => by simp only [Stmt.toS2, evsS2, evsS, evsL2_toL2 body]
  | .defS ps ret body => by simp only [Stmt.toS2, evsS2, evsS, evsL2_toL2 body]
  | .ret none => rfl
  | .ret (some e) => by
    simp [Stmt.toS2, evsS2, evsS, wrapStmt, tombLink, evsX_toX, evs_length]
theorem evsL2_toL2 : ∀ ss : Stmts, evsL2 ss.toL2 = evsL ss
  | .nil => rfl
  | .cons st ss => by simp only [Stmts.toL2, evsL2, evsL, evsS2_toS2 st, evsL2_toL2 ss]
end

theorem evsP2_toL2 (p : Stmts) : evsP2 p.toL2 = evsP p := by simp only [evsP2, evsP, evsL2_toL2]

theorem nodesQs_qsOf (n : Nat) : nodesQs (qsOf n) = qubitNodes n := by
  induction n with
  | zero => rfl
  | succ n ih => simp only [qsOf, nodesQs, nodesQ, qubitNodes, ih, List.cons_append, List.nil_append]

theorem nodesXs_xsOf : ∀ as : List E, nodesXs (xsOf as) = argNodes as
  | [] => rfl
  | [a] => nodesX_toX a
  | a :: b :: bs => by
    have := nodesXs_xsOf (b :: bs)
    simp only [xsOf] at this
    simp only [xsOf, nodesXs, argNodes, this]
    exact congrArg (· ++ _) (nodesX_toX a)

theorem tyNodesX_toX (ty : Ty) (w : Option E) : tyNodesX ty (w.map E.toX) = tyNodes ty w := by
  cases w <;> simp only [Option.map, tyNodesX, tyNodes, nodesX_toX]

mutual
theorem nodesS2_toS2 : ∀ st : Stmt, nodesS2 st.toS2 = nodesS st
  | .decl ty w none => by simp [Stmt.toS2, nodesS2, nodesS, tyNodesX_toX, nameNodes]
  | .decl ty w (some e) => by simp [Stmt.toS2, nodesS2, nodesS, tyNodesX_toX, nameNodes, nodesX_toX]
  | .assign rhs => by simp [Stmt.toS2, nodesS2, nodesS, lhsP, LangEv2.nodesP, nodesX_toX]
  | .exprS e => by simp only [Stmt.toS2, nodesS2, nodesS, nodesX_toX]
  | .gate [] nq => by
    simp [Stmt.toS2, xsOf, nodesS2, nodesS, wrapNodes, gateCallInnerNodes, argListNodes, qlistNodes, nodesQs_qsOf]
  | .gate (a :: as) nq => by
    have := nodesXs_xsOf (a :: as)
    simp only [xsOf] at this
    simp [Stmt.toS2, xsOf, nodesS2, nodesS, wrapNodes, gateCallInnerNodes, argListNodes, qlistNodes, nodesQs_qsOf, this]
  | .measure => rfl
  | .assignMeasure => rfl
  | .reset => rfl
  | .barrier nq => by simp [Stmt.toS2, nodesS2, nodesS, qlistNodes, nodesQs_qsOf]
  | .brk => rfl
  | .cont => rfl
  | .endS => rfl
  | .ifS c thn => by simp only [Stmt.toS2, nodesS2, nodesB, nodesS, nodesX_toX, nodesL2_toL2 thn]
  | .ifElse c thn els => by
    simp only [Stmt.toS2, nodesS2, nodesB, nodesS, nodesX_toX, nodesL2_toL2 thn, nodesL2_toL2 els]
  | .whileS c body => by simp only [Stmt.toS2, nodesS2, nodesB, nodesS, nodesX_toX, nodesL2_toL2 body]
  | .forS ty lo hi body => by
    simp [Stmt.toS2, nodesS2, nodesB, nodesS, tyNodesX, nameNodes, iterNodes, nodesX_toX, nodesL2_toL2 body]
  | .gateDef none nq body => by simp only [Stmt.toS2, nodesS2, nodesS, nodesL2_toL2 body]
  | .gateDef (some k) nq body => by simp only [Stmt.toS2, nodesS2, nodesS, nodesL2_toL2 body]
  | .defS ps ret body => by simp only [Stmt.toS2, nodesS2, nodesS, nodesL2_toL2 body]
  | .ret none => rfl
  | .ret (some e) => by simp [Stmt.toS2, nodesS2, nodesS, wrapNodes, nodesX_toX]
theorem nodesL2_toL2 : ∀ ss : Stmts, nodesL2 ss.toL2 = nodesL ss
  | .nil => rfl
  | .cons st ss => by simp only [Stmts.toL2, nodesL2, nodesL, nodesS2_toS2 st, nodesL2_toL2 ss]
end

theorem nodesP2_toL2 (p : Stmts) : nodesP2 p.toL2 = nodesP p := by simp only [nodesP2, nodesP, nodesL2_toL2]

theorem goSeg_S : ∀ st : Stmt, GoSeg (evsS st) (nodesS st) := fun st => by
  rw [← evsS2_toS2, ← nodesS2_toS2]; exact goS2 st.toS2

/-- **`process` turns the events of a program into the pre-order node sequence of its derivation** -/
theorem process_evsP (p : Stmts) : process (evsP p) = some (nodesP p) := by
  rw [← evsP2_toL2, ← nodesP2_toL2]; exact process_evsP2 p.toL2

end Oq3.LangEv
