/- GENERATED by /verif/tools/gen_grammar_cost2.py from Oq3/Model/Grammar.lean — the proofs are checked by Lean. -/
import Oq3.Lemmas.GrammarWork0
set_option linter.unusedVariables false
set_option linter.unusedSimpArgs false

namespace Oq3.Grammar
open Oq3.Gen Oq3.Parser
open Oq3.Gen.Ops (Assoc)
open Oq3.Gen.TokenSets

theorem stmt_wk {M : Sys} {fuel : Nat} (ih : AllWork M fuel) (E : Env M ⟨15, 24, 5, 9, 10, 5, 6⟩ fuel) :
    W E .init (Oq3.Grammar.stmt (fuel + 1)) (Exit E fun r s' => (atomHalt (E.s₀.kindAt E.s₀.pos) = false → E.s₀.pos < s'.pos)) E.s₀ := by
  unfold Oq3.Grammar.stmt
  ww [optItem (W.callF (.of_field (ih.optItem _))), exprStmt (W.callF (.of_field (ih.exprStmt _))), letStmt (W.callFP (.of_field (ih.letStmt _))), qOrCRegDeclaration (W.callF (.of_field (ih.qOrCRegDeclaration _)))]

theorem exprBp_wk {M : Sys} {fuel : Nat} (ih : AllWork M fuel) (m : Option Marker) (r : Restrictions) (bp : Nat) (E : Env M ⟨10, 15, 2, 5, 29, 2, 8⟩ fuel) :
    W E .init (Oq3.Grammar.exprBp (fuel + 1) m r bp) (Exit E fun r s' => (r.isSome = true → E.s₀.pos < s'.pos) ∧ (exprHalt (E.s₀.kindAt E.s₀.pos) = false → E.s₀.pos < s'.pos)) E.s₀ := by
  unfold Oq3.Grammar.exprBp
  ww [exprBpLoop (W.callFN (.of_field' (ih.exprBpLoop _ _ _))), lhs (W.callF (.of_field (ih.lhs _)))]

theorem delimited_wk {M : Sys} {fuel : Nat} (ih : AllWork M fuel) (bra ket : SyntaxKind) (consumeBraket : Bool) (delim : SyntaxKind) (firstSet : TokenSet) (parser : DelimitedParser) (E : Env M ⟨14, 15, 2, 6, 0, 2, 0⟩ fuel) :
    W E .init (Oq3.Grammar.delimited (fuel + 1) bra ket consumeBraket delim firstSet parser) (Exit E fun r s' => (consumeBraket = true → E.s₀.pos < s'.pos)) E.s₀ := by
  unfold Oq3.Grammar.delimited
  ww [delimitedLoop (W.callFN (.of_field' (ih.delimitedLoop _ _ _ _)))]

theorem resetStmt_wk {M : Sys} {fuel : Nat} (ih : AllWork M fuel) (m : Marker) (E : Env M ⟨1, 1, 0, 0, 12, 0, 6⟩ fuel) :
    W E .init (Oq3.Grammar.resetStmt (fuel + 1) m) (Exit E fun _ s' => E.s₀.pos < s'.pos) E.s₀ := by
  unfold Oq3.Grammar.resetStmt
  ww [argGateCallQubit (W.callF (.of_field (ih.argGateCallQubit _)))]

theorem barrier__wk {M : Sys} {fuel : Nat} (ih : AllWork M fuel) (m : Marker) (E : Env M ⟨1, 1, 0, 0, 12, 0, 6⟩ fuel) :
    W E .init (Oq3.Grammar.barrier_ (fuel + 1) m) (Exit E fun _ s' => E.s₀.pos < s'.pos) E.s₀ := by
  unfold Oq3.Grammar.barrier_
  ww [argListGateCallQubits (W.callFN (.of_field' ih.argListGateCallQubits))]

theorem qOrCRegDeclaration_wk {M : Sys} {fuel : Nat} (ih : AllWork M fuel) (m : Marker) (E : Env M ⟨3, 4, 0, 4, 7, 0, 2⟩ fuel) :
    W E .init (Oq3.Grammar.qOrCRegDeclaration (fuel + 1) m) (Exit E fun r s' => (E.s₀.kindAt E.s₀.pos ≠ .EOF → E.s₀.pos < s'.pos)) E.s₀ := by
  unfold Oq3.Grammar.qOrCRegDeclaration
  ww [qOrCRegParam (W.callF (.of_field ih.qOrCRegParam))]

theorem nonArrayTypeSpec_wk {M : Sys} {fuel : Nat} (ih : AllWork M fuel) (E : Env M ⟨2, 5, 0, 3, 41, 0, 10⟩ fuel) :
    W E .init (Oq3.Grammar.nonArrayTypeSpec (fuel + 1)) (Exit E fun r s' => ((isType (E.s₀.kindAt E.s₀.pos) || atF .L_BRACK E.s₀.kinds E.s₀.joint E.s₀.pos) = true → E.s₀.pos < s'.pos) ∧ ((isType (E.s₀.kindAt E.s₀.pos) || atF .L_BRACK E.s₀.kinds E.s₀.joint E.s₀.pos) = false → s'.tv = E.s₀.tv)) E.s₀ := by
  unfold Oq3.Grammar.nonArrayTypeSpec
  ww [complexTypeSpec (W.callFP (.of_field ih.complexTypeSpec)), designator (W.callFP (.of_field ih.designator))]

theorem castExpr_wk {M : Sys} {fuel : Nat} (ih : AllWork M fuel) (E : Env M ⟨4, 6, 0, 0, 25, 0, 8⟩ fuel)
    (hX : isClassicalType (E.s₀.kindAt E.s₀.pos) = true) :
    W E .init (Oq3.Grammar.castExpr (fuel + 1)) (Exit E fun _ s' => E.s₀.pos < s'.pos) E.s₀ := by
  unfold Oq3.Grammar.castExpr
  revert hX
  ww [expr (W.callF (.of_field ih.expr)), typeSpec (W.callF (.of_field ih.typeSpec))]

theorem tryBlockExpr_wk {M : Sys} {fuel : Nat} (ih : AllWork M fuel) (E : Env M ⟨2, 2, 0, 1, 32, 0, 6⟩ fuel) :
    W E .init (Oq3.Grammar.tryBlockExpr (fuel + 1)) (Exit E fun _ _ => True) E.s₀ := by
  unfold Oq3.Grammar.tryBlockExpr
  ww [blockExpr (W.callFP (.of_field ih.blockExpr))]

theorem scalarTypeList_wk {M : Sys} {fuel : Nat} (ih : AllWork M fuel) (E : Env M ⟨8, 10, 0, 10, 30, 0, 6⟩ fuel) :
    W E .init (Oq3.Grammar.scalarTypeList (fuel + 1)) (Exit E fun _ _ => True) E.s₀ := by
  unfold Oq3.Grammar.scalarTypeList
  ww [paramListOpenqasm (W.callFX (.of_fieldX (ih.paramListOpenqasm _)))]

theorem paramTyped_wk {M : Sys} {fuel : Nat} (ih : AllWork M fuel) (m : Marker) (E : Env M ⟨4, 7, 0, 7, 41, 0, 6⟩ fuel) :
    W E .init (Oq3.Grammar.paramTyped (fuel + 1) m) (Exit E fun r s' => (r = true → E.s₀.pos < s'.pos)) E.s₀ := by
  unfold Oq3.Grammar.paramTyped
  ww [varName (W.callS varName_spec), qOrCRegParam (W.callF (.of_field ih.qOrCRegParam)), paramTypeSpec (W.callF (.of_field ih.paramTypeSpec))]

end Oq3.Grammar
