/-
C11 (gates) — lemmas about the concrete lex-checked parse (`Lemmas/C11StagesDefs.lean`):
the lexer-error conversion never panics, the two branches of `parse_text_check_lex` as equations,
and which stages of the parser half can fail at all.
-/
import Oq3.Lemmas.C11StagesDefs
import Oq3.Props.C12
import Oq3.Props.C14
import Oq3.Props.C02Final

namespace Oq3.Stages
open Oq3.Gen Oq3.Lexer Oq3.Lexed Oq3.Parser Oq3.Grammar Oq3.Builder Oq3.Bridge Oq3.Acc
open Oq3.Lemmas.Lexed

/-- `lexer_errors_to_syntax_errors` as a total function; `(0,0)` never occurs (`lexErrors_spec`) -/
def lexErrorsOf (l : LexedStr) : List SyntaxError :=
  l.error.map fun e =>
    match l.textRange e.token with
    | some (a, b) => ⟨e.msg, a, b⟩
    | none => ⟨e.msg, 0, 0⟩

theorem mapM_some_of_forall {α β : Type} (f : α → Option β) (g : α → β) (l : List α)
    (h : ∀ a ∈ l, f a = some (g a)) : l.mapM f = some (l.map g) := by
  induction l with
  | nil => rfl
  | cons a as ih =>
    rw [List.mapM_cons, h a (List.mem_cons_self ..), ih (fun b hb => h b (List.mem_cons_of_mem _ hb))]
    rfl

/-- **the lexer-error loop never panics**: every error record points at an existing token -/
theorem lexerErrors_total (uc : UC) (s : List Char) :
    lexerErrorsToSyntaxErrors (lexedOf uc s) = some (lexErrorsOf (lexedOf uc s)) := by
  unfold lexerErrorsToSyntaxErrors lexErrorsOf LexedStr.errors
  rw [List.mapM_map]
  apply mapM_some_of_forall
  intro e he
  obtain ⟨lo, hi, hr, -⟩ := Oq3.Props.C12.lex_error_ranges uc s _ (new_eq uc s) e he
  simp only [Function.comp, hr]

theorem lexErrorsOf_length (l : LexedStr) : (lexErrorsOf l).length = l.error.length := by
  simp [lexErrorsOf]

theorem lexErrorsOf_nil (l : LexedStr) (h : l.error = []) : lexErrorsOf l = [] := by
  simp [lexErrorsOf, h]

theorem lexErrorsOf_ne_nil (l : LexedStr) (h : l.error ≠ []) : lexErrorsOf l ≠ [] := by
  intro h'
  have := lexErrorsOf_length l
  rw [h'] at this
  exact h (List.eq_nil_of_length_eq_zero this.symm)

theorem lexErrors_spec (uc : UC) (s : List Char) :
    ∀ e ∈ (lexedOf uc s).error, ∃ lo hi, (lexedOf uc s).textRange e.token = some (lo, hi) ∧
      (⟨e.msg, lo, hi⟩ : SyntaxError) ∈ lexErrorsOf (lexedOf uc s) ∧ lo ≤ hi ∧ hi ≤ Oq3.Lexer.utf8Len s := by
  intro e he
  obtain ⟨lo, hi, hr, hle, hlen, -⟩ := Oq3.Props.C12.lex_error_ranges uc s _ (new_eq uc s) e he
  refine ⟨lo, hi, hr, ?_, hle, hlen⟩
  unfold lexErrorsOf
  refine List.mem_map.mpr ⟨e, he, ?_⟩
  simp only [hr]

/-- the parser is not run: no fuel, no parser panic can matter -/
theorem parseTextCheckLex_lex_error (uc : UC) (fuel npl : Nat) (s : List Char)
    (h : (lexedOf uc s).error ≠ []) :
    parseTextCheckLex uc fuel npl s = .ok (none, lexErrorsOf (lexedOf uc s)) := by
  unfold parseTextCheckLex
  rw [new_eq]
  have : (!(lexedOf uc s).error.isEmpty) = true := by
    cases he : (lexedOf uc s).error with
    | nil => exact absurd he h
    | cons a b => rfl
  simp only [this, if_true, lexerErrors_total]

theorem parseTextCheckLex_clean (uc : UC) (fuel npl : Nat) (s : List Char)
    (h : (lexedOf uc s).error = []) :
    parseTextCheckLex uc fuel npl s =
      (parseLexed fuel npl (lexedOf uc s)).map fun r => (some r.1, r.2.map ofSynErr) := by
  unfold parseTextCheckLex
  rw [new_eq]
  simp only [h, List.isEmpty_nil, Bool.not_true, Bool.false_eq_true, if_false, lexerErrors_total,
    lexErrorsOf_nil _ h, List.append_nil]
  cases parseLexed fuel npl (lexedOf uc s) with
  | error f => rfl
  | ok r => obtain ⟨t, e⟩ := r; rfl

theorem checkLexParse_lex_error (uc : UC) (fuel npl : Nat) (s : List Char)
    (h : (lexedOf uc s).error ≠ []) :
    checkLexParse uc fuel npl s = .ok (none, lexErrorsOf (lexedOf uc s)) := by
  unfold checkLexParse
  rw [parseTextCheckLex_lex_error uc fuel npl s h]

theorem checkLexParse_clean (uc : UC) (fuel npl : Nat) (s : List Char)
    (h : (lexedOf uc s).error = []) :
    checkLexParse uc fuel npl s =
      (parserDiagnostics uc fuel npl s).map fun r => (some r.1, r.2) := by
  unfold checkLexParse parserDiagnostics
  rw [parseTextCheckLex_clean uc fuel npl s h]
  cases parseLexed fuel npl (lexedOf uc s) with
  | error f => rfl
  | ok r =>
    obtain ⟨t, e⟩ := r
    simp only [Except.map]
    cases Oq3.Validation.validate t 0 with
    | error site => rfl
    | ok verrs =>
      simp only
      split <;> rfl

/-- on a lexed text, `to_input`, `process`, the balance assertions and `build_tree` never fail:
the parser stages return what the grammar returns — its failure (a parser panic, a hang detector,
the model's fuel), or a tree that spells exactly the text (C02 `lossless`) -/
theorem parseLexed_spec (uc : UC) (fuel npl : Nat) (s : List Char) :
    ∃ inp, (lexedOf uc s).toInput = some inp ∧
      match parseSourceFile fuel inp.kind.toArray inp.joint.toArray npl with
      | .error o => parseLexed fuel npl (lexedOf uc s) = .error (.parser o)
      | .ok _ => ∃ tree errs, parseLexed fuel npl (lexedOf uc s) = .ok (tree, errs) ∧ tree.text = s := by
  obtain ⟨inp, hi, -⟩ := Oq3.Props.C14.toInput_kinds uc s
  refine ⟨inp, hi, ?_⟩
  unfold parseLexed
  rw [hi]
  cases hp : parseSourceFile fuel inp.kind.toArray inp.joint.toArray npl with
  | error o => simp only [hp]
  | ok r =>
    obtain ⟨events, pos⟩ := r
    obtain ⟨steps, tree, errs, hs, hb, ht⟩ :=
      Oq3.Props.C02.lossless uc s _ inp fuel npl events pos (new_eq uc s) hi hp
    have hbal := Oq3.Props.C01.balance_assertions_hold fuel _ _ npl events pos hp steps hs
    exact ⟨tree, errs, by simp only [hp, hs, hbal, Bool.not_true, Bool.false_eq_true, if_false, hb], ht⟩

theorem parseLexed_fails_only_in_grammar (uc : UC) (fuel npl : Nat) (s : List Char) (f : Fail)
    (h : parseLexed fuel npl (lexedOf uc s) = .error f) : ∃ o, f = .parser o := by
  obtain ⟨inp, -, hspec⟩ := parseLexed_spec uc fuel npl s
  split at hspec
  · rw [hspec] at h; exact ⟨_, (Except.error.inj h).symm⟩
  · obtain ⟨_, _, hok, -⟩ := hspec; rw [hok] at h; cases h

theorem parseLexed_ok_text (uc : UC) (fuel npl : Nat) (s : List Char) (tree : Tree) (errs : List SynErr)
    (h : parseLexed fuel npl (lexedOf uc s) = .ok (tree, errs)) : tree.text = s := by
  obtain ⟨inp, -, hspec⟩ := parseLexed_spec uc fuel npl s
  split at hspec
  · rw [hspec] at h; cases h
  · obtain ⟨_, _, hok, ht⟩ := hspec
    rw [hok] at h; cases h; exact ht

theorem parserDiagnostics_cases (uc : UC) (fuel npl : Nat) (text : List Char) :
    (∃ f, parseLexed fuel npl (lexedOf uc text) = .error f ∧
      parserDiagnostics uc fuel npl text = .error f) ∨
    ∃ t e, parseLexed fuel npl (lexedOf uc text) = .ok (t, e) ∧
      ((∃ site, parserDiagnostics uc fuel npl text = .error (.validate site)) ∨
        parserDiagnostics uc fuel npl text = .error .rootKind ∨
        ∃ d, parserDiagnostics uc fuel npl text = .ok (t, d)) := by
  unfold parserDiagnostics
  cases parseLexed fuel npl (lexedOf uc text) with
  | error f => exact Or.inl ⟨f, rfl, rfl⟩
  | ok r =>
    obtain ⟨t, e⟩ := r
    refine Or.inr ⟨t, e, rfl, ?_⟩
    simp only
    cases Oq3.Validation.validate t 0 with
    | error site => exact Or.inl ⟨site, rfl⟩
    | ok verrs =>
      simp only
      split
      · exact Or.inr (Or.inl rfl)
      · exact Or.inr (Or.inr ⟨_, rfl⟩)

end Oq3.Stages
