/-
Runs of `M = StateT Ctx (Except Outcome)` (`Oq3/Model/SemaCtx.lean`): what a successful (`_ok`) and
a failing (`_err`) run of each monad operation and of `symStep` looks like; successful runs of
`unwrap`, `insertError` and the scope primitives.
-/
import Oq3.Model.SemaCtx

namespace Oq3.Sema
open Oq3.Types Oq3.Symbols

theorem M.bind_ok {α β} (x : M α) (f : α → M β) (s : Ctx) (r : β × Ctx) :
    (x >>= f) s = .ok r ↔ ∃ a s1, x s = .ok (a, s1) ∧ f a s1 = .ok r := by
  show (StateT.bind x f) s = .ok r ↔ _
  unfold StateT.bind
  simp only [bind, Except.bind]
  cases x s with
  | error e => simp
  | ok p =>
    obtain ⟨a, s1⟩ := p
    simp only [Except.ok.injEq, Prod.mk.injEq]
    constructor
    · intro h; exact ⟨a, s1, ⟨rfl, rfl⟩, h⟩
    · rintro ⟨_, _, ⟨rfl, rfl⟩, h⟩; exact h

theorem M.bind_err {α β} (x : M α) (f : α → M β) (s : Ctx) (e : Outcome) :
    (x >>= f) s = .error e ↔
      x s = .error e ∨ ∃ a s1, x s = .ok (a, s1) ∧ f a s1 = .error e := by
  show (StateT.bind x f) s = .error e ↔ _
  unfold StateT.bind
  simp only [bind, Except.bind]
  cases x s with
  | error e' => simp
  | ok p =>
    obtain ⟨a, s1⟩ := p
    simp only [Except.ok.injEq, Prod.mk.injEq, reduceCtorEq, false_or]
    constructor
    · intro h; exact ⟨a, s1, ⟨rfl, rfl⟩, h⟩
    · rintro ⟨_, _, ⟨rfl, rfl⟩, h⟩; exact h

theorem bind_eq_of_ok {α β} {x : M α} {f : α → M β} {c c1 : Ctx} {a : α} (h : x c = .ok (a, c1)) :
    (x >>= f) c = f a c1 := by
  show (StateT.bind x f) c = _
  unfold StateT.bind
  simp only [h, bind, Except.bind]

theorem M.map_ok {α β} (f : α → β) (x : M α) (s : Ctx) (r : β × Ctx) :
    (f <$> x) s = .ok r ↔ ∃ a s1, x s = .ok (a, s1) ∧ r = (f a, s1) := by
  show (StateT.map f x) s = .ok r ↔ _
  unfold StateT.map
  simp only [bind, Except.bind, pure, Except.pure]
  cases x s with
  | error e => simp
  | ok p =>
    obtain ⟨a, s1⟩ := p
    simp only [Except.ok.injEq, Prod.mk.injEq]
    constructor
    · intro h; exact ⟨a, s1, ⟨rfl, rfl⟩, h.symm⟩
    · rintro ⟨_, _, ⟨rfl, rfl⟩, h⟩; exact h.symm

theorem M.map_err {α β} (f : α → β) (x : M α) (s : Ctx) (e : Outcome) :
    (f <$> x) s = .error e ↔ x s = .error e := by
  show (StateT.map f x) s = .error e ↔ _
  unfold StateT.map
  simp only [bind, Except.bind, pure, Except.pure]
  cases x s with
  | error e' => simp
  | ok p => simp

@[simp] theorem M.pure_ok {α} (a : α) (s : Ctx) (r : α × Ctx) :
    (pure a : M α) s = .ok r ↔ r = (a, s) := by
  show Except.ok (a, s) = Except.ok r ↔ _
  constructor <;> intro h <;> simp_all

@[simp] theorem M.pure_err {α} (a : α) (s : Ctx) (e : Outcome) :
    (pure a : M α) s = .error e ↔ False := by
  show Except.ok (a, s) = Except.error e ↔ _
  simp

@[simp] theorem M.get_ok (s : Ctx) (r : Ctx × Ctx) : (get : M Ctx) s = .ok r ↔ r = (s, s) := by
  show Except.ok (s, s) = Except.ok r ↔ _
  constructor <;> intro h <;> simp_all

@[simp] theorem M.get_err (s : Ctx) (e : Outcome) : (get : M Ctx) s = .error e ↔ False := by
  show Except.ok (s, s) = Except.error e ↔ _
  simp

@[simp] theorem M.set_ok (s0 s : Ctx) (r : PUnit × Ctx) :
    (set s0 : M PUnit) s = .ok r ↔ r = (⟨⟩, s0) := by
  show Except.ok (PUnit.unit, s0) = Except.ok r ↔ _
  constructor <;> intro h <;> simp_all

@[simp] theorem M.set_err (s0 s : Ctx) (e : Outcome) : (set s0 : M PUnit) s = .error e ↔ False := by
  show Except.ok (PUnit.unit, s0) = Except.error e ↔ _
  simp

@[simp] theorem M.modify_ok (f : Ctx → Ctx) (s : Ctx) (r : PUnit × Ctx) :
    (modify f : M PUnit) s = .ok r ↔ r = (⟨⟩, f s) := by
  show Except.ok (PUnit.unit, f s) = Except.ok r ↔ _
  constructor <;> intro h <;> simp_all

@[simp] theorem M.modify_err (f : Ctx → Ctx) (s : Ctx) (e : Outcome) :
    (modify f : M PUnit) s = .error e ↔ False := by
  show Except.ok (PUnit.unit, f s) = Except.error e ↔ _
  simp

@[simp] theorem M.throw_ok {α} (o : Outcome) (s : Ctx) (r : α × Ctx) :
    (throw o : M α) s = .ok r ↔ False := by
  show Except.error _ = Except.ok r ↔ _
  simp

@[simp] theorem M.throw_err {α} (o : Outcome) (s : Ctx) (e : Outcome) :
    (throw o : M α) s = .error e ↔ e = o := by
  show Except.error o = Except.error e ↔ _
  constructor <;> intro h <;> simp_all

@[simp] theorem M.fail_ok {α} (site : String) (s : Ctx) (r : α × Ctx) :
    (fail site : M α) s = .ok r ↔ False := by
  unfold fail; simp

@[simp] theorem M.fail_err {α} (site : String) (s : Ctx) (e : Outcome) :
    (fail site : M α) s = .error e ↔ e = .panic site := by
  unfold fail; simp

@[simp] theorem exists2_eq {α β : Type} {a0 : α} {b0 : β} {Q : α → β → Prop} :
    (∃ a b, (a = a0 ∧ b = b0) ∧ Q a b) ↔ Q a0 b0 := by
  constructor
  · rintro ⟨_, _, ⟨rfl, rfl⟩, h⟩; exact h
  · intro h; exact ⟨a0, b0, ⟨rfl, rfl⟩, h⟩

@[simp] theorem M.get_bind_ok {β} (f : Ctx → M β) (s : Ctx) (r : β × Ctx) :
    (get >>= f) s = .ok r ↔ f s s = .ok r := by
  rw [M.bind_ok]; simp

@[simp] theorem M.get_bind_err {β} (f : Ctx → M β) (s : Ctx) (e : Outcome) :
    (get >>= f) s = .error e ↔ f s s = .error e := by
  rw [M.bind_err]; simp

@[simp] theorem M.set_bind_ok {β} (s0 : Ctx) (f : PUnit → M β) (s : Ctx) (r : β × Ctx) :
    (set s0 >>= f) s = .ok r ↔ f ⟨⟩ s0 = .ok r := by
  rw [M.bind_ok]; simp
  exact ⟨fun ⟨⟨⟩, h⟩ => h, fun h => ⟨⟨⟩, h⟩⟩

@[simp] theorem M.set_bind_err {β} (s0 : Ctx) (f : PUnit → M β) (s : Ctx) (e : Outcome) :
    (set s0 >>= f) s = .error e ↔ f ⟨⟩ s0 = .error e := by
  rw [M.bind_err]; simp
  exact ⟨fun ⟨⟨⟩, h⟩ => h, fun h => ⟨⟨⟩, h⟩⟩

@[simp] theorem M.modify_bind_ok {β} (g : Ctx → Ctx) (f : PUnit → M β) (s : Ctx) (r : β × Ctx) :
    (modify g >>= f) s = .ok r ↔ f ⟨⟩ (g s) = .ok r := by
  rw [M.bind_ok]; simp
  exact ⟨fun ⟨⟨⟩, h⟩ => h, fun h => ⟨⟨⟩, h⟩⟩

@[simp] theorem M.pure_bind_ok {α β} (a : α) (f : α → M β) (s : Ctx) (r : β × Ctx) :
    (pure a >>= f) s = .ok r ↔ f a s = .ok r := by
  rw [M.bind_ok]; simp

theorem unwrap_ok {α} (site : String) (o : Option α) (s : Ctx) (r : α × Ctx) :
    unwrap site o s = .ok r ↔ o = some r.1 ∧ r.2 = s := by
  cases o <;> unfold unwrap
  · simp
  · simp only [M.pure_ok, Option.some.injEq]
    constructor
    · rintro rfl; exact ⟨rfl, rfl⟩
    · rintro ⟨h1, h2⟩; cases r; simp_all

theorem insertError_ok (k : SemanticErrorKind) (node : Ast.Span) (s : Ctx) (r : Unit × Ctx) :
    insertError k node s = .ok r ↔
      r = ((), { s with semanticErrors := s.semanticErrors ++ [⟨k, node.start, node.stop⟩] }) := by
  unfold insertError; simp

theorem symStep_ok (site : String) (op : Op) (s : Ctx) (r : Out × Ctx) :
    symStep site op s = .ok r ↔
      (s.symbolTable.step op).2 ≠ .panic ∧
      r = ((s.symbolTable.step op).2, { s with symbolTable := (s.symbolTable.step op).1 }) := by
  unfold symStep
  simp only [M.get_bind_ok]
  cases h : (s.symbolTable.step op).2 <;>
    simp only [M.fail_ok, M.set_bind_ok, M.pure_ok, ne_eq, reduceCtorEq, not_false_eq_true,
      not_true_eq_false, true_and, false_and]

theorem symStep_err (site : String) (op : Op) (s : Ctx) (e : Outcome) :
    symStep site op s = .error e → e = .panic site := by
  unfold symStep
  simp only [M.get_bind_err]
  cases h : (s.symbolTable.step op).2 <;> simp [M.map_err]

theorem symStep_discard_ok (site : String) (op : Op) (s : Ctx) (u : Unit) (s1 : Ctx) :
    (symStep site op >>= fun _ => pure ()) s = .ok (u, s1) ↔ (s.symbolTable.step op).2 ≠ .panic ∧
      s1 = { s with symbolTable := (s.symbolTable.step op).1 } := by
  simp only [M.bind_ok, symStep_ok, M.pure_ok, Prod.mk.injEq]
  constructor
  · rintro ⟨_, _, ⟨hne, -, rfl⟩, -, rfl⟩; exact ⟨hne, rfl⟩
  · rintro ⟨hne, rfl⟩; exact ⟨_, _, ⟨hne, rfl, rfl⟩, trivial, rfl⟩

theorem enterScope_ok (k : ScopeType) (s : Ctx) (u : Unit) (s1 : Ctx) :
    enterScope k s = .ok (u, s1) ↔ (s.symbolTable.step (.enter k)).2 ≠ .panic ∧
      s1 = { s with symbolTable := (s.symbolTable.step (.enter k)).1 } :=
  symStep_discard_ok _ _ s u s1

theorem exitScope_ok (s : Ctx) (u : Unit) (s1 : Ctx) :
    exitScope s = .ok (u, s1) ↔ (s.symbolTable.step .exit).2 ≠ .panic ∧
      s1 = { s with symbolTable := (s.symbolTable.step .exit).1 } :=
  symStep_discard_ok _ _ s u s1

theorem withScope_ok {α} (k : ScopeType) (body : M α) (c : Ctx) (r : α × Ctx) :
    withScope k body c = .ok r ↔ ∃ c1 a c2, enterScope k c = .ok (⟨⟩, c1) ∧ body c1 = .ok (a, c2) ∧
      exitScope c2 = .ok (⟨⟩, r.2) ∧ r.1 = a := by
  unfold withScope
  simp only [M.bind_ok, M.pure_ok]
  constructor
  · rintro ⟨⟨⟩, c1, h1, a, c2, h2, ⟨⟩, c3, h3, rfl⟩
    exact ⟨c1, a, c2, h1, h2, h3, rfl⟩
  · rintro ⟨c1, a, c2, h1, h2, h3, h4⟩
    obtain ⟨r1, r2⟩ := r
    simp only at h3 h4
    subst h4
    exact ⟨⟨⟩, c1, h1, r1, c2, h2, ⟨⟩, r2, h3, rfl⟩
end Oq3.Sema
