import Lean

/-- The normal form of token facts in the walk of the grammar for the work bounds (`pg_nf`): the token view
unfolded to the input arrays and the position, `at K` for a simple kind as a test of the current token, and the
facts about token classes (`hf_*`). -/
register_simp_attr tok_nf
