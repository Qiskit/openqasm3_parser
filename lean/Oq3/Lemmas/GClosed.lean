/-
Predicates on parser computations that every grammar function satisfies because the parser API
does: `GClosed H` lists what `H` has to be closed under, `Lemmas/GrammarClosed.lean` walks the
grammar once for all such `H`.
-/
import Oq3.Model.ParserApi

namespace Oq3.Parser
open Oq3.Gen

/-- closed under `pure` and `>>=`: enough for the Boolean combinators -/
structure MClosed (H : ∀ {α : Type}, G α → Prop) : Prop where
  pure : ∀ {α} (a : α), H (pure a : G α)
  bind : ∀ {α β} {x : G α} {f : α → G β}, H x → (∀ a, H (f a)) → H (x >>= f)

namespace MClosed
variable {H : ∀ {α : Type}, G α → Prop} (hH : MClosed H)
include hH

theorem andM {x y : G Bool} (hx : H x) (hy : H y) : H (x <&&> y) :=
  hH.bind hx fun b => by cases b; exact hH.pure _; exact hy

theorem orM {x y : G Bool} (hx : H x) (hy : H y) : H (x <||> y) :=
  hH.bind hx fun b => by cases b; exact hy; exact hH.pure _

theorem notM {x : G Bool} (hx : H x) : H (notM x) := by
  unfold _root_.notM
  rw [map_eq_pure_bind]
  exact hH.bind hx fun _ => hH.pure _

end MClosed

/-- What an instance supplies: `H` is kept by `pure`, by `>>=` (for every value passed on) and by
failure, and holds of the API primitives the grammar calls (`nth` only as `nth 1`).  `bump`,
`expect`, `errRecover` and `errAndBump` are composed of these and follow below. -/
structure GClosed (H : ∀ {α : Type}, G α → Prop) : Prop where
  pure : ∀ {α} (a : α), H (pure a : G α)
  bind : ∀ {α β} {x : G α} {f : α → G β}, H x → (∀ a, H (f a)) → H (x >>= f)
  fail : ∀ {α} (o : Outcome), H (fail o : G α)
  current : H current
  at' : ∀ k, H (at' k)
  atTs : ∀ ts, H (atTs ts)
  nth1 : H (nth 1)
  start : H start
  error : ∀ msg, H (error msg)
  eat : ∀ k, H (eat k)
  bumpAny : H bumpAny
  complete : ∀ m k, H (Marker.complete m k)
  abandon : ∀ m, H (Marker.abandon m)
  precede : ∀ cm, H (CompletedMarker.precede cm)
  extendTo : ∀ cm m, H (CompletedMarker.extendTo cm m)

theorem ite_closed {H : ∀ {α : Type}, G α → Prop} {α} (c : Prop) [Decidable c] {x y : G α}
    (hx : H x) (hy : H y) : H (if c then x else y) := by
  split <;> assumption

namespace GClosed
variable {H : ∀ {α : Type}, G α → Prop} (hH : GClosed H)
include hH

theorem panic {α} (site : String) : H (panic site : G α) := hH.fail (.panic site)

theorem toM : MClosed H := ⟨hH.pure, hH.bind⟩
theorem andM {x y : G Bool} (hx : H x) (hy : H y) : H (x <&&> y) := hH.toM.andM hx hy
theorem orM {x y : G Bool} (hx : H x) (hy : H y) : H (x <||> y) := hH.toM.orM hx hy
theorem notM {x : G Bool} (hx : H x) : H (notM x) := hH.toM.notM hx

theorem bump (k : SyntaxKind) : H (bump k) :=
  hH.bind (hH.eat k) fun _ => ite_closed _ (hH.panic _) (hH.pure _)

theorem expect (k : SyntaxKind) : H (expect k) :=
  hH.bind (hH.eat k) fun _ => ite_closed _ (hH.pure _) (hH.bind (hH.error _) fun _ => hH.pure _)

theorem errRecover (msg : String) (rec : TokenSet) : H (errRecover msg rec) :=
  have err : H (do Parser.error msg; Pure.pure ()) := hH.bind (hH.error _) fun _ => hH.pure _
  hH.bind hH.current fun _ => ite_closed _ err <| hH.bind (hH.atTs _) fun _ => ite_closed _ err <|
    hH.bind hH.start fun _ => hH.bind (hH.error _) fun _ => hH.bind hH.bumpAny fun _ =>
      hH.bind (hH.complete _ _) fun _ => hH.pure _

theorem errAndBump (msg : String) : H (errAndBump msg) := hH.errRecover msg []

end GClosed

/-- One step of the walk through the body of a grammar function, by the head symbol of the
computation: a rule of `h : GClosed H` or one derived above; for a call of a grammar function the
matching proof among `ts`; case analysis for a `match`.  Unification opens the join points of the
`do` notation.  The rules stand in the order of how often the grammar needs them. -/
macro "gclosed_step " h:ident " [" ts:term,* "]" : tactic => `(tactic| first
  | with_reducible refine GClosed.bind $h ?_ fun _ => ?_
  | with_reducible exact GClosed.pure $h _
  | with_reducible exact GClosed.complete $h _ _
  | with_reducible apply ite_closed
  | with_reducible exact GClosed.at' $h _
  | with_reducible exact GClosed.expect $h _
  | with_reducible exact GClosed.error $h _
  | with_reducible exact GClosed.start $h
  $[| with_reducible exact $ts]*
  | with_reducible exact GClosed.bumpAny $h
  | with_reducible exact GClosed.bump $h _
  | with_reducible exact GClosed.current $h
  | with_reducible exact GClosed.eat $h _
  | with_reducible exact GClosed.abandon $h _
  | with_reducible exact GClosed.panic $h _
  | with_reducible apply GClosed.notM $h
  | with_reducible apply GClosed.andM $h
  | with_reducible exact GClosed.atTs $h _
  | with_reducible apply GClosed.orM $h
  | with_reducible exact GClosed.nth1 $h
  | with_reducible exact GClosed.precede $h _
  | with_reducible exact GClosed.errRecover $h _ _
  | with_reducible exact GClosed.errAndBump $h _
  | with_reducible exact GClosed.extendTo $h _ _
  | split)

macro "gclosed " h:ident " [" ts:term,* "]" : tactic => `(tactic| repeat' gclosed_step $h [$ts,*])

end Oq3.Parser
