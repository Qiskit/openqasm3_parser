/-
C04 for a recursive reference language: the top level — `item` versus `stmt`
(`Props/C16.lean`: on item-first statements `item` is `stmt` plus a check for a stray `;`; on the
others it hands the whole rest of the input to the statement loop), one iteration of
`source_file_contents`, and `source_file` around it.
-/
import Oq3.Lemmas.LangEvProg
import Oq3.Props.C16
set_option linter.unusedSimpArgs false
set_option linter.unusedVariables false

namespace Oq3.LangEv
open Oq3.Gen Oq3.Parser Oq3.Grammar Oq3.SymExec Oq3.PrattEv Oq3.LangEv2
open Oq3.Gen.Ops (Assoc)

theorem item_of_stmt (g : Nat) (s : P) (n : Nat) (E : List Ev) (h : Acc (stmt (g + 1)) s n E)
    (hk : Oq3.Props.C16.itemFirst (s.kindAt s.pos) (s.kindAt (s.pos + 1)) = true)
    (hlet : s.kindAt s.pos ≠ .LET_KW) (hsemi : s.kindAt (s.pos + n) ≠ .SEMICOLON) :
    Acc (item (g + 1) false) s n E := by
  obtain ⟨st, sb, hle, hx⟩ := h
  refine ⟨st, sb, hle, ?_⟩
  rw [Oq3.Props.C16.dispatch_equiv_partial g s hk hlet, G.bind_apply, hx]
  simp only
  unfold Oq3.Props.C16.semiCheck
  rw [G.bind_apply, at_ov _ _ _ _ _ _ _ .SEMICOLON (by decide)]
  have : (s.kindAt (s.pos + n) == SyntaxKind.SEMICOLON) = false := beq_false_of_ne hsemi
  simp only [this, Bool.false_eq_true, if_false]
  rfl

theorem item_rest (g : Nat) (s : P) (hr : Rdy 8 s) (k0 : SyntaxKind) (h0 : s.kindAt (s.pos + 0) = k0)
    (hc : isClassicalType k0 = false) (hkw : Oq3.Props.C16.itemKeyword k0 = false) (h1 : k0 ≠ .R_CURLY) (h2 : k0 ≠ .EOF)
    (S'' : P)
    (hrest : exprBlockStatements (g + 1) (s.ov [] 0 (s.steps + 1) (s.sinceBump + 1) s.live s.protectedPos) = .ok ((), S'')) :
    item (g + 2) false s = .ok ((), S'') := by
  have hnp := hr.hook
  have hpr := hr.prot
  have hst : s.steps ≤ s.stepLimit := by have := hr.steps; omega
  have hopt := fun m E st sb lv pr h => optItem_other g m s E 0 st sb lv pr h (h0 ▸ hc) (h0 ▸ hkw)
  have b1 := beq_false_of_ne h1
  have b2 := beq_false_of_ne h2
  refine of_ov _ _ _ ?_
  sym_eval [filter_base s hpr, contains_base s hpr, h0, hopt, b1, b2, hrest]
  rfl

theorem sfc_nil (F : Nat) (s : P) (hk : s.kindAt s.pos = .EOF) : Acc (sourceFileContents (F + 1) false) s 0 [] := by
  refine ⟨s.steps, s.sinceBump, Nat.le_refl _, of_ov _ _ _ ?_⟩
  have h0 : s.kindAt (s.pos + 0) = .EOF := hk
  show _ = _
  sym_eval [h0]
  rfl

/-- acceptance without the bound on the step counter (for the top level) -/
def AccW (x : G Unit) (s : P) (n : Nat) (E : List Ev) : Prop :=
  ∃ st sb, x s = .ok ((), s.ov E n st sb s.live s.protectedPos)

theorem sfc_cons (F : Nat) (s : P) (n1 n2 : Nat) (E1 E2 : List Ev) (st1 sb1 : Nat)
    (hk1 : s.kindAt s.pos ≠ .EOF) (hk2 : s.kindAt s.pos ≠ .R_CURLY)
    (hx : item F false s = .ok ((), s.ov E1 n1 st1 sb1 s.live s.protectedPos))
    (h2 : AccW (sourceFileContents F false) (s.ov E1 n1 st1 sb1 s.live s.protectedPos) n2 E2) :
    AccW (sourceFileContents (F + 1) false) s (n1 + n2) (E1 ++ E2) := by
  obtain ⟨st2, sb2, hy⟩ := h2
  refine ⟨st2, sb2, of_ov _ _ _ ?_⟩
  have b1 : (s.kindAt (s.pos + 0) == SyntaxKind.EOF) = false := beq_false_of_ne hk1
  have b2 : (s.kindAt (s.pos + 0) == SyntaxKind.R_CURLY) = false := beq_false_of_ne hk2
  have hx' := to_ov hx
  rw [ov_ov] at hy
  have hy' : sourceFileContents F false (s.ov E1 n1 st1 sb1 s.live s.protectedPos) =
      .ok ((), s.ov (E1 ++ E2) (n1 + n2) st2 sb2 s.live s.protectedPos) := hy
  show _ = _
  sym_eval [b1, b2, hx', hy']
  rfl

theorem sourceFile_of_sfc (F : Nat) (s : P) {k : Nat} (hr : Rdy k s) (n : Nat) (E : List Ev)
    (h : AccW (sourceFileContents F false)
      (s.ov [.start .TOMBSTONE none] 0 s.steps (s.sinceBump + 1) (s.live + 1) s.protectedPos) n E) :
    AccW (sourceFile F) s n (.start .SOURCE_FILE none :: (E ++ [.finish])) := by
  have hnp := hr.hook
  have hpr := hr.prot
  obtain ⟨st, sb, hrun⟩ := h
  rw [ov_ov] at hrun
  have hrun' : sourceFileContents F false (s.ov [Ev.start SyntaxKind.TOMBSTONE none] 0 s.steps (s.sinceBump + 1) (s.live + 1) s.protectedPos) =
      .ok ((), s.ov ([Ev.start SyntaxKind.TOMBSTONE none] ++ E) (0 + n) st sb (s.live + 1) s.protectedPos) := hrun
  refine ⟨st, sb + 1, of_ov _ _ _ ?_⟩
  unfold sourceFile
  sym_eval [filter_base s hpr, hrun']
  exact ok_ov_congr _ _ _ _ _ _ _ _ _ _ _ rfl rfl (by omega)

end Oq3.LangEv
