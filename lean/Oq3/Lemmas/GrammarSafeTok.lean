/- GENERATED by /verif/tools/gen_grammar_safe.py from Oq3/Model/Grammar.lean — the proofs are checked by Lean. -/
import Oq3.Lemmas.SafeTok
set_option linter.unusedVariables false

namespace Oq3.Grammar
open Oq3.Gen Oq3.Parser
open Oq3.Gen.Ops (Assoc)
open Oq3.Gen.TokenSets

theorem nameR_tok (recovery : TokenSet) (s : P) (hpre : True) :
    wp A1 (nameR recovery) (fun _ _ => True) s :=
  TW.field (pre := fun _ => True) (fun v hpre => by unfold nameR; tw []) s hpre

theorem name_tok (s : P) (hpre : True) :
    wp A1 (name) (fun _ _ => True) s :=
  TW.field (pre := fun _ => True) (fun v hpre => by unfold name; tw [nameR (TW.call0 (nameR_tok _))]) s hpre

theorem break__tok (m : Marker) (s : P) (hpre : atF .BREAK_KW s.kinds s.joint s.pos = true) :
    wp A1 (break_ m) (fun _ _ => True) s :=
  TW.field (pre := fun v => atF .BREAK_KW v.1 v.2.1 v.2.2 = true) (fun v hpre => by unfold break_; tw []) s hpre

theorem continue__tok (m : Marker) (s : P) (hpre : atF .CONTINUE_KW s.kinds s.joint s.pos = true) :
    wp A1 (continue_ m) (fun _ _ => True) s :=
  TW.field (pre := fun v => atF .CONTINUE_KW v.1 v.2.1 v.2.2 = true) (fun v hpre => by unfold continue_; tw []) s hpre

theorem end__tok (m : Marker) (s : P) (hpre : atF .END_KW s.kinds s.joint s.pos = true) :
    wp A1 (end_ m) (fun _ _ => True) s :=
  TW.field (pre := fun v => atF .END_KW v.1 v.2.1 v.2.2 = true) (fun v hpre => by unfold end_; tw []) s hpre

theorem filepathR_tok (recovery : TokenSet) (s : P) (hpre : True) :
    wp A1 (filepathR recovery) (fun _ _ => True) s :=
  TW.field (pre := fun _ => True) (fun v hpre => by unfold filepathR; tw []) s hpre

theorem defcalgrammar__tok (m : Marker) (s : P) (hpre : atF .DEFCALGRAMMAR_KW s.kinds s.joint s.pos = true) :
    wp A1 (defcalgrammar_ m) (fun _ _ => True) s :=
  TW.field (pre := fun v => atF .DEFCALGRAMMAR_KW v.1 v.2.1 v.2.2 = true) (fun v hpre => by unfold defcalgrammar_; tw [filepathR (TW.call0 (filepathR_tok _))]) s hpre

theorem include'_tok (m : Marker) (s : P) (hpre : atF .INCLUDE_KW s.kinds s.joint s.pos = true) :
    wp A1 (include' m) (fun _ _ => True) s :=
  TW.field (pre := fun v => atF .INCLUDE_KW v.1 v.2.1 v.2.2 = true) (fun v hpre => by unfold include'; tw [filepathR (TW.call0 (filepathR_tok _))]) s hpre

theorem version__tok (s : P) (hpre : True) :
    wp A1 (version_) (fun _ _ => True) s :=
  TW.field (pre := fun _ => True) (fun v hpre => by unfold version_; tw []) s hpre

theorem versionString_tok (m : Marker) (s : P) (hpre : atF .O_P_E_N_Q_A_S_M_KW s.kinds s.joint s.pos = true) :
    wp A1 (versionString m) (fun _ _ => True) s :=
  TW.field (pre := fun v => atF .O_P_E_N_Q_A_S_M_KW v.1 v.2.1 v.2.2 = true) (fun v hpre => by unfold versionString; tw [version_ (TW.call0 version__tok)]) s hpre

theorem varName_tok (s : P) (hpre : True) :
    wp A1 (varName) (fun _ _ => True) s :=
  TW.field (pre := fun _ => True) (fun v hpre => by unfold varName; tw []) s hpre

theorem identifier_tok (s : P) (hpre : True) :
    wp A1 (identifier) (fun _ _ => True) s :=
  TW.field (pre := fun _ => True) (fun v hpre => by unfold identifier; tw []) s hpre

theorem hardwareQubit_tok (s : P) (hpre : atF .HARDWAREIDENT s.kinds s.joint s.pos = true) :
    wp A1 (hardwareQubit) (fun _ _ => True) s :=
  TW.field (pre := fun v => atF .HARDWAREIDENT v.1 v.2.1 v.2.2 = true) (fun v hpre => by unfold hardwareQubit; tw []) s hpre

theorem literal_tok (s : P) (hpre : True) :
    wp A1 (literal) (fun _ _ => True) s :=
  TW.field (pre := fun _ => True) (fun v hpre => by unfold literal; tw [identifier (TW.call0 identifier_tok)]) s hpre

theorem atListEndToken_tok (flavor : DefFlavor) (s : P) (hpre : True) :
    wp A1 (atListEndToken flavor) (fun _ _ => True) s :=
  TW.field (pre := fun _ => True) (fun v hpre => by unfold atListEndToken; tw []) s hpre

theorem paramUntyped_tok (m : Marker) (s : P) (hpre : True) :
    wp A1 (paramUntyped m) (fun _ _ => True) s :=
  TW.field (pre := fun _ => True) (fun v hpre => by unfold paramUntyped; tw []) s hpre

theorem paramUntypedOrHardwareQubit_tok (m : Marker) (s : P) (hpre : True) :
    wp A1 (paramUntypedOrHardwareQubit m) (fun _ _ => True) s :=
  TW.field (pre := fun _ => True) (fun v hpre => by unfold paramUntypedOrHardwareQubit; tw [hardwareQubit (TW.call (pre := fun v => atF .HARDWAREIDENT v.1 v.2.1 v.2.2 = true) hardwareQubit_tok)]) s hpre

theorem bumpUntilEof_tok (n : Nat) (s : P) : wp A1 (bumpUntilEof n) (fun _ _ => True) s := by
  induction n generalizing s with
  | zero => unfold bumpUntilEof; exact wp_fail (by decide)
  | succ n ih =>
    unfold bumpUntilEof
    apply wp_bind; apply wp_at
    split
    · apply wp_bind; apply wp1_bumpAny; intro s'; exact ih s'
    · exact wp_pure trivial

/-- all functions of the mutual block at one fuel level -/
structure AllTok (fuel : Nat) : Prop where
  optReturnSignature : ∀  (s : P), True → wp A1 (Oq3.Grammar.optReturnSignature fuel ) (fun _ _ => True) s
  delimited : ∀ (bra ket : SyntaxKind) (consumeBraket : Bool) (delim : SyntaxKind) (firstSet : TokenSet) (parser : DelimitedParser) (s : P), (consumeBraket = false ∧ (delim == SyntaxKind.EOF) = false) → wp A1 (Oq3.Grammar.delimited fuel bra ket consumeBraket delim firstSet parser) (fun _ _ => True) s
  delimitedLoop : ∀ (ket delim : SyntaxKind) (firstSet : TokenSet) (parser : DelimitedParser) (s : P), (delim == SyntaxKind.EOF) = false → wp A1 (Oq3.Grammar.delimitedLoop fuel ket delim firstSet parser) (fun _ _ => True) s
  delimitedParser : ∀ (parser : DelimitedParser) (s : P), True → wp A1 (Oq3.Grammar.delimitedParser fuel parser) (fun _ _ => True) s
  sourceFileContents : ∀ (stopOnRCurly : Bool) (s : P), True → wp A1 (Oq3.Grammar.sourceFileContents fuel stopOnRCurly) (fun _ _ => True) s
  item : ∀ (stopOnRCurly : Bool) (s : P), True → wp A1 (Oq3.Grammar.item fuel stopOnRCurly) (fun _ _ => True) s
  optItem : ∀ (m : Marker) (s : P), True → wp A1 (Oq3.Grammar.optItem fuel m) (fun _ _ => True) s
  switchCaseStmt : ∀ (m : Marker) (s : P), atF .SWITCH_KW s.kinds s.joint s.pos = true → wp A1 (Oq3.Grammar.switchCaseStmt fuel m) (fun _ _ => True) s
  switchCaseLoop : ∀  (s : P), True → wp A1 (Oq3.Grammar.switchCaseLoop fuel ) (fun _ _ => True) s
  blockOrStatement : ∀  (s : P), True → wp A1 (Oq3.Grammar.blockOrStatement fuel ) (fun _ _ => True) s
  ifStmt : ∀ (m : Marker) (s : P), atF .IF_KW s.kinds s.joint s.pos = true → wp A1 (Oq3.Grammar.ifStmt fuel m) (fun _ _ => True) s
  whileStmt : ∀ (m : Marker) (s : P), atF .WHILE_KW s.kinds s.joint s.pos = true → wp A1 (Oq3.Grammar.whileStmt fuel m) (fun _ _ => True) s
  forStmt : ∀ (m : Marker) (s : P), atF .FOR_KW s.kinds s.joint s.pos = true → wp A1 (Oq3.Grammar.forStmt fuel m) (fun _ _ => True) s
  qubitDeclarationStmt : ∀ (m : Marker) (s : P), atF .QUBIT_KW s.kinds s.joint s.pos = true → wp A1 (Oq3.Grammar.qubitDeclarationStmt fuel m) (fun _ _ => True) s
  resetStmt : ∀ (m : Marker) (s : P), atF .RESET_KW s.kinds s.joint s.pos = true → wp A1 (Oq3.Grammar.resetStmt fuel m) (fun _ _ => True) s
  gateDefinition : ∀ (m : Marker) (s : P), atF .GATE_KW s.kinds s.joint s.pos = true → wp A1 (Oq3.Grammar.gateDefinition fuel m) (fun _ _ => True) s
  defcal_ : ∀ (m : Marker) (s : P), atF .DEFCAL_KW s.kinds s.joint s.pos = true → wp A1 (Oq3.Grammar.defcal_ fuel m) (fun _ _ => True) s
  returnsBoolClassicalDeclarationStmt : ∀ (m : Marker) (s : P), True → wp A1 (Oq3.Grammar.returnsBoolClassicalDeclarationStmt fuel m) (fun _ _ => True) s
  classicalDeclarationStmt : ∀ (m : Marker) (s : P), True → wp A1 (Oq3.Grammar.classicalDeclarationStmt fuel m) (fun _ _ => True) s
  ioDeclarationStmt : ∀ (m : Marker) (s : P), True → wp A1 (Oq3.Grammar.ioDeclarationStmt fuel m) (fun _ _ => True) s
  defStmt : ∀ (m : Marker) (s : P), atF .DEF_KW s.kinds s.joint s.pos = true → wp A1 (Oq3.Grammar.defStmt fuel m) (fun _ _ => True) s
  externStmt : ∀ (m : Marker) (s : P), atF .EXTERN_KW s.kinds s.joint s.pos = true → wp A1 (Oq3.Grammar.externStmt fuel m) (fun _ _ => True) s
  cal_ : ∀ (m : Marker) (s : P), atF .CAL_KW s.kinds s.joint s.pos = true → wp A1 (Oq3.Grammar.cal_ fuel m) (fun _ _ => True) s
  barrier_ : ∀ (m : Marker) (s : P), atF .BARRIER_KW s.kinds s.joint s.pos = true → wp A1 (Oq3.Grammar.barrier_ fuel m) (fun _ _ => True) s
  delayStmt : ∀ (m : Marker) (s : P), atF .DELAY_KW s.kinds s.joint s.pos = true → wp A1 (Oq3.Grammar.delayStmt fuel m) (fun _ _ => True) s
  aliasStmt : ∀ (m : Marker) (s : P), atF .LET_KW s.kinds s.joint s.pos = true → wp A1 (Oq3.Grammar.aliasStmt fuel m) (fun _ _ => True) s
  expr : ∀  (s : P), True → wp A1 (Oq3.Grammar.expr fuel ) (fun _ _ => True) s
  rangeExpr : ∀  (s : P), atF .L_BRACK s.kinds s.joint s.pos = true → wp A1 (Oq3.Grammar.rangeExpr fuel ) (fun _ _ => True) s
  exprOrRangeExpr : ∀  (s : P), True → wp A1 (Oq3.Grammar.exprOrRangeExpr fuel ) (fun _ _ => True) s
  exprStmt : ∀ (m : Option Marker) (s : P), True → wp A1 (Oq3.Grammar.exprStmt fuel m) (fun _ _ => True) s
  stmt : ∀  (s : P), True → wp A1 (Oq3.Grammar.stmt fuel ) (fun _ _ => True) s
  letStmt : ∀ (m : Marker) (s : P), atF .LET_KW s.kinds s.joint s.pos = true → wp A1 (Oq3.Grammar.letStmt fuel m) (fun _ _ => True) s
  qOrCRegParam : ∀  (s : P), True → wp A1 (Oq3.Grammar.qOrCRegParam fuel ) (fun _ _ => True) s
  qOrCRegDeclaration : ∀ (m : Marker) (s : P), True → wp A1 (Oq3.Grammar.qOrCRegDeclaration fuel m) (fun _ _ => True) s
  exprBlockStatements : ∀  (s : P), True → wp A1 (Oq3.Grammar.exprBlockStatements fuel ) (fun _ _ => True) s
  exprBp : ∀ (m : Option Marker) (r : Restrictions) (bp : Nat) (s : P), 1 ≤ bp → wp A1 (Oq3.Grammar.exprBp fuel m r bp) (fun _ _ => True) s
  exprBpLoop : ∀ (r : Restrictions) (bp : Nat) (lhs : CompletedMarker) (s : P), 1 ≤ bp → wp A1 (Oq3.Grammar.exprBpLoop fuel r bp lhs) (fun _ _ => True) s
  lhs : ∀ (r : Restrictions) (s : P), True → wp A1 (Oq3.Grammar.lhs fuel r) (fun _ _ => True) s
  postfixExpr : ∀ (lhs : CompletedMarker) (blockLike : BlockLike) (allowCalls : Bool) (s : P), True → wp A1 (Oq3.Grammar.postfixExpr fuel lhs blockLike allowCalls) (fun _ _ => True) s
  callExpr : ∀ (lhs : CompletedMarker) (s : P), atF .L_PAREN s.kinds s.joint s.pos = true → wp A1 (Oq3.Grammar.callExpr fuel lhs) (fun _ _ => True) s
  paramTypeSpec : ∀  (s : P), True → wp A1 (Oq3.Grammar.paramTypeSpec fuel ) (fun _ _ => True) s
  typeSpec : ∀  (s : P), True → wp A1 (Oq3.Grammar.typeSpec fuel ) (fun _ _ => True) s
  arrayTypeSpec : ∀ (wantArrayRefType : Bool) (s : P), (wantArrayRefType = false → atF .ARRAY_KW s.kinds s.joint s.pos = true) → wp A1 (Oq3.Grammar.arrayTypeSpec fuel wantArrayRefType) (fun _ _ => True) s
  arrayTypeDimsLoop : ∀  (s : P), True → wp A1 (Oq3.Grammar.arrayTypeDimsLoop fuel ) (fun _ _ => True) s
  nonArrayTypeSpec : ∀  (s : P), True → wp A1 (Oq3.Grammar.nonArrayTypeSpec fuel ) (fun _ _ => True) s
  complexTypeSpec : ∀  (s : P), atF .COMPLEX_TY s.kinds s.joint s.pos = true → wp A1 (Oq3.Grammar.complexTypeSpec fuel ) (fun _ _ => True) s
  qubitTypeSpec : ∀  (s : P), atF .QUBIT_KW s.kinds s.joint s.pos = true → wp A1 (Oq3.Grammar.qubitTypeSpec fuel ) (fun _ _ => True) s
  designator : ∀  (s : P), atF .L_BRACK s.kinds s.joint s.pos = true → wp A1 (Oq3.Grammar.designator fuel ) (fun _ _ => True) s
  indexExpr : ∀ (lhs : CompletedMarker) (s : P), atF .L_BRACK s.kinds s.joint s.pos = true → wp A1 (Oq3.Grammar.indexExpr fuel lhs) (fun _ _ => True) s
  indexedIdentifier : ∀ (lhs : CompletedMarker) (s : P), atF .L_BRACK s.kinds s.joint s.pos = true → wp A1 (Oq3.Grammar.indexedIdentifier fuel lhs) (fun _ _ => True) s
  indexedIdentifierLoop : ∀  (s : P), True → wp A1 (Oq3.Grammar.indexedIdentifierLoop fuel ) (fun _ _ => True) s
  setExpression : ∀  (s : P), atF .L_CURLY s.kinds s.joint s.pos = true → wp A1 (Oq3.Grammar.setExpression fuel ) (fun _ _ => True) s
  indexOperator : ∀  (s : P), atF .L_BRACK s.kinds s.joint s.pos = true → wp A1 (Oq3.Grammar.indexOperator fuel ) (fun _ _ => True) s
  callArgList : ∀  (s : P), atF .L_PAREN s.kinds s.joint s.pos = true → wp A1 (Oq3.Grammar.callArgList fuel ) (fun _ _ => True) s
  atomExpr : ∀ (_r : Restrictions) (s : P), True → wp A1 (Oq3.Grammar.atomExpr fuel _r) (fun _ _ => True) s
  castExpr : ∀  (s : P), True → wp A1 (Oq3.Grammar.castExpr fuel ) (fun _ _ => True) s
  gphaseCallExpr : ∀  (s : P), atF .GPHASE_KW s.kinds s.joint s.pos = true → wp A1 (Oq3.Grammar.gphaseCallExpr fuel ) (fun _ _ => True) s
  modifiedGateCallExpr : ∀  (s : P), True → wp A1 (Oq3.Grammar.modifiedGateCallExpr fuel ) (fun _ _ => True) s
  modifiedGateCallExprLoop : ∀  (s : P), True → wp A1 (Oq3.Grammar.modifiedGateCallExprLoop fuel ) (fun _ _ => True) s
  gateCallExpr : ∀  (s : P), True → wp A1 (Oq3.Grammar.gateCallExpr fuel ) (fun _ _ => True) s
  measureExpression : ∀  (s : P), atF .MEASURE_KW s.kinds s.joint s.pos = true → wp A1 (Oq3.Grammar.measureExpression fuel ) (fun _ _ => True) s
  tupleExpr : ∀  (s : P), atF .L_PAREN s.kinds s.joint s.pos = true → wp A1 (Oq3.Grammar.tupleExpr fuel ) (fun _ _ => True) s
  tupleExprLoop : ∀ (sawComma sawExpr : Bool) (s : P), True → wp A1 (Oq3.Grammar.tupleExprLoop fuel sawComma sawExpr) (fun _ _ => True) s
  arrayExpr : ∀  (s : P), atF .L_BRACK s.kinds s.joint s.pos = true → wp A1 (Oq3.Grammar.arrayExpr fuel ) (fun _ _ => True) s
  arrayExprLoop : ∀ (nExprs : Nat) (hasSemi : Bool) (s : P), True → wp A1 (Oq3.Grammar.arrayExprLoop fuel nExprs hasSemi) (fun _ _ => True) s
  tryBlockExpr : ∀  (s : P), True → wp A1 (Oq3.Grammar.tryBlockExpr fuel ) (fun _ _ => True) s
  blockExpr : ∀  (s : P), atF .L_CURLY s.kinds s.joint s.pos = true → wp A1 (Oq3.Grammar.blockExpr fuel ) (fun _ _ => True) s
  returnExpr : ∀  (s : P), atF .RETURN_KW s.kinds s.joint s.pos = true → wp A1 (Oq3.Grammar.returnExpr fuel ) (fun _ _ => True) s
  boxExpr : ∀ (m : Option Marker) (s : P), atF .BOX_KW s.kinds s.joint s.pos = true → wp A1 (Oq3.Grammar.boxExpr fuel m) (fun _ _ => True) s
  paramListGateParams : ∀  (s : P), True → wp A1 (Oq3.Grammar.paramListGateParams fuel ) (fun _ _ => True) s
  paramListGateQubits : ∀  (s : P), True → wp A1 (Oq3.Grammar.paramListGateQubits fuel ) (fun _ _ => True) s
  argListGateCallQubits : ∀  (s : P), True → wp A1 (Oq3.Grammar.argListGateCallQubits fuel ) (fun _ _ => True) s
  paramListDefParams : ∀  (s : P), True → wp A1 (Oq3.Grammar.paramListDefParams fuel ) (fun _ _ => True) s
  scalarTypeList : ∀  (s : P), True → wp A1 (Oq3.Grammar.scalarTypeList fuel ) (fun _ _ => True) s
  paramListDefcalParams : ∀  (s : P), True → wp A1 (Oq3.Grammar.paramListDefcalParams fuel ) (fun _ _ => True) s
  paramListDefcalQubits : ∀  (s : P), True → wp A1 (Oq3.Grammar.paramListDefcalQubits fuel ) (fun _ _ => True) s
  expressionList : ∀  (s : P), True → wp A1 (Oq3.Grammar.expressionList fuel ) (fun _ _ => True) s
  caseValueList : ∀  (s : P), True → wp A1 (Oq3.Grammar.caseValueList fuel ) (fun _ _ => True) s
  arrayLiteral : ∀  (s : P), True → wp A1 (Oq3.Grammar.arrayLiteral fuel ) (fun _ _ => True) s
  paramListOpenqasm : ∀ (flavor : DefFlavor) (s : P), True → wp A1 (Oq3.Grammar.paramListOpenqasm fuel flavor) (fun _ _ => True) s
  paramListOpenqasmLoop : ∀ (flavor : DefFlavor) (numParams : Nat) (s : P), True → wp A1 (Oq3.Grammar.paramListOpenqasmLoop fuel flavor numParams) (fun _ _ => True) s
  paramListItem : ∀ (flavor : DefFlavor) (m : Marker) (innerArrayLiteral : Bool) (s : P), True → wp A1 (Oq3.Grammar.paramListItem fuel flavor m innerArrayLiteral) (fun _ _ => True) s
  paramTyped : ∀ (m : Marker) (s : P), True → wp A1 (Oq3.Grammar.paramTyped fuel m) (fun _ _ => True) s
  scalarType : ∀ (m : Marker) (s : P), True → wp A1 (Oq3.Grammar.scalarType fuel m) (fun _ _ => True) s
  argGateCallQubit : ∀ (m : Marker) (s : P), True → wp A1 (Oq3.Grammar.argGateCallQubit fuel m) (fun _ _ => True) s

theorem optReturnSignature_tokstep {fuel : Nat} (ih : AllTok fuel) (s : P) (hpre : True) :
    wp A1 (Oq3.Grammar.optReturnSignature (fuel + 1)) (fun _ _ => True) s :=
  TW.field (pre := fun _ => True) (fun v hpre => by unfold Oq3.Grammar.optReturnSignature; tw [typeSpec (TW.call0 ih.typeSpec)]) s hpre

theorem delimited_tokstep {fuel : Nat} (ih : AllTok fuel) (bra ket : SyntaxKind) (consumeBraket : Bool) (delim : SyntaxKind) (firstSet : TokenSet) (parser : DelimitedParser) (s : P) (hpre : (consumeBraket = false ∧ (delim == SyntaxKind.EOF) = false)) :
    wp A1 (Oq3.Grammar.delimited (fuel + 1) bra ket consumeBraket delim firstSet parser) (fun _ _ => True) s :=
  TW.field (pre := fun _ => (consumeBraket = false ∧ (delim == SyntaxKind.EOF) = false)) (fun v hpre => by unfold Oq3.Grammar.delimited; tw [delimitedLoop (TW.call (pre := fun _ => (_ == SyntaxKind.EOF) = false) (ih.delimitedLoop _ _ _ _))]) s hpre

theorem delimitedLoop_tokstep {fuel : Nat} (ih : AllTok fuel) (ket delim : SyntaxKind) (firstSet : TokenSet) (parser : DelimitedParser) (s : P) (hpre : (delim == SyntaxKind.EOF) = false) :
    wp A1 (Oq3.Grammar.delimitedLoop (fuel + 1) ket delim firstSet parser) (fun _ _ => True) s :=
  TW.field (pre := fun _ => (delim == SyntaxKind.EOF) = false) (fun v hpre => by unfold Oq3.Grammar.delimitedLoop; tw [delimitedLoop (TW.call (pre := fun _ => (_ == SyntaxKind.EOF) = false) (ih.delimitedLoop _ _ _ _)), delimitedParser (TW.call0 (ih.delimitedParser _))]) s hpre

theorem delimitedParser_tokstep {fuel : Nat} (ih : AllTok fuel) (parser : DelimitedParser) (s : P) (hpre : True) :
    wp A1 (Oq3.Grammar.delimitedParser (fuel + 1) parser) (fun _ _ => True) s :=
  TW.field (pre := fun _ => True) (fun v hpre => by unfold Oq3.Grammar.delimitedParser; tw [expr (TW.call0 ih.expr)]) s hpre

theorem sourceFileContents_tokstep {fuel : Nat} (ih : AllTok fuel) (stopOnRCurly : Bool) (s : P) (hpre : True) :
    wp A1 (Oq3.Grammar.sourceFileContents (fuel + 1) stopOnRCurly) (fun _ _ => True) s :=
  TW.field (pre := fun _ => True) (fun v hpre => by unfold Oq3.Grammar.sourceFileContents; tw [sourceFileContents (TW.call0 (ih.sourceFileContents _)), item (TW.call0 (ih.item _))]) s hpre

theorem item_tokstep {fuel : Nat} (ih : AllTok fuel) (stopOnRCurly : Bool) (s : P) (hpre : True) :
    wp A1 (Oq3.Grammar.item (fuel + 1) stopOnRCurly) (fun _ _ => True) s :=
  TW.field (pre := fun _ => True) (fun v hpre => by unfold Oq3.Grammar.item; tw [optItem (TW.call0 (ih.optItem _)), exprBlockStatements (TW.call0 ih.exprBlockStatements)]) s hpre

theorem optItem_tokstep {fuel : Nat} (ih : AllTok fuel) (m : Marker) (s : P) (hpre : True) :
    wp A1 (Oq3.Grammar.optItem (fuel + 1) m) (fun _ _ => True) s :=
  TW.field (pre := fun _ => True) (fun v hpre => by unfold Oq3.Grammar.optItem; tw [break_ (TW.call (pre := fun v => atF .BREAK_KW v.1 v.2.1 v.2.2 = true) (break__tok _)), continue_ (TW.call (pre := fun v => atF .CONTINUE_KW v.1 v.2.1 v.2.2 = true) (continue__tok _)), end_ (TW.call (pre := fun v => atF .END_KW v.1 v.2.1 v.2.2 = true) (end__tok _)), defcalgrammar_ (TW.call (pre := fun v => atF .DEFCALGRAMMAR_KW v.1 v.2.1 v.2.2 = true) (defcalgrammar__tok _)), include' (TW.call (pre := fun v => atF .INCLUDE_KW v.1 v.2.1 v.2.2 = true) (include'_tok _)), versionString (TW.call (pre := fun v => atF .O_P_E_N_Q_A_S_M_KW v.1 v.2.1 v.2.2 = true) (versionString_tok _)), switchCaseStmt (TW.call (pre := fun v => atF .SWITCH_KW v.1 v.2.1 v.2.2 = true) (ih.switchCaseStmt _)), ifStmt (TW.call (pre := fun v => atF .IF_KW v.1 v.2.1 v.2.2 = true) (ih.ifStmt _)), whileStmt (TW.call (pre := fun v => atF .WHILE_KW v.1 v.2.1 v.2.2 = true) (ih.whileStmt _)), forStmt (TW.call (pre := fun v => atF .FOR_KW v.1 v.2.1 v.2.2 = true) (ih.forStmt _)), qubitDeclarationStmt (TW.call (pre := fun v => atF .QUBIT_KW v.1 v.2.1 v.2.2 = true) (ih.qubitDeclarationStmt _)), resetStmt (TW.call (pre := fun v => atF .RESET_KW v.1 v.2.1 v.2.2 = true) (ih.resetStmt _)), gateDefinition (TW.call (pre := fun v => atF .GATE_KW v.1 v.2.1 v.2.2 = true) (ih.gateDefinition _)), defcal_ (TW.call (pre := fun v => atF .DEFCAL_KW v.1 v.2.1 v.2.2 = true) (ih.defcal_ _)), classicalDeclarationStmt (TW.call0 (ih.classicalDeclarationStmt _)), ioDeclarationStmt (TW.call0 (ih.ioDeclarationStmt _)), defStmt (TW.call (pre := fun v => atF .DEF_KW v.1 v.2.1 v.2.2 = true) (ih.defStmt _)), externStmt (TW.call (pre := fun v => atF .EXTERN_KW v.1 v.2.1 v.2.2 = true) (ih.externStmt _)), cal_ (TW.call (pre := fun v => atF .CAL_KW v.1 v.2.1 v.2.2 = true) (ih.cal_ _)), barrier_ (TW.call (pre := fun v => atF .BARRIER_KW v.1 v.2.1 v.2.2 = true) (ih.barrier_ _)), delayStmt (TW.call (pre := fun v => atF .DELAY_KW v.1 v.2.1 v.2.2 = true) (ih.delayStmt _)), aliasStmt (TW.call (pre := fun v => atF .LET_KW v.1 v.2.1 v.2.2 = true) (ih.aliasStmt _))]) s hpre

theorem switchCaseStmt_tokstep {fuel : Nat} (ih : AllTok fuel) (m : Marker) (s : P) (hpre : atF .SWITCH_KW s.kinds s.joint s.pos = true) :
    wp A1 (Oq3.Grammar.switchCaseStmt (fuel + 1) m) (fun _ _ => True) s :=
  TW.field (pre := fun v => atF .SWITCH_KW v.1 v.2.1 v.2.2 = true) (fun v hpre => by unfold Oq3.Grammar.switchCaseStmt; tw [switchCaseLoop (TW.call0 ih.switchCaseLoop), expr (TW.call0 ih.expr), tryBlockExpr (TW.call0 ih.tryBlockExpr)]) s hpre

theorem switchCaseLoop_tokstep {fuel : Nat} (ih : AllTok fuel) (s : P) (hpre : True) :
    wp A1 (Oq3.Grammar.switchCaseLoop (fuel + 1)) (fun _ _ => True) s :=
  TW.field (pre := fun _ => True) (fun v hpre => by unfold Oq3.Grammar.switchCaseLoop; tw [switchCaseLoop (TW.call0 ih.switchCaseLoop), tryBlockExpr (TW.call0 ih.tryBlockExpr), caseValueList (TW.call0 ih.caseValueList)]) s hpre

theorem blockOrStatement_tokstep {fuel : Nat} (ih : AllTok fuel) (s : P) (hpre : True) :
    wp A1 (Oq3.Grammar.blockOrStatement (fuel + 1)) (fun _ _ => True) s :=
  TW.field (pre := fun _ => True) (fun v hpre => by unfold Oq3.Grammar.blockOrStatement; tw [stmt (TW.call0 ih.stmt), blockExpr (TW.call (pre := fun v => atF .L_CURLY v.1 v.2.1 v.2.2 = true) ih.blockExpr)]) s hpre

theorem ifStmt_tokstep {fuel : Nat} (ih : AllTok fuel) (m : Marker) (s : P) (hpre : atF .IF_KW s.kinds s.joint s.pos = true) :
    wp A1 (Oq3.Grammar.ifStmt (fuel + 1) m) (fun _ _ => True) s :=
  TW.field (pre := fun v => atF .IF_KW v.1 v.2.1 v.2.2 = true) (fun v hpre => by unfold Oq3.Grammar.ifStmt; tw [blockOrStatement (TW.call0 ih.blockOrStatement), ifStmt (TW.call (pre := fun v => atF .IF_KW v.1 v.2.1 v.2.2 = true) (ih.ifStmt _)), expr (TW.call0 ih.expr)]) s hpre

theorem whileStmt_tokstep {fuel : Nat} (ih : AllTok fuel) (m : Marker) (s : P) (hpre : atF .WHILE_KW s.kinds s.joint s.pos = true) :
    wp A1 (Oq3.Grammar.whileStmt (fuel + 1) m) (fun _ _ => True) s :=
  TW.field (pre := fun v => atF .WHILE_KW v.1 v.2.1 v.2.2 = true) (fun v hpre => by unfold Oq3.Grammar.whileStmt; tw [blockOrStatement (TW.call0 ih.blockOrStatement), expr (TW.call0 ih.expr)]) s hpre

theorem forStmt_tokstep {fuel : Nat} (ih : AllTok fuel) (m : Marker) (s : P) (hpre : atF .FOR_KW s.kinds s.joint s.pos = true) :
    wp A1 (Oq3.Grammar.forStmt (fuel + 1) m) (fun _ _ => True) s :=
  TW.field (pre := fun v => atF .FOR_KW v.1 v.2.1 v.2.2 = true) (fun v hpre => by unfold Oq3.Grammar.forStmt; tw [name (TW.call0 name_tok), blockOrStatement (TW.call0 ih.blockOrStatement), expr (TW.call0 ih.expr), rangeExpr (TW.call (pre := fun v => atF .L_BRACK v.1 v.2.1 v.2.2 = true) ih.rangeExpr), typeSpec (TW.call0 ih.typeSpec), setExpression (TW.call (pre := fun v => atF .L_CURLY v.1 v.2.1 v.2.2 = true) ih.setExpression)]) s hpre

theorem qubitDeclarationStmt_tokstep {fuel : Nat} (ih : AllTok fuel) (m : Marker) (s : P) (hpre : atF .QUBIT_KW s.kinds s.joint s.pos = true) :
    wp A1 (Oq3.Grammar.qubitDeclarationStmt (fuel + 1) m) (fun _ _ => True) s :=
  TW.field (pre := fun v => atF .QUBIT_KW v.1 v.2.1 v.2.2 = true) (fun v hpre => by unfold Oq3.Grammar.qubitDeclarationStmt; tw [varName (TW.call0 varName_tok), hardwareQubit (TW.call (pre := fun v => atF .HARDWAREIDENT v.1 v.2.1 v.2.2 = true) hardwareQubit_tok), qubitTypeSpec (TW.call (pre := fun v => atF .QUBIT_KW v.1 v.2.1 v.2.2 = true) ih.qubitTypeSpec)]) s hpre

theorem resetStmt_tokstep {fuel : Nat} (ih : AllTok fuel) (m : Marker) (s : P) (hpre : atF .RESET_KW s.kinds s.joint s.pos = true) :
    wp A1 (Oq3.Grammar.resetStmt (fuel + 1) m) (fun _ _ => True) s :=
  TW.field (pre := fun v => atF .RESET_KW v.1 v.2.1 v.2.2 = true) (fun v hpre => by unfold Oq3.Grammar.resetStmt; tw [argGateCallQubit (TW.call0 (ih.argGateCallQubit _))]) s hpre

theorem gateDefinition_tokstep {fuel : Nat} (ih : AllTok fuel) (m : Marker) (s : P) (hpre : atF .GATE_KW s.kinds s.joint s.pos = true) :
    wp A1 (Oq3.Grammar.gateDefinition (fuel + 1) m) (fun _ _ => True) s :=
  TW.field (pre := fun v => atF .GATE_KW v.1 v.2.1 v.2.2 = true) (fun v hpre => by unfold Oq3.Grammar.gateDefinition; tw [nameR (TW.call0 (nameR_tok _)), tryBlockExpr (TW.call0 ih.tryBlockExpr), paramListGateParams (TW.call0 ih.paramListGateParams), paramListGateQubits (TW.call0 ih.paramListGateQubits)]) s hpre

theorem defcal__tokstep {fuel : Nat} (ih : AllTok fuel) (m : Marker) (s : P) (hpre : atF .DEFCAL_KW s.kinds s.joint s.pos = true) :
    wp A1 (Oq3.Grammar.defcal_ (fuel + 1) m) (fun _ _ => True) s :=
  TW.field (pre := fun v => atF .DEFCAL_KW v.1 v.2.1 v.2.2 = true) (fun v hpre => by unfold Oq3.Grammar.defcal_; tw [nameR (TW.call0 (nameR_tok _)), optReturnSignature (TW.call0 ih.optReturnSignature), tryBlockExpr (TW.call0 ih.tryBlockExpr), paramListDefcalParams (TW.call0 ih.paramListDefcalParams), paramListDefcalQubits (TW.call0 ih.paramListDefcalQubits)]) s hpre

theorem returnsBoolClassicalDeclarationStmt_tokstep {fuel : Nat} (ih : AllTok fuel) (m : Marker) (s : P) (hpre : True) :
    wp A1 (Oq3.Grammar.returnsBoolClassicalDeclarationStmt (fuel + 1) m) (fun _ _ => True) s :=
  TW.field (pre := fun _ => True) (fun v hpre => by unfold Oq3.Grammar.returnsBoolClassicalDeclarationStmt; tw [varName (TW.call0 varName_tok), expr (TW.call0 ih.expr), typeSpec (TW.call0 ih.typeSpec), arrayLiteral (TW.call0 ih.arrayLiteral)]) s hpre

theorem classicalDeclarationStmt_tokstep {fuel : Nat} (ih : AllTok fuel) (m : Marker) (s : P) (hpre : True) :
    wp A1 (Oq3.Grammar.classicalDeclarationStmt (fuel + 1) m) (fun _ _ => True) s :=
  TW.field (pre := fun _ => True) (fun v hpre => by unfold Oq3.Grammar.classicalDeclarationStmt; tw [returnsBoolClassicalDeclarationStmt (TW.call0 (ih.returnsBoolClassicalDeclarationStmt _))]) s hpre

theorem ioDeclarationStmt_tokstep {fuel : Nat} (ih : AllTok fuel) (m : Marker) (s : P) (hpre : True) :
    wp A1 (Oq3.Grammar.ioDeclarationStmt (fuel + 1) m) (fun _ _ => True) s :=
  TW.field (pre := fun _ => True) (fun v hpre => by unfold Oq3.Grammar.ioDeclarationStmt; tw [varName (TW.call0 varName_tok), typeSpec (TW.call0 ih.typeSpec)]) s hpre

theorem defStmt_tokstep {fuel : Nat} (ih : AllTok fuel) (m : Marker) (s : P) (hpre : atF .DEF_KW s.kinds s.joint s.pos = true) :
    wp A1 (Oq3.Grammar.defStmt (fuel + 1) m) (fun _ _ => True) s :=
  TW.field (pre := fun v => atF .DEF_KW v.1 v.2.1 v.2.2 = true) (fun v hpre => by unfold Oq3.Grammar.defStmt; tw [nameR (TW.call0 (nameR_tok _)), optReturnSignature (TW.call0 ih.optReturnSignature), tryBlockExpr (TW.call0 ih.tryBlockExpr), paramListDefParams (TW.call0 ih.paramListDefParams)]) s hpre

theorem externStmt_tokstep {fuel : Nat} (ih : AllTok fuel) (m : Marker) (s : P) (hpre : atF .EXTERN_KW s.kinds s.joint s.pos = true) :
    wp A1 (Oq3.Grammar.externStmt (fuel + 1) m) (fun _ _ => True) s :=
  TW.field (pre := fun v => atF .EXTERN_KW v.1 v.2.1 v.2.2 = true) (fun v hpre => by unfold Oq3.Grammar.externStmt; tw [nameR (TW.call0 (nameR_tok _)), optReturnSignature (TW.call0 ih.optReturnSignature), scalarTypeList (TW.call0 ih.scalarTypeList)]) s hpre

theorem cal__tokstep {fuel : Nat} (ih : AllTok fuel) (m : Marker) (s : P) (hpre : atF .CAL_KW s.kinds s.joint s.pos = true) :
    wp A1 (Oq3.Grammar.cal_ (fuel + 1) m) (fun _ _ => True) s :=
  TW.field (pre := fun v => atF .CAL_KW v.1 v.2.1 v.2.2 = true) (fun v hpre => by unfold Oq3.Grammar.cal_; tw [tryBlockExpr (TW.call0 ih.tryBlockExpr)]) s hpre

theorem barrier__tokstep {fuel : Nat} (ih : AllTok fuel) (m : Marker) (s : P) (hpre : atF .BARRIER_KW s.kinds s.joint s.pos = true) :
    wp A1 (Oq3.Grammar.barrier_ (fuel + 1) m) (fun _ _ => True) s :=
  TW.field (pre := fun v => atF .BARRIER_KW v.1 v.2.1 v.2.2 = true) (fun v hpre => by unfold Oq3.Grammar.barrier_; tw [argListGateCallQubits (TW.call0 ih.argListGateCallQubits)]) s hpre

theorem delayStmt_tokstep {fuel : Nat} (ih : AllTok fuel) (m : Marker) (s : P) (hpre : atF .DELAY_KW s.kinds s.joint s.pos = true) :
    wp A1 (Oq3.Grammar.delayStmt (fuel + 1) m) (fun _ _ => True) s :=
  TW.field (pre := fun v => atF .DELAY_KW v.1 v.2.1 v.2.2 = true) (fun v hpre => by unfold Oq3.Grammar.delayStmt; tw [designator (TW.call (pre := fun v => atF .L_BRACK v.1 v.2.1 v.2.2 = true) ih.designator), argListGateCallQubits (TW.call0 ih.argListGateCallQubits)]) s hpre

theorem aliasStmt_tokstep {fuel : Nat} (ih : AllTok fuel) (m : Marker) (s : P) (hpre : atF .LET_KW s.kinds s.joint s.pos = true) :
    wp A1 (Oq3.Grammar.aliasStmt (fuel + 1) m) (fun _ _ => True) s :=
  TW.field (pre := fun v => atF .LET_KW v.1 v.2.1 v.2.2 = true) (fun v hpre => by unfold Oq3.Grammar.aliasStmt; tw [nameR (TW.call0 (nameR_tok _)), expr (TW.call0 ih.expr)]) s hpre

theorem expr_tokstep {fuel : Nat} (ih : AllTok fuel) (s : P) (hpre : True) :
    wp A1 (Oq3.Grammar.expr (fuel + 1)) (fun _ _ => True) s :=
  TW.field (pre := fun _ => True) (fun v hpre => by unfold Oq3.Grammar.expr; tw [exprBp (TW.call (pre := fun _ => 1 ≤ _) (ih.exprBp _ _ _))]) s hpre

theorem rangeExpr_tokstep {fuel : Nat} (ih : AllTok fuel) (s : P) (hpre : atF .L_BRACK s.kinds s.joint s.pos = true) :
    wp A1 (Oq3.Grammar.rangeExpr (fuel + 1)) (fun _ _ => True) s :=
  TW.field (pre := fun v => atF .L_BRACK v.1 v.2.1 v.2.2 = true) (fun v hpre => by unfold Oq3.Grammar.rangeExpr; tw [exprBp (TW.call (pre := fun _ => 1 ≤ _) (ih.exprBp _ _ _))]) s hpre

theorem exprOrRangeExpr_tokstep {fuel : Nat} (ih : AllTok fuel) (s : P) (hpre : True) :
    wp A1 (Oq3.Grammar.exprOrRangeExpr (fuel + 1)) (fun _ _ => True) s :=
  TW.field (pre := fun _ => True) (fun v hpre => by unfold Oq3.Grammar.exprOrRangeExpr; tw [exprBp (TW.call (pre := fun _ => 1 ≤ _) (ih.exprBp _ _ _))]) s hpre

theorem exprStmt_tokstep {fuel : Nat} (ih : AllTok fuel) (m : Option Marker) (s : P) (hpre : True) :
    wp A1 (Oq3.Grammar.exprStmt (fuel + 1) m) (fun _ _ => True) s :=
  TW.field (pre := fun _ => True) (fun v hpre => by unfold Oq3.Grammar.exprStmt; tw [exprBp (TW.call (pre := fun _ => 1 ≤ _) (ih.exprBp _ _ _))]) s hpre

theorem stmt_tokstep {fuel : Nat} (ih : AllTok fuel) (s : P) (hpre : True) :
    wp A1 (Oq3.Grammar.stmt (fuel + 1)) (fun _ _ => True) s :=
  TW.field (pre := fun _ => True) (fun v hpre => by unfold Oq3.Grammar.stmt; tw [optItem (TW.call0 (ih.optItem _)), exprStmt (TW.call0 (ih.exprStmt _)), letStmt (TW.call (pre := fun v => atF .LET_KW v.1 v.2.1 v.2.2 = true) (ih.letStmt _)), qOrCRegDeclaration (TW.call0 (ih.qOrCRegDeclaration _))]) s hpre

theorem letStmt_tokstep {fuel : Nat} (ih : AllTok fuel) (m : Marker) (s : P) (hpre : atF .LET_KW s.kinds s.joint s.pos = true) :
    wp A1 (Oq3.Grammar.letStmt (fuel + 1) m) (fun _ _ => True) s :=
  TW.field (pre := fun v => atF .LET_KW v.1 v.2.1 v.2.2 = true) (fun v hpre => by unfold Oq3.Grammar.letStmt; tw [expr (TW.call0 ih.expr)]) s hpre

theorem qOrCRegParam_tokstep {fuel : Nat} (ih : AllTok fuel) (s : P) (hpre : True) :
    wp A1 (Oq3.Grammar.qOrCRegParam (fuel + 1)) (fun _ _ => True) s :=
  TW.field (pre := fun _ => True) (fun v hpre => by unfold Oq3.Grammar.qOrCRegParam; tw [indexOperator (TW.call (pre := fun v => atF .L_BRACK v.1 v.2.1 v.2.2 = true) ih.indexOperator)]) s hpre

theorem qOrCRegDeclaration_tokstep {fuel : Nat} (ih : AllTok fuel) (m : Marker) (s : P) (hpre : True) :
    wp A1 (Oq3.Grammar.qOrCRegDeclaration (fuel + 1) m) (fun _ _ => True) s :=
  TW.field (pre := fun _ => True) (fun v hpre => by unfold Oq3.Grammar.qOrCRegDeclaration; tw [qOrCRegParam (TW.call0 ih.qOrCRegParam)]) s hpre

theorem exprBlockStatements_tokstep {fuel : Nat} (ih : AllTok fuel) (s : P) (hpre : True) :
    wp A1 (Oq3.Grammar.exprBlockStatements (fuel + 1)) (fun _ _ => True) s :=
  TW.field (pre := fun _ => True) (fun v hpre => by unfold Oq3.Grammar.exprBlockStatements; tw [stmt (TW.call0 ih.stmt), exprBlockStatements (TW.call0 ih.exprBlockStatements)]) s hpre

theorem exprBp_tokstep {fuel : Nat} (ih : AllTok fuel) (m : Option Marker) (r : Restrictions) (bp : Nat) (s : P) (hpre : 1 ≤ bp) :
    wp A1 (Oq3.Grammar.exprBp (fuel + 1) m r bp) (fun _ _ => True) s :=
  TW.field (pre := fun _ => 1 ≤ bp) (fun v hpre => by unfold Oq3.Grammar.exprBp; tw [exprBpLoop (TW.call (pre := fun _ => 1 ≤ _) (ih.exprBpLoop _ _ _)), lhs (TW.call0 (ih.lhs _))]) s hpre

theorem exprBpLoop_tokstep {fuel : Nat} (ih : AllTok fuel) (r : Restrictions) (bp : Nat) (lhs : CompletedMarker) (s : P) (hpre : 1 ≤ bp) :
    wp A1 (Oq3.Grammar.exprBpLoop (fuel + 1) r bp lhs) (fun _ _ => True) s :=
  TW.field (pre := fun _ => 1 ≤ bp) (fun v hpre => by unfold Oq3.Grammar.exprBpLoop; tw [exprBp (TW.call (pre := fun _ => 1 ≤ _) (ih.exprBp _ _ _)), exprBpLoop (TW.call (pre := fun _ => 1 ≤ _) (ih.exprBpLoop _ _ _))]) s hpre

theorem lhs_tokstep {fuel : Nat} (ih : AllTok fuel) (r : Restrictions) (s : P) (hpre : True) :
    wp A1 (Oq3.Grammar.lhs (fuel + 1) r) (fun _ _ => True) s :=
  TW.field (pre := fun _ => True) (fun v hpre => by unfold Oq3.Grammar.lhs; tw [exprBp (TW.call (pre := fun _ => 1 ≤ _) (ih.exprBp _ _ _)), postfixExpr (TW.call0 (ih.postfixExpr _ _ _)), atomExpr (TW.call0 (ih.atomExpr _))]) s hpre

theorem postfixExpr_tokstep {fuel : Nat} (ih : AllTok fuel) (lhs : CompletedMarker) (blockLike : BlockLike) (allowCalls : Bool) (s : P) (hpre : True) :
    wp A1 (Oq3.Grammar.postfixExpr (fuel + 1) lhs blockLike allowCalls) (fun _ _ => True) s :=
  TW.field (pre := fun _ => True) (fun v hpre => by unfold Oq3.Grammar.postfixExpr; tw [postfixExpr (TW.call0 (ih.postfixExpr _ _ _)), callExpr (TW.call (pre := fun v => atF .L_PAREN v.1 v.2.1 v.2.2 = true) (ih.callExpr _)), indexExpr (TW.call (pre := fun v => atF .L_BRACK v.1 v.2.1 v.2.2 = true) (ih.indexExpr _)), indexedIdentifier (TW.call (pre := fun v => atF .L_BRACK v.1 v.2.1 v.2.2 = true) (ih.indexedIdentifier _))]) s hpre

theorem callExpr_tokstep {fuel : Nat} (ih : AllTok fuel) (lhs : CompletedMarker) (s : P) (hpre : atF .L_PAREN s.kinds s.joint s.pos = true) :
    wp A1 (Oq3.Grammar.callExpr (fuel + 1) lhs) (fun _ _ => True) s :=
  TW.field (pre := fun v => atF .L_PAREN v.1 v.2.1 v.2.2 = true) (fun v hpre => by unfold Oq3.Grammar.callExpr; tw [callArgList (TW.call (pre := fun v => atF .L_PAREN v.1 v.2.1 v.2.2 = true) ih.callArgList), argListGateCallQubits (TW.call0 ih.argListGateCallQubits)]) s hpre

theorem paramTypeSpec_tokstep {fuel : Nat} (ih : AllTok fuel) (s : P) (hpre : True) :
    wp A1 (Oq3.Grammar.paramTypeSpec (fuel + 1)) (fun _ _ => True) s :=
  TW.field (pre := fun _ => True) (fun v hpre => by unfold Oq3.Grammar.paramTypeSpec; tw [arrayTypeSpec (TW.call (pre := fun v => (_ = false → atF .ARRAY_KW v.1 v.2.1 v.2.2 = true)) (ih.arrayTypeSpec _)), nonArrayTypeSpec (TW.call0 ih.nonArrayTypeSpec)]) s hpre

theorem typeSpec_tokstep {fuel : Nat} (ih : AllTok fuel) (s : P) (hpre : True) :
    wp A1 (Oq3.Grammar.typeSpec (fuel + 1)) (fun _ _ => True) s :=
  TW.field (pre := fun _ => True) (fun v hpre => by unfold Oq3.Grammar.typeSpec; tw [arrayTypeSpec (TW.call (pre := fun v => (_ = false → atF .ARRAY_KW v.1 v.2.1 v.2.2 = true)) (ih.arrayTypeSpec _)), nonArrayTypeSpec (TW.call0 ih.nonArrayTypeSpec)]) s hpre

theorem arrayTypeSpec_tokstep {fuel : Nat} (ih : AllTok fuel) (wantArrayRefType : Bool) (s : P) (hpre : (wantArrayRefType = false → atF .ARRAY_KW s.kinds s.joint s.pos = true)) :
    wp A1 (Oq3.Grammar.arrayTypeSpec (fuel + 1) wantArrayRefType) (fun _ _ => True) s :=
  TW.field (pre := fun v => (wantArrayRefType = false → atF .ARRAY_KW v.1 v.2.1 v.2.2 = true)) (fun v hpre => by unfold Oq3.Grammar.arrayTypeSpec; tw [expr (TW.call0 ih.expr), typeSpec (TW.call0 ih.typeSpec), arrayTypeDimsLoop (TW.call0 ih.arrayTypeDimsLoop)]) s hpre

theorem arrayTypeDimsLoop_tokstep {fuel : Nat} (ih : AllTok fuel) (s : P) (hpre : True) :
    wp A1 (Oq3.Grammar.arrayTypeDimsLoop (fuel + 1)) (fun _ _ => True) s :=
  TW.field (pre := fun _ => True) (fun v hpre => by unfold Oq3.Grammar.arrayTypeDimsLoop; tw [expr (TW.call0 ih.expr), arrayTypeDimsLoop (TW.call0 ih.arrayTypeDimsLoop)]) s hpre

theorem nonArrayTypeSpec_tokstep {fuel : Nat} (ih : AllTok fuel) (s : P) (hpre : True) :
    wp A1 (Oq3.Grammar.nonArrayTypeSpec (fuel + 1)) (fun _ _ => True) s :=
  TW.field (pre := fun _ => True) (fun v hpre => by unfold Oq3.Grammar.nonArrayTypeSpec; tw [complexTypeSpec (TW.call (pre := fun v => atF .COMPLEX_TY v.1 v.2.1 v.2.2 = true) ih.complexTypeSpec), designator (TW.call (pre := fun v => atF .L_BRACK v.1 v.2.1 v.2.2 = true) ih.designator)]) s hpre

theorem complexTypeSpec_tokstep {fuel : Nat} (ih : AllTok fuel) (s : P) (hpre : atF .COMPLEX_TY s.kinds s.joint s.pos = true) :
    wp A1 (Oq3.Grammar.complexTypeSpec (fuel + 1)) (fun _ _ => True) s :=
  TW.field (pre := fun v => atF .COMPLEX_TY v.1 v.2.1 v.2.2 = true) (fun v hpre => by unfold Oq3.Grammar.complexTypeSpec; tw [nonArrayTypeSpec (TW.call0 ih.nonArrayTypeSpec)]) s hpre

theorem qubitTypeSpec_tokstep {fuel : Nat} (ih : AllTok fuel) (s : P) (hpre : atF .QUBIT_KW s.kinds s.joint s.pos = true) :
    wp A1 (Oq3.Grammar.qubitTypeSpec (fuel + 1)) (fun _ _ => True) s :=
  TW.field (pre := fun v => atF .QUBIT_KW v.1 v.2.1 v.2.2 = true) (fun v hpre => by unfold Oq3.Grammar.qubitTypeSpec; tw [designator (TW.call (pre := fun v => atF .L_BRACK v.1 v.2.1 v.2.2 = true) ih.designator)]) s hpre

theorem designator_tokstep {fuel : Nat} (ih : AllTok fuel) (s : P) (hpre : atF .L_BRACK s.kinds s.joint s.pos = true) :
    wp A1 (Oq3.Grammar.designator (fuel + 1)) (fun _ _ => True) s :=
  TW.field (pre := fun v => atF .L_BRACK v.1 v.2.1 v.2.2 = true) (fun v hpre => by unfold Oq3.Grammar.designator; tw [expr (TW.call0 ih.expr)]) s hpre

theorem indexExpr_tokstep {fuel : Nat} (ih : AllTok fuel) (lhs : CompletedMarker) (s : P) (hpre : atF .L_BRACK s.kinds s.joint s.pos = true) :
    wp A1 (Oq3.Grammar.indexExpr (fuel + 1) lhs) (fun _ _ => True) s :=
  TW.field (pre := fun v => atF .L_BRACK v.1 v.2.1 v.2.2 = true) (fun v hpre => by unfold Oq3.Grammar.indexExpr; tw [indexOperator (TW.call (pre := fun v => atF .L_BRACK v.1 v.2.1 v.2.2 = true) ih.indexOperator)]) s hpre

theorem indexedIdentifier_tokstep {fuel : Nat} (ih : AllTok fuel) (lhs : CompletedMarker) (s : P) (hpre : atF .L_BRACK s.kinds s.joint s.pos = true) :
    wp A1 (Oq3.Grammar.indexedIdentifier (fuel + 1) lhs) (fun _ _ => True) s :=
  TW.field (pre := fun v => atF .L_BRACK v.1 v.2.1 v.2.2 = true) (fun v hpre => by unfold Oq3.Grammar.indexedIdentifier; tw [indexedIdentifierLoop (TW.call0 ih.indexedIdentifierLoop)]) s hpre

theorem indexedIdentifierLoop_tokstep {fuel : Nat} (ih : AllTok fuel) (s : P) (hpre : True) :
    wp A1 (Oq3.Grammar.indexedIdentifierLoop (fuel + 1)) (fun _ _ => True) s :=
  TW.field (pre := fun _ => True) (fun v hpre => by unfold Oq3.Grammar.indexedIdentifierLoop; tw [indexedIdentifierLoop (TW.call0 ih.indexedIdentifierLoop), indexOperator (TW.call (pre := fun v => atF .L_BRACK v.1 v.2.1 v.2.2 = true) ih.indexOperator)]) s hpre

theorem setExpression_tokstep {fuel : Nat} (ih : AllTok fuel) (s : P) (hpre : atF .L_CURLY s.kinds s.joint s.pos = true) :
    wp A1 (Oq3.Grammar.setExpression (fuel + 1)) (fun _ _ => True) s :=
  TW.field (pre := fun v => atF .L_CURLY v.1 v.2.1 v.2.2 = true) (fun v hpre => by unfold Oq3.Grammar.setExpression; tw [expressionList (TW.call0 ih.expressionList)]) s hpre

theorem indexOperator_tokstep {fuel : Nat} (ih : AllTok fuel) (s : P) (hpre : atF .L_BRACK s.kinds s.joint s.pos = true) :
    wp A1 (Oq3.Grammar.indexOperator (fuel + 1)) (fun _ _ => True) s :=
  TW.field (pre := fun v => atF .L_BRACK v.1 v.2.1 v.2.2 = true) (fun v hpre => by unfold Oq3.Grammar.indexOperator; tw [setExpression (TW.call (pre := fun v => atF .L_CURLY v.1 v.2.1 v.2.2 = true) ih.setExpression), expressionList (TW.call0 ih.expressionList)]) s hpre

theorem callArgList_tokstep {fuel : Nat} (ih : AllTok fuel) (s : P) (hpre : atF .L_PAREN s.kinds s.joint s.pos = true) :
    wp A1 (Oq3.Grammar.callArgList (fuel + 1)) (fun _ _ => True) s :=
  TW.field (pre := fun v => atF .L_PAREN v.1 v.2.1 v.2.2 = true) (fun v hpre => by unfold Oq3.Grammar.callArgList; tw [delimited (TW.call (pre := fun _ => (_ = false ∧ (_ == SyntaxKind.EOF) = false)) (ih.delimited _ _ _ _ _ _))]) s hpre

theorem atomExpr_tokstep {fuel : Nat} (ih : AllTok fuel) (_r : Restrictions) (s : P) (hpre : True) :
    wp A1 (Oq3.Grammar.atomExpr (fuel + 1) _r) (fun _ _ => True) s :=
  TW.field (pre := fun _ => True) (fun v hpre => by unfold Oq3.Grammar.atomExpr; tw [identifier (TW.call0 identifier_tok), hardwareQubit (TW.call (pre := fun v => atF .HARDWAREIDENT v.1 v.2.1 v.2.2 = true) hardwareQubit_tok), literal (TW.call0 literal_tok), castExpr (TW.call0 ih.castExpr), gphaseCallExpr (TW.call (pre := fun v => atF .GPHASE_KW v.1 v.2.1 v.2.2 = true) ih.gphaseCallExpr), modifiedGateCallExpr (TW.call0 ih.modifiedGateCallExpr), gateCallExpr (TW.call0 ih.gateCallExpr), measureExpression (TW.call (pre := fun v => atF .MEASURE_KW v.1 v.2.1 v.2.2 = true) ih.measureExpression), tupleExpr (TW.call (pre := fun v => atF .L_PAREN v.1 v.2.1 v.2.2 = true) ih.tupleExpr), arrayExpr (TW.call (pre := fun v => atF .L_BRACK v.1 v.2.1 v.2.2 = true) ih.arrayExpr), blockExpr (TW.call (pre := fun v => atF .L_CURLY v.1 v.2.1 v.2.2 = true) ih.blockExpr), returnExpr (TW.call (pre := fun v => atF .RETURN_KW v.1 v.2.1 v.2.2 = true) ih.returnExpr), boxExpr (TW.call (pre := fun v => atF .BOX_KW v.1 v.2.1 v.2.2 = true) (ih.boxExpr _))]) s hpre

theorem castExpr_tokstep {fuel : Nat} (ih : AllTok fuel) (s : P) (hpre : True) :
    wp A1 (Oq3.Grammar.castExpr (fuel + 1)) (fun _ _ => True) s :=
  TW.field (pre := fun _ => True) (fun v hpre => by unfold Oq3.Grammar.castExpr; tw [expr (TW.call0 ih.expr), typeSpec (TW.call0 ih.typeSpec)]) s hpre

theorem gphaseCallExpr_tokstep {fuel : Nat} (ih : AllTok fuel) (s : P) (hpre : atF .GPHASE_KW s.kinds s.joint s.pos = true) :
    wp A1 (Oq3.Grammar.gphaseCallExpr (fuel + 1)) (fun _ _ => True) s :=
  TW.field (pre := fun v => atF .GPHASE_KW v.1 v.2.1 v.2.2 = true) (fun v hpre => by unfold Oq3.Grammar.gphaseCallExpr; tw [expr (TW.call0 ih.expr)]) s hpre

theorem modifiedGateCallExpr_tokstep {fuel : Nat} (ih : AllTok fuel) (s : P) (hpre : True) :
    wp A1 (Oq3.Grammar.modifiedGateCallExpr (fuel + 1)) (fun _ _ => True) s :=
  TW.field (pre := fun _ => True) (fun v hpre => by unfold Oq3.Grammar.modifiedGateCallExpr; tw [gphaseCallExpr (TW.call (pre := fun v => atF .GPHASE_KW v.1 v.2.1 v.2.2 = true) ih.gphaseCallExpr), modifiedGateCallExprLoop (TW.call0 ih.modifiedGateCallExprLoop), gateCallExpr (TW.call0 ih.gateCallExpr)]) s hpre

theorem modifiedGateCallExprLoop_tokstep {fuel : Nat} (ih : AllTok fuel) (s : P) (hpre : True) :
    wp A1 (Oq3.Grammar.modifiedGateCallExprLoop (fuel + 1)) (fun _ _ => True) s :=
  TW.field (pre := fun _ => True) (fun v hpre => by unfold Oq3.Grammar.modifiedGateCallExprLoop; tw [expr (TW.call0 ih.expr), modifiedGateCallExprLoop (TW.call0 ih.modifiedGateCallExprLoop)]) s hpre

theorem gateCallExpr_tokstep {fuel : Nat} (ih : AllTok fuel) (s : P) (hpre : True) :
    wp A1 (Oq3.Grammar.gateCallExpr (fuel + 1)) (fun _ _ => True) s :=
  TW.field (pre := fun _ => True) (fun v hpre => by unfold Oq3.Grammar.gateCallExpr; tw [identifier (TW.call0 identifier_tok), callArgList (TW.call (pre := fun v => atF .L_PAREN v.1 v.2.1 v.2.2 = true) ih.callArgList), argListGateCallQubits (TW.call0 ih.argListGateCallQubits)]) s hpre

theorem measureExpression_tokstep {fuel : Nat} (ih : AllTok fuel) (s : P) (hpre : atF .MEASURE_KW s.kinds s.joint s.pos = true) :
    wp A1 (Oq3.Grammar.measureExpression (fuel + 1)) (fun _ _ => True) s :=
  TW.field (pre := fun v => atF .MEASURE_KW v.1 v.2.1 v.2.2 = true) (fun v hpre => by unfold Oq3.Grammar.measureExpression; tw [argGateCallQubit (TW.call0 (ih.argGateCallQubit _))]) s hpre

theorem tupleExpr_tokstep {fuel : Nat} (ih : AllTok fuel) (s : P) (hpre : atF .L_PAREN s.kinds s.joint s.pos = true) :
    wp A1 (Oq3.Grammar.tupleExpr (fuel + 1)) (fun _ _ => True) s :=
  TW.field (pre := fun v => atF .L_PAREN v.1 v.2.1 v.2.2 = true) (fun v hpre => by unfold Oq3.Grammar.tupleExpr; tw [tupleExprLoop (TW.call0 (ih.tupleExprLoop _ _))]) s hpre

theorem tupleExprLoop_tokstep {fuel : Nat} (ih : AllTok fuel) (sawComma sawExpr : Bool) (s : P) (hpre : True) :
    wp A1 (Oq3.Grammar.tupleExprLoop (fuel + 1) sawComma sawExpr) (fun _ _ => True) s :=
  TW.field (pre := fun _ => True) (fun v hpre => by unfold Oq3.Grammar.tupleExprLoop; tw [expr (TW.call0 ih.expr), tupleExprLoop (TW.call0 (ih.tupleExprLoop _ _))]) s hpre

theorem arrayExpr_tokstep {fuel : Nat} (ih : AllTok fuel) (s : P) (hpre : atF .L_BRACK s.kinds s.joint s.pos = true) :
    wp A1 (Oq3.Grammar.arrayExpr (fuel + 1)) (fun _ _ => True) s :=
  TW.field (pre := fun v => atF .L_BRACK v.1 v.2.1 v.2.2 = true) (fun v hpre => by unfold Oq3.Grammar.arrayExpr; tw [arrayExprLoop (TW.call0 (ih.arrayExprLoop _ _))]) s hpre

theorem arrayExprLoop_tokstep {fuel : Nat} (ih : AllTok fuel) (nExprs : Nat) (hasSemi : Bool) (s : P) (hpre : True) :
    wp A1 (Oq3.Grammar.arrayExprLoop (fuel + 1) nExprs hasSemi) (fun _ _ => True) s :=
  TW.field (pre := fun _ => True) (fun v hpre => by unfold Oq3.Grammar.arrayExprLoop; tw [expr (TW.call0 ih.expr), arrayExprLoop (TW.call0 (ih.arrayExprLoop _ _))]) s hpre

theorem tryBlockExpr_tokstep {fuel : Nat} (ih : AllTok fuel) (s : P) (hpre : True) :
    wp A1 (Oq3.Grammar.tryBlockExpr (fuel + 1)) (fun _ _ => True) s :=
  TW.field (pre := fun _ => True) (fun v hpre => by unfold Oq3.Grammar.tryBlockExpr; tw [blockExpr (TW.call (pre := fun v => atF .L_CURLY v.1 v.2.1 v.2.2 = true) ih.blockExpr)]) s hpre

theorem blockExpr_tokstep {fuel : Nat} (ih : AllTok fuel) (s : P) (hpre : atF .L_CURLY s.kinds s.joint s.pos = true) :
    wp A1 (Oq3.Grammar.blockExpr (fuel + 1)) (fun _ _ => True) s :=
  TW.field (pre := fun v => atF .L_CURLY v.1 v.2.1 v.2.2 = true) (fun v hpre => by unfold Oq3.Grammar.blockExpr; tw [exprBlockStatements (TW.call0 ih.exprBlockStatements)]) s hpre

theorem returnExpr_tokstep {fuel : Nat} (ih : AllTok fuel) (s : P) (hpre : atF .RETURN_KW s.kinds s.joint s.pos = true) :
    wp A1 (Oq3.Grammar.returnExpr (fuel + 1)) (fun _ _ => True) s :=
  TW.field (pre := fun v => atF .RETURN_KW v.1 v.2.1 v.2.2 = true) (fun v hpre => by unfold Oq3.Grammar.returnExpr; tw [expr (TW.call0 ih.expr)]) s hpre

theorem boxExpr_tokstep {fuel : Nat} (ih : AllTok fuel) (m : Option Marker) (s : P) (hpre : atF .BOX_KW s.kinds s.joint s.pos = true) :
    wp A1 (Oq3.Grammar.boxExpr (fuel + 1) m) (fun _ _ => True) s :=
  TW.field (pre := fun v => atF .BOX_KW v.1 v.2.1 v.2.2 = true) (fun v hpre => by unfold Oq3.Grammar.boxExpr; tw [expr (TW.call0 ih.expr)]) s hpre

theorem paramListGateParams_tokstep {fuel : Nat} (ih : AllTok fuel) (s : P) (hpre : True) :
    wp A1 (Oq3.Grammar.paramListGateParams (fuel + 1)) (fun _ _ => True) s :=
  TW.field (pre := fun _ => True) (fun v hpre => by unfold Oq3.Grammar.paramListGateParams; tw [paramListOpenqasm (TW.call0 (ih.paramListOpenqasm _))]) s hpre

theorem paramListGateQubits_tokstep {fuel : Nat} (ih : AllTok fuel) (s : P) (hpre : True) :
    wp A1 (Oq3.Grammar.paramListGateQubits (fuel + 1)) (fun _ _ => True) s :=
  TW.field (pre := fun _ => True) (fun v hpre => by unfold Oq3.Grammar.paramListGateQubits; tw [paramListOpenqasm (TW.call0 (ih.paramListOpenqasm _))]) s hpre

theorem argListGateCallQubits_tokstep {fuel : Nat} (ih : AllTok fuel) (s : P) (hpre : True) :
    wp A1 (Oq3.Grammar.argListGateCallQubits (fuel + 1)) (fun _ _ => True) s :=
  TW.field (pre := fun _ => True) (fun v hpre => by unfold Oq3.Grammar.argListGateCallQubits; tw [paramListOpenqasm (TW.call0 (ih.paramListOpenqasm _))]) s hpre

theorem paramListDefParams_tokstep {fuel : Nat} (ih : AllTok fuel) (s : P) (hpre : True) :
    wp A1 (Oq3.Grammar.paramListDefParams (fuel + 1)) (fun _ _ => True) s :=
  TW.field (pre := fun _ => True) (fun v hpre => by unfold Oq3.Grammar.paramListDefParams; tw [paramListOpenqasm (TW.call0 (ih.paramListOpenqasm _))]) s hpre

theorem scalarTypeList_tokstep {fuel : Nat} (ih : AllTok fuel) (s : P) (hpre : True) :
    wp A1 (Oq3.Grammar.scalarTypeList (fuel + 1)) (fun _ _ => True) s :=
  TW.field (pre := fun _ => True) (fun v hpre => by unfold Oq3.Grammar.scalarTypeList; tw [paramListOpenqasm (TW.call0 (ih.paramListOpenqasm _))]) s hpre

theorem paramListDefcalParams_tokstep {fuel : Nat} (ih : AllTok fuel) (s : P) (hpre : True) :
    wp A1 (Oq3.Grammar.paramListDefcalParams (fuel + 1)) (fun _ _ => True) s :=
  TW.field (pre := fun _ => True) (fun v hpre => by unfold Oq3.Grammar.paramListDefcalParams; tw [paramListOpenqasm (TW.call0 (ih.paramListOpenqasm _))]) s hpre

theorem paramListDefcalQubits_tokstep {fuel : Nat} (ih : AllTok fuel) (s : P) (hpre : True) :
    wp A1 (Oq3.Grammar.paramListDefcalQubits (fuel + 1)) (fun _ _ => True) s :=
  TW.field (pre := fun _ => True) (fun v hpre => by unfold Oq3.Grammar.paramListDefcalQubits; tw [paramListOpenqasm (TW.call0 (ih.paramListOpenqasm _))]) s hpre

theorem expressionList_tokstep {fuel : Nat} (ih : AllTok fuel) (s : P) (hpre : True) :
    wp A1 (Oq3.Grammar.expressionList (fuel + 1)) (fun _ _ => True) s :=
  TW.field (pre := fun _ => True) (fun v hpre => by unfold Oq3.Grammar.expressionList; tw [paramListOpenqasm (TW.call0 (ih.paramListOpenqasm _))]) s hpre

theorem caseValueList_tokstep {fuel : Nat} (ih : AllTok fuel) (s : P) (hpre : True) :
    wp A1 (Oq3.Grammar.caseValueList (fuel + 1)) (fun _ _ => True) s :=
  TW.field (pre := fun _ => True) (fun v hpre => by unfold Oq3.Grammar.caseValueList; tw [paramListOpenqasm (TW.call0 (ih.paramListOpenqasm _))]) s hpre

theorem arrayLiteral_tokstep {fuel : Nat} (ih : AllTok fuel) (s : P) (hpre : True) :
    wp A1 (Oq3.Grammar.arrayLiteral (fuel + 1)) (fun _ _ => True) s :=
  TW.field (pre := fun _ => True) (fun v hpre => by unfold Oq3.Grammar.arrayLiteral; tw [paramListOpenqasm (TW.call0 (ih.paramListOpenqasm _))]) s hpre

theorem paramListOpenqasm_tokstep {fuel : Nat} (ih : AllTok fuel) (flavor : DefFlavor) (s : P) (hpre : True) :
    wp A1 (Oq3.Grammar.paramListOpenqasm (fuel + 1) flavor) (fun _ _ => True) s :=
  TW.field (pre := fun _ => True) (fun v hpre => by unfold Oq3.Grammar.paramListOpenqasm; tw [paramListOpenqasmLoop (TW.call0 (ih.paramListOpenqasmLoop _ _))]) s hpre

theorem paramListOpenqasmLoop_tokstep {fuel : Nat} (ih : AllTok fuel) (flavor : DefFlavor) (numParams : Nat) (s : P) (hpre : True) :
    wp A1 (Oq3.Grammar.paramListOpenqasmLoop (fuel + 1) flavor numParams) (fun _ _ => True) s :=
  TW.field (pre := fun _ => True) (fun v hpre => by unfold Oq3.Grammar.paramListOpenqasmLoop; tw [atListEndToken (TW.call0 (atListEndToken_tok _)), paramListOpenqasmLoop (TW.call0 (ih.paramListOpenqasmLoop _ _)), paramListItem (TW.call0 (ih.paramListItem _ _ _))]) s hpre

theorem paramListItem_tokstep {fuel : Nat} (ih : AllTok fuel) (flavor : DefFlavor) (m : Marker) (innerArrayLiteral : Bool) (s : P) (hpre : True) :
    wp A1 (Oq3.Grammar.paramListItem (fuel + 1) flavor m innerArrayLiteral) (fun _ _ => True) s :=
  TW.field (pre := fun _ => True) (fun v hpre => by unfold Oq3.Grammar.paramListItem; tw [paramUntyped (TW.call0 (paramUntyped_tok _)), paramUntypedOrHardwareQubit (TW.call0 (paramUntypedOrHardwareQubit_tok _)), expr (TW.call0 ih.expr), exprOrRangeExpr (TW.call0 ih.exprOrRangeExpr), arrayLiteral (TW.call0 ih.arrayLiteral), paramTyped (TW.call0 (ih.paramTyped _)), scalarType (TW.call0 (ih.scalarType _)), argGateCallQubit (TW.call0 (ih.argGateCallQubit _))]) s hpre

theorem paramTyped_tokstep {fuel : Nat} (ih : AllTok fuel) (m : Marker) (s : P) (hpre : True) :
    wp A1 (Oq3.Grammar.paramTyped (fuel + 1) m) (fun _ _ => True) s :=
  TW.field (pre := fun _ => True) (fun v hpre => by unfold Oq3.Grammar.paramTyped; tw [name (TW.call0 name_tok), varName (TW.call0 varName_tok), qOrCRegParam (TW.call0 ih.qOrCRegParam), paramTypeSpec (TW.call0 ih.paramTypeSpec)]) s hpre

theorem scalarType_tokstep {fuel : Nat} (ih : AllTok fuel) (m : Marker) (s : P) (hpre : True) :
    wp A1 (Oq3.Grammar.scalarType (fuel + 1) m) (fun _ _ => True) s :=
  TW.field (pre := fun _ => True) (fun v hpre => by unfold Oq3.Grammar.scalarType; tw [typeSpec (TW.call0 ih.typeSpec)]) s hpre

theorem argGateCallQubit_tokstep {fuel : Nat} (ih : AllTok fuel) (m : Marker) (s : P) (hpre : True) :
    wp A1 (Oq3.Grammar.argGateCallQubit (fuel + 1) m) (fun _ _ => True) s :=
  TW.field (pre := fun _ => True) (fun v hpre => by unfold Oq3.Grammar.argGateCallQubit; tw [indexedIdentifier (TW.call (pre := fun v => atF .L_BRACK v.1 v.2.1 v.2.2 = true) (ih.indexedIdentifier _))]) s hpre

theorem allTok : ∀ fuel, AllTok fuel
  | 0 => by constructor <;> intros <;> exact wp_fail (by decide)
  | fuel + 1 =>
    have ih := allTok fuel
    ⟨optReturnSignature_tokstep ih,
     delimited_tokstep ih,
     delimitedLoop_tokstep ih,
     delimitedParser_tokstep ih,
     sourceFileContents_tokstep ih,
     item_tokstep ih,
     optItem_tokstep ih,
     switchCaseStmt_tokstep ih,
     switchCaseLoop_tokstep ih,
     blockOrStatement_tokstep ih,
     ifStmt_tokstep ih,
     whileStmt_tokstep ih,
     forStmt_tokstep ih,
     qubitDeclarationStmt_tokstep ih,
     resetStmt_tokstep ih,
     gateDefinition_tokstep ih,
     defcal__tokstep ih,
     returnsBoolClassicalDeclarationStmt_tokstep ih,
     classicalDeclarationStmt_tokstep ih,
     ioDeclarationStmt_tokstep ih,
     defStmt_tokstep ih,
     externStmt_tokstep ih,
     cal__tokstep ih,
     barrier__tokstep ih,
     delayStmt_tokstep ih,
     aliasStmt_tokstep ih,
     expr_tokstep ih,
     rangeExpr_tokstep ih,
     exprOrRangeExpr_tokstep ih,
     exprStmt_tokstep ih,
     stmt_tokstep ih,
     letStmt_tokstep ih,
     qOrCRegParam_tokstep ih,
     qOrCRegDeclaration_tokstep ih,
     exprBlockStatements_tokstep ih,
     exprBp_tokstep ih,
     exprBpLoop_tokstep ih,
     lhs_tokstep ih,
     postfixExpr_tokstep ih,
     callExpr_tokstep ih,
     paramTypeSpec_tokstep ih,
     typeSpec_tokstep ih,
     arrayTypeSpec_tokstep ih,
     arrayTypeDimsLoop_tokstep ih,
     nonArrayTypeSpec_tokstep ih,
     complexTypeSpec_tokstep ih,
     qubitTypeSpec_tokstep ih,
     designator_tokstep ih,
     indexExpr_tokstep ih,
     indexedIdentifier_tokstep ih,
     indexedIdentifierLoop_tokstep ih,
     setExpression_tokstep ih,
     indexOperator_tokstep ih,
     callArgList_tokstep ih,
     atomExpr_tokstep ih,
     castExpr_tokstep ih,
     gphaseCallExpr_tokstep ih,
     modifiedGateCallExpr_tokstep ih,
     modifiedGateCallExprLoop_tokstep ih,
     gateCallExpr_tokstep ih,
     measureExpression_tokstep ih,
     tupleExpr_tokstep ih,
     tupleExprLoop_tokstep ih,
     arrayExpr_tokstep ih,
     arrayExprLoop_tokstep ih,
     tryBlockExpr_tokstep ih,
     blockExpr_tokstep ih,
     returnExpr_tokstep ih,
     boxExpr_tokstep ih,
     paramListGateParams_tokstep ih,
     paramListGateQubits_tokstep ih,
     argListGateCallQubits_tokstep ih,
     paramListDefParams_tokstep ih,
     scalarTypeList_tokstep ih,
     paramListDefcalParams_tokstep ih,
     paramListDefcalQubits_tokstep ih,
     expressionList_tokstep ih,
     caseValueList_tokstep ih,
     arrayLiteral_tokstep ih,
     paramListOpenqasm_tokstep ih,
     paramListOpenqasmLoop_tokstep ih,
     paramListItem_tokstep ih,
     paramTyped_tokstep ih,
     scalarType_tokstep ih,
     argGateCallQubit_tokstep ih⟩

theorem sourceFile_tok (fuel : Nat) (s : P) : wp A1 (sourceFile fuel) (fun _ _ => True) s :=
  have ih := allTok fuel
  TW.field (pre := fun _ => True) (fun v hpre => by unfold sourceFile; tw [sourceFileContents (TW.call0 (ih.sourceFileContents _))]) s trivial

theorem entryExpr_tok (fuel : Nat) (s : P) : wp A1 (entryExpr fuel) (fun _ _ => True) s := by
  have ih := allTok fuel
  unfold entryExpr
  apply wp_bind; apply wp1_start; intro m s1 _
  apply wp_bind; refine wp_conseq (ih.expr s1 trivial) ?_; intro _ s2 _
  apply wp_bind; apply wp_at
  split
  · apply wp_bind; apply wp1_abandon; intro s3 _; exact wp_pure trivial
  · apply wp_bind; refine wp_conseq (bumpUntilEof_tok fuel s2) ?_; intro _ s3 _
    apply wp_bind; apply wp1_complete; intro cm s4 _ _; exact wp_pure trivial

end Oq3.Grammar
