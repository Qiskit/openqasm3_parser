/-
C04, extended reference language: blocks, brace-less bodies, control flow (`if` / `else` /
`else if`, `while`, `for` over ranges / sets / expressions, `switch`), bare blocks, `gate` / `def` / `cal`
definitions — relative to the acceptance of the statements and statement lists inside them.
-/
import Oq3.Lemmas.LangEv2Flat
set_option linter.unusedSimpArgs false
set_option linter.unusedVariables false

namespace Oq3.LangEv2
open Oq3.Gen Oq3.Parser Oq3.Grammar Oq3.SymExec Oq3.PrattEv Oq3.LangEv
open Oq3.Gen.Ops (Assoc)

mutual
/-- the statement ends (through brace-less bodies) with an assignment: the loop of `expr_bp` looks at the
next token for a binary operator (F09e) -/
def endsAssign : Stmt2 → Bool
  | .assign _ _ => true
  | .ifS _ b => endsAssignB b
  | .ifElse _ _ b => endsAssignB b
  | .whileS _ b => endsAssignB b
  | .forS _ _ _ b => endsAssignB b
  | _ => false
def endsAssignB : Body → Bool
  | .blk _ => false
  | .one s => endsAssign s
end

mutual
/-- the statement ends with an `if` without `else`: a following `else` would be taken by it -/
def endsIf : Stmt2 → Bool
  | .ifS _ _ => true
  | .ifElse _ _ b => endsIfB b
  | .whileS _ b => endsIfB b
  | .forS _ _ _ b => endsIfB b
  | _ => false
def endsIfB : Body → Bool
  | .blk _ => false
  | .one s => endsIf s
end

mutual
/-- the statement ends with a bare block: `stmt` wraps it into an `EXPR_STMT` only if the next token is
not `}` (F09d) -/
def endsBlock : Stmt2 → Bool
  | .block _ => true
  | .ifS _ b => endsBlockB b
  | .ifElse _ _ b => endsBlockB b
  | .whileS _ b => endsBlockB b
  | .forS _ _ _ b => endsBlockB b
  | _ => false
def endsBlockB : Body → Bool
  | .blk _ => false
  | .one s => endsBlock s
end

/-- **the Follow condition of a statement** at the position `q` of the token after it -/
structure FollowS2 (st : Stmt2) (s : P) (q : Nat) : Prop where
  assign : endsAssign st = true → StopsAt s q 1
  noElse : endsIf st = true → s.kindAt q ≠ .ELSE_KW
  noCurly : endsBlock st = true → s.kindAt q ≠ .R_CURLY
  noSemi : endsBlock st = true → s.kindAt q ≠ .SEMICOLON

structure FollowB (b : Body) (s : P) (q : Nat) : Prop where
  assign : endsAssignB b = true → StopsAt s q 1
  noElse : endsIfB b = true → s.kindAt q ≠ .ELSE_KW
  noCurly : endsBlockB b = true → s.kindAt q ≠ .R_CURLY
  noSemi : endsBlockB b = true → s.kindAt q ≠ .SEMICOLON

theorem FollowB.one {st : Stmt2} {s : P} {q : Nat} (h : FollowB (.one st) s q) : FollowS2 st s q := ⟨h.assign, h.noElse, h.noCurly, h.noSemi⟩

theorem FollowS2_kinds (st : Stmt2) (s s' : P) (hk : s'.kinds = s.kinds) (hj : s'.joint = s.joint) (q : Nat) :
    FollowS2 st s' q ↔ FollowS2 st s q := by
  constructor
  · rintro ⟨a, b, c, d⟩
    exact ⟨fun h => (StopsAt_kinds s s' hk hj _ _).1 (a h), fun h => by simpa only [P.kindAt, hk] using b h,
      fun h => by simpa only [P.kindAt, hk] using c h, fun h => by simpa only [P.kindAt, hk] using d h⟩
  · rintro ⟨a, b, c, d⟩
    exact ⟨fun h => (StopsAt_kinds s s' hk hj _ _).2 (a h), fun h => by simpa only [P.kindAt, hk] using b h,
      fun h => by simpa only [P.kindAt, hk] using c h, fun h => by simpa only [P.kindAt, hk] using d h⟩

theorem FollowB_kinds (b : Body) (s s' : P) (hk : s'.kinds = s.kinds) (hj : s'.joint = s.joint) (q : Nat) :
    FollowB b s' q ↔ FollowB b s q := by
  constructor
  · rintro ⟨a, b, c, d⟩
    exact ⟨fun h => (StopsAt_kinds s s' hk hj _ _).1 (a h), fun h => by simpa only [P.kindAt, hk] using b h,
      fun h => by simpa only [P.kindAt, hk] using c h, fun h => by simpa only [P.kindAt, hk] using d h⟩
  · rintro ⟨a, b, c, d⟩
    exact ⟨fun h => (StopsAt_kinds s s' hk hj _ _).2 (a h), fun h => by simpa only [P.kindAt, hk] using b h,
      fun h => by simpa only [P.kindAt, hk] using c h, fun h => by simpa only [P.kindAt, hk] using d h⟩

theorem FollowS2_ov (st : Stmt2) (s : P) (E0 : List Ev) (dp st0 sb lv : Nat) (pr : List Nat) (q : Nat) :
    FollowS2 st (s.ov E0 dp st0 sb lv pr) q ↔ FollowS2 st s q := FollowS2_kinds st s (s.ov E0 dp st0 sb lv pr) rfl rfl q

theorem FollowB_ov (b : Body) (s : P) (E0 : List Ev) (dp st0 sb lv : Nat) (pr : List Nat) (q : Nat) :
    FollowB b (s.ov E0 dp st0 sb lv pr) q ↔ FollowB b s q := FollowB_kinds b s (s.ov E0 dp st0 sb lv pr) rfl rfl q

/-- the statement loop accepts the statement list `ss` inside a block (closed by `}`) -/
def StmtsOK2 (ss : Stmts2) (need : Nat) : Prop :=
  ∀ (F : Nat) (s : P), need ≤ F → RdyL 8 s → Toks s s.pos (toksL2 ss) →
    s.kindAt (s.pos + (toksL2 ss).length) = .R_CURLY →
    Acc (exprBlockStatements F) s (toksL2 ss).length (evsL2 ss)

/-- `StmtsOK2`, `BodyOK`, `IfAcc`, `CasesOK` from `RdyF`: what the statement lemmas take and prove -/
def StmtsOK2F (ss : Stmts2) (need : Nat) : Prop :=
  ∀ (F : Nat) (s : P), need ≤ F → RdyF 8 s → Toks s s.pos (toksL2 ss) →
    s.kindAt (s.pos + (toksL2 ss).length) = .R_CURLY →
    Acc (exprBlockStatements F) s (toksL2 ss).length (evsL2 ss)

theorem StmtsOK2F.toOK {ss : Stmts2} {n : Nat} (h : StmtsOK2F ss n) : StmtsOK2 ss n :=
  fun F s hF hr => h F s hF hr.toF

/-- `stmt` accepts the statement `st` -/
def StmtOK2 (st : Stmt2) (need : Nat) : Prop :=
  ∀ (F : Nat) (s : P), need ≤ F → RdyF 8 s → Toks s s.pos (toksS2 st) →
    FollowS2 st s (s.pos + (toksS2 st).length) →
    Acc (stmt F) s (toksS2 st).length (evsS2 st)

/-- `block_or_statement` accepts the body `b` -/
def BodyOK (b : Body) (need : Nat) : Prop :=
  ∀ (F : Nat) (s : P), need ≤ F → RdyL 8 s → Toks s s.pos (toksB b) →
    FollowB b s (s.pos + (toksB b).length) →
    Acc (blockOrStatement F) s (toksB b).length (evsB b)

def BodyOKF (b : Body) (need : Nat) : Prop :=
  ∀ (F : Nat) (s : P), need ≤ F → RdyF 8 s → Toks s s.pos (toksB b) →
    FollowB b s (s.pos + (toksB b).length) →
    Acc (blockOrStatement F) s (toksB b).length (evsB b)

theorem BodyOKF.toOK {b : Body} {n : Nat} (h : BodyOKF b n) : BodyOK b n :=
  fun F s hF hr => h F s hF hr.toF

/-- `{ ss }` through `block_expr` (the step counter is 0 afterwards: the last action is the bump of `}`) -/
theorem blockExpr_exact (ss : Stmts2) (need F : Nat) (ih : StmtsOK2F ss need) (s : P) (hF : need + 1 ≤ F) (hr : RdyF 1 s)
    (h0 : s.kindAt (s.pos + 0) = .L_CURLY) (htk : Toks s (s.pos + 1) (toksL2 ss))
    (hclose : s.kindAt (s.pos + (1 + (toksL2 ss).length)) = .R_CURLY) :
    ∃ sb, blockExpr F s = .ok (⟨s.events.size + 0, .BLOCK_EXPR⟩,
      s.ov (blockEvs (evsL2 ss)) ((toksL2 ss).length + 2) 0 sb s.live s.protectedPos) := by
  obtain ⟨g, rfl⟩ : ∃ g, F = g + 1 := ⟨F - 1, by omega⟩
  obtain ⟨st', sb', hle, hbody⟩ :=
    (ih g (s.ov [.start .TOMBSTONE none, .token .L_CURLY 1] 1 0 1 (s.live + 1) s.protectedPos) (by omega)
      (hr.ov 8 _ _ _ _ _ (by have := hr.lim; omega))
      ((Toks_ov s _ _ _ _ _ _ _ _).2 htk)
      (kindAt_pos hclose (by show s.pos + 1 + _ = _; omega))).at_ov
  have hnp := hr.hook
  have hsteps := hr.steps
  have hlim := hr.lim
  have hst : s.steps ≤ s.stepLimit := by omega
  have hpr := hr.prot
  refine ⟨?_, of_ov _ _ _ ?_⟩
  rotate_left 1
  sym_eval [filter_base s hpr, contains_base s hpr, h0, hbody, hclose]
  all_goals close_ov

theorem blockExpr_acc (ss : Stmts2) (need F : Nat) (ih : StmtsOK2F ss need) (s : P) (hF : need + 1 ≤ F) (hr : RdyF 1 s)
    (h0 : s.kindAt (s.pos + 0) = .L_CURLY) (htk : Toks s (s.pos + 1) (toksL2 ss))
    (hclose : s.kindAt (s.pos + (1 + (toksL2 ss).length)) = .R_CURLY) :
    AccV (blockExpr F) ⟨s.events.size + 0, .BLOCK_EXPR⟩ s ((toksL2 ss).length + 2) (blockEvs (evsL2 ss)) := by
  obtain ⟨sb, h⟩ := blockExpr_exact ss need F ih s hF hr h0 htk hclose
  exact ⟨0, sb, Nat.zero_le _, h⟩

theorem block_acc2 (ss : Stmts2) (need : Nat) (ih : StmtsOK2F ss need) : BodyOKF (.blk ss) (need + 2) := by
  intro F s hF hr htk _
  obtain ⟨g, rfl⟩ : ∃ g, F = g + 1 := ⟨F - 1, by omega⟩
  simp only [toksB, List.length_cons, List.length_append, List.length_nil] at ⊢
  tok_at [toksB] at htk
  obtain ⟨h0, htb, hrc⟩ := htk
  obtain ⟨stb, sbb, hleb, hblk⟩ := blockExpr_acc ss need g ih s (by omega) (hr.mono (by omega)) h0 htb hrc
  have hblk' := to_ov hblk
  run_base2 [h0, hblk']

theorem tryBlock_acc2 (ss : Stmts2) (need F : Nat) (ih : StmtsOK2F ss need) (s : P) (hF : need + 2 ≤ F) (hr : RdyF 8 s)
    (h0 : s.kindAt (s.pos + 0) = .L_CURLY) (htk : Toks s (s.pos + 1) (toksL2 ss))
    (hclose : s.kindAt (s.pos + (1 + (toksL2 ss).length)) = .R_CURLY) :
    Acc (tryBlockExpr F) s ((toksL2 ss).length + 2) (blockEvs (evsL2 ss)) := by
  obtain ⟨g, rfl⟩ : ∃ g, F = g + 1 := ⟨F - 1, by omega⟩
  obtain ⟨stb, sbb, hleb, hblk⟩ := blockExpr_acc ss need g ih s (by omega) (hr.mono (by omega)) h0 htk hclose
  have hblk' := to_ov hblk
  run_base2 [h0, hblk']

theorem tryBlock_runAt {ss : Stmts2} {need : Nat} (ih : StmtsOK2F ss need) {F : Nat} (hF : need + 2 ≤ F) {s : P} {k : Nat}
    (hr : RdyF k s) {dp : Nat} (h0 : s.kindAt (s.pos + dp) = .L_CURLY) (htk : Toks s (s.pos + (dp + 1)) (toksL2 ss))
    (hclose : s.kindAt (s.pos + (dp + 1 + (toksL2 ss).length)) = .R_CURLY) :
    ∃ sb', RunAt (tryBlockExpr F) () s dp (dp + 1 + (toksL2 ss).length + 1) (blockEvs (evsL2 ss)) sb' :=
  RunAt.of_acc (fun E0 sb lv => tryBlock_acc2 ss need F ih _ hF (hr.ov 8 E0 dp 0 sb lv (by have := hr.lim; omega)) h0
    ((Toks_ov s _ _ _ _ _ _ _ _).2 (Toks_pos htk (Nat.add_assoc _ _ _)))
    (kindAt_pos hclose (by show s.pos + dp + _ = _; omega))) (by omega)

def firstTokS2 : Stmt2 → SyntaxKind
  | .decl cst ty _ _ => if cst then .CONST_KW else ty.kind
  | .io out _ _ => if out then .OUTPUT_KW else .INPUT_KW
  | .qubit _ => .QUBIT_KW
  | .oldReg c _ => if c then .CREG_KW else .QREG_KW
  | .letS _ => .LET_KW
  | .alias _ => .LET_KW
  | .assign _ _ => .IDENT
  | .exprS x => firstX x
  | .gate _ _ => .IDENT
  | .modGate m _ _ _ => firstMod m
  | .gphase _ => .GPHASE_KW
  | .modGphase m _ _ => firstMod m
  | .reset _ => .RESET_KW
  | .barrier _ => .BARRIER_KW
  | .delay _ _ => .DELAY_KW
  | .brk => .BREAK_KW
  | .cont => .CONTINUE_KW
  | .endS => .END_KW
  | .pragma => .PRAGMA
  | .annot => .ANNOTATION
  | .incl => .INCLUDE_KW
  | .version => .O_P_E_N_Q_A_S_M_KW
  | .externS _ _ => .EXTERN_KW
  | .ifS _ _ => .IF_KW
  | .ifElse _ _ _ => .IF_KW
  | .whileS _ _ => .WHILE_KW
  | .forS _ _ _ _ => .FOR_KW
  | .switchS _ _ => .SWITCH_KW
  | .block _ => .L_CURLY
  | .gateDef _ _ _ => .GATE_KW
  | .defS _ _ _ => .DEF_KW
  | .cal _ => .CAL_KW
  | .ret _ => .RETURN_KW

theorem toksS2_first (st : Stmt2) : ∃ j ts, toksS2 st = (firstTokS2 st, j) :: ts := by
  cases st with
  | decl cst ty w init =>
    obtain ⟨ts, h⟩ := tyToksX_head ty w
    cases cst <;> cases init <;> simp only [toksS2, firstTokS2, h, tk, Bool.false_eq_true, if_false, if_true, List.nil_append,
      List.cons_append] <;> exact ⟨_, _, rfl⟩
  | io out ty w => exact ⟨_, _, rfl⟩
  | qubit w => cases w <;> exact ⟨_, _, rfl⟩
  | oldReg c items => exact ⟨_, _, rfl⟩
  | assign ixs rhs =>
    obtain ⟨ts, h⟩ := toksP_lhsP_first ixs
    exact ⟨false, ts ++ (tk .EQ :: (toksX rhs ++ [tk .SEMICOLON])), by simp [toksS2, firstTokS2, h, tk]⟩
  | exprS x =>
    obtain ⟨j, ts, h⟩ := toksX_first x
    exact ⟨j, ts ++ [tk .SEMICOLON], by simp [toksS2, firstTokS2, h]⟩
  | modGate m ms args qs =>
    obtain ⟨ts, h⟩ := toksMod_first m
    exact ⟨false, _, by simp only [toksS2, toksMods, h, firstTokS2, tk, List.cons_append]; rfl⟩
  | modGphase m ms x =>
    obtain ⟨ts, h⟩ := toksMod_first m
    exact ⟨false, _, by simp only [toksS2, toksMods, h, firstTokS2, tk, List.cons_append]; rfl⟩
  | gateDef ps nq body => cases ps <;> exact ⟨_, _, rfl⟩
  | ret e => cases e <;> exact ⟨_, _, rfl⟩
  | _ => exact ⟨_, _, rfl⟩

theorem one_acc (st : Stmt2) (need : Nat) (ih : StmtOK2 st need) (hf : firstTokS2 st ≠ .L_CURLY) : BodyOKF (.one st) (need + 1) := by
  intro F s hF hr htk hfol
  obtain ⟨g, rfl⟩ : ∃ g, F = g + 1 := ⟨F - 1, by omega⟩
  simp only [toksB] at htk hfol ⊢
  obtain ⟨j, ts, hts⟩ := toksS2_first st
  have h0 : s.kindAt (s.pos + 0) = firstTokS2 st := Toks_head htk hts
  have hne := beq_false_of_ne (h0 ▸ hf)
  obtain ⟨st', sb', hle, hs⟩ := ih g s (by omega) hr htk hfol.one
  refine ⟨st', sb', hle, of_ov _ _ _ ?_⟩
  have hs' := to_ov hs
  show _ = _
  sym_eval [hne, hs']
  rfl

/-- `if_stmt` with the marker the caller has just started accepts the `if` statement `st` -/
def IfAcc (st : Stmt2) (need : Nat) : Prop :=
  ∀ (F : Nat) (s : P), need ≤ F → RdyL 8 s → Toks s s.pos (toksS2 st) → FollowS2 st s (s.pos + (toksS2 st).length) →
    ∀ (st0 sb0 lv : Nat), ∃ sb',
      ifStmt F { pos := s.events.size + 0, isFp := false } (s.ov [.start .TOMBSTONE none] 0 st0 sb0 (lv + 1) s.protectedPos) =
        .ok ((), s.ov (evsS2 st) (toksS2 st).length 0 sb' lv s.protectedPos)

def IfAccF (st : Stmt2) (need : Nat) : Prop :=
  ∀ (F : Nat) (s : P), need ≤ F → RdyF 8 s → Toks s s.pos (toksS2 st) → FollowS2 st s (s.pos + (toksS2 st).length) →
    ∀ (st0 sb0 lv : Nat), ∃ sb',
      ifStmt F { pos := s.events.size + 0, isFp := false } (s.ov [.start .TOMBSTONE none] 0 st0 sb0 (lv + 1) s.protectedPos) =
        .ok ((), s.ov (evsS2 st) (toksS2 st).length 0 sb' lv s.protectedPos)

theorem IfAccF.toAcc {st : Stmt2} {n : Nat} (h : IfAccF st n) : IfAcc st n :=
  fun F s hF hr => h F s hF hr.toF

def firstTokB : Body → SyntaxKind
  | .blk _ => .L_CURLY
  | .one s => firstTokS2 s

theorem toksB_first (b : Body) : ∃ j ts, toksB b = (firstTokB b, j) :: ts := by
  cases b with
  | blk ss => exact ⟨_, _, rfl⟩
  | one s => exact toksS2_first s

theorem parenToks_len (c : X) : (parenToks c).length = (toksX c).length + 2 := by
  simp only [parenToks, List.length_cons, List.length_append, List.length_nil]

theorem FollowB_pos {b : Body} {s : P} {A B : Nat} (h : FollowB b s B) (e : A = B) : FollowB b s A := e ▸ h
theorem FollowS2_pos {st : Stmt2} {s : P} {A B : Nat} (h : FollowS2 st s B) (e : A = B) : FollowS2 st s A := e ▸ h

theorem BodyOKF.runAt {b : Body} {need : Nat} (ih : BodyOKF b need) {F : Nat} (hF : need ≤ F) {s : P} {k : Nat} (hr : RdyF k s)
    (dp : Nat) (htk : Toks s (s.pos + dp) (toksB b)) (hfol : FollowB b s (s.pos + dp + (toksB b).length)) :
    ∃ sb', RunAt (blockOrStatement F) () s dp (dp + (toksB b).length) (evsB b) sb' :=
  RunAt.of_acc (fun E0 sb lv => ih F _ hF (hr.ov 8 E0 dp 0 sb lv (by have := hr.lim; omega))
    ((Toks_ov s _ _ _ _ _ _ _ _).2 htk) ((FollowB_ov _ s _ _ _ _ _ _ _).2 hfol)) rfl

theorem toksS2_ifS_len (c : X) (thn : Body) : (toksS2 (.ifS c thn)).length = 2 + (toksX c).length + 1 + (toksB thn).length := by
  simp only [toksS2, parenToks_len, List.length_cons, List.length_append]; omega

theorem toksS2_ifElse_len (c : X) (thn els : Body) :
    (toksS2 (.ifElse c thn els)).length = 2 + (toksX c).length + 1 + (toksB thn).length + 1 + (toksB els).length := by
  simp only [toksS2, parenToks_len, List.length_cons, List.length_append]; omega

theorem ifS_acc (c : X) (thn : Body) (nc need : Nat) (hx : ExprOKF c nc) (ih : BodyOKF thn need) (hc : CanonX 1 c) :
    IfAccF (.ifS c thn) (max (nc + 1) need + 1) := by
  intro F s hF hr htk hfol st0 sb0 lv
  obtain ⟨g, rfl⟩ : ∃ g, F = g + 2 := ⟨F - 2, by omega⟩
  rw [toksS2_ifS_len] at hfol ⊢
  tok_at [toksS2, parenToks] at htk
  obtain ⟨h0, h1, htc, hrp, htb⟩ := htk
  have hcond := hx.exprAt g hr 2 htc hc hrp rfl (by omega)
  obtain ⟨sbT, hthn⟩ := ih.runAt (F := g + 1) (by omega) hr _ htb
    (FollowB_pos ⟨hfol.assign, fun _ => hfol.noElse rfl, hfol.noCurly, hfol.noSemi⟩ (Nat.add_assoc _ _ _))
  have hfol' := hfol.noElse rfl
  have hnp := hr.hook
  have hpr := hr.prot
  have hlim := hr.lim
  refine ⟨?_, ?_⟩
  rotate_left 1
  sym_eval [filter_base s hpr, contains_base s hpr, h0, h1, hcond, hrp, hthn, hfol']
  ov_congr

theorem followB_else (thn : Body) (s : P) (q : Nat) (hq : s.kindAt q = .ELSE_KW) (hif : endsIfB thn = false) : FollowB thn s q := by
  refine ⟨fun _ => ?_, fun h => (by rw [hif] at h; cases h), fun _ => (by rw [hq]; decide), fun _ => (by rw [hq]; decide)⟩
  unfold StopsAt
  rw [opF_nonop _ _ _ (by rw [show s.kinds.getD q .EOF = _ from hq]; decide)]
  decide

theorem ifElse_acc (c : X) (thn els : Body) (nc need1 need2 : Nat) (hx : ExprOKF c nc) (ih1 : BodyOKF thn need1) (ih2 : BodyOKF els need2)
    (hc : CanonX 1 c) (hif : endsIfB thn = false) (hels : firstTokB els ≠ .IF_KW) :
    IfAccF (.ifElse c thn els) (max (nc + 1) (max need1 need2) + 1) := by
  intro F s hF hr htk hfol st0 sb0 lv
  obtain ⟨g, rfl⟩ : ∃ g, F = g + 2 := ⟨F - 2, by omega⟩
  rw [toksS2_ifElse_len] at hfol ⊢
  tok_at [toksS2, parenToks] at htk
  obtain ⟨h0, h1, htc, hrp, htb, hel, hte⟩ := htk
  have hcond := hx.exprAt g hr 2 htc hc hrp rfl (by omega)
  obtain ⟨sbT, hthn⟩ := ih1.runAt (F := g + 1) (by omega) hr _ htb (followB_else thn s _ (kindAt_pos hel (Nat.add_assoc _ _ _)) hif)
  obtain ⟨sbE, hrun⟩ := ih2.runAt (F := g + 1) (by omega) hr _ hte
    (FollowB_pos ⟨hfol.assign, hfol.noElse, hfol.noCurly, hfol.noSemi⟩ (Nat.add_assoc _ _ _))
  obtain ⟨j, ts, hts⟩ := toksB_first els
  have hfe : s.kindAt (s.pos + (2 + (toksX c).length + 1 + (toksB thn).length + 1)) = firstTokB els := Toks_head hte hts
  have hne := beq_false_of_ne (hfe ▸ hels)
  have hnp := hr.hook
  have hpr := hr.prot
  have hlim := hr.lim
  refine ⟨?_, ?_⟩
  rotate_left 1
  sym_eval [filter_base s hpr, contains_base s hpr, h0, h1, hcond, hrp, hthn, hel, hne, hrun]
  ov_congr


/-- `if (c) thn else s'` where `s'` is an `if` statement (`else if`): the parser calls `if_stmt` directly -/
theorem ifElseIf_acc (c : X) (thn : Body) (s' : Stmt2) (need1 need2 : Nat) (ih1 : BodyOKF thn need1) (ih2 : IfAccF s' need2) (hc : CanonX 1 c)
    (hif : endsIfB thn = false) (hels : firstTokS2 s' = .IF_KW) :
    IfAccF (.ifElse c thn (.one s')) (max (fuelX c + 1) (max need1 need2) + 1) := by
  intro F s hF hr htk hfol st0 sb0 lv
  obtain ⟨g, rfl⟩ : ∃ g, F = g + 2 := ⟨F - 2, by have := fuelX_pos c; omega⟩
  rw [toksS2_ifElse_len] at hfol ⊢
  simp only [toksB] at hfol
  tok_at [toksS2, toksB, parenToks] at htk
  obtain ⟨h0, h1, htc, hrp, htb, hel, hte⟩ := htk
  have hcond := (exprX_okF c).exprAt g hr 2 htc hc hrp rfl (by omega)
  obtain ⟨sbT, hthn⟩ := ih1.runAt (F := g + 1) (by omega) hr _ htb (followB_else thn s _ (kindAt_pos hel (Nat.add_assoc _ _ _)) hif)
  -- `if_stmt` takes the marker that its caller has started: the rule is `ih2` at the overlay reached after `else`
  obtain ⟨sb2, hif2⟩ :=
    ih2 (g + 1)
      (s.ov (.start .TOMBSTONE none :: .token .IF_KW 1 :: .token .L_PAREN 1 :: (evsX c ++ [.token .R_PAREN 1] ++ evsB thn) ++
          [.token .ELSE_KW 1])
        (2 + (toksX c).length + 1 + (toksB thn).length + 1) 0 1 (lv + 1) s.protectedPos) (by omega)
      (hr.ov 8 _ _ _ _ _ (by have := hr.lim; omega)) ((Toks_ov s _ _ _ _ _ _ _ _).2 hte)
      ((FollowS2_ov _ s _ _ _ _ _ _ _).2
        (FollowS2_pos ⟨hfol.assign, hfol.noElse, hfol.noCurly, hfol.noSemi⟩ (Nat.add_assoc _ _ _))) 0 2 (lv + 1)
  rw [ov_ov, ov_ov] at hif2
  simp only [List.cons_append, List.nil_append, ov_events_size, ov_prot, List.length_cons, List.length_nil,
    Nat.add_zero] at hif2
  obtain ⟨j, ts, hts⟩ := toksS2_first s'
  have hfe : s.kindAt (s.pos + (2 + (toksX c).length + 1 + (toksB thn).length + 1)) = .IF_KW := by
    rw [hts, hels] at hte; exact hte.1
  have hnp := hr.hook
  have hpr := hr.prot
  have hlim := hr.lim
  refine ⟨?_, ?_⟩
  rotate_left 1
  sym_eval [filter_base s hpr, contains_base s hpr, h0, h1, hcond, hrp, hthn, hel, hfe, hif2]
  ov_congr


theorem stmt_of_ifAcc (st : Stmt2) (need : Nat) (h : IfAccF st need) (hf : firstTokS2 st = .IF_KW) : StmtOK2 st (need + 2) := by
  intro F s hF hr htk hfol
  obtain ⟨g, rfl⟩ : ∃ g, F = g + 2 := ⟨F - 2, by omega⟩
  obtain ⟨j, ts, hts⟩ := toksS2_first st
  have h0 : s.kindAt (s.pos + 0) = .IF_KW := by rw [hts, hf] at htk; exact htk.1
  obtain ⟨sb', hif⟩ := h g s (by omega) hr htk hfol (s.steps + 1) (s.sinceBump + 1) s.live
  have hnp := hr.hook
  have hpr := hr.prot
  have hst : s.steps ≤ s.stepLimit := by have := hr.steps; omega
  refine ⟨0, sb', Nat.zero_le _, of_ov _ _ _ ?_⟩
  show _ = _
  sym_eval [filter_base s hpr, contains_base s hpr, h0, hif]
  rfl

theorem stmt_whileS2 (c : X) (body : Body) (nc need : Nat) (hx : ExprOKF c nc) (ih : BodyOKF body need) (hc : CanonX 1 c) :
    StmtOK2 (.whileS c body) (max (nc + 1) need + 4) := by
  intro F s hF hr htk hfol
  obtain ⟨g, rfl⟩ : ∃ g, F = g + 1 + 3 := ⟨F - 4, by omega⟩
  have hlen : (toksS2 (.whileS c body)).length = 2 + (toksX c).length + 1 + (toksB body).length := by
    simp only [toksS2, parenToks_len, List.length_cons, List.length_append]; omega
  rw [hlen] at hfol
  tok_at [toksS2, parenToks] at htk
  obtain ⟨h0, h1, htc, hrp, htb⟩ := htk
  have hcond := hx.exprAt g hr 2 htc hc hrp rfl (by omega)
  obtain ⟨sbB, hrun⟩ := ih.runAt (F := g + 1) (by omega) hr _ htb
    (FollowB_pos ⟨hfol.assign, hfol.noElse, hfol.noCurly, hfol.noSemi⟩ (Nat.add_assoc _ _ _))
  run_base2 [h0, h1, hcond, hrp, hrun]

theorem range2_acc (lo hi : X) (n : Nat) (hxl : ExprOKF lo n) (hxh : ExprOKF hi n) (F : Nat) (s : P) (hr : RdyF 6 s) (hF : n + 1 ≤ F)
    (htk : Toks s s.pos (iterToks (.range2 lo hi))) (hcl : CanonX 1 lo) (hch : CanonX 1 hi) :
    AccV (rangeExpr F) (some ⟨s.events.size + 0, .RANGE_EXPR⟩) s (iterToks (.range2 lo hi)).length (iterEvs (.range2 lo hi)) := by
  obtain ⟨g, rfl⟩ : ∃ g, F = g + 1 := ⟨F - 1, by omega⟩
  tok_at [iterToks] at htk
  obtain ⟨h0, htl, hcol, hth, hrb⟩ := htk
  have hlo := hxl.bpAt 1 g { preferStmt := false } hr 1 htl hcl (by decide) (by decide) hcol rfl (by omega)
  have hhi := hxh.bpAt 1 g { preferStmt := false } hr _ hth hch (by decide) (by decide) hrb rfl (by omega)
  have hnc : s.kindAt (s.pos + (1 + (toksX lo).length + 1 + (toksX hi).length)) ≠ .COLON := by rw [hrb]; decide
  run_base2 [h0, hlo, hcol, hhi, hnc, hrb]

theorem range3_acc (lo mid hi : X) (n : Nat) (hxl : ExprOKF lo n) (hxm : ExprOKF mid n) (hxh : ExprOKF hi n) (F : Nat) (s : P) (hr : RdyF 6 s)
    (hF : n + 1 ≤ F) (htk : Toks s s.pos (iterToks (.range3 lo mid hi)))
    (hcl : CanonX 1 lo) (hcm : CanonX 1 mid) (hch : CanonX 1 hi) :
    AccV (rangeExpr F) (some ⟨s.events.size + 0, .RANGE_EXPR⟩) s (iterToks (.range3 lo mid hi)).length (iterEvs (.range3 lo mid hi)) := by
  obtain ⟨g, rfl⟩ : ∃ g, F = g + 1 := ⟨F - 1, by omega⟩
  tok_at [iterToks] at htk
  obtain ⟨h0, htl, hcol, htm, hcol2, hth, hrb⟩ := htk
  have hlo := hxl.bpAt 1 g { preferStmt := false } hr 1 htl hcl (by decide) (by decide) hcol rfl (by omega)
  have hmid := hxm.bpAt 1 g { preferStmt := false } hr _ htm hcm (by decide) (by decide) hcol2 rfl (by omega)
  have hhi := hxh.bpAt 1 g { preferStmt := false } hr _ hth hch (by decide) (by decide) hrb rfl (by omega)
  run_base2 [h0, hlo, hcol, hmid, hcol2, hhi, hrb]

theorem set_acc (is : ItemList) (F : Nat) (s : P) (hr : RdyF 6 s) (hF : sumItems is + countItems is + 7 ≤ F)
    (htk : Toks s s.pos (iterToks (.set is))) (hc : CanonItems is) (hfo : ItemsFirstOK is) :
    Acc (setExpression F) s (iterToks (.set is)).length (iterEvs (.set is)) := by
  obtain ⟨g, rfl⟩ : ∃ g, F = g + 3 := ⟨F - 3, by omega⟩
  tok_at [iterToks] at htk
  obtain ⟨h0, hti, hrc⟩ := htk
  obtain ⟨sbL, hloop⟩ := itemsLoop_runAt (Or.inl ⟨rfl, Or.inr rfl⟩) is 0 (itemsOK is) (F := g) (by omega) hr hti hrc hc hfo
  have hnum : (0 + countItems is + 1 < 1) = False := eq_false (by omega)
  run_base2 [h0, hloop, hnum, hrc]


def CanonIter : Iter → Prop
  | .range2 lo hi => CanonX 1 lo ∧ CanonX 1 hi
  | .range3 lo mid hi => CanonX 1 lo ∧ CanonX 1 mid ∧ CanonX 1 hi
  | .set is => CanonItems is ∧ ItemsFirstOK is
  | .ex x => CanonX 1 x

def needIter : Iter → Nat
  | .range2 lo hi => max (fuelX lo) (fuelX hi) + 1
  | .range3 lo mid hi => max (fuelX lo) (max (fuelX mid) (fuelX hi)) + 1
  | .set is => sumItems is + countItems is + 7
  | .ex x => fuelX x + 1

/-- the expressions of the iterable are accepted with fuel `n` (`iterOK_need`: with `needIter it - 1`) -/
def IterOK : Iter → Nat → Prop
  | .range2 lo hi, n => ExprOKF lo n ∧ ExprOKF hi n
  | .range3 lo mid hi, n => ExprOKF lo n ∧ ExprOKF mid n ∧ ExprOKF hi n
  | .set is, n => sumItems is + countItems is + 6 ≤ n
  | .ex x, n => ExprOKF x n

theorem iterOK_need : ∀ it : Iter, IterOK it (needIter it - 1) ∧ 1 ≤ needIter it
  | .range2 lo hi => ⟨⟨(exprX_okF lo).mono (by simp only [needIter]; omega), (exprX_okF hi).mono (by simp only [needIter]; omega)⟩,
      by simp only [needIter]; omega⟩
  | .range3 lo mid hi =>
    ⟨⟨(exprX_okF lo).mono (by simp only [needIter]; omega), (exprX_okF mid).mono (by simp only [needIter]; omega),
      (exprX_okF hi).mono (by simp only [needIter]; omega)⟩, by simp only [needIter]; omega⟩
  | .set is => ⟨by simp only [IterOK, needIter]; omega, by simp only [needIter]; omega⟩
  | .ex x => ⟨(exprX_okF x).mono (by simp only [needIter]; omega), by simp only [needIter]; omega⟩

/-- an expression as iterable needs a block as loop body (the token after the expression must end it) -/
def iterBodyOK : Iter → Body → Prop
  | .ex _, .one _ => False
  | _, _ => True


theorem name_acc (s : P) (hr : Rdy 2 s) (h0 : s.kindAt (s.pos + 0) = .IDENT) : Acc name s 1 nameEvs := by
  unfold name
  run_base [h0]

theorem stmt_forS2 (ty : Ty) (w : Option X) (it : Iter) (body : Body) (nit need : Nat) (hit : IterOK it nit) (ih : BodyOKF body need)
    (hwide : w.isSome = true → ty.wide = true) (hcw : WidthOK w) (hci : CanonIter it) (hib : iterBodyOK it body) :
    StmtOK2 (.forS ty w it body) (max (max (optFuel w + 4) (nit + 1)) need + 5) := by
  intro F s hF hr htk hfol
  obtain ⟨g, rfl⟩ : ∃ g, F = g + 1 + 1 + 3 := ⟨F - 5, by omega⟩
  have hlen : (toksS2 (.forS ty w it body)).length =
      1 + (tyToksX ty w).length + 1 + 1 + (iterToks it).length + (toksB body).length := by
    simp only [toksS2, List.length_cons, List.length_append]; omega
  rw [hlen] at hfol
  tok_at [toksS2] at htk
  obtain ⟨h0, htt, hid, hin, hti, htb⟩ := htk
  obtain ⟨sbT, hty⟩ := typeSpecX_runAt ty w (optFuel_ok w) (F := g + 1 + 1) (by omega) hr hwide hcw htt hid (by decide)
  have hty := hty.at0 (by have := hr.lim; omega)
  obtain ⟨sbN, hnm⟩ := RunAt.of_acc (fun E0 sb lv => name_acc _ (hr.rdy.ov 2 E0 _ 0 sb lv (by have := hr.lim; omega)) hid) rfl
  -- the marker of the iterable is completed at an offset that is not a numeral: its slot is read and written by these two facts
  have hget : ∀ (IE : List Ev), (tyEvsX ty w ++ nameEvs ++ [Ev.token SyntaxKind.IN_KW 1] ++ [Ev.start SyntaxKind.TOMBSTONE none] ++ IE)[
      (tyEvsX ty w ++ nameEvs ++ [Ev.token SyntaxKind.IN_KW 1]).length]? = some (Ev.start SyntaxKind.TOMBSTONE none) := by
    intro IE; rw [List.append_assoc, List.getElem?_append_right (Nat.le_refl _)]; simp
  have hset : ∀ (IE : List Ev) (y : Ev), (tyEvsX ty w ++ nameEvs ++ [Ev.token SyntaxKind.IN_KW 1] ++ [Ev.start SyntaxKind.TOMBSTONE none] ++ IE).set
      (tyEvsX ty w ++ nameEvs ++ [Ev.token SyntaxKind.IN_KW 1]).length y =
      tyEvsX ty w ++ nameEvs ++ [Ev.token SyntaxKind.IN_KW 1] ++ [y] ++ IE := by
    intro IE y; rw [List.append_assoc, List.set_append_right _ _ (Nat.le_refl _)]; simp
  obtain ⟨sbB, hblk⟩ := ih.runAt (F := g + 1 + 1) (by omega) hr _ htb
    (FollowB_pos ⟨hfol.assign, hfol.noElse, hfol.noCurly, hfol.noSemi⟩ (Nat.add_assoc _ _ _))
  have hrdy := fun (E0 : List Ev) (sb lv : Nat) =>
    hr.ov 6 E0 (1 + (tyToksX ty w).length + 1 + 1) 0 sb lv (by have := hr.lim; omega)
  cases it with
  | range2 lo hi =>
    obtain ⟨aI, sbI, hrange⟩ := RunAtV.of_acc (fun E0 sb lv => ⟨_, range2_acc lo hi nit hit.1 hit.2 (g + 2) _ (hrdy E0 sb lv)
      (by omega) ((Toks_ov s _ _ _ _ _ _ _ _).2 hti) hci.1 hci.2⟩) rfl
    tok_at [iterToks] at hti
    run_base2 [h0, hty, hnm, hin, hti.1, hrange, hget, hset, hblk]
  | range3 lo mid hi =>
    obtain ⟨aI, sbI, hrange⟩ := RunAtV.of_acc (fun E0 sb lv => ⟨_, range3_acc lo mid hi nit hit.1 hit.2.1 hit.2.2 (g + 2) _
      (hrdy E0 sb lv) (by omega) ((Toks_ov s _ _ _ _ _ _ _ _).2 hti) hci.1 hci.2.1 hci.2.2⟩) rfl
    tok_at [iterToks] at hti
    run_base2 [h0, hty, hnm, hin, hti.1, hrange, hget, hset, hblk]
  | set is =>
    obtain ⟨sbI, hset'⟩ := RunAt.of_acc (fun E0 sb lv => set_acc is (g + 2) _ (hrdy E0 sb lv)
      (by simp only [IterOK] at hit; omega) ((Toks_ov s _ _ _ _ _ _ _ _).2 hti) hci.1 hci.2) rfl
    tok_at [iterToks] at hti
    run_base2 [h0, hty, hnm, hin, hti.1, hset', hget, hset, hblk]
  | ex x =>
    have hbl : ∃ ts, toksB body = tk .L_CURLY :: ts := by
      cases body with
      | one st => exact absurd hib (by simp [iterBodyOK])
      | blk ss => exact ⟨_, rfl⟩
    obtain ⟨tsb, htsb⟩ := hbl
    simp only [iterToks] at hti htb hblk
    obtain ⟨j, ts, hts⟩ := toksX_first x
    have h4 : s.kindAt (s.pos + (1 + (tyToksX ty w).length + 1 + 1)) = firstX x := Toks_head hti hts
    obtain ⟨-, -, -, -, -, -, -, -, e1, e2, -⟩ := xFirst_ne (h4 ▸ firstX_xFirst x)
    have hlc : s.kindAt (s.pos + (1 + (tyToksX ty w).length + 1 + 1 + (toksX x).length)) = .L_CURLY := by
      rw [htsb] at htb; exact htb.1
    have hex := ExprOKF.exprAt hit (g + 1) hr _ hti hci hlc rfl (by omega)
    run_base2 [h0, hty, hnm, hin, e1, e2, hex, hget, hset, hblk]


/-- the `case` part of the cases of a `switch` -/
def cToks : Cases → List Tok
  | .cons vals body rest => tk .CASE_KW :: (toksItems vals ++ (tk .L_CURLY :: (toksL2 body ++ (tk .R_CURLY :: cToks rest))))
  | _ => []
def cEvs : Cases → List Ev
  | .cons vals body rest =>
    .start .CASE_EXPR none :: .token .CASE_KW 1 :: .start .EXPRESSION_LIST none ::
      (evsItems vals ++ (.finish :: (blockEvs (evsL2 body) ++ (.finish :: cEvs rest))))
  | _ => []
/-- the `default` part -/
def dToks : Cases → List Tok
  | .nil => []
  | .dflt body => tk .DEFAULT_KW :: tk .L_CURLY :: (toksL2 body ++ [tk .R_CURLY])
  | .cons _ _ rest => dToks rest
def dEvs : Cases → List Ev
  | .nil => []
  | .dflt body => .token .DEFAULT_KW 1 :: blockEvs (evsL2 body)
  | .cons _ _ rest => dEvs rest

theorem toksC_split : ∀ cs : Cases, toksC cs = cToks cs ++ dToks cs
  | .nil => rfl
  | .dflt _ => rfl
  | .cons vals body rest => by simp only [toksC, cToks, dToks, toksC_split rest, List.cons_append, List.append_assoc]

theorem evsC_split : ∀ cs : Cases, evsC cs = cEvs cs ++ dEvs cs
  | .nil => rfl
  | .dflt _ => rfl
  | .cons vals body rest => by simp only [evsC, cEvs, dEvs, evsC_split rest, List.cons_append, List.append_assoc]

theorem caseVals_acc (vals : ItemList) (F : Nat) (s : P) (hr : RdyF 6 s) (hF : sumItems vals + countItems vals + 6 ≤ F)
    (hti : Toks s s.pos (toksItems vals)) (hlc : s.kindAt (s.pos + (toksItems vals).length) = .L_CURLY)
    (hc : CanonItems vals) (hfo : ItemsFirstOK vals) :
    Acc (caseValueList F) s (toksItems vals).length (.start .EXPRESSION_LIST none :: (evsItems vals ++ [.finish])) := by
  obtain ⟨g, rfl⟩ : ∃ g, F = g + 2 := ⟨F - 2, by omega⟩
  obtain ⟨sbL, hloop⟩ := itemsLoop_runAt (Or.inr ⟨rfl, rfl⟩) vals 0 (itemsOK vals) (F := g) (by omega) hr
    (dp := 0) hti (kindAt_pos hlc (by omega)) hc hfo
  have hnum : (0 + countItems vals + 1 < 1) = False := eq_false (by omega)
  run_base2 [hloop, hnum]

def CasesOK : Cases → Nat → Prop
  | .nil, _ => True
  | .dflt body, n => StmtsOK2 body n
  | .cons _ body rest, n => StmtsOK2 body n ∧ CasesOK rest n

def CasesOKF : Cases → Nat → Prop
  | .nil, _ => True
  | .dflt body, n => StmtsOK2F body n
  | .cons _ body rest, n => StmtsOK2F body n ∧ CasesOKF rest n

theorem CasesOKF.toOK : ∀ {cs : Cases} {n : Nat}, CasesOKF cs n → CasesOK cs n
  | .nil, _, _ => trivial
  | .dflt _, _, h => StmtsOK2F.toOK h
  | .cons _ _ _, _, h => ⟨h.1.toOK, h.2.toOK⟩

def CanonCases : Cases → Prop
  | .cons vals _ rest => (CanonItems vals ∧ ItemsFirstOK vals) ∧ CanonCases rest
  | _ => True

def needCases (n : Nat) : Cases → Nat
  | .cons vals _ rest => max (max (n + 2) (sumItems vals + countItems vals + 6)) (needCases n rest) + 1
  | _ => 1

def caseEnd (k : SyntaxKind) : Prop := k = .DEFAULT_KW ∨ k = .R_CURLY

theorem caseLoop_acc : ∀ (cs : Cases) (n F : Nat) (s : P), CasesOKF cs n → needCases n cs ≤ F → RdyF 8 s →
    Toks s s.pos (cToks cs) → caseEnd (s.kindAt (s.pos + (cToks cs).length)) → CanonCases cs →
    Acc (switchCaseLoop F) s (cToks cs).length (cEvs cs)
  | .nil, n, F, s, hok, hF, hr, htk, hend, hc => by
    obtain ⟨g, rfl⟩ : ∃ g, F = g + 1 := ⟨F - 1, by simp only [needCases] at hF; omega⟩
    simp only [cToks, List.length_nil, Nat.add_zero] at hend
    have h0 : s.kindAt (s.pos + 0) ≠ .CASE_KW := by rcases hend with h | h <;> (rw [Nat.add_zero, h]; decide)
    run_base2 [h0]
  | .dflt body, n, F, s, hok, hF, hr, htk, hend, hc => by
    obtain ⟨g, rfl⟩ : ∃ g, F = g + 1 := ⟨F - 1, by simp only [needCases] at hF; omega⟩
    simp only [cToks, List.length_nil, Nat.add_zero] at hend
    have h0 : s.kindAt (s.pos + 0) ≠ .CASE_KW := by rcases hend with h | h <;> (rw [Nat.add_zero, h]; decide)
    run_base2 [h0]
  | .cons vals body rest, n, F, s, hok, hF, hr, htk, hend, hc => by
    obtain ⟨g, rfl⟩ : ∃ g, F = g + 1 := ⟨F - 1, by simp only [needCases] at hF; omega⟩
    simp only [needCases] at hF
    simp only [cToks, List.length_cons, List.length_append] at hend ⊢
    tok_at [cToks] at htk
    obtain ⟨h0, htv, hlc, htb, hrc, htrest⟩ := htk
    obtain ⟨sbV, hvals⟩ := RunAt.of_acc (fun E0 sb lv => caseVals_acc vals g _
      (hr.ov 6 E0 1 0 sb lv (by have := hr.lim; omega)) (by omega) ((Toks_ov s _ _ _ _ _ _ _ _).2 htv)
      (kindAt_pos hlc (Nat.add_assoc _ _ _)) hc.1.1 hc.1.2) rfl
    obtain ⟨sbB, hblk⟩ := tryBlock_runAt hok.1 (F := g) (by omega) hr hlc htb hrc
    obtain ⟨sbR, hrec⟩ := RunAt.of_acc (fun E0 sb lv => caseLoop_acc rest n g _ hok.2 (by omega)
      (hr.ov 8 E0 (1 + (toksItems vals).length + 1 + (toksL2 body).length + 1) 0 sb lv (by have := hr.lim; omega))
      ((Toks_ov s _ _ _ _ _ _ _ _).2 htrest)
      (by show caseEnd (s.kindAt (s.pos + _ + _))
          rw [show s.pos + (1 + (toksItems vals).length + 1 + (toksL2 body).length + 1) + (cToks rest).length =
            s.pos + ((toksItems vals).length + ((toksL2 body).length + ((cToks rest).length + 1) + 1) + 1) by omega]
          exact hend) hc.2) rfl
    show Acc (switchCaseLoop (g + 1)) s _ (.start .CASE_EXPR none :: .token .CASE_KW 1 :: .start .EXPRESSION_LIST none ::
      (evsItems vals ++ (.finish :: (blockEvs (evsL2 body) ++ (.finish :: cEvs rest)))))
    run_base2 [h0, hvals, hblk, hrec]


def dfltOf : Cases → Option Stmts2
  | .nil => none
  | .dflt body => some body
  | .cons _ _ rest => dfltOf rest

theorem dToks_eq : ∀ cs : Cases, dToks cs = (match dfltOf cs with
    | none => []
    | some body => tk .DEFAULT_KW :: tk .L_CURLY :: (toksL2 body ++ [tk .R_CURLY]))
  | .nil => rfl
  | .dflt _ => rfl
  | .cons _ _ rest => by simp only [dToks, dfltOf]; exact dToks_eq rest

theorem dEvs_eq : ∀ cs : Cases, dEvs cs = (match dfltOf cs with
    | none => []
    | some body => .token .DEFAULT_KW 1 :: blockEvs (evsL2 body))
  | .nil => rfl
  | .dflt _ => rfl
  | .cons _ _ rest => by simp only [dEvs, dfltOf]; exact dEvs_eq rest

theorem casesOK_dflt : ∀ (cs : Cases) (n : Nat), CasesOKF cs n → ∀ body, dfltOf cs = some body → StmtsOK2F body n
  | .nil, _, _, _, h => by cases h
  | .dflt b, _, hok, body, h => by simp only [dfltOf, Option.some.injEq] at h; subst h; exact hok
  | .cons _ _ rest, n, hok, body, h => casesOK_dflt rest n hok.2 body h

theorem stmt_switchS (c : X) (cs : Cases) (n : Nat) (hok : CasesOKF cs n) (hc : CanonX 1 c) (hcc : CanonCases cs) (hne : cs ≠ .nil) :
    StmtOK2 (.switchS c cs) (max (fuelX c + 1) (needCases n cs + n + 2) + 3) := by
  intro F s hF hr htk _
  obtain ⟨g, rfl⟩ : ∃ g, F = g + 1 + 3 := ⟨F - 4, by have := fuelX_pos c; omega⟩
  tok_at [toksS2, parenToks, toksC_split] at htk
  obtain ⟨h0, h1, htc, hrp, hlc, htcs, htd, hrc⟩ := htk
  have hcond := (exprX_okF c).exprAt g hr 2 htc hc hrp rfl (by omega)
  -- the token after `{` is `case`, or `default` if there is a `default` part
  have hfirst : s.kindAt (s.pos + (2 + (toksX c).length + 1 + 1)) = .CASE_KW ∨
      (dfltOf cs ≠ none ∧ s.kindAt (s.pos + (2 + (toksX c).length + 1 + 1)) = .DEFAULT_KW) := by
    cases cs with
    | nil => exact absurd rfl hne
    | dflt b => tok_at [dToks, cToks, List.length_nil, Nat.add_zero] at htd; exact Or.inr ⟨by simp [dfltOf], htd.1⟩
    | cons v b r => tok_at [cToks] at htcs; exact Or.inl htcs.1
  have hloop := fun (hce : caseEnd (s.kindAt (s.pos + (2 + (toksX c).length + 1 + 1 + (cToks cs).length)))) =>
    RunAt.of_acc (fun E0 sb lv => caseLoop_acc cs n (g + 1) _ hok (by omega)
      (hr.ov 8 E0 (2 + (toksX c).length + 1 + 1) 0 sb lv (by have := hr.lim; omega)) ((Toks_ov s _ _ _ _ _ _ _ _).2 htcs)
      (by show caseEnd (s.kindAt (s.pos + _ + _)); rw [Nat.add_assoc]; exact hce) hcc) rfl
  simp only [toksS2, parenToks, toksC_split, List.length_cons, List.length_append, List.length_nil]
  rw [dToks_eq] at htd hrc ⊢
  rw [show evsS2 (.switchS c cs) = .start .SWITCH_CASE_STMT none :: .token .SWITCH_KW 1 :: .token .L_PAREN 1 :: (evsX c ++ (.token .R_PAREN 1 :: .token .L_CURLY 1 ::
      ((cEvs cs ++ dEvs cs) ++ [.token .R_CURLY 1, .finish]))) from by simp only [evsS2, evsC_split], dEvs_eq]
  cases hd : dfltOf cs with
  | none =>
    simp only [hd, List.length_nil, Nat.add_zero] at hrc ⊢
    obtain ⟨sbL, hl⟩ := hloop (Or.inr hrc)
    have hnd : s.kindAt (s.pos + (2 + (toksX c).length + 1 + 1 + (cToks cs).length)) ≠ .DEFAULT_KW := by rw [hrc]; decide
    have hf := hfirst.resolve_right (fun h => h.1 hd)
    run_base2 [h0, h1, hcond, hrp, hlc, hf, hl, hnd, hrc]
  | some body =>
    simp only [hd] at htd hrc ⊢
    tok_at [] at htd
    obtain ⟨hdk, hdl, htb, hdr⟩ := htd
    obtain ⟨sbL, hl⟩ := hloop (Or.inl hdk)
    obtain ⟨sbB, hblk⟩ := tryBlock_runAt (casesOK_dflt cs n hok body hd) (F := g + 1) (by omega) hr hdl htb hdr
    have hrc' : s.kindAt (s.pos + (2 + (toksX c).length + 1 + 1 + (cToks cs).length + 1 + 1 + (toksL2 body).length + 1)) = .R_CURLY :=
      kindAt_pos hrc (by simp only [List.length_cons, List.length_append, List.length_nil]; omega)
    rcases hfirst with hf | ⟨-, hf⟩ <;> run_base2 [h0, h1, hcond, hrp, hlc, hf, hl, hdk, hblk, hrc']

/-- the `EXPR_STMT` wrapper of `stmt` around a block-like expression (a bare block) that is followed by
neither `}` nor `;` -/
theorem stmt_wrapB (f : Nat) (s : P) (hr : RdyF 8 s)
    (h0 : s.kindAt (s.pos + 0) = .L_CURLY) (X : List Ev) (n off sbx : Nat) (kr : SyntaxKind)
    (hsub : exprStmt (f + 1) (some { pos := s.events.size + 0 })
        (s.ov [Ev.start SyntaxKind.TOMBSTONE none] 0 (s.steps + 1) (s.sinceBump + 1) (s.live + 1) s.protectedPos) =
      .ok (some (⟨s.events.size + off, kr⟩, .block), s.ov X n 0 sbx s.live s.protectedPos))
    (hroot : X[off]? = some (.start kr none)) (hkr : (kr == .ASSIGNMENT_STMT) = false)
    (hn1 : s.kindAt (s.pos + n) ≠ .R_CURLY) (hn2 : s.kindAt (s.pos + n) ≠ .SEMICOLON) :
    Acc (stmt (f + 2)) s n
      (X.set off (.start kr (some (X.length - off))) ++ [.start .EXPR_STMT none, .finish]) := by
  have hnp := hr.hook
  have hpr := hr.prot
  have hst : s.steps ≤ s.stepLimit := by have := hr.steps; omega
  obtain ⟨s₁, hS, h1n, hpr₁, hp, hk1, hfin⟩ := wrap_base s hnp hpr X n 0 sbx off kr hroot
  rw [hS] at hsub
  have h1a : (s₁.kindAt (s₁.pos + 0) == .R_CURLY) = false := by rw [hk1]; exact beq_false_of_ne hn1
  have h1b : (s₁.kindAt (s₁.pos + 0) == .SEMICOLON) = false := by rw [hk1]; exact beq_false_of_ne hn2
  have hpre := precede_base s₁ h1n (s.events.size + off) kr kr none hp
  have hcomp := fun E dp st sb lv pr i b kind =>
    complete_ov (s₁.setEv (s.events.size + off) (.start kr (some (s₁.events.size + 0 - (s.events.size + off))))) E dp st sb lv pr h1n i b kind
  simp only [setEv_size] at hcomp
  refine ⟨0, ?_, Nat.zero_le _, of_ov _ _ _ ?_⟩
  rotate_left 1
  sym_eval [filter_base s hpr, contains_base s hpr, h0, hsub, hkr, hpre, hcomp, h1a, h1b, setEv_size, setEv_kindAt, setEv_pos,
    setEv_npl, setEv_stepLimit, filter_base s₁ hpr₁, contains_base s₁ hpr₁, bne_self_eq_false]
  rw [hfin]
  rfl

theorem stmt_block (ss : Stmts2) (need : Nat) (ih : StmtsOK2F ss need) : StmtOK2 (.block ss) (need + 7) := by
  intro F s hF hr htk hfol
  obtain ⟨g, rfl⟩ : ∃ g, F = g + 4 + 2 := ⟨F - 6, by omega⟩
  simp only [toksS2, List.length_cons, List.length_append, List.length_nil] at hfol ⊢
  tok_at [toksS2] at htk
  obtain ⟨h0, htb, hrc⟩ := htk
  have hnp := hr.hook
  have hpr := hr.prot
  have hlim := hr.lim
  have hst : s.steps + 2 ≤ s.stepLimit := by have := hr.steps; omega
  obtain ⟨sbb, hblk⟩ := blockExpr_exact ss need (g + 1) ih
    (s.ov [.start .TOMBSTONE none] 0 (s.steps + 1 + 1) (s.sinceBump + 1) (s.live + 1) s.protectedPos) (by omega)
    (hr.ov 1 _ _ _ _ _ (by have := hr.steps; omega)) h0 ((Toks_ov s _ _ _ _ _ _ _ _).2 htb) hrc
  rw [ov_ov] at hblk
  simp only [List.cons_append, List.nil_append, ov_events_size, ov_live, ov_prot, List.length_cons, List.length_nil, Nat.zero_add, Nat.add_zero,
    blockEvs] at hblk
  have hn1 : s.kindAt (s.pos + ((toksL2 ss).length + 2)) ≠ .R_CURLY := by
    intro h; exact hfol.noCurly rfl (kindAt_pos h (by omega))
  have hn2 : s.kindAt (s.pos + ((toksL2 ss).length + 2)) ≠ .SEMICOLON := by
    intro h; exact hfol.noSemi rfl (kindAt_pos h (by omega))
  have hsub : exprStmt (g + 4 + 1) (some { pos := s.events.size + 0 })
      (s.ov [Ev.start SyntaxKind.TOMBSTONE none] 0 (s.steps + 1) (s.sinceBump + 1) (s.live + 1) s.protectedPos) =
      .ok (some (⟨s.events.size + 1, .BLOCK_EXPR⟩, .block),
        s.ov (tombLink :: .start .BLOCK_EXPR none :: .token .L_CURLY 1 :: (evsL2 ss ++ [.token .R_CURLY 1, .finish]))
          ((toksL2 ss).length + 2) 0 sbb s.live s.protectedPos) := by
    sym_eval [filter_base s hpr, contains_base s hpr, h0, hblk]
    rfl
  refine (stmt_wrapB _ s hr h0 _ _ 1 _ _ hsub rfl rfl hn1 hn2).congr ?_ ?_
  · simp only [evsS2, tombLink, List.set_cons_succ, List.set_cons_zero, List.cons_append, List.nil_append,
      List.append_assoc, List.length_cons, List.length_append, List.length_nil]
    congr 3
  · omega

/-- `gate g q0, …, q_nq { body }` -/
theorem stmt_gateDef_none2 (nq : Nat) (body : Stmts2) (need F : Nat) (ih : StmtsOK2F body need) (s : P) (hr : RdyF 8 s)
    (hF : max (nq + 5) (need + 3) + 3 ≤ F) (htk : Toks s s.pos (toksS2 (.gateDef none nq body))) :
    Acc (stmt F) s (toksS2 (.gateDef none nq body)).length (evsS2 (.gateDef none nq body)) := by
  obtain ⟨g, rfl⟩ : ∃ g, F = g + 3 := ⟨F - 3, by omega⟩
  tok_at [toksS2] at htk
  obtain ⟨h0, h1, htq, hlc, htb, hrc⟩ := htk
  have h2 : s.kindAt (s.pos + 2) = .IDENT := by
    obtain ⟨ts, hts⟩ := qubitToks_head nq
    exact Toks_head htq hts
  obtain ⟨sbQ, hq⟩ := RunAt.of_acc (fun E0 sb lv => gateQubits_acc' nq g (by omega) _
    (hr.rdy.ov 2 E0 2 0 sb lv (by have := hr.lim; omega)) ((Toks_ov s _ _ _ _ _ _ _ _).2 htq)
    (kindAt_pos hlc (Nat.add_assoc _ _ _))) rfl
  obtain ⟨sbB, hblk⟩ := tryBlock_runAt ih (F := g) (by omega) hr hlc htb hrc
  run_base2 [h0, h1, h2, hq, hblk]

/-- `gate g(p0, …, p_k) q0, …, q_nq { body }` -/
theorem stmt_gateDef_some2 (k nq : Nat) (body : Stmts2) (need F : Nat) (ih : StmtsOK2F body need) (s : P) (hr : RdyF 8 s)
    (hF : max (max (k + 5) (nq + 5)) (need + 3) + 3 ≤ F) (htk : Toks s s.pos (toksS2 (.gateDef (some k) nq body))) :
    Acc (stmt F) s (toksS2 (.gateDef (some k) nq body)).length (evsS2 (.gateDef (some k) nq body)) := by
  obtain ⟨g, rfl⟩ : ∃ g, F = g + 3 := ⟨F - 3, by omega⟩
  tok_at [toksS2] at htk
  obtain ⟨h0, h1, h2, htp, hrp, htq, hlc, htb, hrc⟩ := htk
  obtain ⟨sbP, hp⟩ := RunAt.of_acc (fun E0 sb lv => gateParams_acc' k g (by omega) _
    (hr.rdy.ov 2 E0 2 0 sb lv (by have := hr.lim; omega)) h2 ((Toks_ov s _ _ _ _ _ _ _ _).2 htp)
    (kindAt_pos hrp (by show s.pos + 2 + _ = _; omega))) (dp' := 3 + (qubitToks k).length + 1) (by omega)
  obtain ⟨sbQ, hq⟩ := RunAt.of_acc (fun E0 sb lv => gateQubits_acc' nq g (by omega) _
    (hr.rdy.ov 2 E0 (3 + (qubitToks k).length + 1) 0 sb lv (by have := hr.lim; omega)) ((Toks_ov s _ _ _ _ _ _ _ _).2 htq)
    (kindAt_pos hlc (Nat.add_assoc _ _ _))) rfl
  have hq0 : s.kindAt (s.pos + (3 + (qubitToks k).length + 1)) ≠ .L_PAREN := by
    obtain ⟨ts, hts⟩ := qubitToks_head nq
    rw [hts] at htq; rw [htq.1]; decide
  obtain ⟨sbB, hblk⟩ := tryBlock_runAt ih (F := g) (by omega) hr hlc htb hrc
  run_base2 [h0, h1, h2, hp, hq, hblk]

theorem stmt_defS2 (ps : List PTy) (ret : Option Ty) (body : Stmts2) (need F : Nat) (ih : StmtsOK2F body need) (s : P)
    (hr : RdyF 8 s) (hF : max (ps.length + 6) (need + 3) + 3 ≤ F) (htk : Toks s s.pos (toksS2 (.defS ps ret body))) :
    Acc (stmt F) s (toksS2 (.defS ps ret body)).length (evsS2 (.defS ps ret body)) := by
  obtain ⟨g, rfl⟩ : ∃ g, F = g + 3 := ⟨F - 3, by omega⟩
  tok_at [toksS2] at htk
  obtain ⟨h0, h1, h2, htp, hrp, htr, hlc, htb, hrc⟩ := htk
  obtain ⟨sbP, hp⟩ := RunAt.of_acc (fun E0 sb lv => defParams_acc' ps g (by omega) _
    (hr.rdy.ov 2 E0 2 0 sb lv (by have := hr.lim; omega)) h2 ((Toks_ov s _ _ _ _ _ _ _ _).2 htp)
    (kindAt_pos hrp (by show s.pos + 2 + _ = _; omega))) (dp' := 3 + (typedToks ps).length + 1) (by omega)
  obtain ⟨sbR, hrs⟩ := RunAt.of_acc (fun E0 sb lv => retSig_acc' ret g (by omega) _
    (hr.rdy.ov 2 E0 (3 + (typedToks ps).length + 1) 0 sb lv (by have := hr.lim; omega)) ((Toks_ov s _ _ _ _ _ _ _ _).2 htr)
    (kindAt_pos hlc (Nat.add_assoc _ _ _))) rfl
  obtain ⟨sbB, hblk⟩ := tryBlock_runAt ih (F := g) (by omega) hr hlc htb hrc
  run_base2 [h0, h1, h2, hp, hrs, hblk]


theorem stmt_cal (body : Stmts2) (need F : Nat) (ih : StmtsOK2F body need) (s : P) (hr : RdyF 8 s)
    (hF : need + 6 ≤ F) (htk : Toks s s.pos (toksS2 (.cal body))) :
    Acc (stmt F) s (toksS2 (.cal body)).length (evsS2 (.cal body)) := by
  obtain ⟨g, rfl⟩ : ∃ g, F = g + 3 := ⟨F - 3, by omega⟩
  tok_at [toksS2] at htk
  obtain ⟨h0, hlc, htb, hrc⟩ := htk
  obtain ⟨sbB, hblk⟩ := tryBlock_runAt ih (F := g) (by omega) hr hlc htb hrc
  run_base2 [h0, hblk]

end Oq3.LangEv2
