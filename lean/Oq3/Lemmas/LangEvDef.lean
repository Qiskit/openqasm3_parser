/-
C04 for a recursive reference language: the parameter lists and the return signature of `gate` and
`def` definitions (shared with the extended language).
-/
import Oq3.Lemmas.LangEvStmt
set_option linter.unusedSimpArgs false
set_option linter.unusedVariables false

namespace Oq3.LangEv
open Oq3.Gen Oq3.Parser Oq3.Grammar Oq3.SymExec Oq3.PrattEv
open Oq3.Gen.Ops (Assoc)

theorem paramEvs_length (n : Nat) : (paramEvs n).length = 4 * n + 3 := by
  induction n with
  | zero => rfl
  | succ n ih => simp only [paramEvs, List.length_cons, ih]; omega

/-- the item loop of `_param_list_openqasm` on the names of a gate definition: the parameters `( p0, …, pn )`
(flavor `gateParams`) and the qubits `q0, …, qn {` (flavor `gateQubits`) -/
theorem gateNameLoop_acc (fl : DefFlavor) (cl : SyntaxKind)
    (hfc : (fl = .gateParams ∧ cl = .R_PAREN) ∨ (fl = .gateQubits ∧ cl = .L_CURLY)) (n : Nat) :
    ∀ (g k : Nat) (s : P), Rdy 2 s → Toks s s.pos (qubitToks n) →
    s.kindAt (s.pos + (qubitToks n).length) = cl →
    AccV (paramListOpenqasmLoop (g + n + 3) fl k) (k + n + 1) s (qubitToks n).length (paramEvs n) := by
  -- the flavor and its closing token stay variables in the runs: this is what the loop asks of them
  have hfl : atListEndToken fl = at' cl := by rcases hfc with ⟨rfl, rfl⟩ | ⟨rfl, rfl⟩ <;> rfl
  have hdp : (fl == .defParams) = false := by rcases hfc with ⟨rfl, -⟩ | ⟨rfl, -⟩ <;> rfl
  have hitem : ∀ f m b, paramListItem (f + 1) fl m b = paramUntyped m := by
    intro f m b; rcases hfc with ⟨rfl, -⟩ | ⟨rfl, -⟩ <;> rfl
  obtain ⟨c1, c2, c3⟩ : compositePieces cl = none ∧ (SyntaxKind.IDENT == cl) = false ∧ (SyntaxKind.COMMA == cl) = false := by
    rcases hfc with ⟨-, rfl⟩ | ⟨-, rfl⟩ <;> decide
  induction n with
  | zero =>
    intro g k s hr htk hend
    simp only [qubitToks, List.length_cons, List.length_nil, Nat.zero_add] at hend
    tok_at [qubitToks] at htk
    run_base [htk, hend, hfl, hdp, hitem, c1, c2, c3]
  | succ n ih =>
    intro g k s hr htk hend
    simp only [qubitToks, List.length_cons] at hend
    tok_at [qubitToks] at htk
    obtain ⟨h0, h1, htk⟩ := htk
    obtain ⟨sbR, hrec'⟩ := RunAt.of_acc (fun E0 sb lv => ih g (k + 1) _ (hr.ov 2 E0 2 0 sb lv (by have := hr.steps; omega))
      ((Toks_ov s _ _ _ _ _ _ _ _).2 htk) (kindAt_pos hend (by show s.pos + 2 + _ = _; omega))) rfl
    show AccV (paramListOpenqasmLoop ((g + n + 3) + 1) fl k) _ s _ _
    run_base [h0, h1, hrec', hfl, hdp, hitem, c1, c2, c3]

theorem gateParams_acc' (n F : Nat) (hF : n + 5 ≤ F) (s : P) (hr : Rdy 2 s) (h0 : s.kindAt (s.pos + 0) = .L_PAREN)
    (htk : Toks s (s.pos + 1) (qubitToks n)) (hend : s.kindAt (s.pos + (1 + (qubitToks n).length)) = .R_PAREN) :
    Acc (paramListGateParams F) s ((qubitToks n).length + 2)
      (.start .PARAM_LIST none :: .token .L_PAREN 1 :: (paramEvs n ++ [.token .R_PAREN 1, .finish])) := by
  obtain ⟨g, rfl⟩ : ∃ g, F = g + n + 5 := ⟨F - n - 5, by omega⟩
  obtain ⟨sbL, hloop⟩ := RunAt.of_acc (fun E0 sb lv => gateNameLoop_acc _ _ (Or.inl ⟨rfl, rfl⟩) n g 0 _
    (hr.ov 2 E0 1 0 sb lv (by have := hr.steps; omega)) ((Toks_ov s _ _ _ _ _ _ _ _).2 htk)
    (kindAt_pos hend (Nat.add_assoc _ _ _))) rfl
  have hnum : (0 + n + 1 < 1) = False := eq_false (by omega)
  show Acc (paramListGateParams ((g + n + 3) + 1 + 1)) _ _ _
  run_base [h0, hloop, hend, hnum]

theorem gateQubits_acc' (n F : Nat) (hF : n + 5 ≤ F) (s : P) (hr : Rdy 2 s) (htk : Toks s s.pos (qubitToks n))
    (hend : s.kindAt (s.pos + (qubitToks n).length) = .L_CURLY) :
    Acc (paramListGateQubits F) s (qubitToks n).length (.start .PARAM_LIST none :: (paramEvs n ++ [.finish])) := by
  obtain ⟨g, rfl⟩ : ∃ g, F = g + n + 5 := ⟨F - n - 5, by omega⟩
  obtain ⟨st', sb', hle, hloop⟩ :=
    (gateNameLoop_acc _ _ (Or.inr ⟨rfl, rfl⟩) n g 0 (s.ov [.start .TOMBSTONE none] 0 s.steps (s.sinceBump + 1) (s.live + 1) s.protectedPos)
      (hr.ov 2 _ _ _ _ _ hr.steps)
      ((Toks_ov s _ _ _ _ _ _ _ _).2 htk) hend).at_ov
  show Acc (paramListGateQubits ((g + n + 3) + 1 + 1)) _ _ _
  run_base [hloop]

theorem typedLoop_acc (ps : List PTy) : ∀ (p : PTy) (g k : Nat) (s : P), Rdy 2 s → Toks s s.pos (typedToks (p :: ps)) →
    s.kindAt (s.pos + (typedToks (p :: ps)).length) = .R_PAREN →
    AccV (paramListOpenqasmLoop (g + ps.length + 5) .defParams k) (k + ps.length + 1) s (typedToks (p :: ps)).length
      (typedEvs (p :: ps)) := by
  induction ps with
  | nil =>
    intro p g k s hr htk hend
    simp only [typedToks, Toks, tk, List.length_cons, List.length_nil] at htk hend
    obtain ⟨h0, -, h1, -, -⟩ := htk
    rw [show s.pos = s.pos + 0 from rfl] at h0
    simp only [Nat.zero_add, Nat.reduceAdd] at hend
    rcases p with ty | _
    · simp only [PTy.kind] at h0; run_base [h0, h1, hend, ty.kind_beq, ty.isType, ty.isClassical, ty.bump_ov]
    · simp only [PTy.kind] at h0; run_base [h0, h1, hend]
  | cons q qs ih =>
    intro p g k s hr htk hend
    rw [show typedToks (p :: q :: qs) = tk p.kind :: tk .IDENT :: tk .COMMA :: typedToks (q :: qs) from rfl] at htk hend
    simp only [List.length_cons] at hend
    tok_at [] at htk
    obtain ⟨h0, h1, h2, htk⟩ := htk
    obtain ⟨sbR, hrec'⟩ := RunAt.of_acc (fun E0 sb lv => ih q g (k + 1) _ (hr.ov 2 E0 3 0 sb lv (by have := hr.steps; omega))
      ((Toks_ov s _ _ _ _ _ _ _ _).2 htk) (kindAt_pos hend (by show s.pos + 3 + _ = _; omega))) rfl
    show AccV (paramListOpenqasmLoop ((g + qs.length + 5) + 1) .defParams k) _ s _ _
    rcases p with ty | _
    · simp only [PTy.kind] at h0 hrec'; run_base [h0, h1, h2, hrec', ty.kind_beq, ty.isType, ty.isClassical, ty.bump_ov]
    · simp only [PTy.kind] at h0 hrec'; run_base [h0, h1, h2, hrec']

theorem defParams_acc' (ps : List PTy) (F : Nat) (hF : ps.length + 6 ≤ F) (s : P) (hr : Rdy 2 s)
    (h0 : s.kindAt (s.pos + 0) = .L_PAREN) (htk : Toks s (s.pos + 1) (typedToks ps))
    (hend : s.kindAt (s.pos + (1 + (typedToks ps).length)) = .R_PAREN) :
    Acc (paramListDefParams F) s ((typedToks ps).length + 2)
      (.start .TYPED_PARAM_LIST none :: .token .L_PAREN 1 :: (typedEvs ps ++ [.token .R_PAREN 1, .finish])) := by
  obtain ⟨g, rfl⟩ : ∃ g, F = g + ps.length + 6 := ⟨F - ps.length - 6, by omega⟩
  cases ps with
  | nil =>
    simp only [typedToks, List.length_nil, Nat.add_zero] at hend
    run_base [h0, hend]
  | cons p ps =>
    obtain ⟨sbL, hloop⟩ := RunAt.of_acc (fun E0 sb lv => typedLoop_acc ps p g 0 _
      (hr.ov 2 E0 1 0 sb lv (by have := hr.steps; omega)) ((Toks_ov s _ _ _ _ _ _ _ _).2 htk)
      (kindAt_pos hend (Nat.add_assoc _ _ _))) rfl
    show Acc (paramListDefParams ((g + ps.length + 5) + 1 + 1)) _ _ _
    run_base [h0, hloop, hend]

theorem Ty.isScalar (ty : Ty) : ty.kind.isScalarType = true := by cases ty <;> rfl

theorem retSig_acc' (ret : Option Ty) (F : Nat) (hF : 5 ≤ F) (s : P) (hr : Rdy 2 s) (htk : Toks s s.pos (retToks ret))
    (hnext : s.kindAt (s.pos + (retToks ret).length) = .L_CURLY) :
    AccV (optReturnSignature F) ret.isSome s (retToks ret).length (retEvs ret) := by
  obtain ⟨g, rfl⟩ : ∃ g, F = g + 5 := ⟨F - 5, by omega⟩
  cases ret with
  | none =>
    simp only [retToks, List.length_nil] at hnext
    have hnp := hr.hook
    refine ⟨s.steps, s.sinceBump, Nat.le_refl _, of_ov _ _ _ ?_⟩
    sym_eval [hnext]
    rfl
  | some ty =>
    simp only [retToks, Toks, tk, List.length_cons, List.length_nil, true_implies] at htk hnext
    obtain ⟨h0, hj, h1, -, h2, -, -⟩ := htk
    have h3 : s.kindAt (s.pos + 3) = .L_CURLY := kindAt_pos hnext (by omega)
    rw [show s.pos = s.pos + 0 from rfl] at h0
    rw [show s.pos + 1 + 1 = s.pos + 2 from rfl] at h2
    have hatF : atF .THIN_ARROW s.kinds s.joint (s.pos + 0) = true := by
      rw [atF_THIN_ARROW]
      simp only [P.kindAt] at h0 h1
      simp only [Nat.add_zero] at h0 ⊢
      simp only [h0, h1, hj, beq_self_eq_true, Bool.and_self]
    have hat : ∀ E st sb lv pr, at' .THIN_ARROW (s.ov E 0 st sb lv pr) = .ok (true, s.ov E 0 st sb lv pr) := by
      intro E st sb lv pr; rw [at_total]; exact congrArg (fun b => Except.ok (b, _)) hatF
    have hjr : ∀ E st sb lv pr, (s.ov E 0 st sb lv pr).jointRes (s.pos + 0) = .ok (true, s.ov E 0 st sb lv pr) := by
      intro E st sb lv pr
      unfold P.jointRes
      rw [isJoint_in_range _ _ (by show s.kindAt (s.pos + 0 + 1) ≠ _; rw [Nat.add_zero, h1]; decide)]
      have : (s.ov E 0 st sb lv pr).joint.getD (s.pos + 0) false = true := by rw [Nat.add_zero]; exact hj
      rw [this]
    have hbump := fun E st sb lv pr => bump_atF_ov .THIN_ARROW (by decide) s E 0 st sb lv pr hatF
    rw [show eatRawTokens .THIN_ARROW = 2 from by decide] at hbump
    run_base [h0, h1, hjr, hat, hbump, h2, h3, ty.kind_beq, ty.isType, ty.isScalar, ty.bump_ov]

end Oq3.LangEv
