/-
Reasoning about runs of the semantic-analysis model `M = StateT Ctx (Except Outcome)`
(`Oq3/Model/SemaCtx.lean`, `Oq3/Model/Sema.lean`), after the pattern of `Lemmas/ParserInv.lean`
(the run lemmas `M.bind_ok`, … are in `Lemmas/SemaRun.lean`):

* `Ext s s'`: the *relational* post-condition that every analysis function satisfies — the scope
  stack is the same below the current scope, the current scope kept its kind and only gained
  entries, `all` only grew, diagnostics were only appended, and the C19 invariant is preserved;
  `Ext` is a preorder, so it composes along `>>=` (`Pres.bind`);
* `Pres x`: every successful run of `x` is related by `Ext`;
* `PresE sites x`: every failing run of `x` ends in an outcome satisfying `OkOutcome` (a panic at one of
  the listed sites, or fuel / unsupported include);
* for each primitive of `SemaCtx.lean` a success lemma (`_pres` / `_readOnly`) and a failure lemma
  (`_total` / `_presE`; `newBinding`, `tableLookup` and `withScope` fail only where their table steps
  do: `symStep_presE` through `Closed.of_symStep`).  `enterScope`/`exitScope` do not satisfy `Ext`; they
  are only ever used through `withScope`, which does (`withScope_pres`).

`Pres.closed`, `PresE.closed`: both are compositional (`Lemmas/SemaClosed.lean`), hence hold of every
function of the translation (`allPres`, `PresE.closed.all`).
-/
import Oq3.Lemmas.SemaRun
import Oq3.Lemmas.SemaClosed
import Oq3.Props.C19

namespace Oq3.Sema
open Oq3.Types Oq3.Symbols
open Oq3.Props

structure SymExt (t t' : SymTab) : Prop where
  /-- scopes below the current one are untouched -/
  tail : t'.stack.tail = t.stack.tail
  len : t'.stack.length = t.stack.length
  /-- the current scope kept its kind; its entries are a suffix of the new entries -/
  head : ∀ top ∈ t.stack.head?, ∃ top' ∈ t'.stack.head?, top'.kind = top.kind ∧ top.tab <:+ top'.tab
  all : t.all <+: t'.all
  inv : C19.Inv t → C19.Inv t'

theorem SymExt.refl (t : SymTab) : SymExt t t :=
  ⟨rfl, rfl, fun top h => ⟨top, h, rfl, List.suffix_refl _⟩, List.prefix_refl _, id⟩

theorem SymExt.trans {a b c : SymTab} (h1 : SymExt a b) (h2 : SymExt b c) : SymExt a c := by
  refine ⟨h2.tail.trans h1.tail, h2.len.trans h1.len, ?_, h1.all.trans h2.all, h2.inv ∘ h1.inv⟩
  intro top ht
  obtain ⟨top1, ht1, hk1, hs1⟩ := h1.head top ht
  obtain ⟨top2, ht2, hk2, hs2⟩ := h2.head top1 ht1
  exact ⟨top2, ht2, hk2.trans hk1, hs1.trans hs2⟩

theorem SymExt.of_stack_eq {t t' : SymTab} (hs : t'.stack = t.stack) (ha : t.all <+: t'.all)
    (hi : C19.Inv t → C19.Inv t') : SymExt t t' := by
  refine ⟨by rw [hs], by rw [hs], ?_, ha, hi⟩
  intro top h
  exact ⟨top, by rw [hs]; exact h, rfl, List.suffix_refl _⟩

/-- **the relational post-condition of every analysis function**: scopes and symbol table.
`C06.Ext` shares `sym.all` and `errs` and adds `program` and the pending annotations; `C08.Ext` is
`sym.all` alone. -/
structure Ext (s s' : Ctx) : Prop where
  sym : SymExt s.symbolTable s'.symbolTable
  errs : s.semanticErrors <+: s'.semanticErrors

theorem Ext.refl (s : Ctx) : Ext s s := ⟨SymExt.refl _, List.prefix_refl _⟩

theorem Ext.trans {a b c : Ctx} (h1 : Ext a b) (h2 : Ext b c) : Ext a c :=
  ⟨h1.sym.trans h2.sym, h1.errs.trans h2.errs⟩

structure Pres {α} (x : M α) : Prop where
  run : ∀ s r, x s = .ok r → Ext s r.2

theorem Pres.bind {α β} {x : M α} {f : α → M β} (hx : Pres x) (hf : ∀ a, Pres (f a)) :
    Pres (x >>= f) := by
  refine ⟨fun s r h => ?_⟩
  obtain ⟨a, s1, h1, h2⟩ := (M.bind_ok x f s r).mp h
  exact (hx.run s (a, s1) h1).trans ((hf a).run s1 r h2)

theorem Pres.pure {α} (a : α) : Pres (pure a : M α) := by
  refine ⟨fun s r h => ?_⟩; simp at h; subst h; exact Ext.refl _

theorem Pres.fail {α} (site : String) : Pres (fail site : M α) := by
  refine ⟨fun s r h => ?_⟩; simp at h

theorem Pres.throw {α} (o : Outcome) : Pres (throw o : M α) := by
  refine ⟨fun s r h => ?_⟩; simp at h

def ReadOnly {α} (x : M α) : Prop := ∀ s r, x s = .ok r → r.2 = s

theorem ReadOnly.pres {α} {x : M α} (h : ReadOnly x) : Pres x := by
  refine ⟨fun s r hr => ?_⟩; rw [h s r hr]; exact Ext.refl _

def OkOutcome (sites : List String) : Outcome → Prop
  | .panic site => site ∈ sites
  | .unsupportedInclude => True
  | .fuel => True

structure PresE (sites : List String) {α} (x : M α) : Prop where
  run : ∀ s e, x s = .error e → OkOutcome sites e

theorem PresE.bind {sites} {α β} {x : M α} {f : α → M β} (hx : PresE sites x)
    (hf : ∀ a, PresE sites (f a)) : PresE sites (x >>= f) := by
  refine ⟨fun s e h => ?_⟩
  rcases (M.bind_err x f s e).mp h with h | ⟨a, s1, _, h2⟩
  · exact hx.run s e h
  · exact (hf a).run s1 e h2

theorem PresE.pure {sites} {α} (a : α) : PresE sites (pure a : M α) := by
  refine ⟨fun s e h => ?_⟩; simp at h

theorem PresE.fail {sites} {α} (site : String) (h : site ∈ sites) :
    PresE sites (fail site : M α) := by
  refine ⟨fun s e he => ?_⟩; simp at he; subst he; exact h

theorem PresE.throw_fuel {sites} {α} : PresE sites (throw Outcome.fuel : M α) := by
  refine ⟨fun s e he => ?_⟩; simp at he; subst he; trivial

theorem PresE.throw_include {sites} {α} : PresE sites (throw Outcome.unsupportedInclude : M α) := by
  refine ⟨fun s e he => ?_⟩; simp at he; subst he; trivial

def Total {α} (x : M α) : Prop := ∀ s e, x s = .error e → False

theorem Total.presE {sites} {α} {x : M α} (h : Total x) : PresE sites x :=
  ⟨fun s e he => (h s e he).elim⟩

/-- the primitives that are a `modify` leave the table alone -/
theorem Pres.modify (f : Ctx → Ctx) (hs : ∀ c, (f c).symbolTable = c.symbolTable)
    (he : ∀ c, c.semanticErrors <+: (f c).semanticErrors) : Pres (modify f : M PUnit) := by
  refine ⟨fun s r h => ?_⟩
  simp only [M.modify_ok] at h; subst h
  exact ⟨by rw [show (f s).symbolTable = s.symbolTable from hs s]; exact SymExt.refl _, he s⟩

theorem Total.modify (f : Ctx → Ctx) : Total (modify f : M PUnit) := by
  intro s e h; simp at h

theorem insertError_pres (k : SemanticErrorKind) (node : Ast.Span) : Pres (insertError k node) :=
  Pres.modify _ (fun _ => rfl) (fun _ => List.prefix_append _ _)

theorem insertError_total (k : SemanticErrorKind) (node : Ast.Span) : Total (insertError k node) :=
  Total.modify _

theorem symStep_presE {sites} (site : String) (op : Op) (h : site ∈ sites) :
    PresE sites (symStep site op) :=
  ⟨fun s e he => by rw [symStep_err site op s e he]; exact h⟩

theorem symExt_step_bind (t : SymTab) (n : Name) (ty : T) : SymExt t (t.step (.bind n ty)).1 := by
  have hinv := C19.inv_step t (.bind n ty)
  have hall := C19.all_prefix_step t (.bind n ty)
  cases hst : t.stack with
  | nil =>
    have : (t.step (.bind n ty)).1 = t := by simp [SymTab.step, hst]
    rw [this]; exact SymExt.refl _
  | cons s rest =>
    cases hg : s.get n with
    | some id =>
      have : (t.step (.bind n ty)).1 = t := by simp [SymTab.step, hst, Scope.containsName, hg]
      rw [this]; exact SymExt.refl _
    | none =>
      have : (t.step (.bind n ty)).1 =
          { stack := s.insert n t.counter :: rest, all := t.all ++ [⟨n, ty⟩],
            counter := t.counter + 1 } := by
        simp [SymTab.step, hst, Scope.containsName, hg, SymTab.newBindingNoCheck]
      rw [this] at hinv hall ⊢
      refine ⟨by simp [hst], by simp [hst], ?_, hall, hinv⟩
      intro top htop
      simp only [hst, List.head?_cons, Option.mem_def, Option.some.injEq] at htop
      subst htop
      refine ⟨s.insert n t.counter, by simp, ?_, ?_⟩
      · simp [Scope.insert]
      · rw [C19.insert_fresh s n _ hg]; exact List.suffix_cons _ _

theorem step_lookup_state (t : SymTab) (n : Name) : (t.step (.lookup n)).1 = t := by
  simp only [SymTab.step]; (repeat' split) <;> rfl

theorem newBinding_pres (name : String) (typ : T) (node : Ast.Span) :
    Pres (newBinding name typ node) := by
  refine ⟨fun s r h => ?_⟩
  unfold newBinding at h
  obtain ⟨out, s1, h1, h2⟩ := (M.bind_ok _ _ s r).mp h
  obtain ⟨_, hs1⟩ := (symStep_ok _ _ _ _).mp h1
  simp only [Prod.mk.injEq] at hs1
  obtain ⟨_, rfl⟩ := hs1
  have hsym : SymExt s.symbolTable (s.symbolTable.step (.bind name typ)).1 := symExt_step_bind _ _ _
  cases out <;> simp only [M.fail_ok, M.pure_ok] at h2
  · subst h2; exact ⟨hsym, List.prefix_refl _⟩
  · obtain ⟨_, s2, h3, h4⟩ := (M.bind_ok _ _ _ r).mp h2
    rw [insertError_ok] at h3
    simp only [Prod.mk.injEq] at h3
    obtain ⟨_, rfl⟩ := h3
    simp at h4; subst h4
    exact ⟨hsym, List.prefix_append _ _⟩

theorem tableLookup_readOnly (name : String) : ReadOnly (tableLookup name) := by
  intro s r h
  unfold tableLookup at h
  obtain ⟨out, s1, h1, h2⟩ := (M.bind_ok _ _ s r).mp h
  obtain ⟨_, hs1⟩ := (symStep_ok _ _ _ _).mp h1
  simp only [Prod.mk.injEq] at hs1
  obtain ⟨_, rfl⟩ := hs1
  rw [step_lookup_state] at h2
  cases out <;> simp only [M.fail_ok, M.pure_ok] at h2 <;> subst h2 <;> rfl

theorem currentScopeType_readOnly : ReadOnly currentScopeType := by
  intro s r h
  unfold currentScopeType at h
  simp only [M.get_bind_ok] at h
  cases hst : s.symbolTable.stack <;> simp only [hst, M.fail_ok, M.pure_ok] at h
  subst h; rfl

theorem currentScopeType_presE {sites} (h : "current_scope: no scope" ∈ sites) :
    PresE sites currentScopeType := by
  refine ⟨fun s e he => ?_⟩
  unfold currentScopeType at he
  simp only [M.get_bind_err] at he
  cases hst : s.symbolTable.stack <;> simp only [hst, M.fail_err, M.pure_err] at he
  subst he; exact h

theorem insertConstValue_pres (id : Nat) (v : TExpr) : Pres (insertConstValue id v) :=
  Pres.modify _ (fun _ => rfl) (fun _ => List.prefix_refl _)

theorem insertConstValue_total (id : Nat) (v : TExpr) : Total (insertConstValue id v) :=
  Total.modify _

theorem getConstValue_readOnly (id : Nat) : ReadOnly (getConstValue id) := by
  intro s r h
  unfold getConstValue at h
  simp only [M.get_bind_ok, M.pure_ok] at h
  subst h; rfl

theorem getConstValue_total (id : Nat) : Total (getConstValue id) := by
  intro s e h; unfold getConstValue at h; simp [M.map_err] at h

theorem pushAnnotation_pres (a : String) : Pres (pushAnnotation a) :=
  Pres.modify _ (fun _ => rfl) (fun _ => List.prefix_refl _)

theorem pushAnnotation_total (a : String) : Total (pushAnnotation a) := Total.modify _

theorem annotationsIsEmpty_readOnly : ReadOnly annotationsIsEmpty := by
  intro s r h
  unfold annotationsIsEmpty at h
  simp only [M.get_bind_ok, M.pure_ok] at h
  subst h; rfl

theorem annotationsIsEmpty_total : Total annotationsIsEmpty := by
  intro s e h; unfold annotationsIsEmpty at h; simp [M.map_err] at h

theorem takeAnnotations_pres : Pres takeAnnotations := by
  refine ⟨fun s r h => ?_⟩
  unfold takeAnnotations at h
  simp only [M.get_bind_ok, M.set_bind_ok, M.pure_ok] at h
  subst h
  exact ⟨SymExt.refl _, List.prefix_refl _⟩

theorem takeAnnotations_total : Total takeAnnotations := by
  intro s e h; unfold takeAnnotations at h
  simp [M.get_bind_err, M.map_err] at h

theorem insertStmt_pres (st : Stmt) : Pres (insertStmt st) :=
  Pres.modify _ (fun _ => rfl) (fun _ => List.prefix_refl _)

theorem insertStmt_total (st : Stmt) : Total (insertStmt st) := Total.modify _

/-- `with_scope!`: whatever the body does to the scope it runs in disappears with that scope; the
table afterwards has *exactly* the stack it had before -/
theorem withScope_stack {α} (k : ScopeType) (body : M α) (hb : Pres body) (s : Ctx) (r : α × Ctx)
    (h : withScope k body s = .ok r) :
    r.2.symbolTable.stack = s.symbolTable.stack ∧ s.symbolTable.all <+: r.2.symbolTable.all ∧
      s.semanticErrors <+: r.2.semanticErrors ∧
      (C19.Inv s.symbolTable → C19.Inv r.2.symbolTable) := by
  obtain ⟨s1, a, s2, h1, h2, h3, -⟩ := (withScope_ok k body s r).mp h
  obtain ⟨hne1, rfl⟩ := (enterScope_ok _ _ _ _).mp h1
  obtain ⟨hne3, hr⟩ := (exitScope_ok _ _ _).mp h3
  rw [hr]
  -- `enter` pushes one empty scope, the body keeps what is below it (`hE.sym.tail`), `exit` pops it
  have hstack1 : (s.symbolTable.step (.enter k)).1.stack = ⟨[], k⟩ :: s.symbolTable.stack := by
    simp only [SymTab.step] at hne1 ⊢
    split
    · rename_i hc; simp [hc] at hne1
    · rfl
  have hall1 : (s.symbolTable.step (.enter k)).1.all = s.symbolTable.all := by
    simp only [SymTab.step]; split <;> rfl
  have hE := hb.run _ _ h2
  have hlen2 : s2.symbolTable.stack.length > 1 := by
    simp only [SymTab.step] at hne3
    split at hne3
    · assumption
    · simp at hne3
  have hall3 : (s2.symbolTable.step .exit).1.all = s2.symbolTable.all := by
    simp only [SymTab.step]; split <;> rfl
  refine ⟨?_, ?_, hE.errs, fun hi => C19.inv_step _ _ (hE.sym.inv (C19.inv_step _ _ hi))⟩
  · show (s2.symbolTable.step .exit).1.stack = _
    rw [C19.step_exit_stack _ hlen2, hE.sym.tail]
    show ((s.symbolTable.step (.enter k)).1).stack.tail = _
    rw [hstack1]; rfl
  · show s.symbolTable.all <+: (s2.symbolTable.step .exit).1.all
    rw [hall3, ← hall1]; exact hE.sym.all

theorem withScope_pres {α} (k : ScopeType) (body : M α) (hb : Pres body) :
    Pres (withScope k body) := by
  refine ⟨fun s r h => ?_⟩
  obtain ⟨h1, h2, h3, h4⟩ := withScope_stack k body hb s r h
  exact ⟨SymExt.of_stack_eq h1 h2 h4, h3⟩

/-- `standard_library_gates`: a fold of `bind` steps -/
theorem symExt_foldl_bind (gs : List (Name × Nat × Nat)) (acc : SymTab × List Name) :
    SymExt acc.1 (gs.foldl (fun (acc : SymTab × List Name) (g : Name × Nat × Nat) =>
      match acc.1.step (.bind g.1 (T.gate g.2.1 g.2.2)) with
      | (t', .bound _) => (t', acc.2)
      | (t', _) => (t', acc.2 ++ [g.1])) acc).1 := by
  induction gs generalizing acc with
  | nil => exact SymExt.refl _
  | cons g gs ih =>
    simp only [List.foldl_cons]
    refine SymExt.trans ?_ (ih _)
    have := symExt_step_bind acc.1 g.1 (T.gate g.2.1 g.2.2)
    split <;> rename_i heq <;> (have h1 := congrArg Prod.fst heq; simp only at h1; rw [← h1]; exact this)

theorem redeclLoop_pres (node : Ast.Span) (ns : List String) : Pres (redeclLoop node ns) := by
  induction ns with
  | nil => unfold redeclLoop; exact Pres.pure _
  | cons n ns ih => unfold redeclLoop; exact Pres.bind (insertError_pres _ _) (fun _ => ih)

theorem redeclLoop_total (node : Ast.Span) (ns : List String) : Total (redeclLoop node ns) := by
  induction ns with
  | nil => intro s e h; unfold redeclLoop at h; simp at h
  | cons n ns ih =>
    intro s e h; unfold redeclLoop at h
    rcases (M.bind_err _ _ s e).mp h with h | ⟨_, s1, _, h⟩
    · exact insertError_total _ _ s e h
    · exact ih s1 e h

theorem symExt_standardLibraryGates (t : SymTab) : SymExt t t.standardLibraryGates.1 := by
  unfold SymTab.standardLibraryGates
  generalize stdGates = gs
  exact symExt_foldl_bind gs (t, [])

attribute [local irreducible] SymTab.standardLibraryGates in
theorem standardLibraryGates_pres (node : Ast.Span) : Pres (standardLibraryGates node) := by
  refine ⟨fun s r h => ?_⟩
  unfold standardLibraryGates at h
  simp only [M.get_bind_ok, M.set_bind_ok] at h
  have h2 := (redeclLoop_pres node _).run _ _ h
  have h1 : Ext s { s with symbolTable := s.symbolTable.standardLibraryGates.1 } :=
    ⟨symExt_standardLibraryGates _, List.prefix_refl _⟩
  exact h1.trans h2

attribute [local irreducible] SymTab.standardLibraryGates in
theorem standardLibraryGates_total (node : Ast.Span) : Total (standardLibraryGates node) := by
  intro s e h
  unfold standardLibraryGates at h
  simp only [M.get_bind_err, M.set_bind_err] at h
  exact redeclLoop_total _ _ _ e h

theorem parseIncludedFiles_readOnly (l : List Ast.Stmt) : ReadOnly (parseIncludedFiles l) := by
  intro c r h
  induction l generalizing r with
  | nil => simp only [parseIncludedFiles, M.pure_ok] at h; rw [h]
  | cons s rest ih =>
    cases s with
    | includeStmt sp file =>
      cases file with
      | none => simp only [parseIncludedFiles] at h; exact ih _ h
      | some f =>
        cases hf : f.toString? with
        | none => simp only [parseIncludedFiles, hf] at h; exact ih _ h
        | some fp =>
          simp only [parseIncludedFiles, hf, M.bind_ok, M.pure_ok] at h
          obtain ⟨b, c1, h1, rfl⟩ := h
          exact ih (b, c1) h1
    | _ => simp only [parseIncludedFiles] at h; exact ih _ h

theorem analyzeWith_ok_iff {fuel : Nat} {p : Ast.Program} {c : Ctx} :
    analyzeWith fuel p = .ok c ↔
      parseIncludedFiles p.statements {} = .ok (false, {}) ∧
      syntaxToSemanticLoop fuel p.statements {} = .ok (⟨⟩, c) := by
  unfold analyzeWith syntaxToSemantic
  simp only [StateT.run]
  constructor
  · intro h
    split at h
    · rename_i u c' hrun
      cases h
      obtain ⟨b, c1, hinc, hrest⟩ := (M.bind_ok _ _ _ _).mp hrun
      have hc1 : c1 = {} := parseIncludedFiles_readOnly _ _ _ hinc
      subst hc1
      cases b with
      | true => simp [M.bind_ok] at hrest
      | false =>
        simp only [Bool.false_eq_true, if_false] at hrest
        exact ⟨hinc, hrest⟩
    · cases h
  · rintro ⟨hinc, hloop⟩
    rw [bind_eq_of_ok hinc]
    simp only [Bool.false_eq_true, if_false]
    rw [hloop]

theorem analyzeWith_err_iff {fuel : Nat} {p : Ast.Program} {e : Outcome} :
    analyzeWith fuel p = .error e ↔ syntaxToSemantic fuel p {} = .error e := by
  unfold analyzeWith
  simp only [StateT.run]
  split <;> rename_i h <;> simp [h]

theorem Pres.closed : ClosedTop @Pres where
  pure := Pres.pure
  bind := Pres.bind
  fail site _ := Pres.fail site
  fuel := Pres.throw _
  insertError := insertError_pres
  withScope k _ hb := withScope_pres k _ hb
  newBinding := newBinding_pres
  tableLookup name := (tableLookup_readOnly name).pres
  currentScopeType := currentScopeType_readOnly.pres
  insertConstValue := insertConstValue_pres
  getConstValue id := (getConstValue_readOnly id).pres
  pushAnnotation := pushAnnotation_pres
  unsupportedInclude := Pres.throw _
  annotationsIsEmpty := annotationsIsEmpty_readOnly.pres
  takeAnnotations := takeAnnotations_pres
  insertStmt := insertStmt_pres
  standardLibraryGates := standardLibraryGates_pres

structure AllPres (fuel : Nat) : Prop where
  stmtToAsgStmt : ∀ (a0 : Ast.Stmt), Pres (Oq3.Sema.stmtToAsgStmt fuel a0)
  caseExprsLoop : ∀ (a0 : List Ast.CaseExpr), Pres (Oq3.Sema.caseExprsLoop fuel a0)
  exprStmtToAsgStmt : ∀ (a0 : Option Ast.Expr), Pres (Oq3.Sema.exprStmtToAsgStmt fuel a0)
  modifiersLoop : ∀ (a0 : List Ast.Modifier), Pres (Oq3.Sema.modifiersLoop fuel a0)
  parenExprToAsgTexpr : ∀ (a0 : Ast.ParenExpr), Pres (Oq3.Sema.parenExprToAsgTexpr fuel a0)
  exprToAsgTexpr : ∀ (a0 : Option Ast.Expr), Pres (Oq3.Sema.exprToAsgTexpr fuel a0)
  setExpressionToAsgType : ∀ (a0 : Ast.SetExpression), Pres (Oq3.Sema.setExpressionToAsgType fuel a0)
  rangeExpressionToAsgType : ∀ (a0 : Ast.RangeExpr), Pres (Oq3.Sema.rangeExpressionToAsgType fuel a0)
  gateCallExprToAsgStmt : ∀ (a0 : Ast.GateCallExpr) (a1 : List GateModifier), Pres (Oq3.Sema.gateCallExprToAsgStmt fuel a0 a1)
  callExprToAsgTexpr : ∀ (a0 : Ast.Span) (a1 : Option Ast.ArgList) (a2 : Option Ast.Identifier), Pres (Oq3.Sema.callExprToAsgTexpr fuel a0 a1 a2)
  gateOperandToAsgTexpr : ∀ (a0 : Ast.GateOperand), Pres (Oq3.Sema.gateOperandToAsgTexpr fuel a0)
  indexOperatorToAsgType : ∀ (a0 : Ast.IndexOperator), Pres (Oq3.Sema.indexOperatorToAsgType fuel a0)
  expressionListToAsgType : ∀ (a0 : Ast.ExpressionList), Pres (Oq3.Sema.expressionListToAsgType fuel a0)
  qubitListToAsgTexpr : ∀ (a0 : Option Ast.QubitList), Pres (Oq3.Sema.qubitListToAsgTexpr fuel a0)
  gateOperandsLoop : ∀ (a0 : List Ast.GateOperand), Pres (Oq3.Sema.gateOperandsLoop fuel a0)
  expressionListToAsgTexpr : ∀ (a0 : Ast.ExpressionList), Pres (Oq3.Sema.expressionListToAsgTexpr fuel a0)
  exprsLoop : ∀ (a0 : List Ast.Expr), Pres (Oq3.Sema.exprsLoop fuel a0)
  blockExprToAsgStmtList : ∀ (a0 : Ast.BlockExpr), Pres (Oq3.Sema.blockExprToAsgStmtList fuel a0)
  stmtsLoop : ∀ (a0 : List Ast.Stmt), Pres (Oq3.Sema.stmtsLoop fuel a0)
  blockExprToAsgType : ∀ (a0 : Ast.BlockExpr), Pres (Oq3.Sema.blockExprToAsgType fuel a0)
  blockOrStmtToAsgType : ∀ (a0 : Ast.BlockOrStmt), Pres (Oq3.Sema.blockOrStmtToAsgType fuel a0)
  classicalDeclarationStatementToAsgStmt : ∀ (a0 : Ast.Span) (a1 : Bool) (a2 : Option Ast.ScalarType) (a3 : Bool) (a4 : Option Ast.Name) (a5 : Option Ast.Expr), Pres (Oq3.Sema.classicalDeclarationStatementToAsgStmt fuel a0 a1 a2 a3 a4 a5)
  assignmentStmtToAsgStmt : ∀ (a0 : Ast.Span) (a1 : Option Ast.Identifier) (a2 : Option Ast.Expr) (a3 : Option Ast.IndexedIdentifier), Pres (Oq3.Sema.assignmentStmtToAsgStmt fuel a0 a1 a2 a3)
  indexedIdentifierToAsgType : ∀ (a0 : Ast.IndexedIdentifier), Pres (Oq3.Sema.indexedIdentifierToAsgType fuel a0)
  indexOperatorsLoop : ∀ (a0 : List Ast.IndexOperator), Pres (Oq3.Sema.indexOperatorsLoop fuel a0)

theorem allPres (fuel : Nat) : AllPres fuel :=
  have h := Pres.closed.all fuel
  ⟨h.stmtToAsgStmt, h.caseExprsLoop, h.exprStmtToAsgStmt, h.modifiersLoop, h.parenExprToAsgTexpr, h.exprToAsgTexpr, h.setExpressionToAsgType, h.rangeExpressionToAsgType, h.gateCallExprToAsgStmt, h.callExprToAsgTexpr, h.gateOperandToAsgTexpr, h.indexOperatorToAsgType, h.expressionListToAsgType, h.qubitListToAsgTexpr, h.gateOperandsLoop, h.expressionListToAsgTexpr, h.exprsLoop, h.blockExprToAsgStmtList, h.stmtsLoop, h.blockExprToAsgType, h.blockOrStmtToAsgType, h.classicalDeclarationStatementToAsgStmt, h.assignmentStmtToAsgStmt, h.indexedIdentifierToAsgType, h.indexOperatorsLoop⟩

theorem PresE.closed : ClosedTop (@PresE allSites) where
  toClosed := .of_symStep PresE.pure PresE.bind PresE.fail PresE.throw_fuel
    (fun k node => (insertError_total k node).presE) symStep_presE (currentScopeType_presE (by site_mem))
    (fun id v => (insertConstValue_total id v).presE) (fun id => (getConstValue_total id).presE)
    (fun a => (pushAnnotation_total a).presE)
  unsupportedInclude := PresE.throw_include
  annotationsIsEmpty := annotationsIsEmpty_total.presE
  takeAnnotations := takeAnnotations_total.presE
  insertStmt s := (insertStmt_total s).presE
  standardLibraryGates node := (standardLibraryGates_total node).presE

end Oq3.Sema
