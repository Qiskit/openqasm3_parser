/- GENERATED by /verif/tools/gen_grammar_closed.py from Oq3/Model/Grammar.lean — the proofs are checked by Lean. -/
import Oq3.Lemmas.ParserInv
import Oq3.Lemmas.GrammarClosed

namespace Oq3.Grammar
open Oq3.Gen Oq3.Parser
open Oq3.Parser (Pres Inv)
open Oq3.Gen.Ops (Assoc)
open Oq3.Gen.TokenSets

variable {kinds : Array SyntaxKind} {joint : Array Bool}

/-- all functions of the mutual block at one fuel level -/
structure AllPres (kinds : Array SyntaxKind) (joint : Array Bool) (fuel : Nat) : Prop where
  optReturnSignature : Pres (Inv kinds joint) (Oq3.Grammar.optReturnSignature fuel )
  delimited : ∀ (bra ket : SyntaxKind) (consumeBraket : Bool) (delim : SyntaxKind) (firstSet : TokenSet) (parser : DelimitedParser), Pres (Inv kinds joint) (Oq3.Grammar.delimited fuel bra ket consumeBraket delim firstSet parser)
  delimitedLoop : ∀ (ket delim : SyntaxKind) (firstSet : TokenSet) (parser : DelimitedParser), Pres (Inv kinds joint) (Oq3.Grammar.delimitedLoop fuel ket delim firstSet parser)
  delimitedParser : ∀ (parser : DelimitedParser), Pres (Inv kinds joint) (Oq3.Grammar.delimitedParser fuel parser)
  sourceFileContents : ∀ (stopOnRCurly : Bool), Pres (Inv kinds joint) (Oq3.Grammar.sourceFileContents fuel stopOnRCurly)
  item : ∀ (stopOnRCurly : Bool), Pres (Inv kinds joint) (Oq3.Grammar.item fuel stopOnRCurly)
  optItem : ∀ (m : Marker), Pres (Inv kinds joint) (Oq3.Grammar.optItem fuel m)
  switchCaseStmt : ∀ (m : Marker), Pres (Inv kinds joint) (Oq3.Grammar.switchCaseStmt fuel m)
  switchCaseLoop : Pres (Inv kinds joint) (Oq3.Grammar.switchCaseLoop fuel )
  blockOrStatement : Pres (Inv kinds joint) (Oq3.Grammar.blockOrStatement fuel )
  ifStmt : ∀ (m : Marker), Pres (Inv kinds joint) (Oq3.Grammar.ifStmt fuel m)
  whileStmt : ∀ (m : Marker), Pres (Inv kinds joint) (Oq3.Grammar.whileStmt fuel m)
  forStmt : ∀ (m : Marker), Pres (Inv kinds joint) (Oq3.Grammar.forStmt fuel m)
  qubitDeclarationStmt : ∀ (m : Marker), Pres (Inv kinds joint) (Oq3.Grammar.qubitDeclarationStmt fuel m)
  resetStmt : ∀ (m : Marker), Pres (Inv kinds joint) (Oq3.Grammar.resetStmt fuel m)
  gateDefinition : ∀ (m : Marker), Pres (Inv kinds joint) (Oq3.Grammar.gateDefinition fuel m)
  defcal_ : ∀ (m : Marker), Pres (Inv kinds joint) (Oq3.Grammar.defcal_ fuel m)
  returnsBoolClassicalDeclarationStmt : ∀ (m : Marker), Pres (Inv kinds joint) (Oq3.Grammar.returnsBoolClassicalDeclarationStmt fuel m)
  classicalDeclarationStmt : ∀ (m : Marker), Pres (Inv kinds joint) (Oq3.Grammar.classicalDeclarationStmt fuel m)
  ioDeclarationStmt : ∀ (m : Marker), Pres (Inv kinds joint) (Oq3.Grammar.ioDeclarationStmt fuel m)
  defStmt : ∀ (m : Marker), Pres (Inv kinds joint) (Oq3.Grammar.defStmt fuel m)
  externStmt : ∀ (m : Marker), Pres (Inv kinds joint) (Oq3.Grammar.externStmt fuel m)
  cal_ : ∀ (m : Marker), Pres (Inv kinds joint) (Oq3.Grammar.cal_ fuel m)
  barrier_ : ∀ (m : Marker), Pres (Inv kinds joint) (Oq3.Grammar.barrier_ fuel m)
  delayStmt : ∀ (m : Marker), Pres (Inv kinds joint) (Oq3.Grammar.delayStmt fuel m)
  aliasStmt : ∀ (m : Marker), Pres (Inv kinds joint) (Oq3.Grammar.aliasStmt fuel m)
  expr : Pres (Inv kinds joint) (Oq3.Grammar.expr fuel )
  rangeExpr : Pres (Inv kinds joint) (Oq3.Grammar.rangeExpr fuel )
  exprOrRangeExpr : Pres (Inv kinds joint) (Oq3.Grammar.exprOrRangeExpr fuel )
  exprStmt : ∀ (m : Option Marker), Pres (Inv kinds joint) (Oq3.Grammar.exprStmt fuel m)
  stmt : Pres (Inv kinds joint) (Oq3.Grammar.stmt fuel )
  letStmt : ∀ (m : Marker), Pres (Inv kinds joint) (Oq3.Grammar.letStmt fuel m)
  qOrCRegParam : Pres (Inv kinds joint) (Oq3.Grammar.qOrCRegParam fuel )
  qOrCRegDeclaration : ∀ (m : Marker), Pres (Inv kinds joint) (Oq3.Grammar.qOrCRegDeclaration fuel m)
  exprBlockStatements : Pres (Inv kinds joint) (Oq3.Grammar.exprBlockStatements fuel )
  exprBp : ∀ (m : Option Marker) (r : Restrictions) (bp : Nat), Pres (Inv kinds joint) (Oq3.Grammar.exprBp fuel m r bp)
  exprBpLoop : ∀ (r : Restrictions) (bp : Nat) (lhs : CompletedMarker), Pres (Inv kinds joint) (Oq3.Grammar.exprBpLoop fuel r bp lhs)
  lhs : ∀ (r : Restrictions), Pres (Inv kinds joint) (Oq3.Grammar.lhs fuel r)
  postfixExpr : ∀ (lhs : CompletedMarker) (blockLike : BlockLike) (allowCalls : Bool), Pres (Inv kinds joint) (Oq3.Grammar.postfixExpr fuel lhs blockLike allowCalls)
  callExpr : ∀ (lhs : CompletedMarker), Pres (Inv kinds joint) (Oq3.Grammar.callExpr fuel lhs)
  paramTypeSpec : Pres (Inv kinds joint) (Oq3.Grammar.paramTypeSpec fuel )
  typeSpec : Pres (Inv kinds joint) (Oq3.Grammar.typeSpec fuel )
  arrayTypeSpec : ∀ (wantArrayRefType : Bool), Pres (Inv kinds joint) (Oq3.Grammar.arrayTypeSpec fuel wantArrayRefType)
  arrayTypeDimsLoop : Pres (Inv kinds joint) (Oq3.Grammar.arrayTypeDimsLoop fuel )
  nonArrayTypeSpec : Pres (Inv kinds joint) (Oq3.Grammar.nonArrayTypeSpec fuel )
  complexTypeSpec : Pres (Inv kinds joint) (Oq3.Grammar.complexTypeSpec fuel )
  qubitTypeSpec : Pres (Inv kinds joint) (Oq3.Grammar.qubitTypeSpec fuel )
  designator : Pres (Inv kinds joint) (Oq3.Grammar.designator fuel )
  indexExpr : ∀ (lhs : CompletedMarker), Pres (Inv kinds joint) (Oq3.Grammar.indexExpr fuel lhs)
  indexedIdentifier : ∀ (lhs : CompletedMarker), Pres (Inv kinds joint) (Oq3.Grammar.indexedIdentifier fuel lhs)
  indexedIdentifierLoop : Pres (Inv kinds joint) (Oq3.Grammar.indexedIdentifierLoop fuel )
  setExpression : Pres (Inv kinds joint) (Oq3.Grammar.setExpression fuel )
  indexOperator : Pres (Inv kinds joint) (Oq3.Grammar.indexOperator fuel )
  callArgList : Pres (Inv kinds joint) (Oq3.Grammar.callArgList fuel )
  atomExpr : ∀ (_r : Restrictions), Pres (Inv kinds joint) (Oq3.Grammar.atomExpr fuel _r)
  castExpr : Pres (Inv kinds joint) (Oq3.Grammar.castExpr fuel )
  gphaseCallExpr : Pres (Inv kinds joint) (Oq3.Grammar.gphaseCallExpr fuel )
  modifiedGateCallExpr : Pres (Inv kinds joint) (Oq3.Grammar.modifiedGateCallExpr fuel )
  modifiedGateCallExprLoop : Pres (Inv kinds joint) (Oq3.Grammar.modifiedGateCallExprLoop fuel )
  gateCallExpr : Pres (Inv kinds joint) (Oq3.Grammar.gateCallExpr fuel )
  measureExpression : Pres (Inv kinds joint) (Oq3.Grammar.measureExpression fuel )
  tupleExpr : Pres (Inv kinds joint) (Oq3.Grammar.tupleExpr fuel )
  tupleExprLoop : ∀ (sawComma sawExpr : Bool), Pres (Inv kinds joint) (Oq3.Grammar.tupleExprLoop fuel sawComma sawExpr)
  arrayExpr : Pres (Inv kinds joint) (Oq3.Grammar.arrayExpr fuel )
  arrayExprLoop : ∀ (nExprs : Nat) (hasSemi : Bool), Pres (Inv kinds joint) (Oq3.Grammar.arrayExprLoop fuel nExprs hasSemi)
  tryBlockExpr : Pres (Inv kinds joint) (Oq3.Grammar.tryBlockExpr fuel )
  blockExpr : Pres (Inv kinds joint) (Oq3.Grammar.blockExpr fuel )
  returnExpr : Pres (Inv kinds joint) (Oq3.Grammar.returnExpr fuel )
  boxExpr : ∀ (m : Option Marker), Pres (Inv kinds joint) (Oq3.Grammar.boxExpr fuel m)
  paramListGateParams : Pres (Inv kinds joint) (Oq3.Grammar.paramListGateParams fuel )
  paramListGateQubits : Pres (Inv kinds joint) (Oq3.Grammar.paramListGateQubits fuel )
  argListGateCallQubits : Pres (Inv kinds joint) (Oq3.Grammar.argListGateCallQubits fuel )
  paramListDefParams : Pres (Inv kinds joint) (Oq3.Grammar.paramListDefParams fuel )
  scalarTypeList : Pres (Inv kinds joint) (Oq3.Grammar.scalarTypeList fuel )
  paramListDefcalParams : Pres (Inv kinds joint) (Oq3.Grammar.paramListDefcalParams fuel )
  paramListDefcalQubits : Pres (Inv kinds joint) (Oq3.Grammar.paramListDefcalQubits fuel )
  expressionList : Pres (Inv kinds joint) (Oq3.Grammar.expressionList fuel )
  caseValueList : Pres (Inv kinds joint) (Oq3.Grammar.caseValueList fuel )
  arrayLiteral : Pres (Inv kinds joint) (Oq3.Grammar.arrayLiteral fuel )
  paramListOpenqasm : ∀ (flavor : DefFlavor), Pres (Inv kinds joint) (Oq3.Grammar.paramListOpenqasm fuel flavor)
  paramListOpenqasmLoop : ∀ (flavor : DefFlavor) (numParams : Nat), Pres (Inv kinds joint) (Oq3.Grammar.paramListOpenqasmLoop fuel flavor numParams)
  paramListItem : ∀ (flavor : DefFlavor) (m : Marker) (innerArrayLiteral : Bool), Pres (Inv kinds joint) (Oq3.Grammar.paramListItem fuel flavor m innerArrayLiteral)
  paramTyped : ∀ (m : Marker), Pres (Inv kinds joint) (Oq3.Grammar.paramTyped fuel m)
  scalarType : ∀ (m : Marker), Pres (Inv kinds joint) (Oq3.Grammar.scalarType fuel m)
  argGateCallQubit : ∀ (m : Marker), Pres (Inv kinds joint) (Oq3.Grammar.argGateCallQubit fuel m)

theorem allPres (fuel : Nat) : AllPres kinds joint fuel :=
  (allHolds invClosed fuel).rec AllPres.mk

theorem sourceFile_pres (fuel : Nat) : Pres (Inv kinds joint) (sourceFile fuel) :=
  sourceFile_closed invClosed fuel

theorem entryExpr_pres (fuel : Nat) : Pres (Inv kinds joint) (entryExpr fuel) :=
  entryExpr_closed invClosed fuel

end Oq3.Grammar
