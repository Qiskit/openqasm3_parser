/- GENERATED by /verif/tools/gen_grammar_nosilent.py from Oq3/Model/Grammar.lean — the proofs are checked by Lean. -/

import Oq3.Lemmas.NoSilent

namespace Oq3.Parser
open Oq3.Gen Oq3.Grammar
open Oq3.Gen.Ops (Assoc)


/-! ### `current_op`: read-only, and the operator token it names is never `ERROR` -/

theorem currentOpRows_ne :
    ∀ r ∈ Ops.currentOpRows, (r.2.2.getD notAnOp).2.1 ≠ SyntaxKind.ERROR := by decide

theorem currentOpScan_ok (cur : SyntaxKind)
    (rows : List (SyntaxKind × Option SyntaxKind × Option (Nat × SyntaxKind × Assoc)))
    (hrows : ∀ r ∈ rows, (r.2.2.getD notAnOp).2.1 ≠ SyntaxKind.ERROR)
    (s : P) (r : (Nat × SyntaxKind × Assoc) × P) (h : currentOpScan cur rows s = .ok r) :
    r.2 = s ∧ r.1.2.1 ≠ SyntaxKind.ERROR := by
  induction rows with
  | nil =>
    unfold currentOpScan at h
    simp only [G.pure_ok] at h; subst h
    exact ⟨rfl, (by decide : notAnOp.2.1 ≠ SyntaxKind.ERROR)⟩
  | cons row rows ih =>
    obtain ⟨k, guard, res⟩ := row
    have hrow := hrows (k, guard, res) (by simp)
    have ih' := ih (fun r hr => hrows r (List.mem_cons_of_mem _ hr))
    unfold currentOpScan at h
    split at h
    · split at h
      · simp only [G.pure_ok] at h; subst h
        exact ⟨rfl, hrow⟩
      · obtain ⟨b, s1, h1, h2⟩ := (G.bind_ok _ _ _ _).mp h
        have hro := at_readOnly _ s (b, s1) h1
        simp only at hro; subst hro
        split at h2
        · simp only [G.pure_ok] at h2; subst h2
          exact ⟨rfl, hrow⟩
        · exact ih' h2
    · exact ih' h

theorem currentOp_ok (s : P) (r : (Nat × SyntaxKind × Assoc) × P) (h : currentOp s = .ok r) :
    r.2 = s ∧ r.1.2.1 ≠ SyntaxKind.ERROR := by
  unfold currentOp at h
  obtain ⟨c, s1, h1, h2⟩ := (G.bind_ok _ _ _ _).mp h
  rw [current_ok] at h1
  obtain ⟨_, hs1⟩ := Prod.mk.inj h1
  rw [hs1] at h2
  exact currentOpScan_ok _ _ currentOpRows_ne s r h2

theorem currentOp_keeps : Keeps currentOp :=
  Keeps.of_readOnly fun s r h => (currentOp_ok s r h).1

/-- after `let (op_bp, op, associativity) = current_op(p)` -/
theorem Tr.bind_currentOp {e ok} {C : P → Prop} {β} {f : Nat × SyntaxKind × Assoc → G β}
    (hf : ∀ bp op a, op ≠ SyntaxKind.ERROR → Tr (St e ok) (f (bp, op, a)) C) :
    Tr (St e ok) (currentOp >>= f) C := by
  refine ⟨fun s r hs h => ?_⟩
  obtain ⟨v, s1, h1, h2⟩ := (G.bind_ok _ f s r).mp h
  obtain ⟨hs1, hop⟩ := currentOp_ok s (v, s1) h1
  simp only at hs1 hop; subst hs1
  obtain ⟨bp, op, a⟩ := v
  exact (hf bp op a hop).run _ r hs h2

end Oq3.Parser

namespace Oq3.Grammar
open Oq3.Gen Oq3.Parser
open Oq3.Gen.Ops (Assoc)
open Oq3.Gen.TokenSets


theorem listKind_ne (f : DefFlavor) : f.listKind ≠ .ERROR := by cases f <;> decide

/-- a node or token kind is not `ERROR` -/
macro "ns_kind" : tactic => `(tactic| first
  | decide
  | assumption
  | exact listKind_ne _
  | (split <;> decide))

/-- what the guards say about the current token excludes `ERROR` -/
macro "ns_side" : tactic => `(tactic| first
  | assumption
  | (intro c hc hE; subst hE; first
      | (revert hc; decide)
      | (simp_all; done)
      | (obtain ⟨_, hk⟩ := hc; subst hk; simp_all; done)))

syntax "keeps" : tactic
macro "keeps_atom" : tactic => `(tactic| first
  | with_reducible exact complete_keeps _ _ (by ns_kind)
  | with_reducible exact start_keeps
  | with_reducible exact Keeps.pure _
  | with_reducible exact at_keeps _
  | with_reducible exact error_keeps _
  | with_reducible exact current_keeps
  | with_reducible exact atTs_keeps _
  | with_reducible exact nth_keeps _
  | with_reducible exact nthAt_keeps _ _
  | with_reducible exact abandon_keeps _
  | with_reducible exact precede_keeps _
  | with_reducible exact extendTo_keeps _ _
  | with_reducible exact currentOp_keeps
  | with_reducible exact Keeps.panic _
  | with_reducible exact Keeps.fail _)

/-- `Keeps` for the expression in tail position: an atom or one `&&`/`||`/`!` of guards -/
macro "keeps_tail" : tactic => `(tactic| first
  | keeps_atom
  | ((first | with_reducible apply keeps_andM | with_reducible apply keeps_orM
            | with_reducible apply keeps_notM) <;> keeps))

macro "keeps_step" : tactic => `(tactic| first
  | keeps_atom
  | with_reducible apply Keeps.bind
  | with_reducible apply keeps_andM
  | with_reducible apply keeps_orM
  | with_reducible apply keeps_notM
  | intro _
  | with_reducible apply Keeps.ite
  | split
  | dsimp only)
macro_rules | `(tactic| keeps) => `(tactic| (repeat' keeps_step))

/-- `Cons` of a bump of a fixed kind or of a call of a grammar function: `ts` are the facts about
the functions the body calls -/
macro "cons_call " "[" ts:term,* "]" : tactic => `(tactic| first
  | with_reducible exact expect_cons _ (by ns_kind)
  | with_reducible exact eat_cons _ (by ns_kind)
  | with_reducible exact bump_cons _ (by ns_kind)
  $[| with_reducible exact $ts]*
  | with_reducible exact errRecover_cons _ _
  | with_reducible exact errAndBump_cons _)

macro "cons_atom " "[" ts:term,* "]" : tactic => `(tactic| first
  | with_reducible exact Cons.pure _
  | with_reducible exact Cons.panic _
  | with_reducible exact Cons.fail _
  | cons_call [$ts,*]
  | ((with_reducible refine Keeps.cons ?hx); case hx => keeps_atom))

macro "cons_step " "[" ts:term,* "]" : tactic => `(tactic| first
  | cons_atom [$ts,*]
  | ((with_reducible refine Keeps.cons ?hx); case hx => keeps)
  | with_reducible apply Cons.bind
  | with_reducible apply cons_andM
  | with_reducible apply cons_orM
  | with_reducible apply cons_notM
  | intro _
  | with_reducible apply Cons.ite
  | split
  | dsimp only)
macro "cons " "[" ts:term,* "]" : tactic => `(tactic| (repeat' cons_step [$ts,*]))

macro "ns_red" : tactic =>
  `(tactic| try simp only [↓reduceIte, Bool.not_true, Bool.not_false, Bool.false_eq_true])

/-- `e → e0` where `e0` is the `e` of the function's statement and `e` is it or `False` -/
macro "ns_weak" : tactic => `(tactic| first | exact id | exact False.elim)

/-- One forward step of a no-silent-error proof.  The rules for a guard, a report and a bump
after either come first: they carry what is known about the current token.  `ts` are the `Cons`
facts and `us` the `ConsCur` facts about the grammar functions the body calls; a call or a bump of
a fixed kind is recognised by its head before the general rules `Tr.bind_keeps`, `Tr.bind_cons`
search for a proof that the first computation keeps the knowledge or may consume. -/
macro "ns_step " "[" ts:term,* "]" "[" us:term,* "]" : tactic => `(tactic| first
  | intro _
  | ((with_reducible apply Tr.pure_weak); ns_weak)
  | ((with_reducible apply Tr.bind_cons); case hx => cons_call [$ts,*])
  | ((with_reducible apply Tr.bind_at) <;> ns_red)
  | with_reducible apply Tr.bind_error
  | with_reducible apply Tr.bind_current
  | ((with_reducible apply Tr.bind_atTs) <;> ns_red)
  | ((with_reducible apply Tr.bind_at_or) <;> ns_red)
  | with_reducible apply Tr.bind_currentOp
  | with_reducible apply Tr.bind_bumpAny_err
  | ((with_reducible apply Tr.bind_bumpAny); case hk => ns_side)
  | with_reducible apply Tr.bind_complete_err
  | with_reducible apply Tr.bind_panic
  | with_reducible apply Tr.bind_fail
  $[| ((with_reducible apply Tr.bind_conscur $us); case hk => ns_side)]*
  | ((with_reducible apply Tr.bind_keeps); case hx => keeps)
  | ((with_reducible apply Tr.bind_cons); case hx => cons [$ts,*])
  | with_reducible apply Tr.ite
  | with_reducible apply Tr.panic
  | with_reducible apply Tr.fail
  | with_reducible apply Tr.tail_error
  | with_reducible apply Tr.tail_bumpAny_err
  | ((with_reducible apply Tr.tail_bumpAny); (case hk => ns_side); (case hw => ns_weak))
  | with_reducible apply Tr.tail_complete_err
  $[| ((with_reducible apply Tr.tail_conscur $us); (case hk => ns_side); (case hw => ns_weak))]*
  | ((with_reducible apply Tr.tail_cons); (case hx => cons_call [$ts,*]); (case hw => ns_weak))
  | ((with_reducible apply Tr.tail_keeps); (case hx => keeps_tail); (case hw => ns_weak))
  | ((with_reducible apply Tr.tail_cons); (case hx => cons_atom [$ts,*]); (case hw => ns_weak))
  | dsimp only
  | split)

macro "ns " "[" ts:term,* "]" "[" us:term,* "]" : tactic => `(tactic| (repeat' ns_step [$ts,*] [$us,*]))

theorem nameR_ns (recovery : TokenSet) : Cons (nameR recovery) := by
  constructor; intro e ok
  unfold nameR; ns [] []

theorem name_ns : Cons (name ) := by
  constructor; intro e ok
  unfold name; ns [nameR_ns _] []

theorem break__ns (m : Marker) : Cons (break_ m) := by
  constructor; intro e ok
  unfold break_; ns [] []

theorem continue__ns (m : Marker) : Cons (continue_ m) := by
  constructor; intro e ok
  unfold continue_; ns [] []

theorem end__ns (m : Marker) : Cons (end_ m) := by
  constructor; intro e ok
  unfold end_; ns [] []

theorem filepathR_ns (recovery : TokenSet) : Cons (filepathR recovery) := by
  constructor; intro e ok
  unfold filepathR; ns [] []

theorem defcalgrammar__ns (m : Marker) : Cons (defcalgrammar_ m) := by
  constructor; intro e ok
  unfold defcalgrammar_; ns [filepathR_ns _] []

theorem include'_ns (m : Marker) : Cons (include' m) := by
  constructor; intro e ok
  unfold include'; ns [filepathR_ns _] []

/-- the guard `!p.expect(FLOAT_NUMBER) && !p.at(T![;])` of `version_`: when it holds, `expect`
has failed, hence reported -/
theorem version_guard_tr {e ok} {C : P → Prop} {β} {f : Bool → G β}
    (ht : Tr (St False Any) (f true) C) (hf : Tr (St e Any) (f false) C) :
    Tr (St e ok) ((notM (expect .FLOAT_NUMBER) <&&> notM (at' .SEMICOLON)) >>= f) C := by
  refine ⟨fun s r hs h => ?_⟩
  obtain ⟨v, s1, h1, h2⟩ := (G.bind_ok _ f s r).mp h
  unfold _root_.andM at h1
  obtain ⟨nb, s2, h3, h4⟩ := (G.bind_ok _ _ _ _).mp h1
  unfold _root_.notM at h3
  rw [G.map_ok] at h3
  obtain ⟨b, s3, h5, h6⟩ := h3
  obtain ⟨hnb, hs2⟩ := Prod.mk.inj h6
  rw [hs2] at h4
  have hc := ((expect_cons .FLOAT_NUMBER (by decide)).tr e ok).run s (b, s3) hs h5
  cases b with
  | true =>
    subst hnb
    have h4' : (Pure.pure false : G Bool) s3 = .ok (v, s1) := h4
    simp only [G.pure_ok] at h4'
    obtain ⟨hv, hs1⟩ := Prod.mk.inj h4'
    rw [hv, hs1] at h2
    exact hf.run _ r hc h2
  | false =>
    subst hnb
    have hE : St False ok s3 := expect_false _ s (false, s3) h5 rfl
    have h4' : (notM (at' .SEMICOLON)) s3 = .ok (v, s1) := h4
    unfold _root_.notM at h4'
    rw [G.map_ok] at h4'
    obtain ⟨b2, s4, h7, h8⟩ := h4'
    have hro := at_readOnly _ s3 (b2, s4) h7
    simp only at hro; subst hro
    obtain ⟨hv, hs1⟩ := Prod.mk.inj h8
    rw [hv, hs1] at h2
    cases b2 with
    | false => exact ht.run _ r (hE.weak id) h2
    | true => exact hf.run _ r (hE.weak False.elim) h2

theorem version__ns : Cons version_ := by
  constructor; intro e ok
  unfold version_
  refine Tr.bind_keeps start_keeps fun m => ?_
  refine version_guard_tr ?_ ?_ <;> ns_red <;> ns [] []

theorem versionString_ns (m : Marker) : Cons (versionString m) := by
  constructor; intro e ok
  unfold versionString; ns [version__ns] []

theorem typeName_ns : Cons typeName := by
  constructor; intro e ok
  unfold typeName
  refine Tr.bind_current fun k => ?_
  split
  · ns [] []
  · rename_i hk
    have hne : k ≠ SyntaxKind.ERROR := by
      intro h; subst h; exact hk (by decide)
    refine Tr.bind_current fun k2 => ?_
    refine ⟨fun s r hs h => ?_⟩
    rcases hs with hs | ⟨he, hc, ⟨_, h1⟩, h2⟩
    · exact ((bump_current_tr (e := False) (ok := Any) k2 False.elim).run s r (.inl hs) h).weak False.elim
    · have hk2 : k2 = k := h2.symm.trans h1
      subst hk2
      exact ((bump_cons k2 hne).tr e Any).run s r (.inr ⟨he, hc, trivial⟩) h

theorem varName_ns : Cons (varName ) := by
  constructor; intro e ok
  unfold varName; ns [] []

theorem identifier_ns : Cons (identifier ) := by
  constructor; intro e ok
  unfold identifier; ns [] []

theorem hardwareQubit_ns : Cons (hardwareQubit ) := by
  constructor; intro e ok
  unfold hardwareQubit; ns [] []

theorem literal_ns : Cons (literal ) := by
  constructor; intro e ok
  unfold literal; ns [identifier_ns] []

theorem atListEndToken_ns (flavor : DefFlavor) : Cons (atListEndToken flavor) := by
  constructor; intro e ok
  unfold atListEndToken; ns [] []

theorem paramUntyped_ns (m : Marker) : Cons (paramUntyped m) := by
  constructor; intro e ok
  unfold paramUntyped; ns [] []

theorem paramUntypedOrHardwareQubit_ns (m : Marker) : Cons (paramUntypedOrHardwareQubit m) := by
  constructor; intro e ok
  unfold paramUntypedOrHardwareQubit; ns [hardwareQubit_ns] []

/-- all functions of the mutual block at one fuel level -/
structure AllNS (fuel : Nat) : Prop where
  optReturnSignature : Cons (Oq3.Grammar.optReturnSignature fuel )
  delimited : ∀ (bra ket : SyntaxKind) (consumeBraket : Bool) (delim : SyntaxKind) (firstSet : TokenSet) (parser : DelimitedParser), bra ≠ .ERROR → ket ≠ .ERROR → delim ≠ .ERROR → Cons (Oq3.Grammar.delimited fuel bra ket consumeBraket delim firstSet parser)
  delimitedLoop : ∀ (ket delim : SyntaxKind) (firstSet : TokenSet) (parser : DelimitedParser), delim ≠ .ERROR → Cons (Oq3.Grammar.delimitedLoop fuel ket delim firstSet parser)
  delimitedParser : ∀ (parser : DelimitedParser), Cons (Oq3.Grammar.delimitedParser fuel parser)
  sourceFileContents : ∀ (stopOnRCurly : Bool), Cons (Oq3.Grammar.sourceFileContents fuel stopOnRCurly)
  item : ∀ (stopOnRCurly : Bool), Cons (Oq3.Grammar.item fuel stopOnRCurly)
  optItem : ∀ (m : Marker), Cons (Oq3.Grammar.optItem fuel m)
  switchCaseStmt : ∀ (m : Marker), Cons (Oq3.Grammar.switchCaseStmt fuel m)
  switchCaseLoop : Cons (Oq3.Grammar.switchCaseLoop fuel )
  blockOrStatement : Cons (Oq3.Grammar.blockOrStatement fuel )
  ifStmt : ∀ (m : Marker), Cons (Oq3.Grammar.ifStmt fuel m)
  whileStmt : ∀ (m : Marker), Cons (Oq3.Grammar.whileStmt fuel m)
  forStmt : ∀ (m : Marker), Cons (Oq3.Grammar.forStmt fuel m)
  qubitDeclarationStmt : ∀ (m : Marker), Cons (Oq3.Grammar.qubitDeclarationStmt fuel m)
  resetStmt : ∀ (m : Marker), Cons (Oq3.Grammar.resetStmt fuel m)
  gateDefinition : ∀ (m : Marker), Cons (Oq3.Grammar.gateDefinition fuel m)
  defcal_ : ∀ (m : Marker), Cons (Oq3.Grammar.defcal_ fuel m)
  returnsBoolClassicalDeclarationStmt : ∀ (m : Marker), Cons (Oq3.Grammar.returnsBoolClassicalDeclarationStmt fuel m)
  classicalDeclarationStmt : ∀ (m : Marker), Cons (Oq3.Grammar.classicalDeclarationStmt fuel m)
  ioDeclarationStmt : ∀ (m : Marker), ConsCur (Oq3.Grammar.ioDeclarationStmt fuel m)
  defStmt : ∀ (m : Marker), Cons (Oq3.Grammar.defStmt fuel m)
  externStmt : ∀ (m : Marker), Cons (Oq3.Grammar.externStmt fuel m)
  cal_ : ∀ (m : Marker), Cons (Oq3.Grammar.cal_ fuel m)
  barrier_ : ∀ (m : Marker), Cons (Oq3.Grammar.barrier_ fuel m)
  delayStmt : ∀ (m : Marker), Cons (Oq3.Grammar.delayStmt fuel m)
  aliasStmt : ∀ (m : Marker), Cons (Oq3.Grammar.aliasStmt fuel m)
  expr : Cons (Oq3.Grammar.expr fuel )
  rangeExpr : Cons (Oq3.Grammar.rangeExpr fuel )
  exprOrRangeExpr : Cons (Oq3.Grammar.exprOrRangeExpr fuel )
  exprStmt : ∀ (m : Option Marker), Cons (Oq3.Grammar.exprStmt fuel m)
  stmt : Cons (Oq3.Grammar.stmt fuel )
  letStmt : ∀ (m : Marker), Cons (Oq3.Grammar.letStmt fuel m)
  qOrCRegParam : ConsCur (Oq3.Grammar.qOrCRegParam fuel )
  qOrCRegDeclaration : ∀ (m : Marker), ConsCur (Oq3.Grammar.qOrCRegDeclaration fuel m)
  exprBlockStatements : Cons (Oq3.Grammar.exprBlockStatements fuel )
  exprBp : ∀ (m : Option Marker) (r : Restrictions) (bp : Nat), Cons (Oq3.Grammar.exprBp fuel m r bp)
  exprBpLoop : ∀ (r : Restrictions) (bp : Nat) (lhs : CompletedMarker), Cons (Oq3.Grammar.exprBpLoop fuel r bp lhs)
  lhs : ∀ (r : Restrictions), Cons (Oq3.Grammar.lhs fuel r)
  postfixExpr : ∀ (lhs : CompletedMarker) (blockLike : BlockLike) (allowCalls : Bool), Cons (Oq3.Grammar.postfixExpr fuel lhs blockLike allowCalls)
  callExpr : ∀ (lhs : CompletedMarker), Cons (Oq3.Grammar.callExpr fuel lhs)
  paramTypeSpec : Cons (Oq3.Grammar.paramTypeSpec fuel )
  typeSpec : Cons (Oq3.Grammar.typeSpec fuel )
  arrayTypeSpec : ∀ (wantArrayRefType : Bool), Cons (Oq3.Grammar.arrayTypeSpec fuel wantArrayRefType)
  arrayTypeDimsLoop : Cons (Oq3.Grammar.arrayTypeDimsLoop fuel )
  nonArrayTypeSpec : Cons (Oq3.Grammar.nonArrayTypeSpec fuel )
  complexTypeSpec : Cons (Oq3.Grammar.complexTypeSpec fuel )
  qubitTypeSpec : Cons (Oq3.Grammar.qubitTypeSpec fuel )
  designator : Cons (Oq3.Grammar.designator fuel )
  indexExpr : ∀ (lhs : CompletedMarker), Cons (Oq3.Grammar.indexExpr fuel lhs)
  indexedIdentifier : ∀ (lhs : CompletedMarker), Cons (Oq3.Grammar.indexedIdentifier fuel lhs)
  indexedIdentifierLoop : Cons (Oq3.Grammar.indexedIdentifierLoop fuel )
  setExpression : Cons (Oq3.Grammar.setExpression fuel )
  indexOperator : Cons (Oq3.Grammar.indexOperator fuel )
  callArgList : Cons (Oq3.Grammar.callArgList fuel )
  atomExpr : ∀ (_r : Restrictions), Cons (Oq3.Grammar.atomExpr fuel _r)
  castExpr : Cons (Oq3.Grammar.castExpr fuel )
  gphaseCallExpr : Cons (Oq3.Grammar.gphaseCallExpr fuel )
  modifiedGateCallExpr : Cons (Oq3.Grammar.modifiedGateCallExpr fuel )
  modifiedGateCallExprLoop : Cons (Oq3.Grammar.modifiedGateCallExprLoop fuel )
  gateCallExpr : Cons (Oq3.Grammar.gateCallExpr fuel )
  measureExpression : Cons (Oq3.Grammar.measureExpression fuel )
  tupleExpr : Cons (Oq3.Grammar.tupleExpr fuel )
  tupleExprLoop : ∀ (sawComma sawExpr : Bool), Cons (Oq3.Grammar.tupleExprLoop fuel sawComma sawExpr)
  arrayExpr : Cons (Oq3.Grammar.arrayExpr fuel )
  arrayExprLoop : ∀ (nExprs : Nat) (hasSemi : Bool), Cons (Oq3.Grammar.arrayExprLoop fuel nExprs hasSemi)
  tryBlockExpr : Cons (Oq3.Grammar.tryBlockExpr fuel )
  blockExpr : Cons (Oq3.Grammar.blockExpr fuel )
  returnExpr : Cons (Oq3.Grammar.returnExpr fuel )
  boxExpr : ∀ (m : Option Marker), Cons (Oq3.Grammar.boxExpr fuel m)
  paramListGateParams : Cons (Oq3.Grammar.paramListGateParams fuel )
  paramListGateQubits : Cons (Oq3.Grammar.paramListGateQubits fuel )
  argListGateCallQubits : Cons (Oq3.Grammar.argListGateCallQubits fuel )
  paramListDefParams : Cons (Oq3.Grammar.paramListDefParams fuel )
  scalarTypeList : Cons (Oq3.Grammar.scalarTypeList fuel )
  paramListDefcalParams : Cons (Oq3.Grammar.paramListDefcalParams fuel )
  paramListDefcalQubits : Cons (Oq3.Grammar.paramListDefcalQubits fuel )
  expressionList : Cons (Oq3.Grammar.expressionList fuel )
  caseValueList : Cons (Oq3.Grammar.caseValueList fuel )
  arrayLiteral : Cons (Oq3.Grammar.arrayLiteral fuel )
  paramListOpenqasm : ∀ (flavor : DefFlavor), Cons (Oq3.Grammar.paramListOpenqasm fuel flavor)
  paramListOpenqasmLoop : ∀ (flavor : DefFlavor) (numParams : Nat), Cons (Oq3.Grammar.paramListOpenqasmLoop fuel flavor numParams)
  paramListItem : ∀ (flavor : DefFlavor) (m : Marker) (innerArrayLiteral : Bool), Cons (Oq3.Grammar.paramListItem fuel flavor m innerArrayLiteral)
  paramTyped : ∀ (m : Marker), Cons (Oq3.Grammar.paramTyped fuel m)
  scalarType : ∀ (m : Marker), Cons (Oq3.Grammar.scalarType fuel m)
  argGateCallQubit : ∀ (m : Marker), Cons (Oq3.Grammar.argGateCallQubit fuel m)

theorem optReturnSignature_nstep {fuel : Nat} (ih : AllNS fuel) :
    Cons (optReturnSignature (fuel + 1)) := by
  constructor; intro e ok
  unfold optReturnSignature; ns [ih.typeSpec] []

theorem delimited_nstep {fuel : Nat} (ih : AllNS fuel) (bra ket : SyntaxKind) (consumeBraket : Bool) (delim : SyntaxKind) (firstSet : TokenSet) (parser : DelimitedParser) (hk0 : bra ≠ .ERROR) (hk1 : ket ≠ .ERROR) (hk2 : delim ≠ .ERROR) :
    Cons (delimited (fuel + 1) bra ket consumeBraket delim firstSet parser) := by
  constructor; intro e ok
  unfold delimited; ns [ih.delimitedLoop _ _ _ _ (by ns_kind)] []

theorem delimitedLoop_nstep {fuel : Nat} (ih : AllNS fuel) (ket delim : SyntaxKind) (firstSet : TokenSet) (parser : DelimitedParser) (hk0 : delim ≠ .ERROR) :
    Cons (delimitedLoop (fuel + 1) ket delim firstSet parser) := by
  constructor; intro e ok
  unfold delimitedLoop; ns [ih.delimitedLoop _ _ _ _ (by ns_kind), ih.delimitedParser _] []

theorem delimitedParser_nstep {fuel : Nat} (ih : AllNS fuel) (parser : DelimitedParser) :
    Cons (delimitedParser (fuel + 1) parser) := by
  constructor; intro e ok
  unfold delimitedParser; ns [ih.expr] []

theorem sourceFileContents_nstep {fuel : Nat} (ih : AllNS fuel) (stopOnRCurly : Bool) :
    Cons (sourceFileContents (fuel + 1) stopOnRCurly) := by
  constructor; intro e ok
  unfold sourceFileContents; ns [ih.sourceFileContents _, ih.item _] []

theorem item_nstep {fuel : Nat} (ih : AllNS fuel) (stopOnRCurly : Bool) :
    Cons (item (fuel + 1) stopOnRCurly) := by
  constructor; intro e ok
  unfold item; ns [ih.optItem _, ih.exprBlockStatements] []

theorem optItem_nstep {fuel : Nat} (ih : AllNS fuel) (m : Marker) :
    Cons (optItem (fuel + 1) m) := by
  constructor; intro e ok
  unfold optItem; ns [ih.switchCaseStmt _, ih.ifStmt _, ih.whileStmt _, ih.forStmt _, ih.qubitDeclarationStmt _, ih.resetStmt _, ih.gateDefinition _, ih.defcal_ _, ih.classicalDeclarationStmt _, ih.defStmt _, ih.externStmt _, ih.cal_ _, ih.barrier_ _, ih.delayStmt _, ih.aliasStmt _, break__ns _, continue__ns _, end__ns _, defcalgrammar__ns _, include'_ns _, versionString_ns _] [ih.ioDeclarationStmt _]

theorem switchCaseStmt_nstep {fuel : Nat} (ih : AllNS fuel) (m : Marker) :
    Cons (switchCaseStmt (fuel + 1) m) := by
  constructor; intro e ok
  unfold switchCaseStmt; ns [ih.switchCaseLoop, ih.expr, ih.tryBlockExpr] []

theorem switchCaseLoop_nstep {fuel : Nat} (ih : AllNS fuel) :
    Cons (switchCaseLoop (fuel + 1)) := by
  constructor; intro e ok
  unfold switchCaseLoop; ns [ih.switchCaseLoop, ih.tryBlockExpr, ih.caseValueList] []

theorem blockOrStatement_nstep {fuel : Nat} (ih : AllNS fuel) :
    Cons (blockOrStatement (fuel + 1)) := by
  constructor; intro e ok
  unfold blockOrStatement; ns [ih.stmt, ih.blockExpr] []

theorem ifStmt_nstep {fuel : Nat} (ih : AllNS fuel) (m : Marker) :
    Cons (ifStmt (fuel + 1) m) := by
  constructor; intro e ok
  unfold ifStmt; ns [ih.blockOrStatement, ih.ifStmt _, ih.expr] []

theorem whileStmt_nstep {fuel : Nat} (ih : AllNS fuel) (m : Marker) :
    Cons (whileStmt (fuel + 1) m) := by
  constructor; intro e ok
  unfold whileStmt; ns [ih.blockOrStatement, ih.expr] []

theorem forStmt_nstep {fuel : Nat} (ih : AllNS fuel) (m : Marker) :
    Cons (forStmt (fuel + 1) m) := by
  constructor; intro e ok
  unfold forStmt; ns [ih.blockOrStatement, ih.expr, ih.rangeExpr, ih.typeSpec, ih.setExpression, name_ns] []

theorem qubitDeclarationStmt_nstep {fuel : Nat} (ih : AllNS fuel) (m : Marker) :
    Cons (qubitDeclarationStmt (fuel + 1) m) := by
  constructor; intro e ok
  unfold qubitDeclarationStmt; ns [ih.qubitTypeSpec, varName_ns, hardwareQubit_ns] []

theorem resetStmt_nstep {fuel : Nat} (ih : AllNS fuel) (m : Marker) :
    Cons (resetStmt (fuel + 1) m) := by
  constructor; intro e ok
  unfold resetStmt; ns [ih.argGateCallQubit _] []

theorem gateDefinition_nstep {fuel : Nat} (ih : AllNS fuel) (m : Marker) :
    Cons (gateDefinition (fuel + 1) m) := by
  constructor; intro e ok
  unfold gateDefinition; ns [ih.tryBlockExpr, ih.paramListGateParams, ih.paramListGateQubits, nameR_ns _] []

theorem defcal__nstep {fuel : Nat} (ih : AllNS fuel) (m : Marker) :
    Cons (defcal_ (fuel + 1) m) := by
  constructor; intro e ok
  unfold defcal_; ns [ih.optReturnSignature, ih.tryBlockExpr, ih.paramListDefcalParams, ih.paramListDefcalQubits, nameR_ns _] []

theorem returnsBoolClassicalDeclarationStmt_nstep {fuel : Nat} (ih : AllNS fuel) (m : Marker) :
    Cons (returnsBoolClassicalDeclarationStmt (fuel + 1) m) := by
  constructor; intro e ok
  unfold returnsBoolClassicalDeclarationStmt; ns [ih.expr, ih.typeSpec, ih.arrayLiteral, varName_ns] []

theorem classicalDeclarationStmt_nstep {fuel : Nat} (ih : AllNS fuel) (m : Marker) :
    Cons (classicalDeclarationStmt (fuel + 1) m) := by
  constructor; intro e ok
  unfold classicalDeclarationStmt; ns [ih.returnsBoolClassicalDeclarationStmt _] []

theorem ioDeclarationStmt_nstep {fuel : Nat} (ih : AllNS fuel) (m : Marker) :
    ConsCur (ioDeclarationStmt (fuel + 1) m) := by
  constructor; intro e ok hcur
  unfold ioDeclarationStmt; ns [ih.typeSpec, varName_ns] []

theorem defStmt_nstep {fuel : Nat} (ih : AllNS fuel) (m : Marker) :
    Cons (defStmt (fuel + 1) m) := by
  constructor; intro e ok
  unfold defStmt; ns [ih.optReturnSignature, ih.tryBlockExpr, ih.paramListDefParams, nameR_ns _] []

theorem externStmt_nstep {fuel : Nat} (ih : AllNS fuel) (m : Marker) :
    Cons (externStmt (fuel + 1) m) := by
  constructor; intro e ok
  unfold externStmt; ns [ih.optReturnSignature, ih.scalarTypeList, nameR_ns _] []

theorem cal__nstep {fuel : Nat} (ih : AllNS fuel) (m : Marker) :
    Cons (cal_ (fuel + 1) m) := by
  constructor; intro e ok
  unfold cal_; ns [ih.tryBlockExpr] []

theorem barrier__nstep {fuel : Nat} (ih : AllNS fuel) (m : Marker) :
    Cons (barrier_ (fuel + 1) m) := by
  constructor; intro e ok
  unfold barrier_; ns [ih.argListGateCallQubits] []

theorem delayStmt_nstep {fuel : Nat} (ih : AllNS fuel) (m : Marker) :
    Cons (delayStmt (fuel + 1) m) := by
  constructor; intro e ok
  unfold delayStmt; ns [ih.designator, ih.argListGateCallQubits] []

theorem aliasStmt_nstep {fuel : Nat} (ih : AllNS fuel) (m : Marker) :
    Cons (aliasStmt (fuel + 1) m) := by
  constructor; intro e ok
  unfold aliasStmt; ns [ih.expr, nameR_ns _] []

theorem expr_nstep {fuel : Nat} (ih : AllNS fuel) :
    Cons (expr (fuel + 1)) := by
  constructor; intro e ok
  unfold expr; ns [ih.exprBp _ _ _] []

theorem rangeExpr_nstep {fuel : Nat} (ih : AllNS fuel) :
    Cons (rangeExpr (fuel + 1)) := by
  constructor; intro e ok
  unfold rangeExpr; ns [ih.exprBp _ _ _] []

theorem exprOrRangeExpr_nstep {fuel : Nat} (ih : AllNS fuel) :
    Cons (exprOrRangeExpr (fuel + 1)) := by
  constructor; intro e ok
  unfold exprOrRangeExpr; ns [ih.exprBp _ _ _] []

theorem exprStmt_nstep {fuel : Nat} (ih : AllNS fuel) (m : Option Marker) :
    Cons (exprStmt (fuel + 1) m) := by
  constructor; intro e ok
  unfold exprStmt; ns [ih.exprBp _ _ _] []

theorem stmt_nstep {fuel : Nat} (ih : AllNS fuel) :
    Cons (stmt (fuel + 1)) := by
  constructor; intro e ok
  unfold stmt; ns [ih.optItem _, ih.exprStmt _, ih.letStmt _] [ih.qOrCRegDeclaration _]

theorem letStmt_nstep {fuel : Nat} (ih : AllNS fuel) (m : Marker) :
    Cons (letStmt (fuel + 1) m) := by
  constructor; intro e ok
  unfold letStmt; ns [ih.expr] []

theorem qOrCRegParam_nstep {fuel : Nat} (ih : AllNS fuel) :
    ConsCur (qOrCRegParam (fuel + 1)) := by
  constructor; intro e ok hcur
  unfold qOrCRegParam; ns [ih.indexOperator] []

theorem qOrCRegDeclaration_nstep {fuel : Nat} (ih : AllNS fuel) (m : Marker) :
    ConsCur (qOrCRegDeclaration (fuel + 1) m) := by
  constructor; intro e ok hcur
  unfold qOrCRegDeclaration; ns [] [ih.qOrCRegParam]

theorem exprBlockStatements_nstep {fuel : Nat} (ih : AllNS fuel) :
    Cons (exprBlockStatements (fuel + 1)) := by
  constructor; intro e ok
  unfold exprBlockStatements; ns [ih.stmt, ih.exprBlockStatements] []

theorem exprBp_nstep {fuel : Nat} (ih : AllNS fuel) (m : Option Marker) (r : Restrictions) (bp : Nat) :
    Cons (exprBp (fuel + 1) m r bp) := by
  constructor; intro e ok
  unfold exprBp; ns [ih.exprBpLoop _ _ _, ih.lhs _] []

theorem exprBpLoop_nstep {fuel : Nat} (ih : AllNS fuel) (r : Restrictions) (bp : Nat) (lhs : CompletedMarker) :
    Cons (exprBpLoop (fuel + 1) r bp lhs) := by
  constructor; intro e ok
  unfold exprBpLoop; ns [ih.exprBp _ _ _, ih.exprBpLoop _ _ _] []

theorem lhs_nstep {fuel : Nat} (ih : AllNS fuel) (r : Restrictions) :
    Cons (lhs (fuel + 1) r) := by
  constructor; intro e ok
  unfold lhs; ns [ih.exprBp _ _ _, ih.postfixExpr _ _ _, ih.atomExpr _] []

theorem postfixExpr_nstep {fuel : Nat} (ih : AllNS fuel) (lhs : CompletedMarker) (blockLike : BlockLike) (allowCalls : Bool) :
    Cons (postfixExpr (fuel + 1) lhs blockLike allowCalls) := by
  constructor; intro e ok
  unfold postfixExpr; ns [ih.postfixExpr _ _ _, ih.callExpr _, ih.indexExpr _, ih.indexedIdentifier _] []

theorem callExpr_nstep {fuel : Nat} (ih : AllNS fuel) (lhs : CompletedMarker) :
    Cons (callExpr (fuel + 1) lhs) := by
  constructor; intro e ok
  unfold callExpr; ns [ih.callArgList, ih.argListGateCallQubits] []

theorem paramTypeSpec_nstep {fuel : Nat} (ih : AllNS fuel) :
    Cons (paramTypeSpec (fuel + 1)) := by
  constructor; intro e ok
  unfold paramTypeSpec; ns [ih.arrayTypeSpec _, ih.nonArrayTypeSpec] []

theorem typeSpec_nstep {fuel : Nat} (ih : AllNS fuel) :
    Cons (typeSpec (fuel + 1)) := by
  constructor; intro e ok
  unfold typeSpec; ns [ih.arrayTypeSpec _, ih.nonArrayTypeSpec] []

theorem arrayTypeSpec_nstep {fuel : Nat} (ih : AllNS fuel) (wantArrayRefType : Bool) :
    Cons (arrayTypeSpec (fuel + 1) wantArrayRefType) := by
  constructor; intro e ok
  unfold arrayTypeSpec; ns [ih.expr, ih.typeSpec, ih.arrayTypeDimsLoop] []

theorem arrayTypeDimsLoop_nstep {fuel : Nat} (ih : AllNS fuel) :
    Cons (arrayTypeDimsLoop (fuel + 1)) := by
  constructor; intro e ok
  unfold arrayTypeDimsLoop; ns [ih.expr, ih.arrayTypeDimsLoop] []

theorem nonArrayTypeSpec_nstep {fuel : Nat} (ih : AllNS fuel) :
    Cons (nonArrayTypeSpec (fuel + 1)) := by
  constructor; intro e ok
  unfold nonArrayTypeSpec; ns [ih.complexTypeSpec, ih.designator, typeName_ns] []

theorem complexTypeSpec_nstep {fuel : Nat} (ih : AllNS fuel) :
    Cons (complexTypeSpec (fuel + 1)) := by
  constructor; intro e ok
  unfold complexTypeSpec; ns [ih.nonArrayTypeSpec] []

theorem qubitTypeSpec_nstep {fuel : Nat} (ih : AllNS fuel) :
    Cons (qubitTypeSpec (fuel + 1)) := by
  constructor; intro e ok
  unfold qubitTypeSpec; ns [ih.designator, typeName_ns] []

theorem designator_nstep {fuel : Nat} (ih : AllNS fuel) :
    Cons (designator (fuel + 1)) := by
  constructor; intro e ok
  unfold designator; ns [ih.expr] []

theorem indexExpr_nstep {fuel : Nat} (ih : AllNS fuel) (lhs : CompletedMarker) :
    Cons (indexExpr (fuel + 1) lhs) := by
  constructor; intro e ok
  unfold indexExpr; ns [ih.indexOperator] []

theorem indexedIdentifier_nstep {fuel : Nat} (ih : AllNS fuel) (lhs : CompletedMarker) :
    Cons (indexedIdentifier (fuel + 1) lhs) := by
  constructor; intro e ok
  unfold indexedIdentifier; ns [ih.indexedIdentifierLoop] []

theorem indexedIdentifierLoop_nstep {fuel : Nat} (ih : AllNS fuel) :
    Cons (indexedIdentifierLoop (fuel + 1)) := by
  constructor; intro e ok
  unfold indexedIdentifierLoop; ns [ih.indexedIdentifierLoop, ih.indexOperator] []

theorem setExpression_nstep {fuel : Nat} (ih : AllNS fuel) :
    Cons (setExpression (fuel + 1)) := by
  constructor; intro e ok
  unfold setExpression; ns [ih.expressionList] []

theorem indexOperator_nstep {fuel : Nat} (ih : AllNS fuel) :
    Cons (indexOperator (fuel + 1)) := by
  constructor; intro e ok
  unfold indexOperator; ns [ih.setExpression, ih.expressionList] []

theorem callArgList_nstep {fuel : Nat} (ih : AllNS fuel) :
    Cons (callArgList (fuel + 1)) := by
  constructor; intro e ok
  unfold callArgList; ns [ih.delimited _ _ _ _ _ _ (by ns_kind) (by ns_kind) (by ns_kind)] []

theorem atomExpr_nstep {fuel : Nat} (ih : AllNS fuel) (_r : Restrictions) :
    Cons (atomExpr (fuel + 1) _r) := by
  constructor; intro e ok
  unfold atomExpr; ns [ih.castExpr, ih.gphaseCallExpr, ih.modifiedGateCallExpr, ih.gateCallExpr, ih.measureExpression, ih.tupleExpr, ih.arrayExpr, ih.blockExpr, ih.returnExpr, ih.boxExpr _, identifier_ns, hardwareQubit_ns, literal_ns] []

theorem castExpr_nstep {fuel : Nat} (ih : AllNS fuel) :
    Cons (castExpr (fuel + 1)) := by
  constructor; intro e ok
  unfold castExpr; ns [ih.expr, ih.typeSpec] []

theorem gphaseCallExpr_nstep {fuel : Nat} (ih : AllNS fuel) :
    Cons (gphaseCallExpr (fuel + 1)) := by
  constructor; intro e ok
  unfold gphaseCallExpr; ns [ih.expr] []

theorem modifiedGateCallExpr_nstep {fuel : Nat} (ih : AllNS fuel) :
    Cons (modifiedGateCallExpr (fuel + 1)) := by
  constructor; intro e ok
  unfold modifiedGateCallExpr; ns [ih.gphaseCallExpr, ih.modifiedGateCallExprLoop, ih.gateCallExpr] []

theorem modifiedGateCallExprLoop_nstep {fuel : Nat} (ih : AllNS fuel) :
    Cons (modifiedGateCallExprLoop (fuel + 1)) := by
  constructor; intro e ok
  unfold modifiedGateCallExprLoop; ns [ih.expr, ih.modifiedGateCallExprLoop] []

theorem gateCallExpr_nstep {fuel : Nat} (ih : AllNS fuel) :
    Cons (gateCallExpr (fuel + 1)) := by
  constructor; intro e ok
  unfold gateCallExpr; ns [ih.callArgList, ih.argListGateCallQubits, identifier_ns] []

theorem measureExpression_nstep {fuel : Nat} (ih : AllNS fuel) :
    Cons (measureExpression (fuel + 1)) := by
  constructor; intro e ok
  unfold measureExpression; ns [ih.argGateCallQubit _] []

theorem tupleExpr_nstep {fuel : Nat} (ih : AllNS fuel) :
    Cons (tupleExpr (fuel + 1)) := by
  constructor; intro e ok
  unfold tupleExpr; ns [ih.tupleExprLoop _ _] []

theorem tupleExprLoop_nstep {fuel : Nat} (ih : AllNS fuel) (sawComma sawExpr : Bool) :
    Cons (tupleExprLoop (fuel + 1) sawComma sawExpr) := by
  constructor; intro e ok
  unfold tupleExprLoop; ns [ih.expr, ih.tupleExprLoop _ _] []

theorem arrayExpr_nstep {fuel : Nat} (ih : AllNS fuel) :
    Cons (arrayExpr (fuel + 1)) := by
  constructor; intro e ok
  unfold arrayExpr; ns [ih.arrayExprLoop _ _] []

theorem arrayExprLoop_nstep {fuel : Nat} (ih : AllNS fuel) (nExprs : Nat) (hasSemi : Bool) :
    Cons (arrayExprLoop (fuel + 1) nExprs hasSemi) := by
  constructor; intro e ok
  unfold arrayExprLoop; ns [ih.expr, ih.arrayExprLoop _ _] []

theorem tryBlockExpr_nstep {fuel : Nat} (ih : AllNS fuel) :
    Cons (tryBlockExpr (fuel + 1)) := by
  constructor; intro e ok
  unfold tryBlockExpr; ns [ih.blockExpr] []

theorem blockExpr_nstep {fuel : Nat} (ih : AllNS fuel) :
    Cons (blockExpr (fuel + 1)) := by
  constructor; intro e ok
  unfold blockExpr; ns [ih.exprBlockStatements] []

theorem returnExpr_nstep {fuel : Nat} (ih : AllNS fuel) :
    Cons (returnExpr (fuel + 1)) := by
  constructor; intro e ok
  unfold returnExpr; ns [ih.expr] []

theorem boxExpr_nstep {fuel : Nat} (ih : AllNS fuel) (m : Option Marker) :
    Cons (boxExpr (fuel + 1) m) := by
  constructor; intro e ok
  unfold boxExpr; ns [ih.expr] []

theorem paramListGateParams_nstep {fuel : Nat} (ih : AllNS fuel) :
    Cons (paramListGateParams (fuel + 1)) := by
  constructor; intro e ok
  unfold paramListGateParams; ns [ih.paramListOpenqasm _] []

theorem paramListGateQubits_nstep {fuel : Nat} (ih : AllNS fuel) :
    Cons (paramListGateQubits (fuel + 1)) := by
  constructor; intro e ok
  unfold paramListGateQubits; ns [ih.paramListOpenqasm _] []

theorem argListGateCallQubits_nstep {fuel : Nat} (ih : AllNS fuel) :
    Cons (argListGateCallQubits (fuel + 1)) := by
  constructor; intro e ok
  unfold argListGateCallQubits; ns [ih.paramListOpenqasm _] []

theorem paramListDefParams_nstep {fuel : Nat} (ih : AllNS fuel) :
    Cons (paramListDefParams (fuel + 1)) := by
  constructor; intro e ok
  unfold paramListDefParams; ns [ih.paramListOpenqasm _] []

theorem scalarTypeList_nstep {fuel : Nat} (ih : AllNS fuel) :
    Cons (scalarTypeList (fuel + 1)) := by
  constructor; intro e ok
  unfold scalarTypeList; ns [ih.paramListOpenqasm _] []

theorem paramListDefcalParams_nstep {fuel : Nat} (ih : AllNS fuel) :
    Cons (paramListDefcalParams (fuel + 1)) := by
  constructor; intro e ok
  unfold paramListDefcalParams; ns [ih.paramListOpenqasm _] []

theorem paramListDefcalQubits_nstep {fuel : Nat} (ih : AllNS fuel) :
    Cons (paramListDefcalQubits (fuel + 1)) := by
  constructor; intro e ok
  unfold paramListDefcalQubits; ns [ih.paramListOpenqasm _] []

theorem expressionList_nstep {fuel : Nat} (ih : AllNS fuel) :
    Cons (expressionList (fuel + 1)) := by
  constructor; intro e ok
  unfold expressionList; ns [ih.paramListOpenqasm _] []

theorem caseValueList_nstep {fuel : Nat} (ih : AllNS fuel) :
    Cons (caseValueList (fuel + 1)) := by
  constructor; intro e ok
  unfold caseValueList; ns [ih.paramListOpenqasm _] []

theorem arrayLiteral_nstep {fuel : Nat} (ih : AllNS fuel) :
    Cons (arrayLiteral (fuel + 1)) := by
  constructor; intro e ok
  unfold arrayLiteral; ns [ih.paramListOpenqasm _] []

theorem paramListOpenqasm_nstep {fuel : Nat} (ih : AllNS fuel) (flavor : DefFlavor) :
    Cons (paramListOpenqasm (fuel + 1) flavor) := by
  constructor; intro e ok
  unfold paramListOpenqasm; ns [ih.paramListOpenqasmLoop _ _] []

theorem paramListOpenqasmLoop_nstep {fuel : Nat} (ih : AllNS fuel) (flavor : DefFlavor) (numParams : Nat) :
    Cons (paramListOpenqasmLoop (fuel + 1) flavor numParams) := by
  constructor; intro e ok
  unfold paramListOpenqasmLoop; ns [ih.paramListOpenqasmLoop _ _, ih.paramListItem _ _ _, atListEndToken_ns _] []

theorem paramListItem_nstep {fuel : Nat} (ih : AllNS fuel) (flavor : DefFlavor) (m : Marker) (innerArrayLiteral : Bool) :
    Cons (paramListItem (fuel + 1) flavor m innerArrayLiteral) := by
  constructor; intro e ok
  unfold paramListItem; ns [ih.expr, ih.exprOrRangeExpr, ih.arrayLiteral, ih.paramTyped _, ih.scalarType _, ih.argGateCallQubit _, paramUntyped_ns _, paramUntypedOrHardwareQubit_ns _] []

theorem paramTyped_nstep {fuel : Nat} (ih : AllNS fuel) (m : Marker) :
    Cons (paramTyped (fuel + 1) m) := by
  constructor; intro e ok
  unfold paramTyped; ns [ih.paramTypeSpec, varName_ns] [ih.qOrCRegParam]

theorem scalarType_nstep {fuel : Nat} (ih : AllNS fuel) (m : Marker) :
    Cons (scalarType (fuel + 1) m) := by
  constructor; intro e ok
  unfold scalarType; ns [ih.typeSpec] []

theorem argGateCallQubit_nstep {fuel : Nat} (ih : AllNS fuel) (m : Marker) :
    Cons (argGateCallQubit (fuel + 1) m) := by
  constructor; intro e ok
  unfold argGateCallQubit; ns [ih.indexedIdentifier _] []

theorem allNS : ∀ fuel, AllNS fuel
  | 0 => by constructor <;> intros <;> exact .fail _
  | fuel + 1 =>
    have ih := allNS fuel
    ⟨optReturnSignature_nstep ih,
     delimited_nstep ih,
     delimitedLoop_nstep ih,
     delimitedParser_nstep ih,
     sourceFileContents_nstep ih,
     item_nstep ih,
     optItem_nstep ih,
     switchCaseStmt_nstep ih,
     switchCaseLoop_nstep ih,
     blockOrStatement_nstep ih,
     ifStmt_nstep ih,
     whileStmt_nstep ih,
     forStmt_nstep ih,
     qubitDeclarationStmt_nstep ih,
     resetStmt_nstep ih,
     gateDefinition_nstep ih,
     defcal__nstep ih,
     returnsBoolClassicalDeclarationStmt_nstep ih,
     classicalDeclarationStmt_nstep ih,
     ioDeclarationStmt_nstep ih,
     defStmt_nstep ih,
     externStmt_nstep ih,
     cal__nstep ih,
     barrier__nstep ih,
     delayStmt_nstep ih,
     aliasStmt_nstep ih,
     expr_nstep ih,
     rangeExpr_nstep ih,
     exprOrRangeExpr_nstep ih,
     exprStmt_nstep ih,
     stmt_nstep ih,
     letStmt_nstep ih,
     qOrCRegParam_nstep ih,
     qOrCRegDeclaration_nstep ih,
     exprBlockStatements_nstep ih,
     exprBp_nstep ih,
     exprBpLoop_nstep ih,
     lhs_nstep ih,
     postfixExpr_nstep ih,
     callExpr_nstep ih,
     paramTypeSpec_nstep ih,
     typeSpec_nstep ih,
     arrayTypeSpec_nstep ih,
     arrayTypeDimsLoop_nstep ih,
     nonArrayTypeSpec_nstep ih,
     complexTypeSpec_nstep ih,
     qubitTypeSpec_nstep ih,
     designator_nstep ih,
     indexExpr_nstep ih,
     indexedIdentifier_nstep ih,
     indexedIdentifierLoop_nstep ih,
     setExpression_nstep ih,
     indexOperator_nstep ih,
     callArgList_nstep ih,
     atomExpr_nstep ih,
     castExpr_nstep ih,
     gphaseCallExpr_nstep ih,
     modifiedGateCallExpr_nstep ih,
     modifiedGateCallExprLoop_nstep ih,
     gateCallExpr_nstep ih,
     measureExpression_nstep ih,
     tupleExpr_nstep ih,
     tupleExprLoop_nstep ih,
     arrayExpr_nstep ih,
     arrayExprLoop_nstep ih,
     tryBlockExpr_nstep ih,
     blockExpr_nstep ih,
     returnExpr_nstep ih,
     boxExpr_nstep ih,
     paramListGateParams_nstep ih,
     paramListGateQubits_nstep ih,
     argListGateCallQubits_nstep ih,
     paramListDefParams_nstep ih,
     scalarTypeList_nstep ih,
     paramListDefcalParams_nstep ih,
     paramListDefcalQubits_nstep ih,
     expressionList_nstep ih,
     caseValueList_nstep ih,
     arrayLiteral_nstep ih,
     paramListOpenqasm_nstep ih,
     paramListOpenqasmLoop_nstep ih,
     paramListItem_nstep ih,
     paramTyped_nstep ih,
     scalarType_nstep ih,
     argGateCallQubit_nstep ih⟩

/-- `grammar::entry::top::source_file` never consumes an `ERROR` token and never completes an
`ERROR` node without having reported an error -/
theorem sourceFile_ns (fuel : Nat) : Cons (sourceFile fuel) := by
  constructor; intro e ok
  unfold sourceFile; ns [(allNS fuel).sourceFileContents _] []

end Oq3.Grammar
