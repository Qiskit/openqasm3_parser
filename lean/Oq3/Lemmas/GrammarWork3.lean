/- GENERATED by /verif/tools/gen_grammar_cost2.py from Oq3/Model/Grammar.lean — the proofs are checked by Lean. -/
import Oq3.Lemmas.GrammarWork0
set_option linter.unusedVariables false
set_option linter.unusedSimpArgs false

namespace Oq3.Grammar
open Oq3.Gen Oq3.Parser
open Oq3.Gen.Ops (Assoc)
open Oq3.Gen.TokenSets

theorem paramListOpenqasmLoop_wk {M : Sys} {fuel : Nat} (ih : AllWork M fuel) (flavor : DefFlavor) (numParams : Nat) (E : Env M ⟨rkLoop flavor, wEBudLoop flavor, wSBudLoop flavor, wENLoop flavor, wEDLoop flavor, wSNLoop flavor, wSDLoop flavor⟩ fuel) :
    W E .init (Oq3.Grammar.paramListOpenqasmLoop (fuel + 1) flavor numParams) (Exit E fun _ _ => True) E.s₀ := by
  unfold Oq3.Grammar.paramListOpenqasmLoop
  ww [atListEndToken (W.same (atListEndToken_spec _)), paramListOpenqasmLoop (W.callFN (.of_field' (ih.paramListOpenqasmLoop _ _))), paramListItem (W.callFX (.of_fieldX (ih.paramListItem _ _ _)))]

theorem ifStmt_wk {M : Sys} {fuel : Nat} (ih : AllWork M fuel) (m : Marker) (E : Env M ⟨1, 1, 0, 0, 12, 0, 6⟩ fuel) :
    W E .init (Oq3.Grammar.ifStmt (fuel + 1) m) (Exit E fun _ s' => E.s₀.pos < s'.pos) E.s₀ := by
  unfold Oq3.Grammar.ifStmt
  ww [blockOrStatement (W.callFN (.of_field' ih.blockOrStatement)), ifStmt (W.callFP (.of_field (ih.ifStmt _))), expr (W.callF (.of_field ih.expr))]

theorem optReturnSignature_wk {M : Sys} {fuel : Nat} (ih : AllWork M fuel) (E : Env M ⟨1, 2, 0, 0, 32, 0, 6⟩ fuel) :
    W E .init (Oq3.Grammar.optReturnSignature (fuel + 1)) (Exit E fun _ _ => True) E.s₀ := by
  unfold Oq3.Grammar.optReturnSignature
  ww [typeSpec (W.callF (.of_field ih.typeSpec))]

theorem qubitDeclarationStmt_wk {M : Sys} {fuel : Nat} (ih : AllWork M fuel) (m : Marker) (E : Env M ⟨3, 4, 0, 0, 12, 0, 6⟩ fuel) :
    W E .init (Oq3.Grammar.qubitDeclarationStmt (fuel + 1) m) (Exit E fun _ s' => E.s₀.pos < s'.pos) E.s₀ := by
  unfold Oq3.Grammar.qubitDeclarationStmt
  ww [varName (W.callS varName_spec), hardwareQubit (W.callSP hardwareQubit_spec), qubitTypeSpec (W.callFP (.of_field ih.qubitTypeSpec))]

theorem cal__wk {M : Sys} {fuel : Nat} (ih : AllWork M fuel) (m : Marker) (E : Env M ⟨1, 1, 0, 0, 12, 0, 6⟩ fuel) :
    W E .init (Oq3.Grammar.cal_ (fuel + 1) m) (Exit E fun _ s' => E.s₀.pos < s'.pos) E.s₀ := by
  unfold Oq3.Grammar.cal_
  ww [tryBlockExpr (W.callFN (.of_field' ih.tryBlockExpr))]

theorem letStmt_wk {M : Sys} {fuel : Nat} (ih : AllWork M fuel) (m : Marker) (E : Env M ⟨1, 1, 0, 0, 3, 0, 1⟩ fuel) :
    W E .init (Oq3.Grammar.letStmt (fuel + 1) m) (Exit E fun _ s' => E.s₀.pos < s'.pos) E.s₀ := by
  unfold Oq3.Grammar.letStmt
  ww [expr (W.callF (.of_field ih.expr))]

theorem arrayTypeDimsLoop_wk {M : Sys} {fuel : Nat} (ih : AllWork M fuel) (E : Env M ⟨12, 15, 2, 6, 0, 2, 0⟩ fuel) :
    W E .init (Oq3.Grammar.arrayTypeDimsLoop (fuel + 1)) (Exit E fun _ _ => True) E.s₀ := by
  unfold Oq3.Grammar.arrayTypeDimsLoop
  ww [expr (W.callF (.of_field ih.expr)), arrayTypeDimsLoop (W.callFN (.of_field' ih.arrayTypeDimsLoop))]

theorem callArgList_wk {M : Sys} {fuel : Nat} (ih : AllWork M fuel) (E : Env M ⟨1, 3, 0, 0, 40, 0, 8⟩ fuel) :
    W E .init (Oq3.Grammar.callArgList (fuel + 1)) (Exit E fun _ s' => E.s₀.pos < s'.pos) E.s₀ := by
  unfold Oq3.Grammar.callArgList
  ww [delimited (W.callF (.of_field (ih.delimited _ _ _ _ _ _)))]

theorem arrayExprLoop_wk {M : Sys} {fuel : Nat} (ih : AllWork M fuel) (nExprs : Nat) (hasSemi : Bool) (E : Env M ⟨12, 15, 2, 6, 0, 2, 0⟩ fuel) :
    W E .init (Oq3.Grammar.arrayExprLoop (fuel + 1) nExprs hasSemi) (Exit E fun _ _ => True) E.s₀ := by
  unfold Oq3.Grammar.arrayExprLoop
  ww [expr (W.callF (.of_field ih.expr)), arrayExprLoop (W.callFN (.of_field' (ih.arrayExprLoop _ _)))]

theorem paramListDefParams_wk {M : Sys} {fuel : Nat} (ih : AllWork M fuel) (E : Env M ⟨8, 13, 0, 13, 32, 0, 6⟩ fuel) :
    W E .init (Oq3.Grammar.paramListDefParams (fuel + 1)) (Exit E fun _ _ => True) E.s₀ := by
  unfold Oq3.Grammar.paramListDefParams
  ww [paramListOpenqasm (W.callFX (.of_fieldX (ih.paramListOpenqasm _)))]

theorem paramListItem_wk {M : Sys} {fuel : Nat} (ih : AllWork M fuel) (flavor : DefFlavor) (m : Marker) (innerArrayLiteral : Bool) (E : Env M ⟨rkItem flavor, wEBudItem flavor, wSBudItem flavor, wENItem flavor, wEDItem flavor, wSNItem flavor, wSDItem flavor⟩ fuel)
    (hX : (E.s₀.kindAt E.s₀.pos ≠ .EOF ∧ (innerArrayLiteral = true → atF .L_CURLY E.s₀.kinds E.s₀.joint E.s₀.pos = true) ∧ (itemGuard (E.s₀.kindAt E.s₀.pos) innerArrayLiteral = true ∨ (flavor = .defParams ∧ (atF .MUTABLE_KW E.s₀.kinds E.s₀.joint E.s₀.pos = true ∨ atF .READONLY_KW E.s₀.kinds E.s₀.joint E.s₀.pos = true))))) :
    W E .init (Oq3.Grammar.paramListItem (fuel + 1) flavor m innerArrayLiteral) (Exit E fun r s' => (r = true → E.s₀.pos < s'.pos)) E.s₀ := by
  unfold Oq3.Grammar.paramListItem
  revert hX
  cases innerArrayLiteral <;> ww [paramUntyped (W.callS (paramUntyped_spec _)), paramUntypedOrHardwareQubit (W.callS (paramUntypedOrHardwareQubit_spec _)), expr (W.callF (.of_field ih.expr)), exprOrRangeExpr (W.callF (.of_field ih.exprOrRangeExpr)), arrayLiteral (W.callFPX (.of_fieldX ih.arrayLiteral)), paramTyped (W.callF (.of_field (ih.paramTyped _))), scalarType (W.callF (.of_field (ih.scalarType _))), argGateCallQubit (W.callF (.of_field (ih.argGateCallQubit _)))]

end Oq3.Grammar
