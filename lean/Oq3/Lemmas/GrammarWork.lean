/- GENERATED by /verif/tools/gen_grammar_cost2.py from Oq3/Model/Grammar.lean — the proofs are checked by Lean. -/
import Oq3.Lemmas.GrammarWork1
import Oq3.Lemmas.GrammarWork2
import Oq3.Lemmas.GrammarWork3
import Oq3.Lemmas.GrammarWork4
import Oq3.Lemmas.GrammarWork5
import Oq3.Lemmas.GrammarWork6
import Oq3.Lemmas.GrammarWork7
import Oq3.Lemmas.GrammarWork8
set_option linter.unusedVariables false
set_option linter.unusedSimpArgs false

namespace Oq3.Grammar
open Oq3.Gen Oq3.Parser
open Oq3.Gen.Ops (Assoc)
open Oq3.Gen.TokenSets

theorem arrayTypeSpec_wk {M : Sys} {fuel : Nat} (ih : AllWork M fuel) (wantArrayRefType : Bool) (E : Env M ⟨1, 5, 0, 0, 38, 0, 10⟩ fuel)
    (hX : (wantArrayRefType = true → (atF .ARRAY_KW E.s₀.kinds E.s₀.joint E.s₀.pos = true ∨ atF .MUTABLE_KW E.s₀.kinds E.s₀.joint E.s₀.pos = true ∨ atF .READONLY_KW E.s₀.kinds E.s₀.joint E.s₀.pos = true))) :
    W E .init (Oq3.Grammar.arrayTypeSpec (fuel + 1) wantArrayRefType) (Exit E fun _ s' => E.s₀.pos < s'.pos) E.s₀ := by
  cases wantArrayRefType
  · exact arrayTypeSpec_false_wk ih E hX
  · exact arrayTypeSpec_true_wk ih E hX

theorem allWork (M : Sys) (fuel : Nat) : AllWork M fuel := by
  induction fuel with
  | zero =>
    constructor <;> first
      | (intros; exfalso; omega)
      | (intro flavor; cases flavor <;> (intros; exfalso; simp only [rkList, rkLoop, rkItem] at *; omega))
  | succ fuel ih =>
    exact
      { optReturnSignature := W.field' fun E => optReturnSignature_wk ih E
        delimited := fun bra ket consumeBraket delim firstSet parser => W.field fun E => delimited_wk ih bra ket consumeBraket delim firstSet parser E
        delimitedLoop := fun ket delim firstSet parser => W.field' fun E => delimitedLoop_wk ih ket delim firstSet parser E
        delimitedParser := fun parser => W.field fun E => delimitedParser_wk ih parser E
        sourceFileContents := fun stopOnRCurly => W.field' fun E => sourceFileContents_wk ih stopOnRCurly E
        item := fun stopOnRCurly => W.field fun E => item_wk ih stopOnRCurly E
        optItem := fun m => W.field fun E => optItem_wk ih m E
        switchCaseStmt := fun m => W.field fun E => switchCaseStmt_wk ih m E
        switchCaseLoop := W.field' fun E => switchCaseLoop_wk ih E
        blockOrStatement := W.field' fun E => blockOrStatement_wk ih E
        ifStmt := fun m => W.field fun E => ifStmt_wk ih m E
        whileStmt := fun m => W.field fun E => whileStmt_wk ih m E
        forStmt := fun m => W.field fun E => forStmt_wk ih m E
        qubitDeclarationStmt := fun m => W.field fun E => qubitDeclarationStmt_wk ih m E
        resetStmt := fun m => W.field fun E => resetStmt_wk ih m E
        gateDefinition := fun m => W.field fun E => gateDefinition_wk ih m E
        defcal_ := fun m => W.field fun E => defcal__wk ih m E
        returnsBoolClassicalDeclarationStmt := fun m => W.field fun E => returnsBoolClassicalDeclarationStmt_wk ih m E
        classicalDeclarationStmt := fun m => W.field fun E => classicalDeclarationStmt_wk ih m E
        ioDeclarationStmt := fun m => W.field fun E => ioDeclarationStmt_wk ih m E
        defStmt := fun m => W.field fun E => defStmt_wk ih m E
        externStmt := fun m => W.field fun E => externStmt_wk ih m E
        cal_ := fun m => W.field fun E => cal__wk ih m E
        barrier_ := fun m => W.field fun E => barrier__wk ih m E
        delayStmt := fun m => W.field fun E => delayStmt_wk ih m E
        aliasStmt := fun m => W.field fun E => aliasStmt_wk ih m E
        expr := W.field fun E => expr_wk ih E
        rangeExpr := W.field fun E => rangeExpr_wk ih E
        exprOrRangeExpr := W.field fun E => exprOrRangeExpr_wk ih E
        exprStmt := fun m => W.field fun E => exprStmt_wk ih m E
        stmt := W.field fun E => stmt_wk ih E
        letStmt := fun m => W.field fun E => letStmt_wk ih m E
        qOrCRegParam := W.field fun E => qOrCRegParam_wk ih E
        qOrCRegDeclaration := fun m => W.field fun E => qOrCRegDeclaration_wk ih m E
        exprBlockStatements := W.field fun E => exprBlockStatements_wk ih E
        exprBp := fun m r bp => W.field fun E => exprBp_wk ih m r bp E
        exprBpLoop := fun r bp lhs => W.field' fun E => exprBpLoop_wk ih r bp lhs E
        lhs := fun r => W.field fun E => lhs_wk ih r E
        postfixExpr := fun lhs blockLike allowCalls => W.field' fun E => postfixExpr_wk ih lhs blockLike allowCalls E
        callExpr := fun lhs => W.field fun E => callExpr_wk ih lhs E
        paramTypeSpec := W.field fun E => paramTypeSpec_wk ih E
        typeSpec := W.field fun E => typeSpec_wk ih E
        arrayTypeSpec := fun wantArrayRefType => W.fieldX fun E hX => arrayTypeSpec_wk ih wantArrayRefType E hX
        arrayTypeDimsLoop := W.field' fun E => arrayTypeDimsLoop_wk ih E
        nonArrayTypeSpec := W.field fun E => nonArrayTypeSpec_wk ih E
        complexTypeSpec := W.field fun E => complexTypeSpec_wk ih E
        qubitTypeSpec := W.field fun E => qubitTypeSpec_wk ih E
        designator := W.field fun E => designator_wk ih E
        indexExpr := fun lhs => W.field fun E => indexExpr_wk ih lhs E
        indexedIdentifier := fun lhs => W.field fun E => indexedIdentifier_wk ih lhs E
        indexedIdentifierLoop := W.field fun E => indexedIdentifierLoop_wk ih E
        setExpression := W.field fun E => setExpression_wk ih E
        indexOperator := W.field fun E => indexOperator_wk ih E
        callArgList := W.field fun E => callArgList_wk ih E
        atomExpr := fun _r => W.field fun E => atomExpr_wk ih _r E
        castExpr := W.fieldX fun E hX => castExpr_wk ih E hX
        gphaseCallExpr := W.field fun E => gphaseCallExpr_wk ih E
        modifiedGateCallExpr := W.field fun E => modifiedGateCallExpr_wk ih E
        modifiedGateCallExprLoop := W.field fun E => modifiedGateCallExprLoop_wk ih E
        gateCallExpr := W.field fun E => gateCallExpr_wk ih E
        measureExpression := W.field fun E => measureExpression_wk ih E
        tupleExpr := W.field fun E => tupleExpr_wk ih E
        tupleExprLoop := fun sawComma sawExpr => W.field' fun E => tupleExprLoop_wk ih sawComma sawExpr E
        arrayExpr := W.field fun E => arrayExpr_wk ih E
        arrayExprLoop := fun nExprs hasSemi => W.field' fun E => arrayExprLoop_wk ih nExprs hasSemi E
        tryBlockExpr := W.field' fun E => tryBlockExpr_wk ih E
        blockExpr := W.field fun E => blockExpr_wk ih E
        returnExpr := W.field fun E => returnExpr_wk ih E
        boxExpr := fun m => W.field fun E => boxExpr_wk ih m E
        paramListGateParams := W.field' fun E => paramListGateParams_wk ih E
        paramListGateQubits := W.field' fun E => paramListGateQubits_wk ih E
        argListGateCallQubits := W.field' fun E => argListGateCallQubits_wk ih E
        paramListDefParams := W.field' fun E => paramListDefParams_wk ih E
        scalarTypeList := W.field' fun E => scalarTypeList_wk ih E
        paramListDefcalParams := W.field' fun E => paramListDefcalParams_wk ih E
        paramListDefcalQubits := W.field' fun E => paramListDefcalQubits_wk ih E
        expressionList := W.field' fun E => expressionList_wk ih E
        caseValueList := W.field' fun E => caseValueList_wk ih E
        arrayLiteral := W.fieldX fun E hX => arrayLiteral_wk ih E hX
        paramListOpenqasm := fun flavor => W.fieldX fun E hX => paramListOpenqasm_wk ih flavor E hX
        paramListOpenqasmLoop := fun flavor numParams => W.field' fun E => paramListOpenqasmLoop_wk ih flavor numParams E
        paramListItem := fun flavor m innerArrayLiteral => W.fieldX fun E hX => paramListItem_wk ih flavor m innerArrayLiteral E hX
        paramTyped := fun m => W.field fun E => paramTyped_wk ih m E
        scalarType := fun m => W.field fun E => scalarType_wk ih m E
        argGateCallQubit := fun m => W.field fun E => argGateCallQubit_wk ih m E }

/-- `source_file` within the two budgets -/
theorem sourceFile_spec (M : Sys) (fuel : Nat) :
    Spec M ⟨18 + 1, 27, 6, 27, 0, 6, 0⟩ (sourceFile fuel) (fun s => 18 + 20 * s.kinds.size ≤ fuel + 20 * s.pos)
      fun _ _ _ => True := by
  intro B Bs s hin hg hev hst (hX : 18 + 20 * s.kinds.size ≤ fuel + 20 * s.pos)
  have ih := allWork M fuel
  let E : Env M ⟨18 + 1, 27, 6, 27, 0, 6, 0⟩ fuel := ⟨B, Bs, s, hin, by show 18 + 1 + _ ≤ _; omega, hg, hev, hst⟩
  refine W.run (E := E) (Y := fun _ _ _ => True) ?_
  unfold sourceFile; ww [sourceFileContents (W.callFN (.of_field' (ih.sourceFileContents _)))]

end Oq3.Grammar
