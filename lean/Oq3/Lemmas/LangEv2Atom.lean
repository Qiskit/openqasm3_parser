/-
C04, extended reference language: `atom_expr` on the atoms of extended expressions.
-/
import Oq3.Lemmas.LangEv2Run
set_option linter.unusedSimpArgs false
set_option linter.unusedVariables false

namespace Oq3.LangEv2
open Oq3.Gen Oq3.Parser Oq3.Grammar Oq3.SymExec Oq3.PrattEv Oq3.LangEv

theorem ov_live (s : P) (E0 : List Ev) (dp st sb lv : Nat) (pr : List Nat) : (s.ov E0 dp st sb lv pr).live = lv := rfl
theorem ov_prot (s : P) (E0 : List Ev) (dp st sb lv : Nat) (pr : List Nat) : (s.ov E0 dp st sb lv pr).protectedPos = pr := rfl

/-- `atom_expr` parses the primary `p` whole, with every fuel ≥ `need`: the form in which `lhs` uses the atoms
(`lhsC_of_atom`) -/
def AtomRun (p : Prim) (need : Nat) : Prop :=
  ∀ (F : Nat) (r : Restrictions) (s : P), need ≤ F → RdyF 3 s → Toks s s.pos (toksP p) →
    EndIn (lastP p) (s.kindAt (s.pos + (toksP p).length)) → CanonP p →
    atomExpr F r s = .ok (some (⟨s.events.size + 0, p.kind⟩, .notBlock),
      s.ov (bodyP p none) (toksP p).length 0 (sbP p) s.live s.protectedPos)

/-- an identifier that is not the name of a gate call -/
theorem atom_id : AtomRun .id 1 := by
  intro F r s hF hr htk hend _
  obtain ⟨g, rfl⟩ : ∃ g, F = g + 1 := ⟨F - 1, by omega⟩
  tok_at [toksP] at htk
  have e1 : s.kindAt (s.pos + 1) ≠ .IDENT := hend.1
  have e2 : s.kindAt (s.pos + 1) ≠ .HARDWAREIDENT := hend.2
  run_exact [htk, e1, e2]

theorem atom_lit (k : Lit) : AtomRun (.lit k) 1 := by
  intro F r s hF hr htk hend _
  obtain ⟨g, rfl⟩ : ∃ g, F = g + 1 := ⟨F - 1, by omega⟩
  tok_at [toksP] at htk
  have e1 : s.kindAt (s.pos + 1) ≠ .IDENT := hend
  cases k <;> simp only [Lit.kind] at htk <;> run_exact [htk, e1]

theorem atom_timing (k : Num) : AtomRun (.timing k) 1 := by
  intro F r s hF hr htk _ _
  obtain ⟨g, rfl⟩ : ∃ g, F = g + 1 := ⟨F - 1, by omega⟩
  tok_at [toksP] at htk
  obtain ⟨h0, h1⟩ := htk
  cases k <;> simp only [Num.kind] at h0 <;> run_exact [h0, h1]

theorem atom_hw : AtomRun .hw 1 := by
  intro F r s hF hr htk _ _
  obtain ⟨g, rfl⟩ : ∃ g, F = g + 1 := ⟨F - 1, by omega⟩
  tok_at [toksP] at htk
  run_exact [htk]

theorem atom_measure : AtomRun .measureE 3 := by
  intro F r s hF hr htk hend _
  obtain ⟨g, rfl⟩ : ∃ g, F = g + 3 := ⟨F - 3, by omega⟩
  tok_at [toksP] at htk
  have e2 : s.kindAt (s.pos + 2) ≠ .L_BRACK := hend
  run_exact [htk.1, htk.2, e2]

theorem atom_measureHw : AtomRun .measureHw 3 := by
  intro F r s hF hr htk _ _
  obtain ⟨g, rfl⟩ : ∃ g, F = g + 3 := ⟨F - 3, by omega⟩
  tok_at [toksP] at htk
  run_exact [htk.1, htk.2]

def xFirst (k : SyntaxKind) : Bool :=
  k == .IDENT || k == .INT_NUMBER || k == .FLOAT_NUMBER || k == .BIT_STRING || k == .TRUE_KW || k == .FALSE_KW ||
  k == .HARDWAREIDENT || k == .L_PAREN || k == .MEASURE_KW || k == .TILDE || k == .BANG || k == .MINUS ||
  k == .INT_TY || k == .UINT_TY || k == .FLOAT_TY || k == .ANGLE_TY || k == .BIT_TY || k == .BOOL_TY

theorem toksP_first : ∀ p : Prim, ∃ j ts, toksP p = (firstP p, j) :: ts
  | .id => ⟨_, _, rfl⟩
  | .lit _ => ⟨_, _, rfl⟩
  | .timing _ => ⟨_, _, rfl⟩
  | .hw => ⟨_, _, rfl⟩
  | .paren _ => ⟨_, _, rfl⟩
  | .cast0 _ _ => ⟨_, _, rfl⟩
  | .castW _ _ _ => ⟨_, _, rfl⟩
  | .measureE => ⟨_, _, rfl⟩
  | .measureHw => ⟨_, _, rfl⟩
  | .measureIdx _ => ⟨_, _, rfl⟩
  | .idIdx _ => ⟨_, _, rfl⟩
  | .call p args => by
    obtain ⟨j, ts, h⟩ := toksP_first p
    exact ⟨j, ts ++ (tk .L_PAREN :: (toksXs args ++ [tk .R_PAREN])), by simp [toksP, firstP, h]⟩
  | .index p items => by
    obtain ⟨j, ts, h⟩ := toksP_first p
    exact ⟨j, ts ++ (tk .L_BRACK :: (toksItems items ++ [tk .R_BRACK])), by simp [toksP, firstP, h]⟩

theorem toksX_first : ∀ x : X, ∃ j ts, toksX x = (firstX x, j) :: ts
  | .prim p => toksP_first p
  | .pre o e => ⟨_, _, rfl⟩
  | .bin o l r => by
    obtain ⟨j, ts, h⟩ := toksX_first l
    exact ⟨j, ts ++ (o.toks ++ toksX r), by simp [toksX, firstX, h]⟩

theorem firstP_xFirst : ∀ p : Prim, xFirst (firstP p) = true
  | .id => rfl
  | .lit k => by cases k <;> rfl
  | .timing k => by cases k <;> rfl
  | .hw => rfl
  | .paren _ => rfl
  | .cast0 ty _ => by cases ty <;> rfl
  | .castW ty _ _ => by cases ty <;> rfl
  | .measureE => rfl
  | .measureHw => rfl
  | .measureIdx _ => rfl
  | .idIdx _ => rfl
  | .call p _ => firstP_xFirst p
  | .index p _ => firstP_xFirst p

theorem firstX_xFirst : ∀ x : X, xFirst (firstX x) = true
  | .prim p => firstP_xFirst p
  | .pre o e => by cases o <;> rfl
  | .bin o l r => firstX_xFirst l

theorem xFirst_ne {k : SyntaxKind} (h : xFirst k = true) :
    NoSecond k ∧ k ≠ .R_PAREN ∧ k ≠ .EOF ∧ k ≠ .R_CURLY ∧ k ≠ .COMMA ∧ k ≠ .SEMICOLON ∧ k ≠ .R_BRACK ∧ k ≠ .COLON ∧
      k ≠ .L_CURLY ∧ k ≠ .L_BRACK ∧ k ≠ .STRING ∧ k ≠ .BYTE ∧ k ≠ .CHAR := by
  simp only [xFirst, Bool.or_eq_true, beq_iff_eq] at h
  unfold NoSecond
  rcases h with ((((((((((((((((h | h) | h) | h) | h) | h) | h) | h) | h) | h) | h) | h) | h) | h) | h) | h) | h) | h <;>
    subst h <;> decide

theorem atom_paren (e : X) (n : Nat) (he : ExprOKF e n) : AtomRun (.paren e) (n + 5) := by
  intro F r s hF hr htk _ hc
  obtain ⟨g, rfl⟩ : ∃ g, F = g + 5 := ⟨F - 5, by omega⟩
  tok_at [toksP] at htk
  obtain ⟨h0, hte, hrp⟩ := htk
  have hsub := he.exprAt (g + 1) hr 1 hte hc hrp rfl (by omega)
  obtain ⟨j, ts, hts⟩ := toksX_first e
  have h1 : s.kindAt (s.pos + 1) = firstX e := Toks_head hte hts
  obtain ⟨-, e1, e2, -, e3, -⟩ := xFirst_ne (h1 ▸ firstX_xFirst e)
  have b1 := beq_false_of_ne e1
  have b2 := beq_false_of_ne e2
  have b3 := beq_false_of_ne e3
  run_exact [h0, b1, b2, b3, hsub, hrp]

theorem typeSpec_wideX (ty : Ty) (w : X) (n : Nat) (hw : ExprOKF w n) (F : Nat) (s : P) (hr : RdyF 2 s) (hF : n + 4 ≤ F)
    (hty : ty.wide = true) (h0 : s.kindAt (s.pos + 0) = ty.kind) (h1 : s.kindAt (s.pos + 1) = .L_BRACK)
    (htw : Toks s (s.pos + 2) (toksX w)) (hrb : s.kindAt (s.pos + (2 + (toksX w).length)) = .R_BRACK)
    (hc : CanonX 1 w) (hf1 : firstX w ≠ .FLOAT_NUMBER) (hf2 : firstX w ≠ .BIT_STRING) :
    typeSpec F s = .ok (true, s.ov (.start .SCALAR_TYPE none :: .token ty.kind 1 :: .start .DESIGNATOR none ::
        .token .L_BRACK 1 :: (evsX w ++ [.token .R_BRACK 1, .finish, .finish])) ((toksX w).length + 3) 0 3 s.live s.protectedPos) := by
  obtain ⟨g, rfl⟩ : ∃ g, F = g + 4 := ⟨F - 4, by omega⟩
  have hsub := hw.exprAt g hr 2 htw hc hrb rfl (by omega)
  obtain ⟨j, ts, hts⟩ := toksX_first w
  have h2 : s.kindAt (s.pos + 2) = firstX w := Toks_head htw hts
  obtain ⟨-, -, -, -, -, -, -, -, -, -, e3, e4, e5⟩ := xFirst_ne (h2 ▸ firstX_xFirst w)
  rw [← h2] at hf1 hf2
  run_exact [h0, h1, hf1, hf2, e3, e4, e5, hrb, hsub, ty.kind_beq, ty.isType, ty.bump_ov, ty.canHaveDesignator, hty]

theorem atom_cast0 (ty : Ty) (e : X) (n : Nat) (he : ExprOKF e n) : AtomRun (.cast0 ty e) (n + 6) := by
  intro F r s hF hr htk _ hc
  obtain ⟨g, rfl⟩ : ∃ g, F = g + 6 := ⟨F - 6, by omega⟩
  tok_at [toksP] at htk
  obtain ⟨h0, h1, hte, hrp⟩ := htk
  have hsub := he.exprAt (g + 3) hr 2 hte hc hrp rfl (by omega)
  run_exact [h0, h1, hsub, hrp, ty.kind_beq, ty.isType, ty.isClassical, ty.notIn, ty.bump_ov]

theorem atom_castW (ty : Ty) (w e : X) (nw ne : Nat) (hw : ExprOKF w nw) (he : ExprOKF e ne) :
    AtomRun (.castW ty w e) (max nw ne + 7) := by
  intro F r s hF hr htk _ hc
  obtain ⟨g, rfl⟩ : ∃ g, F = g + 6 := ⟨F - 6, by omega⟩
  obtain ⟨hty, hf1, hf2, hcw, hce⟩ := hc
  tok_at [toksP] at htk
  obtain ⟨h0, h1, htw, hrb, hlp, hte, hrp⟩ := htk
  have hts := typeSpec_wideX ty w nw hw (g + 4) (s.ov [.start .TOMBSTONE none] 0 (s.steps + 1) (s.sinceBump + 1) (s.live + 1) s.protectedPos)
    (hr.ov 2 _ _ _ _ _ (by have := hr.steps; omega)) (by omega) hty h0 h1 ((Toks_ov s _ _ _ _ _ _ _ _).2 htw) hrb hcw hf1 hf2
  rw [ov_ov] at hts
  simp only [List.cons_append, List.nil_append, Nat.zero_add, ov_live, ov_prot] at hts
  have hlp' : s.kindAt (s.pos + ((toksX w).length + 3)) = .L_PAREN := kindAt_pos hlp (by omega)
  have hrp' : s.kindAt (s.pos + ((toksX w).length + 3 + 1 + (toksX e).length)) = .R_PAREN := kindAt_pos hrp (by omega)
  have hsub := he.exprAt (g + 3) hr _ (Toks_pos hte (by omega)) hce hrp' rfl (by omega)
  run_exact [h0, h1, hts, hlp', hsub, hrp', ty.kind_beq, ty.isType, ty.isClassical, ty.notIn, ty.bump_ov]

end Oq3.LangEv2
