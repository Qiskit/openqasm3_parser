/-
Raising the two hang limits only removes hang panics.

`s.relax L` is `s` with the step limit of `Parser::nth` raised to at least `L` and the no-progress hook switched off.
Only `nth` reads the first limit and only `pushEvent` the second, and no primitive writes either, so a run from
`s` is repeated from `s.relax L` unless it ended in one of the two hang panics (`LimMono`).  This is what lets a
statement proved under budgets below the limits (`Lemmas/Cost2.lean`) be read as a statement about every state,
with the hang panics tolerated (`wp_of_relax`).
-/
import Oq3.Lemmas.GClosed
import Oq3.Lemmas.SafeTok

namespace Oq3.Parser
open Oq3.Gen

def P.relax (s : P) (L : Nat) : P := { s with stepLimit := max s.stepLimit L, noProgressLimit := 0 }

def Outcome.IsHang (o : Outcome) : Prop :=
  o = .panic "Parser::nth the parser seems stuck" ∨ o = .panic "oq3_verif: no progress"

def LimMono {α : Type} (x : G α) : Prop :=
  ∀ s L,
    match x s with
    | .ok (a, s') => x (s.relax L) = .ok (a, s'.relax L)
    | .error o => o.IsHang ∨ x (s.relax L) = .error o

theorem LimMono.of_comm {α : Type} {x : G α}
    (h : ∀ s L, x (s.relax L) = (x s).map fun p => (p.1, p.2.relax L)) : LimMono x := by
  intro s L
  have h2 := h s L
  cases hx : x s with
  | error o => rw [hx] at h2; exact Or.inr h2
  | ok p => rw [hx] at h2; exact h2

theorem relax_hookTrip (s : P) (L : Nat) : (s.relax L).hookTrip = false := rfl

theorem limMono_closed : GClosed @LimMono where
  pure a := fun s L => rfl
  fail o := fun s L => Or.inr rfl
  bind {α β x f} hx hf := by
    intro s L
    have h1 := hx s L
    rw [G.bind_apply, G.bind_apply]
    cases hxs : x s with
    | error o =>
      rw [hxs] at h1
      rcases h1 with h | h
      · exact Or.inl h
      · rw [h]; exact Or.inr rfl
    | ok p =>
      obtain ⟨a, s1⟩ := p
      rw [hxs] at h1
      rw [h1]
      exact hf a s1 L
  current := .of_comm fun s L => rfl
  at' k := .of_comm fun s L => by rw [at_total, at_total]; rfl
  atTs ts := .of_comm fun s L => by rw [atTs_eq, atTs_eq]; rfl
  nth1 := by
    intro s L
    rw [nth_eq, nth_eq]
    by_cases h : s.steps > s.stepLimit
    · simp only [h, if_true]; exact Or.inl (Or.inl rfl)
    · have h' : ¬ (s.relax L).steps > (s.relax L).stepLimit := by
        show ¬ s.steps > max s.stepLimit L; omega
      simp only [h, h', if_false]
      rfl
  start := by
    intro s L
    rw [start_eq, start_eq, relax_hookTrip]
    cases s.hookTrip with
    | true => exact Or.inl (Or.inr rfl)
    | false => rfl
  error msg := by
    intro s L
    rw [error_eq, error_eq, relax_hookTrip]
    cases s.hookTrip with
    | true => exact Or.inl (Or.inr rfl)
    | false => rfl
  eat k := by
    by_cases hk : (k == .EOF) = true
    · intro s L
      have : ∀ t, eat k t = .error (.modelError "Parser::eat(EOF)") := fun t => by
        unfold eat; simp only [hk, if_true]; rfl
      rw [this, this]; exact Or.inr rfl
    · refine .of_comm fun s L => ?_
      rw [eat_eq k (by simpa using hk), eat_eq k (by simpa using hk)]
      show (if atF k s.kinds s.joint s.pos = true then _ else _) = _
      split <;> rfl
  bumpAny := .of_comm fun s L => by
    rw [bumpAny_eq, bumpAny_eq]
    show (if (s.kindAt s.pos == .EOF) = true then _ else _) = _
    split <;> rfl
  complete m k := by
    intro s L
    rw [complete_eq, complete_eq, relax_hookTrip, show (s.relax L).events[m.pos]? = s.events[m.pos]? from rfl]
    cases s.events[m.pos]? with
    | none => exact Or.inr rfl
    | some e =>
      cases e with
      | finish => exact Or.inr rfl
      | token _ _ => exact Or.inr rfl
      | error _ => exact Or.inr rfl
      | start k0 fp =>
        dsimp only
        by_cases h1 : (k0 != .TOMBSTONE) = true
        · simp only [h1, if_true]; exact Or.inr trivial
        · by_cases h2 : (k == .TOMBSTONE) = true
          · simp only [h1, h2, if_true]; exact Or.inr rfl
          · simp only [h1, h2, if_false, Bool.false_eq_true]
            cases s.hookTrip with
            | true => exact Or.inl (Or.inr rfl)
            | false => rfl
  abandon m := .of_comm fun s L => by
    rw [abandon_eq, abandon_eq, show (s.relax L).events = s.events from rfl,
      show (s.relax L).protectedPos = s.protectedPos from rfl]
    repeat' split
    all_goals rfl
  precede cm := by
    intro s L
    rw [precede_eq, precede_eq, relax_hookTrip,
      show (s.relax L).started.events[cm.pos]? = s.started.events[cm.pos]? from rfl,
      show (s.relax L).events = s.events from rfl]
    cases s.hookTrip with
    | true => exact Or.inl (Or.inr rfl)
    | false =>
      cases s.started.events[cm.pos]? with
      | none => exact Or.inr rfl
      | some e =>
        cases e with
        | finish => exact Or.inr rfl
        | token _ _ => exact Or.inr rfl
        | error _ => exact Or.inr rfl
        | start k fp =>
          simp only [Bool.false_eq_true, if_false]
          by_cases h : s.events.size < cm.pos
          · simp only [h, if_true]; exact Or.inr trivial
          · simp only [h, if_false]; rfl
  extendTo cm m := .of_comm fun s L => by
    rw [extendTo_eq, extendTo_eq, show (s.relax L).events = s.events from rfl]
    repeat' split
    all_goals rfl

/-- A specification proved on the relaxed state, for failures `A` that exclude fuel exhaustion, gives on the
state itself: no fuel exhaustion, and `Q'` on return (what `A3` asks); `Q` must not look at the limits. -/
theorem wp_of_relax {α : Type} {x : G α} (hx : LimMono x) {A : Outcome → Prop} {Q Q' : α → P → Prop} {s : P}
    {L : Nat} (hA : ∀ o, A o → o ≠ .fuel)
    (hQ : ∀ a s', Q a (s'.relax L) → Q' a s')
    (h : wp A x Q (s.relax L)) : wp (fun o => o ≠ .fuel) x Q' s := by
  have h1 := hx s L
  unfold wp at *
  cases hxs : x s with
  | error o =>
    rw [hxs] at h1
    rcases h1 with h2 | h2
    · rcases h2 with rfl | rfl <;> exact fun h => by cases h
    · rw [h2] at h; exact hA o h
  | ok p =>
    obtain ⟨a, s'⟩ := p
    rw [hxs] at h1
    rw [h1] at h
    exact hQ a s' h

end Oq3.Parser
