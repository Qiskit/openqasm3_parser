/- GENERATED by /verif/tools/gen_grammar_cost2.py from Oq3/Model/Grammar.lean — the proofs are checked by Lean. -/
import Oq3.Lemmas.GrammarWork0
set_option linter.unusedVariables false
set_option linter.unusedSimpArgs false

namespace Oq3.Grammar
open Oq3.Gen Oq3.Parser
open Oq3.Gen.Ops (Assoc)
open Oq3.Gen.TokenSets

theorem returnsBoolClassicalDeclarationStmt_wk {M : Sys} {fuel : Nat} (ih : AllWork M fuel) (m : Marker) (E : Env M ⟨12, 23, 2, 15, 27, 2, 8⟩ fuel) :
    W E .init (Oq3.Grammar.returnsBoolClassicalDeclarationStmt (fuel + 1) m) (Exit E fun r s' => ((isClassicalType (E.s₀.kindAt E.s₀.pos) = true ∨ atF .CONST_KW E.s₀.kinds E.s₀.joint E.s₀.pos = true) → E.s₀.pos < s'.pos)) E.s₀ := by
  unfold Oq3.Grammar.returnsBoolClassicalDeclarationStmt
  ww [varName (W.callS varName_spec), expr (W.callF (.of_field ih.expr)), typeSpec (W.callF (.of_field ih.typeSpec)), arrayLiteral (W.callFPX (.of_fieldX ih.arrayLiteral))]

theorem qOrCRegParam_wk {M : Sys} {fuel : Nat} (ih : AllWork M fuel) (E : Env M ⟨2, 3, 0, 2, 36, 0, 6⟩ fuel) :
    W E .init (Oq3.Grammar.qOrCRegParam (fuel + 1)) (Exit E fun r s' => (E.s₀.kindAt E.s₀.pos ≠ .EOF → E.s₀.pos < s'.pos)) E.s₀ := by
  unfold Oq3.Grammar.qOrCRegParam
  ww [indexOperator (W.callFP (.of_field ih.indexOperator))]

theorem delimitedParser_wk {M : Sys} {fuel : Nat} (ih : AllWork M fuel) (parser : DelimitedParser) (E : Env M ⟨12, 15, 2, 5, 7, 2, 2⟩ fuel) :
    W E .init (Oq3.Grammar.delimitedParser (fuel + 1) parser) (Exit E fun r s' => (r = true → E.s₀.pos < s'.pos)) E.s₀ := by
  unfold Oq3.Grammar.delimitedParser
  ww [expr (W.callF (.of_field ih.expr))]

theorem defcal__wk {M : Sys} {fuel : Nat} (ih : AllWork M fuel) (m : Marker) (E : Env M ⟨1, 1, 0, 0, 12, 0, 6⟩ fuel) :
    W E .init (Oq3.Grammar.defcal_ (fuel + 1) m) (Exit E fun _ s' => E.s₀.pos < s'.pos) E.s₀ := by
  unfold Oq3.Grammar.defcal_
  ww [nameR (W.callSN (nameR_spec _)), optReturnSignature (W.callFN (.of_field' ih.optReturnSignature)), tryBlockExpr (W.callFN (.of_field' ih.tryBlockExpr)), paramListDefcalParams (W.callFN (.of_field' ih.paramListDefcalParams)), paramListDefcalQubits (W.callFN (.of_field' ih.paramListDefcalQubits))]

theorem aliasStmt_wk {M : Sys} {fuel : Nat} (ih : AllWork M fuel) (m : Marker) (E : Env M ⟨12, 1, 0, 0, 12, 0, 6⟩ fuel) :
    W E .init (Oq3.Grammar.aliasStmt (fuel + 1) m) (Exit E fun _ s' => E.s₀.pos < s'.pos) E.s₀ := by
  unfold Oq3.Grammar.aliasStmt
  ww [nameR (W.callSN (nameR_spec _)), expr (W.callF (.of_field ih.expr))]

theorem lhs_wk {M : Sys} {fuel : Nat} (ih : AllWork M fuel) (r : Restrictions) (E : Env M ⟨9, 14, 1, 4, 29, 1, 8⟩ fuel) :
    W E .init (Oq3.Grammar.lhs (fuel + 1) r) (Exit E fun r s' => (r.isSome = true → E.s₀.pos < s'.pos) ∧ (atomHalt (E.s₀.kindAt E.s₀.pos) = false → E.s₀.pos < s'.pos)) E.s₀ := by
  unfold Oq3.Grammar.lhs
  ww [exprBp (W.callF (.of_field (ih.exprBp _ _ _))), postfixExpr (W.callFN (.of_field' (ih.postfixExpr _ _ _))), atomExpr (W.callF (.of_field (ih.atomExpr _)))]

theorem indexExpr_wk {M : Sys} {fuel : Nat} (ih : AllWork M fuel) (lhs : CompletedMarker) (E : Env M ⟨2, 3, 0, 0, 30, 0, 8⟩ fuel) :
    W E .init (Oq3.Grammar.indexExpr (fuel + 1) lhs) (Exit E fun _ s' => E.s₀.pos < s'.pos) E.s₀ := by
  unfold Oq3.Grammar.indexExpr
  ww [indexOperator (W.callFP (.of_field ih.indexOperator))]

theorem modifiedGateCallExpr_wk {M : Sys} {fuel : Nat} (ih : AllWork M fuel) (E : Env M ⟨7, 14, 0, 14, 39, 0, 8⟩ fuel) :
    W E .init (Oq3.Grammar.modifiedGateCallExpr (fuel + 1)) (Exit E fun r s' => (modHead (E.s₀.kindAt E.s₀.pos) = true → E.s₀.pos < s'.pos)) E.s₀ := by
  unfold Oq3.Grammar.modifiedGateCallExpr
  ww [gphaseCallExpr (W.callFP (.of_field ih.gphaseCallExpr)), modifiedGateCallExprLoop (W.callF (.of_field ih.modifiedGateCallExprLoop)), gateCallExpr (W.callF (.of_field ih.gateCallExpr))]

theorem returnExpr_wk {M : Sys} {fuel : Nat} (ih : AllWork M fuel) (E : Env M ⟨1, 2, 0, 0, 25, 0, 8⟩ fuel) :
    W E .init (Oq3.Grammar.returnExpr (fuel + 1)) (Exit E fun _ s' => E.s₀.pos < s'.pos) E.s₀ := by
  unfold Oq3.Grammar.returnExpr
  ww [expr (W.callF (.of_field ih.expr))]

theorem paramListDefcalQubits_wk {M : Sys} {fuel : Nat} (ih : AllWork M fuel) (E : Env M ⟨4, 7, 0, 7, 0, 0, 0⟩ fuel) :
    W E .init (Oq3.Grammar.paramListDefcalQubits (fuel + 1)) (Exit E fun _ _ => True) E.s₀ := by
  unfold Oq3.Grammar.paramListDefcalQubits
  ww [paramListOpenqasm (W.callFX (.of_fieldX (ih.paramListOpenqasm _)))]

theorem argGateCallQubit_wk {M : Sys} {fuel : Nat} (ih : AllWork M fuel) (m : Marker) (E : Env M ⟨1, 1, 0, 1, 43, 0, 8⟩ fuel) :
    W E .init (Oq3.Grammar.argGateCallQubit (fuel + 1) m) (Exit E fun r s' => (r = true → E.s₀.pos < s'.pos)) E.s₀ := by
  unfold Oq3.Grammar.argGateCallQubit
  ww [indexedIdentifier (W.callFP (.of_field (ih.indexedIdentifier _)))]

end Oq3.Grammar
