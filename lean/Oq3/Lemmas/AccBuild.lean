/-
The typed-accessor layer as a STRUCTURED function: `Oq3.Acc.Build.program : CNode → BM Ast.Program`
produces, through exactly the accessors and in exactly the order of `Oq3.Acc.Dump.program`
(`Model/Accessors.lean`, = `harness/src/m_ast.rs`), the value of type `Oq3.Ast.Program` that the
`sema` driver decodes from the dump line (`Driver/Sema.lean: program`).  Where the dump prints `!`
for a panicking text/kind accessor the decoder answers `BAD-AST` (the `Ast` types have no
constructor for it); here that is `BErr.badAst`.  The three `block_or_stmt` panics are
`Ast.Acc.panicked`, as in the decoder.

This file re-defines the function of `Dump.program` with a structured result
(`Lemmas/AccRender.lean: dump_eq_render` ties the two).
-/
import Oq3.Model.Accessors

namespace Oq3.Acc

inductive BErr
  /-- recursion fuel exhausted (never with `Build.defaultFuel`) -/
  | fuel
  /-- an accessor panicked at a place the `Ast` types cannot represent (`!` in the dump ⇒ the
  decoder's `BAD-AST`) -/
  | badAst
  /-- a node of a kind outside the enum (`Expr::cast` / `Stmt::cast` would have returned `None`;
  unreachable through the accessors) -/
  | notInEnum
  deriving DecidableEq, Repr, Inhabited

abbrev BM := Except BErr

namespace Build
open Oq3.Gen

def span (n : CNode) : Ast.Span := ⟨n.start, n.stop⟩

def optM {α : Type} (f : CNode → BM α) : Option CNode → BM (Option α)
  | none => .ok none
  | some c => (f c).map some

def listM {α : Type} (f : CNode → BM α) : List CNode → BM (List α)
  | [] => .ok []
  | c :: cs =>
    match f c with
    | .error e => .error e
    | .ok a => (listM f cs).map (a :: ·)

def ofPRes {α : Type} : PRes α → BM α
  | .ok a => .ok a
  | .panic => .error .badAst

def str (cs : List Char) : String := String.ofList cs

def text (n : CNode) : BM String := (ofPRes (HasTextNode.text n)).map str

def name (n : CNode) : BM Ast.Name := (text n).map fun t => ⟨span n, t⟩
def identifier (n : CNode) : BM Ast.Identifier := (text n).map fun t => ⟨span n, t⟩
def hardwareQubit (n : CNode) : BM Ast.HardwareQubit := (text n).map fun t => ⟨span n, t⟩
def param (n : CNode) : BM Ast.Param := (text n).map fun t => ⟨span n, t⟩
def paramList (n : CNode) : BM Ast.ParamList :=
  (listM param (ParamList.params n)).map fun ps => ⟨span n, ps⟩

def literalKind : LiteralKind → Ast.LiteralKind
  | .intNumber t => .intNumber (str t.tokenText) (Oq3.TokenExt.intValue t.tokenText)
  | .floatNumber t => .floatNumber (str t.tokenText) ((floatValueText t.tokenText).map str)
  | .bitString t => .bitString (str t.tokenText) ((Oq3.TokenExt.quotedContents t.tokenText).map str)
  | .bool v => .bool v
  | .byte _ => .byte
  | .char _ => .char
  | .string _ => .string

def literal (n : CNode) : BM Ast.Literal :=
  (ofPRes (Literal.kind n)).map fun k => ⟨span n, literalKind k⟩

def timingLiteral (n : CNode) : BM Ast.Expr :=
  match ofPRes (TimingLiteral.time_unit n) with
  | .error e => .error e
  | .ok tu =>
    match optM text (TimingLiteral.identifier n) with
    | .error e => .error e
    | .ok it => (optM literal (TimingLiteral.literal n)).map fun l => .timingLiteral (span n) tu it l

def filePath (n : CNode) : BM Ast.FilePath :=
  (ofPRes (FilePath.to_string n)).map fun s => ⟨span n, s.map str⟩

/-- `IndexKind::cast`: SET_EXPRESSION | EXPRESSION_LIST (inline in `m_ast.rs: index_operator`) -/
def indexKindOf (fs : CNode → BM Ast.SetExpression) (fe : CNode → BM Ast.ExpressionList) (k : CNode) :
    BM Ast.IndexKind :=
  if k.kind == .SET_EXPRESSION then (fs k).map .setExpression else (fe k).map .expressionList

mutual

def designator : Nat → CNode → BM Ast.Designator
  | 0, _ => .error .fuel
  | fuel + 1, n => (optM (expr fuel) (Designator.expr n)).map fun e => .mk (span n) e

def scalarType : Nat → CNode → BM Ast.ScalarType
  | 0, _ => .error .fuel
  | fuel + 1, n =>
    match ofPRes (ScalarType.kind n) with
    | .error e => .error e
    | .ok k =>
      match optM (designator fuel) (ScalarType.designator n) with
      | .error e => .error e
      | .ok d => (optM (scalarType fuel) (ScalarType.scalar_type n)).map fun s => .mk (span n) k d s

def expressionList : Nat → CNode → BM Ast.ExpressionList
  | 0, _ => .error .fuel
  | fuel + 1, n => (listM (expr fuel) (ExpressionList.exprs n)).map fun es => .mk (span n) es

def setExpression : Nat → CNode → BM Ast.SetExpression
  | 0, _ => .error .fuel
  | fuel + 1, n =>
    (optM (expressionList fuel) (SetExpression.expression_list n)).map fun el => .mk (span n) el

def rangeExpr : Nat → CNode → BM Ast.RangeExpr
  | 0, _ => .error .fuel
  | fuel + 1, n =>
    match optM (expr fuel) (RangeExpr.start_step_stop n).1 with
    | .error e => .error e
    | .ok a =>
      match optM (expr fuel) (RangeExpr.start_step_stop n).2.1 with
      | .error e => .error e
      | .ok b => (optM (expr fuel) (RangeExpr.start_step_stop n).2.2).map fun c => .mk (span n) a b c

def indexOperator : Nat → CNode → BM Ast.IndexOperator
  | 0, _ => .error .fuel
  | fuel + 1, n =>
    (optM (indexKindOf (setExpression fuel) (expressionList fuel)) (IndexOperator.index_kind n)).map fun k =>
      .mk (span n) k

def indexedIdentifier : Nat → CNode → BM Ast.IndexedIdentifier
  | 0, _ => .error .fuel
  | fuel + 1, n =>
    match optM identifier (IndexedIdentifier.identifier n) with
    | .error e => .error e
    | .ok i =>
      (listM (indexOperator fuel) (IndexedIdentifier.index_operators n)).map fun ops => .mk (span n) i ops

/-- `GateOperand::cast`: IDENTIFIER | INDEXED_IDENTIFIER | HARDWARE_QUBIT -/
def gateOperand : Nat → CNode → BM Ast.GateOperand
  | 0, _ => .error .fuel
  | fuel + 1, n =>
    if n.kind == .HARDWARE_QUBIT then (hardwareQubit n).map .hardwareQubit
    else if n.kind == .IDENTIFIER then (identifier n).map .identifier
    else (indexedIdentifier fuel n).map .indexedIdentifier

def qubitList : Nat → CNode → BM Ast.QubitList
  | 0, _ => .error .fuel
  | fuel + 1, n => (listM (gateOperand fuel) (QubitList.gate_operands n)).map fun gs => .mk (span n) gs

def argList : Nat → CNode → BM Ast.ArgList
  | 0, _ => .error .fuel
  | fuel + 1, n => (optM (expressionList fuel) (ArgList.expression_list n)).map fun el => .mk (span n) el

def parenExpr : Nat → CNode → BM Ast.ParenExpr
  | 0, _ => .error .fuel
  | fuel + 1, n => (optM (expr fuel) (ParenExpr.expr n)).map fun e => .mk (span n) e

def gateCallExpr : Nat → CNode → BM Ast.GateCallExpr
  | 0, _ => .error .fuel
  | fuel + 1, n =>
    match optM (qubitList fuel) (GateCallExpr.qubit_list n) with
    | .error e => .error e
    | .ok q =>
      match optM (argList fuel) (GateCallExpr.arg_list n) with
      | .error e => .error e
      | .ok a => (optM identifier (GateCallExpr.identifier n)).map fun i => .mk (span n) q a i

def gPhaseCallExpr : Nat → CNode → BM Ast.GPhaseCallExpr
  | 0, _ => .error .fuel
  | fuel + 1, n => (optM (expr fuel) (GPhaseCallExpr.arg n)).map fun e => .mk (span n) e

/-- `Modifier::cast`: INV_MODIFIER | POW_MODIFIER | CTRL_MODIFIER | NEG_CTRL_MODIFIER -/
def modifier : Nat → CNode → BM Ast.Modifier
  | 0, _ => .error .fuel
  | fuel + 1, n =>
    if n.kind == .INV_MODIFIER then .ok (.invModifier (span n))
    else if n.kind == .POW_MODIFIER then
      (optM (parenExpr fuel) (PowModifier.paren_expr n)).map fun p => .powModifier (span n) p
    else if n.kind == .CTRL_MODIFIER then
      (optM (parenExpr fuel) (CtrlModifier.paren_expr n)).map fun p => .ctrlModifier (span n) p
    else (optM (parenExpr fuel) (NegCtrlModifier.paren_expr n)).map fun p => .negCtrlModifier (span n) p

/-- `Expr::cast` then the `match` of `m_ast.rs: expr` -/
def expr : Nat → CNode → BM Ast.Expr
  | 0, _ => .error .fuel
  | fuel + 1, n =>
    match n.kind with
    | .PREFIX_EXPR =>
      (optM (expr fuel) (PrefixExpr.expr n)).map fun e => .prefixExpr (span n) (PrefixExpr.op_kind n) e
    | .PAREN_EXPR => (parenExpr fuel n).map .parenExpr
    | .BIN_EXPR =>
      match optM (expr fuel) (BinExpr.lhs n) with
      | .error e => .error e
      | .ok l => (optM (expr fuel) (BinExpr.rhs n)).map fun r => .binExpr (span n) (BinExpr.op_kind n) l r
    | .LITERAL => (literal n).map .literal
    | .TIMING_LITERAL => timingLiteral n
    | .IDENTIFIER => (identifier n).map .identifier
    | .HARDWARE_QUBIT => (hardwareQubit n).map .hardwareQubit
    | .RANGE_EXPR => (rangeExpr fuel n).map .rangeExpr
    | .INDEX_EXPR =>
      match optM (expr fuel) (IndexExpr.expr n) with
      | .error e => .error e
      | .ok e => (optM (indexOperator fuel) (IndexExpr.index_operator n)).map fun i => .indexExpr (span n) e i
    | .INDEXED_IDENTIFIER => (indexedIdentifier fuel n).map .indexedIdentifier
    | .MEASURE_EXPRESSION =>
      (optM (gateOperand fuel) (MeasureExpression.gate_operand n)).map fun g => .measureExpression (span n) g
    | .RETURN_EXPR => (optM (expr fuel) (ReturnExpr.expr n)).map fun e => .returnExpr (span n) e
    | .CAST_EXPRESSION =>
      match optM (scalarType fuel) (CastExpression.scalar_type n) with
      | .error e => .error e
      | .ok s => (optM (expr fuel) (CastExpression.expr n)).map fun e => .castExpression (span n) s e
    | .CALL_EXPR =>
      match optM (argList fuel) (CallExpr.arg_list n) with
      | .error e => .error e
      | .ok a => (optM identifier (CallExpr.identifier n)).map fun i => .callExpr (span n) a i
    | .GATE_CALL_EXPR => (gateCallExpr fuel n).map .gateCallExpr
    | .G_PHASE_CALL_EXPR => (gPhaseCallExpr fuel n).map .gPhaseCallExpr
    | .MODIFIED_GATE_CALL_EXPR =>
      match listM (modifier fuel) (ModifiedGateCallExpr.modifiers n) with
      | .error e => .error e
      | .ok ms =>
        match optM (gateCallExpr fuel) (ModifiedGateCallExpr.gate_call_expr n) with
        | .error e => .error e
        | .ok g =>
          (optM (gPhaseCallExpr fuel) (ModifiedGateCallExpr.g_phase_call_expr n)).map fun p =>
            .modifiedGateCallExpr (span n) ms g p
    | .BLOCK_EXPR => .ok (.unsupported .blockExpr (span n))
    | .ARRAY_EXPR => .ok (.unsupported .arrayExpr (span n))
    | .ARRAY_LITERAL => .ok (.unsupported .arrayLiteral (span n))
    | .BOX_EXPR => .ok (.unsupported .boxExpr (span n))
    | .DIM_EXPR => .ok (.unsupported .dimExpr (span n))
    | _ => .error .notInEnum

end

/-- `ParamType::cast`: SCALAR_TYPE | ARRAY_REF_TYPE -/
def paramType : Nat → CNode → BM Ast.ParamType
  | 0, _ => .error .fuel
  | fuel + 1, n =>
    if n.kind == .SCALAR_TYPE then (scalarType fuel n).map .scalarType else .ok (.arrayRefType (span n))

def typedParam : Nat → CNode → BM Ast.TypedParam
  | 0, _ => .error .fuel
  | fuel + 1, n =>
    match optM (paramType fuel) (TypedParam.param_type n) with
    | .error e => .error e
    | .ok pt => (optM name (TypedParam.name n)).map fun nm =>
        ⟨span n, pt, (TypedParam.old_typed_param n).isSome, nm⟩

def typedParamList : Nat → CNode → BM Ast.TypedParamList
  | 0, _ => .error .fuel
  | fuel + 1, n => (listM (typedParam fuel) (TypedParamList.typed_params n)).map fun ps => ⟨span n, ps⟩

def returnSignature (fuel : Nat) (r : CNode) : BM Ast.ReturnSignature :=
  (optM (scalarType fuel) (ReturnSignature.scalar_type r)).map fun s => ⟨span r, s⟩

def qubitType (fuel : Nat) (q : CNode) : BM Ast.QubitType :=
  (optM (designator fuel) (QubitType.designator q)).map fun d => ⟨span q, d⟩

def forIterable : Nat → CNode → BM Ast.ForIterable
  | 0, _ => .error .fuel
  | fuel + 1, it =>
    match optM (setExpression fuel) (ForIterable.set_expression it) with
    | .error e => .error e
    | .ok s =>
      match optM (rangeExpr fuel) (ForIterable.range_expr it) with
      | .error e => .error e
      | .ok r => (optM (expr fuel) (ForIterable.for_iterable_expr it)).map fun e => ⟨span it, s, r, e⟩

/-- `m_ast.rs: block_or_stmt` on the result of a panicking accessor (`Dump.blockOrStmt`: also
fuel-checked), given the function for the non-panicking case -/
def accBosOf (fuel : Nat) (f : BlockOrStmt → BM Ast.BlockOrStmt) :
    PRes BlockOrStmt → BM (Ast.Acc Ast.BlockOrStmt)
  | .panic => if fuel = 0 then .error .fuel else .ok .panicked
  | .ok v => (f v).map .ok

/-- `opt(n.false_body_block_or_stmt(), |x| block_or_stmt(Some(x)))` -/
def optBosOf (f : BlockOrStmt → BM Ast.BlockOrStmt) : Option BlockOrStmt → BM (Option Ast.BlockOrStmt)
  | none => .ok none
  | some v => (f v).map some

mutual

def blockExpr : Nat → CNode → BM Ast.BlockExpr
  | 0, _ => .error .fuel
  | fuel + 1, n => (listM (stmt fuel) (BlockExpr.statements n)).map fun ss => .mk (span n) ss

def blockOrStmt : Nat → BlockOrStmt → BM Ast.BlockOrStmt
  | 0, _ => .error .fuel
  | fuel + 1, .blockExpr bl => (blockExpr fuel bl).map .blockExpr
  | fuel + 1, .stmt s => (stmt fuel s).map .stmt

def caseExpr : Nat → CNode → BM Ast.CaseExpr
  | 0, _ => .error .fuel
  | fuel + 1, c =>
    match optM (expressionList fuel) (CaseExpr.expression_list c) with
    | .error e => .error e
    | .ok el => (optM (blockExpr fuel) (CaseExpr.block_expr c)).map fun bl => .mk (span c) el bl

/-- `Stmt::cast` then the `match` of `m_ast.rs: stmt` -/
def stmt : Nat → CNode → BM Ast.Stmt
  | 0, _ => .error .fuel
  | fuel + 1, n =>
    match n.kind with
    | .IF_STMT =>
      match optM (expr fuel) (IfStmt.condition n) with
      | .error e => .error e
      | .ok c =>
        match accBosOf fuel (blockOrStmt fuel) (IfStmt.true_body_block_or_stmt n) with
        | .error e => .error e
        | .ok t =>
          (optBosOf (blockOrStmt fuel) (IfStmt.false_body_block_or_stmt n)).map fun f => .ifStmt (span n) c t f
    | .WHILE_STMT =>
      match optM (expr fuel) (WhileStmt.condition n) with
      | .error e => .error e
      | .ok c =>
        (accBosOf fuel (blockOrStmt fuel) (WhileStmt.block_or_stmt n)).map fun t => .whileStmt (span n) c t
    | .FOR_STMT =>
      match optM name (ForStmt.loop_var n) with
      | .error e => .error e
      | .ok v =>
        match optM (scalarType fuel) (ForStmt.scalar_type n) with
        | .error e => .error e
        | .ok st =>
          match optM (forIterable fuel) (ForStmt.for_iterable n) with
          | .error e => .error e
          | .ok it =>
            (accBosOf fuel (blockOrStmt fuel) (ForStmt.block_or_stmt n)).map fun body =>
              .forStmt (span n) v st it body
    | .SWITCH_CASE_STMT =>
      match optM (expr fuel) (SwitchCaseStmt.control n) with
      | .error e => .error e
      | .ok c =>
        match listM (caseExpr fuel) (SwitchCaseStmt.case_exprs n) with
        | .error e => .error e
        | .ok cs =>
          (optM (blockExpr fuel) (SwitchCaseStmt.default_block n)).map fun d => .switchCaseStmt (span n) c cs d
    | .CLASSICAL_DECLARATION_STATEMENT =>
      match optM (scalarType fuel) (ClassicalDeclarationStatement.scalar_type n) with
      | .error e => .error e
      | .ok st =>
        match optM name (ClassicalDeclarationStatement.name n) with
        | .error e => .error e
        | .ok nm =>
          (optM (expr fuel) (ClassicalDeclarationStatement.expr n)).map fun e =>
            .classicalDeclarationStatement (span n) (ClassicalDeclarationStatement.array_type n).isSome st
              (ClassicalDeclarationStatement.const_token n).isSome nm e
    | .I_O_DECLARATION_STATEMENT =>
      match optM (scalarType fuel) (IODeclarationStatement.scalar_type n) with
      | .error e => .error e
      | .ok st =>
        (optM name (IODeclarationStatement.name n)).map fun nm =>
          .ioDeclarationStatement (span n) (IODeclarationStatement.array_type n).isSome st nm
            (IODeclarationStatement.input_token n).isSome
    | .QUANTUM_DECLARATION_STATEMENT =>
      match optM name (QuantumDeclarationStatement.name n) with
      | .error e => .error e
      | .ok nm =>
        match optM hardwareQubit (QuantumDeclarationStatement.hardware_qubit n) with
        | .error e => .error e
        | .ok h =>
          (optM (qubitType fuel) (QuantumDeclarationStatement.qubit_type n)).map fun q =>
            .quantumDeclarationStatement (span n) nm h q
    | .ASSIGNMENT_STMT =>
      match optM identifier (AssignmentStmt.identifier n) with
      | .error e => .error e
      | .ok i =>
        match optM (expr fuel) (AssignmentStmt.rhs n) with
        | .error e => .error e
        | .ok r =>
          (optM (indexedIdentifier fuel) (AssignmentStmt.indexed_identifier n)).map fun ii =>
            .assignmentStmt (span n) i r ii
    | .BREAK_STMT => .ok (.breakStmt (span n))
    | .CONTINUE_STMT => .ok (.continueStmt (span n))
    | .END_STMT => .ok (.endStmt (span n))
    | .GATE =>
      match optM name (Gate.name n) with
      | .error e => .error e
      | .ok nm =>
        match optM paramList (Gate.angle_params n) with
        | .error e => .error e
        | .ok ap =>
          match optM paramList (Gate.qubit_params n) with
          | .error e => .error e
          | .ok qp => (optM (blockExpr fuel) (Gate.body n)).map fun body => .gate (span n) nm ap qp body
    | .DEF =>
      match optM name (Def.name n) with
      | .error e => .error e
      | .ok nm =>
        match optM (typedParamList fuel) (Def.typed_param_list n) with
        | .error e => .error e
        | .ok tp =>
          match optM (blockExpr fuel) (Def.body n) with
          | .error e => .error e
          | .ok body =>
            (optM (returnSignature fuel) (Def.return_signature n)).map fun rs => .defStmt (span n) nm tp body rs
    | .BARRIER => (optM (qubitList fuel) (Barrier.qubit_list n)).map fun q => .barrier (span n) q
    | .DELAY_STMT =>
      match optM (qubitList fuel) (DelayStmt.qubit_list n) with
      | .error e => .error e
      | .ok q => (optM (designator fuel) (DelayStmt.designator n)).map fun d => .delayStmt (span n) q d
    | .RESET => (optM (gateOperand fuel) (Reset.gate_operand n)).map fun g => .reset (span n) g
    | .INCLUDE => (optM filePath (Include.file n)).map fun f => .includeStmt (span n) f
    | .EXPR_STMT => (optM (expr fuel) (ExprStmt.expr n)).map fun e => .exprStmt (span n) e
    | .VERSION_STRING => .ok (.versionString (span n))
    | .PRAGMA_STATEMENT =>
      (ofPRes (PragmaStatement.pragma_text n)).map fun t => .pragmaStatement (span n) (str t)
    | .ANNOTATION_STATEMENT =>
      (ofPRes (AnnotationStatement.annotation_text n)).map fun t => .annotationStatement (span n) (str t)
    | .ALIAS_DECLARATION_STATEMENT =>
      match optM name (AliasDeclarationStatement.name n) with
      | .error e => .error e
      | .ok nm =>
        (optM (expr fuel) (AliasDeclarationStatement.expr n)).map fun e => .aliasDeclarationStatement (span n) nm e
    | .OLD_STYLE_DECLARATION_STATEMENT => .ok (.notImpl .oldStyleDeclarationStatement (span n))
    | .DEF_CAL => .ok (.notImpl .defCal (span n))
    | .CAL => .ok (.notImpl .cal (span n))
    | .DEF_CAL_GRAMMAR => .ok (.notImpl .defCalGrammar (span n))
    | .LET_STMT => .ok (.notImpl .letStmt (span n))
    | .MEASURE => .ok (.notImpl .measure (span n))
    | .EXTERN_STMT => .ok (.notImpl .externStmt (span n))
    | _ => .error .notInEnum

end

def defaultFuel (root : CNode) : Nat := Dump.defaultFuel root

/-- the typed AST of a whole tree with a given fuel -/
def programWith (fuel : Nat) (root : CNode) : BM Ast.Program :=
  (listM (stmt fuel) (SourceFile.statements root)).map fun ss => ⟨span root, ss⟩

/-- the typed AST (I5) of a syntax tree (I4), as a value of the type the semantic model consumes -/
def program (root : CNode) : BM Ast.Program := programWith (defaultFuel root) root

end Build
end Oq3.Acc
