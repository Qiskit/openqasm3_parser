/- GENERATED by /verif/tools/gen_grammar_progress.py from Oq3/Model/Grammar.lean — the proofs are checked by Lean.

Progress of every grammar function (`AllProg`): with fuel `rank_f + 20 * (tokens left)` the run does not end in
`Outcome.fuel`, the position only advances, and the function consumes a token under its progress condition —
whatever the two hang limits are.  Each clause is read off the tight work bounds (`allWork`, which hold when the
budgets are below the limits) on the state with the limits raised: raising them only removes hang panics
(`Lemmas/Cost.lean: wp_prog_of_work`), and those `A3` tolerates.
Ranks from tools/rank_edges.py, progress conditions from the `SPEC` table of the tool.
-/
import Oq3.Lemmas.GrammarWork
import Oq3.Lemmas.GrammarClosed
import Oq3.Lemmas.Cost
set_option linter.unusedVariables false

namespace Oq3.Grammar
open Oq3.Gen Oq3.Parser
open Oq3.Gen.Ops (Assoc)
open Oq3.Gen.TokenSets

/-- all functions of the mutual block at one fuel level -/
structure AllProg (fuel : Nat) : Prop where
  optReturnSignature : ∀  (s : P), 1 + 20 * s.kinds.size ≤ fuel + 20 * s.pos ∧ s.pos ≤ s.kinds.size →
    wp A3 (Oq3.Grammar.optReturnSignature fuel ) (fun r s' => Adv s s') s
  delimited : ∀ (bra ket : SyntaxKind) (consumeBraket : Bool) (delim : SyntaxKind) (firstSet : TokenSet) (parser : DelimitedParser) (s : P), 14 + 20 * s.kinds.size ≤ fuel + 20 * s.pos ∧ s.pos ≤ s.kinds.size →
    wp A3 (Oq3.Grammar.delimited fuel bra ket consumeBraket delim firstSet parser) (fun r s' => Adv s s' ∧ (consumeBraket = true → s.pos < s'.pos)) s
  delimitedLoop : ∀ (ket delim : SyntaxKind) (firstSet : TokenSet) (parser : DelimitedParser) (s : P), 13 + 20 * s.kinds.size ≤ fuel + 20 * s.pos ∧ s.pos ≤ s.kinds.size →
    wp A3 (Oq3.Grammar.delimitedLoop fuel ket delim firstSet parser) (fun r s' => Adv s s') s
  delimitedParser : ∀ (parser : DelimitedParser) (s : P), 12 + 20 * s.kinds.size ≤ fuel + 20 * s.pos ∧ s.pos ≤ s.kinds.size →
    wp A3 (Oq3.Grammar.delimitedParser fuel parser) (fun r s' => Adv s s' ∧ (r = true → s.pos < s'.pos)) s
  sourceFileContents : ∀ (stopOnRCurly : Bool) (s : P), 18 + 20 * s.kinds.size ≤ fuel + 20 * s.pos ∧ s.pos ≤ s.kinds.size →
    wp A3 (Oq3.Grammar.sourceFileContents fuel stopOnRCurly) (fun r s' => Adv s s') s
  item : ∀ (stopOnRCurly : Bool) (s : P), 17 + 20 * s.kinds.size ≤ fuel + 20 * s.pos ∧ s.pos ≤ s.kinds.size →
    wp A3 (Oq3.Grammar.item fuel stopOnRCurly) (fun r s' => Adv s s' ∧ ((atF .EOF s.kinds s.joint s.pos || (atF .R_CURLY s.kinds s.joint s.pos && stopOnRCurly)) = false → s.pos < s'.pos)) s
  optItem : ∀ (m : Marker) (s : P), 14 + 20 * s.kinds.size ≤ fuel + 20 * s.pos ∧ s.pos ≤ s.kinds.size →
    wp A3 (Oq3.Grammar.optItem fuel m) (fun r s' => Adv s s' ∧ (r.isOk = true → s.pos < s'.pos) ∧ (r.isOk = false → s'.tv = s.tv)) s
  switchCaseStmt : ∀ (m : Marker) (s : P), 1 + 20 * s.kinds.size ≤ fuel + 20 * s.pos ∧ s.pos ≤ s.kinds.size →
    wp A3 (Oq3.Grammar.switchCaseStmt fuel m) (fun r s' => Adv s s' ∧ (s.pos < s'.pos)) s
  switchCaseLoop : ∀  (s : P), 1 + 20 * s.kinds.size ≤ fuel + 20 * s.pos ∧ s.pos ≤ s.kinds.size →
    wp A3 (Oq3.Grammar.switchCaseLoop fuel ) (fun r s' => Adv s s') s
  blockOrStatement : ∀  (s : P), 16 + 20 * s.kinds.size ≤ fuel + 20 * s.pos ∧ s.pos ≤ s.kinds.size →
    wp A3 (Oq3.Grammar.blockOrStatement fuel ) (fun r s' => Adv s s') s
  ifStmt : ∀ (m : Marker) (s : P), 1 + 20 * s.kinds.size ≤ fuel + 20 * s.pos ∧ s.pos ≤ s.kinds.size →
    wp A3 (Oq3.Grammar.ifStmt fuel m) (fun r s' => Adv s s' ∧ (s.pos < s'.pos)) s
  whileStmt : ∀ (m : Marker) (s : P), 1 + 20 * s.kinds.size ≤ fuel + 20 * s.pos ∧ s.pos ≤ s.kinds.size →
    wp A3 (Oq3.Grammar.whileStmt fuel m) (fun r s' => Adv s s' ∧ (s.pos < s'.pos)) s
  forStmt : ∀ (m : Marker) (s : P), 1 + 20 * s.kinds.size ≤ fuel + 20 * s.pos ∧ s.pos ≤ s.kinds.size →
    wp A3 (Oq3.Grammar.forStmt fuel m) (fun r s' => Adv s s' ∧ (s.pos < s'.pos)) s
  qubitDeclarationStmt : ∀ (m : Marker) (s : P), 3 + 20 * s.kinds.size ≤ fuel + 20 * s.pos ∧ s.pos ≤ s.kinds.size →
    wp A3 (Oq3.Grammar.qubitDeclarationStmt fuel m) (fun r s' => Adv s s' ∧ (s.pos < s'.pos)) s
  resetStmt : ∀ (m : Marker) (s : P), 1 + 20 * s.kinds.size ≤ fuel + 20 * s.pos ∧ s.pos ≤ s.kinds.size →
    wp A3 (Oq3.Grammar.resetStmt fuel m) (fun r s' => Adv s s' ∧ (s.pos < s'.pos)) s
  gateDefinition : ∀ (m : Marker) (s : P), 1 + 20 * s.kinds.size ≤ fuel + 20 * s.pos ∧ s.pos ≤ s.kinds.size →
    wp A3 (Oq3.Grammar.gateDefinition fuel m) (fun r s' => Adv s s' ∧ (s.pos < s'.pos)) s
  defcal_ : ∀ (m : Marker) (s : P), 1 + 20 * s.kinds.size ≤ fuel + 20 * s.pos ∧ s.pos ≤ s.kinds.size →
    wp A3 (Oq3.Grammar.defcal_ fuel m) (fun r s' => Adv s s' ∧ (s.pos < s'.pos)) s
  returnsBoolClassicalDeclarationStmt : ∀ (m : Marker) (s : P), 12 + 20 * s.kinds.size ≤ fuel + 20 * s.pos ∧ s.pos ≤ s.kinds.size →
    wp A3 (Oq3.Grammar.returnsBoolClassicalDeclarationStmt fuel m) (fun r s' => Adv s s' ∧ ((isClassicalType (s.kindAt s.pos) = true ∨ atF .CONST_KW s.kinds s.joint s.pos = true) → s.pos < s'.pos)) s
  classicalDeclarationStmt : ∀ (m : Marker) (s : P), 13 + 20 * s.kinds.size ≤ fuel + 20 * s.pos ∧ s.pos ≤ s.kinds.size →
    wp A3 (Oq3.Grammar.classicalDeclarationStmt fuel m) (fun r s' => Adv s s' ∧ ((isClassicalType (s.kindAt s.pos) = true ∨ atF .CONST_KW s.kinds s.joint s.pos = true) → s.pos < s'.pos)) s
  ioDeclarationStmt : ∀ (m : Marker) (s : P), 4 + 20 * s.kinds.size ≤ fuel + 20 * s.pos ∧ s.pos ≤ s.kinds.size →
    wp A3 (Oq3.Grammar.ioDeclarationStmt fuel m) (fun r s' => Adv s s' ∧ (s.kindAt s.pos ≠ .EOF → s.pos < s'.pos)) s
  defStmt : ∀ (m : Marker) (s : P), 9 + 20 * s.kinds.size ≤ fuel + 20 * s.pos ∧ s.pos ≤ s.kinds.size →
    wp A3 (Oq3.Grammar.defStmt fuel m) (fun r s' => Adv s s' ∧ (s.pos < s'.pos)) s
  externStmt : ∀ (m : Marker) (s : P), 9 + 20 * s.kinds.size ≤ fuel + 20 * s.pos ∧ s.pos ≤ s.kinds.size →
    wp A3 (Oq3.Grammar.externStmt fuel m) (fun r s' => Adv s s' ∧ (s.pos < s'.pos)) s
  cal_ : ∀ (m : Marker) (s : P), 1 + 20 * s.kinds.size ≤ fuel + 20 * s.pos ∧ s.pos ≤ s.kinds.size →
    wp A3 (Oq3.Grammar.cal_ fuel m) (fun r s' => Adv s s' ∧ (s.pos < s'.pos)) s
  barrier_ : ∀ (m : Marker) (s : P), 1 + 20 * s.kinds.size ≤ fuel + 20 * s.pos ∧ s.pos ≤ s.kinds.size →
    wp A3 (Oq3.Grammar.barrier_ fuel m) (fun r s' => Adv s s' ∧ (s.pos < s'.pos)) s
  delayStmt : ∀ (m : Marker) (s : P), 1 + 20 * s.kinds.size ≤ fuel + 20 * s.pos ∧ s.pos ≤ s.kinds.size →
    wp A3 (Oq3.Grammar.delayStmt fuel m) (fun r s' => Adv s s' ∧ (s.pos < s'.pos)) s
  aliasStmt : ∀ (m : Marker) (s : P), 12 + 20 * s.kinds.size ≤ fuel + 20 * s.pos ∧ s.pos ≤ s.kinds.size →
    wp A3 (Oq3.Grammar.aliasStmt fuel m) (fun r s' => Adv s s' ∧ (s.pos < s'.pos)) s
  expr : ∀  (s : P), 11 + 20 * s.kinds.size ≤ fuel + 20 * s.pos ∧ s.pos ≤ s.kinds.size →
    wp A3 (Oq3.Grammar.expr fuel ) (fun r s' => Adv s s' ∧ (r.isSome = true → s.pos < s'.pos) ∧ (exprHalt (s.kindAt s.pos) = false → s.pos < s'.pos)) s
  rangeExpr : ∀  (s : P), 1 + 20 * s.kinds.size ≤ fuel + 20 * s.pos ∧ s.pos ≤ s.kinds.size →
    wp A3 (Oq3.Grammar.rangeExpr fuel ) (fun r s' => Adv s s' ∧ (s.pos < s'.pos)) s
  exprOrRangeExpr : ∀  (s : P), 11 + 20 * s.kinds.size ≤ fuel + 20 * s.pos ∧ s.pos ≤ s.kinds.size →
    wp A3 (Oq3.Grammar.exprOrRangeExpr fuel ) (fun r s' => Adv s s' ∧ (exprHalt (s.kindAt s.pos) = false → s.pos < s'.pos)) s
  exprStmt : ∀ (m : Option Marker) (s : P), 11 + 20 * s.kinds.size ≤ fuel + 20 * s.pos ∧ s.pos ≤ s.kinds.size →
    wp A3 (Oq3.Grammar.exprStmt fuel m) (fun r s' => Adv s s' ∧ (r.isSome = true → s.pos < s'.pos) ∧ (exprHalt (s.kindAt s.pos) = false → s.pos < s'.pos)) s
  stmt : ∀  (s : P), 15 + 20 * s.kinds.size ≤ fuel + 20 * s.pos ∧ s.pos ≤ s.kinds.size →
    wp A3 (Oq3.Grammar.stmt fuel ) (fun r s' => Adv s s' ∧ (atomHalt (s.kindAt s.pos) = false → s.pos < s'.pos)) s
  letStmt : ∀ (m : Marker) (s : P), 1 + 20 * s.kinds.size ≤ fuel + 20 * s.pos ∧ s.pos ≤ s.kinds.size →
    wp A3 (Oq3.Grammar.letStmt fuel m) (fun r s' => Adv s s' ∧ (s.pos < s'.pos)) s
  qOrCRegParam : ∀  (s : P), 2 + 20 * s.kinds.size ≤ fuel + 20 * s.pos ∧ s.pos ≤ s.kinds.size →
    wp A3 (Oq3.Grammar.qOrCRegParam fuel ) (fun r s' => Adv s s' ∧ (s.kindAt s.pos ≠ .EOF → s.pos < s'.pos)) s
  qOrCRegDeclaration : ∀ (m : Marker) (s : P), 3 + 20 * s.kinds.size ≤ fuel + 20 * s.pos ∧ s.pos ≤ s.kinds.size →
    wp A3 (Oq3.Grammar.qOrCRegDeclaration fuel m) (fun r s' => Adv s s' ∧ (s.kindAt s.pos ≠ .EOF → s.pos < s'.pos)) s
  exprBlockStatements : ∀  (s : P), 16 + 20 * s.kinds.size ≤ fuel + 20 * s.pos ∧ s.pos ≤ s.kinds.size →
    wp A3 (Oq3.Grammar.exprBlockStatements fuel ) (fun r s' => Adv s s' ∧ (atomHalt (s.kindAt s.pos) = false → s.pos < s'.pos)) s
  exprBp : ∀ (m : Option Marker) (r : Restrictions) (bp : Nat) (s : P), 10 + 20 * s.kinds.size ≤ fuel + 20 * s.pos ∧ s.pos ≤ s.kinds.size →
    wp A3 (Oq3.Grammar.exprBp fuel m r bp) (fun r s' => Adv s s' ∧ (r.isSome = true → s.pos < s'.pos) ∧ (exprHalt (s.kindAt s.pos) = false → s.pos < s'.pos)) s
  exprBpLoop : ∀ (r : Restrictions) (bp : Nat) (lhs : CompletedMarker) (s : P), 1 + 20 * s.kinds.size ≤ fuel + 20 * s.pos ∧ s.pos ≤ s.kinds.size →
    wp A3 (Oq3.Grammar.exprBpLoop fuel r bp lhs) (fun r s' => Adv s s') s
  lhs : ∀ (r : Restrictions) (s : P), 9 + 20 * s.kinds.size ≤ fuel + 20 * s.pos ∧ s.pos ≤ s.kinds.size →
    wp A3 (Oq3.Grammar.lhs fuel r) (fun r s' => Adv s s' ∧ (r.isSome = true → s.pos < s'.pos) ∧ (atomHalt (s.kindAt s.pos) = false → s.pos < s'.pos)) s
  postfixExpr : ∀ (lhs : CompletedMarker) (blockLike : BlockLike) (allowCalls : Bool) (s : P), 4 + 20 * s.kinds.size ≤ fuel + 20 * s.pos ∧ s.pos ≤ s.kinds.size →
    wp A3 (Oq3.Grammar.postfixExpr fuel lhs blockLike allowCalls) (fun r s' => Adv s s') s
  callExpr : ∀ (lhs : CompletedMarker) (s : P), 2 + 20 * s.kinds.size ≤ fuel + 20 * s.pos ∧ s.pos ≤ s.kinds.size →
    wp A3 (Oq3.Grammar.callExpr fuel lhs) (fun r s' => Adv s s' ∧ (s.pos < s'.pos)) s
  paramTypeSpec : ∀  (s : P), 3 + 20 * s.kinds.size ≤ fuel + 20 * s.pos ∧ s.pos ≤ s.kinds.size →
    wp A3 (Oq3.Grammar.paramTypeSpec fuel ) (fun r s' => Adv s s' ∧ ((isType (s.kindAt s.pos) || atF .L_BRACK s.kinds s.joint s.pos || atF .ARRAY_KW s.kinds s.joint s.pos || atF .MUTABLE_KW s.kinds s.joint s.pos || atF .READONLY_KW s.kinds s.joint s.pos) = true → s.pos < s'.pos) ∧ ((isType (s.kindAt s.pos) || atF .L_BRACK s.kinds s.joint s.pos || atF .ARRAY_KW s.kinds s.joint s.pos || atF .MUTABLE_KW s.kinds s.joint s.pos || atF .READONLY_KW s.kinds s.joint s.pos) = false → s'.tv = s.tv)) s
  typeSpec : ∀  (s : P), 3 + 20 * s.kinds.size ≤ fuel + 20 * s.pos ∧ s.pos ≤ s.kinds.size →
    wp A3 (Oq3.Grammar.typeSpec fuel ) (fun r s' => Adv s s' ∧ ((isType (s.kindAt s.pos) || atF .L_BRACK s.kinds s.joint s.pos) = true → s.pos < s'.pos)) s
  arrayTypeSpec : ∀ (wantArrayRefType : Bool) (s : P), 1 + 20 * s.kinds.size ≤ fuel + 20 * s.pos ∧ s.pos ≤ s.kinds.size ∧ (wantArrayRefType = true → (atF .ARRAY_KW s.kinds s.joint s.pos = true ∨ atF .MUTABLE_KW s.kinds s.joint s.pos = true ∨ atF .READONLY_KW s.kinds s.joint s.pos = true)) →
    wp A3 (Oq3.Grammar.arrayTypeSpec fuel wantArrayRefType) (fun r s' => Adv s s' ∧ (s.pos < s'.pos)) s
  arrayTypeDimsLoop : ∀  (s : P), 12 + 20 * s.kinds.size ≤ fuel + 20 * s.pos ∧ s.pos ≤ s.kinds.size →
    wp A3 (Oq3.Grammar.arrayTypeDimsLoop fuel ) (fun r s' => Adv s s') s
  nonArrayTypeSpec : ∀  (s : P), 2 + 20 * s.kinds.size ≤ fuel + 20 * s.pos ∧ s.pos ≤ s.kinds.size →
    wp A3 (Oq3.Grammar.nonArrayTypeSpec fuel ) (fun r s' => Adv s s' ∧ ((isType (s.kindAt s.pos) || atF .L_BRACK s.kinds s.joint s.pos) = true → s.pos < s'.pos) ∧ ((isType (s.kindAt s.pos) || atF .L_BRACK s.kinds s.joint s.pos) = false → s'.tv = s.tv)) s
  complexTypeSpec : ∀  (s : P), 1 + 20 * s.kinds.size ≤ fuel + 20 * s.pos ∧ s.pos ≤ s.kinds.size →
    wp A3 (Oq3.Grammar.complexTypeSpec fuel ) (fun r s' => Adv s s' ∧ (s.pos < s'.pos)) s
  qubitTypeSpec : ∀  (s : P), 2 + 20 * s.kinds.size ≤ fuel + 20 * s.pos ∧ s.pos ≤ s.kinds.size →
    wp A3 (Oq3.Grammar.qubitTypeSpec fuel ) (fun r s' => Adv s s' ∧ (s.pos < s'.pos)) s
  designator : ∀  (s : P), 1 + 20 * s.kinds.size ≤ fuel + 20 * s.pos ∧ s.pos ≤ s.kinds.size →
    wp A3 (Oq3.Grammar.designator fuel ) (fun r s' => Adv s s' ∧ (s.pos < s'.pos)) s
  indexExpr : ∀ (lhs : CompletedMarker) (s : P), 2 + 20 * s.kinds.size ≤ fuel + 20 * s.pos ∧ s.pos ≤ s.kinds.size →
    wp A3 (Oq3.Grammar.indexExpr fuel lhs) (fun r s' => Adv s s' ∧ (s.pos < s'.pos)) s
  indexedIdentifier : ∀ (lhs : CompletedMarker) (s : P), 3 + 20 * s.kinds.size ≤ fuel + 20 * s.pos ∧ s.pos ≤ s.kinds.size →
    wp A3 (Oq3.Grammar.indexedIdentifier fuel lhs) (fun r s' => Adv s s' ∧ (s.pos < s'.pos)) s
  indexedIdentifierLoop : ∀  (s : P), 2 + 20 * s.kinds.size ≤ fuel + 20 * s.pos ∧ s.pos ≤ s.kinds.size →
    wp A3 (Oq3.Grammar.indexedIdentifierLoop fuel ) (fun r s' => Adv s s' ∧ (atF .L_BRACK s.kinds s.joint s.pos = true → s.pos < s'.pos)) s
  setExpression : ∀  (s : P), 1 + 20 * s.kinds.size ≤ fuel + 20 * s.pos ∧ s.pos ≤ s.kinds.size →
    wp A3 (Oq3.Grammar.setExpression fuel ) (fun r s' => Adv s s' ∧ (s.pos < s'.pos)) s
  indexOperator : ∀  (s : P), 1 + 20 * s.kinds.size ≤ fuel + 20 * s.pos ∧ s.pos ≤ s.kinds.size →
    wp A3 (Oq3.Grammar.indexOperator fuel ) (fun r s' => Adv s s' ∧ (s.pos < s'.pos)) s
  callArgList : ∀  (s : P), 1 + 20 * s.kinds.size ≤ fuel + 20 * s.pos ∧ s.pos ≤ s.kinds.size →
    wp A3 (Oq3.Grammar.callArgList fuel ) (fun r s' => Adv s s' ∧ (s.pos < s'.pos)) s
  atomExpr : ∀ (_r : Restrictions) (s : P), 8 + 20 * s.kinds.size ≤ fuel + 20 * s.pos ∧ s.pos ≤ s.kinds.size →
    wp A3 (Oq3.Grammar.atomExpr fuel _r) (fun r s' => Adv s s' ∧ (r.isSome = true → s.pos < s'.pos) ∧ (atomHalt (s.kindAt s.pos) = false → s.pos < s'.pos)) s
  castExpr : ∀  (s : P), 4 + 20 * s.kinds.size ≤ fuel + 20 * s.pos ∧ s.pos ≤ s.kinds.size ∧ isClassicalType (s.kindAt s.pos) = true →
    wp A3 (Oq3.Grammar.castExpr fuel ) (fun r s' => Adv s s' ∧ (s.pos < s'.pos)) s
  gphaseCallExpr : ∀  (s : P), 1 + 20 * s.kinds.size ≤ fuel + 20 * s.pos ∧ s.pos ≤ s.kinds.size →
    wp A3 (Oq3.Grammar.gphaseCallExpr fuel ) (fun r s' => Adv s s' ∧ (s.pos < s'.pos)) s
  modifiedGateCallExpr : ∀  (s : P), 7 + 20 * s.kinds.size ≤ fuel + 20 * s.pos ∧ s.pos ≤ s.kinds.size →
    wp A3 (Oq3.Grammar.modifiedGateCallExpr fuel ) (fun r s' => Adv s s' ∧ (modHead (s.kindAt s.pos) = true → s.pos < s'.pos)) s
  modifiedGateCallExprLoop : ∀  (s : P), 1 + 20 * s.kinds.size ≤ fuel + 20 * s.pos ∧ s.pos ≤ s.kinds.size →
    wp A3 (Oq3.Grammar.modifiedGateCallExprLoop fuel ) (fun r s' => Adv s s' ∧ (modHead (s.kindAt s.pos) = true → s.pos < s'.pos)) s
  gateCallExpr : ∀  (s : P), 6 + 20 * s.kinds.size ≤ fuel + 20 * s.pos ∧ s.pos ≤ s.kinds.size →
    wp A3 (Oq3.Grammar.gateCallExpr fuel ) (fun r s' => Adv s s' ∧ (atF .IDENT s.kinds s.joint s.pos = true → s.pos < s'.pos)) s
  measureExpression : ∀  (s : P), 1 + 20 * s.kinds.size ≤ fuel + 20 * s.pos ∧ s.pos ≤ s.kinds.size →
    wp A3 (Oq3.Grammar.measureExpression fuel ) (fun r s' => Adv s s' ∧ (s.pos < s'.pos)) s
  tupleExpr : ∀  (s : P), 1 + 20 * s.kinds.size ≤ fuel + 20 * s.pos ∧ s.pos ≤ s.kinds.size →
    wp A3 (Oq3.Grammar.tupleExpr fuel ) (fun r s' => Adv s s' ∧ (s.pos < s'.pos)) s
  tupleExprLoop : ∀ (sawComma sawExpr : Bool) (s : P), 12 + 20 * s.kinds.size ≤ fuel + 20 * s.pos ∧ s.pos ≤ s.kinds.size →
    wp A3 (Oq3.Grammar.tupleExprLoop fuel sawComma sawExpr) (fun r s' => Adv s s') s
  arrayExpr : ∀  (s : P), 1 + 20 * s.kinds.size ≤ fuel + 20 * s.pos ∧ s.pos ≤ s.kinds.size →
    wp A3 (Oq3.Grammar.arrayExpr fuel ) (fun r s' => Adv s s' ∧ (s.pos < s'.pos)) s
  arrayExprLoop : ∀ (nExprs : Nat) (hasSemi : Bool) (s : P), 12 + 20 * s.kinds.size ≤ fuel + 20 * s.pos ∧ s.pos ≤ s.kinds.size →
    wp A3 (Oq3.Grammar.arrayExprLoop fuel nExprs hasSemi) (fun r s' => Adv s s') s
  tryBlockExpr : ∀  (s : P), 2 + 20 * s.kinds.size ≤ fuel + 20 * s.pos ∧ s.pos ≤ s.kinds.size →
    wp A3 (Oq3.Grammar.tryBlockExpr fuel ) (fun r s' => Adv s s') s
  blockExpr : ∀  (s : P), 1 + 20 * s.kinds.size ≤ fuel + 20 * s.pos ∧ s.pos ≤ s.kinds.size →
    wp A3 (Oq3.Grammar.blockExpr fuel ) (fun r s' => Adv s s' ∧ (s.pos < s'.pos)) s
  returnExpr : ∀  (s : P), 1 + 20 * s.kinds.size ≤ fuel + 20 * s.pos ∧ s.pos ≤ s.kinds.size →
    wp A3 (Oq3.Grammar.returnExpr fuel ) (fun r s' => Adv s s' ∧ (s.pos < s'.pos)) s
  boxExpr : ∀ (m : Option Marker) (s : P), 1 + 20 * s.kinds.size ≤ fuel + 20 * s.pos ∧ s.pos ≤ s.kinds.size →
    wp A3 (Oq3.Grammar.boxExpr fuel m) (fun r s' => Adv s s' ∧ (s.pos < s'.pos)) s
  paramListGateParams : ∀  (s : P), 4 + 20 * s.kinds.size ≤ fuel + 20 * s.pos ∧ s.pos ≤ s.kinds.size →
    wp A3 (Oq3.Grammar.paramListGateParams fuel ) (fun r s' => Adv s s') s
  paramListGateQubits : ∀  (s : P), 4 + 20 * s.kinds.size ≤ fuel + 20 * s.pos ∧ s.pos ≤ s.kinds.size →
    wp A3 (Oq3.Grammar.paramListGateQubits fuel ) (fun r s' => Adv s s') s
  argListGateCallQubits : ∀  (s : P), 5 + 20 * s.kinds.size ≤ fuel + 20 * s.pos ∧ s.pos ≤ s.kinds.size →
    wp A3 (Oq3.Grammar.argListGateCallQubits fuel ) (fun r s' => Adv s s') s
  paramListDefParams : ∀  (s : P), 8 + 20 * s.kinds.size ≤ fuel + 20 * s.pos ∧ s.pos ≤ s.kinds.size →
    wp A3 (Oq3.Grammar.paramListDefParams fuel ) (fun r s' => Adv s s') s
  scalarTypeList : ∀  (s : P), 8 + 20 * s.kinds.size ≤ fuel + 20 * s.pos ∧ s.pos ≤ s.kinds.size →
    wp A3 (Oq3.Grammar.scalarTypeList fuel ) (fun r s' => Adv s s') s
  paramListDefcalParams : ∀  (s : P), 8 + 20 * s.kinds.size ≤ fuel + 20 * s.pos ∧ s.pos ≤ s.kinds.size →
    wp A3 (Oq3.Grammar.paramListDefcalParams fuel ) (fun r s' => Adv s s') s
  paramListDefcalQubits : ∀  (s : P), 4 + 20 * s.kinds.size ≤ fuel + 20 * s.pos ∧ s.pos ≤ s.kinds.size →
    wp A3 (Oq3.Grammar.paramListDefcalQubits fuel ) (fun r s' => Adv s s') s
  expressionList : ∀  (s : P), 15 + 20 * s.kinds.size ≤ fuel + 20 * s.pos ∧ s.pos ≤ s.kinds.size →
    wp A3 (Oq3.Grammar.expressionList fuel ) (fun r s' => Adv s s') s
  caseValueList : ∀  (s : P), 15 + 20 * s.kinds.size ≤ fuel + 20 * s.pos ∧ s.pos ≤ s.kinds.size →
    wp A3 (Oq3.Grammar.caseValueList fuel ) (fun r s' => Adv s s') s
  arrayLiteral : ∀  (s : P), 2 + 20 * s.kinds.size ≤ fuel + 20 * s.pos ∧ s.pos ≤ s.kinds.size ∧ atF .L_CURLY s.kinds s.joint s.pos = true →
    wp A3 (Oq3.Grammar.arrayLiteral fuel ) (fun r s' => Adv s s' ∧ (s.pos < s'.pos)) s
  paramListOpenqasm : ∀ (flavor : DefFlavor) (s : P), rkList flavor + 20 * s.kinds.size ≤ fuel + 20 * s.pos ∧ s.pos ≤ s.kinds.size ∧ (flavor = .arrayLiteral → atF .L_CURLY s.kinds s.joint s.pos = true) →
    wp A3 (Oq3.Grammar.paramListOpenqasm fuel flavor) (fun r s' => Adv s s' ∧ (flavor = .arrayLiteral → s.pos < s'.pos)) s
  paramListOpenqasmLoop : ∀ (flavor : DefFlavor) (numParams : Nat) (s : P), rkLoop flavor + 20 * s.kinds.size ≤ fuel + 20 * s.pos ∧ s.pos ≤ s.kinds.size →
    wp A3 (Oq3.Grammar.paramListOpenqasmLoop fuel flavor numParams) (fun r s' => Adv s s') s
  paramListItem : ∀ (flavor : DefFlavor) (m : Marker) (innerArrayLiteral : Bool) (s : P), rkItem flavor + 20 * s.kinds.size ≤ fuel + 20 * s.pos ∧ s.pos ≤ s.kinds.size ∧ (s.kindAt s.pos ≠ .EOF ∧ (innerArrayLiteral = true → atF .L_CURLY s.kinds s.joint s.pos = true) ∧ (itemGuard (s.kindAt s.pos) innerArrayLiteral = true ∨ (flavor = .defParams ∧ (atF .MUTABLE_KW s.kinds s.joint s.pos = true ∨ atF .READONLY_KW s.kinds s.joint s.pos = true)))) →
    wp A3 (Oq3.Grammar.paramListItem fuel flavor m innerArrayLiteral) (fun r s' => Adv s s' ∧ (r = true → s.pos < s'.pos)) s
  paramTyped : ∀ (m : Marker) (s : P), 4 + 20 * s.kinds.size ≤ fuel + 20 * s.pos ∧ s.pos ≤ s.kinds.size →
    wp A3 (Oq3.Grammar.paramTyped fuel m) (fun r s' => Adv s s' ∧ (r = true → s.pos < s'.pos)) s
  scalarType : ∀ (m : Marker) (s : P), 4 + 20 * s.kinds.size ≤ fuel + 20 * s.pos ∧ s.pos ≤ s.kinds.size →
    wp A3 (Oq3.Grammar.scalarType fuel m) (fun r s' => Adv s s' ∧ (r = true → s.pos < s'.pos)) s
  argGateCallQubit : ∀ (m : Marker) (s : P), 1 + 20 * s.kinds.size ≤ fuel + 20 * s.pos ∧ s.pos ≤ s.kinds.size →
    wp A3 (Oq3.Grammar.argGateCallQubit fuel m) (fun r s' => Adv s s' ∧ (r = true → s.pos < s'.pos)) s

theorem allProg (fuel : Nat) : AllProg fuel :=
  { optReturnSignature := prog_field' ((allHolds limMono_closed fuel).optReturnSignature) (.of_field' (allWork sysSB fuel).optReturnSignature)
    delimited := fun bra ket consumeBraket delim firstSet parser => prog_field ((allHolds limMono_closed fuel).delimited bra ket consumeBraket delim firstSet parser) (fun _ _ _ _ h => h) (.of_field ((allWork sysSB fuel).delimited bra ket consumeBraket delim firstSet parser))
    delimitedLoop := fun ket delim firstSet parser => prog_field' ((allHolds limMono_closed fuel).delimitedLoop ket delim firstSet parser) (.of_field' ((allWork sysSB fuel).delimitedLoop ket delim firstSet parser))
    delimitedParser := fun parser => prog_field ((allHolds limMono_closed fuel).delimitedParser parser) (fun _ _ _ _ h => h) (.of_field ((allWork sysSB fuel).delimitedParser parser))
    sourceFileContents := fun stopOnRCurly => prog_field' ((allHolds limMono_closed fuel).sourceFileContents stopOnRCurly) (.of_field' ((allWork sysSB fuel).sourceFileContents stopOnRCurly))
    item := fun stopOnRCurly => prog_field ((allHolds limMono_closed fuel).item stopOnRCurly) (fun _ _ _ _ h => h) (.of_field ((allWork sysSB fuel).item stopOnRCurly))
    optItem := fun m => prog_field ((allHolds limMono_closed fuel).optItem m) (fun _ _ _ _ h => h) (.of_field ((allWork sysSB fuel).optItem m))
    switchCaseStmt := fun m => prog_field ((allHolds limMono_closed fuel).switchCaseStmt m) (fun _ _ _ _ h => h) (.of_field ((allWork sysSB fuel).switchCaseStmt m))
    switchCaseLoop := prog_field' ((allHolds limMono_closed fuel).switchCaseLoop) (.of_field' (allWork sysSB fuel).switchCaseLoop)
    blockOrStatement := prog_field' ((allHolds limMono_closed fuel).blockOrStatement) (.of_field' (allWork sysSB fuel).blockOrStatement)
    ifStmt := fun m => prog_field ((allHolds limMono_closed fuel).ifStmt m) (fun _ _ _ _ h => h) (.of_field ((allWork sysSB fuel).ifStmt m))
    whileStmt := fun m => prog_field ((allHolds limMono_closed fuel).whileStmt m) (fun _ _ _ _ h => h) (.of_field ((allWork sysSB fuel).whileStmt m))
    forStmt := fun m => prog_field ((allHolds limMono_closed fuel).forStmt m) (fun _ _ _ _ h => h) (.of_field ((allWork sysSB fuel).forStmt m))
    qubitDeclarationStmt := fun m => prog_field ((allHolds limMono_closed fuel).qubitDeclarationStmt m) (fun _ _ _ _ h => h) (.of_field ((allWork sysSB fuel).qubitDeclarationStmt m))
    resetStmt := fun m => prog_field ((allHolds limMono_closed fuel).resetStmt m) (fun _ _ _ _ h => h) (.of_field ((allWork sysSB fuel).resetStmt m))
    gateDefinition := fun m => prog_field ((allHolds limMono_closed fuel).gateDefinition m) (fun _ _ _ _ h => h) (.of_field ((allWork sysSB fuel).gateDefinition m))
    defcal_ := fun m => prog_field ((allHolds limMono_closed fuel).defcal_ m) (fun _ _ _ _ h => h) (.of_field ((allWork sysSB fuel).defcal_ m))
    returnsBoolClassicalDeclarationStmt := fun m => prog_field ((allHolds limMono_closed fuel).returnsBoolClassicalDeclarationStmt m) (fun _ _ _ _ h => h) (.of_field ((allWork sysSB fuel).returnsBoolClassicalDeclarationStmt m))
    classicalDeclarationStmt := fun m => prog_field ((allHolds limMono_closed fuel).classicalDeclarationStmt m) (fun _ _ _ _ h => h) (.of_field ((allWork sysSB fuel).classicalDeclarationStmt m))
    ioDeclarationStmt := fun m => prog_field ((allHolds limMono_closed fuel).ioDeclarationStmt m) (fun _ _ _ _ h => h) (.of_field ((allWork sysSB fuel).ioDeclarationStmt m))
    defStmt := fun m => prog_field ((allHolds limMono_closed fuel).defStmt m) (fun _ _ _ _ h => h) (.of_field ((allWork sysSB fuel).defStmt m))
    externStmt := fun m => prog_field ((allHolds limMono_closed fuel).externStmt m) (fun _ _ _ _ h => h) (.of_field ((allWork sysSB fuel).externStmt m))
    cal_ := fun m => prog_field ((allHolds limMono_closed fuel).cal_ m) (fun _ _ _ _ h => h) (.of_field ((allWork sysSB fuel).cal_ m))
    barrier_ := fun m => prog_field ((allHolds limMono_closed fuel).barrier_ m) (fun _ _ _ _ h => h) (.of_field ((allWork sysSB fuel).barrier_ m))
    delayStmt := fun m => prog_field ((allHolds limMono_closed fuel).delayStmt m) (fun _ _ _ _ h => h) (.of_field ((allWork sysSB fuel).delayStmt m))
    aliasStmt := fun m => prog_field ((allHolds limMono_closed fuel).aliasStmt m) (fun _ _ _ _ h => h) (.of_field ((allWork sysSB fuel).aliasStmt m))
    expr := prog_field ((allHolds limMono_closed fuel).expr) (fun _ _ _ _ h => h) (.of_field (allWork sysSB fuel).expr)
    rangeExpr := prog_field ((allHolds limMono_closed fuel).rangeExpr) (fun _ _ _ _ h => h) (.of_field (allWork sysSB fuel).rangeExpr)
    exprOrRangeExpr := prog_field ((allHolds limMono_closed fuel).exprOrRangeExpr) (fun _ _ _ _ h => h) (.of_field (allWork sysSB fuel).exprOrRangeExpr)
    exprStmt := fun m => prog_field ((allHolds limMono_closed fuel).exprStmt m) (fun _ _ _ _ h => h) (.of_field ((allWork sysSB fuel).exprStmt m))
    stmt := prog_field ((allHolds limMono_closed fuel).stmt) (fun _ _ _ _ h => h) (.of_field (allWork sysSB fuel).stmt)
    letStmt := fun m => prog_field ((allHolds limMono_closed fuel).letStmt m) (fun _ _ _ _ h => h) (.of_field ((allWork sysSB fuel).letStmt m))
    qOrCRegParam := prog_field ((allHolds limMono_closed fuel).qOrCRegParam) (fun _ _ _ _ h => h) (.of_field (allWork sysSB fuel).qOrCRegParam)
    qOrCRegDeclaration := fun m => prog_field ((allHolds limMono_closed fuel).qOrCRegDeclaration m) (fun _ _ _ _ h => h) (.of_field ((allWork sysSB fuel).qOrCRegDeclaration m))
    exprBlockStatements := prog_field ((allHolds limMono_closed fuel).exprBlockStatements) (fun _ _ _ _ h => h) (.of_field (allWork sysSB fuel).exprBlockStatements)
    exprBp := fun m r bp => prog_field ((allHolds limMono_closed fuel).exprBp m r bp) (fun _ _ _ _ h => h) (.of_field ((allWork sysSB fuel).exprBp m r bp))
    exprBpLoop := fun r bp lhs => prog_field' ((allHolds limMono_closed fuel).exprBpLoop r bp lhs) (.of_field' ((allWork sysSB fuel).exprBpLoop r bp lhs))
    lhs := fun r => prog_field ((allHolds limMono_closed fuel).lhs r) (fun _ _ _ _ h => h) (.of_field ((allWork sysSB fuel).lhs r))
    postfixExpr := fun lhs blockLike allowCalls => prog_field' ((allHolds limMono_closed fuel).postfixExpr lhs blockLike allowCalls) (.of_field' ((allWork sysSB fuel).postfixExpr lhs blockLike allowCalls))
    callExpr := fun lhs => prog_field ((allHolds limMono_closed fuel).callExpr lhs) (fun _ _ _ _ h => h) (.of_field ((allWork sysSB fuel).callExpr lhs))
    paramTypeSpec := prog_field ((allHolds limMono_closed fuel).paramTypeSpec) (fun _ _ _ _ h => h) (.of_field (allWork sysSB fuel).paramTypeSpec)
    typeSpec := prog_field ((allHolds limMono_closed fuel).typeSpec) (fun _ _ _ _ h => h) (.of_field (allWork sysSB fuel).typeSpec)
    arrayTypeSpec := fun wantArrayRefType => prog_fieldX ((allHolds limMono_closed fuel).arrayTypeSpec wantArrayRefType) (fun _ _ _ _ h => h) (.of_fieldX ((allWork sysSB fuel).arrayTypeSpec wantArrayRefType)) (fun _ _ h => h)
    arrayTypeDimsLoop := prog_field' ((allHolds limMono_closed fuel).arrayTypeDimsLoop) (.of_field' (allWork sysSB fuel).arrayTypeDimsLoop)
    nonArrayTypeSpec := prog_field ((allHolds limMono_closed fuel).nonArrayTypeSpec) (fun _ _ _ _ h => h) (.of_field (allWork sysSB fuel).nonArrayTypeSpec)
    complexTypeSpec := prog_field ((allHolds limMono_closed fuel).complexTypeSpec) (fun _ _ _ _ h => h) (.of_field (allWork sysSB fuel).complexTypeSpec)
    qubitTypeSpec := prog_field ((allHolds limMono_closed fuel).qubitTypeSpec) (fun _ _ _ _ h => h) (.of_field (allWork sysSB fuel).qubitTypeSpec)
    designator := prog_field ((allHolds limMono_closed fuel).designator) (fun _ _ _ _ h => h) (.of_field (allWork sysSB fuel).designator)
    indexExpr := fun lhs => prog_field ((allHolds limMono_closed fuel).indexExpr lhs) (fun _ _ _ _ h => h) (.of_field ((allWork sysSB fuel).indexExpr lhs))
    indexedIdentifier := fun lhs => prog_field ((allHolds limMono_closed fuel).indexedIdentifier lhs) (fun _ _ _ _ h => h) (.of_field ((allWork sysSB fuel).indexedIdentifier lhs))
    indexedIdentifierLoop := prog_field ((allHolds limMono_closed fuel).indexedIdentifierLoop) (fun _ _ _ _ h => h) (.of_field (allWork sysSB fuel).indexedIdentifierLoop)
    setExpression := prog_field ((allHolds limMono_closed fuel).setExpression) (fun _ _ _ _ h => h) (.of_field (allWork sysSB fuel).setExpression)
    indexOperator := prog_field ((allHolds limMono_closed fuel).indexOperator) (fun _ _ _ _ h => h) (.of_field (allWork sysSB fuel).indexOperator)
    callArgList := prog_field ((allHolds limMono_closed fuel).callArgList) (fun _ _ _ _ h => h) (.of_field (allWork sysSB fuel).callArgList)
    atomExpr := fun _r => prog_field ((allHolds limMono_closed fuel).atomExpr _r) (fun _ _ _ _ h => h) (.of_field ((allWork sysSB fuel).atomExpr _r))
    castExpr := prog_fieldX ((allHolds limMono_closed fuel).castExpr) (fun _ _ _ _ h => h) (.of_fieldX (allWork sysSB fuel).castExpr) (fun _ _ h => h)
    gphaseCallExpr := prog_field ((allHolds limMono_closed fuel).gphaseCallExpr) (fun _ _ _ _ h => h) (.of_field (allWork sysSB fuel).gphaseCallExpr)
    modifiedGateCallExpr := prog_field ((allHolds limMono_closed fuel).modifiedGateCallExpr) (fun _ _ _ _ h => h) (.of_field (allWork sysSB fuel).modifiedGateCallExpr)
    modifiedGateCallExprLoop := prog_field ((allHolds limMono_closed fuel).modifiedGateCallExprLoop) (fun _ _ _ _ h => h) (.of_field (allWork sysSB fuel).modifiedGateCallExprLoop)
    gateCallExpr := prog_field ((allHolds limMono_closed fuel).gateCallExpr) (fun _ _ _ _ h => h) (.of_field (allWork sysSB fuel).gateCallExpr)
    measureExpression := prog_field ((allHolds limMono_closed fuel).measureExpression) (fun _ _ _ _ h => h) (.of_field (allWork sysSB fuel).measureExpression)
    tupleExpr := prog_field ((allHolds limMono_closed fuel).tupleExpr) (fun _ _ _ _ h => h) (.of_field (allWork sysSB fuel).tupleExpr)
    tupleExprLoop := fun sawComma sawExpr => prog_field' ((allHolds limMono_closed fuel).tupleExprLoop sawComma sawExpr) (.of_field' ((allWork sysSB fuel).tupleExprLoop sawComma sawExpr))
    arrayExpr := prog_field ((allHolds limMono_closed fuel).arrayExpr) (fun _ _ _ _ h => h) (.of_field (allWork sysSB fuel).arrayExpr)
    arrayExprLoop := fun nExprs hasSemi => prog_field' ((allHolds limMono_closed fuel).arrayExprLoop nExprs hasSemi) (.of_field' ((allWork sysSB fuel).arrayExprLoop nExprs hasSemi))
    tryBlockExpr := prog_field' ((allHolds limMono_closed fuel).tryBlockExpr) (.of_field' (allWork sysSB fuel).tryBlockExpr)
    blockExpr := prog_field ((allHolds limMono_closed fuel).blockExpr) (fun _ _ _ _ h => h) (.of_field (allWork sysSB fuel).blockExpr)
    returnExpr := prog_field ((allHolds limMono_closed fuel).returnExpr) (fun _ _ _ _ h => h) (.of_field (allWork sysSB fuel).returnExpr)
    boxExpr := fun m => prog_field ((allHolds limMono_closed fuel).boxExpr m) (fun _ _ _ _ h => h) (.of_field ((allWork sysSB fuel).boxExpr m))
    paramListGateParams := prog_field' ((allHolds limMono_closed fuel).paramListGateParams) (.of_field' (allWork sysSB fuel).paramListGateParams)
    paramListGateQubits := prog_field' ((allHolds limMono_closed fuel).paramListGateQubits) (.of_field' (allWork sysSB fuel).paramListGateQubits)
    argListGateCallQubits := prog_field' ((allHolds limMono_closed fuel).argListGateCallQubits) (.of_field' (allWork sysSB fuel).argListGateCallQubits)
    paramListDefParams := prog_field' ((allHolds limMono_closed fuel).paramListDefParams) (.of_field' (allWork sysSB fuel).paramListDefParams)
    scalarTypeList := prog_field' ((allHolds limMono_closed fuel).scalarTypeList) (.of_field' (allWork sysSB fuel).scalarTypeList)
    paramListDefcalParams := prog_field' ((allHolds limMono_closed fuel).paramListDefcalParams) (.of_field' (allWork sysSB fuel).paramListDefcalParams)
    paramListDefcalQubits := prog_field' ((allHolds limMono_closed fuel).paramListDefcalQubits) (.of_field' (allWork sysSB fuel).paramListDefcalQubits)
    expressionList := prog_field' ((allHolds limMono_closed fuel).expressionList) (.of_field' (allWork sysSB fuel).expressionList)
    caseValueList := prog_field' ((allHolds limMono_closed fuel).caseValueList) (.of_field' (allWork sysSB fuel).caseValueList)
    arrayLiteral := prog_fieldX ((allHolds limMono_closed fuel).arrayLiteral) (fun _ _ _ _ h => h) (.of_fieldX (allWork sysSB fuel).arrayLiteral) (fun _ _ h => h)
    paramListOpenqasm := fun flavor => prog_fieldX ((allHolds limMono_closed fuel).paramListOpenqasm flavor) (fun _ _ _ _ h => h) (.of_fieldX ((allWork sysSB fuel).paramListOpenqasm flavor)) (fun _ _ h => h)
    paramListOpenqasmLoop := fun flavor numParams => prog_field' ((allHolds limMono_closed fuel).paramListOpenqasmLoop flavor numParams) (.of_field' ((allWork sysSB fuel).paramListOpenqasmLoop flavor numParams))
    paramListItem := fun flavor m innerArrayLiteral => prog_fieldX ((allHolds limMono_closed fuel).paramListItem flavor m innerArrayLiteral) (fun _ _ _ _ h => h) (.of_fieldX ((allWork sysSB fuel).paramListItem flavor m innerArrayLiteral)) (fun _ _ h => h)
    paramTyped := fun m => prog_field ((allHolds limMono_closed fuel).paramTyped m) (fun _ _ _ _ h => h) (.of_field ((allWork sysSB fuel).paramTyped m))
    scalarType := fun m => prog_field ((allHolds limMono_closed fuel).scalarType m) (fun _ _ _ _ h => h) (.of_field ((allWork sysSB fuel).scalarType m))
    argGateCallQubit := fun m => prog_field ((allHolds limMono_closed fuel).argGateCallQubit m) (fun _ _ _ _ h => h) (.of_field ((allWork sysSB fuel).argGateCallQubit m)) }

end Oq3.Grammar
