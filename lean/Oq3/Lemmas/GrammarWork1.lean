/- GENERATED by /verif/tools/gen_grammar_cost2.py from Oq3/Model/Grammar.lean — the proofs are checked by Lean. -/
import Oq3.Lemmas.GrammarWork0
set_option linter.unusedVariables false
set_option linter.unusedSimpArgs false

namespace Oq3.Grammar
open Oq3.Gen Oq3.Parser
open Oq3.Gen.Ops (Assoc)
open Oq3.Gen.TokenSets

theorem arrayTypeSpec_true_wk {M : Sys} {fuel : Nat} (ih : AllWork M fuel) (E : Env M ⟨1, 5, 0, 0, 38, 0, 10⟩ fuel)
    (hX : (true = true → (atF .ARRAY_KW E.s₀.kinds E.s₀.joint E.s₀.pos = true ∨ atF .MUTABLE_KW E.s₀.kinds E.s₀.joint E.s₀.pos = true ∨ atF .READONLY_KW E.s₀.kinds E.s₀.joint E.s₀.pos = true))) :
    W E .init (Oq3.Grammar.arrayTypeSpec (fuel + 1) true) (Exit E fun _ s' => E.s₀.pos < s'.pos) E.s₀ := by
  unfold Oq3.Grammar.arrayTypeSpec
  revert hX
  ww [expr (W.callF (.of_field ih.expr)), typeSpec (W.callF (.of_field ih.typeSpec)), arrayTypeDimsLoop (W.callFN (.of_field' ih.arrayTypeDimsLoop))]

theorem switchCaseStmt_wk {M : Sys} {fuel : Nat} (ih : AllWork M fuel) (m : Marker) (E : Env M ⟨1, 1, 0, 0, 12, 0, 6⟩ fuel) :
    W E .init (Oq3.Grammar.switchCaseStmt (fuel + 1) m) (Exit E fun _ s' => E.s₀.pos < s'.pos) E.s₀ := by
  unfold Oq3.Grammar.switchCaseStmt
  ww [switchCaseLoop (W.callFN (.of_field' ih.switchCaseLoop)), expr (W.callF (.of_field ih.expr)), tryBlockExpr (W.callFN (.of_field' ih.tryBlockExpr))]

theorem item_wk {M : Sys} {fuel : Nat} (ih : AllWork M fuel) (stopOnRCurly : Bool) (E : Env M ⟨17, 25, 6, 5, 5, 1, 1⟩ fuel) :
    W E .init (Oq3.Grammar.item (fuel + 1) stopOnRCurly) (Exit E fun r s' => ((atF .EOF E.s₀.kinds E.s₀.joint E.s₀.pos || (atF .R_CURLY E.s₀.kinds E.s₀.joint E.s₀.pos && stopOnRCurly)) = false → E.s₀.pos < s'.pos)) E.s₀ := by
  unfold Oq3.Grammar.item
  ww [optItem (W.callF (.of_field (ih.optItem _))), exprBlockStatements (W.callF (.of_field ih.exprBlockStatements))]

theorem blockOrStatement_wk {M : Sys} {fuel : Nat} (ih : AllWork M fuel) (E : Env M ⟨16, 24, 5, 9, 0, 5, 0⟩ fuel) :
    W E .init (Oq3.Grammar.blockOrStatement (fuel + 1)) (Exit E fun _ _ => True) E.s₀ := by
  unfold Oq3.Grammar.blockOrStatement
  ww [stmt (W.callF (.of_field ih.stmt)), blockExpr (W.callFP (.of_field ih.blockExpr))]

theorem defStmt_wk {M : Sys} {fuel : Nat} (ih : AllWork M fuel) (m : Marker) (E : Env M ⟨9, 1, 0, 0, 12, 0, 6⟩ fuel) :
    W E .init (Oq3.Grammar.defStmt (fuel + 1) m) (Exit E fun _ s' => E.s₀.pos < s'.pos) E.s₀ := by
  unfold Oq3.Grammar.defStmt
  ww [nameR (W.callSN (nameR_spec _)), optReturnSignature (W.callFN (.of_field' ih.optReturnSignature)), tryBlockExpr (W.callFN (.of_field' ih.tryBlockExpr)), paramListDefParams (W.callFN (.of_field' ih.paramListDefParams))]

theorem exprOrRangeExpr_wk {M : Sys} {fuel : Nat} (ih : AllWork M fuel) (E : Env M ⟨11, 16, 2, 6, 8, 2, 2⟩ fuel) :
    W E .init (Oq3.Grammar.exprOrRangeExpr (fuel + 1)) (Exit E fun r s' => (exprHalt (E.s₀.kindAt E.s₀.pos) = false → E.s₀.pos < s'.pos)) E.s₀ := by
  unfold Oq3.Grammar.exprOrRangeExpr
  ww [exprBp (W.callF (.of_field (ih.exprBp _ _ _)))]

theorem paramTypeSpec_wk {M : Sys} {fuel : Nat} (ih : AllWork M fuel) (E : Env M ⟨3, 5, 0, 3, 41, 0, 6⟩ fuel) :
    W E .init (Oq3.Grammar.paramTypeSpec (fuel + 1)) (Exit E fun r s' => ((isType (E.s₀.kindAt E.s₀.pos) || atF .L_BRACK E.s₀.kinds E.s₀.joint E.s₀.pos || atF .ARRAY_KW E.s₀.kinds E.s₀.joint E.s₀.pos || atF .MUTABLE_KW E.s₀.kinds E.s₀.joint E.s₀.pos || atF .READONLY_KW E.s₀.kinds E.s₀.joint E.s₀.pos) = true → E.s₀.pos < s'.pos) ∧ ((isType (E.s₀.kindAt E.s₀.pos) || atF .L_BRACK E.s₀.kinds E.s₀.joint E.s₀.pos || atF .ARRAY_KW E.s₀.kinds E.s₀.joint E.s₀.pos || atF .MUTABLE_KW E.s₀.kinds E.s₀.joint E.s₀.pos || atF .READONLY_KW E.s₀.kinds E.s₀.joint E.s₀.pos) = false → s'.tv = E.s₀.tv)) E.s₀ := by
  unfold Oq3.Grammar.paramTypeSpec
  ww [arrayTypeSpec (W.callFPX (.of_fieldX (ih.arrayTypeSpec _))), nonArrayTypeSpec (W.callF (.of_field ih.nonArrayTypeSpec))]

theorem setExpression_wk {M : Sys} {fuel : Nat} (ih : AllWork M fuel) (E : Env M ⟨1, 2, 0, 0, 0, 0, 0⟩ fuel) :
    W E .init (Oq3.Grammar.setExpression (fuel + 1)) (Exit E fun _ s' => E.s₀.pos < s'.pos) E.s₀ := by
  unfold Oq3.Grammar.setExpression
  ww [expressionList (W.callFN (.of_field' ih.expressionList))]

theorem tupleExpr_wk {M : Sys} {fuel : Nat} (ih : AllWork M fuel) (E : Env M ⟨1, 2, 0, 0, 25, 0, 8⟩ fuel) :
    W E .init (Oq3.Grammar.tupleExpr (fuel + 1)) (Exit E fun _ s' => E.s₀.pos < s'.pos) E.s₀ := by
  unfold Oq3.Grammar.tupleExpr
  ww [tupleExprLoop (W.callFN (.of_field' (ih.tupleExprLoop _ _)))]

theorem paramListGateQubits_wk {M : Sys} {fuel : Nat} (ih : AllWork M fuel) (E : Env M ⟨4, 7, 0, 7, 0, 0, 0⟩ fuel) :
    W E .init (Oq3.Grammar.paramListGateQubits (fuel + 1)) (Exit E fun _ _ => True) E.s₀ := by
  unfold Oq3.Grammar.paramListGateQubits
  ww [paramListOpenqasm (W.callFX (.of_fieldX (ih.paramListOpenqasm _)))]

theorem arrayLiteral_wk {M : Sys} {fuel : Nat} (ih : AllWork M fuel) (E : Env M ⟨2, 2, 0, 0, 24, 0, 6⟩ fuel)
    (hX : atF .L_CURLY E.s₀.kinds E.s₀.joint E.s₀.pos = true) :
    W E .init (Oq3.Grammar.arrayLiteral (fuel + 1)) (Exit E fun _ s' => E.s₀.pos < s'.pos) E.s₀ := by
  unfold Oq3.Grammar.arrayLiteral
  revert hX
  ww [paramListOpenqasm (W.callFX (.of_fieldX (ih.paramListOpenqasm _)))]

end Oq3.Grammar
