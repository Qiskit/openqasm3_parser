/-
C04 for a recursive reference language: runs of the grammar model on the pieces of a statement.

`AccV x a s n E`: from the state `s`, the run of `x` succeeds with value `a`, consumes exactly `n`
tokens, pushes exactly `E` on top of `s.events` and leaves the marker bookkeeping as it found it
(the step counter does not grow).  Every lemma is proved from a BASE state (`Ready s`, tokens at
`s.pos`) by `sym_eval`, with the runs of the sub-phrases as rewrite rules, and is then available
on every overlay state `s.ov E0 dp …` (`AccV.at_ov`): that is how phrases whose markers bracket
event lists of unknown length are composed.  A lemma for a composite phrase splits its token
hypothesis with `tok_at`, turns the acceptance of each sub-phrase into a rule at the token offset
where the run reaches it (`RunAt.of_acc`, and the `…_runAt` / `…At` lemmas of the phrases), and runs
`sym_eval` with these rules: the states in between are never written down.
-/
import Oq3.Lemmas.PrattEvRun
import Oq3.Lemmas.LangEv2S
set_option linter.unusedSimpArgs false
set_option linter.unusedVariables false

namespace Oq3.LangEv
open Oq3.Gen Oq3.Parser Oq3.Grammar Oq3.SymExec Oq3.PrattEv

def AccV {α} (x : G α) (a : α) (s : P) (n : Nat) (E : List Ev) : Prop :=
  ∃ st sb, st ≤ s.steps ∧ x s = .ok (a, s.ov E n st sb s.live s.protectedPos)

abbrev Acc (x : G Unit) (s : P) (n : Nat) (E : List Ev) : Prop := AccV x () s n E

/-- `Ready` with `k` look-aheads of room in the step counter (`Ready s` is `Rdy 8 s`) -/
structure Rdy (k : Nat) (s : P) : Prop where
  hook : s.noProgressLimit = 0
  steps : s.steps + k ≤ s.stepLimit
  prot : ∀ p ∈ s.protectedPos, p < s.events.size

theorem Rdy.of_ready {s : P} (h : Ready s) : Rdy 8 s := ⟨h.hook, h.steps, h.prot⟩

theorem Rdy.mono {k k' : Nat} {s : P} (h : Rdy k s) (hk : k' ≤ k) : Rdy k' s :=
  ⟨h.hook, by have := h.steps; omega, h.prot⟩

theorem Rdy_ov (k : Nat) (s : P) (E0 : List Ev) (dp st sb lv : Nat) (pr : List Nat)
    (hnp : s.noProgressLimit = 0) (hst : st + k ≤ s.stepLimit)
    (hpr : ∀ p ∈ pr, p < s.events.size + E0.length) : Rdy k (s.ov E0 dp st sb lv pr) :=
  ⟨hnp, hst, by intro p hp; show p < (s.events ++ E0.toArray).size; rw [ov_size]; exact hpr p hp⟩

theorem Rdy.prot' {k : Nat} {s : P} (h : Rdy k s) (n : Nat) : ∀ p ∈ s.protectedPos, p < s.events.size + n :=
  fun p hp => Nat.lt_add_right n (h.prot p hp)

/-- an overlay that protects one more marker, the `i`-th event of the overlay -/
theorem prot_cons {s : P} (hpr : ∀ p ∈ s.protectedPos, p < s.events.size) {i n : Nat} (hi : i < n) :
    ∀ p ∈ (s.events.size + i) :: s.protectedPos, p < s.events.size + n := by
  intro p hp
  rcases List.mem_cons.1 hp with h | h
  · omega
  · exact Nat.lt_add_right _ (hpr p h)

theorem Rdy.ov {k : Nat} {s : P} (h : Rdy k s) (k' : Nat) (E0 : List Ev) (dp st sb lv : Nat) (hst : st + k' ≤ s.stepLimit) :
    Rdy k' (s.ov E0 dp st sb lv s.protectedPos) :=
  Rdy_ov k' s E0 dp st sb lv _ h.hook hst (h.prot' _)

theorem AccV.at_ov {α} {x : G α} {a : α} {s : P} {E0 : List Ev} {dp st sb lv : Nat} {pr : List Nat}
    {n : Nat} {E : List Ev} (h : AccV x a (s.ov E0 dp st sb lv pr) n E) :
    ∃ st' sb', st' ≤ st ∧
      x (s.ov E0 dp st sb lv pr) = .ok (a, s.ov (E0 ++ E) (dp + n) st' sb' lv pr) := by
  obtain ⟨st', sb', hle, hx⟩ := h
  exact ⟨st', sb', hle, by rw [hx, ov_ov]; rfl⟩

/-- a run from `s` as a rule for a symbolic run that starts at `s` (the converse of `of_ov`) -/
theorem to_ov {α} {x : G α} {s : P} {r : Except Outcome (α × P)} (h : x s = r) :
    x (s.ov [] 0 s.steps s.sinceBump s.live s.protectedPos) = r := by
  rwa [P.ov_base]

/-- A run as a rewrite rule for `sym_eval`: from the token offset `dp` of `s` to the offset `dp'`, started just
after a bump (step counter `0`), `x` returns `a` and pushes `E` — on top of whatever has been pushed before (`E0`),
so the rule fires at the state the evaluation has reached without that state being written down.  The count
since the last bump afterwards is some function `sb'` of what the run saw. -/
abbrev RunAt {α} (x : G α) (a : α) (s : P) (dp dp' : Nat) (E : List Ev) (sb' : List Ev → Nat → Nat → Nat) : Prop :=
  ∀ (E0 : List Ev) (sb lv : Nat),
    x (s.ov E0 dp 0 sb lv s.protectedPos) = .ok (a, s.ov (E0 ++ E) dp' 0 (sb' E0 sb lv) lv s.protectedPos)

theorem RunAt.of_acc {α} {x : G α} {a : α} {s : P} {dp n : Nat} {E : List Ev}
    (h : ∀ E0 sb lv, AccV x a (s.ov E0 dp 0 sb lv s.protectedPos) n E) {dp' : Nat} (e : dp' = dp + n) :
    ∃ sb', RunAt x a s dp dp' E sb' := by
  subst e
  have h' : ∀ E0 sb lv, ∃ sb', x (s.ov E0 dp 0 sb lv s.protectedPos) =
      .ok (a, s.ov (E0 ++ E) (dp + n) 0 sb' lv s.protectedPos) := by
    intro E0 sb lv
    obtain ⟨st', sb', hle, heq⟩ := (h E0 sb lv).at_ov
    exact ⟨sb', by rw [heq, Nat.le_zero.1 hle]⟩
  exact ⟨fun E0 sb lv => (h' E0 sb lv).choose, fun E0 sb lv => (h' E0 sb lv).choose_spec⟩

/-- `RunAt` for a run whose value the caller drops: the value too is some function of what the run saw -/
abbrev RunAtV {α} (x : G α) (s : P) (dp dp' : Nat) (E : List Ev) (a' : List Ev → Nat → Nat → α)
    (sb' : List Ev → Nat → Nat → Nat) : Prop :=
  ∀ (E0 : List Ev) (sb lv : Nat),
    x (s.ov E0 dp 0 sb lv s.protectedPos) = .ok (a' E0 sb lv, s.ov (E0 ++ E) dp' 0 (sb' E0 sb lv) lv s.protectedPos)

theorem RunAtV.of_acc {α} {x : G α} {s : P} {dp n : Nat} {E : List Ev}
    (h : ∀ E0 sb lv, ∃ a, AccV x a (s.ov E0 dp 0 sb lv s.protectedPos) n E) {dp' : Nat} (e : dp' = dp + n) :
    ∃ a' sb', RunAtV x s dp dp' E a' sb' := by
  subst e
  have h' : ∀ E0 sb lv, ∃ a sb', x (s.ov E0 dp 0 sb lv s.protectedPos) =
      .ok (a, s.ov (E0 ++ E) (dp + n) 0 sb' lv s.protectedPos) := by
    intro E0 sb lv
    obtain ⟨a, ha⟩ := h E0 sb lv
    obtain ⟨st', sb', hle, heq⟩ := ha.at_ov
    exact ⟨a, sb', by rw [heq, Nat.le_zero.1 hle]⟩
  exact ⟨fun E0 sb lv => (h' E0 sb lv).choose, fun E0 sb lv => (h' E0 sb lv).choose_spec.choose,
    fun E0 sb lv => (h' E0 sb lv).choose_spec.choose_spec⟩

/-! `tok_at [defs] at h` splits the token hypothesis `h : Toks s s.pos ts` of a lemma into one fact per token and per
sub-phrase that `defs` leaves folded, each at `s.pos + dp` with `dp` in the shape in which `sym_eval` reaches it: `dp + 1`
after a token, `dp + n` after a sub-run of `n` tokens, literals added up. -/

theorem Toks_at_zero (s : P) (ts : List Tok) : Toks s s.pos ts ↔ Toks s (s.pos + 0) ts := Iff.rfl

theorem Toks_at_nil (s : P) (q : Nat) : Toks s q [] ↔ True := Iff.rfl

theorem Toks_at_tk (s : P) (dp : Nat) (k : SyntaxKind) (ts : List Tok) :
    Toks s (s.pos + dp) (tk k :: ts) ↔ s.kindAt (s.pos + dp) = k ∧ Toks s (s.pos + (dp + 1)) ts := by
  simp only [Toks, tk, Bool.false_eq_true, false_implies, true_and, Nat.add_assoc]

theorem Toks_at_append (s : P) (dp : Nat) (a b : List Tok) :
    Toks s (s.pos + dp) (a ++ b) ↔ Toks s (s.pos + dp) a ∧ Toks s (s.pos + (dp + a.length)) b := by
  rw [Toks_append, Nat.add_assoc]

theorem Toks_head {s : P} {q : Nat} {ts ts' : List Tok} {k : SyntaxKind} {j : Bool} (h : Toks s q ts) (e : ts = (k, j) :: ts') :
    s.kindAt q = k := by
  subst e; exact h.1

macro "tok_at" "[" hs:Lean.Parser.Tactic.simpLemma,* "]" " at " h:ident : tactic => `(tactic|
  simp only [Toks_at_zero, Toks_at_tk, Toks_at_append, Toks_at_nil, and_true, List.cons_append, List.nil_append,
    List.append_assoc, Nat.reduceAdd, $hs,*] at $h:ident)

theorem ov_rule {α} {x : G α} {a : α} {s : P} {E0 E : List Ev} {dp n st sb sbc lv : Nat} {pr : List Nat}
    (h : x (s.ov E0 dp st sb lv pr) = .ok (a, (s.ov E0 dp st sb lv pr).ov E n 0 sbc lv pr)) :
    x (s.ov E0 dp st sb lv pr) = .ok (a, s.ov (E0 ++ E) (dp + n) 0 sbc lv pr) := by
  rw [h, ov_ov]

theorem AccV.seq {α β} {x : G α} {y : α → G β} {a : α} {b : β} {s : P} {n1 n2 : Nat} {E1 E2 : List Ev}
    (h1 : AccV x a s n1 E1)
    (h2 : ∀ st sb, st ≤ s.steps → AccV (y a) b (s.ov E1 n1 st sb s.live s.protectedPos) n2 E2) :
    AccV (x >>= y) b s (n1 + n2) (E1 ++ E2) := by
  obtain ⟨st1, sb1, hle1, hx⟩ := h1
  obtain ⟨st2, sb2, hle2, hy⟩ := h2 st1 sb1 hle1
  refine ⟨st2, sb2, Nat.le_trans hle2 hle1, ?_⟩
  rw [G.bind_apply, hx]
  simp only
  rw [hy, ov_ov]
  rfl

/-- the tokens that end an expression inside our statements -/
def exprEnd (k : SyntaxKind) : Bool :=
  k == .SEMICOLON || k == .R_PAREN || k == .COMMA || k == .R_BRACK || k == .COLON

/-- `expr_bp` with the marker handed in by `expr_stmt` is `expr_bp` without it, started before
that marker was pushed -/
theorem exprBp_some (f : Nat) (r : Restrictions) (bp : Nat) (s : P) (hnp : s.noProgressLimit = 0)
    (E0 : List Ev) (dp st sb lv : Nat) (pr : List Nat) :
    exprBp (f + 1) (some { pos := s.events.size + E0.length }) r bp
        (s.ov (E0 ++ [.start .TOMBSTONE none]) dp st (sb + 1) (lv + 1) pr) =
      exprBp (f + 1) none r bp (s.ov E0 dp st sb lv pr) := by
  conv => lhs; rw [exprBp.run_2, G.bind_apply]
  conv => rhs; rw [exprBp.run_3, G.bind_apply]
  simp only [G.pure_apply]
  rw [start_ov _ _ _ _ _ _ _ hnp]

theorem ok_ov_congr {α} (a a' : α) (s : P) (E E' : List Ev) (n n' st sb lv : Nat) (pr : List Nat)
    (ha : a' = a) (hE : E' = E) (hn : n' = n) :
    (Except.ok (a', s.ov E' n' st sb lv pr) : Except Outcome (α × P)) = .ok (a, s.ov E n st sb lv pr) := by
  rw [ha, hE, hn]

open Oq3.LangEv2 in
/-- closes `ok (a', s.ov E' n' …) = ok (a, s.ov E n …)` where `E`, `n` are given by the encodings: the events by
unfolding the encodings, the token count by arithmetic -/
macro "ov_congr" : tactic => `(tactic| (
  refine ok_ov_congr _ _ _ _ _ _ _ _ _ _ _ ?_ ?_ ?_
  · first | rfl | omega | (simp only [List.length_cons, List.length_nil]; omega)
  · (try simp only [evsS, evsL, argEvs, argToks, qubitToks,
       evsS2, evsB, evsC, evsL2, evsQ, evsQs, evsMod, evsMods, parenEvs, tyEvsX, desigEvs, argListEvs, qlistEvs,
       wrapStmt, iterEvs, tyListEvs, nameEvs, gateCallInner, lhsP,
       evsX, evsXs, evsItem, evsItems, evsIdx, bodyP, bodyX, tyEvs, blockEvs, exprStmtTail, tombLink,
       Ty.kind, PTy.kind, qubitEvs, paramEvs, typedEvs, retEvs,
       List.cons_append, List.nil_append, List.append_assoc]); (try rfl)
  · (try simp only [toksS, toksL, argToks,
       toksS2, toksB, toksC, toksL2, toksQ, toksQs, toksMod, toksMods, parenToks, tyToksX, desigToks, argListToks,
       iterToks, tyListToks, lhsP,
       toksX, toksP, toksXs, toksItem, toksItems, toksIdx, tyToks, qubitToks, typedToks, retToks, tk,
       List.length_cons, List.length_nil, List.length_append]); (first | done | omega)))

/-- the final goal of a symbolic run: the two sides agree as they stand, or up to the encodings -/
macro "close_ov" : tactic => `(tactic| first | rfl | ov_congr)

set_option hygiene false in
/-- symbolic execution from the base state `s` (names `s`, `hr : Rdy _ s` of the enclosing lemma) -/
macro "run_base" "[" hs:Lean.Parser.Tactic.simpLemma,* "]" : tactic => `(tactic| (
  have hnp := hr.hook
  have hsteps := hr.steps
  have hst : s.steps ≤ s.stepLimit := by omega
  have hst1 : s.steps + 1 ≤ s.stepLimit := by omega
  have hpr := hr.prot
  refine ⟨?_, ?_, ?_, of_ov _ _ _ ?_⟩
  rotate_left 3
  · sym_eval [filter_base s hpr, contains_base s hpr, $hs,*]
    all_goals close_ov
  · first | exact Nat.zero_le _ | omega))

theorem operandFirst_ne_lit {k : SyntaxKind} (h : operandFirst k = true) :
    k ≠ .FLOAT_NUMBER ∧ k ≠ .BYTE ∧ k ≠ .CHAR ∧ k ≠ .STRING ∧ k ≠ .BIT_STRING := by
  simp only [operandFirst, Bool.or_eq_true, beq_iff_eq] at h
  rcases h with ((((h | h) | h) | h) | h) | h <;> subst h <;> decide

theorem varName_acc (s : P) (hr : Rdy 2 s) (h0 : s.kindAt (s.pos + 0) = .IDENT) :
    Acc varName s 1 [.start .NAME none, .token .IDENT 1, .finish] := by
  run_base [h0]

/-! A scalar type keyword `ty.kind` stays a variable in the runs: the grammar only asks whether it is a type, whether
it may take a designator, and compares it with tokens that are not scalar type keywords. -/

theorem Ty.kind_beq (ty : Ty) {k : SyntaxKind}
    (h : (k == .INT_TY || k == .UINT_TY || k == .FLOAT_TY || k == .ANGLE_TY || k == .BIT_TY || k == .BOOL_TY) = false) :
    (ty.kind == k) = false := by
  rw [beq_eq_false_iff_ne]; rintro rfl; cases ty <;> cases h

theorem Ty.isType (ty : Ty) : isType ty.kind = true := by cases ty <;> rfl

theorem Ty.isClassical (ty : Ty) : isClassicalType ty.kind = true := by cases ty <;> rfl

theorem Ty.notIn (ty : Ty) (ts : TokenSet)
    (h : [SyntaxKind.INT_TY, .UINT_TY, .FLOAT_TY, .ANGLE_TY, .BIT_TY, .BOOL_TY].all
      (fun k => !(decide (k.toNat < 128) && ts.contains k)) = true) :
    (decide (ty.kind.toNat < 128) && ts.contains ty.kind) = false := by
  simp only [List.all_cons, List.all_nil, Bool.and_true, Bool.and_eq_true, Bool.not_eq_true'] at h
  obtain ⟨h1, h2, h3, h4, h5, h6⟩ := h
  cases ty <;> assumption

theorem Ty.canHaveDesignator (ty : Ty) : typeCanHaveDesignator ty.kind = ty.wide := by cases ty <;> rfl

theorem Ty.bump_ov (ty : Ty) (s : P) (E : List Ev) (dp st sb lv : Nat) (pr : List Nat) (h : s.kindAt (s.pos + dp) = ty.kind) :
    bump ty.kind (s.ov E dp st sb lv pr) = .ok ((), s.ov (E ++ [.token ty.kind 1]) (dp + 1) 0 1 lv pr) := by
  rw [Oq3.Parser.bump_ov s E dp st sb lv pr ty.kind (by cases ty <;> rfl) (by cases ty <;> rfl), h]
  simp only [beq_self_eq_true, if_true]

theorem typeSpec_plain (ty : Ty) (f : Nat) (s : P) (hr : Rdy 2 s) (h0 : s.kindAt (s.pos + 0) = ty.kind)
    (h1 : s.kindAt (s.pos + 1) ≠ .L_BRACK) :
    AccV (typeSpec (f + 3)) true s 1 (tyEvs ty none) := by
  run_base [h0, h1, ty.kind_beq, ty.isType, ty.bump_ov]

theorem qubitToks_length (n : Nat) : (qubitToks n).length = 2 * n + 1 := by
  induction n with
  | zero => rfl
  | succ n ih => simp only [qubitToks, List.length_cons, ih]; omega

def argsNeed : List E → Nat
  | [] => 0
  | a :: as => max (6 * size a + 3) (argsNeed as + 1)

end Oq3.LangEv
