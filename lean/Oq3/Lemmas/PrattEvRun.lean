/-
Event-level Pratt round trip: the run of `expr_bp` on the print of a tree.

`exprBp_cps` (continuation form, by induction on the tree): parsing `toks t` at level `bp` is the same
as pushing `evs t` and continuing the operator loop of `expr_bp` with `lhs` = the root of `t` — the
event-level version of lemma `Q` of `Props/C05.lean`.  The straight-line parts of the runs are
computed by `sym_eval`; the recursive calls enter as rewrite rules.
-/
import Oq3.Lemmas.PrattEvOps
import Oq3.Lemmas.SymTactic
set_option linter.unusedSimpArgs false
set_option linter.unusedVariables false

namespace Oq3.PrattEv
open Oq3.Gen Oq3.Parser Oq3.Grammar Oq3.SymExec
open Oq3.Gen.Ops (Assoc)

/-- the loop of `expr_bp` run at level `bp` stops at (absolute) position `q`: `current_op` there
has a binding power below `bp` (`opF` is `current_op`, see `currentOp_eq`) -/
def StopsAt (s : P) (q bp : Nat) : Prop := (opF s.kinds s.joint q).1 < bp

/-- along the right spine of the tree every pending loop stops at `q` -/
def RightStops : E → P → Nat → Prop
  | .bin o _ r, s, q => StopsAt s q (o.pow + 1) ∧ RightStops r s q
  | .pre _ e, s, q => StopsAt s q 255 ∧ RightStops e s q
  | _, _, _ => True

/-- what the token after the tree must not be, besides an operator: a postfix opener (`(` call,
`[` index) after any atom; an identifier or hardware identifier after an identifier (`atom_expr` would
start a gate call)
or after a literal (`literal` would make a timing literal) -/
def EndOK (t : E) (k : SyntaxKind) : Prop :=
  k ≠ .L_PAREN ∧ k ≠ .L_BRACK ∧
    match last t with
    | .id => k ≠ .IDENT ∧ k ≠ .HARDWAREIDENT
    | .int => k ≠ .IDENT
    | .paren => True

/-- canonical at level `bp` for the implementation's table (`canonE_iff` in `Props/C05Events.lean`:
this is `Oq3.Props.C05.Canon implTab bp t.toPratt`) -/
def CanonE : Nat → E → Prop
  | _, .id => True
  | _, .int => True
  | _, .paren e => CanonE 1 e
  | _, .pre _ e => CanonE 255 e
  | bp, .bin o l r =>
      bp ≤ o.pow ∧ CanonE (o.pow + 1) r ∧
      (match l with
        | .bin o' _ _ => o.pow < o'.pow + 1 ∧ CanonE bp l
        | _ => CanonE bp l)

/-- the tokens, the token after them and the pending loops, at absolute position `q` -/
structure Fits (t : E) (s : P) (q : Nat) : Prop where
  tk : Toks s q (toks t)
  endOK : EndOK t (s.kindAt (q + (toks t).length))
  right : RightStops t s (q + (toks t).length)

theorem toks_first (t : E) : ∃ k j ts, toks t = (k, j) :: ts ∧ operandFirst k = true := by
  induction t with
  | id => exact ⟨_, _, _, rfl, rfl⟩
  | int => exact ⟨_, _, _, rfl, rfl⟩
  | pre o e ih => cases o <;> exact ⟨_, _, _, rfl, rfl⟩
  | paren e ih => exact ⟨_, _, _, rfl, rfl⟩
  | bin o l r ihl ihr =>
    obtain ⟨k, j, ts, h, hk⟩ := ihl
    exact ⟨k, j, ts ++ (o.toks ++ toks r), by simp [toks, h], hk⟩

theorem toks_pos (t : E) : 1 ≤ (toks t).length := by
  obtain ⟨k, j, ts, h, _⟩ := toks_first t
  rw [h]; simp

theorem rootOff_lt (t : E) : rootOff t + 1 < len t := by
  cases t with
  | bin o l r => have := len_pos l; have := len_pos r; simp only [rootOff, len]; omega
  | _ => simp only [rootOff, len] <;> first | omega | (have := len_pos ‹E›; omega)

theorem body_root (t : E) (fp : Option Nat) : (body t fp)[rootOff t]? = some (.start t.kind fp) := by
  cases t with
  | bin o l r =>
    have h := body_length l (some (len l - 1 - rootOff l))
    rw [show rootOff (E.bin o l r) = len l - 1 from rfl]
    simp only [body, E.kind]
    rw [List.getElem?_append_right (by omega)]
    rw [show len l - 1 - (body l (some (len l - 1 - rootOff l))).length = 0 by omega]
    rfl
  | _ => rfl

theorem body_set_root (t : E) (fp fp' : Option Nat) :
    (body t fp).set (rootOff t) (.start t.kind fp') = body t fp' := by
  cases t with
  | bin o l r =>
    have h := body_length l (some (len l - 1 - rootOff l))
    rw [show rootOff (E.bin o l r) = len l - 1 from rfl]
    simp only [body, E.kind]
    rw [List.set_append_right _ _ (by omega)]
    rw [show len l - 1 - (body l (some (len l - 1 - rootOff l))).length = 0 by omega]
    rfl
  | _ => rfl

theorem evs_root (t : E) : (evs t)[rootOff t + 1]? = some (.start t.kind none) := by
  simp only [evs, List.getElem?_cons_succ, body_root]

theorem evs_set_root (t : E) (fp : Option Nat) :
    (evs t).set (rootOff t + 1) (.start t.kind fp) = tombLink :: body t fp := by
  simp only [evs, List.set_cons_succ, body_set_root]

def _root_.Oq3.Parser.P.setEv (s : P) (i : Nat) (e : Ev) : P := { s with events := s.events.set! i e }

@[simp] theorem setEv_kindAt (s : P) (i : Nat) (e : Ev) (j : Nat) : (s.setEv i e).kindAt j = s.kindAt j := rfl
@[simp] theorem setEv_pos (s : P) (i : Nat) (e : Ev) : (s.setEv i e).pos = s.pos := rfl
@[simp] theorem setEv_kinds (s : P) (i : Nat) (e : Ev) : (s.setEv i e).kinds = s.kinds := rfl
@[simp] theorem setEv_joint (s : P) (i : Nat) (e : Ev) : (s.setEv i e).joint = s.joint := rfl
@[simp] theorem setEv_npl (s : P) (i : Nat) (e : Ev) : (s.setEv i e).noProgressLimit = s.noProgressLimit := rfl
@[simp] theorem setEv_stepLimit (s : P) (i : Nat) (e : Ev) : (s.setEv i e).stepLimit = s.stepLimit := rfl
@[simp] theorem setEv_size (s : P) (i : Nat) (e : Ev) : (s.setEv i e).events.size = s.events.size := by
  simp [P.setEv]

theorem setEv_ov (s : P) (E : List Ev) (i : Nat) (e : Ev) (dp st sb lv : Nat) (pr : List Nat) :
    (s.ov E dp st sb lv pr).setEv (s.events.size + i) e = s.ov (E.set i e) dp st sb lv pr := by
  simp only [P.ov, P.setEv, ov_set]

theorem setEv_ov_ov (s : P) (A B : List Ev) (i : Nat) (e : Ev) (da sa ba la db sb bb lb : Nat)
    (pa pb : List Nat) :
    ((s.ov A da sa ba la pa).setEv (s.events.size + i) e).ov B db sb bb lb pb =
      s.ov (A.set i e ++ B) (da + db) sb bb lb pb := by
  rw [setEv_ov, ov_ov]

@[simp] theorem ov_kindAt (s : P) (E : List Ev) (dp st sb lv : Nat) (pr : List Nat) (j : Nat) :
    (s.ov E dp st sb lv pr).kindAt j = s.kindAt j := rfl

theorem Toks_kinds (s s' : P) (hk : s'.kinds = s.kinds) (hj : s'.joint = s.joint) (q : Nat)
    (ts : List (SyntaxKind × Bool)) : Toks s' q ts ↔ Toks s q ts := by
  induction ts generalizing q with
  | nil => simp [Toks]
  | cons x xs ih => obtain ⟨k, j⟩ := x; simp only [Toks, ih, P.kindAt, hk, hj]

theorem Toks_ov (s : P) (E0 : List Ev) (dp st sb lv : Nat) (pr : List Nat) (q : Nat)
    (ts : List (SyntaxKind × Bool)) : Toks (s.ov E0 dp st sb lv pr) q ts ↔ Toks s q ts :=
  Toks_kinds s (s.ov E0 dp st sb lv pr) rfl rfl q ts

theorem StopsAt_kinds (s s' : P) (hk : s'.kinds = s.kinds) (hj : s'.joint = s.joint) (q bp : Nat) :
    StopsAt s' q bp ↔ StopsAt s q bp := by
  simp only [StopsAt, hk, hj]

theorem RightStops_kinds (s s' : P) (hk : s'.kinds = s.kinds) (hj : s'.joint = s.joint) (t : E) (q : Nat) :
    RightStops t s' q ↔ RightStops t s q := by
  induction t with
  | bin o l r ihl ihr => simp only [RightStops, ihr, StopsAt_kinds s s' hk hj]
  | pre o e ih => simp only [RightStops, ih, StopsAt_kinds s s' hk hj]
  | _ => simp only [RightStops]

theorem Fits_kinds (s s' : P) (hk : s'.kinds = s.kinds) (hj : s'.joint = s.joint) (t : E) (q : Nat) :
    Fits t s' q ↔ Fits t s q := by
  constructor
  · rintro ⟨a, b, c⟩
    exact ⟨(Toks_kinds s s' hk hj _ _).1 a, by simpa only [P.kindAt, hk] using b,
      (RightStops_kinds s s' hk hj _ _).1 c⟩
  · rintro ⟨a, b, c⟩
    exact ⟨(Toks_kinds s s' hk hj _ _).2 a, by simpa only [P.kindAt, hk] using b,
      (RightStops_kinds s s' hk hj _ _).2 c⟩

/-- `CompletedMarker::precede` on a marker that lies in the base part of an overlay state -/
theorem precede_base (s : P) (hnp : s.noProgressLimit = 0) (p : Nat) (k kc : SyntaxKind)
    (fp0 : Option Nat) (hp : s.events[p]? = some (.start k fp0))
    (E : List Ev) (dp st sb lv : Nat) (pr : List Nat) :
    CompletedMarker.precede ⟨p, kc⟩ (s.ov E dp st sb lv pr) =
      .ok ({ pos := s.events.size + E.length, isFp := true },
        (s.setEv p (.start k (some (s.events.size + E.length - p)))).ov
          (E ++ [.start .TOMBSTONE none]) dp st (sb + 1) (lv + 1) ((s.events.size + E.length) :: pr)) := by
  have hlt : p < s.events.size := by
    rcases Nat.lt_or_ge p s.events.size with h | h
    · exact h
    · rw [Array.getElem?_eq_none h] at hp; cases hp
  rw [precede_eq, hookTrip_ov s E dp st sb lv pr hnp]
  simp only [Bool.false_eq_true, if_false]
  have h1 : (s.ov E dp st sb lv pr).started.events[p]? = some (.start k fp0) := by
    simp only [P.started, P.ov, ov_push]
    rw [Array.getElem?_append_left hlt]; exact hp
  rw [h1]
  have h2 : ¬ ((s.ov E dp st sb lv pr).events.size < p) := by
    simp only [P.ov, ov_size]; omega
  simp only [h2, if_false]
  simp only [P.started, P.ov, P.setEv, ov_push, ov_size, Ev.tombstone]
  congr 2
  simp only [P.mk.injEq, true_and, and_true]
  apply Array.ext'
  simp [Array.set!, List.set_append_left, hlt]

theorem loop_stop (s : P) (E : List Ev) (dp st sb lv : Nat) (pr : List Nat) (g bp : Nat)
    (r : Restrictions) (cm : CompletedMarker) (h : StopsAt s (s.pos + dp) bp) :
    exprBpLoop (g + 1) r bp cm (s.ov E dp st sb lv pr) =
      .ok (some (cm, .notBlock), s.ov E dp st sb lv pr) := by
  unfold StopsAt at h
  have hcur := currentOp_ov s E dp st sb lv pr
  generalize opF s.kinds s.joint (s.pos + dp) = x at h hcur
  obtain ⟨pw, op, as⟩ := x
  have hlt : (pw < bp) = True := eq_true h
  show _ = _
  sym_eval [hcur, hlt]
  rfl

theorem loop_iter (s : P) (hnp : s.noProgressLimit = 0) (hpr : ∀ p ∈ s.protectedPos, p < s.events.size)
    (p : Nat) (k kc : SyntaxKind) (fp0 : Option Nat) (hp : s.events[p]? = some (.start k fp0))
    (o : BinOp) (ho : Toks s s.pos o.toks) (hnext : NoSecond (s.kindAt (s.pos + o.pieces.length)))
    (bp : Nat) (hbp : bp ≤ o.pow) (f : Nat) (r' : Restrictions)
    (cmr : CompletedMarker) (Er : List Ev) (nr sbr : Nat)
    (hr : exprBp f none { preferStmt := false } (o.pow + 1)
        ((s.setEv p (Ev.start k (some (s.events.size + 0 - p)))).ov
          [Ev.start SyntaxKind.TOMBSTONE none, Ev.token o.kind o.pieces.length] (0 + o.pieces.length) 0 1 (s.live + 1)
          ((s.events.size + 0) :: s.protectedPos)) =
      .ok (some (cmr, .notBlock), (s.setEv p (Ev.start k (some (s.events.size + 0 - p)))).ov
          ([Ev.start SyntaxKind.TOMBSTONE none, Ev.token o.kind o.pieces.length] ++ Er) (0 + o.pieces.length + nr) 0 sbr
          (s.live + 1) ((s.events.size + 0) :: s.protectedPos)))
    (a) (S'' : P)
    (hk : exprBpLoop f r' bp { pos := s.events.size + 0, kind := SyntaxKind.BIN_EXPR }
        ((s.setEv p (Ev.start k (some (s.events.size + 0 - p)))).ov
          (Ev.start SyntaxKind.BIN_EXPR none :: Ev.token o.kind o.pieces.length :: (Er ++ [Ev.finish]))
          (0 + o.pieces.length + nr) 0 (sbr + 1) s.live s.protectedPos) = .ok (a, S'')) :
    exprBpLoop (f + 1) r' bp ⟨p, kc⟩ s = .ok (a, S'') := by
  have hcur : ∀ E st sb lv pr, currentOp (s.ov E 0 st sb lv pr) =
      .ok ((o.pow, o.kind, Assoc.left), s.ov E 0 st sb lv pr) := by
    intro E st sb lv pr
    rw [currentOp_ov, opF_binop o s (s.pos + 0) ho hnext]
  have hlt : (o.pow < bp) = False := eq_false (by omega)
  have hpre := precede_base s hnp p k kc fp0 hp
  have hbump := fun E st sb lv pr => bump_atF_ov o.kind o.kind_ne_eof (s.setEv p (.start k (some (s.events.size + 0 - p)))) E 0 st sb lv pr
    (atF_binop o s (s.pos + 0) ho)
  simp only [o.eatRaw] at hbump
  have hcomp := fun E dp st sb lv pr i b kind =>
    complete_ov (s.setEv p (.start k (some (s.events.size + 0 - p)))) E dp st sb lv pr hnp i b kind
  simp only [setEv_size] at hcomp
  apply of_ov
  sym_eval [hcur, hlt, hpre, hbump, hr, hcomp, hk, o.kind_ne_eq, setEv_size, setEv_kindAt, setEv_pos, setEv_npl, setEv_stepLimit,
    filter_base s hpr, contains_base s hpr, bne_self_eq_false]
  rfl

/-- `loop_iter` from the state after the left operand: the events `El` of the left operand (root
`Start` at offset `i`) are the overlay, and `precede` relinks the root in place -/
theorem loop_iter_ov (s : P) (hnp : s.noProgressLimit = 0) (hpr : ∀ p ∈ s.protectedPos, p < s.events.size)
    (El : List Ev) (nl sbl i : Nat) (k : SyntaxKind) (hEl : El[i]? = some (.start k none))
    (o : BinOp) (ho : Toks s (s.pos + nl) o.toks) (hnext : NoSecond (s.kindAt (s.pos + nl + o.pieces.length)))
    (bp : Nat) (hbp : bp ≤ o.pow) (f : Nat) (r' : Restrictions) (cmr : CompletedMarker) (Er : List Ev) (nr sbr : Nat)
    (hr : exprBp f none { preferStmt := false } (o.pow + 1)
        (s.ov (El.set i (.start k (some (El.length - i))) ++ [.start .TOMBSTONE none, .token o.kind o.pieces.length])
          (nl + o.pieces.length) 0 1 (s.live + 1) ((s.events.size + El.length) :: s.protectedPos)) =
      .ok (some (cmr, .notBlock),
        s.ov (El.set i (.start k (some (El.length - i))) ++ [.start .TOMBSTONE none, .token o.kind o.pieces.length] ++ Er)
          (nl + o.pieces.length + nr) 0 sbr (s.live + 1) ((s.events.size + El.length) :: s.protectedPos)))
    (a) (S'' : P)
    (hk : exprBpLoop f r' bp ⟨s.events.size + El.length, .BIN_EXPR⟩
        (s.ov (El.set i (.start k (some (El.length - i))) ++
            (.start .BIN_EXPR none :: .token o.kind o.pieces.length :: (Er ++ [.finish])))
          (nl + o.pieces.length + nr) 0 (sbr + 1) s.live s.protectedPos) = .ok (a, S'')) :
    exprBpLoop (f + 1) r' bp ⟨s.events.size + i, k⟩ (s.ov El nl 0 sbl s.live s.protectedPos) = .ok (a, S'') := by
  have e : s.events.size + El.length + 0 - (s.events.size + i) = El.length - i := by omega
  refine loop_iter (s.ov El nl 0 sbl s.live s.protectedPos) hnp (fun p hp => ?_) (s.events.size + i) k k none ?_ o
    ((Toks_ov _ _ _ _ _ _ _ _ _).2 ho) hnext bp hbp f r' cmr Er nr sbr ?_ a S'' ?_
  · rw [ov_events_size]; exact Nat.lt_add_right _ (hpr p hp)
  · rw [ov_events_get]; exact hEl
  · rw [setEv_ov_ov, setEv_ov_ov, ov_events_size, e, Nat.zero_add, Nat.add_zero, ← List.append_assoc, ← Nat.add_assoc]
    exact hr
  · rw [setEv_ov_ov, ov_events_size, e, Nat.zero_add, Nat.add_zero, ← Nat.add_assoc]
    exact hk

/-- continuation form of the round trip for one tree, from a base state -/
def MBase (t : E) : Prop :=
  ∀ (bp f : Nat) (r : Restrictions) (s : P) (a : Option (CompletedMarker × BlockLike)) (S'' : P),
    s.noProgressLimit = 0 → s.steps ≤ s.stepLimit → (∀ p ∈ s.protectedPos, p < s.events.size) →
    Fits t s s.pos → CanonE bp t → need t ≤ f →
    exprBpLoop f r bp ⟨s.events.size + (rootOff t + 1), t.kind⟩
      (s.ov (evs t) (toks t).length 0 (sbOf t) s.live s.protectedPos) = .ok (a, S'') →
    exprBp (f + cF t) none r bp s = .ok (a, S'')

/-- value form of the round trip for one tree, from an overlay state -/
def VOv (t : E) : Prop :=
  ∀ (bp f : Nat) (r : Restrictions) (s : P) (E0 : List Ev) (dp st sb lv : Nat) (pr : List Nat),
    s.noProgressLimit = 0 → st ≤ s.stepLimit → (∀ p ∈ pr, p < s.events.size + E0.length) →
    Fits t s (s.pos + dp) → CanonE bp t → StopsAt s (s.pos + dp + (toks t).length) bp →
    need t + cF t ≤ f →
    exprBp f none r bp (s.ov E0 dp st sb lv pr) =
      .ok (some (⟨s.events.size + E0.length + (rootOff t + 1), t.kind⟩, .notBlock),
        s.ov (E0 ++ evs t) (dp + (toks t).length) 0 (sbOf t) lv pr)

theorem VOv_of_MBase (t : E) (h : MBase t) : VOv t := by
  intro bp f r s E0 dp st sb lv pr hnp hst hpr hfit hcan hstop hf
  have hn := need_ge t
  obtain ⟨g, rfl⟩ : ∃ g, f = (g + 1) + cF t := ⟨f - cF t - 1, by omega⟩
  have e1 : (s.ov E0 dp st sb lv pr).events.size = s.events.size + E0.length := ov_size _ _
  have hfit' : Fits t (s.ov E0 dp st sb lv pr) (s.ov E0 dp st sb lv pr).pos :=
    (Fits_kinds s (s.ov E0 dp st sb lv pr) rfl rfl t _).2 hfit
  have hstop' : StopsAt (s.ov E0 dp st sb lv pr) ((s.ov E0 dp st sb lv pr).pos + (toks t).length) bp :=
    (StopsAt_kinds s (s.ov E0 dp st sb lv pr) rfl rfl _ _).2 hstop
  have := h bp (g + 1) r (s.ov E0 dp st sb lv pr) _ _ hnp hst (by rw [e1]; exact hpr) hfit' hcan (by omega)
    (loop_stop (s.ov E0 dp st sb lv pr) (evs t) (toks t).length 0 (sbOf t) lv pr g bp r _ hstop')
  rw [this, ov_ov, e1]

theorem M_id : MBase .id := by
  intro bp f r s a S'' hnp hst hpr hfit hcan hf hloop
  obtain ⟨g, rfl⟩ : ∃ g, f = g + 2 := ⟨f - 2, by simp only [need] at hf; omega⟩
  obtain ⟨⟨h0, -, -⟩, ⟨e3, e4, e1, e2⟩, -⟩ := hfit
  have hloop' : exprBpLoop (g + 2) r bp ⟨s.events.size + 1, .IDENTIFIER⟩
      (s.ov [.start .TOMBSTONE (some 1), .start .IDENTIFIER none, .token .IDENT 1, .finish] 1 0 2
        s.live s.protectedPos) = .ok (a, S'') := hloop
  rw [show s.pos = s.pos + 0 from rfl] at h0
  change s.kindAt (s.pos + 1) ≠ _ at e1 e2 e3 e4
  show exprBp (g + 2 + 1) none r bp s = _
  apply of_ov
  sym_eval [filter_base s hpr, contains_base s hpr, h0, e1, e2, e3, e4, hloop']
  rfl

theorem M_int : MBase .int := by
  intro bp f r s a S'' hnp hst hpr hfit hcan hf hloop
  obtain ⟨g, rfl⟩ : ∃ g, f = g + 2 := ⟨f - 2, by simp only [need] at hf; omega⟩
  obtain ⟨⟨h0, -, -⟩, ⟨e3, e4, e1⟩, -⟩ := hfit
  have hloop' : exprBpLoop (g + 2) r bp ⟨s.events.size + 1, .LITERAL⟩
      (s.ov [.start .TOMBSTONE (some 1), .start .LITERAL none, .token .INT_NUMBER 1, .finish] 1 0 2
        s.live s.protectedPos) = .ok (a, S'') := hloop
  rw [show s.pos = s.pos + 0 from rfl] at h0
  change s.kindAt (s.pos + 1) ≠ _ at e1 e3 e4
  show exprBp (g + 2 + 1) none r bp s = _
  apply of_ov
  sym_eval [filter_base s hpr, contains_base s hpr, h0, e1, e3, e4, hloop']
  rfl


theorem M_pre (o : PreOp) (e : E) (ih : MBase e) : MBase (.pre o e) := by
  intro bp f r s a S'' hnp hst hpr hfit hcan hf hloop
  obtain ⟨g, rfl⟩ : ∃ g, f = g + 1 := ⟨f - 1, by simp only [need] at hf; omega⟩
  have hg : need e + cF e ≤ g := by simp only [need] at hf; omega
  obtain ⟨htk, hend, hright⟩ := hfit
  simp only [toks, Toks, List.length_cons] at htk hend hright
  obtain ⟨h0, -, htk⟩ := htk
  have hfit' : Fits e s (s.pos + 1) :=
    ⟨htk, by rw [Nat.add_assoc, Nat.add_comm 1]; exact hend,
      by rw [Nat.add_assoc, Nat.add_comm 1]; exact hright.2⟩
  have hpr' : ∀ n, ∀ p ∈ s.protectedPos, p < s.events.size + n := fun n p hp => Nat.lt_add_right n (hpr p hp)
  have hsub := fun st sb lv E0 h1 => VOv_of_MBase e ih 255 g r s E0 1 st sb lv s.protectedPos hnp h1 (hpr' _) hfit' hcan
    (by rw [Nat.add_assoc, Nat.add_comm 1]; exact hright.1) hg
  rw [show s.pos = s.pos + 0 from rfl] at h0
  have hloop' : exprBpLoop (g + 1) r bp ⟨s.events.size + 1, .PREFIX_EXPR⟩
      (s.ov (.start .TOMBSTONE (some 1) :: .start .PREFIX_EXPR none :: .token o.kind 1 :: (evs e ++ [.finish]))
        (1 + (toks e).length) 0 (sbOf e + 1) s.live s.protectedPos) = .ok (a, S'') := by
    rw [show (toks (.pre o e)).length = 1 + (toks e).length from by simp only [toks, List.length_cons, Nat.add_comm]]
      at hloop
    exact hloop
  show exprBp (g + 1 + 1) none r bp s = _
  apply of_ov
  -- the operator stays a variable: the run asks `o.kind_props` of it
  obtain ⟨f1, f2, f3⟩ := o.kind_props
  sym_eval [filter_base s hpr, contains_base s hpr, h0, f1, f2, f3, hsub, hloop']
  rfl

theorem rightStops_zero (t : E) (s : P) (q : Nat) (h : (opF s.kinds s.joint q).1 = 0) : RightStops t s q := by
  induction t with
  | bin o l r ihl ihr => exact ⟨by unfold StopsAt; omega, ihr⟩
  | pre o e ih => exact ⟨by unfold StopsAt; omega, ih⟩
  | _ => trivial

theorem M_paren (e : E) (ih : MBase e) : MBase (.paren e) := by
  intro bp f r s a S'' hnp hst hpr hfit hcan hf hloop
  obtain ⟨g, rfl⟩ : ∃ g, f = g + 5 := ⟨f - 5, by simp only [need] at hf; omega⟩
  have hg : need e + cF e ≤ g := by simp only [need] at hf; omega
  obtain ⟨htk, hend, hright⟩ := hfit
  simp only [toks, Toks, List.length_cons, List.length_append, List.length_nil, Toks_append] at htk hend
  obtain ⟨h0, -, htk, hrp, -, -⟩ := htk
  have hop : opF s.kinds s.joint (s.pos + 1 + (toks e).length) = notAnOp :=
    opF_nonop _ _ _ (by rw [show s.kinds.getD _ .EOF = _ from hrp]; decide)
  have hfit' : Fits e s (s.pos + 1) :=
    ⟨htk, by rw [hrp]; unfold EndOK; refine ⟨by decide, by decide, ?_⟩; cases last e <;> simp,
      rightStops_zero e s _ (by rw [hop]; rfl)⟩
  have hpr' : ∀ n, ∀ p ∈ s.protectedPos, p < s.events.size + n := fun n p hp => Nat.lt_add_right n (hpr p hp)
  have hsub := fun st sb lv E0 h1 => VOv_of_MBase e ih 1 g { preferStmt := false } s E0 1 st sb lv s.protectedPos hnp h1 (hpr' _) hfit' hcan
    (by unfold StopsAt; rw [hop]; decide) hg
  rw [show s.pos = s.pos + 0 from rfl] at h0
  obtain ⟨k1, j1, ts, hts, hk1⟩ := toks_first e
  rw [hts] at htk
  obtain ⟨h1, -, -⟩ := htk
  rw [Nat.add_assoc] at hrp
  have hend' : EndOK (.paren e) (s.kindAt (s.pos + (1 + (toks e).length + 1))) := by
    rw [show 1 + (toks e).length + 1 = (toks e).length + 1 + 1 by omega]; exact hend
  obtain ⟨e3, e4, -⟩ := hend'
  have hE : evs (.paren e) = .start .TOMBSTONE (some 1) :: .start .PAREN_EXPR none :: .token .L_PAREN 1 ::
      (evs e ++ [.token .R_PAREN 1] ++ [.finish]) := by
    simp only [evs, body, tombLink, List.cons_append, List.nil_append, List.append_assoc]
  have hn : (toks (.paren e)).length = 1 + (toks e).length + 1 := by
    simp only [toks, List.length_cons, List.length_append, List.length_nil]; omega
  rw [hE, hn] at hloop
  have hloop' : exprBpLoop (g + 5) r bp ⟨s.events.size + 1, .PAREN_EXPR⟩
      (s.ov (.start .TOMBSTONE (some 1) :: .start .PAREN_EXPR none :: .token .L_PAREN 1 ::
        (evs e ++ [.token .R_PAREN 1] ++ [.finish])) (1 + (toks e).length + 1) 0 2 s.live s.protectedPos) =
      .ok (a, S'') := hloop
  show exprBp (g + 5 + 1) none r bp s = _
  apply of_ov
  obtain ⟨c1, c2, -, c3, -⟩ := operandFirst_ne_close (h1 ▸ hk1)
  have b1 := beq_false_of_ne c1
  have b2 := beq_false_of_ne c2
  have b3 := beq_false_of_ne c3
  show _ = _
  sym_eval [filter_base s hpr, contains_base s hpr, h0, b1, b2, b3, hrp, e3, e4, hsub, hloop']
  rfl

theorem stopsAt_mono (s : P) (q b b' : Nat) (h : StopsAt s q b) (hb : b ≤ b') : StopsAt s q b' := by
  unfold StopsAt at *; omega

/-- canonical trees: a weaker operator after the tree stops every pending loop -/
theorem rightStops_of_canon (t : E) (b : Nat) (s : P) (q : Nat) (hc : CanonE b t)
    (h : StopsAt s q b) (hb : b ≤ 255) : RightStops t s q := by
  induction t generalizing b with
  | id => trivial
  | int => trivial
  | paren e ih => trivial
  | pre o e ih =>
    simp only [CanonE] at hc
    exact ⟨stopsAt_mono s q b 255 h hb, ih 255 hc (stopsAt_mono s q b 255 h hb) (Nat.le_refl _)⟩
  | bin o l r ihl ihr =>
    simp only [CanonE] at hc
    have h' := stopsAt_mono s q b (o.pow + 1) h (by omega)
    exact ⟨h', ihr (o.pow + 1) hc.2.1 h' (by have := o.pow_lt; omega)⟩

theorem M_bin (o : BinOp) (l r : E) (ihl : MBase l) (ihr : MBase r) : MBase (.bin o l r) := by
  intro bp f r' s a S'' hnp hst hpr hfit hcan hf hloop
  simp only [need] at hf
  obtain ⟨htk, hend, hright⟩ := hfit
  simp only [toks, Toks_append, List.length_append, BinOp.pieces_length] at htk hend hright
  obtain ⟨htl, hto, htr⟩ := htk
  simp only [CanonE] at hcan
  obtain ⟨hbp, hcr, hcl⟩ := hcan
  obtain ⟨kr, jr, tsr, htsr, hkr⟩ := toks_first r
  have hnext : NoSecond (s.kindAt (s.pos + (toks l).length + o.pieces.length)) := by
    rw [htsr] at htr; rw [htr.1]; exact operandFirst_ne hkr
  have hop := opF_binop o s _ hto hnext
  have hcl' : CanonE bp l := by cases l <;> first | exact hcl | exact hcl.2
  have hfitl : Fits l s s.pos := by
    refine ⟨htl, ?_, ?_⟩
    · obtain ⟨k, j, ts, hk, h1, h2, h3, h4⟩ := o.first_tok
      rw [hk] at hto
      rw [hto.1]
      unfold EndOK
      refine ⟨h1, h2, ?_⟩
      cases last l
      · exact ⟨h3, h4⟩
      · exact h3
      · trivial
    · cases l with
      | id => trivial
      | int => trivial
      | paren e => trivial
      | pre o' e' =>
        simp only [CanonE] at hcl
        have h255 : StopsAt s (s.pos + (toks (E.pre o' e')).length) 255 := by
          unfold StopsAt; rw [hop]; exact o.pow_lt
        exact ⟨h255, rightStops_of_canon e' 255 s _ hcl h255 (Nat.le_refl _)⟩
      | bin o' l' r' =>
        obtain ⟨hlt, hcl2⟩ := hcl
        simp only [CanonE] at hcl2
        have hs : StopsAt s (s.pos + (toks (E.bin o' l' r')).length) (o'.pow + 1) := by
          unfold StopsAt; rw [hop]; exact hlt
        exact ⟨hs, rightStops_of_canon r' (o'.pow + 1) s _ hcl2.2.1 hs (by have := o'.pow_lt; omega)⟩
  show exprBp (f + (cF l + 1)) none r' bp s = _
  rw [show f + (cF l + 1) = (f + 1) + cF l by omega]
  apply ihl bp (f + 1) r' s a S'' hnp hst hpr hfitl hcl' (by omega)
  -- one iteration of the loop, from the state after the left operand
  have hlen := len_pos l
  have hroot := rootOff_lt l
  have hfitr : Fits r s (s.pos + (toks l).length + o.pieces.length) :=
    ⟨htr, by rw [Nat.add_assoc, Nat.add_assoc]; exact hend,
      by rw [Nat.add_assoc, Nat.add_assoc]; exact hright.2⟩
  have hstopr : StopsAt s (s.pos + (toks l).length + o.pieces.length + (toks r).length) (o.pow + 1) := by
    rw [Nat.add_assoc, Nat.add_assoc]; exact hright.1
  refine loop_iter_ov s hnp hpr (evs l) _ _ _ l.kind (evs_root l) o hto hnext bp hbp f r' _ (evs r) (toks r).length (sbOf r)
    (VOv_of_MBase r ihr (o.pow + 1) f _ s _ _ 0 1 _ _ hnp (Nat.zero_le _) ?_ (by rw [← Nat.add_assoc]; exact hfitr) hcr
      (by rw [← Nat.add_assoc]; exact hstopr) (by omega)) a S'' ?_
  · intro p hp
    simp only [List.length_append, List.length_set, List.length_cons, List.length_nil]
    rcases List.mem_cons.1 hp with h | h
    · omega
    · have := hpr p h; omega
  · have eE : (evs l).set (rootOff l + 1) (.start l.kind (some ((evs l).length - (rootOff l + 1)))) ++
        (.start .BIN_EXPR none :: .token o.kind o.pieces.length :: (evs r ++ [.finish])) = evs (.bin o l r) := by
      rw [evs_set_root, evs_length, show len l - (rootOff l + 1) = len l - 1 - rootOff l by omega]
      simp only [evs, body, List.cons_append, List.nil_append, List.append_assoc]
    have eN : (toks l).length + o.pieces.length + (toks r).length = (toks (.bin o l r)).length := by
      simp only [toks, List.length_append, BinOp.pieces_length]; omega
    have eP : s.events.size + (evs l).length = s.events.size + (rootOff (.bin o l r) + 1) := by
      rw [evs_length]; show _ = s.events.size + (len l - 1 + 1); omega
    rw [eE, eN, eP]
    exact hloop

/-- **continuation form of the event-level round trip**: parsing the print of `t` at level `bp`
pushes `evs t` and continues the loop of `expr_bp` with the root of `t` as `lhs` -/
theorem exprBp_cps (t : E) : MBase t := by
  induction t with
  | id => exact M_id
  | int => exact M_int
  | bin o l r ihl ihr => exact M_bin o l r ihl ihr
  | pre o e ih => exact M_pre o e ih
  | paren e ih => exact M_paren e ih

end Oq3.PrattEv
