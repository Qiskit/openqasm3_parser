/- GENERATED by /verif/tools/gen_grammar_safe.py from Oq3/Model/Grammar.lean — the proofs are checked by Lean. -/
import Oq3.Lemmas.GrammarSafeMark0
set_option linter.unusedVariables false

namespace Oq3.Grammar
open Oq3.Gen Oq3.Parser
open Oq3.Gen.Ops (Assoc)
open Oq3.Gen.TokenSets

theorem delimited_mw {fuel : Nat} (ih : AllMark fuel) (bra ket : SyntaxKind) (consumeBraket : Bool) (delim : SyntaxKind) (firstSet : TokenSet) (parser : DelimitedParser) :
    Walk0 (Oq3.Grammar.delimited (fuel + 1) bra ket consumeBraket delim firstSet parser) fun _ _ _ => True := fun a => by
  unfold Oq3.Grammar.delimited; mw [delimitedLoop (MW.call0 (ih.delimitedLoop _ _ _ _))]

theorem sourceFileContents_mw {fuel : Nat} (ih : AllMark fuel) (stopOnRCurly : Bool) :
    Walk0 (Oq3.Grammar.sourceFileContents (fuel + 1) stopOnRCurly) fun _ _ _ => True := fun a => by
  unfold Oq3.Grammar.sourceFileContents; mw [sourceFileContents (MW.call0 (ih.sourceFileContents _)), item (MW.call0 (ih.item _))]

theorem switchCaseStmt_mw {fuel : Nat} (ih : AllMark fuel) (m : Marker) :
    WalkM m (Oq3.Grammar.switchCaseStmt (fuel + 1) m) fun _ _ _ => True := fun a hm => by
  unfold Oq3.Grammar.switchCaseStmt; mw [switchCaseLoop (MW.call0 ih.switchCaseLoop), expr (MW.call0 ih.expr), tryBlockExpr (MW.call0 ih.tryBlockExpr)]

theorem ifStmt_mw {fuel : Nat} (ih : AllMark fuel) (m : Marker) :
    WalkM m (Oq3.Grammar.ifStmt (fuel + 1) m) fun _ _ _ => True := fun a hm => by
  unfold Oq3.Grammar.ifStmt; mw [blockOrStatement (MW.call0 ih.blockOrStatement), ifStmt (MW.callM (ih.ifStmt _)), expr (MW.call0 ih.expr)]

theorem qubitDeclarationStmt_mw {fuel : Nat} (ih : AllMark fuel) (m : Marker) :
    WalkM m (Oq3.Grammar.qubitDeclarationStmt (fuel + 1) m) fun _ _ _ => True := fun a hm => by
  unfold Oq3.Grammar.qubitDeclarationStmt; mw [varName (MW.call0 varName_mark), hardwareQubit (MW.callD hardwareQubit_mark), qubitTypeSpec (MW.call0 ih.qubitTypeSpec)]

theorem defcal__mw {fuel : Nat} (ih : AllMark fuel) (m : Marker) :
    WalkM m (Oq3.Grammar.defcal_ (fuel + 1) m) fun _ _ _ => True := fun a hm => by
  unfold Oq3.Grammar.defcal_; mw [nameR (MW.call0 (nameR_mark _)), optReturnSignature (MW.call0 ih.optReturnSignature), tryBlockExpr (MW.call0 ih.tryBlockExpr), paramListDefcalParams (MW.call0 ih.paramListDefcalParams), paramListDefcalQubits (MW.call0 ih.paramListDefcalQubits)]

theorem ioDeclarationStmt_mw {fuel : Nat} (ih : AllMark fuel) (m : Marker) :
    WalkM m (Oq3.Grammar.ioDeclarationStmt (fuel + 1) m) fun _ _ _ => True := fun a hm => by
  unfold Oq3.Grammar.ioDeclarationStmt; mw [varName (MW.call0 varName_mark), typeSpec (MW.call0 ih.typeSpec)]

theorem cal__mw {fuel : Nat} (ih : AllMark fuel) (m : Marker) :
    WalkM m (Oq3.Grammar.cal_ (fuel + 1) m) fun _ _ _ => True := fun a hm => by
  unfold Oq3.Grammar.cal_; mw [tryBlockExpr (MW.call0 ih.tryBlockExpr)]

theorem aliasStmt_mw {fuel : Nat} (ih : AllMark fuel) (m : Marker) :
    WalkM m (Oq3.Grammar.aliasStmt (fuel + 1) m) fun _ _ _ => True := fun a hm => by
  unfold Oq3.Grammar.aliasStmt; mw [nameR (MW.call0 (nameR_mark _)), expr (MW.call0 ih.expr)]

theorem exprOrRangeExpr_mw {fuel : Nat} (ih : AllMark fuel) :
    Walk0 (Oq3.Grammar.exprOrRangeExpr (fuel + 1)) fun _ _ _ => True := fun a => by
  unfold Oq3.Grammar.exprOrRangeExpr; mw [exprBp (MW.call0 (optNone (ih.exprBp _ _ _)))]

theorem stmt_mw {fuel : Nat} (ih : AllMark fuel) :
    Walk0 (Oq3.Grammar.stmt (fuel + 1)) fun _ _ _ => True := fun a => by
  unfold Oq3.Grammar.stmt; mw [optItem (MW.callE (ih.optItem _)), exprStmt (MW.callMO (ih.exprStmt _)), letStmt (MW.callM (ih.letStmt _)), qOrCRegDeclaration (MW.callM (ih.qOrCRegDeclaration _))]

theorem qOrCRegDeclaration_mw {fuel : Nat} (ih : AllMark fuel) (m : Marker) :
    WalkM m (Oq3.Grammar.qOrCRegDeclaration (fuel + 1) m) fun _ _ _ => True := fun a hm => by
  unfold Oq3.Grammar.qOrCRegDeclaration; mw [qOrCRegParam (MW.call0 ih.qOrCRegParam)]

theorem exprBp_some_mw {fuel : Nat} (ih : AllMark fuel) (m : Marker) (r : Restrictions) (bp : Nat) :
    WalkM m (Oq3.Grammar.exprBp (fuel + 1) (some m) r bp) fun s r s' => (∀ cm bl, r = some (cm, bl) → Done s' cm ∧ obound (some m) s ≤ cm.pos) := fun a hm => by
  unfold Oq3.Grammar.exprBp; mw [exprBpLoop (MW.callLO (ih.exprBpLoop _ _ _)), lhs (MW.callO (ih.lhs _))]

theorem postfixExpr_mw {fuel : Nat} (ih : AllMark fuel) (lhs : CompletedMarker) (blockLike : BlockLike) (allowCalls : Bool) :
    WalkL lhs (Oq3.Grammar.postfixExpr (fuel + 1) lhs blockLike allowCalls) fun s r s' => Done s' r.1 ∧ lhs.pos ≤ r.1.pos := fun a hl => by
  unfold Oq3.Grammar.postfixExpr; mw [postfixExpr (MW.callLD1 (ih.postfixExpr _ _ _)), callExpr (MW.callLD (ih.callExpr _)), indexExpr (MW.callLD (ih.indexExpr _)), indexedIdentifier (MW.callLD (ih.indexedIdentifier _))]

theorem typeSpec_mw {fuel : Nat} (ih : AllMark fuel) :
    Walk0 (Oq3.Grammar.typeSpec (fuel + 1)) fun _ _ _ => True := fun a => by
  unfold Oq3.Grammar.typeSpec; mw [arrayTypeSpec (MW.call0 (ih.arrayTypeSpec _)), nonArrayTypeSpec (MW.call0 ih.nonArrayTypeSpec)]

theorem nonArrayTypeSpec_mw {fuel : Nat} (ih : AllMark fuel) :
    Walk0 (Oq3.Grammar.nonArrayTypeSpec (fuel + 1)) fun _ _ _ => True := fun a => by
  unfold Oq3.Grammar.nonArrayTypeSpec; mw [complexTypeSpec (MW.call0 ih.complexTypeSpec), designator (MW.call0 ih.designator)]

theorem designator_mw {fuel : Nat} (ih : AllMark fuel) :
    Walk0 (Oq3.Grammar.designator (fuel + 1)) fun _ _ _ => True := fun a => by
  unfold Oq3.Grammar.designator; mw [expr (MW.call0 ih.expr)]

theorem indexedIdentifierLoop_mw {fuel : Nat} (ih : AllMark fuel) :
    Walk0 (Oq3.Grammar.indexedIdentifierLoop (fuel + 1)) fun _ _ _ => True := fun a => by
  unfold Oq3.Grammar.indexedIdentifierLoop; mw [indexedIdentifierLoop (MW.call0 ih.indexedIdentifierLoop), indexOperator (MW.call0 ih.indexOperator)]

theorem callArgList_mw {fuel : Nat} (ih : AllMark fuel) :
    Walk0 (Oq3.Grammar.callArgList (fuel + 1)) fun _ _ _ => True := fun a => by
  unfold Oq3.Grammar.callArgList; mw [delimited (MW.call0 (ih.delimited _ _ _ _ _ _))]

theorem gphaseCallExpr_mw {fuel : Nat} (ih : AllMark fuel) :
    Walk0 (Oq3.Grammar.gphaseCallExpr (fuel + 1)) fun s r s' => Done s' r ∧ s.events.size ≤ r.pos := fun a => by
  unfold Oq3.Grammar.gphaseCallExpr; mw [expr (MW.call0 ih.expr)]

theorem gateCallExpr_mw {fuel : Nat} (ih : AllMark fuel) :
    Walk0 (Oq3.Grammar.gateCallExpr (fuel + 1)) fun s r s' => Done s' r ∧ s.events.size ≤ r.pos := fun a => by
  unfold Oq3.Grammar.gateCallExpr; mw [identifier (MW.callD identifier_mark), callArgList (MW.call0 ih.callArgList), argListGateCallQubits (MW.call0 ih.argListGateCallQubits)]

theorem tupleExprLoop_mw {fuel : Nat} (ih : AllMark fuel) (sawComma sawExpr : Bool) :
    Walk0 (Oq3.Grammar.tupleExprLoop (fuel + 1) sawComma sawExpr) fun _ _ _ => True := fun a => by
  unfold Oq3.Grammar.tupleExprLoop; mw [expr (MW.call0 ih.expr), tupleExprLoop (MW.call0 (ih.tupleExprLoop _ _))]

theorem tryBlockExpr_mw {fuel : Nat} (ih : AllMark fuel) :
    Walk0 (Oq3.Grammar.tryBlockExpr (fuel + 1)) fun _ _ _ => True := fun a => by
  unfold Oq3.Grammar.tryBlockExpr; mw [blockExpr (MW.callD ih.blockExpr)]

theorem boxExpr_none_mw {fuel : Nat} (ih : AllMark fuel) :
    Walk0 (Oq3.Grammar.boxExpr (fuel + 1) none) fun s r s' => Done s' r ∧ obound none s ≤ r.pos := fun a => by
  unfold Oq3.Grammar.boxExpr; mw [expr (MW.call0 ih.expr)]

theorem paramListGateQubits_mw {fuel : Nat} (ih : AllMark fuel) :
    Walk0 (Oq3.Grammar.paramListGateQubits (fuel + 1)) fun _ _ _ => True := fun a => by
  unfold Oq3.Grammar.paramListGateQubits; mw [paramListOpenqasm (MW.call0 (ih.paramListOpenqasm _))]

theorem scalarTypeList_mw {fuel : Nat} (ih : AllMark fuel) :
    Walk0 (Oq3.Grammar.scalarTypeList (fuel + 1)) fun _ _ _ => True := fun a => by
  unfold Oq3.Grammar.scalarTypeList; mw [paramListOpenqasm (MW.call0 (ih.paramListOpenqasm _))]

theorem expressionList_mw {fuel : Nat} (ih : AllMark fuel) :
    Walk0 (Oq3.Grammar.expressionList (fuel + 1)) fun _ _ _ => True := fun a => by
  unfold Oq3.Grammar.expressionList; mw [paramListOpenqasm (MW.call0 (ih.paramListOpenqasm _))]

theorem paramListOpenqasm_mw {fuel : Nat} (ih : AllMark fuel) (flavor : DefFlavor) :
    Walk0 (Oq3.Grammar.paramListOpenqasm (fuel + 1) flavor) fun _ _ _ => True := fun a => by
  unfold Oq3.Grammar.paramListOpenqasm; mw [paramListOpenqasmLoop (MW.call0 (ih.paramListOpenqasmLoop _ _))]

theorem paramTyped_mw {fuel : Nat} (ih : AllMark fuel) (m : Marker) :
    WalkM m (Oq3.Grammar.paramTyped (fuel + 1) m) fun _ _ _ => True := fun a hm => by
  unfold Oq3.Grammar.paramTyped; mw [name (MW.call0 name_mark), varName (MW.call0 varName_mark), qOrCRegParam (MW.call0 ih.qOrCRegParam), paramTypeSpec (MW.call0 ih.paramTypeSpec)]

end Oq3.Grammar
