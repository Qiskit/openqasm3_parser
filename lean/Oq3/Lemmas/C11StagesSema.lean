/-
C11 (gates) — the include-aware analysis (`Includes.syntaxToSemanticInc` / `analyzeSource`) on a
program WITHOUT REAL INCLUDES is the single-file analysis (`Sema.syntaxToSemanticLoop` /
`Sema.analyzeWith`): same fuel, same outcome (context, panic, fuel), no error trees.
"Without real includes" = every top-level include statement that has a readable path names
`stdgates.inc` (`NoReal`; decidable form `C18.nonStd (includesOf (.clean ast)) = 0`).  An include
statement without a path panics in both runs at the same site.
-/
import Oq3.Props.C18Equiv
import Oq3.Props.C18

namespace Oq3.Stages
open Oq3 Oq3.Sema Oq3.Includes Oq3.C18E

def NoReal (l : List Ast.Stmt) : Prop :=
  ∀ sp f p, Ast.Stmt.includeStmt sp (some f) ∈ l → f.toString? = some p → p = "stdgates.inc"

theorem NoReal.tail {s : Ast.Stmt} {l : List Ast.Stmt} (h : NoReal (s :: l)) : NoReal l :=
  fun sp f p hm hf => h sp f p (List.mem_cons_of_mem _ hm) hf

theorem noReal_of_nonStd (ast : Ast.Program)
    (h : Oq3.Props.C18.nonStd (includesOf (.clean ast)) = 0) : NoReal ast.statements := by
  intro sp f p hm hf
  unfold Oq3.Props.C18.nonStd at h
  have hnil := List.eq_nil_of_length_eq_zero h
  have hmem : some (some p) ∈ includesOf (.clean ast) := by
    unfold includesOf
    refine List.mem_filterMap.mpr ⟨_, hm, ?_⟩
    simp only [Option.map_some, hf]
  have := List.filter_eq_nil_iff.mp hnil _ hmem
  simpa using this

theorem throw_bind' {α β} (e : Sema.Outcome) (f : α → M β) : ((throw e : M α) >>= f) = throw e := by
  funext c; rfl

theorem fail_bind' {α β} (site : String) (f : α → M β) : ((Sema.fail site : M α) >>= f) = Sema.fail site := by
  funext c; rfl

theorem inc_eq_loop (fuel : Nat) : ∀ (l : List Ast.Stmt) (inc : List PSrc), NoReal l →
    syntaxToSemanticInc fuel l inc = (do syntaxToSemanticLoop fuel l; pure []) := by
  induction fuel with
  | zero =>
    intro l inc _
    unfold syntaxToSemanticInc syntaxToSemanticLoop
    rw [throw_bind']
  | succ k ih =>
    intro l inc h
    cases l with
    | nil =>
      unfold syntaxToSemanticInc syntaxToSemanticLoop
      rw [pure_bind]
    | cons s rest =>
      have other : NotInclude s →
          syntaxToSemanticInc (k + 1) (s :: rest) inc =
            (do syntaxToSemanticLoop (k + 1) (s :: rest); pure []) := by
        intro hni
        rw [inc_cons_other k s rest inc hni, C06.topLoop_cons_eq, topStmtM_other k s hni,
          ih rest inc h.tail]
        simp only [bind_assoc]
      cases s with
      | includeStmt sp file =>
        cases file with
        | none =>
          rw [C06.topLoop_cons_eq]
          conv => lhs; unfold syntaxToSemanticInc
          simp only [C06.topStmtM, unwrap, fail_bind']
        | some f =>
          cases hf : f.toString? with
          | none =>
            rw [C06.topLoop_cons_eq]
            conv => lhs; unfold syntaxToSemanticInc
            simp only [C06.topStmtM, unwrap, hf, pure_bind, fail_bind']
          | some p =>
            have hp : p = "stdgates.inc" := h sp f p (List.mem_cons_self ..) hf
            rw [inc_cons_std k sp f p hf (by simp [hp]) rest inc, C06.topLoop_cons_eq,
              ih rest inc h.tail]
            simp only [bind_assoc]
      | _ => exact other (fun _ _ e => by cases e)

/-- the include scan of the single-file entry (`Sema.syntaxToSemantic`) refuses nothing -/
theorem parseIncludedFiles_noReal (l : List Ast.Stmt) (h : NoReal l) (c : Ctx) :
    Sema.parseIncludedFiles l c = .ok (false, c) := by
  induction l with
  | nil => rfl
  | cons s rest ih =>
    have hr := ih h.tail
    cases s with
    | includeStmt sp file =>
      cases file with
      | none => simp only [Sema.parseIncludedFiles]; exact hr
      | some f =>
        cases hf : f.toString? with
        | none => simp only [Sema.parseIncludedFiles, hf]; exact hr
        | some p =>
          have hp : p = "stdgates.inc" := h sp f p (List.mem_cons_self ..) hf
          subst hp
          simp only [Sema.parseIncludedFiles, hf, bind_run, hr, bindRes, pure_run]
          simp
    | _ => simp only [Sema.parseIncludedFiles]; exact hr

/-- stated for the empty list of included sources only -/
theorem analyzeSource_noReal (fuel : Nat) (ast : Ast.Program) (h : NoReal ast.statements) :
    analyzeSource fuel (.clean ast) [] = (Sema.analyzeWith fuel ast).map fun c => some (c, []) := by
  have hgate : haveSyntaxErrors (.mk "" (some (.clean ast)) none []) = false := by
    simp [haveSyntaxErrors, anyHaveSyntaxErrors]
  unfold analyzeSource Sema.analyzeWith Sema.syntaxToSemantic
  simp only [hgate, Bool.false_eq_true, if_false, StateT.run]
  rw [inc_eq_loop fuel _ _ h, bind_run, bind_run, parseIncludedFiles_noReal _ h]
  simp only [bindRes, Bool.false_eq_true, if_false]
  cases syntaxToSemanticLoop fuel ast.statements {} with
  | error e => rfl
  | ok r => rfl

end Oq3.Stages

