/-
Marker discipline of the grammar: that no `Marker::complete` / `abandon` / `CompletedMarker::precede`
/ `extend_to` ever fails (neither their `unreachable!()` / `u32` underflow panics nor the
`modelError`s that stand for Rust's move discipline), and that every marker is consumed
(`live` returns to its value: no `DropBomb`).

The facts about one state (`Live`, `Tomb`, `Done`) and about two (`Fr`, `FrX`: which events a step keeps) are the
vocabulary of the clauses of `AllMark` (`Lemmas/GrammarSafeMark0.lean`).  The bodies of the grammar functions are not
verified against these directly: they are typed.  The judgement `MW E x Q Γ` hides the parser state; `Γ` lists the
markers the walk owns and must still consume, as a stack (Rust's move discipline for `Marker`, and the grammar's
habit of consuming the newest first), and the completed markers it has learnt.  Every call of the marker API and
every callee is a rule that transforms `Γ`; what `Γ` means for the hidden state (`MInv`) is proved once per rule.

Failures that concern tokens are tolerated here (`A2`); they are excluded by `Lemmas/SafeTok.lean`.
-/
import Oq3.Lemmas.SafeTok
set_option linter.unusedSimpArgs false
set_option linter.unusedVariables false

namespace Oq3.Parser
open Oq3.Gen

/-- tolerated in the marker-level proof: everything that is not a marker-API failure -/
def A2 (o : Outcome) : Prop := o ∉ markSites

instance (o : Outcome) : Decidable (A2 o) := by unfold A2; infer_instance

macro "dec2" : tactic => `(tactic| (show A2 _; decide))

def isTombN (o : Option Ev) : Prop := o = some (.start .TOMBSTONE none)
def isTomb (o : Option Ev) : Prop := ∃ fp, o = some (.start .TOMBSTONE fp)
def isDone (o : Option Ev) : Prop := ∃ k fp, o = some (.start k fp) ∧ k ≠ SyntaxKind.TOMBSTONE

/-- the event at `p` is an uncompleted `Start` without forward parent (as pushed by `start`) -/
def TombN (s : P) (p : Nat) : Prop := isTombN s.events[p]?
/-- the event at `p` is a `Start` that has not been completed -/
def Tomb (s : P) (p : Nat) : Prop := isTomb s.events[p]?
/-- the event at `p` is a completed `Start` -/
def DoneAt (s : P) (p : Nat) : Prop := isDone s.events[p]?
/-- a marker obtained from `Parser::start` that has not been consumed -/
def Live (s : P) (m : Marker) : Prop := TombN s m.pos ∧ m.isFp = false ∧ m.pos ∉ s.protectedPos
def Done (s : P) (cm : CompletedMarker) : Prop := DoneAt s cm.pos

/-- the ghost list of protected positions only mentions existing events -/
def MG (s : P) : Prop := ∀ p, p ∈ s.protectedPos → p < s.events.size

def Keep (s s' : P) (p : Nat) : Prop :=
  (TombN s p → TombN s' p) ∧ (Tomb s p → Tomb s' p) ∧ (DoneAt s p → DoneAt s' p) ∧
    (p ∈ s'.protectedPos → p ∈ s.protectedPos)

/-- frame: what happens from `s` to `s'` leaves every event below `n` in its class
(uncompleted / completed `Start`), protects none of them anew, and keeps at least `n` events -/
def Fr (n : Nat) (s s' : P) : Prop := n ≤ s'.events.size ∧ ∀ p, p < n → Keep s s' p

/-- frame of an operation on one marker slot: every event except that slot -/
def FrX (q : Nat) (s s' : P) : Prop := s.events.size ≤ s'.events.size ∧ ∀ p, p ≠ q → Keep s s' p

theorem isTomb_lt {a : Array Ev} {p : Nat} (h : isTomb a[p]?) : p < a.size := by
  obtain ⟨fp, h⟩ := h
  exact (Array.getElem?_eq_some_iff.mp h).1
theorem isDone_lt {a : Array Ev} {p : Nat} (h : isDone a[p]?) : p < a.size := by
  obtain ⟨k, fp, h, _⟩ := h
  exact (Array.getElem?_eq_some_iff.mp h).1

theorem TombN.tomb {s : P} {p : Nat} (h : TombN s p) : Tomb s p := ⟨none, h⟩
theorem Tomb.lt {s : P} {p : Nat} (h : Tomb s p) : p < s.events.size := isTomb_lt h
theorem DoneAt.lt {s : P} {p : Nat} (h : DoneAt s p) : p < s.events.size := isDone_lt h
theorem Live.lt {s : P} {m : Marker} (h : Live s m) : m.pos < s.events.size := h.1.tomb.lt
theorem Live.tomb {s : P} {m : Marker} (h : Live s m) : Tomb s m.pos := h.1.tomb
theorem Done.lt {s : P} {cm : CompletedMarker} (h : Done s cm) : cm.pos < s.events.size := DoneAt.lt h

theorem Keep.live {s s' : P} {m : Marker} (h : Keep s s' m.pos) (hl : Live s m) : Live s' m :=
  ⟨h.1 hl.1, hl.2.1, fun hc => hl.2.2 (h.2.2.2 hc)⟩

theorem Fr.size {n : Nat} {s s' : P} (h : Fr n s s') : n ≤ s'.events.size := h.1
theorem Fr.doneAt {n : Nat} {s s' : P} {p : Nat} (h : Fr n s s') (hp : p < n) (ht : DoneAt s p) :
    DoneAt s' p := (h.2 p hp).2.2.1 ht
theorem Fr.done {n : Nat} {s s' : P} {cm : CompletedMarker} (h : Fr n s s') (hp : cm.pos < n)
    (ht : Done s cm) : Done s' cm := h.doneAt hp ht
theorem Keep.refl (s : P) (p : Nat) : Keep s s p := ⟨id, id, id, id⟩
theorem Keep.trans {s s' s'' : P} {p : Nat} (h1 : Keep s s' p) (h2 : Keep s' s'' p) : Keep s s'' p :=
  ⟨fun t => h2.1 (h1.1 t), fun t => h2.2.1 (h1.2.1 t), fun t => h2.2.2.1 (h1.2.2.1 t),
   fun t => h1.2.2.2 (h2.2.2.2 t)⟩
theorem Fr.refl (s : P) : Fr s.events.size s s := ⟨Nat.le_refl _, fun p _ => Keep.refl s p⟩
theorem Fr.mono {n n' : Nat} {s s' : P} (h : Fr n s s') (hn : n' ≤ n) : Fr n' s s' :=
  ⟨Nat.le_trans hn h.1, fun p hp => h.2 p (Nat.lt_of_lt_of_le hp hn)⟩
theorem Fr.trans {n : Nat} {s s' s'' : P} (h1 : Fr n s s') (h2 : Fr n s' s'') : Fr n s s'' :=
  ⟨h2.1, fun p hp => (h1.2 p hp).trans (h2.2 p hp)⟩

theorem FrX.tomb {q p : Nat} {s s' : P} (h : FrX q s s') (hp : p ≠ q) (ht : Tomb s p) : Tomb s' p :=
  (h.2 p hp).2.1 ht
theorem FrX.done {q : Nat} {s s' : P} {cm : CompletedMarker} (h : FrX q s s') (hp : cm.pos ≠ q)
    (hl : Done s cm) : Done s' cm := (h.2 _ hp).2.2.1 hl
theorem FrX.size {q : Nat} {s s' : P} (h : FrX q s s') : s.events.size ≤ s'.events.size := h.1
theorem FrX.keep_other {q : Nat} {s s' : P} (h : FrX q s s') {p : Nat} (hp : p ≠ q) : Keep s s' p := h.2 p hp
theorem Fr.trans_le {n n' : Nat} {s s' s'' : P} (h1 : Fr n s s') (h2 : Fr n' s' s'') (hn : n ≤ n') :
    Fr n s s'' := h1.trans (h2.mono hn)
theorem Fr.trans_ge {n n' : Nat} {s s' s'' : P} (h1 : Fr n s s') (h2 : Fr n' s' s'') (hn : n' ≤ n) :
    Fr n' s s'' := (h1.mono hn).trans h2

theorem Keep_of_eq {s s' : P} {p : Nat} (he : s'.events[p]? = s.events[p]?)
    (hp : p ∈ s'.protectedPos → p ∈ s.protectedPos) : Keep s s' p := by
  refine ⟨fun t => ?_, fun t => ?_, fun t => ?_, hp⟩
  · unfold TombN at *; rw [he]; exact t
  · unfold Tomb at *; rw [he]; exact t
  · unfold DoneAt at *; rw [he]; exact t

theorem Fr_of_push (s s' : P) (e : Ev) (he : s'.events = s.events.push e)
    (hp : s'.protectedPos = s.protectedPos) : Fr s.events.size s s' := by
  refine ⟨by rw [he]; simp, fun p hp' => Keep_of_eq ?_ (fun t => by rw [hp] at t; exact t)⟩
  rw [he, Array.getElem?_push]; simp [Nat.ne_of_lt hp']

theorem Fr_of_same (s s' : P) (he : s'.events = s.events) (hp : s'.protectedPos = s.protectedPos) :
    Fr s.events.size s s' :=
  ⟨by rw [he]; exact Nat.le_refl _, fun p _ => Keep_of_eq (by rw [he]) (fun t => by rw [hp] at t; exact t)⟩

theorem MG_of_push (s s' : P) (e : Ev) (he : s'.events = s.events.push e)
    (hp : s'.protectedPos = s.protectedPos) (h : MG s) : MG s' := by
  intro p hm
  rw [hp] at hm
  have := h p hm
  rw [he]; simp; omega

theorem MG_of_same (s s' : P) (he : s'.events = s.events) (hp : s'.protectedPos = s.protectedPos)
    (h : MG s) : MG s' := by
  intro p hm; rw [hp] at hm; rw [he]; exact h p hm

/-- the summary of a step that consumes no marker -/
abbrev St0 (s s' : P) : Prop := MG s' ∧ Fr s.events.size s s' ∧ s'.live = s.live

theorem St0.trans {s s' s'' : P} (h1 : St0 s s') (h2 : St0 s' s'') : St0 s s'' :=
  ⟨h2.1, Fr.trans h1.2.1 (Fr.mono h2.2.1 h1.2.1.1), h2.2.2.trans h1.2.2⟩

/-- the clause of a computation that takes no marker and returns none -/
abbrev Plain {α : Type} (x : G α) : Prop := ∀ s, MG s → wp A2 x (fun _ s' => St0 s s') s

abbrev Takes {α : Type} (m : Marker) (x : G α) : Prop :=
  ∀ s, MG s ∧ Live s m ∧ 1 ≤ s.live → wp A2 x (fun _ s' => MG s' ∧ Fr m.pos s s' ∧ s'.live + 1 = s.live) s

section
variable {α β : Type} {s : P}

theorem Plain.pure (a : α) : Plain (pure a : G α) := fun s hg => wp_pure ⟨hg, Fr.refl s, rfl⟩

theorem Plain.bind {x : G α} {f : α → G β} (hx : Plain x) (hf : ∀ a, Plain (f a)) : Plain (x >>= f) := fun s hg =>
  wp_bind (wp_conseq (hx s hg) fun a s1 h1 => wp_conseq (hf a s1 h1.1) fun _ _ h2 => h1.trans h2)

theorem Plain.andM {x y : G Bool} (hx : Plain x) (hy : Plain y) : Plain (x <&&> y) := fun s hg =>
  wp_andM (wp_conseq (hx s hg) fun b s1 h1 => by
    cases b
    · exact h1
    · exact wp_conseq (hy s1 h1.1) fun _ _ h2 => h1.trans h2)

theorem Plain.orM {x y : G Bool} (hx : Plain x) (hy : Plain y) : Plain (x <||> y) := fun s hg =>
  wp_orM (wp_conseq (hx s hg) fun b s1 h1 => by
    cases b
    · exact wp_conseq (hy s1 h1.1) fun _ _ h2 => h1.trans h2
    · exact h1)

theorem Plain.notM {x : G Bool} (hx : Plain x) : Plain (notM x) := fun s hg => wp_notM (hx s hg)

theorem Plain.at (k : SyntaxKind) : Plain (at' k) := fun s hg => wp_at ⟨hg, Fr.refl s, rfl⟩

theorem Plain.atTs (ts : TokenSet) : Plain (atTs ts) := fun s hg => wp_atTs ⟨hg, Fr.refl s, rfl⟩

theorem nth_mark (n : Nat) : Plain (nth n) := fun s hg => by
  apply wp_def
  rw [nth_eq]
  split
  · dec2
  · split
    · dec2
    · exact ⟨MG_of_same s _ rfl rfl hg, Fr_of_same s _ rfl rfl, rfl⟩

theorem error_mark (msg : String) : Plain (error msg) := fun s hg => by
  apply wp_def
  rw [error_eq]
  split
  · dec2
  · exact ⟨MG_of_push s _ _ rfl rfl hg, Fr_of_push s _ _ rfl rfl, rfl⟩

theorem doBump_mark (k : SyntaxKind) (n : Nat) : Plain (doBump k n) := fun s hg => by
  apply wp_def
  rw [doBump_eq]
  exact ⟨MG_of_push s _ _ rfl rfl hg, Fr_of_push s _ _ rfl rfl, rfl⟩

theorem wp2_start {Q : Marker → P → Prop} (hg : MG s)
    (h : ∀ m s', m.pos = s.events.size → MG s' → Fr s.events.size s s' → Live s' m →
      s'.live = s.live + 1 → Q m s') : wp A2 start Q s := by
  apply wp_def
  rw [start_eq]
  split
  · dec2
  · refine h _ _ rfl (MG_of_push s _ _ rfl rfl hg) (Fr_of_push s _ _ rfl rfl) ?_ rfl
    refine ⟨?_, rfl, fun hc => ?_⟩
    · show (s.events.push Ev.tombstone)[s.events.size]? = _
      simp [Ev.tombstone]
    · exact Nat.lt_irrefl _ (hg _ hc)

theorem getElem?_set! (a : Array Ev) (i j : Nat) (x : Ev) :
    (a.set! i x)[j]? = if i = j then (if j < a.size then some x else none) else a[j]? := by
  simp only [Array.set!, Array.getElem?_setIfInBounds]
  split
  · split <;> simp_all
  · rfl

theorem wp2_complete {m : Marker} {kind : SyntaxKind} {Q : CompletedMarker → P → Prop} (hg : MG s)
    (ht : Tomb s m.pos) (hk : kind ≠ SyntaxKind.TOMBSTONE) (hl : 1 ≤ s.live)
    (h : ∀ cm s', cm.pos = m.pos → cm.kind = kind → MG s' → FrX m.pos s s' → Done s' cm →
      s'.live + 1 = s.live → Q cm s') : wp A2 (m.complete kind) Q s := by
  apply wp_def
  rw [complete_eq]
  obtain ⟨fp, hev⟩ := ht
  have hev : s.events[m.pos]? = some (.start .TOMBSTONE fp) := hev
  rw [hev]
  simp only [bne_self_eq_false, Bool.false_eq_true, if_false]
  have hk' : (kind == SyntaxKind.TOMBSTONE) = false := by simpa using hk
  simp only [hk', Bool.false_eq_true, if_false]
  split
  · dec2
  · have hlt : m.pos < s.events.size := (Array.getElem?_eq_some_iff.mp hev).1
    refine h ⟨m.pos, kind⟩ _ rfl rfl ?_ ?_ ?_ ?_
    · intro p hp
      simp only [P.slotSet, List.mem_filter] at hp
      have := hg p hp.1
      simp [P.slotSet]; omega
    · refine ⟨by simp [P.slotSet], fun p hp => ?_⟩
      -- every other slot holds what it held, or lies beyond the old events (the pushed `Finish`)
      have hgp : ((s.events.set! m.pos (Ev.start kind fp)).push Ev.finish)[p]? = s.events[p]? ∨
          s.events[p]? = none := by
        by_cases hps : p < s.events.size
        · left
          rw [Array.getElem?_push]
          have : p ≠ (s.events.set! m.pos (Ev.start kind fp)).size := by simp [Array.set!]; omega
          simp only [this, if_false]
          rw [getElem?_set!]
          have : ¬ m.pos = p := fun e => hp e.symm
          simp only [this, if_false]
        · right
          exact Array.getElem?_eq_none (by omega)
      have hpr : p ∈ (s.slotSet m.pos kind fp).protectedPos → p ∈ s.protectedPos := by
        intro t; simp only [P.slotSet, List.mem_filter] at t; exact t.1
      rcases hgp with hgp | hgp
      · exact Keep_of_eq hgp hpr
      · refine ⟨fun t => ?_, fun t => ?_, fun t => ?_, hpr⟩
        · unfold TombN isTombN at t; rw [hgp] at t; cases t
        · unfold Tomb at t; rw [hgp] at t; obtain ⟨_, t⟩ := t; cases t
        · unfold DoneAt at t; rw [hgp] at t; obtain ⟨_, _, t, _⟩ := t; cases t
    · refine ⟨kind, fp, ?_, hk⟩
      show ((s.events.set! m.pos (Ev.start kind fp)).push Ev.finish)[m.pos]? = _
      rw [Array.getElem?_push]
      have : m.pos ≠ (s.events.set! m.pos (Ev.start kind fp)).size := by simp [Array.set!]; omega
      simp only [this, if_false]
      rw [getElem?_set!]
      simp [hlt]
    · show s.live - 1 + 1 = s.live
      omega

/-- `Marker::abandon`: every other event is kept (the one that may be popped is the marker's own) -/
theorem wp2_abandon {m : Marker} {Q : Unit → P → Prop} (hg : MG s) (hlv : Live s m) (hl : 1 ≤ s.live)
    (h : ∀ s', MG s' → (∀ p, p ≠ m.pos → Keep s s' p) → m.pos ≤ s'.events.size → s'.live + 1 = s.live → Q () s') :
    wp A2 m.abandon Q s := by
  apply wp_def
  rw [abandon_eq]
  obtain ⟨hev, hfp, hnp⟩ := hlv
  have hev : s.events[m.pos]? = some (.start .TOMBSTONE none) := hev
  have hlt : m.pos < s.events.size := (Array.getElem?_eq_some_iff.mp hev).1
  have h1 : (m.isFp || s.protectedPos.contains m.pos) = false := by
    simp [hfp, hnp]
  have h2 : (s.events.size == 0) = false := by rw [beq_eq_false_iff_ne]; omega
  simp only [h1, h2, Bool.false_eq_true, if_false]
  split
  · rename_i hlast
    have hlast' : m.pos = s.events.size - 1 := by simpa using hlast
    have hb : s.events.back? = some (.start .TOMBSTONE none) := by
      rw [Array.back?_eq_getElem?, ← hlast']; exact hev
    rw [hb]
    simp only [beq_self_eq_true, Bool.true_and, Option.isNone_none, if_true]
    refine h _ ?_ (fun p hp => Keep_of_eq ?_ id) ?_ ?_
    · intro p hp
      have := hg p hp
      have hne : p ≠ m.pos := fun e => hnp (e ▸ hp)
      show p < s.events.pop.size
      simp; omega
    · show s.events.pop[p]? = s.events[p]?
      rw [Array.getElem?_pop]
      split
      · rfl
      · exact (Array.getElem?_eq_none (by simp at *; omega)).symm
    · show m.pos ≤ s.events.pop.size; simp; omega
    · show s.live - 1 + 1 = s.live; omega
  · refine h _ (MG_of_same s _ rfl rfl hg) (fun p _ => Keep.refl s p) (Nat.le_of_lt hlt) ?_
    show s.live - 1 + 1 = s.live; omega

theorem wp2_precede {cm : CompletedMarker} {Q : Marker → P → Prop} (hg : MG s) (hd : Done s cm)
    (h : ∀ m s', m.pos = s.events.size → MG s' → Fr s.events.size s s' → Tomb s' m.pos →
      s'.live = s.live + 1 → Q m s') : wp A2 cm.precede Q s := by
  apply wp_def
  rw [precede_eq]
  split
  · dec2
  · obtain ⟨k, fp, hev, hk⟩ := hd
    have hev : s.events[cm.pos]? = some (.start k fp) := hev
    have hlt : cm.pos < s.events.size := (Array.getElem?_eq_some_iff.mp hev).1
    have hst : s.started.events[cm.pos]? = some (.start k fp) := by
      show (s.events.push Ev.tombstone)[cm.pos]? = _
      rw [Array.getElem?_push]; simp [Nat.ne_of_lt hlt, hev]
    rw [hst]
    have h2 : ¬ s.events.size < cm.pos := by omega
    simp only [h2, if_false]
    have hget : ∀ p, ((s.events.push Ev.tombstone).set! cm.pos (Ev.start k (some (s.events.size - cm.pos))))[p]? =
        if cm.pos = p then some (Ev.start k (some (s.events.size - cm.pos)))
        else if p = s.events.size then some Ev.tombstone else s.events[p]? := by
      intro p
      rw [getElem?_set!]
      by_cases hc : cm.pos = p
      · simp only [hc, if_true]; subst hc; simp; omega
      · simp only [hc, if_false]; rw [Array.getElem?_push]
    refine h ⟨s.events.size, true⟩ _ rfl ?_ ?_ ?_ rfl
    · intro p hp
      show p < ((s.events.push Ev.tombstone).set! cm.pos _).size
      simp only [P.started, List.mem_cons] at hp
      have : p < s.events.size + 1 := by
        rcases hp with hp | hp
        · omega
        · have := hg p hp; omega
      simpa [Array.set!] using this
    · refine ⟨by show s.events.size ≤ ((s.events.push Ev.tombstone).set! cm.pos _).size; simp [Array.set!], fun p hp => ?_⟩
      have hpr : p ∈ (s.events.size :: s.protectedPos) → p ∈ s.protectedPos := by
        intro t; simp only [List.mem_cons] at t
        rcases t with t | t
        · omega
        · exact t
      by_cases hc : cm.pos = p
      · subst hc
        have hnew := hget cm.pos
        simp only [if_true] at hnew
        refine ⟨fun t => ?_, fun t => ?_, fun _ => ⟨k, _, hnew, hk⟩, hpr⟩
        · unfold TombN isTombN at t; rw [hev] at t
          simp only [Option.some.injEq, Ev.start.injEq] at t; exact absurd t.1 hk
        · unfold Tomb at t; obtain ⟨fp', t⟩ := t; rw [hev] at t
          simp only [Option.some.injEq, Ev.start.injEq] at t; exact absurd t.1 hk
      · have hnew := hget p
        simp only [hc, if_false, Nat.ne_of_lt hp] at hnew
        exact Keep_of_eq hnew hpr
    · refine ⟨none, ?_⟩
      have hnew := hget s.events.size
      have : ¬ cm.pos = s.events.size := by omega
      simp only [this, if_false, if_true] at hnew
      exact hnew

theorem wp2_extendTo {cm : CompletedMarker} {m : Marker} {Q : CompletedMarker → P → Prop} (hg : MG s)
    (hd : Done s cm) (ht : Tomb s m.pos) (hle : m.pos ≤ cm.pos) (hl : 1 ≤ s.live)
    (h : ∀ s', MG s' → FrX m.pos s s' → Done s' cm → s'.live + 1 = s.live → Q cm s') :
    wp A2 (cm.extendTo m) Q s := by
  apply wp_def
  rw [extendTo_eq]
  obtain ⟨fpm, hm⟩ := ht
  have hm : s.events[m.pos]? = some (.start .TOMBSTONE fpm) := hm
  obtain ⟨k, fp, hc, hk⟩ := hd
  have hc : s.events[cm.pos]? = some (.start k fp) := hc
  rw [hm]
  have h1 : ¬ cm.pos < m.pos := by omega
  simp only [h1, if_false]
  rw [hc]
  have hk' : (k == SyntaxKind.TOMBSTONE) = false := by simpa using hk
  simp only [hk', Bool.false_eq_true, if_false]
  have hne : m.pos ≠ cm.pos := by
    intro e; rw [e, hc] at hm
    simp only [Option.some.injEq, Ev.start.injEq] at hm; exact hk hm.1
  refine h _ ?_ ?_ ?_ ?_
  · intro p hp
    have := hg p hp
    show p < (s.events.set! m.pos _).size
    simpa [Array.set!] using this
  · refine ⟨by show s.events.size ≤ (s.events.set! m.pos _).size; simp [Array.set!], fun p hp => Keep_of_eq ?_ id⟩
    show (s.events.set! m.pos _)[p]? = _
    rw [getElem?_set!]
    have : ¬ m.pos = p := fun e => hp e.symm
    simp only [this, if_false]
  · refine ⟨k, fp, ?_, hk⟩
    show (s.events.set! m.pos _)[cm.pos]? = _
    rw [getElem?_set!]
    simp only [hne, if_false]; exact hc
  · show s.live - 1 + 1 = s.live; omega

end

/-! ### optional marker arguments (`expr_bp`, `expr_stmt`, `box_expr`) -/

def obound (m : Option Marker) (s : P) : Nat :=
  match m with
  | some m0 => m0.pos
  | none => s.events.size

def ocount (m : Option Marker) : Nat :=
  match m with
  | some _ => 1
  | none => 0

def OLive (s : P) (m : Option Marker) : Prop := ∀ m0, m = some m0 → Live s m0 ∧ 1 ≤ s.live

/-- a marker that has not been consumed: obtained from `Parser::start` (or passed in), or from
`CompletedMarker::precede` -/
inductive Own where
  | live (m : Marker)
  | tomb (m : Marker)

def Own.pos : Own → Nat
  | .live m => m.pos
  | .tomb m => m.pos

def Own.Holds (s : P) : Own → Prop
  | .live m => Live s m
  | .tomb m => Tomb s m.pos

theorem Own.Holds.tomb {s : P} {x : Own} (h : x.Holds s) : Tomb s x.pos := by
  cases x
  · exact Live.tomb h
  · exact h

theorem Keep.holds {s s' : P} {x : Own} (h : Keep s s' x.pos) (hx : x.Holds s) : x.Holds s' := by
  cases x
  · exact h.live hx
  · exact h.2.1 hx

theorem Tomb.ne_done {s : P} {p : Nat} {cm : CompletedMarker} (ht : Tomb s p) (hd : Done s cm) : cm.pos ≠ p := by
  intro e
  obtain ⟨fp, ht⟩ := ht
  obtain ⟨k, fp', hd, hk⟩ := hd
  rw [e] at hd
  rw [hd] at ht
  simp only [Option.some.injEq, Ev.start.injEq] at ht
  exact hk ht.1

/-- what the walk knows.  `own`: the markers it must still consume, newest first.  `done`: completed markers.
`lo`: a lower bound of the number of events, so that every marker handed out from now on lies at or above it.
`fr`: every event below it is as it was when the function was entered. -/
structure MCtx where
  own : List Own
  done : List CompletedMarker
  lo : Nat
  fr : Nat

/-- the function that is walked: the state at entry, the bound of its frame clause, the number of markers it
is given, and the lower bound of the completed markers it may return -/
structure MEnv where
  a : P
  n : Nat
  k : Nat
  lb : Nat
  hlb : lb ≤ n
  hn : n ≤ a.events.size
  hk : k ≤ a.live

/-- the state `s` of a run of `E`'s function that knows `Γ`: the owned markers are uncompleted events at or above
the frame bound and account for the difference of `live`; they are in decreasing order (so a step that rewrites the
head's event, or a callee that may rewrite every event from the head's on, keeps the others); the completed ones are
completed -/
structure MInv (E : MEnv) (Γ : MCtx) (s : P) : Prop where
  mg : MG s
  fr : E.n ≤ Γ.fr ∧ Fr Γ.fr E.a s
  cnt : s.live + E.k = E.a.live + Γ.own.length
  lo : E.n ≤ Γ.lo ∧ Γ.lo ≤ s.events.size
  own : ∀ x ∈ Γ.own, x.Holds s ∧ E.n ≤ x.pos
  sorted : Γ.own.Pairwise fun x y => y.pos < x.pos
  done : ∀ cm ∈ Γ.done, Done s cm ∧ E.lb ≤ cm.pos

/-- a walk (`Lemmas/Safe.lean`) whose abstract state is `Γ` -/
abbrev MW {α} (E : MEnv) (x : G α) (Q : α → MCtx → Prop) (Γ : MCtx) : Prop := Walk A2 (MInv E) x Q Γ

section
variable {α β : Type} {E : MEnv} {Γ : MCtx} {O : List Own} {D : List CompletedMarker} {lo f : Nat} {s s' : P}

theorem MInv.lb_le (w : MInv E Γ s) : E.lb ≤ s.events.size :=
  Nat.le_trans E.hlb (Nat.le_trans w.lo.1 w.lo.2)

theorem MInv.live_pos {x : Own} (w : MInv E ⟨x :: O, D, lo, f⟩ s) : 1 ≤ s.live := by
  have := w.cnt; have := E.hk
  simp only [List.length_cons] at *; omega

theorem MInv.grow (w : MInv E ⟨O, D, lo, f⟩ s) (fr : Fr s.events.size s s') :
    Fr f E.a s' ∧ lo ≤ s'.events.size ∧ (∀ x ∈ O, x.Holds s' ∧ E.n ≤ x.pos) ∧ ∀ cm ∈ D, Done s' cm ∧ E.lb ≤ cm.pos :=
  ⟨w.fr.2.trans_le fr w.fr.2.size, Nat.le_trans w.lo.2 fr.size,
    fun x hx => ⟨(fr.2 _ (w.own x hx).1.tomb.lt).holds (w.own x hx).1, (w.own x hx).2⟩,
    fun cm hc => ⟨fr.done (w.done cm hc).1.lt (w.done cm hc).1, (w.done cm hc).2⟩⟩

theorem MInv.st0 (w : MInv E Γ s) (h : St0 s s') : MInv E Γ s' := by
  obtain ⟨O, D, lo, f⟩ := Γ
  obtain ⟨h1, h2, h3, h4⟩ := w.grow h.2.1
  exact ⟨h.1, ⟨w.fr.1, h1⟩, by rw [h.2.2]; exact w.cnt, ⟨w.lo.1, h2⟩, h3, w.sorted, h4⟩

theorem MInv.push (w : MInv E ⟨O, D, lo, f⟩ s) {x : Own} (mg : MG s') (fr : Fr s.events.size s s') (hx : x.Holds s')
    (hp : x.pos = s.events.size) (hl : s'.live = s.live + 1) : MInv E ⟨x :: O, D, x.pos + 1, f⟩ s' := by
  obtain ⟨h1, h2, h3, h4⟩ := w.grow fr
  have hn : E.n ≤ x.pos := hp ▸ Nat.le_trans w.lo.1 w.lo.2
  refine ⟨mg, ⟨w.fr.1, h1⟩, ?_, ⟨Nat.le_succ_of_le hn, hx.tomb.lt⟩, ?_, ?_, h4⟩
  · have := w.cnt; simp only [List.length_cons] at *; omega
  · intro y hy
    rcases List.mem_cons.mp hy with rfl | hy
    · exact ⟨hx, hn⟩
    · exact h3 y hy
  · exact List.pairwise_cons.mpr ⟨fun y hy => hp ▸ (w.own y hy).1.tomb.lt, w.sorted⟩

theorem MInv.drop {x : Own} {lo' : Nat} (w : MInv E ⟨x :: O, D, lo, f⟩ s) (mg : MG s')
    (hk : ∀ p, p ≠ x.pos → Keep s s' p) (hlo : E.n ≤ lo' ∧ lo' ≤ s'.events.size) (hx' : x.pos ≤ s'.events.size)
    (hl : s'.live + 1 = s.live) : MInv E ⟨O, D, lo', min f x.pos⟩ s' := by
  obtain ⟨hx, hnx⟩ := w.own x List.mem_cons_self
  obtain ⟨h1, h2⟩ := List.pairwise_cons.mp w.sorted
  refine ⟨mg, ⟨Nat.le_min.mpr ⟨w.fr.1, hnx⟩, ?_⟩, ?_, hlo, ?_, h2, ?_⟩
  · exact (w.fr.2.mono (Nat.min_le_left _ _)).trans ⟨Nat.le_trans (Nat.min_le_right _ _) hx',
      fun p hp => hk p (Nat.ne_of_lt (Nat.lt_of_lt_of_le hp (Nat.min_le_right _ _)))⟩
  · have := w.cnt; simp only [List.length_cons] at *; omega
  · intro y hy
    have hy' := w.own y (List.mem_cons_of_mem _ hy)
    exact ⟨(hk _ (Nat.ne_of_lt (h1 y hy))).holds hy'.1, hy'.2⟩
  · intro cm hc
    exact ⟨(hk _ (hx.tomb.ne_done (w.done cm hc).1)).2.2.1 (w.done cm hc).1, (w.done cm hc).2⟩

theorem MInv.take {x : Own} (w : MInv E ⟨x :: O, D, lo, f⟩ s) (mg : MG s') (fr : Fr x.pos s s') (hl : s'.live + 1 = s.live) :
    MInv E ⟨O, [], x.pos, min f x.pos⟩ s' := by
  obtain ⟨h1, h2⟩ := List.pairwise_cons.mp w.sorted
  have hnx := (w.own x List.mem_cons_self).2
  refine ⟨mg, ⟨Nat.le_min.mpr ⟨w.fr.1, hnx⟩, ?_⟩, ?_, ⟨hnx, fr.size⟩, ?_, h2, fun _ h => nomatch h⟩
  · exact (w.fr.2.mono (Nat.min_le_left _ _)).trans (fr.mono (Nat.min_le_right _ _))
  · have := w.cnt; simp only [List.length_cons] at *; omega
  · intro y hy
    have hy' := w.own y (List.mem_cons_of_mem _ hy)
    exact ⟨(fr.2 _ (h1 y hy)).holds hy'.1, hy'.2⟩

theorem MInv.addDone (w : MInv E ⟨O, D, lo, f⟩ s) {cm : CompletedMarker} (hd : Done s cm) (hb : E.lb ≤ cm.pos) :
    MInv E ⟨O, cm :: D, lo, f⟩ s :=
  ⟨w.mg, w.fr, w.cnt, w.lo, w.own, w.sorted, fun c hc => by
    rcases List.mem_cons.mp hc with rfl | hc
    · exact ⟨hd, hb⟩
    · exact w.done c hc⟩

theorem MW.at {k : SyntaxKind} {Q : Bool → MCtx → Prop} (h : ∀ b, Q b Γ) : MW E (at' k) Q Γ :=
  fun _ w => wp_at ⟨Γ, w, h _⟩

theorem MW.current {Q : SyntaxKind → MCtx → Prop} (h : ∀ k, Q k Γ) : MW E current Q Γ :=
  fun _ w => wp_current ⟨Γ, w, h _⟩

theorem MW.atTs {ts : TokenSet} {Q : Bool → MCtx → Prop} (h : ∀ b, Q b Γ) : MW E (atTs ts) Q Γ :=
  fun _ w => wp_atTs ⟨Γ, w, h _⟩

theorem MW.call0 {x : G α} {Q : α → MCtx → Prop} (h : Plain x) (k : ∀ r, Q r Γ) : MW E x Q Γ := fun s w => wp_conseq (h s w.mg) fun r _ hs => ⟨Γ, w.st0 hs, k r⟩

theorem MW.start {Q : Marker → MCtx → Prop} (k : ∀ m, Q m ⟨.live m :: O, D, m.pos + 1, f⟩) : MW E start Q ⟨O, D, lo, f⟩ :=
  fun _ w => wp2_start w.mg fun m _ hm mg fr hl hc => ⟨_, w.push (x := .live m) mg fr hl hm hc, k m⟩

theorem MW.precede {cm : CompletedMarker} {Q : Marker → MCtx → Prop}
    (k : ∀ m, Q m ⟨.tomb m :: O, cm :: D, m.pos + 1, f⟩) : MW E cm.precede Q ⟨O, cm :: D, lo, f⟩ := fun _ w =>
  wp2_precede w.mg (w.done cm List.mem_cons_self).1 fun m _ hm mg fr ht hc => ⟨_, w.push (x := .tomb m) mg fr ht hm hc, k m⟩

theorem MW.complete' {x : Own} {m : Marker} {kind : SyntaxKind} {Q : CompletedMarker → MCtx → Prop} (hm : x.pos = m.pos)
    (hk : kind ≠ SyntaxKind.TOMBSTONE) (k : ∀ cm, Q cm ⟨O, cm :: D, lo, min f x.pos⟩) :
    MW E (m.complete kind) Q ⟨x :: O, D, lo, f⟩ := fun s w =>
  have hx := w.own x List.mem_cons_self
  wp2_complete w.mg (hm ▸ hx.1.tomb) hk w.live_pos fun cm s' hp _ mg fx hd hl => ⟨_,
    (w.drop mg (fun p hp => fx.2 p (hm ▸ hp)) ⟨w.lo.1, Nat.le_trans w.lo.2 fx.size⟩
      (Nat.le_of_lt (Nat.lt_of_lt_of_le hx.1.tomb.lt fx.size)) hl).addDone hd
      (Nat.le_trans E.hlb (by rw [hp, ← hm]; exact hx.2)), k cm⟩

theorem MW.complete {m : Marker} {kind : SyntaxKind} {Q : CompletedMarker → MCtx → Prop}
    (hk : kind ≠ SyntaxKind.TOMBSTONE) (k : ∀ cm, Q cm ⟨O, cm :: D, lo, min f m.pos⟩) :
    MW E (m.complete kind) Q ⟨.live m :: O, D, lo, f⟩ := MW.complete' (x := .live m) rfl hk k

theorem MW.completeT {m : Marker} {kind : SyntaxKind} {Q : CompletedMarker → MCtx → Prop}
    (hk : kind ≠ SyntaxKind.TOMBSTONE) (k : ∀ cm, Q cm ⟨O, cm :: D, lo, min f m.pos⟩) :
    MW E (m.complete kind) Q ⟨.tomb m :: O, D, lo, f⟩ := MW.complete' (x := .tomb m) rfl hk k

/-- `Marker::abandon` consumes the newest marker, obtained from `start` -/
theorem MW.abandon {m : Marker} {Q : Unit → MCtx → Prop} (k : Q () ⟨O, D, m.pos, min f m.pos⟩) :
    MW E m.abandon Q ⟨.live m :: O, D, lo, f⟩ := fun s w =>
  have hx := w.own _ List.mem_cons_self
  wp2_abandon w.mg hx.1 w.live_pos fun _ mg hk hs hl => ⟨_, w.drop (x := .live m) mg hk ⟨hx.2, hs⟩ hs hl, k⟩

theorem MW.extendTo {cm : CompletedMarker} {m : Marker} {Q : CompletedMarker → MCtx → Prop} (hle : m.pos ≤ cm.pos)
    (k : Q cm ⟨O, cm :: D, lo, min f m.pos⟩) : MW E (cm.extendTo m) Q ⟨.live m :: O, cm :: D, lo, f⟩ := fun s w =>
  have hx := w.own _ List.mem_cons_self
  wp2_extendTo w.mg (w.done cm List.mem_cons_self).1 hx.1.tomb hle w.live_pos fun _ mg fx _ hl =>
    ⟨_, w.drop (x := .live m) mg fx.2 ⟨w.lo.1, Nat.le_trans w.lo.2 fx.size⟩
      (Nat.le_of_lt (Nat.lt_of_lt_of_le hx.1.tomb.lt fx.size)) hl, k⟩

/-! #### callees: the clauses of `AllMark` (and the lemmas of the leaf functions) by shape

What the callee takes: nothing, the newest marker (`M`, `E`), or the completed marker the walk learnt last (`L`).
What it returns: nothing the walk needs, a completed marker (`D`), or possibly one (`O`). -/

section
variable {x : G α} {Q : α → MCtx → Prop}

theorem MW.callD {x : G CompletedMarker} {Q : CompletedMarker → MCtx → Prop}
    (h : ∀ s, MG s → wp A2 x (fun r s' => MG s' ∧ Fr s.events.size s s' ∧ s'.live = s.live ∧ Done s' r ∧ s.events.size ≤ r.pos) s)
    (k : ∀ r, lo ≤ r.pos → Q r ⟨O, r :: D, lo, f⟩) : MW E x Q ⟨O, D, lo, f⟩ := fun s w =>
  wp_conseq (h s w.mg) fun r _ ⟨h1, h2, h3, h4, h5⟩ =>
    ⟨_, (w.st0 ⟨h1, h2, h3⟩).addDone h4 (Nat.le_trans w.lb_le h5), k r (Nat.le_trans w.lo.2 h5)⟩

theorem MW.callO {γ : Type} {x : G (Option (CompletedMarker × γ))} {Q : Option (CompletedMarker × γ) → MCtx → Prop}
    (h : ∀ s, MG s → wp A2 x (fun r s' => MG s' ∧ Fr s.events.size s s' ∧ s'.live = s.live ∧
      (∀ cm bl, r = some (cm, bl) → Done s' cm ∧ s.events.size ≤ cm.pos)) s)
    (k0 : Q none ⟨O, D, lo, f⟩) (k : ∀ cm bl, lo ≤ cm.pos → Q (some (cm, bl)) ⟨O, cm :: D, lo, f⟩) :
    MW E x Q ⟨O, D, lo, f⟩ := fun s w => wp_conseq (h s w.mg) fun r _ ⟨h1, h2, h3, h4⟩ => by
  have w' := w.st0 ⟨h1, h2, h3⟩
  match r with
  | none => exact ⟨_, w', k0⟩
  | some (cm, bl) =>
    obtain ⟨h5, h6⟩ := h4 cm bl rfl
    exact ⟨_, w'.addDone h5 (Nat.le_trans w.lb_le h6), k cm bl (Nat.le_trans w.lo.2 h6)⟩

theorem MW.callO1 {x : G (Option CompletedMarker)} {Q : Option CompletedMarker → MCtx → Prop}
    (h : ∀ s, MG s → wp A2 x (fun r s' => MG s' ∧ Fr s.events.size s s' ∧ s'.live = s.live ∧
      (∀ cm, r = some cm → Done s' cm ∧ s.events.size ≤ cm.pos)) s)
    (k0 : Q none ⟨O, D, lo, f⟩) (k : ∀ cm, lo ≤ cm.pos → Q (some cm) ⟨O, cm :: D, lo, f⟩) : MW E x Q ⟨O, D, lo, f⟩ :=
  fun s w => wp_conseq (h s w.mg) fun r _ ⟨h1, h2, h3, h4⟩ => by
    have w' := w.st0 ⟨h1, h2, h3⟩
    match r with
    | none => exact ⟨_, w', k0⟩
    | some cm =>
      obtain ⟨h5, h6⟩ := h4 cm rfl
      exact ⟨_, w'.addDone h5 (Nat.le_trans w.lb_le h6), k cm (Nat.le_trans w.lo.2 h6)⟩

/-- the callee is given the newest marker.  It may rewrite every event from that marker on: the completed markers are
forgotten -/
theorem MW.callM {m : Marker} (h : Takes m x) (k : ∀ r, Q r ⟨O, [], m.pos, min f m.pos⟩) : MW E x Q ⟨.live m :: O, D, lo, f⟩ := fun s w =>
  wp_conseq (h s ⟨w.mg, (w.own _ List.mem_cons_self).1, w.live_pos⟩) fun r _ ⟨h1, h2, h3⟩ =>
    ⟨_, w.take (x := .live m) h1 h2 h3, k r⟩

/-- `opt_item` takes the newest marker, or gives it back -/
theorem MW.callE {m : Marker} {x : G (Except Marker Unit)} {Q : Except Marker Unit → MCtx → Prop}
    (h : ∀ s, MG s ∧ Live s m ∧ 1 ≤ s.live → wp A2 x (fun r s' => match r with
      | .ok _ => MG s' ∧ Fr m.pos s s' ∧ s'.live + 1 = s.live
      | .error m' => m' = m ∧ MG s' ∧ Live s' m ∧ Fr s.events.size s s' ∧ s'.live = s.live) s)
    (k0 : ∀ u, Q (.ok u) ⟨O, [], m.pos, min f m.pos⟩) (k : Q (.error m) ⟨.live m :: O, D, lo, f⟩) :
    MW E x Q ⟨.live m :: O, D, lo, f⟩ :=
  fun s w => wp_conseq (h s ⟨w.mg, (w.own _ List.mem_cons_self).1, w.live_pos⟩) fun r _ hr => by
    match r, hr with
    | .ok u, ⟨h1, h2, h3⟩ => exact ⟨_, w.take (x := .live m) h1 h2 h3, k0 u⟩
    | .error _, ⟨rfl, h1, _, h2, h3⟩ => exact ⟨_, w.st0 ⟨h1, h2, h3⟩, k⟩

theorem MW.callMO {γ : Type} {m : Marker} {x : G (Option (CompletedMarker × γ))} {Q : Option (CompletedMarker × γ) → MCtx → Prop}
    (h : ∀ s, MG s ∧ OLive s (some m) → wp A2 x (fun r s' => MG s' ∧ Fr (obound (some m) s) s s' ∧
      s'.live + ocount (some m) = s.live ∧ (∀ cm bl, r = some (cm, bl) → Done s' cm ∧ obound (some m) s ≤ cm.pos)) s)
    (k0 : Q none ⟨O, [], m.pos, min f m.pos⟩) (k : ∀ cm bl, m.pos ≤ cm.pos → Q (some (cm, bl)) ⟨O, [cm], m.pos, min f m.pos⟩) :
    MW E x Q ⟨.live m :: O, D, lo, f⟩ := fun s w => by
  have hx := w.own _ List.mem_cons_self
  refine wp_conseq (h s ⟨w.mg, fun m0 e => ?_⟩) fun r _ ⟨h1, h2, h3, h4⟩ => ?_
  · cases e; exact ⟨hx.1, w.live_pos⟩
  · have w' := w.take (x := .live m) h1 h2 h3
    match r with
    | none => exact ⟨_, w', k0⟩
    | some (cm, bl) =>
      obtain ⟨h5, h6⟩ := h4 cm bl rfl
      exact ⟨_, w'.addDone h5 (Nat.le_trans E.hlb (Nat.le_trans hx.2 h6)), k cm bl h6⟩

theorem optNone {R : P → α → P → Prop}
    (h : ∀ s, MG s ∧ OLive s none → wp A2 x (fun r s' => MG s' ∧ Fr (obound none s) s s' ∧ s'.live + ocount none = s.live ∧
      R s r s') s) : Plain x := fun s hg =>
  wp_conseq (h s ⟨hg, fun _ e => nomatch e⟩) fun _ _ ⟨h1, h2, h3, _⟩ => ⟨h1, h2, h3⟩

theorem optNoneD {x : G CompletedMarker}
    (h : ∀ s, MG s ∧ OLive s none → wp A2 x (fun r s' => MG s' ∧ Fr (obound none s) s s' ∧ s'.live + ocount none = s.live ∧
      Done s' r ∧ obound none s ≤ r.pos) s) (s : P) (hg : MG s) :
    wp A2 x (fun r s' => MG s' ∧ Fr s.events.size s s' ∧ s'.live = s.live ∧ Done s' r ∧ s.events.size ≤ r.pos) s :=
  h s ⟨hg, fun _ e => nomatch e⟩

theorem optNoneO {γ : Type} {x : G (Option (CompletedMarker × γ))}
    (h : ∀ s, MG s ∧ OLive s none → wp A2 x (fun r s' => MG s' ∧ Fr (obound none s) s s' ∧ s'.live + ocount none = s.live ∧
      (∀ cm bl, r = some (cm, bl) → Done s' cm ∧ obound none s ≤ cm.pos)) s) (s : P) (hg : MG s) :
    wp A2 x (fun r s' => MG s' ∧ Fr s.events.size s s' ∧ s'.live = s.live ∧
      (∀ cm bl, r = some (cm, bl) → Done s' cm ∧ s.events.size ≤ cm.pos)) s :=
  h s ⟨hg, fun _ e => nomatch e⟩

theorem MW.callLD {lhs : CompletedMarker} {x : G CompletedMarker} {Q : CompletedMarker → MCtx → Prop}
    (h : ∀ s, MG s ∧ Done s lhs → wp A2 x (fun r s' => MG s' ∧ Fr s.events.size s s' ∧ s'.live = s.live ∧
      Done s' r ∧ lhs.pos ≤ r.pos) s)
    (k : ∀ r, Q r ⟨O, r :: lhs :: D, lo, f⟩) : MW E x Q ⟨O, lhs :: D, lo, f⟩ := fun s w =>
  have hd := w.done lhs List.mem_cons_self
  wp_conseq (h s ⟨w.mg, hd.1⟩) fun r _ ⟨h1, h2, h3, h4, h5⟩ =>
    ⟨_, (w.st0 ⟨h1, h2, h3⟩).addDone h4 (Nat.le_trans hd.2 h5), k r⟩

theorem MW.callLD1 {γ : Type} {lhs : CompletedMarker} {x : G (CompletedMarker × γ)} {Q : CompletedMarker × γ → MCtx → Prop}
    (h : ∀ s, MG s ∧ Done s lhs → wp A2 x (fun r s' => MG s' ∧ Fr s.events.size s s' ∧ s'.live = s.live ∧
      Done s' r.1 ∧ lhs.pos ≤ r.1.pos) s)
    (k : ∀ r, Q r ⟨O, r.1 :: lhs :: D, lo, f⟩) : MW E x Q ⟨O, lhs :: D, lo, f⟩ := fun s w =>
  have hd := w.done lhs List.mem_cons_self
  wp_conseq (h s ⟨w.mg, hd.1⟩) fun r _ ⟨h1, h2, h3, h4, h5⟩ =>
    ⟨_, (w.st0 ⟨h1, h2, h3⟩).addDone h4 (Nat.le_trans hd.2 h5), k r⟩

theorem MW.callLO {γ : Type} {lhs : CompletedMarker} {x : G (Option (CompletedMarker × γ))}
    {Q : Option (CompletedMarker × γ) → MCtx → Prop}
    (h : ∀ s, MG s ∧ Done s lhs → wp A2 x (fun r s' => MG s' ∧ Fr s.events.size s s' ∧ s'.live = s.live ∧
      (∀ cm bl, r = some (cm, bl) → Done s' cm ∧ lhs.pos ≤ cm.pos)) s)
    (k0 : Q none ⟨O, lhs :: D, lo, f⟩) (k : ∀ cm bl, Q (some (cm, bl)) ⟨O, cm :: lhs :: D, lo, f⟩) :
    MW E x Q ⟨O, lhs :: D, lo, f⟩ := fun s w =>
  have hd := w.done lhs List.mem_cons_self
  wp_conseq (h s ⟨w.mg, hd.1⟩) fun r _ ⟨h1, h2, h3, h4⟩ => by
    have w' := w.st0 ⟨h1, h2, h3⟩
    match r with
    | none => exact ⟨_, w', k0⟩
    | some (cm, bl) =>
      obtain ⟨h5, h6⟩ := h4 cm bl rfl
      exact ⟨_, w'.addDone h5 (Nat.le_trans hd.2 h6), k cm bl⟩

end

/-- at return every marker has been consumed, and the clause `Y` about the result follows from what the walk knows
of the completed markers -/
def MExit (E : MEnv) (Y : α → P → Prop) (r : α) (Γ : MCtx) : Prop :=
  Γ.own = [] ∧ ∀ s', (∀ cm ∈ Γ.done, Done s' cm ∧ E.lb ≤ cm.pos) → Y r s'

theorem MExit.plain {r : α} : MExit E (fun _ _ => True) r ⟨[], D, lo, f⟩ := ⟨rfl, fun _ _ => trivial⟩

theorem MExit.done {r : CompletedMarker} {lb : Nat} (h : r ∈ D) (hb : lb ≤ E.lb) :
    MExit E (fun r s' => Done s' r ∧ lb ≤ r.pos) r ⟨[], D, lo, f⟩ :=
  ⟨rfl, fun _ hd => ⟨(hd r h).1, Nat.le_trans hb (hd r h).2⟩⟩

theorem MExit.done1 {γ : Type} {r : CompletedMarker × γ} {lb : Nat} (h : r.1 ∈ D) (hb : lb ≤ E.lb) :
    MExit E (fun r s' => Done s' r.1 ∧ lb ≤ r.1.pos) r ⟨[], D, lo, f⟩ :=
  ⟨rfl, fun _ hd => ⟨(hd _ h).1, Nat.le_trans hb (hd _ h).2⟩⟩

theorem MExit.ret_some {γ : Type} {c : CompletedMarker} {b : γ} {lb : Nat} (h : c ∈ D) (hb : lb ≤ E.lb) :
    MExit E (fun r s' => ∀ cm bl, r = some (cm, bl) → Done s' cm ∧ lb ≤ cm.pos) (some (c, b)) ⟨[], D, lo, f⟩ :=
  ⟨rfl, fun _ hd cm bl e => by cases e; exact ⟨(hd _ h).1, Nat.le_trans hb (hd _ h).2⟩⟩

theorem MExit.ret_none {γ : Type} {lb : Nat} :
    MExit E (fun (r : Option (CompletedMarker × γ)) s' => ∀ cm bl, r = some (cm, bl) → Done s' cm ∧ lb ≤ cm.pos) none
      ⟨[], D, lo, f⟩ :=
  ⟨rfl, fun _ _ _ _ e => nomatch e⟩

theorem MExit.ret_some1 {c : CompletedMarker} {lb : Nat} (h : c ∈ D) (hb : lb ≤ E.lb) :
    MExit E (fun r s' => ∀ cm, r = some cm → Done s' cm ∧ lb ≤ cm.pos) (some c) ⟨[], D, lo, f⟩ :=
  ⟨rfl, fun _ hd cm e => by cases e; exact ⟨(hd _ h).1, Nat.le_trans hb (hd _ h).2⟩⟩

theorem MExit.ret_none1 {lb : Nat} :
    MExit E (fun (r : Option CompletedMarker) s' => ∀ cm, r = some cm → Done s' cm ∧ lb ≤ cm.pos) none ⟨[], D, lo, f⟩ :=
  ⟨rfl, fun _ _ _ e => nomatch e⟩

/-- the return of `opt_item`: the marker is consumed, or it is given back and no marker below has been consumed -/
def MExitE (E : MEnv) (m : Marker) : Except Marker Unit → MCtx → Prop
  | .ok _, Γ => Γ.own = []
  | .error m', Γ => m' = m ∧ Γ.own = [.live m] ∧ Γ.fr = E.a.events.size

theorem MExitE.ok {m : Marker} {u : Unit} : MExitE E m (.ok u) ⟨[], D, lo, f⟩ := rfl

theorem MExitE.error {m : Marker} : MExitE E m (.error m) ⟨[.live m], D, lo, E.a.events.size⟩ := ⟨rfl, rfl, rfl⟩

theorem MW.run {x : G α} {Y : α → P → Prop} (h : MW E x (MExit E Y) Γ) (w : MInv E Γ E.a) :
    wp A2 x (fun r s' => MG s' ∧ Fr E.n E.a s' ∧ s'.live + E.k = E.a.live ∧ Y r s') E.a :=
  wp_conseq (h _ w) fun r s' ⟨Γ', w', he, hY⟩ =>
    ⟨w'.mg, w'.fr.2.mono w'.fr.1, by have := w'.cnt; rw [he] at this; exact this, hY s' w'.done⟩

end

def MEnv.plain (a : P) : MEnv := ⟨a, a.events.size, 0, a.events.size, Nat.le_refl _, Nat.le_refl _, Nat.zero_le _⟩

def MEnv.mark (a : P) (m : Marker) (h : Live a m ∧ 1 ≤ a.live) : MEnv :=
  ⟨a, m.pos, 1, m.pos, Nat.le_refl _, Nat.le_of_lt h.1.lt, h.2⟩

def MEnv.lhs (a : P) (lhs : CompletedMarker) (h : Done a lhs) : MEnv :=
  ⟨a, a.events.size, 0, lhs.pos, Nat.le_of_lt h.lt, Nat.le_refl _, Nat.zero_le _⟩

section
variable {α : Type} {x : G α}

theorem MInv.init {E : MEnv} {O : List Own} {D : List CompletedMarker} {lo : Nat} (mg : MG E.a) (hc : E.k = O.length)
    (hlo : E.n ≤ lo ∧ lo ≤ E.a.events.size) (ho : ∀ x ∈ O, x.Holds E.a ∧ E.n ≤ x.pos)
    (hs : O.Pairwise fun x y => y.pos < x.pos) (hd : ∀ cm ∈ D, Done E.a cm ∧ E.lb ≤ cm.pos) :
    MInv E ⟨O, D, lo, E.a.events.size⟩ E.a :=
  ⟨mg, ⟨E.hn, Fr.refl _⟩, by rw [hc], hlo, ho, hs, hd⟩

theorem MInv.init_mark {a : P} {m : Marker} (mg : MG a) (hm : Live a m ∧ 1 ≤ a.live) :
    MInv (.mark a m hm) ⟨[.live m], [], m.pos + 1, a.events.size⟩ a :=
  .init mg rfl ⟨Nat.le_succ _, hm.1.lt⟩ (fun _ h => by cases List.mem_singleton.mp h; exact ⟨hm.1, Nat.le_refl _⟩)
    (List.pairwise_singleton _ _) fun _ h => nomatch h

/-- the walk of the body `x` of a function without marker argument; `Y`: the clause of its result -/
def Walk0 (x : G α) (Y : P → α → P → Prop) : Prop :=
  ∀ a, MW (.plain a) x (MExit (.plain a) (Y a)) ⟨[], [], a.events.size, a.events.size⟩

/-- … of a function that is given the marker `m` -/
def WalkM (m : Marker) (x : G α) (Y : P → α → P → Prop) : Prop :=
  ∀ a hm, MW (.mark a m hm) x (MExit (.mark a m hm) (Y a)) ⟨[.live m], [], m.pos + 1, a.events.size⟩

/-- … of `opt_item` -/
def WalkE (m : Marker) (x : G (Except Marker Unit)) : Prop :=
  ∀ a hm, MW (.mark a m hm) x (MExitE (.mark a m hm) m) ⟨[.live m], [], m.pos + 1, a.events.size⟩

/-- … of a function that extends the completed marker `lhs` -/
def WalkL (lhs : CompletedMarker) (x : G α) (Y : P → α → P → Prop) : Prop :=
  ∀ a hl, MW (.lhs a lhs hl) x (MExit (.lhs a lhs hl) (Y a)) ⟨[], [lhs], a.events.size, a.events.size⟩

theorem MW.field0 {Y : P → α → P → Prop} (h : Walk0 x Y) (s : P) (hp : MG s) :
    wp A2 x (fun r s' => MG s' ∧ Fr s.events.size s s' ∧ s'.live = s.live ∧ Y s r s') s :=
  MW.run (E := .plain s) (h s) (.init hp rfl ⟨Nat.le_refl _, Nat.le_refl _⟩ (fun _ h => nomatch h) .nil fun _ h => nomatch h)

theorem MW.field0' (h : Walk0 x fun _ _ _ => True) : Plain x := fun s hp =>
  wp_conseq (MW.field0 h s hp) fun _ _ ⟨h1, h2, h3, _⟩ => ⟨h1, h2, h3⟩

theorem MW.fieldM {m : Marker} (h : WalkM m x fun _ _ _ => True) : Takes m x := fun s hp =>
  wp_conseq (MW.run (E := .mark s m hp.2) (h s hp.2) (.init_mark hp.1 hp.2)) fun _ _ ⟨h1, h2, h3, _⟩ => ⟨h1, h2, h3⟩

theorem MW.fieldE {m : Marker} {x : G (Except Marker Unit)} (h : WalkE m x) (s : P) (hp : MG s ∧ Live s m ∧ 1 ≤ s.live) :
    wp A2 x (fun r s' => match r with
      | .ok _ => MG s' ∧ Fr m.pos s s' ∧ s'.live + 1 = s.live
      | .error m' => m' = m ∧ MG s' ∧ Live s' m ∧ Fr s.events.size s s' ∧ s'.live = s.live) s :=
  wp_conseq (h s hp.2 s (.init_mark hp.1 hp.2)) fun r s' ⟨Γ', w', he⟩ => by
    have hc := w'.cnt
    match r, he with
    | .ok _, he => rw [show Γ'.own = [] from he] at hc; exact ⟨w'.mg, w'.fr.2.mono w'.fr.1, hc⟩
    | .error _, ⟨rfl, ho, hf⟩ =>
      rw [ho] at hc
      exact ⟨rfl, w'.mg, (w'.own (.live _) (ho ▸ List.mem_cons_self)).1, hf ▸ w'.fr.2, Nat.add_right_cancel hc⟩

/-- a function with an optional marker: one walk without, one with the marker -/
theorem MW.fieldO {x : Option Marker → G α} {Y : Option Marker → P → α → P → Prop} (h0 : Walk0 (x none) (Y none))
    (h1 : ∀ m, WalkM m (x (some m)) (Y (some m))) (m : Option Marker) (s : P) (hp : MG s ∧ OLive s m) :
    wp A2 (x m) (fun r s' => MG s' ∧ Fr (obound m s) s s' ∧ s'.live + ocount m = s.live ∧ Y m s r s') s := by
  cases m with
  | none => exact MW.field0 h0 s hp.1
  | some m => exact MW.run (E := .mark s m (hp.2 m rfl)) (h1 m s _) (.init_mark hp.1 _)

theorem MW.fieldL {lhs : CompletedMarker} {Y : P → α → P → Prop} (h : WalkL lhs x Y) (s : P) (hp : MG s ∧ Done s lhs) :
    wp A2 x (fun r s' => MG s' ∧ Fr s.events.size s s' ∧ s'.live = s.live ∧ Y s r s') s :=
  MW.run (E := .lhs s lhs hp.2) (h s hp.2) (.init hp.1 rfl ⟨Nat.le_refl _, Nat.le_refl _⟩ (fun _ h => nomatch h) .nil
    fun _ h => by cases List.mem_singleton.mp h; exact ⟨hp.2, Nat.le_refl _⟩)

end

end Oq3.Parser

namespace Oq3.Grammar
open Oq3.Gen Oq3.Parser

theorem MW.currentOp {E : MEnv} {Γ : MCtx} {Q : Nat × SyntaxKind × Ops.Assoc → MCtx → Prop} (h : ∀ r, Q r Γ) :
    MW E currentOp Q Γ := fun _ w => wp_currentOp fun r _ => ⟨Γ, w, h r⟩

theorem DefFlavor.listKind_ne_tomb (f : DefFlavor) : f.listKind ≠ SyntaxKind.TOMBSTONE := by
  cases f <;> decide

/-- a completed marker is among the last the walk has learnt -/
macro "mw_mem" : tactic => `(tactic| first
  | exact List.Mem.head _
  | exact List.Mem.tail _ (List.Mem.head _)
  | exact List.Mem.tail _ (List.Mem.tail _ (List.Mem.head _)))

set_option hygiene false in
/-- a test of the tokens is `Plain`: by its syntax -/
macro "mw_test" : tactic => `(tactic| repeat' with_reducible first
  | exact Plain.at _ | exact Plain.atTs _ | exact Plain.pure _ | exact nth_mark _
  | exact eat_mark _ | exact expect_mark _
  | apply Plain.andM | apply Plain.orM | apply Plain.notM | apply Plain.bind | intro _)

/-- One step of the walk.  A goal `MW ..`: the rule of the head of the program — structural, a call of the parser API, or
the call rule of the table `[f rule, ..]` for a grammar function.  A condition that only tests tokens is one step (`mw_test`): the
walk does not branch on how it came to its answer.  The rules that consume a marker apply only if it is
the newest the walk owns, those that take a completed marker only if it is the last the walk has learnt: the grammar
uses its markers as a stack.  `extend_to` needs the marker below the completed marker: arithmetic on what the callees
said of the positions they returned.  At a return, the exit lemma of the clause.
(Names are resolved where the tactic is used: the rules of `eat`, `bump`, .. are proved with it, below.) -/
syntax "mw_step" "[" (ident term:max),* "]" : tactic
set_option hygiene false in
macro_rules
  | `(tactic| mw_step [$[$f $h],*]) => `(tactic| first
  | (goal_kind wp; first
      | (wp_rule [andM MW.call0, orM MW.call0, notM MW.call0]; focus (mw_test; done))
      | wp_rule [Pure.pure Walk.pure, Bind.bind Walk.bind, ite Walk.ite, andM Walk.andM, orM Walk.orM, notM Walk.notM,
          at' MW.at, current MW.current, atTs MW.atTs, currentOp MW.currentOp, start MW.start,
          CompletedMarker.precede MW.precede, Marker.abandon MW.abandon,
          nth (MW.call0 (nth_mark _)), error (MW.call0 (error_mark _)), doBump (MW.call0 (doBump_mark _ _)),
          eat (MW.call0 (eat_mark _)), bump (MW.call0 (bump_mark _)), bumpAny (MW.call0 bumpAny_mark),
          expect (MW.call0 (expect_mark _)), errRecover (MW.call0 (errRecover_mark _ _)),
          errAndBump (MW.call0 (errAndBump_mark _)), typeName (MW.call0 typeName_mark), $[$f $h],*]
      | (first | with_reducible apply MW.complete | with_reducible apply MW.completeT
         first | decide | exact DefFlavor.listKind_ne_tomb _)
      | (with_reducible apply MW.extendTo; omega)
      | (with_reducible apply Walk.fail; decide)
      | (with_reducible apply Walk.panic; decide)
      | split
      | dsimp only)
  | (goal_kind pi; intro _)
  | (goal_kind and; with_reducible apply And.intro)
  | (goal_kind other; first
      | exact MExit.plain
      | (first
          | with_reducible apply MExit.done | with_reducible apply MExit.done1 | with_reducible apply MExit.ret_some
          | with_reducible apply MExit.ret_some1
         mw_mem; exact Nat.le_refl _)
      | exact MExit.ret_none
      | exact MExit.ret_none1
      | exact MExitE.ok
      | exact MExitE.error
      | split))

syntax "mw" "[" (ident term:max),* "]" : tactic
macro_rules
  | `(tactic| mw [$[$f $h],*]) => `(tactic| repeat' mw_step [$[$f $h],*])

end Oq3.Grammar

namespace Oq3.Parser
open Oq3.Gen Oq3.Grammar

theorem eat_mark (k : SyntaxKind) : Plain (eat k) := MW.field0' fun a => by unfold eat; mw []

theorem bump_mark (k : SyntaxKind) : Plain (bump k) := MW.field0' fun a => by unfold bump; mw []

theorem bumpAny_mark : Plain bumpAny := MW.field0' fun a => by unfold bumpAny; mw []

theorem expect_mark (k : SyntaxKind) : Plain (expect k) := MW.field0' fun a => by unfold expect; mw []

theorem errRecover_mark (msg : String) (rec : TokenSet) : Plain (errRecover msg rec) :=
  MW.field0' fun a => by unfold errRecover; mw []

theorem errAndBump_mark (msg : String) : Plain (errAndBump msg) := errRecover_mark msg []

end Oq3.Parser

namespace Oq3.Grammar
open Oq3.Gen Oq3.Parser

theorem typeName_mark : Plain typeName := MW.field0' fun a => by unfold typeName; mw []

end Oq3.Grammar
