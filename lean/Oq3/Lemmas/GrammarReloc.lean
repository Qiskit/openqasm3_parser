/- GENERATED by /verif/tools/gen_grammar_reloc.py from Oq3/Model/Grammar.lean — the proofs are checked by Lean. -/
import Oq3.Model.Grammar
import Oq3.Lemmas.Reloc

namespace Oq3.Grammar
open Oq3.Gen Oq3.Parser
open Oq3.Gen.Ops (Assoc)
open Oq3.Gen.TokenSets

variable {n : Nat}

theorem currentOpScan_rl (cur : SyntaxKind)
    (rows : List (SyntaxKind × Option SyntaxKind × Option (Nat × SyntaxKind × Assoc))) :
    RL n (currentOpScan cur rows) (currentOpScan cur rows) := by
  induction rows with
  | nil => exact RL.pure rfl
  | cons r rows ih => obtain ⟨k, guard, res⟩ := r; unfold currentOpScan; rl [ih]

theorem currentOp_rl : RL n currentOp currentOp := by
  unfold currentOp; rl [currentOpScan_rl _ _]

theorem nameR_rl (recovery : TokenSet) : RL n (nameR recovery) (nameR recovery) := by
  unfold nameR; rl []

theorem name_rl  : RL n (name ) (name ) := by
  unfold name; rl [nameR_rl _]

theorem break__rl (m : Marker) : RL n (break_ m) (break_ (Sh.sh n m)) := by
  unfold break_; rl []

theorem continue__rl (m : Marker) : RL n (continue_ m) (continue_ (Sh.sh n m)) := by
  unfold continue_; rl []

theorem end__rl (m : Marker) : RL n (end_ m) (end_ (Sh.sh n m)) := by
  unfold end_; rl []

theorem filepathR_rl (recovery : TokenSet) : RL n (filepathR recovery) (filepathR recovery) := by
  unfold filepathR; rl []

theorem defcalgrammar__rl (m : Marker) : RL n (defcalgrammar_ m) (defcalgrammar_ (Sh.sh n m)) := by
  unfold defcalgrammar_; rl [filepathR_rl _]

theorem include'_rl (m : Marker) : RL n (include' m) (include' (Sh.sh n m)) := by
  unfold include'; rl [filepathR_rl _]

theorem version__rl  : RL n (version_ ) (version_ ) := by
  unfold version_; rl []

theorem versionString_rl (m : Marker) : RL n (versionString m) (versionString (Sh.sh n m)) := by
  unfold versionString; rl [version__rl]

theorem typeName_rl  : RL n (typeName ) (typeName ) := by
  unfold typeName; rl []

theorem varName_rl  : RL n (varName ) (varName ) := by
  unfold varName; rl []

theorem identifier_rl  : RL n (identifier ) (identifier ) := by
  unfold identifier; rl []

theorem hardwareQubit_rl  : RL n (hardwareQubit ) (hardwareQubit ) := by
  unfold hardwareQubit; rl []

theorem literal_rl  : RL n (literal ) (literal ) := by
  unfold literal; rl [identifier_rl]

theorem atListEndToken_rl (flavor : DefFlavor) : RL n (atListEndToken flavor) (atListEndToken flavor) := by
  unfold atListEndToken; rl []

theorem paramUntyped_rl (m : Marker) : RL n (paramUntyped m) (paramUntyped (Sh.sh n m)) := by
  unfold paramUntyped; rl []

theorem paramUntypedOrHardwareQubit_rl (m : Marker) : RL n (paramUntypedOrHardwareQubit m) (paramUntypedOrHardwareQubit (Sh.sh n m)) := by
  unfold paramUntypedOrHardwareQubit; rl [hardwareQubit_rl]

theorem bumpUntilEof_rl (k : Nat) : RL n (bumpUntilEof k) (bumpUntilEof k) := by
  induction k with
  | zero => exact RL.fail _ _
  | succ k ih => unfold bumpUntilEof; rl [ih]

/-- all functions of the mutual block at one fuel level -/
structure AllRL (fuel : Nat) : Prop where
  optReturnSignature : ∀ (n : Nat) , RL n (Oq3.Grammar.optReturnSignature fuel ) (Oq3.Grammar.optReturnSignature fuel )
  delimited : ∀ (n : Nat) (bra ket : SyntaxKind) (consumeBraket : Bool) (delim : SyntaxKind) (firstSet : TokenSet) (parser : DelimitedParser), RL n (Oq3.Grammar.delimited fuel bra ket consumeBraket delim firstSet parser) (Oq3.Grammar.delimited fuel bra ket consumeBraket delim firstSet parser)
  delimitedLoop : ∀ (n : Nat) (ket delim : SyntaxKind) (firstSet : TokenSet) (parser : DelimitedParser), RL n (Oq3.Grammar.delimitedLoop fuel ket delim firstSet parser) (Oq3.Grammar.delimitedLoop fuel ket delim firstSet parser)
  delimitedParser : ∀ (n : Nat) (parser : DelimitedParser), RL n (Oq3.Grammar.delimitedParser fuel parser) (Oq3.Grammar.delimitedParser fuel parser)
  sourceFileContents : ∀ (n : Nat) (stopOnRCurly : Bool), RL n (Oq3.Grammar.sourceFileContents fuel stopOnRCurly) (Oq3.Grammar.sourceFileContents fuel stopOnRCurly)
  item : ∀ (n : Nat) (stopOnRCurly : Bool), RL n (Oq3.Grammar.item fuel stopOnRCurly) (Oq3.Grammar.item fuel stopOnRCurly)
  optItem : ∀ (n : Nat) (m : Marker), RL n (Oq3.Grammar.optItem fuel m) (Oq3.Grammar.optItem fuel (Sh.sh n m))
  switchCaseStmt : ∀ (n : Nat) (m : Marker), RL n (Oq3.Grammar.switchCaseStmt fuel m) (Oq3.Grammar.switchCaseStmt fuel (Sh.sh n m))
  switchCaseLoop : ∀ (n : Nat) , RL n (Oq3.Grammar.switchCaseLoop fuel ) (Oq3.Grammar.switchCaseLoop fuel )
  blockOrStatement : ∀ (n : Nat) , RL n (Oq3.Grammar.blockOrStatement fuel ) (Oq3.Grammar.blockOrStatement fuel )
  ifStmt : ∀ (n : Nat) (m : Marker), RL n (Oq3.Grammar.ifStmt fuel m) (Oq3.Grammar.ifStmt fuel (Sh.sh n m))
  whileStmt : ∀ (n : Nat) (m : Marker), RL n (Oq3.Grammar.whileStmt fuel m) (Oq3.Grammar.whileStmt fuel (Sh.sh n m))
  forStmt : ∀ (n : Nat) (m : Marker), RL n (Oq3.Grammar.forStmt fuel m) (Oq3.Grammar.forStmt fuel (Sh.sh n m))
  qubitDeclarationStmt : ∀ (n : Nat) (m : Marker), RL n (Oq3.Grammar.qubitDeclarationStmt fuel m) (Oq3.Grammar.qubitDeclarationStmt fuel (Sh.sh n m))
  resetStmt : ∀ (n : Nat) (m : Marker), RL n (Oq3.Grammar.resetStmt fuel m) (Oq3.Grammar.resetStmt fuel (Sh.sh n m))
  gateDefinition : ∀ (n : Nat) (m : Marker), RL n (Oq3.Grammar.gateDefinition fuel m) (Oq3.Grammar.gateDefinition fuel (Sh.sh n m))
  defcal_ : ∀ (n : Nat) (m : Marker), RL n (Oq3.Grammar.defcal_ fuel m) (Oq3.Grammar.defcal_ fuel (Sh.sh n m))
  returnsBoolClassicalDeclarationStmt : ∀ (n : Nat) (m : Marker), RL n (Oq3.Grammar.returnsBoolClassicalDeclarationStmt fuel m) (Oq3.Grammar.returnsBoolClassicalDeclarationStmt fuel (Sh.sh n m))
  classicalDeclarationStmt : ∀ (n : Nat) (m : Marker), RL n (Oq3.Grammar.classicalDeclarationStmt fuel m) (Oq3.Grammar.classicalDeclarationStmt fuel (Sh.sh n m))
  ioDeclarationStmt : ∀ (n : Nat) (m : Marker), RL n (Oq3.Grammar.ioDeclarationStmt fuel m) (Oq3.Grammar.ioDeclarationStmt fuel (Sh.sh n m))
  defStmt : ∀ (n : Nat) (m : Marker), RL n (Oq3.Grammar.defStmt fuel m) (Oq3.Grammar.defStmt fuel (Sh.sh n m))
  externStmt : ∀ (n : Nat) (m : Marker), RL n (Oq3.Grammar.externStmt fuel m) (Oq3.Grammar.externStmt fuel (Sh.sh n m))
  cal_ : ∀ (n : Nat) (m : Marker), RL n (Oq3.Grammar.cal_ fuel m) (Oq3.Grammar.cal_ fuel (Sh.sh n m))
  barrier_ : ∀ (n : Nat) (m : Marker), RL n (Oq3.Grammar.barrier_ fuel m) (Oq3.Grammar.barrier_ fuel (Sh.sh n m))
  delayStmt : ∀ (n : Nat) (m : Marker), RL n (Oq3.Grammar.delayStmt fuel m) (Oq3.Grammar.delayStmt fuel (Sh.sh n m))
  aliasStmt : ∀ (n : Nat) (m : Marker), RL n (Oq3.Grammar.aliasStmt fuel m) (Oq3.Grammar.aliasStmt fuel (Sh.sh n m))
  expr : ∀ (n : Nat) , RL n (Oq3.Grammar.expr fuel ) (Oq3.Grammar.expr fuel )
  rangeExpr : ∀ (n : Nat) , RL n (Oq3.Grammar.rangeExpr fuel ) (Oq3.Grammar.rangeExpr fuel )
  exprOrRangeExpr : ∀ (n : Nat) , RL n (Oq3.Grammar.exprOrRangeExpr fuel ) (Oq3.Grammar.exprOrRangeExpr fuel )
  exprStmt : ∀ (n : Nat) (m : Option Marker), RL n (Oq3.Grammar.exprStmt fuel m) (Oq3.Grammar.exprStmt fuel (Sh.sh n m))
  stmt : ∀ (n : Nat) , RL n (Oq3.Grammar.stmt fuel ) (Oq3.Grammar.stmt fuel )
  letStmt : ∀ (n : Nat) (m : Marker), RL n (Oq3.Grammar.letStmt fuel m) (Oq3.Grammar.letStmt fuel (Sh.sh n m))
  qOrCRegParam : ∀ (n : Nat) , RL n (Oq3.Grammar.qOrCRegParam fuel ) (Oq3.Grammar.qOrCRegParam fuel )
  qOrCRegDeclaration : ∀ (n : Nat) (m : Marker), RL n (Oq3.Grammar.qOrCRegDeclaration fuel m) (Oq3.Grammar.qOrCRegDeclaration fuel (Sh.sh n m))
  exprBlockStatements : ∀ (n : Nat) , RL n (Oq3.Grammar.exprBlockStatements fuel ) (Oq3.Grammar.exprBlockStatements fuel )
  exprBp : ∀ (n : Nat) (m : Option Marker) (r : Restrictions) (bp : Nat), RL n (Oq3.Grammar.exprBp fuel m r bp) (Oq3.Grammar.exprBp fuel (Sh.sh n m) r bp)
  exprBpLoop : ∀ (n : Nat) (r : Restrictions) (bp : Nat) (lhs : CompletedMarker), RL n (Oq3.Grammar.exprBpLoop fuel r bp lhs) (Oq3.Grammar.exprBpLoop fuel r bp (Sh.sh n lhs))
  lhs : ∀ (n : Nat) (r : Restrictions), RL n (Oq3.Grammar.lhs fuel r) (Oq3.Grammar.lhs fuel r)
  postfixExpr : ∀ (n : Nat) (lhs : CompletedMarker) (blockLike : BlockLike) (allowCalls : Bool), RL n (Oq3.Grammar.postfixExpr fuel lhs blockLike allowCalls) (Oq3.Grammar.postfixExpr fuel (Sh.sh n lhs) blockLike allowCalls)
  callExpr : ∀ (n : Nat) (lhs : CompletedMarker), RL n (Oq3.Grammar.callExpr fuel lhs) (Oq3.Grammar.callExpr fuel (Sh.sh n lhs))
  paramTypeSpec : ∀ (n : Nat) , RL n (Oq3.Grammar.paramTypeSpec fuel ) (Oq3.Grammar.paramTypeSpec fuel )
  typeSpec : ∀ (n : Nat) , RL n (Oq3.Grammar.typeSpec fuel ) (Oq3.Grammar.typeSpec fuel )
  arrayTypeSpec : ∀ (n : Nat) (wantArrayRefType : Bool), RL n (Oq3.Grammar.arrayTypeSpec fuel wantArrayRefType) (Oq3.Grammar.arrayTypeSpec fuel wantArrayRefType)
  arrayTypeDimsLoop : ∀ (n : Nat) , RL n (Oq3.Grammar.arrayTypeDimsLoop fuel ) (Oq3.Grammar.arrayTypeDimsLoop fuel )
  nonArrayTypeSpec : ∀ (n : Nat) , RL n (Oq3.Grammar.nonArrayTypeSpec fuel ) (Oq3.Grammar.nonArrayTypeSpec fuel )
  complexTypeSpec : ∀ (n : Nat) , RL n (Oq3.Grammar.complexTypeSpec fuel ) (Oq3.Grammar.complexTypeSpec fuel )
  qubitTypeSpec : ∀ (n : Nat) , RL n (Oq3.Grammar.qubitTypeSpec fuel ) (Oq3.Grammar.qubitTypeSpec fuel )
  designator : ∀ (n : Nat) , RL n (Oq3.Grammar.designator fuel ) (Oq3.Grammar.designator fuel )
  indexExpr : ∀ (n : Nat) (lhs : CompletedMarker), RL n (Oq3.Grammar.indexExpr fuel lhs) (Oq3.Grammar.indexExpr fuel (Sh.sh n lhs))
  indexedIdentifier : ∀ (n : Nat) (lhs : CompletedMarker), RL n (Oq3.Grammar.indexedIdentifier fuel lhs) (Oq3.Grammar.indexedIdentifier fuel (Sh.sh n lhs))
  indexedIdentifierLoop : ∀ (n : Nat) , RL n (Oq3.Grammar.indexedIdentifierLoop fuel ) (Oq3.Grammar.indexedIdentifierLoop fuel )
  setExpression : ∀ (n : Nat) , RL n (Oq3.Grammar.setExpression fuel ) (Oq3.Grammar.setExpression fuel )
  indexOperator : ∀ (n : Nat) , RL n (Oq3.Grammar.indexOperator fuel ) (Oq3.Grammar.indexOperator fuel )
  callArgList : ∀ (n : Nat) , RL n (Oq3.Grammar.callArgList fuel ) (Oq3.Grammar.callArgList fuel )
  atomExpr : ∀ (n : Nat) (_r : Restrictions), RL n (Oq3.Grammar.atomExpr fuel _r) (Oq3.Grammar.atomExpr fuel _r)
  castExpr : ∀ (n : Nat) , RL n (Oq3.Grammar.castExpr fuel ) (Oq3.Grammar.castExpr fuel )
  gphaseCallExpr : ∀ (n : Nat) , RL n (Oq3.Grammar.gphaseCallExpr fuel ) (Oq3.Grammar.gphaseCallExpr fuel )
  modifiedGateCallExpr : ∀ (n : Nat) , RL n (Oq3.Grammar.modifiedGateCallExpr fuel ) (Oq3.Grammar.modifiedGateCallExpr fuel )
  modifiedGateCallExprLoop : ∀ (n : Nat) , RL n (Oq3.Grammar.modifiedGateCallExprLoop fuel ) (Oq3.Grammar.modifiedGateCallExprLoop fuel )
  gateCallExpr : ∀ (n : Nat) , RL n (Oq3.Grammar.gateCallExpr fuel ) (Oq3.Grammar.gateCallExpr fuel )
  measureExpression : ∀ (n : Nat) , RL n (Oq3.Grammar.measureExpression fuel ) (Oq3.Grammar.measureExpression fuel )
  tupleExpr : ∀ (n : Nat) , RL n (Oq3.Grammar.tupleExpr fuel ) (Oq3.Grammar.tupleExpr fuel )
  tupleExprLoop : ∀ (n : Nat) (sawComma sawExpr : Bool), RL n (Oq3.Grammar.tupleExprLoop fuel sawComma sawExpr) (Oq3.Grammar.tupleExprLoop fuel sawComma sawExpr)
  arrayExpr : ∀ (n : Nat) , RL n (Oq3.Grammar.arrayExpr fuel ) (Oq3.Grammar.arrayExpr fuel )
  arrayExprLoop : ∀ (n : Nat) (nExprs : Nat) (hasSemi : Bool), RL n (Oq3.Grammar.arrayExprLoop fuel nExprs hasSemi) (Oq3.Grammar.arrayExprLoop fuel nExprs hasSemi)
  tryBlockExpr : ∀ (n : Nat) , RL n (Oq3.Grammar.tryBlockExpr fuel ) (Oq3.Grammar.tryBlockExpr fuel )
  blockExpr : ∀ (n : Nat) , RL n (Oq3.Grammar.blockExpr fuel ) (Oq3.Grammar.blockExpr fuel )
  returnExpr : ∀ (n : Nat) , RL n (Oq3.Grammar.returnExpr fuel ) (Oq3.Grammar.returnExpr fuel )
  boxExpr : ∀ (n : Nat) (m : Option Marker), RL n (Oq3.Grammar.boxExpr fuel m) (Oq3.Grammar.boxExpr fuel (Sh.sh n m))
  paramListGateParams : ∀ (n : Nat) , RL n (Oq3.Grammar.paramListGateParams fuel ) (Oq3.Grammar.paramListGateParams fuel )
  paramListGateQubits : ∀ (n : Nat) , RL n (Oq3.Grammar.paramListGateQubits fuel ) (Oq3.Grammar.paramListGateQubits fuel )
  argListGateCallQubits : ∀ (n : Nat) , RL n (Oq3.Grammar.argListGateCallQubits fuel ) (Oq3.Grammar.argListGateCallQubits fuel )
  paramListDefParams : ∀ (n : Nat) , RL n (Oq3.Grammar.paramListDefParams fuel ) (Oq3.Grammar.paramListDefParams fuel )
  scalarTypeList : ∀ (n : Nat) , RL n (Oq3.Grammar.scalarTypeList fuel ) (Oq3.Grammar.scalarTypeList fuel )
  paramListDefcalParams : ∀ (n : Nat) , RL n (Oq3.Grammar.paramListDefcalParams fuel ) (Oq3.Grammar.paramListDefcalParams fuel )
  paramListDefcalQubits : ∀ (n : Nat) , RL n (Oq3.Grammar.paramListDefcalQubits fuel ) (Oq3.Grammar.paramListDefcalQubits fuel )
  expressionList : ∀ (n : Nat) , RL n (Oq3.Grammar.expressionList fuel ) (Oq3.Grammar.expressionList fuel )
  caseValueList : ∀ (n : Nat) , RL n (Oq3.Grammar.caseValueList fuel ) (Oq3.Grammar.caseValueList fuel )
  arrayLiteral : ∀ (n : Nat) , RL n (Oq3.Grammar.arrayLiteral fuel ) (Oq3.Grammar.arrayLiteral fuel )
  paramListOpenqasm : ∀ (n : Nat) (flavor : DefFlavor), RL n (Oq3.Grammar.paramListOpenqasm fuel flavor) (Oq3.Grammar.paramListOpenqasm fuel flavor)
  paramListOpenqasmLoop : ∀ (n : Nat) (flavor : DefFlavor) (numParams : Nat), RL n (Oq3.Grammar.paramListOpenqasmLoop fuel flavor numParams) (Oq3.Grammar.paramListOpenqasmLoop fuel flavor numParams)
  paramListItem : ∀ (n : Nat) (flavor : DefFlavor) (m : Marker) (innerArrayLiteral : Bool), RL n (Oq3.Grammar.paramListItem fuel flavor m innerArrayLiteral) (Oq3.Grammar.paramListItem fuel flavor (Sh.sh n m) innerArrayLiteral)
  paramTyped : ∀ (n : Nat) (m : Marker), RL n (Oq3.Grammar.paramTyped fuel m) (Oq3.Grammar.paramTyped fuel (Sh.sh n m))
  scalarType : ∀ (n : Nat) (m : Marker), RL n (Oq3.Grammar.scalarType fuel m) (Oq3.Grammar.scalarType fuel (Sh.sh n m))
  argGateCallQubit : ∀ (n : Nat) (m : Marker), RL n (Oq3.Grammar.argGateCallQubit fuel m) (Oq3.Grammar.argGateCallQubit fuel (Sh.sh n m))

theorem AllRL.exprBp_none {fuel : Nat} (ih : AllRL fuel) (n : Nat) (r : Restrictions) (bp : Nat) :
    RL n (Oq3.Grammar.exprBp fuel none r bp) (Oq3.Grammar.exprBp fuel none r bp) :=
  ih.exprBp n none r bp

theorem AllRL.exprStmt_some {fuel : Nat} (ih : AllRL fuel) (n : Nat) (m : Marker) :
    RL n (Oq3.Grammar.exprStmt fuel (some m)) (Oq3.Grammar.exprStmt fuel (some (Sh.sh n m))) :=
  ih.exprStmt n (some m)

theorem AllRL.boxExpr_none {fuel : Nat} (ih : AllRL fuel) (n : Nat) :
    RL n (Oq3.Grammar.boxExpr fuel none) (Oq3.Grammar.boxExpr fuel none) :=
  ih.boxExpr n none

theorem optReturnSignature_rlstep {fuel : Nat} (ih : AllRL fuel) (n : Nat) :
    RL n (optReturnSignature (fuel + 1)) (optReturnSignature (fuel + 1)) := by
  unfold optReturnSignature; rl [ih.typeSpec _]

theorem delimited_rlstep {fuel : Nat} (ih : AllRL fuel) (n : Nat) (bra ket : SyntaxKind) (consumeBraket : Bool) (delim : SyntaxKind) (firstSet : TokenSet) (parser : DelimitedParser) :
    RL n (delimited (fuel + 1) bra ket consumeBraket delim firstSet parser) (delimited (fuel + 1) bra ket consumeBraket delim firstSet parser) := by
  unfold delimited; rl [ih.delimitedLoop _ _ _ _ _]

theorem delimitedLoop_rlstep {fuel : Nat} (ih : AllRL fuel) (n : Nat) (ket delim : SyntaxKind) (firstSet : TokenSet) (parser : DelimitedParser) :
    RL n (delimitedLoop (fuel + 1) ket delim firstSet parser) (delimitedLoop (fuel + 1) ket delim firstSet parser) := by
  unfold delimitedLoop; rl [ih.delimitedLoop _ _ _ _ _, ih.delimitedParser _ _]

theorem delimitedParser_rlstep {fuel : Nat} (ih : AllRL fuel) (n : Nat) (parser : DelimitedParser) :
    RL n (delimitedParser (fuel + 1) parser) (delimitedParser (fuel + 1) parser) := by
  unfold delimitedParser; rl [ih.expr _]

theorem sourceFileContents_rlstep {fuel : Nat} (ih : AllRL fuel) (n : Nat) (stopOnRCurly : Bool) :
    RL n (sourceFileContents (fuel + 1) stopOnRCurly) (sourceFileContents (fuel + 1) stopOnRCurly) := by
  unfold sourceFileContents; rl [ih.sourceFileContents _ _, ih.item _ _]

theorem item_rlstep {fuel : Nat} (ih : AllRL fuel) (n : Nat) (stopOnRCurly : Bool) :
    RL n (item (fuel + 1) stopOnRCurly) (item (fuel + 1) stopOnRCurly) := by
  unfold item; rl [ih.optItem _ _, ih.exprBlockStatements _]

theorem optItem_rlstep {fuel : Nat} (ih : AllRL fuel) (n : Nat) (m : Marker) :
    RL n (optItem (fuel + 1) m) (optItem (fuel + 1) (Sh.sh n m)) := by
  unfold optItem; rl [ih.switchCaseStmt _ _, ih.ifStmt _ _, ih.whileStmt _ _, ih.forStmt _ _, ih.qubitDeclarationStmt _ _, ih.resetStmt _ _, ih.gateDefinition _ _, ih.defcal_ _ _, ih.classicalDeclarationStmt _ _, ih.ioDeclarationStmt _ _, ih.defStmt _ _, ih.externStmt _ _, ih.cal_ _ _, ih.barrier_ _ _, ih.delayStmt _ _, ih.aliasStmt _ _, break__rl _, continue__rl _, end__rl _, defcalgrammar__rl _, include'_rl _, versionString_rl _]

theorem switchCaseStmt_rlstep {fuel : Nat} (ih : AllRL fuel) (n : Nat) (m : Marker) :
    RL n (switchCaseStmt (fuel + 1) m) (switchCaseStmt (fuel + 1) (Sh.sh n m)) := by
  unfold switchCaseStmt; rl [ih.switchCaseLoop _, ih.expr _, ih.tryBlockExpr _]

theorem switchCaseLoop_rlstep {fuel : Nat} (ih : AllRL fuel) (n : Nat) :
    RL n (switchCaseLoop (fuel + 1)) (switchCaseLoop (fuel + 1)) := by
  unfold switchCaseLoop; rl [ih.switchCaseLoop _, ih.tryBlockExpr _, ih.caseValueList _]

theorem blockOrStatement_rlstep {fuel : Nat} (ih : AllRL fuel) (n : Nat) :
    RL n (blockOrStatement (fuel + 1)) (blockOrStatement (fuel + 1)) := by
  unfold blockOrStatement; rl [ih.stmt _, ih.blockExpr _]

theorem ifStmt_rlstep {fuel : Nat} (ih : AllRL fuel) (n : Nat) (m : Marker) :
    RL n (ifStmt (fuel + 1) m) (ifStmt (fuel + 1) (Sh.sh n m)) := by
  unfold ifStmt; rl [ih.blockOrStatement _, ih.ifStmt _ _, ih.expr _]

theorem whileStmt_rlstep {fuel : Nat} (ih : AllRL fuel) (n : Nat) (m : Marker) :
    RL n (whileStmt (fuel + 1) m) (whileStmt (fuel + 1) (Sh.sh n m)) := by
  unfold whileStmt; rl [ih.blockOrStatement _, ih.expr _]

theorem forStmt_rlstep {fuel : Nat} (ih : AllRL fuel) (n : Nat) (m : Marker) :
    RL n (forStmt (fuel + 1) m) (forStmt (fuel + 1) (Sh.sh n m)) := by
  unfold forStmt; rl [ih.blockOrStatement _, ih.expr _, ih.rangeExpr _, ih.typeSpec _, ih.setExpression _, name_rl]

theorem qubitDeclarationStmt_rlstep {fuel : Nat} (ih : AllRL fuel) (n : Nat) (m : Marker) :
    RL n (qubitDeclarationStmt (fuel + 1) m) (qubitDeclarationStmt (fuel + 1) (Sh.sh n m)) := by
  unfold qubitDeclarationStmt; rl [ih.qubitTypeSpec _, varName_rl, hardwareQubit_rl]

theorem resetStmt_rlstep {fuel : Nat} (ih : AllRL fuel) (n : Nat) (m : Marker) :
    RL n (resetStmt (fuel + 1) m) (resetStmt (fuel + 1) (Sh.sh n m)) := by
  unfold resetStmt; rl [ih.argGateCallQubit _ _]

theorem gateDefinition_rlstep {fuel : Nat} (ih : AllRL fuel) (n : Nat) (m : Marker) :
    RL n (gateDefinition (fuel + 1) m) (gateDefinition (fuel + 1) (Sh.sh n m)) := by
  unfold gateDefinition; rl [ih.tryBlockExpr _, ih.paramListGateParams _, ih.paramListGateQubits _, nameR_rl _]

theorem defcal__rlstep {fuel : Nat} (ih : AllRL fuel) (n : Nat) (m : Marker) :
    RL n (defcal_ (fuel + 1) m) (defcal_ (fuel + 1) (Sh.sh n m)) := by
  unfold defcal_; rl [ih.optReturnSignature _, ih.tryBlockExpr _, ih.paramListDefcalParams _, ih.paramListDefcalQubits _, nameR_rl _]

theorem returnsBoolClassicalDeclarationStmt_rlstep {fuel : Nat} (ih : AllRL fuel) (n : Nat) (m : Marker) :
    RL n (returnsBoolClassicalDeclarationStmt (fuel + 1) m) (returnsBoolClassicalDeclarationStmt (fuel + 1) (Sh.sh n m)) := by
  unfold returnsBoolClassicalDeclarationStmt; rl [ih.expr _, ih.typeSpec _, ih.arrayLiteral _, varName_rl]

theorem classicalDeclarationStmt_rlstep {fuel : Nat} (ih : AllRL fuel) (n : Nat) (m : Marker) :
    RL n (classicalDeclarationStmt (fuel + 1) m) (classicalDeclarationStmt (fuel + 1) (Sh.sh n m)) := by
  unfold classicalDeclarationStmt; rl [ih.returnsBoolClassicalDeclarationStmt _ _]

theorem ioDeclarationStmt_rlstep {fuel : Nat} (ih : AllRL fuel) (n : Nat) (m : Marker) :
    RL n (ioDeclarationStmt (fuel + 1) m) (ioDeclarationStmt (fuel + 1) (Sh.sh n m)) := by
  unfold ioDeclarationStmt; rl [ih.typeSpec _, varName_rl]

theorem defStmt_rlstep {fuel : Nat} (ih : AllRL fuel) (n : Nat) (m : Marker) :
    RL n (defStmt (fuel + 1) m) (defStmt (fuel + 1) (Sh.sh n m)) := by
  unfold defStmt; rl [ih.optReturnSignature _, ih.tryBlockExpr _, ih.paramListDefParams _, nameR_rl _]

theorem externStmt_rlstep {fuel : Nat} (ih : AllRL fuel) (n : Nat) (m : Marker) :
    RL n (externStmt (fuel + 1) m) (externStmt (fuel + 1) (Sh.sh n m)) := by
  unfold externStmt; rl [ih.optReturnSignature _, ih.scalarTypeList _, nameR_rl _]

theorem cal__rlstep {fuel : Nat} (ih : AllRL fuel) (n : Nat) (m : Marker) :
    RL n (cal_ (fuel + 1) m) (cal_ (fuel + 1) (Sh.sh n m)) := by
  unfold cal_; rl [ih.tryBlockExpr _]

theorem barrier__rlstep {fuel : Nat} (ih : AllRL fuel) (n : Nat) (m : Marker) :
    RL n (barrier_ (fuel + 1) m) (barrier_ (fuel + 1) (Sh.sh n m)) := by
  unfold barrier_; rl [ih.argListGateCallQubits _]

theorem delayStmt_rlstep {fuel : Nat} (ih : AllRL fuel) (n : Nat) (m : Marker) :
    RL n (delayStmt (fuel + 1) m) (delayStmt (fuel + 1) (Sh.sh n m)) := by
  unfold delayStmt; rl [ih.designator _, ih.argListGateCallQubits _]

theorem aliasStmt_rlstep {fuel : Nat} (ih : AllRL fuel) (n : Nat) (m : Marker) :
    RL n (aliasStmt (fuel + 1) m) (aliasStmt (fuel + 1) (Sh.sh n m)) := by
  unfold aliasStmt; rl [ih.expr _, nameR_rl _]

theorem expr_rlstep {fuel : Nat} (ih : AllRL fuel) (n : Nat) :
    RL n (expr (fuel + 1)) (expr (fuel + 1)) := by
  unfold expr; rl [ih.exprBp_none _ _ _]

theorem rangeExpr_rlstep {fuel : Nat} (ih : AllRL fuel) (n : Nat) :
    RL n (rangeExpr (fuel + 1)) (rangeExpr (fuel + 1)) := by
  unfold rangeExpr; rl [ih.exprBp_none _ _ _]

theorem exprOrRangeExpr_rlstep {fuel : Nat} (ih : AllRL fuel) (n : Nat) :
    RL n (exprOrRangeExpr (fuel + 1)) (exprOrRangeExpr (fuel + 1)) := by
  unfold exprOrRangeExpr; rl [ih.exprBp_none _ _ _]

theorem exprStmt_rlstep {fuel : Nat} (ih : AllRL fuel) (n : Nat) (m : Option Marker) :
    RL n (exprStmt (fuel + 1) m) (exprStmt (fuel + 1) (Sh.sh n m)) := by
  unfold exprStmt; cases m <;> rl [ih.exprBp _ _ _ _]

theorem stmt_rlstep {fuel : Nat} (ih : AllRL fuel) (n : Nat) :
    RL n (stmt (fuel + 1)) (stmt (fuel + 1)) := by
  unfold stmt; rl [ih.optItem _ _, ih.exprStmt_some _ _, ih.letStmt _ _, ih.qOrCRegDeclaration _ _]

theorem letStmt_rlstep {fuel : Nat} (ih : AllRL fuel) (n : Nat) (m : Marker) :
    RL n (letStmt (fuel + 1) m) (letStmt (fuel + 1) (Sh.sh n m)) := by
  unfold letStmt; rl [ih.expr _]

theorem qOrCRegParam_rlstep {fuel : Nat} (ih : AllRL fuel) (n : Nat) :
    RL n (qOrCRegParam (fuel + 1)) (qOrCRegParam (fuel + 1)) := by
  unfold qOrCRegParam; rl [ih.indexOperator _]

theorem qOrCRegDeclaration_rlstep {fuel : Nat} (ih : AllRL fuel) (n : Nat) (m : Marker) :
    RL n (qOrCRegDeclaration (fuel + 1) m) (qOrCRegDeclaration (fuel + 1) (Sh.sh n m)) := by
  unfold qOrCRegDeclaration; rl [ih.qOrCRegParam _]

theorem exprBlockStatements_rlstep {fuel : Nat} (ih : AllRL fuel) (n : Nat) :
    RL n (exprBlockStatements (fuel + 1)) (exprBlockStatements (fuel + 1)) := by
  unfold exprBlockStatements; rl [ih.stmt _, ih.exprBlockStatements _]

theorem exprBp_rlstep {fuel : Nat} (ih : AllRL fuel) (n : Nat) (m : Option Marker) (r : Restrictions) (bp : Nat) :
    RL n (exprBp (fuel + 1) m r bp) (exprBp (fuel + 1) (Sh.sh n m) r bp) := by
  unfold exprBp; cases m <;> rl [ih.exprBpLoop _ _ _ _, ih.lhs _ _]

theorem exprBpLoop_rlstep {fuel : Nat} (ih : AllRL fuel) (n : Nat) (r : Restrictions) (bp : Nat) (lhs : CompletedMarker) :
    RL n (exprBpLoop (fuel + 1) r bp lhs) (exprBpLoop (fuel + 1) r bp (Sh.sh n lhs)) := by
  unfold exprBpLoop; rl [ih.exprBp_none _ _ _, ih.exprBpLoop _ _ _ _, currentOp_rl]

theorem lhs_rlstep {fuel : Nat} (ih : AllRL fuel) (n : Nat) (r : Restrictions) :
    RL n (lhs (fuel + 1) r) (lhs (fuel + 1) r) := by
  unfold lhs; rl [ih.exprBp_none _ _ _, ih.postfixExpr _ _ _ _, ih.atomExpr _ _]

theorem postfixExpr_rlstep {fuel : Nat} (ih : AllRL fuel) (n : Nat) (lhs : CompletedMarker) (blockLike : BlockLike) (allowCalls : Bool) :
    RL n (postfixExpr (fuel + 1) lhs blockLike allowCalls) (postfixExpr (fuel + 1) (Sh.sh n lhs) blockLike allowCalls) := by
  unfold postfixExpr; rl [ih.postfixExpr _ _ _ _, ih.callExpr _ _, ih.indexExpr _ _, ih.indexedIdentifier _ _]

theorem callExpr_rlstep {fuel : Nat} (ih : AllRL fuel) (n : Nat) (lhs : CompletedMarker) :
    RL n (callExpr (fuel + 1) lhs) (callExpr (fuel + 1) (Sh.sh n lhs)) := by
  unfold callExpr; rl [ih.callArgList _, ih.argListGateCallQubits _]

theorem paramTypeSpec_rlstep {fuel : Nat} (ih : AllRL fuel) (n : Nat) :
    RL n (paramTypeSpec (fuel + 1)) (paramTypeSpec (fuel + 1)) := by
  unfold paramTypeSpec; rl [ih.arrayTypeSpec _ _, ih.nonArrayTypeSpec _]

theorem typeSpec_rlstep {fuel : Nat} (ih : AllRL fuel) (n : Nat) :
    RL n (typeSpec (fuel + 1)) (typeSpec (fuel + 1)) := by
  unfold typeSpec; rl [ih.arrayTypeSpec _ _, ih.nonArrayTypeSpec _]

theorem arrayTypeSpec_rlstep {fuel : Nat} (ih : AllRL fuel) (n : Nat) (wantArrayRefType : Bool) :
    RL n (arrayTypeSpec (fuel + 1) wantArrayRefType) (arrayTypeSpec (fuel + 1) wantArrayRefType) := by
  unfold arrayTypeSpec; rl [ih.expr _, ih.typeSpec _, ih.arrayTypeDimsLoop _]

theorem arrayTypeDimsLoop_rlstep {fuel : Nat} (ih : AllRL fuel) (n : Nat) :
    RL n (arrayTypeDimsLoop (fuel + 1)) (arrayTypeDimsLoop (fuel + 1)) := by
  unfold arrayTypeDimsLoop; rl [ih.expr _, ih.arrayTypeDimsLoop _]

theorem nonArrayTypeSpec_rlstep {fuel : Nat} (ih : AllRL fuel) (n : Nat) :
    RL n (nonArrayTypeSpec (fuel + 1)) (nonArrayTypeSpec (fuel + 1)) := by
  unfold nonArrayTypeSpec; rl [ih.complexTypeSpec _, ih.designator _, typeName_rl]

theorem complexTypeSpec_rlstep {fuel : Nat} (ih : AllRL fuel) (n : Nat) :
    RL n (complexTypeSpec (fuel + 1)) (complexTypeSpec (fuel + 1)) := by
  unfold complexTypeSpec; rl [ih.nonArrayTypeSpec _]

theorem qubitTypeSpec_rlstep {fuel : Nat} (ih : AllRL fuel) (n : Nat) :
    RL n (qubitTypeSpec (fuel + 1)) (qubitTypeSpec (fuel + 1)) := by
  unfold qubitTypeSpec; rl [ih.designator _, typeName_rl]

theorem designator_rlstep {fuel : Nat} (ih : AllRL fuel) (n : Nat) :
    RL n (designator (fuel + 1)) (designator (fuel + 1)) := by
  unfold designator; rl [ih.expr _]

theorem indexExpr_rlstep {fuel : Nat} (ih : AllRL fuel) (n : Nat) (lhs : CompletedMarker) :
    RL n (indexExpr (fuel + 1) lhs) (indexExpr (fuel + 1) (Sh.sh n lhs)) := by
  unfold indexExpr; rl [ih.indexOperator _]

theorem indexedIdentifier_rlstep {fuel : Nat} (ih : AllRL fuel) (n : Nat) (lhs : CompletedMarker) :
    RL n (indexedIdentifier (fuel + 1) lhs) (indexedIdentifier (fuel + 1) (Sh.sh n lhs)) := by
  unfold indexedIdentifier; rl [ih.indexedIdentifierLoop _]

theorem indexedIdentifierLoop_rlstep {fuel : Nat} (ih : AllRL fuel) (n : Nat) :
    RL n (indexedIdentifierLoop (fuel + 1)) (indexedIdentifierLoop (fuel + 1)) := by
  unfold indexedIdentifierLoop; rl [ih.indexedIdentifierLoop _, ih.indexOperator _]

theorem setExpression_rlstep {fuel : Nat} (ih : AllRL fuel) (n : Nat) :
    RL n (setExpression (fuel + 1)) (setExpression (fuel + 1)) := by
  unfold setExpression; rl [ih.expressionList _]

theorem indexOperator_rlstep {fuel : Nat} (ih : AllRL fuel) (n : Nat) :
    RL n (indexOperator (fuel + 1)) (indexOperator (fuel + 1)) := by
  unfold indexOperator; rl [ih.setExpression _, ih.expressionList _]

theorem callArgList_rlstep {fuel : Nat} (ih : AllRL fuel) (n : Nat) :
    RL n (callArgList (fuel + 1)) (callArgList (fuel + 1)) := by
  unfold callArgList; rl [ih.delimited _ _ _ _ _ _ _]

theorem atomExpr_rlstep {fuel : Nat} (ih : AllRL fuel) (n : Nat) (_r : Restrictions) :
    RL n (atomExpr (fuel + 1) _r) (atomExpr (fuel + 1) _r) := by
  unfold atomExpr; rl [ih.castExpr _, ih.gphaseCallExpr _, ih.modifiedGateCallExpr _, ih.gateCallExpr _, ih.measureExpression _, ih.tupleExpr _, ih.arrayExpr _, ih.blockExpr _, ih.returnExpr _, ih.boxExpr_none _, identifier_rl, hardwareQubit_rl, literal_rl]

theorem castExpr_rlstep {fuel : Nat} (ih : AllRL fuel) (n : Nat) :
    RL n (castExpr (fuel + 1)) (castExpr (fuel + 1)) := by
  unfold castExpr; rl [ih.expr _, ih.typeSpec _]

theorem gphaseCallExpr_rlstep {fuel : Nat} (ih : AllRL fuel) (n : Nat) :
    RL n (gphaseCallExpr (fuel + 1)) (gphaseCallExpr (fuel + 1)) := by
  unfold gphaseCallExpr; rl [ih.expr _]

theorem modifiedGateCallExpr_rlstep {fuel : Nat} (ih : AllRL fuel) (n : Nat) :
    RL n (modifiedGateCallExpr (fuel + 1)) (modifiedGateCallExpr (fuel + 1)) := by
  unfold modifiedGateCallExpr; rl [ih.gphaseCallExpr _, ih.modifiedGateCallExprLoop _, ih.gateCallExpr _]

theorem modifiedGateCallExprLoop_rlstep {fuel : Nat} (ih : AllRL fuel) (n : Nat) :
    RL n (modifiedGateCallExprLoop (fuel + 1)) (modifiedGateCallExprLoop (fuel + 1)) := by
  unfold modifiedGateCallExprLoop; rl [ih.expr _, ih.modifiedGateCallExprLoop _]

theorem gateCallExpr_rlstep {fuel : Nat} (ih : AllRL fuel) (n : Nat) :
    RL n (gateCallExpr (fuel + 1)) (gateCallExpr (fuel + 1)) := by
  unfold gateCallExpr; rl [ih.callArgList _, ih.argListGateCallQubits _, identifier_rl]

theorem measureExpression_rlstep {fuel : Nat} (ih : AllRL fuel) (n : Nat) :
    RL n (measureExpression (fuel + 1)) (measureExpression (fuel + 1)) := by
  unfold measureExpression; rl [ih.argGateCallQubit _ _]

theorem tupleExpr_rlstep {fuel : Nat} (ih : AllRL fuel) (n : Nat) :
    RL n (tupleExpr (fuel + 1)) (tupleExpr (fuel + 1)) := by
  unfold tupleExpr; rl [ih.tupleExprLoop _ _ _]

theorem tupleExprLoop_rlstep {fuel : Nat} (ih : AllRL fuel) (n : Nat) (sawComma sawExpr : Bool) :
    RL n (tupleExprLoop (fuel + 1) sawComma sawExpr) (tupleExprLoop (fuel + 1) sawComma sawExpr) := by
  unfold tupleExprLoop; rl [ih.expr _, ih.tupleExprLoop _ _ _]

theorem arrayExpr_rlstep {fuel : Nat} (ih : AllRL fuel) (n : Nat) :
    RL n (arrayExpr (fuel + 1)) (arrayExpr (fuel + 1)) := by
  unfold arrayExpr; rl [ih.arrayExprLoop _ _ _]

theorem arrayExprLoop_rlstep {fuel : Nat} (ih : AllRL fuel) (n : Nat) (nExprs : Nat) (hasSemi : Bool) :
    RL n (arrayExprLoop (fuel + 1) nExprs hasSemi) (arrayExprLoop (fuel + 1) nExprs hasSemi) := by
  unfold arrayExprLoop; rl [ih.expr _, ih.arrayExprLoop _ _ _]

theorem tryBlockExpr_rlstep {fuel : Nat} (ih : AllRL fuel) (n : Nat) :
    RL n (tryBlockExpr (fuel + 1)) (tryBlockExpr (fuel + 1)) := by
  unfold tryBlockExpr; rl [ih.blockExpr _]

theorem blockExpr_rlstep {fuel : Nat} (ih : AllRL fuel) (n : Nat) :
    RL n (blockExpr (fuel + 1)) (blockExpr (fuel + 1)) := by
  unfold blockExpr; rl [ih.exprBlockStatements _]

theorem returnExpr_rlstep {fuel : Nat} (ih : AllRL fuel) (n : Nat) :
    RL n (returnExpr (fuel + 1)) (returnExpr (fuel + 1)) := by
  unfold returnExpr; rl [ih.expr _]

theorem boxExpr_rlstep {fuel : Nat} (ih : AllRL fuel) (n : Nat) (m : Option Marker) :
    RL n (boxExpr (fuel + 1) m) (boxExpr (fuel + 1) (Sh.sh n m)) := by
  unfold boxExpr; cases m <;> rl [ih.expr _]

theorem paramListGateParams_rlstep {fuel : Nat} (ih : AllRL fuel) (n : Nat) :
    RL n (paramListGateParams (fuel + 1)) (paramListGateParams (fuel + 1)) := by
  unfold paramListGateParams; rl [ih.paramListOpenqasm _ _]

theorem paramListGateQubits_rlstep {fuel : Nat} (ih : AllRL fuel) (n : Nat) :
    RL n (paramListGateQubits (fuel + 1)) (paramListGateQubits (fuel + 1)) := by
  unfold paramListGateQubits; rl [ih.paramListOpenqasm _ _]

theorem argListGateCallQubits_rlstep {fuel : Nat} (ih : AllRL fuel) (n : Nat) :
    RL n (argListGateCallQubits (fuel + 1)) (argListGateCallQubits (fuel + 1)) := by
  unfold argListGateCallQubits; rl [ih.paramListOpenqasm _ _]

theorem paramListDefParams_rlstep {fuel : Nat} (ih : AllRL fuel) (n : Nat) :
    RL n (paramListDefParams (fuel + 1)) (paramListDefParams (fuel + 1)) := by
  unfold paramListDefParams; rl [ih.paramListOpenqasm _ _]

theorem scalarTypeList_rlstep {fuel : Nat} (ih : AllRL fuel) (n : Nat) :
    RL n (scalarTypeList (fuel + 1)) (scalarTypeList (fuel + 1)) := by
  unfold scalarTypeList; rl [ih.paramListOpenqasm _ _]

theorem paramListDefcalParams_rlstep {fuel : Nat} (ih : AllRL fuel) (n : Nat) :
    RL n (paramListDefcalParams (fuel + 1)) (paramListDefcalParams (fuel + 1)) := by
  unfold paramListDefcalParams; rl [ih.paramListOpenqasm _ _]

theorem paramListDefcalQubits_rlstep {fuel : Nat} (ih : AllRL fuel) (n : Nat) :
    RL n (paramListDefcalQubits (fuel + 1)) (paramListDefcalQubits (fuel + 1)) := by
  unfold paramListDefcalQubits; rl [ih.paramListOpenqasm _ _]

theorem expressionList_rlstep {fuel : Nat} (ih : AllRL fuel) (n : Nat) :
    RL n (expressionList (fuel + 1)) (expressionList (fuel + 1)) := by
  unfold expressionList; rl [ih.paramListOpenqasm _ _]

theorem caseValueList_rlstep {fuel : Nat} (ih : AllRL fuel) (n : Nat) :
    RL n (caseValueList (fuel + 1)) (caseValueList (fuel + 1)) := by
  unfold caseValueList; rl [ih.paramListOpenqasm _ _]

theorem arrayLiteral_rlstep {fuel : Nat} (ih : AllRL fuel) (n : Nat) :
    RL n (arrayLiteral (fuel + 1)) (arrayLiteral (fuel + 1)) := by
  unfold arrayLiteral; rl [ih.paramListOpenqasm _ _]

theorem paramListOpenqasm_rlstep {fuel : Nat} (ih : AllRL fuel) (n : Nat) (flavor : DefFlavor) :
    RL n (paramListOpenqasm (fuel + 1) flavor) (paramListOpenqasm (fuel + 1) flavor) := by
  unfold paramListOpenqasm; rl [ih.paramListOpenqasmLoop _ _ _]

theorem paramListOpenqasmLoop_rlstep {fuel : Nat} (ih : AllRL fuel) (n : Nat) (flavor : DefFlavor) (numParams : Nat) :
    RL n (paramListOpenqasmLoop (fuel + 1) flavor numParams) (paramListOpenqasmLoop (fuel + 1) flavor numParams) := by
  unfold paramListOpenqasmLoop; rl [ih.paramListOpenqasmLoop _ _ _, ih.paramListItem _ _ _ _, atListEndToken_rl _]

theorem paramListItem_rlstep {fuel : Nat} (ih : AllRL fuel) (n : Nat) (flavor : DefFlavor) (m : Marker) (innerArrayLiteral : Bool) :
    RL n (paramListItem (fuel + 1) flavor m innerArrayLiteral) (paramListItem (fuel + 1) flavor (Sh.sh n m) innerArrayLiteral) := by
  unfold paramListItem; rl [ih.expr _, ih.exprOrRangeExpr _, ih.arrayLiteral _, ih.paramTyped _ _, ih.scalarType _ _, ih.argGateCallQubit _ _, paramUntyped_rl _, paramUntypedOrHardwareQubit_rl _]

theorem paramTyped_rlstep {fuel : Nat} (ih : AllRL fuel) (n : Nat) (m : Marker) :
    RL n (paramTyped (fuel + 1) m) (paramTyped (fuel + 1) (Sh.sh n m)) := by
  unfold paramTyped; rl [ih.qOrCRegParam _, ih.paramTypeSpec _, varName_rl]

theorem scalarType_rlstep {fuel : Nat} (ih : AllRL fuel) (n : Nat) (m : Marker) :
    RL n (scalarType (fuel + 1) m) (scalarType (fuel + 1) (Sh.sh n m)) := by
  unfold scalarType; rl [ih.typeSpec _]

theorem argGateCallQubit_rlstep {fuel : Nat} (ih : AllRL fuel) (n : Nat) (m : Marker) :
    RL n (argGateCallQubit (fuel + 1) m) (argGateCallQubit (fuel + 1) (Sh.sh n m)) := by
  unfold argGateCallQubit; rl [ih.indexedIdentifier _ _]

theorem allRL : ∀ fuel, AllRL fuel
  | 0 => by constructor <;> intros <;> exact RL.fail _ _
  | fuel + 1 =>
    have ih := allRL fuel
    ⟨optReturnSignature_rlstep ih,
     delimited_rlstep ih,
     delimitedLoop_rlstep ih,
     delimitedParser_rlstep ih,
     sourceFileContents_rlstep ih,
     item_rlstep ih,
     optItem_rlstep ih,
     switchCaseStmt_rlstep ih,
     switchCaseLoop_rlstep ih,
     blockOrStatement_rlstep ih,
     ifStmt_rlstep ih,
     whileStmt_rlstep ih,
     forStmt_rlstep ih,
     qubitDeclarationStmt_rlstep ih,
     resetStmt_rlstep ih,
     gateDefinition_rlstep ih,
     defcal__rlstep ih,
     returnsBoolClassicalDeclarationStmt_rlstep ih,
     classicalDeclarationStmt_rlstep ih,
     ioDeclarationStmt_rlstep ih,
     defStmt_rlstep ih,
     externStmt_rlstep ih,
     cal__rlstep ih,
     barrier__rlstep ih,
     delayStmt_rlstep ih,
     aliasStmt_rlstep ih,
     expr_rlstep ih,
     rangeExpr_rlstep ih,
     exprOrRangeExpr_rlstep ih,
     exprStmt_rlstep ih,
     stmt_rlstep ih,
     letStmt_rlstep ih,
     qOrCRegParam_rlstep ih,
     qOrCRegDeclaration_rlstep ih,
     exprBlockStatements_rlstep ih,
     exprBp_rlstep ih,
     exprBpLoop_rlstep ih,
     lhs_rlstep ih,
     postfixExpr_rlstep ih,
     callExpr_rlstep ih,
     paramTypeSpec_rlstep ih,
     typeSpec_rlstep ih,
     arrayTypeSpec_rlstep ih,
     arrayTypeDimsLoop_rlstep ih,
     nonArrayTypeSpec_rlstep ih,
     complexTypeSpec_rlstep ih,
     qubitTypeSpec_rlstep ih,
     designator_rlstep ih,
     indexExpr_rlstep ih,
     indexedIdentifier_rlstep ih,
     indexedIdentifierLoop_rlstep ih,
     setExpression_rlstep ih,
     indexOperator_rlstep ih,
     callArgList_rlstep ih,
     atomExpr_rlstep ih,
     castExpr_rlstep ih,
     gphaseCallExpr_rlstep ih,
     modifiedGateCallExpr_rlstep ih,
     modifiedGateCallExprLoop_rlstep ih,
     gateCallExpr_rlstep ih,
     measureExpression_rlstep ih,
     tupleExpr_rlstep ih,
     tupleExprLoop_rlstep ih,
     arrayExpr_rlstep ih,
     arrayExprLoop_rlstep ih,
     tryBlockExpr_rlstep ih,
     blockExpr_rlstep ih,
     returnExpr_rlstep ih,
     boxExpr_rlstep ih,
     paramListGateParams_rlstep ih,
     paramListGateQubits_rlstep ih,
     argListGateCallQubits_rlstep ih,
     paramListDefParams_rlstep ih,
     scalarTypeList_rlstep ih,
     paramListDefcalParams_rlstep ih,
     paramListDefcalQubits_rlstep ih,
     expressionList_rlstep ih,
     caseValueList_rlstep ih,
     arrayLiteral_rlstep ih,
     paramListOpenqasm_rlstep ih,
     paramListOpenqasmLoop_rlstep ih,
     paramListItem_rlstep ih,
     paramTyped_rlstep ih,
     scalarType_rlstep ih,
     argGateCallQubit_rlstep ih⟩

theorem sourceFile_rl (fuel : Nat) : RL n (sourceFile fuel) (sourceFile fuel) := by
  unfold sourceFile; rl [(allRL fuel).sourceFileContents _ _]

end Oq3.Grammar
