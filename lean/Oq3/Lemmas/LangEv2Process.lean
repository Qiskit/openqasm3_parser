/-
C04, extended reference language: `process` on the events of a program yields the pre-order
node sequence of the derivation (`process_evsP2`).

Forward-parent chains of the extended expressions: a primary with postfix operators `b post₁ … post_k` is a chain
`b → post₁ → … → post_k`; the marker of `expr_bp` (and of `stmt`) links to the ROOT `post_k`, so `process` first walks
`TOMBSTONE → post_k (→ BIN_EXPR → …)` and later, when its main loop reaches `b`, the chain `b → … → post_{k-1}` into the
tombstone that `post_k` has become.  `SpineAt` is a chain that is entered at an offset `ent` of its segment.
-/
import Oq3.Lemmas.LangEvProcess
import Oq3.Lemmas.LangEv2Run

namespace Oq3.LangEv2
open Oq3.Gen Oq3.Parser Oq3.PrattEv Oq3.LangEv

set_option linter.unusedVariables false

/-- events of a primary before its root `Start`: the chain that leads to the root -/
def preP : Prim → List Ev
  | .idIdx _ => [.start .IDENTIFIER (some 3), .token .IDENT 1, .finish]
  | .call p _ => bodyP p (some (lenP p - rootP p))
  | .index p _ => bodyP p (some (lenP p - rootP p))
  | _ => []

/-- events of a primary after its root `Start` -/
def postP : Prim → List Ev
  | .id => [.token .IDENT 1, .finish]
  | .lit k => [.token k.kind 1, .finish]
  | .timing k => [.start .LITERAL none, .token k.kind 1, .finish, .start .IDENTIFIER none, .token .IDENT 1, .finish, .finish]
  | .hw => [.token .HARDWAREIDENT 1, .finish]
  | .paren e => .token .L_PAREN 1 :: (evsX e ++ [.token .R_PAREN 1, .finish])
  | .cast0 ty e =>
    .start .SCALAR_TYPE none :: .token ty.kind 1 :: .finish :: .token .L_PAREN 1 :: (evsX e ++ [.token .R_PAREN 1, .finish])
  | .castW ty w e =>
    .start .SCALAR_TYPE none :: .token ty.kind 1 :: .start .DESIGNATOR none :: .token .L_BRACK 1 ::
      (evsX w ++ (.token .R_BRACK 1 :: .finish :: .finish :: .token .L_PAREN 1 :: (evsX e ++ [.token .R_PAREN 1, .finish])))
  | .measureE => [.token .MEASURE_KW 1, .start .IDENTIFIER none, .token .IDENT 1, .finish, .finish]
  | .measureHw => [.token .MEASURE_KW 1, .start .HARDWARE_QUBIT none, .token .HARDWAREIDENT 1, .finish, .finish]
  | .measureIdx ixs =>
    .token .MEASURE_KW 1 :: .start .IDENTIFIER (some 3) :: .token .IDENT 1 :: .finish :: .start .INDEXED_IDENTIFIER none ::
      (evsIdx ixs ++ [.finish, .finish])
  | .idIdx ixs => evsIdx ixs ++ [.finish]
  | .call _ args =>
    .start .ARG_LIST none :: .start .EXPRESSION_LIST none :: .token .L_PAREN 1 :: (evsXs args ++ [.token .R_PAREN 1, .finish, .finish, .finish])
  | .index _ items =>
    .start .INDEX_OPERATOR none :: .token .L_BRACK 1 :: .start .EXPRESSION_LIST none ::
      (evsItems items ++ [.finish, .token .R_BRACK 1, .finish, .finish])

theorem bodyP_split (p : Prim) (fp : Option Nat) : bodyP p fp = preP p ++ (.start p.kind fp :: postP p) := by
  cases p <;> simp [bodyP, preP, postP, Prim.kind, X.kind, evsX]

theorem preP_length (p : Prim) : (preP p).length = rootP p := by
  cases p <;> simp [preP, rootP, bodyP_length]


/-- kinds along the chain of a primary, outermost first -/
def spineKindsP : Prim → List SyntaxKind
  | .idIdx _ => [.INDEXED_IDENTIFIER, .IDENTIFIER]
  | .call p _ => .CALL_EXPR :: spineKindsP p
  | .index p _ => .INDEX_EXPR :: spineKindsP p
  | p => [p.kind]

def cP : Prim → Nat
  | .idIdx _ => 2
  | .call p _ => cP p + 1
  | .index p _ => cP p + 1
  | _ => 1

/-- `bodyP p _` after the walk of its whole chain -/
def sbodyP : Prim → List Ev
  | .idIdx ixs => Ev.tombstone :: .token .IDENT 1 :: .finish :: Ev.tombstone :: postP (.idIdx ixs)
  | .call p args => sbodyP p ++ (Ev.tombstone :: postP (.call p args))
  | .index p items => sbodyP p ++ (Ev.tombstone :: postP (.index p items))
  | p => Ev.tombstone :: postP p

theorem kind_ne_tomb' (p : Prim) : (p.kind != .TOMBSTONE) = true := by cases p <;> rfl

theorem bodyP_fun0 (p : Prim) (h : preP p = []) : bodyP p = fun fp => .start p.kind fp :: postP p := by
  funext fp; rw [bodyP_split, h]; rfl

theorem spineP : ∀ p : Prim, Spine (bodyP p) (sbodyP p) (spineKindsP p) (cP p) (rootP p)
  | .idIdx ixs => by
    have h := ((spine_prim .IDENTIFIER (by decide) [.token .IDENT 1, .finish]).post (Nat.zero_le _) .INDEXED_IDENTIFIER (by decide)
      (postP (.idIdx ixs)))
    exact h
  | .call p args => by
    have ih := spineP p
    have hl : (sbodyP p).length = lenP p := by rw [← ih.len none, bodyP_length]
    have h := (ih.post (by rw [hl]; have := lenP_pos p; omega) .CALL_EXPR (by decide) (postP (.call p args)))
    rw [hl] at h
    have e : bodyP (.call p args) = fun fp => bodyP p (some (lenP p - rootP p)) ++ (.start .CALL_EXPR fp :: postP (.call p args)) := by
      funext fp; rw [bodyP_split]; rfl
    rw [e]; exact h
  | .index p items => by
    have ih := spineP p
    have hl : (sbodyP p).length = lenP p := by rw [← ih.len none, bodyP_length]
    have h := (ih.post (by rw [hl]; have := lenP_pos p; omega) .INDEX_EXPR (by decide) (postP (.index p items)))
    rw [hl] at h
    have e : bodyP (.index p items) = fun fp => bodyP p (some (lenP p - rootP p)) ++ (.start .INDEX_EXPR fp :: postP (.index p items)) := by
      funext fp; rw [bodyP_split]; rfl
    rw [e]; exact h
  | .id => by rw [bodyP_fun0 _ rfl]; exact spine_prim _ (kind_ne_tomb' _) _
  | .lit k => by rw [bodyP_fun0 _ rfl]; exact spine_prim _ (kind_ne_tomb' _) _
  | .timing k => by rw [bodyP_fun0 _ rfl]; exact spine_prim _ (kind_ne_tomb' _) _
  | .hw => by rw [bodyP_fun0 _ rfl]; exact spine_prim _ (kind_ne_tomb' _) _
  | .paren e => by rw [bodyP_fun0 _ rfl]; exact spine_prim _ (kind_ne_tomb' _) _
  | .cast0 ty e => by rw [bodyP_fun0 _ rfl]; exact spine_prim _ (kind_ne_tomb' _) _
  | .castW ty w e => by rw [bodyP_fun0 _ rfl]; exact spine_prim _ (kind_ne_tomb' _) _
  | .measureE => by rw [bodyP_fun0 _ rfl]; exact spine_prim _ (kind_ne_tomb' _) _
  | .measureHw => by rw [bodyP_fun0 _ rfl]; exact spine_prim _ (kind_ne_tomb' _) _
  | .measureIdx ixs => by rw [bodyP_fun0 _ rfl]; exact spine_prim _ (kind_ne_tomb' _) _

/-- kinds along the chain from the root of the head primary -/
def hkindsX : X → List SyntaxKind
  | .prim p => [p.kind]
  | .bin _ l _ => .BIN_EXPR :: hkindsX l
  | .pre _ _ => [.PREFIX_EXPR]

def chX : X → Nat
  | .bin _ l _ => chX l + 1
  | _ => 1

/-- `bodyX x _` after the walk of the chain that starts at the root of its head primary -/
def hbodyX : X → List Ev
  | .prim p => preP p ++ (Ev.tombstone :: postP p)
  | .bin o l r => hbodyX l ++ (Ev.tombstone :: .token o.kind o.pieces.length :: (evsX r ++ [.finish]))
  | .pre o e => Ev.tombstone :: .token o.kind 1 :: (evsX e ++ [.finish])

theorem spineAtX : ∀ x : X, SpineAt (bodyX x) (hbodyX x) (hkindsX x) (chX x) (headOff x) (rootX x)
  | .prim p => by
    have h := spineAt_prim (preP p) p.kind (kind_ne_tomb' p) (postP p)
    rw [preP_length] at h
    have e : bodyX (.prim p) = fun fp => preP p ++ (.start p.kind fp :: postP p) := by
      funext fp; exact bodyP_split p fp
    rw [e]; exact h
  | .pre o e => by
    have h := spineAt_prim [] .PREFIX_EXPR (by decide) (.token o.kind 1 :: (evsX e ++ [.finish]))
    exact h
  | .bin o l r => by
    have ih := spineAtX l
    have hl : (hbodyX l).length = lenX l := by rw [← ih.len none, bodyX_length]
    have h := ih.post (by rw [hl]; have := lenX_pos l; omega) .BIN_EXPR (by decide) (.token o.kind o.pieces.length :: (evsX r ++ [.finish]))
    rw [hl] at h
    exact h


def preNodesP : Prim → List Step
  | .idIdx _ => [.enter .IDENTIFIER, .token .IDENT 1, .exit]
  | .call p _ => nodesP p
  | .index p _ => nodesP p
  | _ => []

def postNodesP : Prim → List Step
  | .id => [.token .IDENT 1, .exit]
  | .lit k => [.token k.kind 1, .exit]
  | .timing k => [.enter .LITERAL, .token k.kind 1, .exit, .enter .IDENTIFIER, .token .IDENT 1, .exit, .exit]
  | .hw => [.token .HARDWAREIDENT 1, .exit]
  | .paren e => .token .L_PAREN 1 :: (nodesX e ++ [.token .R_PAREN 1, .exit])
  | .cast0 ty e =>
    .enter .SCALAR_TYPE :: .token ty.kind 1 :: .exit :: .token .L_PAREN 1 :: (nodesX e ++ [.token .R_PAREN 1, .exit])
  | .castW ty w e =>
    .enter .SCALAR_TYPE :: .token ty.kind 1 :: .enter .DESIGNATOR :: .token .L_BRACK 1 ::
      (nodesX w ++ (.token .R_BRACK 1 :: .exit :: .exit :: .token .L_PAREN 1 :: (nodesX e ++ [.token .R_PAREN 1, .exit])))
  | .measureE => [.token .MEASURE_KW 1, .enter .IDENTIFIER, .token .IDENT 1, .exit, .exit]
  | .measureHw => [.token .MEASURE_KW 1, .enter .HARDWARE_QUBIT, .token .HARDWAREIDENT 1, .exit, .exit]
  | .measureIdx ixs =>
    .token .MEASURE_KW 1 :: .enter .INDEXED_IDENTIFIER :: .enter .IDENTIFIER :: .token .IDENT 1 :: .exit :: (nodesIdx ixs ++ [.exit, .exit])
  | .idIdx ixs => nodesIdx ixs ++ [.exit]
  | .call _ args =>
    .enter .ARG_LIST :: .enter .EXPRESSION_LIST :: .token .L_PAREN 1 :: (nodesXs args ++ [.token .R_PAREN 1, .exit, .exit, .exit])
  | .index _ items =>
    .enter .INDEX_OPERATOR :: .token .L_BRACK 1 :: .enter .EXPRESSION_LIST :: (nodesItems items ++ [.exit, .token .R_BRACK 1, .exit, .exit])

theorem nodesP_split (p : Prim) : nodesP p = .enter p.kind :: (preNodesP p ++ postNodesP p) := by
  cases p <;> simp [nodesP, preNodesP, postNodesP, Prim.kind, X.kind]

def snodesP : Prim → List Step
  | .idIdx ixs => .token .IDENT 1 :: .exit :: postNodesP (.idIdx ixs)
  | .call p args => snodesP p ++ postNodesP (.call p args)
  | .index p items => snodesP p ++ postNodesP (.index p items)
  | p => postNodesP p

theorem nodesP_eq : ∀ p : Prim, nodesP p = (spineKindsP p).map .enter ++ snodesP p
  | .idIdx ixs => by simp [nodesP, spineKindsP, snodesP, postNodesP]
  | .call p args => by
    rw [nodesP_split, preNodesP, nodesP_eq p]; simp [spineKindsP, snodesP, Prim.kind, X.kind]
  | .index p items => by
    rw [nodesP_split, preNodesP, nodesP_eq p]; simp [spineKindsP, snodesP, Prim.kind, X.kind]
  | .id => rfl
  | .lit _ => rfl
  | .timing _ => rfl
  | .hw => rfl
  | .paren _ => by simp [nodesP, spineKindsP, snodesP, postNodesP, Prim.kind, X.kind]
  | .cast0 _ _ => by simp [nodesP, spineKindsP, snodesP, postNodesP, Prim.kind, X.kind]
  | .castW _ _ _ => by simp [nodesP, spineKindsP, snodesP, postNodesP, Prim.kind, X.kind]
  | .measureE => rfl
  | .measureHw => rfl
  | .measureIdx _ => by simp [nodesP, spineKindsP, snodesP, postNodesP, Prim.kind, X.kind]

def hnodesX : X → List Step
  | .prim p => preNodesP p ++ postNodesP p
  | .bin o l r => hnodesX l ++ (.token o.kind o.pieces.length :: (nodesX r ++ [.exit]))
  | .pre o e => .token o.kind 1 :: (nodesX e ++ [.exit])

theorem nodesX_eq : ∀ x : X, nodesX x = (hkindsX x).map .enter ++ hnodesX x
  | .prim p => by simp [nodesX, hkindsX, hnodesX, nodesP_split]
  | .pre o e => by simp [nodesX, hkindsX, hnodesX]
  | .bin o l r => by simp [nodesX, hkindsX, hnodesX, nodesX_eq l]


theorem bodyP_head : ∀ (p : Prim) (d : Nat), ∃ k f rest, bodyP p (some d) = .start k (some f) :: rest
  | .idIdx _, d => ⟨_, _, _, rfl⟩
  | .call p _, d => by
    obtain ⟨k, f, rest, h⟩ := bodyP_head p (lenP p - rootP p)
    exact ⟨k, f, _, by rw [bodyP_split, preP, h]; rfl⟩
  | .index p _, d => by
    obtain ⟨k, f, rest, h⟩ := bodyP_head p (lenP p - rootP p)
    exact ⟨k, f, _, by rw [bodyP_split, preP, h]; rfl⟩
  | .id, d => ⟨_, _, _, rfl⟩
  | .lit _, d => ⟨_, _, _, rfl⟩
  | .timing _, d => ⟨_, _, _, rfl⟩
  | .hw, d => ⟨_, _, _, rfl⟩
  | .paren _, d => ⟨_, _, _, rfl⟩
  | .cast0 _ _, d => ⟨_, _, _, rfl⟩
  | .castW _ _ _, d => ⟨_, _, _, rfl⟩
  | .measureE, d => ⟨_, _, _, rfl⟩
  | .measureHw, d => ⟨_, _, _, rfl⟩
  | .measureIdx _, d => ⟨_, _, _, rfl⟩

theorem sbodyP_head : ∀ (p : Prim), ∃ r, sbodyP p = Ev.tombstone :: r
  | .call p args => by obtain ⟨r, h⟩ := sbodyP_head p; exact ⟨_, by rw [sbodyP, h]; rfl⟩
  | .index p items => by obtain ⟨r, h⟩ := sbodyP_head p; exact ⟨_, by rw [sbodyP, h]; rfl⟩
  | .idIdx _ => ⟨_, rfl⟩
  | .id => ⟨_, rfl⟩
  | .lit _ => ⟨_, rfl⟩
  | .timing _ => ⟨_, rfl⟩
  | .hw => ⟨_, rfl⟩
  | .paren _ => ⟨_, rfl⟩
  | .cast0 _ _ => ⟨_, rfl⟩
  | .castW _ _ _ => ⟨_, rfl⟩
  | .measureE => ⟨_, rfl⟩
  | .measureHw => ⟨_, rfl⟩
  | .measureIdx _ => ⟨_, rfl⟩

theorem sbodyP_length (p : Prim) : (sbodyP p).length = lenP p := by
  rw [← (spineP p).len none, bodyP_length]

/-- the base of a postfix operator (entered at its first event, its root links to the tombstone that the
operator has become) -/
theorem goSegT_base (p : Prim) {st : List Step} (hs : GoSeg (sbodyP p) st) :
    GoSegT (bodyP p (some (lenP p - rootP p))) ((spineKindsP p).map .enter ++ st) := by
  obtain ⟨r, hr⟩ := sbodyP_head p
  have h := goSegT_spine (spineP p) (by rw [sbodyP_length]; have := lenP_pos p; omega) hr
    (by rw [sbodyP_length]; exact bodyP_head p _) hs
  rw [sbodyP_length] at h
  exact h

theorem goSeg_identIdx : GoSeg [.start .IDENTIFIER (some 3), .token .IDENT 1, .finish, .start .INDEXED_IDENTIFIER none]
    [.enter .INDEXED_IDENTIFIER, .enter .IDENTIFIER, .token .IDENT 1, .exit] := by
  intro n A R out
  obtain ⟨A1, h1⟩ := (GoSeg.token (k := .IDENT) (m := 1) (.finish (.tomb .nil))) n (A ++ [Ev.tombstone])
    R (out ++ [Step.enter SyntaxKind.INDEXED_IDENTIFIER, Step.enter SyntaxKind.IDENTIFIER])
  refine ⟨A1, ?_⟩
  have e : out ++ [Step.enter SyntaxKind.INDEXED_IDENTIFIER, Step.enter SyntaxKind.IDENTIFIER, Step.token SyntaxKind.IDENT 1, Step.exit] =
      out ++ [Step.enter SyntaxKind.INDEXED_IDENTIFIER, Step.enter SyntaxKind.IDENTIFIER] ++ [Step.token SyntaxKind.IDENT 1, Step.exit] := by simp
  rw [e, ← h1]
  show processGo (n + 3 + 1) A.length
    (A ++ (Ev.start SyntaxKind.IDENTIFIER (some 3) :: (Ev.token SyntaxKind.IDENT 1 :: Ev.finish :: Ev.start SyntaxKind.INDEXED_IDENTIFIER none :: R))) out = _
  have e1 : ∀ (x y : Ev) (w : Ev) (L : List Ev), A ++ (Ev.tombstone :: x :: y :: w :: L) =
      (A ++ [Ev.tombstone, x, y]) ++ (w :: L) := by intro x y w L; simp
  have e2 : (A ++ [Ev.tombstone, Ev.token SyntaxKind.IDENT 1, Ev.finish]).length = A.length + 3 := by simp
  rw [processGo, get_mid]
  simp only
  rw [set_mid, e1, chain, ← e2, get_mid]
  simp only [set_mid]
  simp [enters, List.filter]
  rfl


theorem evsX_of_hbody (x : X) (h : GoSeg (hbodyX x) (hnodesX x)) : GoSeg (evsX x) (nodesX x) :=
  GoSeg.cast (goSeg_spineAt (spineAtX x) h) rfl (nodesX_eq x).symm

theorem GoSeg.cast_T {a : List Ev} {sa sa' : List Step} (h : GoSegT a sa) (hs : sa = sa') : GoSegT a sa' := by subst hs; exact h

mutual
theorem goH : ∀ x : X, GoSeg (hbodyX x) (hnodesX x)
  | .prim (.call p args) =>
    (GoSeg.cast_T (goSegT_base p (goP p).1) (nodesP_eq p).symm).append (.tomb (goP (.call p args)).2)
  | .prim (.index p items) =>
    (GoSeg.cast_T (goSegT_base p (goP p).1) (nodesP_eq p).symm).append (.tomb (goP (.index p items)).2)
  | .prim (.idIdx ixs) => goSegT_callee.append (.tomb (goP (.idIdx ixs)).2)
  | .prim (.id) => .tomb (goP (.id)).2
  | .prim (.lit k) => .tomb (goP (.lit k)).2
  | .prim (.timing k) => .tomb (goP (.timing k)).2
  | .prim (.hw) => .tomb (goP (.hw)).2
  | .prim (.paren e) => .tomb (goP (.paren e)).2
  | .prim (.cast0 ty e) => .tomb (goP (.cast0 ty e)).2
  | .prim (.castW ty w e) => .tomb (goP (.castW ty w e)).2
  | .prim (.measureE) => .tomb (goP (.measureE)).2
  | .prim (.measureHw) => .tomb (goP (.measureHw)).2
  | .prim (.measureIdx ixs) => .tomb (goP (.measureIdx ixs)).2
  | .bin o l r =>
    (goH l).append (.tomb (.token ((evsX_of_hbody r (goH r)).append (.finish .nil))))
  | .pre o e => .tomb (.token ((evsX_of_hbody e (goH e)).append (.finish .nil)))
theorem goP : ∀ p : Prim, GoSeg (sbodyP p) (snodesP p) ∧ GoSeg (postP p) (postNodesP p)
  | .id => ⟨.tomb (.token (.finish .nil)), .token (.finish .nil)⟩
  | .lit k => ⟨.tomb (.token (.finish .nil)), .token (.finish .nil)⟩
  | .hw => ⟨.tomb (.token (.finish .nil)), .token (.finish .nil)⟩
  | .timing k =>
    have hp : GoSeg (postP (.timing k)) (postNodesP (.timing k)) :=
      .start rfl (.token (.finish (.start rfl
        (.token (.finish (.finish .nil))))))
    ⟨.tomb hp, hp⟩
  | .measureE =>
    have hp : GoSeg (postP .measureE) (postNodesP .measureE) :=
      .token (.start rfl (.token (.finish (.finish .nil))))
    ⟨.tomb hp, hp⟩
  | .measureHw =>
    have hp : GoSeg (postP .measureHw) (postNodesP .measureHw) :=
      .token (.start rfl (.token (.finish (.finish .nil))))
    ⟨.tomb hp, hp⟩
  | .measureIdx ixs =>
    have hp : GoSeg (postP (.measureIdx ixs)) (postNodesP (.measureIdx ixs)) :=
      .token (goSeg_identIdx.append ((goIdx ixs).append (.finish (.finish .nil))))
    ⟨.tomb hp, hp⟩
  | .paren e =>
    have hp : GoSeg (postP (.paren e)) (postNodesP (.paren e)) :=
      .token ((evsX_of_hbody e (goH e)).append (.token (.finish .nil)))
    ⟨.tomb hp, hp⟩
  | .cast0 ty e =>
    have hp : GoSeg (postP (.cast0 ty e)) (postNodesP (.cast0 ty e)) :=
      .start rfl (.token (.finish (.token
        ((evsX_of_hbody e (goH e)).append (.token (.finish .nil))))))
    ⟨.tomb hp, hp⟩
  | .castW ty w e =>
    have hp : GoSeg (postP (.castW ty w e)) (postNodesP (.castW ty w e)) :=
      .start rfl (.token (.start rfl (.token
        ((evsX_of_hbody w (goH w)).append (.token (.finish (.finish (.token
          ((evsX_of_hbody e (goH e)).append (.token (.finish .nil)))))))))))
    ⟨.tomb hp, hp⟩
  | .idIdx ixs =>
    have hp : GoSeg (postP (.idIdx ixs)) (postNodesP (.idIdx ixs)) := (goIdx ixs).append (.finish .nil)
    ⟨.tomb (.token (.finish (.tomb hp))), hp⟩
  | .call p args =>
    have hp : GoSeg (postP (.call p args)) (postNodesP (.call p args)) :=
      .start rfl (.start rfl (.token
        ((goXs args).append (.token (.finish (.finish (.finish .nil)))))))
    ⟨(goP p).1.append (.tomb hp), hp⟩
  | .index p items =>
    have hp : GoSeg (postP (.index p items)) (postNodesP (.index p items)) :=
      .start rfl (.token (.start rfl
        ((goItems items).append (.finish (.token (.finish (.finish .nil)))))))
    ⟨(goP p).1.append (.tomb hp), hp⟩
theorem goXs : ∀ xs : XList, GoSeg (evsXs xs) (nodesXs xs)
  | .nil => GoSeg.nil
  | .cons x .nil => evsX_of_hbody x (goH x)
  | .cons x (.cons y ys) => (evsX_of_hbody x (goH x)).append (.token (goXs (.cons y ys)))
theorem goItem : ∀ i : Item, GoSeg (evsItem i) (nodesItem i)
  | .ex x => .tomb (evsX_of_hbody x (goH x))
  | .r2 lo hi =>
    .start rfl ((evsX_of_hbody lo (goH lo)).append (.token
      ((evsX_of_hbody hi (goH hi)).append (.finish .nil))))
  | .r3 lo mid hi =>
    .start rfl ((evsX_of_hbody lo (goH lo)).append (.token
      ((evsX_of_hbody mid (goH mid)).append (.token ((evsX_of_hbody hi (goH hi)).append (.finish .nil))))))
theorem goItems : ∀ is : ItemList, GoSeg (evsItems is) (nodesItems is)
  | .one i => goItem i
  | .cons i is => (goItem i).append (.token (goItems is))
theorem goIdx : ∀ ixs : IdxList, GoSeg (evsIdx ixs) (nodesIdx ixs)
  | .one is =>
    .start rfl (.token (.start rfl
      ((goItems is).append (.finish (.token (.finish .nil))))))
  | .cons is rest =>
    .start rfl (.token (.start rfl
      ((goItems is).append (.finish (.token (.finish (goIdx rest)))))))
end

theorem goSeg_evsX (x : X) : GoSeg (evsX x) (nodesX x) := evsX_of_hbody x (goH x)

set_option linter.unusedSimpArgs false

theorem goSeg_Q : ∀ q : Q, GoSeg (evsQ q) (nodesQ q)
  | .id => .start rfl (.token (.finish .nil))
  | .hw => .start rfl (.token (.finish .nil))
  | .idx ixs => goSeg_identIdx.append ((goIdx ixs).append (.finish .nil))

theorem goSeg_Qs : ∀ qs : QList, GoSeg (evsQs qs) (nodesQs qs)
  | .one q => goSeg_Q q
  | .cons q qs => (goSeg_Q q).append (.token (goSeg_Qs qs))

theorem goSeg_paren (e : X) : GoSeg (parenEvs e) (parenNodes e) :=
  .start rfl (.token ((goSeg_evsX e).append (.token (.finish .nil))))

theorem goSeg_Mod : ∀ m : Mod, GoSeg (evsMod m) (nodesMod m)
  | .inv => .start rfl (.token (.token (.finish .nil)))
  | .pow e => .start rfl (.token ((goSeg_paren e).append (.token (.finish .nil))))
  | .ctrl none => .start rfl (.token (.token (.finish .nil)))
  | .ctrl (some e) => .start rfl (.token ((goSeg_paren e).append (.token (.finish .nil))))
  | .negctrl none => .start rfl (.token (.token (.finish .nil)))
  | .negctrl (some e) => .start rfl (.token ((goSeg_paren e).append (.token (.finish .nil))))

theorem goSeg_Mods : ∀ ms : List Mod, GoSeg (evsMods ms) (nodesMods ms)
  | [] => GoSeg.nil
  | m :: ms => (goSeg_Mod m).append (goSeg_Mods ms)

theorem goSeg_tyX (ty : Ty) : ∀ w : Option X, GoSeg (tyEvsX ty w) (tyNodesX ty w)
  | none => .start rfl (.token (.finish .nil))
  | some w =>
    .start rfl (.token (.start rfl
      (.token ((goSeg_evsX w).append (.token (.finish (.finish .nil)))))))

theorem goSeg_desig (w : X) : GoSeg (desigEvs w) (desigNodes w) :=
  .start rfl (.token ((goSeg_evsX w).append (.token (.finish .nil))))

theorem goSeg_argList : ∀ args : XList, GoSeg (argListEvs args) (argListNodes args)
  | .nil => GoSeg.nil
  | .cons a as =>
    .start rfl (.start rfl (.token
      ((goXs (.cons a as)).append (.token (.finish (.finish .nil))))))

theorem goSeg_qlist (qs : QList) : GoSeg (qlistEvs qs) (qlistNodes qs) :=
  .start rfl ((goSeg_Qs qs).append (.finish .nil))

theorem goSeg_name : GoSeg nameEvs nameNodes :=
  .start rfl (.token (.finish .nil))

theorem goSeg_iter : ∀ it : Iter, GoSeg (iterEvs it) (iterNodes it)
  | .range2 lo hi =>
    .start rfl (.token ((goSeg_evsX lo).append (.token
      ((goSeg_evsX hi).append (.token (.finish .nil))))))
  | .range3 lo mid hi =>
    .start rfl (.token ((goSeg_evsX lo).append (.token
      ((goSeg_evsX mid).append (.token ((goSeg_evsX hi).append (.token (.finish .nil))))))))
  | .set is =>
    .start rfl (.token (.start rfl
      ((goItems is).append (.finish (.token (.finish .nil))))))
  | .ex x => goSeg_evsX x

theorem goSeg_ty1 (t : Ty) : GoSeg [Ev.start .SCALAR_TYPE none, .start .SCALAR_TYPE none, .token t.kind 1, .finish, .finish]
    [Step.enter .SCALAR_TYPE, .enter .SCALAR_TYPE, .token t.kind 1, .exit, .exit] :=
  .start rfl (.start rfl (.token
    (.finish (.finish .nil))))

theorem goSeg_tyList : ∀ ts : List Ty, GoSeg (tyListEvs ts) (tyListNodes ts)
  | [] => GoSeg.nil
  | [t] => goSeg_ty1 t
  | t :: u :: us => (goSeg_ty1 t).append (.token (goSeg_tyList (u :: us)))

theorem goSeg_wrapStmt (k : SyntaxKind) (hk : (k != .TOMBSTONE) = true) (inner : List Ev) (innerN : List Step)
    (h : GoSeg inner innerN) : GoSeg (wrapStmt k inner) (wrapNodes k innerN) :=
  GoSeg.cast (goSeg_spineAt_wrap (spine_prim k hk inner) (Nat.zero_le _) .EXPR_STMT (by decide) [Ev.token .SEMICOLON 1, Ev.finish]
      (.tomb h) goSeg_exprStmtTail)
    (by simp [wrapStmt, exprStmtTail, Ev.tombstone, tombLink]) (by simp [wrapNodes])

theorem hbodyX_length (x : X) : (hbodyX x).length = lenX x := by
  rw [← (spineAtX x).len none, bodyX_length]

theorem goSeg_exprS (x : X) : GoSeg (evsS2 (.exprS x)) (nodesS2 (.exprS x)) :=
  GoSeg.cast (goSeg_spineAt_wrap (spineAtX x) (by rw [hbodyX_length]; have := lenX_pos x; omega) .EXPR_STMT (by decide)
      [Ev.token .SEMICOLON 1, Ev.finish] (goH x) goSeg_exprStmtTail)
    (by simp only [evsS2, exprStmtTail, hbodyX_length]) (by simp [nodesS2, nodesX_eq])


theorem goSeg_assign (ixs : Option IdxList) (rhs : X) : GoSeg (evsS2 (.assign ixs rhs)) (nodesS2 (.assign ixs rhs)) := by
  have hsp := (spineAtX (.prim (lhsP ixs))).post (by rw [hbodyX_length]; have := lenX_pos (.prim (lhsP ixs)); omega)
    .ASSIGNMENT_STMT (by decide) (.token .EQ 1 :: (evsX rhs ++ [.token .SEMICOLON 1, .finish]))
  have hrest : GoSeg (Ev.tombstone :: .token .EQ 1 :: (evsX rhs ++ [.token .SEMICOLON 1, .finish]))
      (.token .EQ 1 :: (nodesX rhs ++ [.token .SEMICOLON 1, .exit])) :=
    .tomb (.token ((goSeg_evsX rhs).append (.token (.finish .nil))))
  have h := goSeg_spineAt hsp ((goH (.prim (lhsP ixs))).append hrest)
  refine GoSeg.cast h ?_ ?_
  · simp only [evsS2, hbodyX_length, headOff, rootX, bodyX, lenX]
  · simp [nodesS2, hkindsX, hnodesX, nodesP_split]

theorem goSeg_gateArgs (a : X) (as : XList) (qs : QList) :
    GoSeg (evsS2 (.gate (.cons a as) qs)) (nodesS2 (.gate (.cons a as) qs)) := by
  have hsp := spineAt_prim [Ev.start .IDENTIFIER (some 3), .token .IDENT 1, .finish] .GATE_CALL_EXPR (by decide)
    (argListEvs (.cons a as) ++ (qlistEvs qs ++ [.finish]))
  have hrest : GoSeg (Ev.tombstone :: (argListEvs (.cons a as) ++ (qlistEvs qs ++ [.finish])))
      (argListNodes (.cons a as) ++ (qlistNodes qs ++ [.exit])) :=
    .tomb ((goSeg_argList (.cons a as)).append ((goSeg_qlist qs).append (.finish .nil)))
  have h := goSeg_spineAt_wrap hsp (by simp) .EXPR_STMT (by decide) [Ev.token .SEMICOLON 1, Ev.finish]
    (goSegT_callee.append hrest) goSeg_exprStmtTail
  refine GoSeg.cast h ?_ ?_
  · simp [evsS2, exprStmtTail]; omega
  · simp [nodesS2, wrapNodes, gateCallInnerNodes]

theorem goSeg_blockS (ss : Stmts2) (h : GoSeg (evsL2 ss) (nodesL2 ss)) :
    GoSeg (evsS2 (.block ss)) (nodesS2 (.block ss)) := by
  have hin : GoSeg (Ev.tombstone :: .token .L_CURLY 1 :: (evsL2 ss ++ [.token .R_CURLY 1, .finish]))
      (.token .L_CURLY 1 :: (nodesL2 ss ++ [.token .R_CURLY 1, .exit])) :=
    .tomb (.token (h.append (.token (.finish .nil))))
  have ht : GoSeg (Ev.tombstone :: [Ev.finish]) [Step.exit] := .tomb (.finish .nil)
  -- `Ev.token`, not `.token`: nothing gives the type of the list before `++` is elaborated, and the search for it is slow
  have h' := goSeg_spineAt_wrap (spine_prim .BLOCK_EXPR rfl (Ev.token .L_CURLY 1 :: (evsL2 ss ++ [Ev.token .R_CURLY 1, Ev.finish])))
    (Nat.zero_le _) .EXPR_STMT (by decide) [Ev.finish] hin ht
  refine GoSeg.cast h' ?_ ?_
  · simp [evsS2, tombLink, Ev.tombstone]
  · simp [nodesS2, blockNodes]


mutual
theorem goS2 : ∀ st : Stmt2, GoSeg (evsS2 st) (nodesS2 st)
  | .decl false ty w none =>
    .start rfl (.tomb ((goSeg_tyX ty w).append ((goSeg_name).append (.token (.finish .nil)))))
  | .decl false ty w (some e) =>
    .start rfl (.tomb ((goSeg_tyX ty w).append ((goSeg_name).append (.token ((goSeg_evsX e).append (.token (.finish .nil)))))))
  | .decl true ty w none =>
    .start rfl (.token (.tomb ((goSeg_tyX ty w).append ((goSeg_name).append (.token (.finish .nil))))))
  | .decl true ty w (some e) =>
    .start rfl (.token (.tomb ((goSeg_tyX ty w).append ((goSeg_name).append (.token ((goSeg_evsX e).append (.token (.finish .nil))))))))
  | .io out ty w =>
    .start rfl (.token ((goSeg_tyX ty w).append ((goSeg_name).append (.token (.finish .nil)))))
  | .qubit none =>
    .start rfl (.start rfl (.token (.finish ((goSeg_name).append (.token (.finish .nil))))))
  | .qubit (some w) =>
    .start rfl (.start rfl (.token ((goSeg_desig w).append (.finish ((goSeg_name).append (.token (.finish .nil)))))))
  | .oldReg c items =>
    .start rfl (.start rfl (.token (.token (.start rfl (.token (.start rfl ((goItems items).append (.finish (.token (.finish (.finish (.token (.finish .nil)))))))))))))
  | .letS e =>
    .start rfl (.token (.token (.token ((goSeg_evsX e).append (.token (.finish .nil))))))
  | .alias e =>
    .start rfl (.token ((goSeg_name).append (.token ((goSeg_evsX e).append (.token (.finish .nil))))))
  | .reset q =>
    .start rfl (.token ((goSeg_Q q).append (.token (.finish .nil))))
  | .barrier qs =>
    .start rfl (.token ((goSeg_qlist qs).append (.token (.finish .nil))))
  | .delay d qs =>
    .start rfl (.token ((goSeg_desig d).append ((goSeg_qlist qs).append (.token (.finish .nil)))))
  | .brk =>
    .start rfl (.token (.token (.finish .nil)))
  | .cont =>
    .start rfl (.token (.token (.finish .nil)))
  | .endS =>
    .start rfl (.token (.token (.finish .nil)))
  | .pragma =>
    .start rfl (.token (.finish .nil))
  | .annot =>
    .start rfl (.token (.finish .nil))
  | .incl =>
    .start rfl (.token (.start rfl (.token (.finish (.token (.finish .nil))))))
  | .version =>
    .start rfl (.token (.start rfl (.token (.token (.finish (.finish .nil))))))
  | .externS tys ret =>
    .start rfl (.token ((goSeg_name).append (.start rfl (.token ((goSeg_tyList tys).append (.token (.finish ((goSeg_retSig (some ret)).append (.token (.finish .nil))))))))))
  | .ifS c thn =>
    .start rfl (.token (.token ((goSeg_evsX c).append (.token ((goB thn).append (.finish .nil))))))
  | .ifElse c thn els =>
    .start rfl (.token (.token ((goSeg_evsX c).append (.token ((goB thn).append (.token ((goB els).append (.finish .nil))))))))
  | .whileS c body =>
    .start rfl (.token (.token ((goSeg_evsX c).append (.token ((goB body).append (.finish .nil))))))
  | .forS ty w it body =>
    .start rfl (.token ((goSeg_tyX ty w).append ((goSeg_name).append (.token (.start rfl ((goSeg_iter it).append (.finish ((goB body).append (.finish .nil)))))))))
  | .switchS c cs =>
    .start rfl (.token (.token ((goSeg_evsX c).append (.token (.token ((goC cs).append (.token (.finish .nil))))))))
  | .gateDef none nq body =>
    .start rfl (.token (.start rfl (.token (.finish (.start rfl ((goSeg_params nq).append (.finish ((goSeg_block (goL2 body)).append (.finish .nil)))))))))
  | .gateDef (some k) nq body =>
    .start rfl (.token (.start rfl (.token (.finish (.start rfl (.token ((goSeg_params k).append (.token (.finish (.start rfl ((goSeg_params nq).append (.finish ((goSeg_block (goL2 body)).append (.finish .nil))))))))))))))
  | .defS ps ret body =>
    .start rfl (.token (.start rfl (.token (.finish (.start rfl (.token ((goSeg_typed ps).append (.token (.finish ((goSeg_retSig ret).append ((goSeg_block (goL2 body)).append (.finish .nil))))))))))))
  | .cal body =>
    .start rfl (.token ((goSeg_block (goL2 body)).append (.finish .nil)))
  | .assign ixs rhs => goSeg_assign ixs rhs
  | .exprS x => goSeg_exprS x
  | .gate .nil qs =>
    goSeg_wrapStmt .GATE_CALL_EXPR rfl _ _
      (.start rfl (.token (.finish ((goSeg_argList .nil).append ((goSeg_qlist qs).append (.finish .nil))))))
  | .gate (.cons a as) qs => goSeg_gateArgs a as qs
  | .modGate m ms args qs =>
    goSeg_wrapStmt .MODIFIED_GATE_CALL_EXPR rfl _ _ ((goSeg_Mods (m :: ms)).append
      (.start rfl (GoSeg.append (.start rfl (.token (.finish ((goSeg_argList args).append ((goSeg_qlist qs).append (.finish .nil))))))
        (.finish .nil))))
  | .gphase x =>
    goSeg_wrapStmt .G_PHASE_CALL_EXPR rfl _ _ (.token ((goSeg_evsX x).append (.finish .nil)))
  | .modGphase m ms x =>
    goSeg_wrapStmt .MODIFIED_GATE_CALL_EXPR rfl _ _ ((goSeg_Mods (m :: ms)).append
      (.start rfl (.token ((goSeg_evsX x).append (.finish (.finish .nil))))))
  | .block ss => goSeg_blockS ss (goL2 ss)
  | .ret none => goSeg_wrapStmt .RETURN_EXPR rfl _ _ (.token (.finish .nil))
  | .ret (some e) =>
    goSeg_wrapStmt .RETURN_EXPR rfl _ _ (.token ((goSeg_evsX e).append (.finish .nil)))
theorem goB : ∀ b : Body, GoSeg (evsB b) (nodesB b)
  | .blk ss => goSeg_block (goL2 ss)
  | .one s => goS2 s
theorem goC : ∀ cs : Cases, GoSeg (evsC cs) (nodesC cs)
  | .nil => GoSeg.nil
  | .dflt body => .token (goSeg_block (goL2 body))
  | .cons vals body rest =>
    .start rfl (.token (.start rfl
      ((goItems vals).append (.finish ((goSeg_block (goL2 body)).append (.finish (goC rest)))))))
theorem goL2 : ∀ ss : Stmts2, GoSeg (evsL2 ss) (nodesL2 ss)
  | .nil => GoSeg.nil
  | .cons st ss => (goS2 st).append (goL2 ss)
end

/-- **`process` turns the events of a program into the pre-order node sequence of its derivation** -/
theorem process_evsP2 (p : Stmts2) : process (evsP2 p) = some (nodesP2 p) := by
  obtain ⟨A', h⟩ := (GoSeg.start (k := .SOURCE_FILE) rfl ((goL2 p).append (.finish .nil))) 0 [] [] []
  unfold process
  simp only [Nat.zero_add, List.nil_append, List.append_nil, List.length_nil] at h
  rw [show evsP2 p = .start .SOURCE_FILE none :: (evsL2 p ++ [.finish]) from rfl, h]
  rfl

end Oq3.LangEv2
