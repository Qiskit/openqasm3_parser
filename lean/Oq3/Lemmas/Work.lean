/-
The work calculus: how the tight work bounds of the grammar functions (`AllWork`) are proved.

A grammar function `f` with table row `R` is walked once, in continuation-passing style, with a judgement
`W E σ x Q c` that hides the parser state.  What is known about the state is
  * the token view, through a checkpoint `c` (the state at the last point where a token may have been
    consumed): token facts are facts about `c` and survive every step that keeps the token view;
  * an abstract account `σ` of what has been spent since `f` was entered at `E.s₀`, one entry for each of the
    two cases "no token consumed yet" (`np`: events and `nth`-steps spent) and "a token was consumed" (`pr`:
    spent beyond the price of one token), `none` for a case that cannot be.
Every parser-API call and every callee is described by a row (`Spec`); `W.charge` is the one rule that charges a
row to the account (sequence = sum, the two cases joined by max: this is the path analysis of
tools/cost_paths.py, whose constants the rows are).  The side conditions are closed arithmetic on the account,
decided by evaluation.

The numerals: 61 and 19 are the prices of one token in events and in `nth`-steps (`workRE`, `workRS` of
`Lemmas/GrammarWork0.lean`, computed with the rows), 20 is the fuel per token of the rank argument (`K` of
tools/gen_grammar_progress.py: above every rank, which is why a callee of rank `≤ R.rk + 19` has fuel once a token is
consumed).  They are literals in the statement of `AllWork`, hence here.
-/
import Oq3.Lemmas.Cost2
set_option linter.unusedVariables false

namespace Oq3.Parser
open Oq3.Gen

/-- one row of the work tables, in the order of the clauses of `AllWork` (in tools/cost_paths.py: rank, `Bud`, `N`, `D`
for events and for steps): the rank `rk`; the budgets `a` (events) and `b` (steps) needed before the first token is
consumed; for events, the cost `n` of a run that consumes no token and the discount `d`: a run that consumes `Δ > 0`
tokens costs at most `n + 61 * Δ - d`, since of the price of its first token `d` is reserved for the frames above; the
same for steps, `m` and `e`, with 19 -/
structure Row where
  rk : Nat := 0
  a : Nat := 0
  b : Nat := 0
  n : Nat := 0
  d : Nat := 0
  m : Nat := 0
  e : Nat := 0

def Row.Post (R : Row) (M : Sys) (B Bs : Nat) (s s' : P) : Prop :=
  Adv s s' ∧ M.Good B Bs s' ∧ M.val s' + 61 * s.pos ≤ M.val s + 61 * s'.pos + R.n ∧
  (s.pos < s'.pos → M.val s' + 61 * s.pos + R.d ≤ M.val s + 61 * s'.pos + R.n) ∧
  s'.steps + 19 * s.pos ≤ s.steps + 19 * s'.pos + R.m ∧
  (s.pos < s'.pos → s'.steps + 19 * s.pos + R.e ≤ s.steps + 19 * s'.pos + R.m)

/-- `x` obeys the row `R` under the token precondition `X`, with the progress clauses `Y` -/
def Spec {α} (M : Sys) (R : Row) (x : G α) (X : P → Prop) (Y : P → α → P → Prop) : Prop :=
  ∀ B Bs s, s.pos ≤ s.kinds.size → M.Good B Bs s → M.val s + R.a + 61 * s.kinds.size ≤ B + 61 * s.pos →
    s.steps + R.b + 19 * s.kinds.size ≤ Bs + 19 * s.pos → X s →
    wp M.A x (fun r s' => R.Post M B Bs s s' ∧ Y s r s') s

/-- the function that is walked: its row, the fuel of its callees, the budgets and the state at entry with the
precondition of `AllWork` -/
structure Env (M : Sys) (R : Row) (fuel : Nat) where
  B : Nat
  Bs : Nat
  s₀ : P
  inb : s₀.pos ≤ s₀.kinds.size
  hrk : R.rk + 20 * s₀.kinds.size ≤ fuel + 1 + 20 * s₀.pos
  good : M.Good B Bs s₀
  hev : M.val s₀ + R.a + 61 * s₀.kinds.size ≤ B + 61 * s₀.pos
  hst : s₀.steps + R.b + 19 * s₀.kinds.size ≤ Bs + 19 * s₀.pos

/-- events and steps spent, for one of the two cases; `none`: the case cannot be -/
abbrev Acct := Option (Nat × Nat)

def Acct.join : Acct → Acct → Acct
  | none, o => o
  | o, none => o
  | some (e, t), some (e', t') => some (max e e', max t t')

def Acct.Bd (o : Acct) (p : Nat → Nat → Prop) : Prop := ∃ e t, o = some (e, t) ∧ p e t

structure Spent where
  /-- no token consumed since entry -/
  np : Acct
  /-- a token was consumed: spent beyond the price of that token -/
  pr : Acct

def Spent.init : Spent := ⟨some (0, 0), none⟩

/-- room for a callee (or API call) with row `Rg`: its budgets fit into what is left of `R`'s (a consumed token has
paid 61 events and 19 steps into them), its rank is below `R`'s while no token has been consumed and within the fuel
of one token afterwards, its discounts are below the price of a token -/
def Spent.room (σ : Spent) (R Rg : Row) : Bool :=
  σ.np.all (fun p => decide (p.1 + Rg.a ≤ R.a) && decide (p.2 + Rg.b ≤ R.b) && decide (Rg.rk < R.rk)) &&
  σ.pr.all (fun p => decide (p.1 + Rg.a ≤ R.a + 61) && decide (p.2 + Rg.b ≤ R.b + 19)) &&
  decide (Rg.rk ≤ R.rk + 19) && decide (Rg.d ≤ 61) && decide (Rg.e ≤ 19)

/-- the account after a callee with row `Rg` returned, whether or not it consumed a token -/
def Spent.after (σ : Spent) (Rg : Row) : Spent where
  np := σ.np.map fun p => (p.1 + Rg.n, p.2 + Rg.m)
  pr := Acct.join (σ.pr.map fun p => (p.1 + Rg.n, p.2 + Rg.m))
    (σ.np.map fun p => (p.1 + (Rg.n + 61 - Rg.d), p.2 + (Rg.m + 19 - Rg.e)))

/-- the account after a call that kept the token view -/
def Spent.add (σ : Spent) (Rg : Row) : Spent where
  np := σ.np.map fun p => (p.1 + Rg.n, p.2 + Rg.m)
  pr := σ.pr.map fun p => (p.1 + Rg.n, p.2 + Rg.m)

def Spent.prog (σ : Spent) : Spent := ⟨none, σ.pr⟩

def Spent.fits (σ : Spent) (R : Row) : Bool :=
  σ.np.all (fun p => decide (p.1 ≤ R.n) && decide (p.2 ≤ R.m)) &&
  σ.pr.all (fun p => decide (p.1 + R.d ≤ R.n + 61) && decide (p.2 + R.e ≤ R.m + 19))

/-- the state `s` of a run of `E`'s function with account `σ` and token view `c.tv` -/
structure Wk {M : Sys} {R : Row} {fuel : Nat} (E : Env M R fuel) (σ : Spent) (c s : P) : Prop where
  tv : s.tv = c.tv
  adv : Adv E.s₀ s
  good : M.Good E.B E.Bs s
  np : s.pos = E.s₀.pos → σ.np.Bd fun e t => M.val s ≤ M.val E.s₀ + e ∧ s.steps ≤ E.s₀.steps + t
  pr : E.s₀.pos < s.pos → σ.pr.Bd fun e t =>
    M.val s + 61 * E.s₀.pos + 61 ≤ M.val E.s₀ + 61 * s.pos + e ∧
    s.steps + 19 * E.s₀.pos + 19 ≤ E.s₀.steps + 19 * s.pos + t

/-- a walk (`Lemmas/Safe.lean`) whose abstract state is the pair of the account and the checkpoint -/
abbrev W {α} {M : Sys} {R : Row} {fuel : Nat} (E : Env M R fuel) (σ : Spent) (x : G α) (Q : α → Spent × P → Prop) (c : P) : Prop :=
  Walk M.A (fun g s => Wk E g.1 g.2 s) x Q (σ, c)

theorem Acct.Bd.join_left {o o' : Acct} {p : Nat → Nat → Prop} (h : o.Bd p)
    (hm : ∀ e t e' t', e ≤ e' → t ≤ t' → p e t → p e' t') : (Acct.join o o').Bd p := by
  obtain ⟨e, t, rfl, hp⟩ := h
  cases o' with
  | none => exact ⟨e, t, rfl, hp⟩
  | some q => exact ⟨max e q.1, max t q.2, rfl, hm _ _ _ _ (Nat.le_max_left _ _) (Nat.le_max_left _ _) hp⟩

theorem Acct.Bd.join_right {o o' : Acct} {p : Nat → Nat → Prop} (h : o'.Bd p)
    (hm : ∀ e t e' t', e ≤ e' → t ≤ t' → p e t → p e' t') : (Acct.join o o').Bd p := by
  obtain ⟨e, t, rfl, hp⟩ := h
  cases o with
  | none => exact ⟨e, t, rfl, hp⟩
  | some q => exact ⟨max q.1 e, max q.2 t, rfl, hm _ _ _ _ (Nat.le_max_right _ _) (Nat.le_max_right _ _) hp⟩

theorem Acct.Bd.map {o : Acct} {p q : Nat → Nat → Prop} {a b : Nat} (h : o.Bd p)
    (hq : ∀ e t, p e t → q (e + a) (t + b)) : Acct.Bd (o.map fun p => (p.1 + a, p.2 + b)) q := by
  obtain ⟨e, t, rfl, hp⟩ := h
  exact ⟨_, _, rfl, hq e t hp⟩

theorem Acct.Bd.all {o : Acct} {p : Nat → Nat → Prop} {f : Nat × Nat → Bool} (h : o.Bd p) (ha : o.all f = true) :
    o.Bd fun e t => p e t ∧ f (e, t) = true := by
  obtain ⟨e, t, rfl, hp⟩ := h
  exact ⟨e, t, rfl, hp, ha⟩

section
variable {α β : Type} {M : Sys} {R : Row} {fuel : Nat} {E : Env M R fuel} {σ : Spent} {c : P}

theorem Wk.inb {s : P} (w : Wk E σ c s) : s.pos ≤ s.kinds.size := by
  rcases Nat.lt_or_ge E.s₀.pos s.pos with hlt | hge
  · exact w.adv.inb hlt
  · have := E.inb; have := w.adv.size; have := w.adv.le; omega

theorem Wk.init (E : Env M R fuel) : Wk E Spent.init E.s₀ E.s₀ :=
  ⟨rfl, Adv.refl _, E.good, fun _ => ⟨0, 0, rfl, Nat.le_refl _, Nat.le_refl _⟩, fun h => absurd h (Nat.lt_irrefl _)⟩

theorem Wk.prog {s : P} (w : Wk E σ c s) (h : E.s₀.pos < s.pos) : Wk E σ.prog c s :=
  ⟨w.tv, w.adv, w.good, fun he => absurd h (by omega), w.pr⟩

theorem Wk.pre {s : P} {Rg : Row} (w : Wk E σ c s) (hr : σ.room R Rg = true) :
    Rg.rk + 20 * s.kinds.size ≤ fuel + 20 * s.pos ∧ M.val s + Rg.a + 61 * s.kinds.size ≤ E.B + 61 * s.pos ∧
    s.steps + Rg.b + 19 * s.kinds.size ≤ E.Bs + 19 * s.pos := by
  simp only [Spent.room, Bool.and_eq_true, decide_eq_true_eq] at hr
  obtain ⟨⟨⟨⟨hnp, hpr⟩, hrk⟩, _⟩, _⟩ := hr
  have := E.hrk; have := E.hev; have := E.hst; have := E.inb
  have := w.adv.size; have := w.adv.le; have := w.inb
  rcases Nat.lt_or_ge E.s₀.pos s.pos with hlt | hge
  · obtain ⟨e, t, -, ⟨h1, h2⟩, hf⟩ := (w.pr hlt).all hpr
    simp only [Bool.and_eq_true, decide_eq_true_eq] at hf
    omega
  · obtain ⟨e, t, -, ⟨h1, h2⟩, hf⟩ := (w.np (by omega)).all hnp
    simp only [Bool.and_eq_true, decide_eq_true_eq] at hf
    omega

theorem Wk.after {s s' : P} {Rg : Row} (w : Wk E σ c s) (hr : σ.room R Rg = true)
    (hp : Rg.Post M E.B E.Bs s s') : Wk E (σ.after Rg) s' s' := by
  obtain ⟨ha, hg, h1, h2, h3, h4⟩ := hp
  simp only [Spent.room, Bool.and_eq_true, decide_eq_true_eq] at hr
  obtain ⟨⟨_, hd⟩, he⟩ := hr
  have := w.adv.le; have := ha.le
  refine ⟨rfl, w.adv.trans ha, hg, fun hs => ?_, fun hs => ?_⟩
  · exact (w.np (by omega)).map fun e t g => ⟨by omega, by omega⟩
  · rcases Nat.lt_or_ge E.s₀.pos s.pos with hlt | hge
    · exact ((w.pr hlt).map fun e t g => ⟨by omega, by omega⟩).join_left fun _ _ _ _ _ _ g => ⟨by omega, by omega⟩
    · have hs0 : s.pos = E.s₀.pos := by omega
      have hl : s.pos < s'.pos := by omega
      have := h2 hl; have := h4 hl
      exact ((w.np hs0).map fun e t g => ⟨by omega, by omega⟩).join_right fun _ _ _ _ _ _ g => ⟨by omega, by omega⟩

theorem Wk.add {s s' : P} {Rg : Row} (w : Wk E σ c s) (hp : Rg.Post M E.B E.Bs s s') (htv : s'.tv = s.tv) :
    Wk E (σ.add Rg) c s' := by
  obtain ⟨ha, hg, h1, _, h3, _⟩ := hp
  have hpos := tv_pos htv
  refine ⟨htv.trans w.tv, w.adv.trans ha, hg, fun hs => ?_, fun hs => ?_⟩
  · exact (w.np (by omega)).map fun e t g => ⟨by omega, by omega⟩
  · exact (w.pr (by omega)).map fun e t g => ⟨by omega, by omega⟩

variable {Q : α → Spent × P → Prop}

/-- `hn` is not needed: it keeps the step tactic from applying the rule to an account that already says so -/
theorem W.prog {x : G α} (hlt : E.s₀.pos < c.pos) (hn : σ.np.isSome = true) (h : W E σ.prog x Q c) : W E σ x Q c :=
  fun s w => h s (w.prog (by rw [tv_pos w.tv]; exact hlt))

/-- a callee (or API call) with row `Rg` is run; the continuation chooses the account and the checkpoint of the state
`s'` it returned in -/
theorem W.charge {x : G α} {Rg : Row} {X : P → Prop} {Y : P → α → P → Prop} (h : Spec M Rg x X Y)
    (hr : σ.room R Rg = true) (hX : ∀ s, Wk E σ c s → X s)
    (k : ∀ r s s', Wk E σ c s → Wk E (σ.after Rg) s' s' → Rg.Post M E.B E.Bs s s' → Y s r s' →
      ∃ g : Spent × P, Wk E g.1 g.2 s' ∧ Q r g) : W E σ x Q c := fun s w =>
  wp_conseq (h E.B E.Bs s w.inb w.good (w.pre hr).2.1 (w.pre hr).2.2 (hX s w)) fun r s' ⟨hp, hY⟩ =>
    k r s s' w (w.after hr hp) hp hY

/-- a call that may consume tokens: the continuation starts at a new checkpoint `c'` and learns the callee's
clauses `Y` for a state `s` with the token view of `c` -/
theorem W.call {x : G α} {Rg : Row} {X : P → Prop} {Y : P → α → P → Prop} (h : Spec M Rg x X Y)
    (hr : σ.room R Rg = true) (hX : ∀ s, Wk E σ c s → X s)
    (k : ∀ r c' s, s.tv = c.tv → Y s r c' → c.pos ≤ c'.pos → (c.pos < c'.pos → E.s₀.pos < c'.pos) →
      Q r (σ.after Rg, c')) : W E σ x Q c :=
  W.charge h hr hX fun r s s' w w' hp hY =>
    ⟨(_, s'), w', k r s' s w.tv hY (tv_pos w.tv ▸ hp.1.le) fun h => Nat.lt_of_le_of_lt (tv_pos w.tv ▸ w.adv.le) h⟩

theorem W.callP {x : G α} {Rg : Row} {X : P → Prop} (h : Spec M Rg x X fun s _ s' => s.pos < s'.pos)
    (hr : σ.room R Rg = true) (hX : ∀ s, Wk E σ c s → X s)
    (k : ∀ r c', E.s₀.pos < c'.pos → Q r ((σ.after Rg).prog, c')) : W E σ x Q c :=
  W.charge h hr hX fun r s s' w w' _ hY =>
    have hlt := Nat.lt_of_le_of_lt w.adv.le hY
    ⟨(_, s'), w'.prog hlt, k r s' hlt⟩

theorem W.callN {x : G α} {Rg : Row} {X : P → Prop} (h : Spec M Rg x X fun _ _ _ => True)
    (hr : σ.room R Rg = true) (hX : ∀ s, Wk E σ c s → X s)
    (k : ∀ r c', c.pos ≤ c'.pos → (c.pos < c'.pos → E.s₀.pos < c'.pos) → Q r (σ.after Rg, c')) : W E σ x Q c :=
  W.call h hr hX fun r c' _ _ _ => k r c'

theorem W.same {x : G α} {Rg : Row} (h : Spec M Rg x (fun _ => True) fun s _ s' => s'.tv = s.tv)
    (hr : σ.room R Rg = true) (k : ∀ r, Q r (σ.add Rg, c)) : W E σ x Q c :=
  W.charge h hr (fun _ _ => trivial) fun r _ _ w _ hp hY => ⟨(_, c), w.add hp hY, k r⟩

theorem Wk.kinds {s : P} (w : Wk E σ c s) : s.kinds = c.kinds := tv_kinds w.tv
theorem Wk.joint {s : P} (w : Wk E σ c s) : s.joint = c.joint := tv_joint w.tv
theorem Wk.pos {s : P} (w : Wk E σ c s) : s.pos = c.pos := tv_pos w.tv
theorem Wk.kindAt {s : P} (w : Wk E σ c s) (i : Nat) : s.kindAt i = c.kindAt i := by unfold P.kindAt; rw [w.kinds]

theorem W.at {k : SyntaxKind} {Q : Bool → Spent × P → Prop} (h : Q (atF k c.kinds c.joint c.pos) (σ, c)) :
    W E σ (at' k) Q c := fun s w => wp_at ⟨(σ, c), w, by rw [w.kinds, w.joint, w.pos]; exact h⟩

theorem W.current {Q : SyntaxKind → Spent × P → Prop} (h : Q (c.kindAt c.pos) (σ, c)) : W E σ current Q c := fun s w =>
  wp_current ⟨(σ, c), w, by rw [w.kindAt, w.pos]; exact h⟩

theorem W.atTs {ts : TokenSet} {Q : Bool → Spent × P → Prop} (h : Q (inSet ts (c.kindAt c.pos)) (σ, c)) :
    W E σ (atTs ts) Q c := fun s w => wp_atTs ⟨(σ, c), w, by rw [w.kindAt, w.pos]; exact h⟩

theorem W.currentOp {Q : Nat × SyntaxKind × Oq3.Gen.Ops.Assoc → Spent × P → Prop} (h : ∀ r, Oq3.Grammar.OpGood c r → Q r (σ, c)) :
    W E σ Oq3.Grammar.currentOp Q c := fun s w =>
  Oq3.Grammar.wp_currentOp fun r hg => ⟨(σ, c), w, h r (by unfold Oq3.Grammar.OpGood at hg ⊢; rw [← w.kinds, ← w.joint, ← w.pos]; exact hg)⟩

/-- at return: the account is within the row, and the progress clauses `Y` hold of every state with the token view
of the last checkpoint, given what the account says about progress -/
def Exit (E : Env M R fuel) (Y : α → P → Prop) (r : α) (g : Spent × P) : Prop :=
  g.1.fits R = true ∧
  ∀ s', s'.tv = g.2.tv → (g.1.np = none → E.s₀.pos < s'.pos) → (g.1.pr = none → s'.tv = E.s₀.tv) → Y r s'

/-- `Exit` unfolded, for `apply` -/
theorem Exit.intro {E : Env M R fuel} {Y : α → P → Prop} {r : α} (hf : σ.fits R = true)
    (hY : ∀ s', s'.tv = c.tv → (σ.np = none → E.s₀.pos < s'.pos) → (σ.pr = none → s'.tv = E.s₀.tv) → Y r s') :
    Exit E Y r (σ, c) := ⟨hf, hY⟩

theorem Exit.plain {E : Env M R fuel} {r : α} (hf : σ.fits R = true) : Exit E (fun _ _ => True) r (σ, c) :=
  ⟨hf, fun _ _ _ _ => trivial⟩

theorem Exit.progress {E : Env M R fuel} {r : α} (hf : σ.fits R = true) (hn : σ.np = none) :
    Exit E (fun _ s' => E.s₀.pos < s'.pos) r (σ, c) := ⟨hf, fun _ _ h _ => h hn⟩

theorem W.run {x : G α} {Y : P → α → P → Prop} (h : W E Spent.init x (Exit E (Y E.s₀)) E.s₀) :
    wp M.A x (fun r s' => R.Post M E.B E.Bs E.s₀ s' ∧ Y E.s₀ r s') E.s₀ :=
  wp_conseq (h _ (Wk.init E)) fun r s' ⟨(σ, c), w, hf, hY⟩ => by
    simp only [Spent.fits, Bool.and_eq_true] at hf
    have hle := w.adv.le
    -- a token was consumed and the `pr` entry speaks, or none was and the `np` entry speaks
    rcases Nat.lt_or_ge E.s₀.pos s'.pos with hlt | hge
    · obtain ⟨e, t, h0, g, hf⟩ := (w.pr hlt).all hf.2
      simp only [Bool.and_eq_true, decide_eq_true_eq] at hf
      exact ⟨⟨w.adv, w.good, by omega, fun _ => by omega, by omega, fun _ => by omega⟩,
        hY s' w.tv (fun _ => hlt) fun hn => by rw [hn] at h0; cases h0⟩
    · obtain ⟨e, t, h0, g, hf⟩ := (w.np (by omega)).all hf.1
      simp only [Bool.and_eq_true, decide_eq_true_eq] at hf
      exact ⟨⟨w.adv, w.good, by omega, fun h => by omega, by omega, fun h => by omega⟩,
        hY s' w.tv (fun hn => by rw [hn] at h0; cases h0) fun _ => w.adv.tv_of_eq (by omega)⟩

end

section
variable {α : Type} {M : Sys} {R : Row} {B Bs : Nat} {s s' : P}

theorem Spec.intro {x : G α} {X : P → Prop} {Y : P → α → P → Prop}
    (h : ∀ B Bs s, M.Good B Bs s → M.val s + R.a ≤ B → s.steps + R.b ≤ Bs → X s →
      wp M.A x (fun r s' => R.Post M B Bs s s' ∧ Y s r s') s) : Spec M R x X Y :=
  fun B Bs s hin hg hev hst hX => h B Bs s hg (by omega) (by omega) hX

theorem Row.Post.same (htv : s'.tv = s.tv) (hg : M.Good B Bs s') (hv : M.val s' ≤ M.val s + R.n)
    (hs : s'.steps ≤ s.steps + R.m) : R.Post M B Bs s s' := by
  have := tv_pos htv
  exact ⟨Adv.of_tv htv, hg, by omega, by omega, by omega, by omega⟩

theorem Row.Post.bump {k : Nat} (ha : Adv s s') (hlt : s.pos < s'.pos) (hg : M.Good B Bs s')
    (hv : M.val s' ≤ M.val s + k) (hk : k + R.d ≤ R.n + 61) (hs : s'.steps ≤ s.steps) (he : R.e ≤ R.m + 19) :
    R.Post M B Bs s s' :=
  ⟨ha, hg, by omega, by omega, by omega, by omega⟩

def Row.push : Row := { n := 1 }
/-- tokens are consumed (one event: the token pays for it, 61 - 1 is left) or nothing happens -/
def Row.bump : Row := { d := 60, e := 19 }
/-- tokens are consumed (one event), or one error event -/
def Row.expect : Row := { n := 1, d := 61, e := 19 }
/-- `err_recover`: up to four events; the budget is asked for before each, so three must fit before the last -/
def Row.recover : Row := { a := 3, n := 4, d := 61, e := 19 }
def Row.nth : Row := { m := 1 }

/-- a failure that is neither fuel exhaustion nor a hang detector is tolerated -/
macro "decS" : tactic => `(tactic| (apply Sys.other <;> decide))

theorem post_push {r : α} {e : Ev} {live : Nat} {prot : List Nat} {evs : Array Ev} (hg : M.Good B Bs s) (hb : M.val s ≤ B)
    (he : evs.size = s.events.size) :
    post M.A (fun _ s' => Row.push.Post M B Bs s s' ∧ s'.tv = s.tv)
      (if s.hookTrip then .error (.panic "oq3_verif: no progress")
       else .ok (r, { s with events := evs.push e, sinceBump := s.sinceBump + 1, live := live, protectedPos := prot })) := by
  cases ht : s.hookTrip with
  | true => exact M.hook _ _ _ hg hb ht
  | false =>
    exact ⟨.same rfl (M.good _ _ _ _ hg rfl rfl) (M.push _ _ (by simp only [Array.size_push]; omega) (Nat.le_refl _))
      (Nat.le_refl _), rfl⟩

theorem start_spec : Spec M .push start (fun _ => True) fun s _ s' => s'.tv = s.tv :=
  .intro fun _ _ s hg hb _ _ => by apply wp_def; rw [start_eq]; exact post_push hg hb rfl

theorem error_spec (msg : String) : Spec M .push (error msg) (fun _ => True) fun s _ s' => s'.tv = s.tv :=
  .intro fun _ _ s hg hb _ _ => by apply wp_def; rw [error_eq]; exact post_push hg hb rfl

theorem complete_spec (m : Marker) (k : SyntaxKind) :
    Spec M .push (m.complete k) (fun _ => True) fun s _ s' => s'.tv = s.tv :=
  .intro fun _ _ s hg hb _ _ => by
    apply wp_def; rw [complete_eq]
    -- every shape of the slot but `start` is a tolerated panic
    rcases s.events[m.pos]? with _ | (_ | _ | _ | _) <;> try decS
    simp only
    split
    · decS
    · split
      · decS
      · exact post_push hg hb (by simp only [P.slotSet, Array.set!_eq_setIfInBounds, Array.size_setIfInBounds])

theorem precede_spec (cm : CompletedMarker) : Spec M .push cm.precede (fun _ => True) fun s _ s' => s'.tv = s.tv :=
  .intro fun _ _ s hg hb _ _ => by
    apply wp_def; rw [precede_eq]
    cases ht : s.hookTrip with
    | true => exact M.hook _ _ _ hg hb ht
    | false =>
      simp only [Bool.false_eq_true, if_false]
      rcases s.started.events[cm.pos]? with _ | (_ | _ | _ | _) <;> try decS
      simp only
      split
      · decS
      · refine ⟨.same rfl (M.good _ _ _ _ hg rfl rfl) (M.push _ _ ?_ (Nat.le_refl _)) (Nat.le_refl _), rfl⟩
        simp only [P.started, Array.size_push, Array.set!_eq_setIfInBounds, Array.size_setIfInBounds]
        omega

theorem abandon_spec (m : Marker) : Spec M {} m.abandon (fun _ => True) fun s _ s' => s'.tv = s.tv :=
  .intro fun _ _ s hg _ _ _ => by
    apply wp_def; rw [abandon_eq]
    split
    · decS
    · split
      · decS
      · split
        · rcases s.events.back? with _ | (_ | _ | _ | _) <;> try decS
          simp only
          split
          · exact ⟨.same rfl (M.good _ _ _ _ hg rfl rfl)
              (M.keep _ _ (by simp only [Array.size_pop]; omega) (Nat.le_refl _)) (Nat.le_refl _), rfl⟩
          · decS
        · exact ⟨.same rfl (M.good _ _ _ _ hg rfl rfl) (M.keep _ _ (Nat.le_refl _) (Nat.le_refl _)) (Nat.le_refl _), rfl⟩

theorem extendTo_spec (cm : CompletedMarker) (m : Marker) :
    Spec M {} (cm.extendTo m) (fun _ => True) fun s _ s' => s'.tv = s.tv :=
  .intro fun _ _ s hg _ _ _ => by
    apply wp_def; rw [extendTo_eq]
    rcases s.events[m.pos]? with _ | (_ | _ | _ | _) <;> try decS
    simp only
    split
    · decS
    rcases s.events[cm.pos]? with _ | (_ | _ | _ | _) <;> try decS
    simp only
    split
    · decS
    · refine ⟨.same rfl (M.good _ _ _ _ hg rfl rfl) (M.keep _ _ ?_ (Nat.le_refl _)) (Nat.le_refl _), rfl⟩
      simp only [Array.set!_eq_setIfInBounds, Array.size_setIfInBounds]
      omega

theorem nth_spec {n : Nat} (hn : n ≤ 3) :
    Spec M .nth (nth n) (fun _ => True) fun s r s' => s'.tv = s.tv ∧ r = s.kindAt (s.pos + n) :=
  .intro fun _ _ s hg _ hb _ => by
    apply wp_def; rw [nth_eq]
    have h1 : ¬ n > 3 := by omega
    have h2 : ¬ s.steps > s.stepLimit := by have := M.stepLim _ _ _ hg; omega
    simp only [h1, if_false, h2]
    exact ⟨.same rfl (M.good _ _ _ _ hg rfl rfl) (M.keep _ _ (Nat.le_refl _) (Nat.le_refl _)) (Nat.le_refl _), rfl, rfl⟩

/-- `Parser::eat`: nothing happens, or the tokens of `k` are consumed, one event is pushed and `steps` is reset -/
theorem eat_spec (k : SyntaxKind) : Spec M .bump (eat k) (fun _ => True) fun s r s' =>
    r = atF k s.kinds s.joint s.pos ∧ (r = false → s' = s) ∧ (r = true → s.pos < s'.pos) :=
  .intro fun _ _ s hg _ _ _ => by
    by_cases hk : (k == .EOF) = true
    · unfold eat; simp only [hk, if_true]; exact wp_fail (by decS)
    · have hk' : (k == .EOF) = false := by simpa using hk
      apply wp_def; rw [eat_eq k hk']
      cases hb : atF k s.kinds s.joint s.pos with
      | false =>
        exact ⟨.same rfl hg (Nat.le_add_right _ _) (Nat.le_add_right _ _), rfl, fun _ => rfl, fun h => absurd h (by decide)⟩
      | true =>
        obtain ⟨hin, h1le⟩ := atF_inb hb hk'
        have hlt : s.pos < s.pos + eatRawTokens k := by omega
        exact ⟨.bump ⟨rfl, rfl, rfl, Nat.le_add_right _ _, fun _ => hin⟩ hlt (M.good _ _ _ _ hg rfl rfl)
          (M.push _ _ (by simp only [Array.size_push]; omega) (by show 1 ≤ s.sinceBump + 1; omega)) (by decide)
          (Nat.zero_le _) (by decide), rfl, fun h => absurd h (by decide), fun _ => hlt⟩

theorem bumpAny_spec : Spec M .bump bumpAny (fun _ => True) fun s _ s' =>
    (s.kindAt s.pos = .EOF → s' = s) ∧ (s.kindAt s.pos ≠ .EOF → s.pos < s'.pos) :=
  .intro fun _ _ s hg _ _ _ => by
    apply wp_def; rw [bumpAny_eq]
    split
    · rename_i he
      have he : s.kindAt s.pos = .EOF := by simpa using he
      exact ⟨.same rfl hg (Nat.le_add_right _ _) (Nat.le_add_right _ _), fun _ => rfl, fun h => absurd he h⟩
    · rename_i he
      have hne : s.kindAt s.pos ≠ .EOF := by simpa using he
      have := kindAt_ne_eof_lt s _ hne
      have hlt : s.pos < s.pos + 1 := by omega
      exact ⟨.bump ⟨rfl, rfl, rfl, Nat.le_add_right _ _, fun _ => by show s.pos + 1 ≤ s.kinds.size; omega⟩ hlt
        (M.good _ _ _ _ hg rfl rfl)
        (M.push _ _ (by simp only [Array.size_push]; omega) (by show 1 ≤ s.sinceBump + 1; omega)) (by decide)
        (Nat.zero_le _) (by decide), fun h => absurd h hne, fun _ => hlt⟩

end

section
variable {α β : Type} {M : Sys} {R : Row} {fuel : Nat} {E : Env M R fuel} {σ : Spent} {c : P}

theorem W.start {Q : Marker → Spent × P → Prop} (hr : σ.room R .push = true) (k : ∀ m, Q m (σ.add .push, c)) :
    W E σ start Q c := W.same start_spec hr k

theorem W.error {msg : String} {Q : Unit → Spent × P → Prop} (hr : σ.room R .push = true) (k : Q () (σ.add .push, c)) :
    W E σ (error msg) Q c := W.same (error_spec msg) hr fun _ => k

theorem W.complete {m : Marker} {kind : SyntaxKind} {Q : CompletedMarker → Spent × P → Prop}
    (hr : σ.room R .push = true) (k : ∀ cm, Q cm (σ.add .push, c)) : W E σ (m.complete kind) Q c :=
  W.same (complete_spec m kind) hr k

theorem W.precede {cm : CompletedMarker} {Q : Marker → Spent × P → Prop} (hr : σ.room R .push = true)
    (k : ∀ m, Q m (σ.add .push, c)) : W E σ cm.precede Q c := W.same (precede_spec cm) hr k

theorem W.abandon {m : Marker} {Q : Unit → Spent × P → Prop} (hr : σ.room R {} = true) (k : Q () (σ.add {}, c)) :
    W E σ m.abandon Q c := W.same (abandon_spec m) hr fun _ => k

theorem W.extendTo {cm : CompletedMarker} {m : Marker} {Q : CompletedMarker → Spent × P → Prop}
    (hr : σ.room R {} = true) (k : ∀ r, Q r (σ.add {}, c)) : W E σ (cm.extendTo m) Q c :=
  W.same (extendTo_spec cm m) hr k

/-- `hr` also carries the bound on `n` that `Parser::nth` asserts, so that it is evaluated with the room -/
theorem W.nth {n : Nat} {Q : SyntaxKind → Spent × P → Prop} (hr : (decide (n ≤ 3) && σ.room R .nth) = true)
    (k : Q (c.kindAt (c.pos + n)) (σ.add .nth, c)) : W E σ (nth n) Q c := by
  simp only [Bool.and_eq_true, decide_eq_true_eq] at hr
  exact W.charge (nth_spec hr.1) hr.2 (fun _ _ => trivial) fun r s s' w _ hp ⟨htv, hr'⟩ =>
    ⟨(_, c), w.add hp htv, by rw [hr', w.kindAt, w.pos]; exact k⟩

theorem W.eat {k : SyntaxKind} {Q : Bool → Spent × P → Prop} (hr : σ.room R .bump = true)
    (h1 : atF k c.kinds c.joint c.pos = false → Q false (σ, c))
    (h2 : atF k c.kinds c.joint c.pos = true → ∀ c', E.s₀.pos < c'.pos → Q true ((σ.after .bump).prog, c')) :
    W E σ (eat k) Q c :=
  W.charge (eat_spec k) hr (fun _ _ => trivial) fun r s s' w w' _ ⟨hr', hf, ht⟩ => by
    rw [w.kinds, w.joint, w.pos] at hr'
    have := w.adv.le
    cases r with
    | false => cases hf rfl; exact ⟨(σ, c), w, h1 hr'.symm⟩
    | true => exact ⟨(_, s'), w'.prog (by have := ht rfl; omega), h2 hr'.symm s' (by have := ht rfl; omega)⟩

theorem W.bumpAny {Q : Unit → Spent × P → Prop} (hr : σ.room R .bump = true)
    (h1 : c.kindAt c.pos = .EOF → Q () (σ, c))
    (h2 : c.kindAt c.pos ≠ .EOF → ∀ c', E.s₀.pos < c'.pos → Q () ((σ.after .bump).prog, c')) : W E σ bumpAny Q c :=
  W.charge bumpAny_spec hr (fun _ _ => trivial) fun _ s s' w w' _ ⟨he, hne⟩ => by
    rw [w.kindAt, w.pos] at he hne
    have := w.adv.le; have := w.pos
    by_cases hk : c.kindAt c.pos = .EOF
    · cases he hk; exact ⟨(σ, c), w, h1 hk⟩
    · exact ⟨(_, s'), w'.prog (by have := hne hk; omega), h2 hk s' (by have := hne hk; omega)⟩

/-! ### callees: the clauses of `AllWork` as rows

The call rules `W.call⟨letters⟩` below are `W.call`, `W.callP`, `W.callN` with the precondition of the callee
discharged.  `F`: a function of the mutual block, whose fuel clause follows from the room for its rank (`Wk.pre`);
`S`: a leaf function, without precondition; `X`: a token precondition remains, to be shown of the checkpoint;
`P`: the callee always consumes a token; `N`: it has no progress clauses. -/

section
variable {fuel rk a b n d m e : Nat} {x : G α} {X : P → Prop} {Y : P → α → P → Prop}

/-- a clause of `AllWork` without token precondition; the fuel clause takes the place of `X` -/
theorem Spec.of_field
    (h : ∀ (B Bs : Nat) (s : P), rk + 20 * s.kinds.size ≤ fuel + 20 * s.pos ∧ s.pos ≤ s.kinds.size ∧ M.Good B Bs s ∧
        M.val s + a + 61 * s.kinds.size ≤ B + 61 * s.pos ∧ P.steps s + b + 19 * s.kinds.size ≤ Bs + 19 * s.pos →
      wp M.A x (fun r s' => Adv s s' ∧ M.Good B Bs s' ∧ M.val s' + 61 * s.pos ≤ M.val s + 61 * s'.pos + n ∧
        (s.pos < s'.pos → M.val s' + 61 * s.pos + d ≤ M.val s + 61 * s'.pos + n) ∧
        P.steps s' + 19 * s.pos ≤ P.steps s + 19 * s'.pos + m ∧
        (s.pos < s'.pos → P.steps s' + 19 * s.pos + e ≤ P.steps s + 19 * s'.pos + m) ∧ Y s r s') s) :
    Spec M ⟨rk, a, b, n, d, m, e⟩ x (fun s => rk + 20 * s.kinds.size ≤ fuel + 20 * s.pos) Y :=
  fun B Bs s hin hg hev hst hX => wp_conseq (h B Bs s ⟨hX, hin, hg, hev, hst⟩) fun _ _ ⟨h1, h2, h3, h4, h5, h6, h7⟩ =>
    ⟨⟨h1, h2, h3, h4, h5, h6⟩, h7⟩

theorem Spec.of_field'
    (h : ∀ (B Bs : Nat) (s : P), rk + 20 * s.kinds.size ≤ fuel + 20 * s.pos ∧ s.pos ≤ s.kinds.size ∧ M.Good B Bs s ∧
        M.val s + a + 61 * s.kinds.size ≤ B + 61 * s.pos ∧ P.steps s + b + 19 * s.kinds.size ≤ Bs + 19 * s.pos →
      wp M.A x (fun _ s' => Adv s s' ∧ M.Good B Bs s' ∧ M.val s' + 61 * s.pos ≤ M.val s + 61 * s'.pos + n ∧
        (s.pos < s'.pos → M.val s' + 61 * s.pos + d ≤ M.val s + 61 * s'.pos + n) ∧
        P.steps s' + 19 * s.pos ≤ P.steps s + 19 * s'.pos + m ∧
        (s.pos < s'.pos → P.steps s' + 19 * s.pos + e ≤ P.steps s + 19 * s'.pos + m)) s) :
    Spec M ⟨rk, a, b, n, d, m, e⟩ x (fun s => rk + 20 * s.kinds.size ≤ fuel + 20 * s.pos) fun _ _ _ => True :=
  fun B Bs s hin hg hev hst hX => wp_conseq (h B Bs s ⟨hX, hin, hg, hev, hst⟩) fun _ _ h => ⟨h, trivial⟩

theorem Spec.of_fieldX
    (h : ∀ (B Bs : Nat) (s : P), rk + 20 * s.kinds.size ≤ fuel + 20 * s.pos ∧ s.pos ≤ s.kinds.size ∧ M.Good B Bs s ∧
        M.val s + a + 61 * s.kinds.size ≤ B + 61 * s.pos ∧ P.steps s + b + 19 * s.kinds.size ≤ Bs + 19 * s.pos ∧ X s →
      wp M.A x (fun r s' => Adv s s' ∧ M.Good B Bs s' ∧ M.val s' + 61 * s.pos ≤ M.val s + 61 * s'.pos + n ∧
        (s.pos < s'.pos → M.val s' + 61 * s.pos + d ≤ M.val s + 61 * s'.pos + n) ∧
        P.steps s' + 19 * s.pos ≤ P.steps s + 19 * s'.pos + m ∧
        (s.pos < s'.pos → P.steps s' + 19 * s.pos + e ≤ P.steps s + 19 * s'.pos + m) ∧ Y s r s') s) :
    Spec M ⟨rk, a, b, n, d, m, e⟩ x (fun s => rk + 20 * s.kinds.size ≤ fuel + 20 * s.pos ∧ X s) Y :=
  fun B Bs s hin hg hev hst hX => wp_conseq (h B Bs s ⟨hX.1, hin, hg, hev, hst, hX.2⟩)
    fun _ _ ⟨h1, h2, h3, h4, h5, h6, h7⟩ => ⟨⟨h1, h2, h3, h4, h5, h6⟩, h7⟩

end

section
variable {β : Type} {R Rg : Row} {fuel : Nat} {E : Env M R fuel} {σ : Spent} {c : P} {x : G α} {X : P → Prop} {Y : P → α → P → Prop}
  {Q : α → Spent × P → Prop}

theorem W.callF (h : Spec M Rg x (fun s => Rg.rk + 20 * s.kinds.size ≤ fuel + 20 * s.pos) Y)
    (hr : σ.room R Rg = true)
    (k : ∀ r c' s, s.tv = c.tv → Y s r c' → c.pos ≤ c'.pos → (c.pos < c'.pos → E.s₀.pos < c'.pos) →
      Q r (σ.after Rg, c')) : W E σ x Q c :=
  W.call h hr (fun _ w => (w.pre hr).1) k

theorem W.callFX (h : Spec M Rg x (fun s => Rg.rk + 20 * s.kinds.size ≤ fuel + 20 * s.pos ∧ X s) Y)
    (hr : σ.room R Rg = true) (hX : ∀ s, s.tv = c.tv → X s)
    (k : ∀ r c' s, s.tv = c.tv → Y s r c' → c.pos ≤ c'.pos → (c.pos < c'.pos → E.s₀.pos < c'.pos) →
      Q r (σ.after Rg, c')) : W E σ x Q c :=
  W.call h hr (fun s w => ⟨(w.pre hr).1, hX s w.tv⟩) k

theorem W.callFP (h : Spec M Rg x (fun s => Rg.rk + 20 * s.kinds.size ≤ fuel + 20 * s.pos) fun s _ s' => s.pos < s'.pos)
    (hr : σ.room R Rg = true) (k : ∀ r c', E.s₀.pos < c'.pos → Q r ((σ.after Rg).prog, c')) : W E σ x Q c :=
  W.callP h hr (fun _ w => (w.pre hr).1) k

theorem W.callFPX
    (h : Spec M Rg x (fun s => Rg.rk + 20 * s.kinds.size ≤ fuel + 20 * s.pos ∧ X s) fun s _ s' => s.pos < s'.pos)
    (hr : σ.room R Rg = true) (hX : ∀ s, s.tv = c.tv → X s)
    (k : ∀ r c', E.s₀.pos < c'.pos → Q r ((σ.after Rg).prog, c')) : W E σ x Q c :=
  W.callP h hr (fun s w => ⟨(w.pre hr).1, hX s w.tv⟩) k

theorem W.callFN (h : Spec M Rg x (fun s => Rg.rk + 20 * s.kinds.size ≤ fuel + 20 * s.pos) fun _ _ _ => True)
    (hr : σ.room R Rg = true)
    (k : ∀ r c', c.pos ≤ c'.pos → (c.pos < c'.pos → E.s₀.pos < c'.pos) → Q r (σ.after Rg, c')) : W E σ x Q c :=
  W.callN h hr (fun _ w => (w.pre hr).1) k

theorem W.callSP (h : Spec M Rg x (fun _ => True) fun s _ s' => s.pos < s'.pos) (hr : σ.room R Rg = true)
    (k : ∀ r c', E.s₀.pos < c'.pos → Q r ((σ.after Rg).prog, c')) : W E σ x Q c :=
  W.callP h hr (fun _ _ => trivial) k

theorem W.callSN (h : Spec M Rg x (fun _ => True) fun _ _ _ => True) (hr : σ.room R Rg = true)
    (k : ∀ r c', c.pos ≤ c'.pos → (c.pos < c'.pos → E.s₀.pos < c'.pos) → Q r (σ.after Rg, c')) : W E σ x Q c :=
  W.callN h hr (fun _ _ => trivial) k

theorem W.callS (h : Spec M Rg x (fun _ => True) Y) (hr : σ.room R Rg = true)
    (k : ∀ r c' s, s.tv = c.tv → Y s r c' → c.pos ≤ c'.pos → (c.pos < c'.pos → E.s₀.pos < c'.pos) →
      Q r (σ.after Rg, c')) : W E σ x Q c :=
  W.call h hr (fun _ _ => trivial) k

end

/-- the walk of a leaf function (no fuel, no rank: the walk is run with rank 1 above the API's rank 0) -/
theorem Spec.of_walk {R : Row} {x : G α} {X : P → Prop} {Y : P → α → P → Prop}
    (h : ∀ {fuel} (E : Env M { R with rk := 1 } fuel), X E.s₀ → W E Spent.init x (Exit E (Y E.s₀)) E.s₀) : Spec M R x X Y :=
  fun B Bs s hin hg hev hst hX =>
    let E : Env M { R with rk := 1 } (20 * s.kinds.size) := ⟨B, Bs, s, hin, by show 1 + _ ≤ _; omega, hg, hev, hst⟩
    W.run (E := E) (h E hX)

section
variable {fuel rk a b n d m e : Nat} {x : G α} {X : P → Prop} {Y : P → α → P → Prop}

/-- the walks of a function of the mutual block prove its clause of `AllWork` -/
theorem W.field (h : ∀ E : Env M ⟨rk, a, b, n, d, m, e⟩ fuel, W E Spent.init x (Exit E (Y E.s₀)) E.s₀) (B Bs : Nat) (s : P)
    (hp : rk + 20 * s.kinds.size ≤ fuel + 1 + 20 * s.pos ∧ s.pos ≤ s.kinds.size ∧ M.Good B Bs s ∧
      M.val s + a + 61 * s.kinds.size ≤ B + 61 * s.pos ∧ P.steps s + b + 19 * s.kinds.size ≤ Bs + 19 * s.pos) :
    wp M.A x (fun r s' => Adv s s' ∧ M.Good B Bs s' ∧ M.val s' + 61 * s.pos ≤ M.val s + 61 * s'.pos + n ∧
      (s.pos < s'.pos → M.val s' + 61 * s.pos + d ≤ M.val s + 61 * s'.pos + n) ∧
      P.steps s' + 19 * s.pos ≤ P.steps s + 19 * s'.pos + m ∧
      (s.pos < s'.pos → P.steps s' + 19 * s.pos + e ≤ P.steps s + 19 * s'.pos + m) ∧ Y s r s') s :=
  wp_conseq (W.run (h ⟨B, Bs, s, hp.2.1, hp.1, hp.2.2.1, hp.2.2.2.1, hp.2.2.2.2⟩))
    fun _ _ ⟨⟨h1, h2, h3, h4, h5, h6⟩, h7⟩ => ⟨h1, h2, h3, h4, h5, h6, h7⟩

theorem W.field' (h : ∀ E : Env M ⟨rk, a, b, n, d, m, e⟩ fuel, W E Spent.init x (Exit E fun _ _ => True) E.s₀) (B Bs : Nat) (s : P)
    (hp : rk + 20 * s.kinds.size ≤ fuel + 1 + 20 * s.pos ∧ s.pos ≤ s.kinds.size ∧ M.Good B Bs s ∧
      M.val s + a + 61 * s.kinds.size ≤ B + 61 * s.pos ∧ P.steps s + b + 19 * s.kinds.size ≤ Bs + 19 * s.pos) :
    wp M.A x (fun _ s' => Adv s s' ∧ M.Good B Bs s' ∧ M.val s' + 61 * s.pos ≤ M.val s + 61 * s'.pos + n ∧
      (s.pos < s'.pos → M.val s' + 61 * s.pos + d ≤ M.val s + 61 * s'.pos + n) ∧
      P.steps s' + 19 * s.pos ≤ P.steps s + 19 * s'.pos + m ∧
      (s.pos < s'.pos → P.steps s' + 19 * s.pos + e ≤ P.steps s + 19 * s'.pos + m)) s :=
  wp_conseq (W.run (Y := fun _ _ _ => True) (h ⟨B, Bs, s, hp.2.1, hp.1, hp.2.2.1, hp.2.2.2.1, hp.2.2.2.2⟩)) fun _ _ h => h.1

theorem W.fieldX (h : ∀ E : Env M ⟨rk, a, b, n, d, m, e⟩ fuel, X E.s₀ → W E Spent.init x (Exit E (Y E.s₀)) E.s₀) (B Bs : Nat)
    (s : P)
    (hp : rk + 20 * s.kinds.size ≤ fuel + 1 + 20 * s.pos ∧ s.pos ≤ s.kinds.size ∧ M.Good B Bs s ∧
      M.val s + a + 61 * s.kinds.size ≤ B + 61 * s.pos ∧ P.steps s + b + 19 * s.kinds.size ≤ Bs + 19 * s.pos ∧ X s) :
    wp M.A x (fun r s' => Adv s s' ∧ M.Good B Bs s' ∧ M.val s' + 61 * s.pos ≤ M.val s + 61 * s'.pos + n ∧
      (s.pos < s'.pos → M.val s' + 61 * s.pos + d ≤ M.val s + 61 * s'.pos + n) ∧
      P.steps s' + 19 * s.pos ≤ P.steps s + 19 * s'.pos + m ∧
      (s.pos < s'.pos → P.steps s' + 19 * s.pos + e ≤ P.steps s + 19 * s'.pos + m) ∧ Y s r s') s :=
  wp_conseq (W.run (h ⟨B, Bs, s, hp.2.1, hp.1, hp.2.2.1, hp.2.2.2.1, hp.2.2.2.2.1⟩ hp.2.2.2.2.2))
    fun _ _ ⟨⟨h1, h2, h3, h4, h5, h6⟩, h7⟩ => ⟨h1, h2, h3, h4, h5, h6, h7⟩

end

end

end Oq3.Parser

namespace Oq3.Grammar
open Oq3.Gen Oq3.Parser

theorem allFlavors {p : DefFlavor → Bool}
    (h : ([.gateParams, .gateQubits, .gateCallQubits, .defParams, .defCalParams, .defCalQubits, .expressionList,
      .arrayLiteral, .caseValues, .typeListFlavor] : List DefFlavor).all p = true) (f : DefFlavor) : p f = true := by
  simp only [List.all_cons, List.all_nil, Bool.and_true, Bool.and_eq_true] at h
  obtain ⟨h0, h1, h2, h3, h4, h5, h6, h7, h8, h9⟩ := h
  cases f <;> assumption

/-- a side condition of the account: evaluated; for a row of the flavour tables, for all flavours at once, for the one
flavour the path has fixed, or for those it has not excluded.  (The last alternative of `first` runs with the error
recovery of the enclosing block, which in a nested `by` turns a failure under `<;>` into a logged error: hence the
closing `fail`.) -/
macro "w_side" : tactic => `(tactic| first
  | decide
  | exact allFlavors (by decide) ‹DefFlavor›
  | (subst_vars; decide)
  | (cases ‹DefFlavor› <;> first | decide | contradiction)
  | fail)

/-- One step of the walk.  A goal `W ..`: the rule of the head of the program — structural, a parser-API call, or the
call rule of the table `[f rule, ..]` for a grammar function; the rules that charge a row leave their side condition
as first goal, closed by evaluation (if it is false the rule does not apply).  A token known to be consumed is
recorded first (`W.prog`, once: its guard).  `W.expect_` comes before the rule for `>>=`, whose instance it is.
A walk that is stuck has not recorded a token that was consumed (the clause that says so had an open premise when it
arrived: `imp_fwd`), or is on an impossible path.  New hypotheses are normalised as they are introduced (`pg_intro`,
`pg_split`); what remains are token side goals. -/
syntax "ww_step" "[" (ident term:max),* "]" : tactic
set_option hygiene false in  -- the rules of the composite API calls are proved below, by this walk
macro_rules
  | `(tactic| ww_step [$[$f $h],*]) => `(tactic| first
  | (goal_kind wp; first
      | (refine W.prog (by assumption) (by rfl) ?_)
      | (with_reducible apply W.expect_; w_side)
      | wp_rule [Pure.pure Walk.pure, Bind.bind Walk.bind, ite Walk.ite, andM Walk.andM, orM Walk.orM, notM Walk.notM,
          at' W.at, current W.current, atTs W.atTs, currentOp W.currentOp]
      | (wp_rule [nth W.nth, start W.start, error W.error, Marker.complete W.complete, Marker.abandon W.abandon,
          CompletedMarker.precede W.precede, CompletedMarker.extendTo W.extendTo, eat W.eat, bump W.bump,
          bumpAny W.bumpAny, expect W.expect, errRecover W.errRecover, errAndBump W.errAndBump, typeName W.typeName,
          $[$f $h],*]; w_side)
      | (with_reducible apply Walk.fail; decS)
      | (with_reducible apply Walk.panic; decS)
      | pg_split
      | dsimp only
      | (imp_fwd; refine W.prog ?_ (by rfl) ?_; pg_close)
      | (exfalso; pg_fin2))
  | (goal_kind pi; pg_intro)
  | (goal_kind and; with_reducible apply And.intro)
  | (goal_kind other; first
      | (with_reducible apply Exit.plain; w_side)
      | (refine Exit.progress ?_ (by rfl); w_side)
      | (with_reducible apply Exit.intro; w_side)
      | pg_split
      | pg_close
      | dsimp only))

syntax "ww" "[" (ident term:max),* "]" : tactic
macro_rules
  | `(tactic| ww [$[$f $h],*]) => `(tactic| repeat' ww_step [$[$f $h],*])

end Oq3.Grammar

namespace Oq3.Parser
open Oq3.Gen Oq3.Grammar

section
variable {M : Sys}

theorem bump_spec (k : SyntaxKind) : Spec M .bump (bump k) (fun _ => True) fun s _ s' => s.pos < s'.pos :=
  .of_walk fun E _ => by unfold bump; ww []

theorem W.bump {R : Row} {fuel : Nat} {E : Env M R fuel} {σ : Spent} {c : P} {k : SyntaxKind} {Q : Unit → Spent × P → Prop}
    (hr : σ.room R .bump = true)
    (h : ∀ c', E.s₀.pos < c'.pos → Q () ((σ.after .bump).prog, c')) : W E σ (bump k) Q c :=
  W.charge (bump_spec k) hr (fun _ _ => trivial) fun _ s s' w w' _ hlt => by
    have := w.adv.le
    exact ⟨(_, s'), w'.prog (by omega), h s' (by omega)⟩

theorem expect_spec (k : SyntaxKind) : Spec M .expect (Oq3.Parser.expect k) (fun _ => True) fun s r s' =>
    r = atF k s.kinds s.joint s.pos ∧ (r = false → s'.tv = s.tv) ∧ (r = true → s.pos < s'.pos) :=
  .of_walk fun E _ => by unfold expect; ww []

theorem errRecover_spec (msg : String) (rec : TokenSet) : Spec M .recover (errRecover msg rec) (fun _ => True)
    fun s _ s' => (recStop rec (s.kindAt s.pos) = true → s'.tv = s.tv) ∧ (recStop rec (s.kindAt s.pos) = false → s.pos < s'.pos) :=
  .of_walk fun E _ => by unfold errRecover; ww []

theorem typeName_spec : Spec M .expect typeName (fun _ => True) fun s _ s' =>
    (isType (s.kindAt s.pos) = false → s'.tv = s.tv) ∧ (isType (s.kindAt s.pos) = true → s.pos < s'.pos) :=
  .of_walk fun E _ => by unfold typeName; ww []

end

section
variable {α β : Type} {M : Sys} {R : Row} {fuel : Nat} {E : Env M R fuel} {σ : Spent} {c : P}

theorem W.expect {k : SyntaxKind} {Q : Bool → Spent × P → Prop} (hr : σ.room R .expect = true)
    (h1 : atF k c.kinds c.joint c.pos = false → Q false (σ.add .expect, c))
    (h2 : atF k c.kinds c.joint c.pos = true → ∀ c', E.s₀.pos < c'.pos → Q true ((σ.after .expect).prog, c')) :
    W E σ (expect k) Q c :=
  W.charge (expect_spec k) hr (fun _ _ => trivial) fun r s s' w w' hp ⟨hr', hf, ht⟩ => by
    rw [w.kinds, w.joint, w.pos] at hr'
    have := w.adv.le
    cases r with
    | false => exact ⟨(_, c), w.add hp (hf rfl), h1 hr'.symm⟩
    | true => exact ⟨(_, s'), w'.prog (by have := ht rfl; omega), h2 hr'.symm s' (by have := ht rfl; omega)⟩

/-- `expect` whose answer is dropped: one continuation -/
theorem W.expect_ {k : SyntaxKind} {y : G β} {Q : β → Spent × P → Prop} (hr : σ.room R .expect = true)
    (h : ∀ c', c.pos ≤ c'.pos → (atF k c.kinds c.joint c.pos = true → E.s₀.pos < c'.pos) →
      (atF k c.kinds c.joint c.pos = false → c'.tv = c.tv) → W E (σ.after .expect) y Q c') :
    W E σ (Oq3.Parser.expect k >>= fun _ => y) Q c :=
  Walk.bind <| W.charge (expect_spec k) hr (fun _ _ => trivial) fun r s s' w w' hp ⟨hr', hf, ht⟩ => by
    rw [w.kinds, w.joint, w.pos] at hr'
    have := w.adv.le
    exact ⟨(_, s'), w', h s' (w.pos ▸ hp.1.le) (fun hk => by have := ht (hr'.trans hk); omega)
      (fun hk => (hf (hr'.trans hk)).trans w.tv)⟩

theorem W.errRecover {msg : String} {rec : TokenSet} {Q : Unit → Spent × P → Prop} (hr : σ.room R .recover = true)
    (h : ∀ c', c.pos ≤ c'.pos → (recStop rec (c.kindAt c.pos) = false → E.s₀.pos < c'.pos) →
      (recStop rec (c.kindAt c.pos) = true → c'.tv = c.tv) → Q () (σ.after .recover, c')) :
    W E σ (errRecover msg rec) Q c :=
  W.charge (errRecover_spec msg rec) hr (fun _ _ => trivial) fun _ s s' w w' hp ⟨h1, h2⟩ => by
    rw [w.kindAt, w.pos] at h1 h2
    have := w.adv.le; have := w.pos
    exact ⟨(_, s'), w', h s' (w.pos ▸ hp.1.le) (fun hk => by have := h2 hk; omega) (fun hk => (h1 hk).trans w.tv)⟩

theorem W.errAndBump {msg : String} {Q : Unit → Spent × P → Prop} (hr : σ.room R .recover = true)
    (h : ∀ c', c.pos ≤ c'.pos → (recStop [] (c.kindAt c.pos) = false → E.s₀.pos < c'.pos) →
      (recStop [] (c.kindAt c.pos) = true → c'.tv = c.tv) → Q () (σ.after .recover, c')) :
    W E σ (errAndBump msg) Q c := W.errRecover hr h

theorem W.typeName {Q : Unit → Spent × P → Prop} (hr : σ.room R .expect = true)
    (h : ∀ c', c.pos ≤ c'.pos → (isType (c.kindAt c.pos) = true → E.s₀.pos < c'.pos) →
      (isType (c.kindAt c.pos) = false → c'.tv = c.tv) → Q () (σ.after .expect, c')) :
    W E σ Oq3.Grammar.typeName Q c :=
  W.charge typeName_spec hr (fun _ _ => trivial) fun _ s s' w w' hp ⟨h1, h2⟩ => by
    rw [w.kindAt, w.pos] at h1 h2
    have := w.adv.le; have := w.pos
    exact ⟨(_, s'), w', h s' (w.pos ▸ hp.1.le) (fun hk => by have := h2 hk; omega) (fun hk => (h1 hk).trans w.tv)⟩

end

end Oq3.Parser
