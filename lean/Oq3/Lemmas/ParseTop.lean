/-
From the invariant to the top-level facts about `TopEntryPoint::SourceFile.parse`:
the final event list is one rooted node in index order, its forward-parent links are sound,
all input tokens are accounted for, and parsing stops only at end of input.
-/
import Oq3.Lemmas.GrammarInv

namespace Oq3.Grammar
open Oq3.Gen Oq3.Parser

/-- the strict machine one level deeper mirrors the weak machine -/
theorem runE_of_runW (d r : Nat) (l : List Ev) (h : runW d l = some r) :
    runE (some (d + 1)) l = some (some (r + 1)) := by
  induction l generalizing d with
  | nil => simp only [runW, Option.some.injEq] at h; subst h; rfl
  | cons e es ih =>
    cases e with
    | start k fp =>
      simp only [runW] at h
      simp only [runE, evM]
      split at h
      · rename_i hk; simp only [hk, if_true, Option.bind_some]; exact ih _ h
      · rename_i hk; simp only [hk, MS.enter, Option.bind_some]
        simp only [Bool.false_eq_true, if_false, Option.bind_some]; exact ih _ h
    | finish =>
      cases d with
      | zero => simp [runW] at h
      | succ d => simp only [runW] at h; simp only [runE, evM, MS.exit, Option.bind_some]; exact ih _ h
    | token k n => simp only [runW] at h; simp only [runE, evM, MS.inside, Option.bind_some]; exact ih _ h
    | error m => simp only [runW] at h; simp only [runE, evM, MS.inside, Option.bind_some]; exact ih _ h

theorem inv_init (kinds : Array SyntaxKind) (joint : Array Bool) (npl : Nat) :
    Inv kinds joint { kinds := kinds, joint := joint, noProgressLimit := npl } :=
  ⟨rfl, rfl, rfl, by intro j k f hj; simp at hj, rfl, Nat.zero_le _, rfl, rfl⟩

/-- the loop condition of `source_file_contents(p, false)` -/
theorem sfc_cond_eq (s : P) :
    (at' .EOF <||> (at' .R_CURLY <&&> pure false)) s = .ok (s.kindAt s.pos == .EOF, s) := by
  simp only [G.orM_apply, G.andM_apply, at_simple_eq .EOF rfl, at_simple_eq .R_CURLY rfl, G.pure_apply]
  cases (s.kindAt s.pos == SyntaxKind.EOF) <;> cases (s.kindAt s.pos == SyntaxKind.R_CURLY) <;> rfl

theorem sourceFileContents_at_eof (fuel : Nat) (s s' : P) (u : Unit)
    (h : sourceFileContents fuel false s = .ok (u, s')) : s'.kindAt s'.pos = .EOF := by
  induction fuel generalizing s with
  | zero => unfold sourceFileContents at h; simp at h
  | succ fuel ih =>
    unfold sourceFileContents at h
    rw [G.bind_apply, sfc_cond_eq] at h
    simp only at h
    split at h
    · obtain ⟨_, s4, _, h8⟩ := (G.bind_ok _ _ _ _).mp h
      exact ih s4 h8
    · rename_i hnb
      cases h
      simpa using hnb

/-- what a successful run of `source_file` leaves behind -/
structure ParseOk (kinds : Array SyntaxKind) (joint : Array Bool) (events : List Ev) (pos : Nat) :
    Prop where
  /-- index order: one rooted, balanced node -/
  rootedE : runE none events = some (some 0)
  fp : FpOK events
  tok : sumTok events = pos
  glue : glueOK joint 0 events = true
  gluek : glueKE kinds 0 events = true
  pos_le : pos ≤ kinds.size
  /-- parsing stopped at end of input -/
  at_eof : kinds.getD pos .EOF = .EOF

theorem sourceFile_ok (fuel : Nat) (kinds : Array SyntaxKind) (joint : Array Bool) (npl : Nat)
    (u : Unit) (s' : P)
    (h : sourceFile fuel { kinds := kinds, joint := joint, noProgressLimit := npl } = .ok (u, s')) :
    ParseOk kinds joint s'.events.toList s'.pos := by
  unfold sourceFile at h
  obtain ⟨m, s1, h1, h2⟩ := (G.bind_ok _ _ _ _).mp h
  obtain ⟨rfl, rfl⟩ := Prod.mk.inj (start_ok _ _ h1)
  have hI1 := (start_pres (kinds := kinds) (joint := joint)).run _ _ (inv_init kinds joint npl) h1
  obtain ⟨_, s2, h3, h4⟩ := (G.bind_ok _ _ _ _).mp h2
  have hI2 := ((allPres (kinds := kinds) (joint := joint) fuel).sourceFileContents false).run _ _ hI1 h3
  have heof := sourceFileContents_at_eof fuel _ s2 _ h3
  obtain ⟨cm, s3, h5, h6⟩ := (G.bind_ok _ _ _ _).mp h4
  simp only [G.pure_ok] at h6; obtain ⟨_, rfl⟩ := Prod.mk.inj h6
  have hI3 := (complete_pres (kinds := kinds) (joint := joint) _ .SOURCE_FILE).run _ _ hI2 h5
  simp only at hI1 hI2
  obtain ⟨fp0, hm0, _, e⟩ := complete_ok _ _ _ _ h5
  obtain ⟨rfl, rfl⟩ := Prod.mk.inj e
  refine ⟨?_, hI3.fp.toFpOK, hI3.tok, hI3.glue, hI3.gluek, hI3.pos_le, ?_⟩
  · -- the events are `Start SOURCE_FILE :: tail ++ [Finish]`, and the weak machine accepts `tail`
    have hm0' : s2.events.toList[0]? = some (.start .TOMBSTONE fp0) := by simpa using hm0
    obtain ⟨tail, htail⟩ : ∃ tail, s2.events.toList = .start .TOMBSTONE fp0 :: tail := by
      cases hl : s2.events.toList with
      | nil => simp [hl] at hm0'
      | cons x xs => simp [hl] at hm0'; exact ⟨xs, by rw [hm0']⟩
    have hd := hI2.dyck
    rw [htail] at hd
    simp only [runW, beq_self_eq_true, if_true] at hd
    have hev : ((s2.events.setIfInBounds 0 (Ev.start .SOURCE_FILE fp0)).push Ev.finish).toList =
        Ev.start .SOURCE_FILE fp0 :: (tail ++ [Ev.finish]) := by
      simp [htail]
    show runE none ((s2.events.setIfInBounds 0 (Ev.start .SOURCE_FILE fp0)).push Ev.finish).toList = _
    rw [hev]
    simp only [runE, evM, MS.enter]
    have : (SyntaxKind.SOURCE_FILE == SyntaxKind.TOMBSTONE) = false := by decide
    simp only [this, Bool.false_eq_true, if_false, Option.bind_some]
    rw [runE_append, runE_of_runW 0 0 tail hd]
    simp [runE, evM, MS.exit]
  · rw [← hI2.kinds_eq]; exact heof

end Oq3.Grammar
