/-
C04, extended reference language: canonicity, Follow conditions and fuel for `X`, list facts about the event
encoding, and the expression rule as a hypothesis (`ExprOKF`).
-/
import Oq3.Lemmas.LangEv2
import Oq3.Lemmas.LangEvTop
import Oq3.Lemmas.StepsIrr
set_option linter.unusedSimpArgs false
set_option linter.unusedVariables false

namespace Oq3.LangEv2
open Oq3.Gen Oq3.Parser Oq3.Grammar Oq3.SymExec Oq3.PrattEv Oq3.LangEv
open Oq3.Gen.Ops (Assoc)

def firstP : Prim → SyntaxKind
  | .id => .IDENT
  | .lit k => k.kind
  | .timing k => k.kind
  | .hw => .HARDWAREIDENT
  | .paren _ => .L_PAREN
  | .cast0 ty _ => ty.kind
  | .castW ty _ _ => ty.kind
  | .measureE => .MEASURE_KW
  | .measureHw => .MEASURE_KW
  | .measureIdx _ => .MEASURE_KW
  | .idIdx _ => .IDENT
  | .call p _ => firstP p
  | .index p _ => firstP p

def firstX : X → SyntaxKind
  | .prim p => firstP p
  | .bin _ l _ => firstX l
  | .pre o _ => o.kind

def firstItem : Item → SyntaxKind
  | .ex x => firstX x
  | .r2 lo _ => firstX lo
  | .r3 lo _ _ => firstX lo

/-- index items do not start with `~` or `measure` (the parser reports "expected value parameter") -/
def ItemsFirstOK : ItemList → Prop
  | .one i => firstItem i ≠ .TILDE ∧ firstItem i ≠ .MEASURE_KW
  | .cons i is => (firstItem i ≠ .TILDE ∧ firstItem i ≠ .MEASURE_KW) ∧ ItemsFirstOK is

def IdxFirstOK : IdxList → Prop
  | .one is => ItemsFirstOK is
  | .cons is rest => ItemsFirstOK is ∧ IdxFirstOK rest


/-- may `p[…]` be an INDEX_EXPR? not on identifiers / indexed identifiers (the index operators belong to
the INDEXED_IDENTIFIER), not on literals and hardware qubits ("Indexing into literal is not allowed"),
not after `measure q` (the brackets belong to the measured qubit) -/
def indexable (p : Prim) : Bool :=
  match p with
  | .paren _ | .cast0 _ _ | .castW _ _ _ | .call _ _ | .index _ _ => true
  | _ => false

mutual
def CanonX : Nat → X → Prop
  | _, .prim p => CanonP p
  | _, .pre _ e => CanonX 255 e
  | bp, .bin o l r =>
      bp ≤ o.pow ∧ CanonX (o.pow + 1) r ∧
      (match l with
        | .bin o' _ _ => o.pow < o'.pow + 1 ∧ CanonX bp l
        | _ => CanonX bp l)
def CanonP : Prim → Prop
  | .paren e => CanonX 1 e
  | .cast0 _ e => CanonX 1 e
  /- the width is not a float / bit-string literal ("Literal type designator must be an integer") -/
  | .castW ty w e => ty.wide = true ∧ firstX w ≠ .FLOAT_NUMBER ∧ firstX w ≠ .BIT_STRING ∧ CanonX 1 w ∧ CanonX 1 e
  | .idIdx ixs => CanonIdx ixs ∧ IdxFirstOK ixs
  | .measureIdx ixs => CanonIdx ixs ∧ IdxFirstOK ixs
  | .call p args => CanonP p ∧ CanonXs args
  | .index p items => CanonP p ∧ indexable p = true ∧ CanonItems items ∧ ItemsFirstOK items
  | _ => True
def CanonXs : XList → Prop
  | .nil => True
  | .cons x xs => CanonX 1 x ∧ CanonXs xs
def CanonItem : Item → Prop
  | .ex x => CanonX 1 x
  | .r2 lo hi => CanonX 1 lo ∧ CanonX 1 hi
  | .r3 lo mid hi => CanonX 1 lo ∧ CanonX 1 mid ∧ CanonX 1 hi
def CanonItems : ItemList → Prop
  | .one i => CanonItem i
  | .cons i is => CanonItem i ∧ CanonItems is
def CanonIdx : IdxList → Prop
  | .one is => CanonItems is
  | .cons is rest => CanonItems is ∧ CanonIdx rest
end

/-- along the right spine of the tree every pending loop stops at `q` -/
def RightStopsX : X → P → Nat → Prop
  | .bin o _ r, s, q => StopsAt s q (o.pow + 1) ∧ RightStopsX r s q
  | .pre _ e, s, q => StopsAt s q 255 ∧ RightStopsX e s q
  | .prim _, _, _ => True

/-- what the last token of the print is, as far as the token after it matters -/
inductive LastTok | ident | lit | call | meas | other
  deriving DecidableEq, Repr

def lastP : Prim → LastTok
  | .id => .ident
  | .lit _ => .lit
  | .call _ _ => .call
  | .measureE => .meas
  | .measureIdx _ => .meas
  | .idIdx _ => .meas
  | _ => .other

def lastX : X → LastTok
  | .prim p => lastP p
  | .bin _ _ r => lastX r
  | .pre _ e => lastX e

/-- what the token after an expression must not be, besides an operator: `(` / `[` (more postfix
operators); `IDENT` / `HARDWAREIDENT` after an identifier or a call (`atom_expr` / `call_expr` would
parse a gate call); `IDENT` after a literal (`literal` would parse a timing literal) -/
def EndIn (l : LastTok) (k : SyntaxKind) : Prop :=
  match l with
  | .ident => k ≠ .IDENT ∧ k ≠ .HARDWAREIDENT
  | .call => k ≠ .IDENT ∧ k ≠ .HARDWAREIDENT
  | .lit => k ≠ .IDENT
  | .meas => k ≠ .L_BRACK
  | .other => True

def EndOKL (l : LastTok) (k : SyntaxKind) : Prop :=
  k ≠ .L_PAREN ∧ k ≠ .L_BRACK ∧ EndIn l k

def EndOKX (x : X) (k : SyntaxKind) : Prop := EndOKL (lastX x) k

structure FitsX (x : X) (s : P) (q : Nat) : Prop where
  tk : Toks s q (toksX x)
  endOK : EndOKX x (s.kindAt (q + (toksX x).length))
  right : RightStopsX x s (q + (toksX x).length)

/-- fuel `expr_bp` uses before it enters its loop with the root as `lhs` -/
def cFX : X → Nat
  | .bin _ l _ => cFX l + 1
  | _ => 1

mutual
theorem bodyX_length : ∀ (x : X) (fp : Option Nat), (bodyX x fp).length = lenX x
  | .prim p, fp => by simp only [bodyX, lenX, bodyP_length p fp]
  | .bin o l r, fp => by
    simp only [bodyX, lenX, List.length_append, List.length_cons, List.length_nil, bodyX_length l, bodyX_length r]; omega
  | .pre o e, fp => by
    simp only [bodyX, lenX, List.length_append, List.length_cons, List.length_nil, bodyX_length e]; omega
theorem bodyP_length : ∀ (p : Prim) (fp : Option Nat), (bodyP p fp).length = lenP p
  | .id, _ => rfl
  | .lit _, _ => rfl
  | .timing _, _ => rfl
  | .hw, _ => rfl
  | .measureE, _ => rfl
  | .measureHw, _ => rfl
  | .measureIdx ixs, fp => by simp only [bodyP, lenP, List.length_append, List.length_cons, List.length_nil, evsIdx_length ixs]; omega
  | .paren e, fp => by simp only [bodyP, lenP, List.length_append, List.length_cons, List.length_nil, bodyX_length e]; omega
  | .cast0 ty e, fp => by simp only [bodyP, lenP, List.length_append, List.length_cons, List.length_nil, bodyX_length e]; omega
  | .castW ty w e, fp => by
    simp only [bodyP, lenP, List.length_append, List.length_cons, List.length_nil, bodyX_length e, bodyX_length w]; omega
  | .idIdx ixs, fp => by simp only [bodyP, lenP, List.length_append, List.length_cons, List.length_nil, evsIdx_length ixs]; omega
  | .call p args, fp => by
    simp only [bodyP, lenP, List.length_append, List.length_cons, List.length_nil, bodyP_length p, evsXs_length args]; omega
  | .index p items, fp => by
    simp only [bodyP, lenP, List.length_append, List.length_cons, List.length_nil, bodyP_length p, evsItems_length items]; omega
theorem evsXs_length : ∀ (xs : XList), (evsXs xs).length = lenXs xs
  | .nil => rfl
  | .cons x .nil => by simp only [evsXs, lenXs, List.length_cons, bodyX_length x]
  | .cons x (.cons y ys) => by
    simp only [evsXs, lenXs, List.length_append, List.length_cons, bodyX_length x, evsXs_length (.cons y ys)]; omega
theorem evsItem_length : ∀ (i : Item), (evsItem i).length = lenItem i
  | .ex x => by simp only [evsItem, lenItem, List.length_cons, bodyX_length x]
  | .r2 lo hi => by
    simp only [evsItem, lenItem, List.length_append, List.length_cons, List.length_nil, bodyX_length lo, bodyX_length hi]; omega
  | .r3 lo mid hi => by
    simp only [evsItem, lenItem, List.length_append, List.length_cons, List.length_nil, bodyX_length lo, bodyX_length mid,
      bodyX_length hi]; omega
theorem evsItems_length : ∀ (is : ItemList), (evsItems is).length = lenItems is
  | .one i => by simp only [evsItems, lenItems, evsItem_length i]
  | .cons i is => by
    simp only [evsItems, lenItems, List.length_append, List.length_cons, evsItem_length i, evsItems_length is]; omega
theorem evsIdx_length : ∀ (ixs : IdxList), (evsIdx ixs).length = lenIdx ixs
  | .one is => by simp only [evsIdx, lenIdx, List.length_append, List.length_cons, List.length_nil, evsItems_length is]; omega
  | .cons is rest => by
    simp only [evsIdx, lenIdx, List.length_append, List.length_cons, List.length_nil, evsItems_length is, evsIdx_length rest]; omega
end

theorem evsX_length (x : X) : (evsX x).length = lenX x + 1 := by
  simp only [evsX, List.length_cons, bodyX_length]

theorem lenP_pos (p : Prim) : rootP p + 1 ≤ lenP p := by
  cases p <;> simp only [rootP, lenP] <;> omega

theorem lenX_pos (x : X) : rootX x + 1 ≤ lenX x := by
  cases x with
  | prim p => exact lenP_pos p
  | bin o l r => simp only [rootX, lenX]; omega
  | pre o e => simp only [rootX, lenX]; omega

theorem bodyP_root (p : Prim) (fp : Option Nat) : (bodyP p fp)[rootP p]? = some (.start p.kind fp) := by
  cases p with
  | call p args =>
    have h := bodyP_length p (some (lenP p - rootP p))
    rw [show rootP (Prim.call p args) = lenP p from rfl]
    simp only [bodyP, Prim.kind, X.kind]
    rw [List.getElem?_append_right (by omega), show lenP p - (bodyP p (some (lenP p - rootP p))).length = 0 by omega]
    rfl
  | index p items =>
    have h := bodyP_length p (some (lenP p - rootP p))
    rw [show rootP (Prim.index p items) = lenP p from rfl]
    simp only [bodyP, Prim.kind, X.kind]
    rw [List.getElem?_append_right (by omega), show lenP p - (bodyP p (some (lenP p - rootP p))).length = 0 by omega]
    rfl
  | _ => rfl

theorem bodyP_set_root (p : Prim) (fp fp' : Option Nat) :
    (bodyP p fp).set (rootP p) (.start p.kind fp') = bodyP p fp' := by
  cases p with
  | call p args =>
    have h := bodyP_length p (some (lenP p - rootP p))
    rw [show rootP (Prim.call p args) = lenP p from rfl]
    simp only [bodyP, Prim.kind, X.kind]
    rw [List.set_append_right _ _ (by omega), show lenP p - (bodyP p (some (lenP p - rootP p))).length = 0 by omega]
    rfl
  | index p items =>
    have h := bodyP_length p (some (lenP p - rootP p))
    rw [show rootP (Prim.index p items) = lenP p from rfl]
    simp only [bodyP, Prim.kind, X.kind]
    rw [List.set_append_right _ _ (by omega), show lenP p - (bodyP p (some (lenP p - rootP p))).length = 0 by omega]
    rfl
  | _ => rfl

theorem bodyX_root (x : X) (fp : Option Nat) : (bodyX x fp)[rootX x]? = some (.start x.kind fp) := by
  cases x with
  | prim p => exact bodyP_root p fp
  | bin o l r =>
    have h := bodyX_length l (some (lenX l - rootX l))
    rw [show rootX (X.bin o l r) = lenX l from rfl]
    simp only [bodyX, X.kind]
    rw [List.getElem?_append_right (by omega), show lenX l - (bodyX l (some (lenX l - rootX l))).length = 0 by omega]
    rfl
  | pre o e => rfl

theorem bodyX_set_root (x : X) (fp fp' : Option Nat) :
    (bodyX x fp).set (rootX x) (.start x.kind fp') = bodyX x fp' := by
  cases x with
  | prim p => exact bodyP_set_root p fp fp'
  | bin o l r =>
    have h := bodyX_length l (some (lenX l - rootX l))
    rw [show rootX (X.bin o l r) = lenX l from rfl]
    simp only [bodyX, X.kind]
    rw [List.set_append_right _ _ (by omega), show lenX l - (bodyX l (some (lenX l - rootX l))).length = 0 by omega]
    rfl
  | pre o e => rfl

theorem evsX_root (x : X) : (evsX x)[rootX x + 1]? = some (.start x.kind none) := by
  simp only [evsX, List.getElem?_cons_succ, bodyX_root]

theorem evsX_set_root (x : X) (fp : Option Nat) :
    (evsX x).set (rootX x + 1) (.start x.kind fp) = .start .TOMBSTONE (some (headOff x + 1)) :: bodyX x fp := by
  simp only [evsX, List.set_cons_succ, bodyX_set_root]


/-- `Rdy k` together with an absolute lower bound of the step limit: between two bumps the grammar
calls `Parser::nth` a bounded number of times, so after the first bump only the size of the limit
matters (the parser's limit is 15 000 000) -/
structure RdyL (k : Nat) (s : P) : Prop where
  hook : s.noProgressLimit = 0
  steps : s.steps + k ≤ s.stepLimit
  prot : ∀ p ∈ s.protectedPos, p < s.events.size
  lim : 16 ≤ s.stepLimit

theorem RdyL.of_old {k : Nat} {s : P} (h : Rdy k s) (hl : 16 ≤ s.stepLimit) : RdyL k s := ⟨h.hook, h.steps, h.prot, hl⟩

/-- `RdyL` with the floor of the step limit that the proofs use: `8`, which `Rdy 8` (`Ready`, the hypothesis of `Props/C04.lean`)
provides by itself (`RdyF.of_ready`), so that `RdyF 8 s ↔ Ready s`; the floor matters for `RdyF k` with `k < 8` only.  The
lemmas of the extended language are proved over `RdyF` and the `…F` predicates built on it; the predicates over `RdyL` are the
vocabulary of the theorems stated with the floor `16` (`exprX_ok`, `if_ok`, `Props/C04Lang2.lean`, `Props/C16Lang.lean`), which
follow by `RdyL.toF` and `.toOK`. -/
structure RdyF (k : Nat) (s : P) : Prop where
  hook : s.noProgressLimit = 0
  steps : s.steps + k ≤ s.stepLimit
  prot : ∀ p ∈ s.protectedPos, p < s.events.size
  lim : 8 ≤ s.stepLimit

theorem RdyL.toF {k : Nat} {s : P} (h : RdyL k s) : RdyF k s :=
  ⟨h.hook, h.steps, h.prot, Nat.le_trans (by decide) h.lim⟩

theorem RdyF.of_ready {s : P} (h : Ready s) : RdyF 8 s :=
  ⟨h.hook, h.steps, h.prot, Nat.le_trans (Nat.le_add_left _ _) h.steps⟩

theorem RdyF.rdy {k : Nat} {s : P} (h : RdyF k s) : Rdy k s := ⟨h.hook, h.steps, h.prot⟩

theorem RdyF.mono {k k' : Nat} {s : P} (h : RdyF k s) (hk : k' ≤ k) : RdyF k' s :=
  ⟨h.hook, by have := h.steps; omega, h.prot, h.lim⟩

theorem RdyF_ov (k : Nat) (s : P) (E0 : List Ev) (dp st sb lv : Nat) (pr : List Nat)
    (hnp : s.noProgressLimit = 0) (hst : st + k ≤ s.stepLimit)
    (hpr : ∀ p ∈ pr, p < s.events.size + E0.length) (hl : 8 ≤ s.stepLimit) : RdyF k (s.ov E0 dp st sb lv pr) :=
  ⟨hnp, hst, (Rdy_ov k s E0 dp st sb lv pr hnp hst hpr).prot, hl⟩

theorem RdyF.prot' {k : Nat} {s : P} (h : RdyF k s) (n : Nat) : ∀ p ∈ s.protectedPos, p < s.events.size + n :=
  h.rdy.prot' n

theorem RdyF.ov {k : Nat} {s : P} (h : RdyF k s) (k' : Nat) (E0 : List Ev) (dp st sb lv : Nat) (hst : st + k' ≤ s.stepLimit) :
    RdyF k' (s.ov E0 dp st sb lv s.protectedPos) :=
  RdyF_ov k' s E0 dp st sb lv _ h.hook hst (h.prot' _) h.lim

theorem RdyF.ov_cons {k : Nat} {s : P} (h : RdyF k s) (k' : Nat) (E0 : List Ev) (dp st sb lv : Nat) {i : Nat}
    (hst : st + k' ≤ s.stepLimit) (hi : i < E0.length) :
    RdyF k' (s.ov E0 dp st sb lv ((s.events.size + i) :: s.protectedPos)) :=
  RdyF_ov k' s E0 dp st sb lv _ h.hook hst (prot_cons h.prot hi) h.lim

set_option hygiene false in
/-- `run_base` with `hr : RdyF _ s` -/
macro "run_base2" "[" hs:Lean.Parser.Tactic.simpLemma,* "]" : tactic => `(tactic| (
  have hlim := hr.lim
  run_base [$hs,*]))

set_option hygiene false in
/-- symbolic execution from the base state `s` to an exact final overlay state (names `s`, `hr : RdyF _ s`) -/
macro "run_exact" "[" hs:Lean.Parser.Tactic.simpLemma,* "]" : tactic => `(tactic| (
  have hnp := hr.hook
  have hsteps := hr.steps
  have hlim := hr.lim
  have hst : s.steps ≤ s.stepLimit := by omega
  have hst1 : s.steps + 1 ≤ s.stepLimit := by omega
  have hpr := hr.prot
  refine of_ov _ _ _ ?_
  sym_eval [filter_base s hpr, contains_base s hpr, $hs,*]
  close_ov))

/-- `RunAt` from any value `st` of the step counter that leaves room for `k` look-aheads — for the first sub-run of
a statement, before any bump.  A run that consumes a token forgets the counter (`StepsIrr`): it ends at `0` all the same,
so the rules for the sub-runs after it are the ordinary ones. -/
abbrev RunAtS {α} (x : G α) (a : α) (s : P) (k dp dp' : Nat) (E : List Ev) (sb' : List Ev → Nat → Nat → Nat → Nat) : Prop :=
  ∀ (E0 : List Ev) (st sb lv : Nat), st + k ≤ s.stepLimit →
    x (s.ov E0 dp st sb lv s.protectedPos) = .ok (a, s.ov (E0 ++ E) dp' 0 (sb' E0 st sb lv) lv s.protectedPos)

theorem RunAtS.of_acc {α : Type} {x : G α} {a : α} {s : P} {k dp n : Nat} {E : List Ev} (hirr : StepsIrr x) (hn : 1 ≤ n)
    (h : ∀ E0 st sb lv, st + k ≤ s.stepLimit → AccV x a (s.ov E0 dp st sb lv s.protectedPos) n E) {dp' : Nat}
    (e : dp' = dp + n) : ∃ sb', RunAtS x a s k dp dp' E sb' := by
  subst e
  have h' : ∀ E0 st sb lv, st + k ≤ s.stepLimit → ∃ sb', x (s.ov E0 dp st sb lv s.protectedPos) =
      .ok (a, s.ov (E0 ++ E) (dp + n) 0 sb' lv s.protectedPos) := by
    intro E0 st sb lv hst
    obtain ⟨st1, sb1, -, h1⟩ := (h E0 st sb lv hst).at_ov
    obtain ⟨st0, sb0, hle0, h0⟩ := (h E0 0 sb lv (by omega)).at_ov
    obtain rfl := Nat.le_zero.1 hle0
    -- the run from `st` against the run from `0`
    obtain ⟨-, ht | ⟨hp, -⟩⟩ := hirr (s.ov E0 dp 0 sb lv s.protectedPos) st _ _ _ _ h0 h1
    · exact ⟨sb0, by rw [h1, ht]⟩
    · exact absurd hp (by show s.pos + (dp + n) ≠ s.pos + dp; omega)
  exact ⟨fun E0 st sb lv => if hst : st + k ≤ s.stepLimit then (h' E0 st sb lv hst).choose else 0,
    fun E0 st sb lv hst => by simp only [dif_pos hst]; exact (h' E0 st sb lv hst).choose_spec⟩

theorem RunAtS.at0 {α : Type} {x : G α} {a : α} {s : P} {k dp dp' : Nat} {E : List Ev} {sb' : List Ev → Nat → Nat → Nat → Nat}
    (h : RunAtS x a s k dp dp' E sb') (hk : k ≤ s.stepLimit) : RunAt x a s dp dp' E (sb' · 0) :=
  fun E0 sb lv => h E0 0 sb lv (by omega)

/-- the expression `x` is parsed by `expr_bp` with exactly its events, from every overlay state, for
every fuel ≥ `n` (the run to its end with the value `expr_bp` returns, where `PrattEv.exprBp_cps` continues the loop with
the root as `lhs`; the induction hypothesis for the phrases that contain expressions) -/
def ExprOK (x : X) (n : Nat) : Prop :=
  ∀ (bp f : Nat) (r : Restrictions) (s : P) (E0 : List Ev) (dp st sb lv : Nat) (pr : List Nat),
    s.noProgressLimit = 0 → st + 5 ≤ s.stepLimit → 16 ≤ s.stepLimit → (∀ p ∈ pr, p < s.events.size + E0.length) →
    FitsX x s (s.pos + dp) → CanonX bp x → StopsAt s (s.pos + dp + (toksX x).length) bp → n ≤ f →
    exprBp f none r bp (s.ov E0 dp st sb lv pr) =
      .ok (some (⟨s.events.size + E0.length + (rootX x + 1), x.kind⟩, .notBlock),
        s.ov (E0 ++ evsX x) (dp + (toksX x).length) 0 (sbX x) lv pr)

/-- `ExprOK` with the floor `8` of `RdyF` -/
def ExprOKF (x : X) (n : Nat) : Prop :=
  ∀ (bp f : Nat) (r : Restrictions) (s : P) (E0 : List Ev) (dp st sb lv : Nat) (pr : List Nat),
    s.noProgressLimit = 0 → st + 5 ≤ s.stepLimit → 8 ≤ s.stepLimit → (∀ p ∈ pr, p < s.events.size + E0.length) →
    FitsX x s (s.pos + dp) → CanonX bp x → StopsAt s (s.pos + dp + (toksX x).length) bp → n ≤ f →
    exprBp f none r bp (s.ov E0 dp st sb lv pr) =
      .ok (some (⟨s.events.size + E0.length + (rootX x + 1), x.kind⟩, .notBlock),
        s.ov (E0 ++ evsX x) (dp + (toksX x).length) 0 (sbX x) lv pr)

theorem ExprOKF.toOK {x : X} {n : Nat} (h : ExprOKF x n) : ExprOK x n :=
  fun bp f r s E0 dp st sb lv pr hnp hst hlim => h bp f r s E0 dp st sb lv pr hnp hst (Nat.le_trans (by decide) hlim)

theorem rightStopsX_of_canon : ∀ (x : X) (b : Nat) (s : P) (q : Nat), CanonX b x → StopsAt s q b → b ≤ 255 →
    RightStopsX x s q
  | .prim p, _, _, _, _, _, _ => trivial
  | .pre o e, b, s, q, hc, h, hb => by
    simp only [CanonX] at hc
    exact ⟨stopsAt_mono s q b 255 h hb,
      rightStopsX_of_canon e 255 s q hc (stopsAt_mono s q b 255 h hb) (Nat.le_refl _)⟩
  | .bin o l r, b, s, q, hc, h, hb => by
    simp only [CanonX] at hc
    have h' := stopsAt_mono s q b (o.pow + 1) h (by omega)
    exact ⟨h', rightStopsX_of_canon r (o.pow + 1) s q hc.2.1 h' (by have := o.pow_lt; omega)⟩

/-- the tokens that end an expression inside our statements: those of `exprEnd` and the braces (case values,
set expressions, the iterable of a `for` loop) -/
def exprEnd2 (k : SyntaxKind) : Bool := exprEnd k || k == .R_CURLY || k == .L_CURLY

theorem exprEnd_endOKX (x : X) (k : SyntaxKind) (h : exprEnd2 k = true) : EndOKX x k := by
  simp only [exprEnd2, exprEnd, Bool.or_eq_true, beq_iff_eq] at h
  unfold EndOKX EndOKL
  rcases h with (((((h | h) | h) | h) | h) | h) | h <;> subst h <;>
    exact ⟨by decide, by decide, by unfold EndIn; cases lastX x <;> simp⟩

theorem exprEnd2_stops (s : P) (q bp : Nat) (h : exprEnd2 (s.kindAt q) = true) (hbp : 1 ≤ bp) : StopsAt s q bp := by
  unfold StopsAt
  rw [opF_nonop _ _ _ (by
    simp only [exprEnd2, exprEnd, Bool.or_eq_true, beq_iff_eq, P.kindAt] at h
    rcases h with (((((h | h) | h) | h) | h) | h) | h <;> rw [h] <;> decide)]
  exact hbp

/-- the expression rule in the form used inside statements and phrases: the next token ends the expression -/
theorem ExprOKF.atEnd {x : X} {n : Nat} (h : ExprOKF x n) (bp f : Nat) (r : Restrictions) (s : P) (E0 : List Ev)
    (dp st sb lv : Nat) (pr : List Nat) (hnp : s.noProgressLimit = 0) (hst : st + 5 ≤ s.stepLimit) (hlim : 8 ≤ s.stepLimit)
    (hpr : ∀ p ∈ pr, p < s.events.size + E0.length) (htk : Toks s (s.pos + dp) (toksX x)) (hc : CanonX bp x)
    (hbp : 1 ≤ bp) (hbp2 : bp ≤ 255) (hfol : exprEnd2 (s.kindAt (s.pos + dp + (toksX x).length)) = true) (hf : n ≤ f) :
    exprBp f none r bp (s.ov E0 dp st sb lv pr) =
      .ok (some (⟨s.events.size + E0.length + (rootX x + 1), x.kind⟩, .notBlock),
        s.ov (E0 ++ evsX x) (dp + (toksX x).length) 0 (sbX x) lv pr) := by
  have hstop := exprEnd2_stops s _ bp hfol hbp
  exact h bp f r s E0 dp st sb lv pr hnp hst hlim hpr
    ⟨htk, exprEnd_endOKX x _ hfol, rightStopsX_of_canon x bp s _ hc hstop hbp2⟩ hc hstop hf

/-- … as a rule for `sym_eval`: the expression at the token offset `dp` of a ready state, ended by the token `kend`,
whatever has been pushed before it -/
theorem ExprOKF.bpAt {x : X} {n : Nat} (h : ExprOKF x n) (bp f : Nat) (r : Restrictions) {s : P} {k : Nat} (hr : RdyF k s) (dp : Nat)
    (htk : Toks s (s.pos + dp) (toksX x)) (hc : CanonX bp x) (hbp : 1 ≤ bp) (hbp2 : bp ≤ 255) {kend : SyntaxKind}
    (hend : s.kindAt (s.pos + (dp + (toksX x).length)) = kend) (hk : exprEnd2 kend = true) (hf : n ≤ f)
    (st sb lv : Nat) (E0 : List Ev) (hst : st + 5 ≤ s.stepLimit) :
    exprBp f none r bp (s.ov E0 dp st sb lv s.protectedPos) =
      .ok (some (⟨s.events.size + E0.length + (rootX x + 1), x.kind⟩, .notBlock),
        s.ov (E0 ++ evsX x) (dp + (toksX x).length) 0 (sbX x) lv s.protectedPos) :=
  h.atEnd bp f r s E0 dp st sb lv _ hr.hook hst hr.lim (hr.prot' _) htk hc hbp hbp2 (by rw [Nat.add_assoc, hend]; exact hk) hf

/-- … and through the entry point `expr` -/
theorem ExprOKF.exprAt {x : X} {n : Nat} (h : ExprOKF x n) (f : Nat) {s : P} {k : Nat} (hr : RdyF k s) (dp : Nat)
    (htk : Toks s (s.pos + dp) (toksX x)) (hc : CanonX 1 x) {kend : SyntaxKind}
    (hend : s.kindAt (s.pos + (dp + (toksX x).length)) = kend) (hk : exprEnd2 kend = true) (hf : n ≤ f)
    (st sb lv : Nat) (E0 : List Ev) (hst : st + 5 ≤ s.stepLimit) :
    Oq3.Grammar.expr (f + 1) (s.ov E0 dp st sb lv s.protectedPos) =
      .ok (some ⟨s.events.size + E0.length + (rootX x + 1), x.kind⟩,
        s.ov (E0 ++ evsX x) (dp + (toksX x).length) 0 (sbX x) lv s.protectedPos) := by
  rw [expr.run_2, G.bind_apply, h.bpAt 1 f _ hr dp htk hc (Nat.le_refl _) (by decide) hend hk hf st sb lv E0 hst]
  rfl

end Oq3.LangEv2
