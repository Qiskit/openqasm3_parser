/-
Two readings of the tight bounds of `Lemmas/Work.lean` (`Spec`), for a grammar function with row `R`.

One counter (`wp_cost_of_work`).  `P.w s = events + events since the last bump + nth-steps since the last bump` is the
sum of the three counters that `Lemmas/Cost2.lean` bounds separately.  A function that keeps `sinceBump` and
`events.size` within `R.n + 61 * (tokens consumed)` each and `steps` within `R.m + 19 * (tokens consumed)` keeps `w`
within `A + 18777 * (tokens consumed)` as soon as `2 * R.n + R.m ≤ A`: one budget `B` below the two hang limits
(`Lim B s`) serves as the budget of the hook counter and of the steps; the number of events needs no limit.

Progress whatever the limits (`wp_prog_of_work`).  The bounds hold when the budgets are below the limits; on the state
with the limits raised (`Lemmas/LimMono.lean`) they are, and raising the limits only removes hang panics, which `A3`
tolerates.
-/
import Oq3.Lemmas.Work
import Oq3.Lemmas.LimMono

namespace Oq3.Parser
open Oq3.Gen

/-- the work counter: every pushed event counts twice (`events`, `sinceBump`), every `nth` once -/
def P.w (s : P) : Nat := s.events.size + s.sinceBump + s.steps

structure Lim (B : Nat) (s : P) : Prop where
  npl : s.noProgressLimit = 0 ∨ B < s.noProgressLimit
  step : B ≤ s.stepLimit

/-- the constants `A` (budget, cost without a token) and `D` (discount) of the one-counter bound cover the row `R`;
in the last clause a consumed token pays `18777` instead of `2 * 61 + 19` -/
abbrev Row.Covered (R : Row) (A D : Nat) : Prop :=
  R.a ≤ A ∧ R.b ≤ A ∧ 2 * R.n + R.m ≤ A ∧ D + 2 * R.n + R.m ≤ A + 2 * R.d + R.e + 18636

variable {α : Type} {x : G α} {R : Row} {X : P → Prop} {Y : P → α → P → Prop}

/-- The bounds of `R` are taken for the counter of the no-progress hook and for the number of events, with `B` as the
budget of the hook counter and of the steps. -/
theorem wp_cost_of_work {B A D : Nat} {s : P} (hc : R.Covered A D) (hw : ∀ M : Sys, Spec M R x X Y)
    (hp : s.pos ≤ s.kinds.size) (hl : Lim B s) (hb : s.w + A + 18777 * s.kinds.size ≤ B + 18777 * s.pos) (hX : X s) :
    wp A5 x (fun r s' => Adv s s' ∧ Lim B s' ∧ s'.w + 18777 * s.pos ≤ s.w + 18777 * s'.pos + A ∧
      (s.pos < s'.pos → s'.w + 18777 * s.pos + D ≤ s.w + 18777 * s'.pos + A) ∧ Y s r s') s := by
  obtain ⟨ha, hb', hn, hd⟩ := hc
  have hw' : s.sinceBump + s.steps ≤ s.w := by unfold P.w; omega
  have hSB := hw sysSB B B s hp ⟨hl.npl, hl.step⟩ (by show s.sinceBump + R.a + _ ≤ _; omega) (by omega) hX
  have hEV := hw sysEV (s.events.size + R.a + 61 * s.kinds.size) B s hp hl.step
    (by show s.events.size + R.a + _ ≤ _; omega) (by omega) hX
  refine wp_weaken (wp_and hSB hEV) (fun o h => h.1) ?_
  rintro r s' ⟨⟨⟨hadv, hg, h1, h2, h3, h4⟩, hy⟩, ⟨-, -, h5, h6, -⟩, -⟩
  have hle := hadv.le
  replace h1 : s'.sinceBump + 61 * s.pos ≤ s.sinceBump + 61 * s'.pos + R.n := h1
  replace h2 : s.pos < s'.pos → s'.sinceBump + 61 * s.pos + R.d ≤ s.sinceBump + 61 * s'.pos + R.n := h2
  replace h5 : s'.events.size + 61 * s.pos ≤ s.events.size + 61 * s'.pos + R.n := h5
  replace h6 : s.pos < s'.pos → s'.events.size + 61 * s.pos + R.d ≤ s.events.size + 61 * s'.pos + R.n := h6
  refine ⟨hadv, ⟨hg.1, hg.2⟩, ?_, fun hlt => ?_, hy⟩
  · unfold P.w; omega
  · have := h2 hlt; have := h4 hlt; have := h6 hlt
    unfold P.w; omega

/-- `Y s r s'` are the progress clauses of the function for a run from `s`; neither they nor the token precondition
`X` look at the limits (`hY`, `hX`).  The bounds are used for the hook counter on `s.relax L`, where `L` exceeds the
steps budget. -/
theorem wp_prog_of_work (hx : LimMono x) (hY : ∀ s L r s', Y (s.relax L) r (s'.relax L) → Y s r s')
    (hX : ∀ s L, X s → X (s.relax L)) (hw : Spec sysSB R x X Y) (s : P) (hp : s.pos ≤ s.kinds.size) (hs : X s) :
    wp A3 x (fun r s' => Adv s s' ∧ Y s r s') s := by
  let L := s.steps + R.b + 19 * s.kinds.size
  have h := wp_conseq
    (hw (s.sinceBump + R.a + 61 * s.kinds.size) L (s.relax L) hp ⟨Or.inl rfl, Nat.le_max_right _ _⟩
      (Nat.le_add_right _ _) (Nat.le_add_right _ _) (hX s L hs))
    (Q := fun r s' => Adv (s.relax L) s' ∧ Y (s.relax L) r s') fun _ _ h => ⟨h.1.1, h.2⟩
  exact wp_of_relax hx (fun o (h : A5 o) => h.1)
    (fun r s' h => ⟨⟨h.1.kinds, h.1.joint, h.1.size, h.1.le, h.1.inb⟩, hY s L r s' h.2⟩) h

/-! ### a clause of `AllCost`, of `AllProg` from the clause of `AllWork` for the same function (`Spec.of_field`) -/

section
variable {fuel A D : Nat}

theorem cost_field (hc : R.Covered A D)
    (hw : ∀ M : Sys, Spec M R x (fun s => R.rk + 20 * s.kinds.size ≤ fuel + 20 * s.pos) Y) (B : Nat) (s : P)
    (h : R.rk + 20 * s.kinds.size ≤ fuel + 20 * s.pos ∧ s.pos ≤ s.kinds.size ∧ Lim B s ∧
      s.w + A + 18777 * s.kinds.size ≤ B + 18777 * s.pos) :
    wp A5 x (fun r s' => Adv s s' ∧ Lim B s' ∧ s'.w + 18777 * s.pos ≤ s.w + 18777 * s'.pos + A ∧
      (s.pos < s'.pos → s'.w + 18777 * s.pos + D ≤ s.w + 18777 * s'.pos + A) ∧ Y s r s') s :=
  wp_cost_of_work hc hw h.2.1 h.2.2.1 h.2.2.2 h.1

theorem cost_field' (hc : R.Covered A D)
    (hw : ∀ M : Sys, Spec M R x (fun s => R.rk + 20 * s.kinds.size ≤ fuel + 20 * s.pos) fun _ _ _ => True) (B : Nat) (s : P)
    (h : R.rk + 20 * s.kinds.size ≤ fuel + 20 * s.pos ∧ s.pos ≤ s.kinds.size ∧ Lim B s ∧
      s.w + A + 18777 * s.kinds.size ≤ B + 18777 * s.pos) :
    wp A5 x (fun _ s' => Adv s s' ∧ Lim B s' ∧ s'.w + 18777 * s.pos ≤ s.w + 18777 * s'.pos + A ∧
      (s.pos < s'.pos → s'.w + 18777 * s.pos + D ≤ s.w + 18777 * s'.pos + A)) s :=
  wp_conseq (cost_field hc hw B s h) fun _ _ ⟨h1, h2, h3, h4, _⟩ => ⟨h1, h2, h3, h4⟩

theorem cost_fieldX (hc : R.Covered A D)
    (hw : ∀ M : Sys, Spec M R x (fun s => R.rk + 20 * s.kinds.size ≤ fuel + 20 * s.pos ∧ X s) Y) (B : Nat) (s : P)
    (h : R.rk + 20 * s.kinds.size ≤ fuel + 20 * s.pos ∧ s.pos ≤ s.kinds.size ∧ Lim B s ∧
      s.w + A + 18777 * s.kinds.size ≤ B + 18777 * s.pos ∧ X s) :
    wp A5 x (fun r s' => Adv s s' ∧ Lim B s' ∧ s'.w + 18777 * s.pos ≤ s.w + 18777 * s'.pos + A ∧
      (s.pos < s'.pos → s'.w + 18777 * s.pos + D ≤ s.w + 18777 * s'.pos + A) ∧ Y s r s') s :=
  wp_cost_of_work hc hw h.2.1 h.2.2.1 h.2.2.2.1 ⟨h.1, h.2.2.2.2⟩

theorem prog_field (hx : LimMono x) (hY : ∀ s L r s', Y (s.relax L) r (s'.relax L) → Y s r s')
    (hw : Spec sysSB R x (fun s => R.rk + 20 * s.kinds.size ≤ fuel + 20 * s.pos) Y) (s : P)
    (h : R.rk + 20 * s.kinds.size ≤ fuel + 20 * s.pos ∧ s.pos ≤ s.kinds.size) :
    wp A3 x (fun r s' => Adv s s' ∧ Y s r s') s :=
  wp_prog_of_work hx hY (fun _ _ h => h) hw s h.2 h.1

theorem prog_field' (hx : LimMono x)
    (hw : Spec sysSB R x (fun s => R.rk + 20 * s.kinds.size ≤ fuel + 20 * s.pos) fun _ _ _ => True) (s : P)
    (h : R.rk + 20 * s.kinds.size ≤ fuel + 20 * s.pos ∧ s.pos ≤ s.kinds.size) : wp A3 x (fun _ s' => Adv s s') s :=
  wp_conseq (prog_field hx (fun _ _ _ _ h => h) hw s h) fun _ _ h => h.1

theorem prog_fieldX (hx : LimMono x) (hY : ∀ s L r s', Y (s.relax L) r (s'.relax L) → Y s r s')
    (hw : Spec sysSB R x (fun s => R.rk + 20 * s.kinds.size ≤ fuel + 20 * s.pos ∧ X s) Y)
    (hX : ∀ s L, X s → X (s.relax L)) (s : P)
    (h : R.rk + 20 * s.kinds.size ≤ fuel + 20 * s.pos ∧ s.pos ≤ s.kinds.size ∧ X s) :
    wp A3 x (fun r s' => Adv s s' ∧ Y s r s') s :=
  wp_prog_of_work hx hY (fun s L h => ⟨h.1, hX s L h.2⟩) hw s h.2.1 ⟨h.1, h.2.2⟩

end

open Lean Elab Tactic Meta in
/-- goal `wp A (f ..) Q s`, `f` a grammar function: the lemma `f_<sfx>` if there is one, else the clause `ih.f`; the
budget `B` they take before the state is read off the hypothesis `Lim B s` for the current state `s` -/
elab "wp_callB " sfx:ident : tactic => withMainContext do
  let g ← getMainGoal
  let t ← whnfR (← instantiateMVars (← g.getType))
  unless t.isAppOfArity ``Oq3.Parser.wp 5 do throwError "wp_callB: not a wp goal"
  let prog ← whnfR t.getAppArgs[2]!
  let st := t.getAppArgs[4]!
  let .const fn _ := prog.getAppFn | throwError "wp_callB: no head constant"
  unless (`Oq3.Grammar).isPrefixOf fn do throwError "wp_callB: not a grammar function"
  let mut bud : Option Expr := none
  for d in (← getLCtx) do
    if d.isImplementationDetail then continue
    let ty ← instantiateMVars d.type
    if ty.isAppOfArity ``Oq3.Parser.Lim 2 && ty.getAppArgs[1]! == st then
      bud := some ty.getAppArgs[0]!
  let some b := bud | throwError "wp_callB: no budget for the current state"
  let bstx ← Lean.Elab.Term.exprToSyntax b
  let nargs := prog.getAppNumArgs
  let leafName := fn.appendAfter ("_" ++ sfx.getId.eraseMacroScopes.toString)
  let hole ← `(_)
  if (← getEnv).contains leafName then
    let us : Array (TSyntax `term) := (Array.replicate nargs hole).push bstx |>.push hole
    evalTactic (← `(tactic| with_reducible refine wp_conseq ($(mkIdent leafName) $us* ?_) ?_))
  else
    let some short := fn.components.getLast? | throwError "wp_callB: bad name"
    let us : Array (TSyntax `term) := (Array.replicate (nargs - 1) hole).push bstx |>.push hole
    evalTactic (← `(tactic| with_reducible refine wp_conseq ($(mkIdent (`ih ++ short)) $us* ?_) ?_))

end Oq3.Parser
