/-
Helper lemmas for `Oq3.Props.C14`: every scanner of the lexer model returns a suffix of its
input, every recorded assertion holds, `utf8Len` arithmetic, `consumed`, induction along
`tokenize`, facts about single tokens (the byte-slicing lemmas are in `Lemmas/Lexed.lean`).
Core only (no Mathlib).
-/
import Oq3.Model.Lexer

namespace Oq3.Lemmas.Lexer
open Oq3.Lexer

theorem utf8Len_append (a b : List Char) : utf8Len (a ++ b) = utf8Len a + utf8Len b := by
  induction a with
  | nil => simp [utf8Len]
  | cons c cs ih => simp [utf8Len, ih, Nat.add_assoc]

theorem utf8Len_pos {s : List Char} (h : s ≠ []) : 0 < utf8Len s := by
  cases s with
  | nil => exact absurd rfl h
  | cons c cs => have := Char.utf8Size_pos c; simp only [utf8Len]; omega

theorem utf8Len_suffix {r s : List Char} (h : r <:+ s) : utf8Len r ≤ utf8Len s := by
  obtain ⟨p, rfl⟩ := h
  rw [utf8Len_append]; omega

theorem length_le_utf8Len (s : List Char) : s.length ≤ utf8Len s := by
  induction s with
  | nil => simp [utf8Len]
  | cons c cs ih => have := Char.utf8Size_pos c; simp only [utf8Len, List.length_cons]; omega

theorem bump_suffix (s : Cursor) : bump s <:+ s := List.tail_suffix s

theorem eatWhile_suffix (p : Char → Bool) (s : Cursor) : eatWhile p s <:+ s := by
  induction s with
  | nil => simp [eatWhile]
  | cons x xs ih =>
    simp only [eatWhile]; split
    · exact ih.trans (List.suffix_cons x xs)
    · exact List.suffix_refl _

theorem blockCommentLoop_suffix (d : Nat) (ok : Bool) (s : Cursor) :
    (blockCommentLoop d ok s).rest <:+ s := by
  fun_induction blockCommentLoop d ok s <;>
    first
    | (simp; done)
    | (rename_i ih; exact ih.trans ((List.suffix_cons _ _).trans (List.suffix_cons _ _)))
    | exact (List.suffix_cons _ _).trans (List.suffix_cons _ _)
    | (rename_i ih; exact ih.trans (List.suffix_cons _ _))


/-- goal-directed form: to show `bump r <:+ s` show `r <:+ s` -/
theorem sfx_bump {r s : Cursor} (h : r <:+ s) : bump r <:+ s := (bump_suffix r).trans h
theorem sfx_tail {r s : Cursor} (h : r <:+ s) : r.tail <:+ s := (List.tail_suffix r).trans h
theorem sfx_eatWhile {p : Char → Bool} {r s : Cursor} (h : r <:+ s) : eatWhile p r <:+ s :=
  (eatWhile_suffix p r).trans h
theorem sfx_cons {c : Char} {r s : Cursor} (h : (c :: r) <:+ s) : r <:+ s :=
  (List.suffix_cons c r).trans h

/-- proves `X <:+ s` where `X` is obtained from `s` by `bump`, `eatWhile` and the scanners whose
goal-directed suffix lemmas are listed -/
macro "sfx" "[" ls:Lean.Parser.Tactic.SolveByElim.arg,* "]" : tactic =>
  `(tactic| apply_rules (transparency := .reducible)
      [List.suffix_refl, List.suffix_cons, List.nil_suffix, sfx_bump, sfx_eatWhile, $ls,*])

theorem sfx_blockCommentLoop {d : Nat} {ok : Bool} {r s : Cursor} (h : r <:+ s) :
    (blockCommentLoop d ok r).rest <:+ s := (blockCommentLoop_suffix d ok r).trans h

theorem sfx_lineComment {p : Char} {r s : Cursor} (h : r <:+ s) : (lineComment p r).rest <:+ s := by
  simp only [lineComment]; sfx []

theorem sfx_blockComment {p : Char} {r s : Cursor} (h : r <:+ s) :
    (blockComment p r).rest <:+ s := by
  simp only [blockComment]; sfx [sfx_blockCommentLoop]

theorem sfx_whitespace {p : Char} {r s : Cursor} (h : r <:+ s) : (whitespace p r).rest <:+ s := by
  simp only [whitespace]; sfx []

theorem sfx_haveDim {r s : Cursor} (h : r <:+ s) : (haveDim r).rest <:+ s := by
  simp only [haveDim]; (repeat' split) <;> sfx []

theorem sfx_havePragma {p : Char} {r s : Cursor} (h : r <:+ s) : (havePragma p r).rest <:+ s := by
  simp only [havePragma]; (repeat' split) <;> sfx []

theorem sfx_haveOpenqasm {p : Char} {r s : Cursor} (h : r <:+ s) :
    (haveOpenqasm p r).rest <:+ s := by
  simp only [haveOpenqasm]; (repeat' split) <;> sfx []

/-! `eatDecimalDigitsLoop` and `eatHexadecimalDigitsLoop` are one loop over a digit class `p`:
the facts are proved for any `f` that satisfies the loop's two equations. -/
section DigitsLoop
variable {p : Char → Bool} {f : Bool → Cursor → Scan Bool}
  (hnil : ∀ b, f b [] = ⟨b, [], true⟩)
  (hcons : ∀ b c cs, f b (c :: cs) =
    if c == '_' then f b cs else if p c then f true cs else ⟨b, c :: cs, true⟩)
include hnil hcons

theorem digitsLoop_suffix (b : Bool) (s : Cursor) : (f b s).rest <:+ s := by
  induction s generalizing b with
  | nil => rw [hnil]; exact List.suffix_refl _
  | cons c cs ih =>
    rw [hcons]; split
    · exact (ih b).trans (List.suffix_cons c cs)
    · split
      · exact (ih true).trans (List.suffix_cons c cs)
      · exact List.suffix_refl _

theorem digitsLoop_ok (b : Bool) (s : Cursor) : (f b s).ok = true := by
  induction s generalizing b with
  | nil => rw [hnil]
  | cons c cs ih =>
    rw [hcons]; split
    · exact ih b
    · split
      · exact ih true
      · rfl

end DigitsLoop

theorem sfx_eatDecimalDigits {r s : Cursor} (h : r <:+ s) : (eatDecimalDigits r).rest <:+ s :=
  (digitsLoop_suffix (f := eatDecimalDigitsLoop) (fun _ => rfl) (fun _ _ _ => rfl) _ r).trans h

theorem sfx_eatHexadecimalDigits {r s : Cursor} (h : r <:+ s) :
    (eatHexadecimalDigits r).rest <:+ s :=
  (digitsLoop_suffix (f := eatHexadecimalDigitsLoop) (fun _ => rfl) (fun _ _ _ => rfl) _ r).trans h

theorem sfx_eatFloatExponent {p : Char} {r s : Cursor} (h : r <:+ s) :
    (eatFloatExponent p r).rest <:+ s := by
  simp only [eatFloatExponent]; split <;> sfx [sfx_eatDecimalDigits]

theorem sfx_openqasmVersion {r s : Cursor} (h : r <:+ s) : (openqasmVersion r).rest <:+ s := by
  simp only [openqasmVersion]; (repeat' split) <;> sfx [sfx_eatDecimalDigits]

theorem sfx_fakeIdentOrUnknownPrefix {uc : UC} {r s : Cursor} (h : r <:+ s) :
    (fakeIdentOrUnknownPrefix uc r).rest <:+ s := by
  simp only [fakeIdentOrUnknownPrefix]; sfx []

theorem sfx_identOrUnknownPrefix {uc : UC} {p : Char} {r s : Cursor} (h : r <:+ s) :
    (identOrUnknownPrefix uc p r).rest <:+ s := by
  simp only [identOrUnknownPrefix]; split <;> sfx [sfx_fakeIdentOrUnknownPrefix]

theorem sfx_pragmaOrIdentOrUnknownPrefix {uc : UC} {p : Char} {r s : Cursor} (h : r <:+ s) :
    (pragmaOrIdentOrUnknownPrefix uc p r).rest <:+ s := by
  simp only [pragmaOrIdentOrUnknownPrefix]; split <;> sfx [sfx_havePragma, sfx_identOrUnknownPrefix]

theorem sfx_hardwareIdent {uc : UC} {r s : Cursor} (h : r <:+ s) :
    (hardwareIdent uc r).rest <:+ s := by
  simp only [hardwareIdent]
  (repeat' split) <;> sfx [sfx_fakeIdentOrUnknownPrefix, sfx_eatDecimalDigits]

theorem sfx_optExponent {r s : Cursor} (h : r <:+ s) : (optExponent r).rest <:+ s := by
  simp only [optExponent]; split <;> sfx [sfx_eatFloatExponent]

theorem sfx_floatWithNoLeadingDigit {r s : Cursor} (h : r <:+ s) :
    (floatWithNoLeadingDigit r).rest <:+ s := by
  simp only [floatWithNoLeadingDigit]; sfx [sfx_eatDecimalDigits, sfx_optExponent]

theorem sfx_numberTail {b : Base} {r s : Cursor} (h : r <:+ s) :
    (numberTail b r).rest <:+ s := by
  simp only [numberTail]
  (repeat' split) <;> sfx [sfx_eatDecimalDigits, sfx_optExponent, sfx_eatFloatExponent]

theorem sfx_number {p c : Char} {r s : Cursor} (h : r <:+ s) : (number p c r).rest <:+ s := by
  simp only [number]
  (repeat' split) <;> sfx [sfx_eatDecimalDigits, sfx_eatHexadecimalDigits, sfx_numberTail]

theorem quotedStringLoop_suffix (q : Char) (st : StrState) (s : Cursor) :
    (quotedStringLoop q st s).rest <:+ s := by
  fun_induction quotedStringLoop q st s <;>
    first
    | (simp; done)
    | (rename_i ih; exact ih.trans ((List.suffix_cons _ _).trans (List.suffix_cons _ _)))
    | (rename_i ih; exact ih.trans (List.suffix_cons _ _))
    | exact List.suffix_cons _ _

theorem sfx_doubleQuotedString {p : Char} {r s : Cursor} (h : r <:+ s) :
    (doubleQuotedString p r).rest <:+ s := (quotedStringLoop_suffix _ _ r).trans h

theorem sfx_singleQuotedString {p : Char} {r s : Cursor} (h : r <:+ s) :
    (singleQuotedString p r).rest <:+ s := (quotedStringLoop_suffix _ _ r).trans h

theorem sfx_eatLiteralSuffix {uc : UC} {r s : Cursor} (h : r <:+ s) :
    eatLiteralSuffix uc r <:+ s := by
  simp only [eatLiteralSuffix, eatIdentifier]; split <;> sfx []

theorem sfx_numericLiteral {uc : UC} {st : Cursor} {lit : Scan LiteralKind} {s : Cursor}
    (h : lit.rest <:+ s) : (numericLiteral uc st lit).rest <:+ s := by
  simp only [numericLiteral]; split <;> sfx [sfx_eatLiteralSuffix]

theorem sfx_stringLiteral {uc : UC} {st : Cursor} {r : Scan (Bool × Bool × Bool)} {s : Cursor}
    (h : r.rest <:+ s) : (stringLiteral uc st r).rest <:+ s := by
  simp only [stringLiteral]; split <;> sfx [sfx_eatLiteralSuffix]

/-- a property of both branches holds of a scanner result given by `if`; the walks of the dispatch of
`advance_token` (`advanceKind_suffix`, `advanceKind_ok`, `advanceKind_good`) go arm by arm with it
(`sfx_ite`, `ok_ite`: the instances `apply` can unify) -/
theorem scan_ite {α : Type} {P : Scan α → Prop} {c : Prop} [Decidable c] {a b : Scan α}
    (ha : c → P a) (hb : ¬c → P b) : P (if c then a else b) := by
  split
  · exact ha ‹_›
  · exact hb ‹_›

theorem sfx_ite {α : Type} {c : Prop} [Decidable c] {a b : Scan α} {s : Cursor}
    (ha : a.rest <:+ s) (hb : b.rest <:+ s) : (if c then a else b).rest <:+ s :=
  scan_ite (P := fun r => r.rest <:+ s) (fun _ => ha) (fun _ => hb)

theorem advanceKind_suffix (uc : UC) (c : Char) (cs : Cursor) :
    (advanceKind uc c cs).rest <:+ cs := by
  simp only [advanceKind]
  repeat' (first | with_reducible apply sfx_ite | split)
  all_goals
    sfx [sfx_lineComment, sfx_blockComment, sfx_whitespace, sfx_pragmaOrIdentOrUnknownPrefix,
      sfx_openqasmVersion, sfx_haveOpenqasm, sfx_identOrUnknownPrefix, sfx_numericLiteral,
      sfx_number, sfx_havePragma, sfx_haveDim, sfx_floatWithNoLeadingDigit, sfx_hardwareIdent,
      sfx_stringLiteral, sfx_doubleQuotedString, sfx_singleQuotedString,
      sfx_fakeIdentOrUnknownPrefix]

/-- What `debug_assert!(is_id_start(self.prev()))` in `ident_or_unknown_prefix` needs from the
Unicode tables: the arms `'p'` and `'O'` of `advance_token` reach it without having tested
`is_id_start`, with `prev()` one of the letters of `pragma` / `OPENQASM`. -/
def KeywordLettersAreIdStart (uc : UC) : Prop :=
  ∀ c ∈ ['p', 'r', 'a', 'g', 'm', 'O', 'P', 'E', 'N', 'Q', 'A', 'S', 'M'], isIdStart uc c = true

theorem blockCommentLoop_ok (d : Nat) (ok : Bool) (s : Cursor) (hd : 0 < d) :
    (blockCommentLoop d ok s).ok = ok := by
  fun_induction blockCommentLoop d ok s
  case case1 => rfl
  case case2 => rfl
  case case3 ih => exact ih (by omega)
  case case4 => rename_i ok' depth' _ _; simp [ok', hd]
  case case5 => rename_i ok' depth' _ _ _ _ _; simp [ok', hd]
  case case6 =>
    rename_i ok' depth' _ _ hne _ _ ih
    have h0 : 0 < depth' := by
      have : depth' ≠ 0 := by simpa using hne
      omega
    rw [ih h0]; simp [ok', hd]
  case case7 ih => exact ih hd

theorem blockComment_ok (p : Char) (s : Cursor) (h1 : p = '/') (h2 : first s = '*') :
    (blockComment p s).ok = true := by
  simp only [blockComment]
  rw [blockCommentLoop_ok _ _ _ (by omega)]; simp [h1, h2]

theorem eatDecimalDigits_ok (s : Cursor) : (eatDecimalDigits s).ok = true :=
  digitsLoop_ok (f := eatDecimalDigitsLoop) (fun _ => rfl) (fun _ _ _ => rfl) _ s

theorem eatHexadecimalDigitsLoop_ok (b : Bool) (s : Cursor) :
    (eatHexadecimalDigitsLoop b s).ok = true :=
  digitsLoop_ok (fun _ => rfl) (fun _ _ _ => rfl) b s

theorem optExponent_ok (s : Cursor) : (optExponent s).ok = true := by
  simp only [optExponent]; split
  · simp only [eatFloatExponent]; assumption
  · rfl

theorem floatWithNoLeadingDigit_ok (s : Cursor) (h : isDecDigit (first s) = true) :
    (floatWithNoLeadingDigit s).ok = true := by
  simp [floatWithNoLeadingDigit, h, optExponent_ok]

theorem numberTail_ok (b : Base) (s : Cursor) : (numberTail b s).ok = true := by
  simp only [numberTail]
  (repeat' split) <;> first | rfl | exact optExponent_ok _ | (simp only [eatFloatExponent]; assumption)

theorem number_ok (p c : Char) (s : Cursor) (h : isDecDigit p = true) :
    (number p c s).ok = true := by
  simp only [isDecDigit] at h
  simp only [number, h, Bool.true_and]
  (repeat' split) <;> first | rfl | exact numberTail_ok _ _

theorem identOrUnknownPrefix_ok (uc : UC) (p : Char) (s : Cursor) (h : isIdStart uc p = true) :
    (identOrUnknownPrefix uc p s).ok = true := by
  simp only [identOrUnknownPrefix]; split <;> simp [h, fakeIdentOrUnknownPrefix]

theorem havePragma_prev (uc : UC) (hu : KeywordLettersAreIdStart uc) (p : Char) (s : Cursor)
    (hp : isIdStart uc p = true) : isIdStart uc (havePragma p s).prev = true := by
  simp only [havePragma]
  (repeat' split) <;> first | exact hp | (apply hu; simp)

theorem haveOpenqasm_prev (uc : UC) (hu : KeywordLettersAreIdStart uc) (p : Char) (s : Cursor)
    (hp : isIdStart uc p = true) : isIdStart uc (haveOpenqasm p s).prev = true := by
  simp only [haveOpenqasm]
  (repeat' split) <;> first | exact hp | (apply hu; simp)

theorem pragmaOrIdentOrUnknownPrefix_ok (uc : UC) (hu : KeywordLettersAreIdStart uc) (p : Char)
    (s : Cursor) (hp : isIdStart uc p = true) :
    (pragmaOrIdentOrUnknownPrefix uc p s).ok = true := by
  simp only [pragmaOrIdentOrUnknownPrefix]; split
  · rfl
  · exact identOrUnknownPrefix_ok _ _ _ (havePragma_prev uc hu p s hp)

theorem haveDim_ok (s : Cursor) : (haveDim s).ok = true := by
  simp only [haveDim]; (repeat' split) <;> rfl

theorem openqasmVersion_ok (s : Cursor) : (openqasmVersion s).ok = true := by
  simp only [openqasmVersion]; (repeat' split) <;> rfl

theorem hardwareIdent_ok (uc : UC) (s : Cursor) : (hardwareIdent uc s).ok = true := by
  simp only [hardwareIdent]; (repeat' split) <;> rfl

theorem ok_ite {α : Type} {c : Prop} [Decidable c] {a b : Scan α}
    (ha : c → a.ok = true) (hb : ¬c → b.ok = true) : (if c then a else b).ok = true :=
  scan_ite (P := fun r => r.ok = true) ha hb

/-- every `debug_assert!` evaluated by `advance_token` (and the `depth` guard) holds -/
theorem advanceKind_ok (uc : UC) (hu : KeywordLettersAreIdStart uc) (c : Char) (cs : Cursor) :
    (advanceKind uc c cs).ok = true := by
  simp only [advanceKind]
  -- the goals are the arms in source order: `//`, `/*`, whitespace, `p`, `O`, identifier start, digit,
  -- `#`, `@`, `.`, `$`, then `oneSymbol` with the arms after it
  refine ok_ite (fun h1 => ok_ite (fun h2 => ?_) (fun _ => ok_ite (fun h3 => ?_) (fun _ => rfl)))
    (fun _ => ok_ite (fun hw => ?_) (fun _ => ok_ite (fun hp => ?_) (fun _ => ok_ite (fun hO => ?_)
    (fun _ => ok_ite (fun hi => ?_) (fun _ => ok_ite (fun hd => ?_) (fun _ => ok_ite (fun _ => ?_)
    (fun _ => ok_ite (fun _ => ?_) (fun _ => ok_ite (fun _ => ?_) (fun _ => ok_ite (fun _ => ?_)
    (fun _ => ?_))))))))))
  · simp at h1 h2; simp [lineComment, h1, h2]
  · simp at h1 h3; exact blockComment_ok _ _ h1 h3
  · exact hw
  · simp at hp; subst hp
    exact pragmaOrIdentOrUnknownPrefix_ok uc hu _ _ (hu _ (by simp))
  · simp at hO; subst hO
    split
    · exact openqasmVersion_ok _
    · exact identOrUnknownPrefix_ok _ _ _ (haveOpenqasm_prev uc hu _ _ (hu _ (by simp)))
  · exact identOrUnknownPrefix_ok _ _ _ hi
  · simp only [numericLiteral]; exact number_ok _ _ _ hd
  · (repeat' split) <;> first | rfl | exact haveDim_ok _
  · split <;> rfl
  · split
    · simp only [numericLiteral]; exact floatWithNoLeadingDigit_ok _ ‹_›
    · rfl
  · exact hardwareIdent_ok _ _
  · split
    · rfl
    · refine ok_ite (fun h => ?_) (fun _ => ok_ite (fun h => ?_) (fun _ => ?_))
      · simp at h; simp [stringLiteral, doubleQuotedString, h]
      · simp at h; simp [stringLiteral, singleQuotedString, h]
      · split <;> rfl


def plainKind : TokenKind → Bool
  | .eof => false
  | .literal _ _ => false
  | _ => true

/-- the token kind is not `Eof`, and a `Literal`'s `suffix_start` does not exceed the position
reached (`start` = cursor at the token start) -/
def GoodKind (start : Cursor) (r : Scan TokenKind) : Prop :=
  match r.val with
  | .eof => False
  | .literal _ suf => suf ≤ posWithinToken start r.rest
  | _ => True

theorem good_of_plain {start : Cursor} {r : Scan TokenKind} (h : plainKind r.val = true) :
    GoodKind start r := by
  unfold GoodKind; split <;> simp_all [plainKind]

theorem identOrUnknownPrefix_plain (uc : UC) (p : Char) (s : Cursor) :
    plainKind (identOrUnknownPrefix uc p s).val = true := by
  simp only [identOrUnknownPrefix]; split <;> rfl

theorem pragmaOrIdentOrUnknownPrefix_plain (uc : UC) (p : Char) (s : Cursor) :
    plainKind (pragmaOrIdentOrUnknownPrefix uc p s).val = true := by
  simp only [pragmaOrIdentOrUnknownPrefix]; split
  · rfl
  · exact identOrUnknownPrefix_plain _ _ _

theorem hardwareIdent_plain (uc : UC) (s : Cursor) :
    plainKind (hardwareIdent uc s).val = true := by
  simp only [hardwareIdent]; (repeat' split) <;> rfl

theorem ite_some_plain {c : Prop} [Decidable c] {a : TokenKind} {b : Option TokenKind}
    {k : TokenKind} (ha : plainKind a = true) (hb : b = some k → plainKind k = true) :
    (if c then some a else b) = some k → plainKind k = true := by
  split
  · intro h; cases h; exact ha
  · exact hb

theorem oneSymbol_plain {c : Char} {k : TokenKind} (h : oneSymbol c = some k) :
    plainKind k = true := by
  revert h; unfold oneSymbol
  repeat (refine ite_some_plain rfl ?_)
  intro h; cases h

theorem posWithinToken_mono {start r1 r2 : Cursor} (h : r2 <:+ r1) :
    posWithinToken start r1 ≤ posWithinToken start r2 := by
  have := utf8Len_suffix h
  unfold posWithinToken; omega

theorem numericLiteral_good (uc : UC) (start : Cursor) (lit : Scan LiteralKind) :
    GoodKind start (numericLiteral uc start lit) := by
  simp only [numericLiteral, GoodKind]
  apply posWithinToken_mono
  split <;> sfx [sfx_eatLiteralSuffix]

theorem stringLiteral_good (uc : UC) (start : Cursor) (r : Scan (Bool × Bool × Bool)) :
    GoodKind start (stringLiteral uc start r) := by
  simp only [stringLiteral, GoodKind]
  apply posWithinToken_mono
  split <;> sfx [sfx_eatLiteralSuffix]

theorem advanceKind_good (uc : UC) (c : Char) (cs : Cursor) :
    GoodKind (c :: cs) (advanceKind uc c cs) := by
  simp only [advanceKind]
  -- the arms as in `advanceKind_ok`, with `/` alone as the third goal
  refine scan_ite (fun _ => scan_ite (fun _ => ?_) (fun _ => scan_ite (fun _ => ?_) (fun _ => ?_)))
    (fun _ => scan_ite (fun _ => ?_) (fun _ => scan_ite (fun _ => ?_) (fun _ => scan_ite (fun _ => ?_)
    (fun _ => scan_ite (fun _ => ?_) (fun _ => scan_ite (fun _ => ?_) (fun _ => scan_ite (fun _ => ?_)
    (fun _ => scan_ite (fun _ => ?_) (fun _ => scan_ite (fun _ => ?_) (fun _ => scan_ite (fun _ => ?_)
    (fun _ => ?_))))))))))
  · exact good_of_plain rfl
  · exact good_of_plain rfl
  · exact good_of_plain rfl
  · exact good_of_plain rfl
  · exact good_of_plain (pragmaOrIdentOrUnknownPrefix_plain _ _ _)
  · split
    · exact good_of_plain rfl
    · exact good_of_plain (identOrUnknownPrefix_plain _ _ _)
  · exact good_of_plain (identOrUnknownPrefix_plain _ _ _)
  · exact numericLiteral_good _ _ _
  · (repeat' split) <;> exact good_of_plain rfl
  · split <;> exact good_of_plain rfl
  · split
    · exact numericLiteral_good _ _ _
    · exact good_of_plain rfl
  · exact good_of_plain (hardwareIdent_plain _ _)
  · split
    · exact good_of_plain (oneSymbol_plain ‹_›)
    · refine scan_ite (fun _ => ?_) (fun _ => scan_ite (fun _ => ?_) (fun _ => ?_))
      · exact stringLiteral_good _ _ _
      · exact stringLiteral_good _ _ _
      · split <;> exact good_of_plain rfl

theorem advanceToken_rest_suffix (uc : UC) (c : Char) (cs : Cursor) :
    (advanceToken uc (c :: cs)).rest <:+ cs := advanceKind_suffix uc c cs

theorem advanceToken_kind_ne_eof (uc : UC) (c : Char) (cs : Cursor) :
    (advanceToken uc (c :: cs)).kind ≠ .eof := by
  have h := advanceKind_good uc c cs
  simp only [advanceToken]
  intro he
  simp only [GoodKind, he] at h

theorem advanceToken_rest_length_lt (uc : UC) (c : Char) (cs : Cursor) :
    (advanceToken uc (c :: cs)).rest.length < (c :: cs).length := by
  have := (advanceToken_rest_suffix uc c cs).length_le
  simp only [List.length_cons]; omega

theorem consumed_append {s r : Cursor} (h : r <:+ s) : consumed s r ++ r = s := by
  obtain ⟨p, rfl⟩ := h
  simp [consumed]

theorem utf8Len_consumed {s r : Cursor} (h : r <:+ s) :
    utf8Len (consumed s r) = posWithinToken s r := by
  have h1 := congrArg utf8Len (consumed_append h)
  rw [utf8Len_append] at h1
  unfold posWithinToken; omega

theorem consumed_ne_nil {s r : Cursor} (h : r.length < s.length) : consumed s r ≠ [] := by
  unfold consumed
  intro h0
  have := congrArg List.length h0
  simp at this; omega

/-- the token `tokenize` emits at `s` -/
def tokenAt (uc : UC) (s : Cursor) : Token :=
  let a := advanceToken uc s
  ⟨a.kind, a.len, consumed s a.rest, a.ok⟩

theorem tokenizeFuel_nil (uc : UC) (fuel : Nat) : tokenizeFuel uc fuel [] = [] := by
  cases fuel <;> simp [tokenizeFuel, advanceToken]

theorem tokenizeFuel_cons (uc : UC) (fuel : Nat) (c : Char) (cs : Cursor) :
    tokenizeFuel uc (fuel + 1) (c :: cs) =
      tokenAt uc (c :: cs) :: tokenizeFuel uc fuel (advanceToken uc (c :: cs)).rest := by
  simp only [tokenizeFuel, tokenAt]
  have := advanceToken_kind_ne_eof uc c cs
  simp [this]

theorem tokenizeFuel_irrel (uc : UC) : ∀ (f1 f2 : Nat) (s : Cursor),
    s.length ≤ f1 → s.length ≤ f2 → tokenizeFuel uc f1 s = tokenizeFuel uc f2 s := by
  intro f1
  induction f1 with
  | zero =>
    intro f2 s h1 _
    have : s = [] := List.eq_nil_of_length_eq_zero (by omega)
    subst this; simp [tokenizeFuel_nil]
  | succ n ih =>
    intro f2 s h1 h2
    cases s with
    | nil => simp [tokenizeFuel_nil]
    | cons c cs =>
      cases f2 with
      | zero => simp at h2
      | succ m =>
        rw [tokenizeFuel_cons, tokenizeFuel_cons]
        have hl := advanceToken_rest_length_lt uc c cs
        simp only [List.length_cons] at hl h1 h2
        rw [ih m _ (by omega) (by omega)]

theorem tokenize_nil (uc : UC) : tokenize uc [] = [] := rfl

theorem tokenize_cons (uc : UC) (c : Char) (cs : Cursor) :
    tokenize uc (c :: cs) =
      tokenAt uc (c :: cs) :: tokenize uc (advanceToken uc (c :: cs)).rest := by
  unfold tokenize
  rw [List.length_cons, tokenizeFuel_cons]
  have hl := advanceToken_rest_length_lt uc c cs
  simp only [List.length_cons] at hl
  rw [tokenizeFuel_irrel uc cs.length _ _ (by omega) (Nat.le_refl _)]

theorem tokenize_induction (uc : UC) (P : Cursor → List Token → Prop)
    (hnil : P [] [])
    (hcons : ∀ c cs, P (advanceToken uc (c :: cs)).rest (tokenize uc (advanceToken uc (c :: cs)).rest) →
      P (c :: cs) (tokenAt uc (c :: cs) :: tokenize uc (advanceToken uc (c :: cs)).rest))
    (s : Cursor) : P s (tokenize uc s) := by
  suffices h : ∀ n (s : Cursor), s.length ≤ n → P s (tokenize uc s) from h _ s (Nat.le_refl _)
  intro n
  induction n with
  | zero =>
    intro s hs
    have : s = [] := List.eq_nil_of_length_eq_zero (by omega)
    subst this; exact hnil
  | succ n ih =>
    intro s hs
    cases s with
    | nil => exact hnil
    | cons c cs =>
      rw [tokenize_cons]
      apply hcons
      have hl := advanceToken_rest_length_lt uc c cs
      simp only [List.length_cons] at hl hs
      exact ih _ (by omega)


theorem tokenAt_text_append (uc : UC) (c : Char) (cs : Cursor) :
    (tokenAt uc (c :: cs)).text ++ (advanceToken uc (c :: cs)).rest = c :: cs :=
  consumed_append ((advanceToken_rest_suffix uc c cs).trans (List.suffix_cons _ _))

theorem tokenAt_len (uc : UC) (c : Char) (cs : Cursor) :
    (tokenAt uc (c :: cs)).len = utf8Len (tokenAt uc (c :: cs)).text := by
  simp only [tokenAt]
  rw [utf8Len_consumed ((advanceToken_rest_suffix uc c cs).trans (List.suffix_cons _ _))]
  rfl

theorem tokenAt_text_ne_nil (uc : UC) (c : Char) (cs : Cursor) :
    (tokenAt uc (c :: cs)).text ≠ [] :=
  consumed_ne_nil (advanceToken_rest_length_lt uc c cs)

theorem tokenAt_ok (uc : UC) (hu : KeywordLettersAreIdStart uc) (c : Char) (cs : Cursor) :
    (tokenAt uc (c :: cs)).ok = true := advanceKind_ok uc hu c cs

theorem tokenAt_kind_ne_eof (uc : UC) (c : Char) (cs : Cursor) :
    (tokenAt uc (c :: cs)).kind ≠ .eof := advanceToken_kind_ne_eof uc c cs

theorem tokenAt_suffix_start (uc : UC) (c : Char) (cs : Cursor) (k : LiteralKind) (suf : Nat)
    (h : (tokenAt uc (c :: cs)).kind = .literal k suf) : suf ≤ (tokenAt uc (c :: cs)).len := by
  have hg := advanceKind_good uc c cs
  simp only [tokenAt, advanceToken] at h ⊢
  simp only [GoodKind, h] at hg
  exact hg

theorem forall_tokenize (uc : UC) (Q : Token → Prop)
    (h : ∀ c cs, Q (tokenAt uc (c :: cs))) (s : Cursor) : ∀ t ∈ tokenize uc s, Q t := by
  refine tokenize_induction uc (fun _ ts => ∀ t ∈ ts, Q t) (by simp) ?_ s
  intro c cs ih t ht
  rcases List.mem_cons.mp ht with rfl | ht
  · exact h c cs
  · exact ih t ht

theorem tokenize_texts (uc : UC) (s : Cursor) :
    ((tokenize uc s).map (·.text)).flatten = s := by
  refine tokenize_induction uc (fun s ts => (ts.map (·.text)).flatten = s) rfl ?_ s
  intro c cs ih
  simp only [List.map_cons, List.flatten_cons, ih]
  exact tokenAt_text_append uc c cs

end Oq3.Lemmas.Lexer
