/-
Maps of the typed AST (`Model/Ast.lean`) that act on text ranges and on names only.

`Ast.Map` is one function per node type; `Ast.Map.Lawful` says, constructor by constructor, that
the functions apply `span` to every text range, `text` to the text of every `Name`, `Identifier`
and `Param`, and otherwise follow the shape of the tree (`HardwareQubit`, `FilePath`, `Literal`,
pragma and annotation text: range only).  Erasing ranges (`Props/C17.lean: er*`, `span := fun _ =>
⟨0, 0⟩`, `text := id`) and renaming (`Props/C17Rename.lean: rn* ρ`, `span := id`, `text := ρ.f`)
are the two lawful maps of the development; a theorem proved for a lawful map needs no induction
on the AST to specialise to either.
-/
import Oq3.Model.Ast

namespace Oq3.Ast

structure Map where
  span : Span → Span
  text : String → String
  name : Name → Name
  identifier : Identifier → Identifier
  hardwareQubit : HardwareQubit → HardwareQubit
  param : Param → Param
  paramList : ParamList → ParamList
  literal : Literal → Literal
  filePath : FilePath → FilePath
  expr : Expr → Expr
  parenExpr : ParenExpr → ParenExpr
  rangeExpr : RangeExpr → RangeExpr
  designator : Designator → Designator
  scalarType : ScalarType → ScalarType
  expressionList : ExpressionList → ExpressionList
  setExpression : SetExpression → SetExpression
  indexKind : IndexKind → IndexKind
  indexOperator : IndexOperator → IndexOperator
  indexedIdentifier : IndexedIdentifier → IndexedIdentifier
  gateOperand : GateOperand → GateOperand
  qubitList : QubitList → QubitList
  argList : ArgList → ArgList
  gateCallExpr : GateCallExpr → GateCallExpr
  gPhaseCallExpr : GPhaseCallExpr → GPhaseCallExpr
  modifier : Modifier → Modifier
  paramType : ParamType → ParamType
  typedParam : TypedParam → TypedParam
  typedParamList : TypedParamList → TypedParamList
  returnSignature : ReturnSignature → ReturnSignature
  qubitType : QubitType → QubitType
  forIterable : ForIterable → ForIterable
  stmt : Stmt → Stmt
  blockExpr : BlockExpr → BlockExpr
  blockOrStmt : BlockOrStmt → BlockOrStmt
  accBos : Acc BlockOrStmt → Acc BlockOrStmt
  caseExpr : CaseExpr → CaseExpr
  program : Program → Program

structure Map.Lawful (m : Map) : Prop where
  name_mk : ∀ s t, m.name ⟨s, t⟩ = ⟨m.span s, m.text t⟩
  identifier_mk : ∀ s t, m.identifier ⟨s, t⟩ = ⟨m.span s, m.text t⟩
  hardwareQubit_mk : ∀ s t, m.hardwareQubit ⟨s, t⟩ = ⟨m.span s, t⟩
  param_mk : ∀ s t, m.param ⟨s, t⟩ = ⟨m.span s, m.text t⟩
  paramList_mk : ∀ s ps, m.paramList ⟨s, ps⟩ = ⟨m.span s, ps.map m.param⟩
  literal_mk : ∀ s k, m.literal ⟨s, k⟩ = ⟨m.span s, k⟩
  filePath_mk : ∀ s p, m.filePath ⟨s, p⟩ = ⟨m.span s, p⟩
  expr_prefixExpr : ∀ s op e, m.expr (.prefixExpr s op e) = .prefixExpr (m.span s) op (e.map m.expr)
  expr_parenExpr : ∀ p, m.expr (.parenExpr p) = .parenExpr (m.parenExpr p)
  expr_binExpr : ∀ s op l r,
    m.expr (.binExpr s op l r) = .binExpr (m.span s) op (l.map m.expr) (r.map m.expr)
  expr_literal : ∀ l, m.expr (.literal l) = .literal (m.literal l)
  expr_timingLiteral : ∀ s u t l,
    m.expr (.timingLiteral s u t l) = .timingLiteral (m.span s) u t (l.map m.literal)
  expr_identifier : ∀ i, m.expr (.identifier i) = .identifier (m.identifier i)
  expr_hardwareQubit : ∀ h, m.expr (.hardwareQubit h) = .hardwareQubit (m.hardwareQubit h)
  expr_rangeExpr : ∀ r, m.expr (.rangeExpr r) = .rangeExpr (m.rangeExpr r)
  expr_indexExpr : ∀ s e ix,
    m.expr (.indexExpr s e ix) = .indexExpr (m.span s) (e.map m.expr) (ix.map m.indexOperator)
  expr_indexedIdentifier : ∀ i, m.expr (.indexedIdentifier i) = .indexedIdentifier (m.indexedIdentifier i)
  expr_measureExpression : ∀ s g,
    m.expr (.measureExpression s g) = .measureExpression (m.span s) (g.map m.gateOperand)
  expr_returnExpr : ∀ s e, m.expr (.returnExpr s e) = .returnExpr (m.span s) (e.map m.expr)
  expr_castExpression : ∀ s st e,
    m.expr (.castExpression s st e) = .castExpression (m.span s) (st.map m.scalarType) (e.map m.expr)
  expr_callExpr : ∀ s al i,
    m.expr (.callExpr s al i) = .callExpr (m.span s) (al.map m.argList) (i.map m.identifier)
  expr_gateCallExpr : ∀ g, m.expr (.gateCallExpr g) = .gateCallExpr (m.gateCallExpr g)
  expr_gPhaseCallExpr : ∀ g, m.expr (.gPhaseCallExpr g) = .gPhaseCallExpr (m.gPhaseCallExpr g)
  expr_modifiedGateCallExpr : ∀ s ms g gp,
    m.expr (.modifiedGateCallExpr s ms g gp) =
      .modifiedGateCallExpr (m.span s) (ms.map m.modifier) (g.map m.gateCallExpr) (gp.map m.gPhaseCallExpr)
  expr_unsupported : ∀ k s, m.expr (.unsupported k s) = .unsupported k (m.span s)
  parenExpr_mk : ∀ s e, m.parenExpr (.mk s e) = .mk (m.span s) (e.map m.expr)
  rangeExpr_mk : ∀ s a b c,
    m.rangeExpr (.mk s a b c) = .mk (m.span s) (a.map m.expr) (b.map m.expr) (c.map m.expr)
  designator_mk : ∀ s e, m.designator (.mk s e) = .mk (m.span s) (e.map m.expr)
  scalarType_mk : ∀ s k d st,
    m.scalarType (.mk s k d st) = .mk (m.span s) k (d.map m.designator) (st.map m.scalarType)
  expressionList_mk : ∀ s es, m.expressionList (.mk s es) = .mk (m.span s) (es.map m.expr)
  setExpression_mk : ∀ s el, m.setExpression (.mk s el) = .mk (m.span s) (el.map m.expressionList)
  indexKind_setExpression : ∀ s, m.indexKind (.setExpression s) = .setExpression (m.setExpression s)
  indexKind_expressionList : ∀ el, m.indexKind (.expressionList el) = .expressionList (m.expressionList el)
  indexOperator_mk : ∀ s k, m.indexOperator (.mk s k) = .mk (m.span s) (k.map m.indexKind)
  indexedIdentifier_mk : ∀ s i ixs,
    m.indexedIdentifier (.mk s i ixs) = .mk (m.span s) (i.map m.identifier) (ixs.map m.indexOperator)
  gateOperand_hardwareQubit : ∀ h, m.gateOperand (.hardwareQubit h) = .hardwareQubit (m.hardwareQubit h)
  gateOperand_identifier : ∀ i, m.gateOperand (.identifier i) = .identifier (m.identifier i)
  gateOperand_indexedIdentifier : ∀ i,
    m.gateOperand (.indexedIdentifier i) = .indexedIdentifier (m.indexedIdentifier i)
  qubitList_mk : ∀ s gs, m.qubitList (.mk s gs) = .mk (m.span s) (gs.map m.gateOperand)
  argList_mk : ∀ s el, m.argList (.mk s el) = .mk (m.span s) (el.map m.expressionList)
  gateCallExpr_mk : ∀ s ql al i,
    m.gateCallExpr (.mk s ql al i) =
      .mk (m.span s) (ql.map m.qubitList) (al.map m.argList) (i.map m.identifier)
  gPhaseCallExpr_mk : ∀ s a, m.gPhaseCallExpr (.mk s a) = .mk (m.span s) (a.map m.expr)
  modifier_invModifier : ∀ s, m.modifier (.invModifier s) = .invModifier (m.span s)
  modifier_powModifier : ∀ s p, m.modifier (.powModifier s p) = .powModifier (m.span s) (p.map m.parenExpr)
  modifier_ctrlModifier : ∀ s p, m.modifier (.ctrlModifier s p) = .ctrlModifier (m.span s) (p.map m.parenExpr)
  modifier_negCtrlModifier : ∀ s p,
    m.modifier (.negCtrlModifier s p) = .negCtrlModifier (m.span s) (p.map m.parenExpr)
  paramType_scalarType : ∀ s, m.paramType (.scalarType s) = .scalarType (m.scalarType s)
  paramType_arrayRefType : ∀ s, m.paramType (.arrayRefType s) = .arrayRefType (m.span s)
  typedParam_mk : ∀ s pt old nm,
    m.typedParam ⟨s, pt, old, nm⟩ = ⟨m.span s, pt.map m.paramType, old, nm.map m.name⟩
  typedParamList_mk : ∀ s ps, m.typedParamList ⟨s, ps⟩ = ⟨m.span s, ps.map m.typedParam⟩
  returnSignature_mk : ∀ s st, m.returnSignature ⟨s, st⟩ = ⟨m.span s, st.map m.scalarType⟩
  qubitType_mk : ∀ s d, m.qubitType ⟨s, d⟩ = ⟨m.span s, d.map m.designator⟩
  forIterable_mk : ∀ s se r e,
    m.forIterable ⟨s, se, r, e⟩ = ⟨m.span s, se.map m.setExpression, r.map m.rangeExpr, e.map m.expr⟩
  stmt_ifStmt : ∀ s c t f,
    m.stmt (.ifStmt s c t f) = .ifStmt (m.span s) (c.map m.expr) (m.accBos t) (f.map m.blockOrStmt)
  stmt_whileStmt : ∀ s c b, m.stmt (.whileStmt s c b) = .whileStmt (m.span s) (c.map m.expr) (m.accBos b)
  stmt_forStmt : ∀ s v st it b,
    m.stmt (.forStmt s v st it b) =
      .forStmt (m.span s) (v.map m.name) (st.map m.scalarType) (it.map m.forIterable) (m.accBos b)
  stmt_switchCaseStmt : ∀ s c cs d,
    m.stmt (.switchCaseStmt s c cs d) =
      .switchCaseStmt (m.span s) (c.map m.expr) (cs.map m.caseExpr) (d.map m.blockExpr)
  stmt_classicalDeclarationStatement : ∀ s a st k n e,
    m.stmt (.classicalDeclarationStatement s a st k n e) =
      .classicalDeclarationStatement (m.span s) a (st.map m.scalarType) k (n.map m.name) (e.map m.expr)
  stmt_ioDeclarationStatement : ∀ s a st n i,
    m.stmt (.ioDeclarationStatement s a st n i) =
      .ioDeclarationStatement (m.span s) a (st.map m.scalarType) (n.map m.name) i
  stmt_quantumDeclarationStatement : ∀ s n h q,
    m.stmt (.quantumDeclarationStatement s n h q) =
      .quantumDeclarationStatement (m.span s) (n.map m.name) (h.map m.hardwareQubit) (q.map m.qubitType)
  stmt_assignmentStmt : ∀ s i rhs ii,
    m.stmt (.assignmentStmt s i rhs ii) =
      .assignmentStmt (m.span s) (i.map m.identifier) (rhs.map m.expr) (ii.map m.indexedIdentifier)
  stmt_breakStmt : ∀ s, m.stmt (.breakStmt s) = .breakStmt (m.span s)
  stmt_continueStmt : ∀ s, m.stmt (.continueStmt s) = .continueStmt (m.span s)
  stmt_endStmt : ∀ s, m.stmt (.endStmt s) = .endStmt (m.span s)
  stmt_gate : ∀ s n a q b,
    m.stmt (.gate s n a q b) =
      .gate (m.span s) (n.map m.name) (a.map m.paramList) (q.map m.paramList) (b.map m.blockExpr)
  stmt_defStmt : ∀ s n tp b rs,
    m.stmt (.defStmt s n tp b rs) =
      .defStmt (m.span s) (n.map m.name) (tp.map m.typedParamList) (b.map m.blockExpr)
        (rs.map m.returnSignature)
  stmt_barrier : ∀ s q, m.stmt (.barrier s q) = .barrier (m.span s) (q.map m.qubitList)
  stmt_delayStmt : ∀ s q d,
    m.stmt (.delayStmt s q d) = .delayStmt (m.span s) (q.map m.qubitList) (d.map m.designator)
  stmt_reset : ∀ s g, m.stmt (.reset s g) = .reset (m.span s) (g.map m.gateOperand)
  stmt_includeStmt : ∀ s f, m.stmt (.includeStmt s f) = .includeStmt (m.span s) (f.map m.filePath)
  stmt_exprStmt : ∀ s e, m.stmt (.exprStmt s e) = .exprStmt (m.span s) (e.map m.expr)
  stmt_versionString : ∀ s, m.stmt (.versionString s) = .versionString (m.span s)
  stmt_pragmaStatement : ∀ s t, m.stmt (.pragmaStatement s t) = .pragmaStatement (m.span s) t
  stmt_annotationStatement : ∀ s t, m.stmt (.annotationStatement s t) = .annotationStatement (m.span s) t
  stmt_aliasDeclarationStatement : ∀ s n e,
    m.stmt (.aliasDeclarationStatement s n e) =
      .aliasDeclarationStatement (m.span s) (n.map m.name) (e.map m.expr)
  stmt_notImpl : ∀ k s, m.stmt (.notImpl k s) = .notImpl k (m.span s)
  blockExpr_mk : ∀ s ss, m.blockExpr (.mk s ss) = .mk (m.span s) (ss.map m.stmt)
  blockOrStmt_blockExpr : ∀ b, m.blockOrStmt (.blockExpr b) = .blockExpr (m.blockExpr b)
  blockOrStmt_stmt : ∀ s, m.blockOrStmt (.stmt s) = .stmt (m.stmt s)
  accBos_ok : ∀ b, m.accBos (.ok b) = .ok (m.blockOrStmt b)
  accBos_panicked : m.accBos .panicked = .panicked
  caseExpr_mk : ∀ s el b,
    m.caseExpr (.mk s el b) = .mk (m.span s) (el.map m.expressionList) (b.map m.blockExpr)
  program_mk : ∀ s ss, m.program ⟨s, ss⟩ = ⟨m.span s, ss.map m.stmt⟩

end Oq3.Ast

namespace Oq3.Ast.Map.Lawful
variable {m : Map} (h : m.Lawful)
include h

theorem name_text (n : Name) : (m.name n).text = m.text n.text := by cases n; rw [h.name_mk]
theorem name_span (n : Name) : (m.name n).span = m.span n.span := by cases n; rw [h.name_mk]
theorem identifier_text (n : Identifier) : (m.identifier n).text = m.text n.text := by cases n; rw [h.identifier_mk]
theorem identifier_span (n : Identifier) : (m.identifier n).span = m.span n.span := by cases n; rw [h.identifier_mk]
theorem hardwareQubit_text (n : HardwareQubit) : (m.hardwareQubit n).text = n.text := by cases n; rw [h.hardwareQubit_mk]
theorem hardwareQubit_span (n : HardwareQubit) : (m.hardwareQubit n).span = m.span n.span := by
  cases n; rw [h.hardwareQubit_mk]
theorem param_text (n : Param) : (m.param n).text = m.text n.text := by cases n; rw [h.param_mk]
theorem param_span (n : Param) : (m.param n).span = m.span n.span := by cases n; rw [h.param_mk]
theorem paramList_params (n : ParamList) : (m.paramList n).params = n.params.map m.param := by
  cases n; rw [h.paramList_mk]
theorem filePath_toString (n : FilePath) : (m.filePath n).toString? = n.toString? := by cases n; rw [h.filePath_mk]
theorem literal_kind (n : Literal) : (m.literal n).kind = n.kind := by cases n; rw [h.literal_mk]
theorem literal_span (n : Literal) : (m.literal n).span = m.span n.span := by cases n; rw [h.literal_mk]
theorem typedParam_paramType (p : TypedParam) : (m.typedParam p).paramType = p.paramType.map m.paramType := by
  cases p; rw [h.typedParam_mk]
theorem typedParam_old (p : TypedParam) : (m.typedParam p).oldTypedParam = p.oldTypedParam := by
  cases p; rw [h.typedParam_mk]
theorem typedParam_name (p : TypedParam) : (m.typedParam p).name = p.name.map m.name := by
  cases p; rw [h.typedParam_mk]
theorem typedParam_span (p : TypedParam) : (m.typedParam p).span = m.span p.span := by cases p; rw [h.typedParam_mk]
theorem typedParamList_params (l : TypedParamList) :
    (m.typedParamList l).typedParams = l.typedParams.map m.typedParam := by cases l; rw [h.typedParamList_mk]
theorem returnSignature_st (r : ReturnSignature) :
    (m.returnSignature r).scalarType = r.scalarType.map m.scalarType := by cases r; rw [h.returnSignature_mk]
theorem qubitType_designator (q : QubitType) : (m.qubitType q).designator = q.designator.map m.designator := by
  cases q; rw [h.qubitType_mk]
theorem forIterable_set (f : ForIterable) :
    (m.forIterable f).setExpression = f.setExpression.map m.setExpression := by cases f; rw [h.forIterable_mk]
theorem forIterable_range (f : ForIterable) : (m.forIterable f).rangeExpr = f.rangeExpr.map m.rangeExpr := by
  cases f; rw [h.forIterable_mk]
theorem forIterable_expr (f : ForIterable) :
    (m.forIterable f).forIterableExpr = f.forIterableExpr.map m.expr := by cases f; rw [h.forIterable_mk]

theorem parenExpr_span (p : ParenExpr) : (m.parenExpr p).span = m.span p.span := by cases p; rw [h.parenExpr_mk]; rfl
theorem rangeExpr_span (p : RangeExpr) : (m.rangeExpr p).span = m.span p.span := by cases p; rw [h.rangeExpr_mk]; rfl
theorem designator_span (p : Designator) : (m.designator p).span = m.span p.span := by
  cases p; rw [h.designator_mk]; rfl
theorem indexedIdentifier_span (p : IndexedIdentifier) : (m.indexedIdentifier p).span = m.span p.span := by
  cases p; rw [h.indexedIdentifier_mk]; rfl
theorem qubitList_span (p : QubitList) : (m.qubitList p).span = m.span p.span := by cases p; rw [h.qubitList_mk]; rfl
theorem argList_span (p : ArgList) : (m.argList p).span = m.span p.span := by cases p; rw [h.argList_mk]; rfl
theorem gateCallExpr_span (p : GateCallExpr) : (m.gateCallExpr p).span = m.span p.span := by
  cases p; rw [h.gateCallExpr_mk]; rfl
theorem gPhaseCallExpr_span (p : GPhaseCallExpr) : (m.gPhaseCallExpr p).span = m.span p.span := by
  cases p; rw [h.gPhaseCallExpr_mk]; rfl
theorem gateOperand_span (g : GateOperand) : (m.gateOperand g).span = m.span g.span := by
  cases g <;> simp only [h.gateOperand_hardwareQubit, h.gateOperand_identifier, h.gateOperand_indexedIdentifier,
    GateOperand.span, h.hardwareQubit_span, h.identifier_span, h.indexedIdentifier_span]
theorem expr_span (e : Expr) : (m.expr e).span = m.span e.span := by
  cases e <;> simp only [h.expr_prefixExpr, h.expr_parenExpr, h.expr_binExpr, h.expr_literal, h.expr_timingLiteral, h.expr_identifier, h.expr_hardwareQubit, h.expr_rangeExpr, h.expr_indexExpr, h.expr_indexedIdentifier, h.expr_measureExpression, h.expr_returnExpr, h.expr_castExpression, h.expr_callExpr, h.expr_gateCallExpr, h.expr_gPhaseCallExpr, h.expr_modifiedGateCallExpr, h.expr_unsupported,
    Expr.span, h.parenExpr_span, h.rangeExpr_span, h.indexedIdentifier_span, h.gateCallExpr_span,
    h.gPhaseCallExpr_span, h.literal_span, h.identifier_span, h.hardwareQubit_span]

end Oq3.Ast.Map.Lawful
