/-
C17 (renaming through lexer and parser) — the lexer / bridge half.

Two layouts `items₁`, `items₂ : List (Lexeme × Sep)` (C15, `Props/C17Lex.lean`) are related by the
renaming `ρ` (`renItems ρ items₁ items₂`, a Boolean check) when they have the same length and,
position by position, the same separator, the same lexeme kind and the text `phi ρ kind text`:
the text of an `IDENT` lexeme is `ρ` of the old text, every other lexeme has the same text.

* `renItems_kinds`, `renItems_joint`: same kinds, same `jointOf` — so `to_input` of the two texts
  is the same parser input (`Props/C17RenameText.lean: rename_same_input`);
* `renItems_raw` (on `itemsRaw`), `rename_rawToks` (on the texts): the raw token table of the second
  text is the raw token table of the first with `rn (phi ρ)` applied to every entry (kinds kept,
  `IDENT` texts renamed, trivia untouched);
* `parse_fits`: what a parser run on the input of a lexed text gives the builder — a rooted step
  list that fits the token table (`fitsGo`) and satisfies `tokIdI` (`Lemmas/RenameTextDefs.lean`; it
  holds of every parse by `RenameTextParse.parse_tokId`).
-/
import Oq3.Props.C17Lex
import Oq3.Lemmas.RenameTextParse
import Oq3.Lemmas.RenameTextAcc
import Oq3.Lemmas.RenameTextBuilder

namespace Oq3.RenameText
open Oq3.Gen Oq3.Lexer Oq3.Lexed Oq3.Ref Oq3.Parser Oq3.Grammar Oq3.Builder Oq3.Bridge
open Oq3.Lemmas.Lexer Oq3.Lemmas.Lexed Oq3.Lemmas.LexLocal Oq3.Props.C15 Oq3.BuilderLayout
open Oq3.C17Lex Oq3.C17Rename

variable {uc : UC}

def renItems (ρ : Ren) : List (Lexeme × Sep) → List (Lexeme × Sep) → Bool
  | [], [] => true
  | (l, s) :: r, (l', s') :: r' =>
    l'.kind == l.kind && l'.text == phi ρ l.kind l.text && s' == s && renItems ρ r r'
  | _, _ => false

variable {ρ : Ren}

theorem sepRaw_rn (s : Sep) : (sepRaw s).map (rn (phi ρ)) = sepRaw s := by
  have h := sepRaw_trivia s
  generalize sepRaw s = l at h
  induction l with
  | nil => rfl
  | cons x xs ih =>
    rw [List.map_cons, rn_trivia (fun k t hk => phi_ne ρ t hk) (isTrivia_ne_ident (h x (by simp))), ih (fun t ht => h t (by simp [ht]))]

theorem renItems_cons {l l' : Lexeme} {s s' : Sep} {r r' : List (Lexeme × Sep)}
    (h : renItems ρ ((l, s) :: r) ((l', s') :: r') = true) :
    l'.kind = l.kind ∧ l'.text = phi ρ l.kind l.text ∧ s' = s ∧ renItems ρ r r' = true := by
  simp only [renItems, Bool.and_eq_true, beq_iff_eq] at h
  exact ⟨h.1.1.1, h.1.1.2, h.1.2, h.2⟩

theorem renItems_ind {P : List (Lexeme × Sep) → List (Lexeme × Sep) → Prop} (nil : P [] [])
    (cons : ∀ l l' s r r', l'.kind = l.kind → l'.text = phi ρ l.kind l.text →
      renItems ρ r r' = true → P r r' → P ((l, s) :: r) ((l', s) :: r')) :
    ∀ {items₁ items₂}, renItems ρ items₁ items₂ = true → P items₁ items₂
  | [], [], _ => nil
  | [], _ :: _, h => by simp [renItems] at h
  | _ :: _, [], h => by simp [renItems] at h
  | (l, s) :: r, (l', s') :: r', h => by
    obtain ⟨hk, ht, rfl, hr⟩ := renItems_cons h
    exact cons l l' _ r r' hk ht hr (renItems_ind nil cons hr)

theorem renItems_kinds {items₁ items₂ : List (Lexeme × Sep)} (h : renItems ρ items₁ items₂ = true) :
    items₂.map (·.1.kind) = items₁.map (·.1.kind) :=
  renItems_ind (P := fun a b => b.map (·.1.kind) = a.map (·.1.kind)) rfl
    (fun _ _ _ _ _ hk _ _ ih => by simp only [List.map_cons, hk, ih]) h

theorem renItems_isEmpty {items₁ items₂ : List (Lexeme × Sep)} (h : renItems ρ items₁ items₂ = true) :
    items₂.isEmpty = items₁.isEmpty :=
  renItems_ind (P := fun a b => b.isEmpty = a.isEmpty) rfl (fun _ _ _ _ _ _ _ _ _ => rfl) h

theorem floatJoint_rn {l l' : Lexeme} (hk : l'.kind = l.kind) (ht : l'.text = phi ρ l.kind l.text) :
    floatJoint l' = floatJoint l := by
  unfold floatJoint
  rw [hk, ht]
  by_cases hf : (l.kind == SyntaxKind.FLOAT_NUMBER) = true
  · have : l.kind ≠ .IDENT := by rw [eq_of_beq hf]; decide
    rw [phi_ne ρ _ this]
  · simp [hf]

theorem renItems_joint {items₁ items₂ : List (Lexeme × Sep)} (h : renItems ρ items₁ items₂ = true) :
    jointOf items₂ = jointOf items₁ :=
  renItems_ind (P := fun a b => jointOf b = jointOf a) rfl
    (fun _ _ _ _ _ hk ht hr ih => by
      simp only [jointOf, renItems_isEmpty hr, floatJoint_rn hk ht, ih]) h

theorem renItems_raw {items₁ items₂ : List (Lexeme × Sep)} (h : renItems ρ items₁ items₂ = true) :
    itemsRaw items₂ = (itemsRaw items₁).map (rn (phi ρ)) :=
  renItems_ind (P := fun a b => itemsRaw b = (itemsRaw a).map (rn (phi ρ))) rfl
    (fun _ _ _ _ _ hk ht _ ih => by
      simp only [itemsRaw, List.map_cons, List.map_append, sepRaw_rn, ih, rn, hk, ht]) h

theorem rename_rawToks (hu : AsciiUC uc) (lead : Sep) (items₁ items₂ : List (Lexeme × Sep))
    (hren : renItems ρ items₁ items₂ = true)
    (h1 : sepOK lead (itemsText items₁) = true) (h1' : itemsOK uc items₁ = true)
    (h2 : sepOK lead (itemsText items₂) = true) (h2' : itemsOK uc items₂ = true) :
    rawToksOf (lexedOf uc (sepText lead ++ itemsText items₂)) =
      (rawToksOf (lexedOf uc (sepText lead ++ itemsText items₁))).map (rn (phi ρ)) := by
  rw [layout_rawToks hu lead items₁ h1 h1', layout_rawToks hu lead items₂ h2 h2', List.map_append,
    sepRaw_rn, renItems_raw hren]

theorem parse_fits (uc : UC) (s : List Char) (inp : Input) (fuel npl : Nat) (events : Array Ev)
    (pos : Nat) (steps : List Step) (hi : (lexedOf uc s).toInput = some inp)
    (hp : parseSourceFile fuel inp.kind.toArray inp.joint.toArray npl = .ok (events, pos))
    (hs : process events.toList = some steps) :
    rooted steps = true ∧ fitsGo (rawToksOf (lexedOf uc s)) (itemsS steps) = true ∧
      tokIdI (ntKinds (rawToksOf (lexedOf uc s))) 0 (itemsS steps) = true := by
  obtain ⟨hrooted, hfit⟩ := Oq3.Props.C02.parse_fits uc s inp fuel npl events pos steps hi hp hs
  have hinp := toInput_exact uc s
  rw [hi] at hinp
  simp only [Option.some.injEq] at hinp
  subst hinp
  refine ⟨hrooted, hfit, ?_⟩
  rw [process_items _ _ hs, ← tokIdE_items]
  exact parse_tokId fuel _ _ npl events pos hp

end Oq3.RenameText
