/-
`eraseTrivia` on the concrete syntax tree and the fact that every accessor of
`Model/Accessors.lean` COMMUTES with it: an accessor applied to the erased node returns the erased
constituent (`A (E n) = (A n).map E`); accessors that return text or an operator return the same
value.

`eraseTrivia` drops every WHITESPACE/COMMENT *token* child, at every level, and sets every
`start`/`stop` to 0.

The only accessors that look at a child WITHOUT skipping trivia are `text_of_first_token`
(`Name`/`Identifier`/`HardwareQubit`/`Param` text, `pragma_text`, `annotation_text`) and
`PrefixExpr::op_token` (`first_child_or_token`): they read the FIRST child, trivia or not.  For
these the commutation needs the node not to start with a trivia token (`headLocal`); `headOk`
states that for all nodes of those seven kinds in a tree.  The tree builder guarantees it
(trivia before a node is attached outside, in front of it) — see `Lemmas/BuilderHead.lean`
(`buildTree_rootHeadOkT`, `rootHeadOk_cnodeOf`).
-/
import Oq3.Lemmas.AccMap

namespace Oq3.Acc
open Oq3.Gen

def isTriviaTok (c : CNode) : Bool := c.isToken && c.kind.isTrivia

mutual
def eraseTrivia : CNode → CNode
  | .node k _ _ cs => .node k 0 0 (eraseTriviaL cs)
  | .token k _ _ t => .token k 0 0 t
def eraseTriviaL : List CNode → List CNode
  | [] => []
  | c :: cs => if isTriviaTok c then eraseTriviaL cs else eraseTrivia c :: eraseTriviaL cs
end

local notation "E" => eraseTrivia

theorem eraseTriviaL_eq (cs : List CNode) :
    eraseTriviaL cs = (cs.filter (fun c => !isTriviaTok c)).map E := by
  induction cs with
  | nil => rfl
  | cons c cs ih =>
    by_cases h : isTriviaTok c = true <;> simp [eraseTriviaL, h, ih]

/-- the kinds whose accessors read the first child without skipping trivia -/
def headKind : SyntaxKind → Bool
  | .NAME | .IDENTIFIER | .HARDWARE_QUBIT | .PARAM | .PRAGMA_STATEMENT | .ANNOTATION_STATEMENT
  | .PREFIX_EXPR => true
  | _ => false

def headLocal (n : CNode) : Bool :=
  match n.children with
  | c :: _ => !isTriviaTok c
  | [] => true

mutual
/-- a condition at one node, `headLocal`, asked of every node: `renOk` of
`Lemmas/RenameTextAcc.lean` is built the same way, with the same three lemmas -/
def headOk : CNode → Bool
  | .node k s e cs => (!headKind k || headLocal (.node k s e cs)) && headOkL cs
  | .token .. => true
def headOkL : List CNode → Bool
  | [] => true
  | c :: cs => headOk c && headOkL cs
end

theorem headOkL_mem {cs : List CNode} (h : headOkL cs = true) {c : CNode} (hc : c ∈ cs) :
    headOk c = true := by
  induction cs with
  | nil => cases hc
  | cons d ds ih =>
    simp only [headOkL, Bool.and_eq_true] at h
    rcases List.mem_cons.mp hc with rfl | hm
    · exact h.1
    · exact ih h.2 hm

theorem headOk_children {n c : CNode} (h : headOk n = true) (hc : c ∈ n.children) : headOk c = true := by
  cases n with
  | token => cases hc
  | node k s e cs =>
    simp only [headOk, Bool.and_eq_true] at h
    exact headOkL_mem h.2 hc

theorem headOk_local {n : CNode} (h : headOk n = true) (hk : headKind n.kind = true) :
    headLocal n = true := by
  cases n with
  | token => rfl
  | node k s e cs =>
    simp only [headOk, Bool.and_eq_true, Bool.or_eq_true, Bool.not_eq_true'] at h
    simp only [CNode.kind] at hk
    rcases h.1 with h1 | h1
    · rw [hk] at h1; cases h1
    · exact h1

@[simp] theorem kind_E (c : CNode) : (E c).kind = c.kind := by cases c <;> rfl
@[simp] theorem isNode_E (c : CNode) : (E c).isNode = c.isNode := by cases c <;> rfl
@[simp] theorem isToken_E (c : CNode) : (E c).isToken = c.isToken := by cases c <;> rfl
@[simp] theorem tokenText_E (c : CNode) : (E c).tokenText = c.tokenText := by cases c <;> rfl
@[simp] theorem start_E (c : CNode) : (E c).start = 0 := by cases c <;> rfl
@[simp] theorem stop_E (c : CNode) : (E c).stop = 0 := by cases c <;> rfl
@[simp] theorem isTriviaTok_E (c : CNode) : isTriviaTok (E c) = isTriviaTok c := by simp [isTriviaTok]

theorem span_E (c : CNode) : Build.span (E c) = ⟨0, 0⟩ := by simp [Build.span]

theorem children_E (n : CNode) :
    (E n).children = (n.children.filter (fun c => !isTriviaTok c)).map E := by
  cases n with
  | token => rfl
  | node k s e cs => simp [eraseTrivia, CNode.children, eraseTriviaL_eq]

theorem filter_isNode_E (l : List CNode) :
    ((l.filter (fun c => !isTriviaTok c)).map E).filter CNode.isNode = (l.filter CNode.isNode).map E := by
  rw [List.filter_map, List.filter_filter]
  congr 1
  apply List.filter_congr
  intro c _
  cases c <;> simp [isTriviaTok, CNode.isNode, CNode.isToken, eraseTrivia]

theorem filter_isToken_E (l : List CNode) :
    ((l.filter (fun c => !isTriviaTok c)).map E).filter CNode.isToken =
      ((l.filter CNode.isToken).filter (fun c => !c.kind.isTrivia)).map E := by
  rw [List.filter_map, List.filter_filter, List.filter_filter]
  congr 1
  apply List.filter_congr
  intro c _
  cases c <;> simp [isTriviaTok, CNode.isToken, eraseTrivia, CNode.kind]

theorem childNodes_E (n : CNode) : (E n).childNodes = n.childNodes.map E := by
  simp only [CNode.childNodes, children_E, filter_isNode_E]

theorem childTokens_E (n : CNode) :
    (E n).childTokens = (n.childTokens.filter (fun c => !c.kind.isTrivia)).map E := by
  simp only [CNode.childTokens, children_E, filter_isToken_E]

theorem firstNonTrivia_E (l : List CNode) :
    ((l.filter (fun c => !isTriviaTok c)).map E).find? (fun e => !e.kind.isTrivia) =
      (l.find? (fun e => !e.kind.isTrivia)).map E := by
  induction l with
  | nil => rfl
  | cons c cs ih =>
    by_cases hk : c.kind.isTrivia = true
    · by_cases ht : isTriviaTok c = true <;> simp [List.filter_cons, ht, List.find?_cons, hk, ih]
    · have ht : isTriviaTok c = false := by simp [isTriviaTok, hk]
      simp [List.filter_cons, ht, List.find?_cons, hk]

/-- every accessor commutes with `eraseTrivia` (`Lemmas/AccMap.lean`) -/
theorem E_map : NodeMap eraseTrivia where
  kind := kind_E
  isToken := isToken_E
  tokenText := fun c _ => tokenText_E c
  childNodes := childNodes_E
  childTokens := fun n => by
    rw [childTokens_E, List.filter_map, List.filter_filter]
    simp only [Function.comp_def, kind_E, Bool.and_self]
  firstNonTrivia := fun n => by rw [children_E, firstNonTrivia_E]

/-- an instance of `E_map` for reference; no proof uses it -/
theorem call_identifier_E (n : CNode) : CallExpr.identifier (E n) = (CallExpr.identifier n).map E :=
  E_map.call_identifier n

theorem head_children_E {n : CNode} (h : headLocal n = true) :
    (E n).children.head? = n.children.head?.map E := by
  rw [children_E]
  unfold headLocal at h
  rcases hc : n.children with _ | ⟨c, r⟩
  · rfl
  · rw [hc] at h
    simp only [Bool.not_eq_true'] at h
    simp [List.filter_cons, h]

theorem textOfFirstToken_E {n : CNode} (h : headLocal n = true) :
    textOfFirstToken (E n) = textOfFirstToken n := by
  unfold textOfFirstToken
  rw [head_children_E h]
  rcases n.children.head? with _ | c
  · rfl
  · cases c <;> rfl

end Oq3.Acc
