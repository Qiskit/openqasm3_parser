/-
Building the typed AST (`Lemmas/AccBuild.lean`) commutes with a map of the concrete syntax tree:

  `Build.program (T root) = (Build.program root).map m.program`          (`BuildMap.program`)

for a tree map `T` under which the accessors commute (`NodeMap T`, `Lemmas/AccMap.lean`) and a
lawful map `m` of the typed AST (`Lemmas/AstMap.lean`), when `T` does to the range of a node what
`m.span` does and to the text of a `Name`/`Identifier`/`Param` node what `m.text` does, and keeps
the other texts the accessors read from the FIRST child whatever its kind (`HardwareQubit`, pragma,
annotation, the time unit of a timing literal, the operator of a prefix expression).  All the
hypotheses on texts are asked under a side condition `Ok` on the tree, inherited by children;
`BuildMap` lists what is assumed.
Proof: all `Build` functions at once, by induction on the fuel, one `step_*` lemma each.

Instances: erasing trivia and ranges (`Lemmas/AccLayout.lean`), renaming identifiers
(`Lemmas/RenameTextBuild.lean`).
-/
import Oq3.Lemmas.AccMap
import Oq3.Lemmas.AstMap

namespace Oq3.Acc
open Oq3.Gen

theorem children_supp_getElem_mem {can : SyntaxKind → Bool} {n c : CNode} {i : Nat}
    (h : (support.children can n)[i]? = some c) : c ∈ n.children :=
  children_supp_mem (List.mem_of_getElem? h)

theorem children_supp_head_mem {can : SyntaxKind → Bool} {n c : CNode}
    (h : (support.children can n).head? = some c) : c ∈ n.children :=
  children_supp_mem (List.mem_of_mem_head? h)

theorem condition_mem {n c : CNode} (h : IfStmt.condition n = some c) : c ∈ n.children := by
  unfold IfStmt.condition at h
  dsimp only at h
  cases hh : (support.children Expr.canCast n).head? with
  | none => rw [hh] at h; cases h
  | some e =>
    rw [hh] at h
    have he := children_supp_head_mem hh
    simp only at h
    split at h
    · cases h2 : (support.children Expr.canCast n)[1]? with
      | none => rw [h2] at h; cases h
      | some x => rw [h2] at h; cases h; exact he
    · cases h; exact he

theorem assign_rhs_mem {n c : CNode} (h : AssignmentStmt.rhs n = some c) : c ∈ n.children := by
  unfold AssignmentStmt.rhs at h
  simp only at h
  split at h
  · exact children_supp_getElem_mem h
  · exact children_supp_head_mem h

theorem range_mem {n c : CNode} :
    ((RangeExpr.start_step_stop n).1 = some c → c ∈ n.children) ∧
    ((RangeExpr.start_step_stop n).2.1 = some c → c ∈ n.children) ∧
    ((RangeExpr.start_step_stop n).2.2 = some c → c ∈ n.children) := by
  unfold RangeExpr.start_step_stop
  simp only
  split
  · refine ⟨children_supp_head_mem, ?_, children_supp_getElem_mem⟩
    intro h; exact children_supp_getElem_mem h
  · exact ⟨children_supp_head_mem, children_supp_getElem_mem, children_supp_getElem_mem⟩

theorem call_identifier_mem {n c : CNode} (h : GateCallExpr.identifier n = some c) :
    c ∈ n.children ∧ Identifier.canCast c.kind = true := by
  unfold GateCallExpr.identifier at h
  cases hh : (support.children Expr.canCast n).head? with
  | none => rw [hh] at h; cases h
  | some e =>
    rw [hh] at h
    simp only at h
    split at h
    · cases h; exact ⟨children_supp_head_mem hh, by unfold Identifier.canCast; assumption⟩
    · cases h

theorem gate_params_mem {n c : CNode} :
    (Gate.angle_params n = some c → c ∈ n.children) ∧ (Gate.qubit_params n = some c → c ∈ n.children) := by
  unfold Gate.angle_params Gate.qubit_params Gate.angles_and_or_qubits
  simp only
  constructor
  · intro h; split at h
    · exact children_supp_getElem_mem h
    · exact children_supp_head_mem h
  · intro h; split at h
    · exact children_supp_head_mem h
    · exact children_supp_getElem_mem h

/-- `then_branch_block` (`i = 1`), `else_branch_block` (`i = 2`) -/
theorem blockAt_mem {n c : CNode} {i : Nat}
    (h : (match (support.children Expr.canCast n)[i]? with
          | some e => if Expr.isBlockExpr e then some e else none
          | none => none) = some c) : c ∈ n.children := by
  cases hh : (support.children Expr.canCast n)[i]? with
  | none => rw [hh] at h; cases h
  | some e =>
    rw [hh] at h; simp only at h; split at h
    · cases h; exact children_supp_getElem_mem hh
    · cases h

/-- the bodies of `if` (true branch), `while` and `for` -/
theorem bos_mem {o1 o2 : Option CNode} {cs : List CNode} {v : BlockOrStmt}
    (h : (match o1 with
          | some b => PRes.ok (BlockOrStmt.blockExpr b)
          | none =>
            match o2 with
            | some s => .ok (.stmt s)
            | none => .panic) = .ok v)
    (h1 : ∀ b, o1 = some b → b ∈ cs) (h2 : ∀ s, o2 = some s → s ∈ cs) : bosNode v ∈ cs := by
  cases o1 with
  | some b => cases h; exact h1 b rfl
  | none =>
    cases o2 with
    | some s => cases h; exact h2 s rfl
    | none => cases h

theorem if_true_body_mem {n : CNode} {v : BlockOrStmt} (h : IfStmt.true_body_block_or_stmt n = .ok v) :
    bosNode v ∈ n.children := bos_mem h (fun _ => blockAt_mem) fun _ => child_supp_mem

theorem while_body_mem {n : CNode} {v : BlockOrStmt} (h : WhileStmt.block_or_stmt n = .ok v) :
    bosNode v ∈ n.children := bos_mem h (fun _ => children_supp_head_mem) fun _ => children_supp_head_mem

theorem for_body_mem {n : CNode} {v : BlockOrStmt} (h : ForStmt.block_or_stmt n = .ok v) :
    bosNode v ∈ n.children := bos_mem h (fun _ => child_supp_mem) fun _ => child_supp_mem

theorem if_false_body_mem {n : CNode} {v : BlockOrStmt} (h : IfStmt.false_body_block_or_stmt n = some v) :
    bosNode v ∈ n.children := by
  unfold IfStmt.false_body_block_or_stmt at h
  cases hb : IfStmt.else_branch_block n with
  | some b => rw [hb] at h; cases h; exact blockAt_mem hb
  | none =>
    rw [hb] at h
    cases hs : IfStmt.else_branch_stmt n with
    | some s => rw [hs] at h; cases h; exact child_supp_mem hs
    | none => rw [hs] at h; cases h

/-- `T` does to a syntax tree what the lawful `m` does to its typed AST.  The last four fields are
about `text_of_first_token` and `first_child_or_token`, which read the first child whatever its
kind and so are not covered by `NodeMap`; they are asked only of the kinds of node whose builder
calls them, and under the side condition `Ok`. -/
structure BuildMap (m : Ast.Map) (T : CNode → CNode) (Ok : CNode → Prop) : Prop
    extends NodeMap T, m.Lawful where
  ok_children : ∀ {n c}, Ok n → c ∈ n.children → Ok c
  /-- the fuel of `Build.program` is computed from the depth -/
  depth : ∀ n, (T n).depth = n.depth
  span : ∀ n, Build.span (T n) = m.span (Build.span n)
  nameText : ∀ {n}, Ok n → n.kind = .NAME ∨ n.kind = .IDENTIFIER ∨ n.kind = .PARAM →
    Build.text (T n) = (Build.text n).map m.text
  fixedText : ∀ {n}, Ok n →
    n.kind = .HARDWARE_QUBIT ∨ n.kind = .PRAGMA_STATEMENT ∨ n.kind = .ANNOTATION_STATEMENT →
    textOfFirstToken (T n) = textOfFirstToken n
  timeUnit : ∀ {n i}, Ok n → n.kind = .TIMING_LITERAL → support.child Identifier.canCast n = some i →
    textOfFirstToken (T i) = textOfFirstToken i
  prefixHead : ∀ {n}, Ok n → n.kind = .PREFIX_EXPR → (T n).children.head? = n.children.head?.map T

namespace BuildMap
variable {m : Ast.Map} {T : CNode → CNode} {Ok : CNode → Prop} (h : BuildMap m T Ok)
include h

theorem optM {α : Type} {f : CNode → BM α} {g : α → α} (n : CNode) (o : Option CNode)
    (hn : Ok n) (hm : ∀ c, o = some c → c ∈ n.children) (ih : ∀ c, Ok c → f (T c) = (f c).map g) :
    Build.optM f (o.map T) = (Build.optM f o).map (Option.map g) :=
  optM_map Ok o (fun c hc => h.ok_children hn (hm c hc)) ih

/-- for a child found by `support.child`; the callee gets the kind of the child -/
theorem optM_childK {α : Type} {f : CNode → BM α} {g : α → α} (can : SyntaxKind → Bool) (n : CNode)
    (hn : Ok n) (ih : ∀ c, Ok c → can c.kind = true → f (T c) = (f c).map g) :
    Build.optM f (support.child can (T n)) = (Build.optM f (support.child can n)).map (Option.map g) := by
  rw [h.child_supp]
  exact optM_map (fun c => Ok c ∧ can c.kind = true) _
    (fun _ hc => ⟨h.ok_children hn (child_supp_mem hc), child_kind hc⟩) (fun c hc => ih c hc.1 hc.2)

theorem optM_child {α : Type} {f : CNode → BM α} {g : α → α} {can : SyntaxKind → Bool} (n : CNode)
    (hn : Ok n) (ih : ∀ c, Ok c → f (T c) = (f c).map g) :
    Build.optM f (support.child can (T n)) = (Build.optM f (support.child can n)).map (Option.map g) :=
  h.optM_childK can n hn fun c hc _ => ih c hc

theorem listM_childrenK {α : Type} {f : CNode → BM α} {g : α → α} (can : SyntaxKind → Bool) (n : CNode)
    (hn : Ok n) (ih : ∀ c, Ok c → can c.kind = true → f (T c) = (f c).map g) :
    Build.listM f (support.children can (T n)) =
      (Build.listM f (support.children can n)).map (List.map g) := by
  rw [h.children_supp]
  exact listM_map (fun c => Ok c ∧ can c.kind = true) _
    (fun _ hc => ⟨h.ok_children hn (children_supp_mem hc), children_kind hc⟩) (fun c hc => ih c hc.1 hc.2)

theorem listM_children {α : Type} {f : CNode → BM α} {g : α → α} {can : SyntaxKind → Bool} (n : CNode)
    (hn : Ok n) (ih : ∀ c, Ok c → f (T c) = (f c).map g) :
    Build.listM f (support.children can (T n)) =
      (Build.listM f (support.children can n)).map (List.map g) :=
  h.listM_childrenK can n hn fun c hc _ => ih c hc

theorem name {n : CNode} (hn : Ok n) (hk : Name.canCast n.kind = true) :
    Build.name (T n) = (Build.name n).map m.name := by
  unfold Build.name
  rw [h.nameText hn (.inl (by simpa [Name.canCast] using hk)), h.span]
  cases Build.text n <;> simp [Except.map, h.name_mk]

theorem identifier {n : CNode} (hn : Ok n) (hk : Identifier.canCast n.kind = true) :
    Build.identifier (T n) = (Build.identifier n).map m.identifier := by
  unfold Build.identifier
  rw [h.nameText hn (.inr (.inl (by simpa [Identifier.canCast] using hk))), h.span]
  cases Build.text n <;> simp [Except.map, h.identifier_mk]

theorem param {n : CNode} (hn : Ok n) (hk : Param.canCast n.kind = true) :
    Build.param (T n) = (Build.param n).map m.param := by
  unfold Build.param
  rw [h.nameText hn (.inr (.inr (by simpa [Param.canCast] using hk))), h.span]
  cases Build.text n <;> simp [Except.map, h.param_mk]

theorem hardwareQubit {n : CNode} (hn : Ok n) (hk : HardwareQubit.canCast n.kind = true) :
    Build.hardwareQubit (T n) = (Build.hardwareQubit n).map m.hardwareQubit := by
  unfold Build.hardwareQubit Build.text HasTextNode.text
  rw [h.fixedText hn (.inl (by simpa [HardwareQubit.canCast] using hk)), h.span]
  cases Build.ofPRes (textOfFirstToken n) <;> simp [Except.map, h.hardwareQubit_mk]

theorem paramList {n : CNode} (hn : Ok n) :
    Build.paramList (T n) = (Build.paramList n).map m.paramList := by
  unfold Build.paramList ParamList.params
  rw [h.span, h.listM_childrenK Param.canCast n hn (fun _ => h.param)]
  cases Build.listM Build.param (support.children Param.canCast n) <;> simp [Except.map, h.paramList_mk]

theorem literal (n : CNode) : Build.literal (T n) = (Build.literal n).map m.literal := by
  unfold Build.literal
  rw [h.span]
  have := h.literal_kind n
  cases h1 : Literal.kind (T n) <;> cases h2 : Literal.kind n <;> rw [h1, h2] at this <;>
    simp only [PRes.map, PRes.ok.injEq, reduceCtorEq] at this <;>
    simp [Build.ofPRes, Except.map, this, h.literal_mk]

theorem timingLiteral {n : CNode} (hn : Ok n) (hk : n.kind = .TIMING_LITERAL) :
    Build.timingLiteral (T n) = (Build.timingLiteral n).map m.expr := by
  unfold Build.timingLiteral TimingLiteral.time_unit TimingLiteral.identifier TimingLiteral.literal
    Build.text HasTextNode.text
  rw [h.optM_child n hn (fun c _ => h.literal c), h.child_supp, h.span]
  generalize Build.optM Build.literal (support.child Literal.canCast n) = l
  cases hi : support.child Identifier.canCast n with
  | none => cases l <;> simp [Build.ofPRes, Build.optM, Except.map, h.expr_timingLiteral]
  | some i =>
    simp only [Option.map_some, Build.optM, h.timeUnit hn hk hi]
    cases textOfFirstToken i <;> cases l <;> simp [Build.ofPRes, Except.map, h.expr_timingLiteral]

theorem pragma_text {n : CNode} (hn : Ok n) (hk : n.kind = .PRAGMA_STATEMENT) :
    PragmaStatement.pragma_text (T n) = PragmaStatement.pragma_text n := by
  unfold PragmaStatement.pragma_text
  rw [h.fixedText hn (.inr (.inl hk))]

theorem filePath (n : CNode) : Build.filePath (T n) = (Build.filePath n).map m.filePath := by
  unfold Build.filePath
  rw [h.file_to_string, h.span]
  cases Build.ofPRes (FilePath.to_string n) <;> simp [Except.map, h.filePath_mk]

variable (m T Ok) in
structure IH (fuel : Nat) : Prop where
  expr : ∀ n, Ok n → Build.expr fuel (T n) = (Build.expr fuel n).map m.expr
  designator : ∀ n, Ok n → Build.designator fuel (T n) = (Build.designator fuel n).map m.designator
  scalarType : ∀ n, Ok n → Build.scalarType fuel (T n) = (Build.scalarType fuel n).map m.scalarType
  expressionList : ∀ n, Ok n →
    Build.expressionList fuel (T n) = (Build.expressionList fuel n).map m.expressionList
  setExpression : ∀ n, Ok n →
    Build.setExpression fuel (T n) = (Build.setExpression fuel n).map m.setExpression
  rangeExpr : ∀ n, Ok n → Build.rangeExpr fuel (T n) = (Build.rangeExpr fuel n).map m.rangeExpr
  indexOperator : ∀ n, Ok n →
    Build.indexOperator fuel (T n) = (Build.indexOperator fuel n).map m.indexOperator
  indexedIdentifier : ∀ n, Ok n →
    Build.indexedIdentifier fuel (T n) = (Build.indexedIdentifier fuel n).map m.indexedIdentifier
  gateOperand : ∀ n, Ok n → Build.gateOperand fuel (T n) = (Build.gateOperand fuel n).map m.gateOperand
  qubitList : ∀ n, Ok n → Build.qubitList fuel (T n) = (Build.qubitList fuel n).map m.qubitList
  argList : ∀ n, Ok n → Build.argList fuel (T n) = (Build.argList fuel n).map m.argList
  parenExpr : ∀ n, Ok n → Build.parenExpr fuel (T n) = (Build.parenExpr fuel n).map m.parenExpr
  gateCallExpr : ∀ n, Ok n →
    Build.gateCallExpr fuel (T n) = (Build.gateCallExpr fuel n).map m.gateCallExpr
  gPhaseCallExpr : ∀ n, Ok n →
    Build.gPhaseCallExpr fuel (T n) = (Build.gPhaseCallExpr fuel n).map m.gPhaseCallExpr
  modifier : ∀ n, Ok n → Build.modifier fuel (T n) = (Build.modifier fuel n).map m.modifier
  paramType : ∀ n, Ok n → Build.paramType fuel (T n) = (Build.paramType fuel n).map m.paramType
  typedParam : ∀ n, Ok n → Build.typedParam fuel (T n) = (Build.typedParam fuel n).map m.typedParam
  typedParamList : ∀ n, Ok n →
    Build.typedParamList fuel (T n) = (Build.typedParamList fuel n).map m.typedParamList
  forIterable : ∀ n, Ok n → Build.forIterable fuel (T n) = (Build.forIterable fuel n).map m.forIterable
  stmt : ∀ n, Ok n → Build.stmt fuel (T n) = (Build.stmt fuel n).map m.stmt
  blockExpr : ∀ n, Ok n → Build.blockExpr fuel (T n) = (Build.blockExpr fuel n).map m.blockExpr
  blockOrStmt : ∀ v, Ok (bosNode v) →
    Build.blockOrStmt fuel (v.map T) = (Build.blockOrStmt fuel v).map m.blockOrStmt
  caseExpr : ∀ n, Ok n → Build.caseExpr fuel (T n) = (Build.caseExpr fuel n).map m.caseExpr

variable {fuel : Nat}

theorem step_designator (ih : IH m T Ok fuel) (n : CNode) (hn : Ok n) :
    Build.designator (fuel + 1) (T n) = (Build.designator (fuel + 1) n).map m.designator := by
  unfold Build.designator Designator.expr
  rw [h.optM_child n hn ih.expr, h.span]
  cases Build.optM (Build.expr fuel) (support.child Expr.canCast n) <;>
    simp [Except.map, h.designator_mk]

theorem step_scalarType (ih : IH m T Ok fuel) (n : CNode) (hn : Ok n) :
    Build.scalarType (fuel + 1) (T n) = (Build.scalarType (fuel + 1) n).map m.scalarType := by
  unfold Build.scalarType ScalarType.designator ScalarType.scalar_type
  rw [h.scalar_kind, h.optM_child n hn ih.designator, h.optM_child n hn ih.scalarType, h.span]
  cases Build.ofPRes (ScalarType.kind n) <;>
  cases Build.optM (Build.designator fuel) (support.child Designator.canCast n) <;>
  cases Build.optM (Build.scalarType fuel) (support.child ScalarType.canCast n) <;>
    simp [Except.map, h.scalarType_mk]

theorem step_expressionList (ih : IH m T Ok fuel) (n : CNode) (hn : Ok n) :
    Build.expressionList (fuel + 1) (T n) = (Build.expressionList (fuel + 1) n).map m.expressionList := by
  unfold Build.expressionList ExpressionList.exprs
  rw [h.listM_children n hn ih.expr, h.span]
  cases Build.listM (Build.expr fuel) (support.children Expr.canCast n) <;>
    simp [Except.map, h.expressionList_mk]

theorem step_setExpression (ih : IH m T Ok fuel) (n : CNode) (hn : Ok n) :
    Build.setExpression (fuel + 1) (T n) = (Build.setExpression (fuel + 1) n).map m.setExpression := by
  unfold Build.setExpression SetExpression.expression_list
  rw [h.optM_child n hn ih.expressionList, h.span]
  cases Build.optM (Build.expressionList fuel) (support.child ExpressionList.canCast n) <;>
    simp [Except.map, h.setExpression_mk]

theorem step_rangeExpr (ih : IH m T Ok fuel) (n : CNode) (hn : Ok n) :
    Build.rangeExpr (fuel + 1) (T n) = (Build.rangeExpr (fuel + 1) n).map m.rangeExpr := by
  unfold Build.rangeExpr
  rw [h.range_sss]
  simp only
  rw [h.optM n _ hn (fun _ hc => range_mem.1 hc) ih.expr,
    h.optM n _ hn (fun _ hc => range_mem.2.1 hc) ih.expr,
    h.optM n _ hn (fun _ hc => range_mem.2.2 hc) ih.expr, h.span]
  cases Build.optM (Build.expr fuel) (RangeExpr.start_step_stop n).1 <;>
  cases Build.optM (Build.expr fuel) (RangeExpr.start_step_stop n).2.1 <;>
  cases Build.optM (Build.expr fuel) (RangeExpr.start_step_stop n).2.2 <;>
    simp [Except.map, h.rangeExpr_mk]

theorem indexKindOf (ih : IH m T Ok fuel) (n : CNode) (hn : Ok n) :
    Build.indexKindOf (Build.setExpression fuel) (Build.expressionList fuel) (T n) =
      (Build.indexKindOf (Build.setExpression fuel) (Build.expressionList fuel) n).map m.indexKind := by
  unfold Build.indexKindOf
  rw [h.kind]
  split
  · rw [ih.setExpression n hn]
    cases Build.setExpression fuel n <;> simp [Except.map, h.indexKind_setExpression]
  · rw [ih.expressionList n hn]
    cases Build.expressionList fuel n <;> simp [Except.map, h.indexKind_expressionList]

theorem step_indexOperator (ih : IH m T Ok fuel) (n : CNode) (hn : Ok n) :
    Build.indexOperator (fuel + 1) (T n) = (Build.indexOperator (fuel + 1) n).map m.indexOperator := by
  unfold Build.indexOperator IndexOperator.index_kind
  rw [h.optM_child n hn (h.indexKindOf ih), h.span]
  cases Build.optM (Build.indexKindOf (Build.setExpression fuel) (Build.expressionList fuel))
      (support.child IndexKind.canCast n) <;>
    simp [Except.map, h.indexOperator_mk]

theorem step_indexedIdentifier (ih : IH m T Ok fuel) (n : CNode) (hn : Ok n) :
    Build.indexedIdentifier (fuel + 1) (T n) =
      (Build.indexedIdentifier (fuel + 1) n).map m.indexedIdentifier := by
  unfold Build.indexedIdentifier IndexedIdentifier.identifier IndexedIdentifier.index_operators
  rw [h.optM_childK Identifier.canCast n hn (fun _ => h.identifier), h.listM_children n hn ih.indexOperator,
    h.span]
  cases Build.optM Build.identifier (support.child Identifier.canCast n) <;>
  cases Build.listM (Build.indexOperator fuel) (support.children IndexOperator.canCast n) <;>
    simp [Except.map, h.indexedIdentifier_mk]

theorem step_gateOperand (ih : IH m T Ok fuel) (n : CNode) (hn : Ok n) :
    Build.gateOperand (fuel + 1) (T n) = (Build.gateOperand (fuel + 1) n).map m.gateOperand := by
  unfold Build.gateOperand
  rw [h.kind]
  split
  · rename_i hk
    rw [h.hardwareQubit hn (by simpa [HardwareQubit.canCast] using hk)]
    cases Build.hardwareQubit n <;> simp [Except.map, h.gateOperand_hardwareQubit]
  · split
    · rename_i hk
      rw [h.identifier hn (by simpa [Identifier.canCast] using hk)]
      cases Build.identifier n <;> simp [Except.map, h.gateOperand_identifier]
    · rw [ih.indexedIdentifier n hn]
      cases Build.indexedIdentifier fuel n <;> simp [Except.map, h.gateOperand_indexedIdentifier]

theorem step_qubitList (ih : IH m T Ok fuel) (n : CNode) (hn : Ok n) :
    Build.qubitList (fuel + 1) (T n) = (Build.qubitList (fuel + 1) n).map m.qubitList := by
  unfold Build.qubitList QubitList.gate_operands
  rw [h.listM_children n hn ih.gateOperand, h.span]
  cases Build.listM (Build.gateOperand fuel) (support.children GateOperand.canCast n) <;>
    simp [Except.map, h.qubitList_mk]

theorem step_argList (ih : IH m T Ok fuel) (n : CNode) (hn : Ok n) :
    Build.argList (fuel + 1) (T n) = (Build.argList (fuel + 1) n).map m.argList := by
  unfold Build.argList ArgList.expression_list
  rw [h.optM_child n hn ih.expressionList, h.span]
  cases Build.optM (Build.expressionList fuel) (support.child ExpressionList.canCast n) <;>
    simp [Except.map, h.argList_mk]

theorem step_parenExpr (ih : IH m T Ok fuel) (n : CNode) (hn : Ok n) :
    Build.parenExpr (fuel + 1) (T n) = (Build.parenExpr (fuel + 1) n).map m.parenExpr := by
  unfold Build.parenExpr ParenExpr.expr
  rw [h.optM_child n hn ih.expr, h.span]
  cases Build.optM (Build.expr fuel) (support.child Expr.canCast n) <;>
    simp [Except.map, h.parenExpr_mk]

theorem optM_call_identifier (n : CNode) (hn : Ok n) :
    Build.optM Build.identifier ((GateCallExpr.identifier n).map T) =
      (Build.optM Build.identifier (GateCallExpr.identifier n)).map (Option.map m.identifier) :=
  optM_map (fun c => Ok c ∧ Identifier.canCast c.kind = true) _
    (fun _ hc => ⟨h.ok_children hn (call_identifier_mem hc).1, (call_identifier_mem hc).2⟩)
    (fun _ hc => h.identifier hc.1 hc.2)

theorem step_gateCallExpr (ih : IH m T Ok fuel) (n : CNode) (hn : Ok n) :
    Build.gateCallExpr (fuel + 1) (T n) = (Build.gateCallExpr (fuel + 1) n).map m.gateCallExpr := by
  unfold Build.gateCallExpr GateCallExpr.qubit_list GateCallExpr.arg_list
  rw [h.gate_call_identifier, h.optM_child n hn ih.qubitList, h.optM_child n hn ih.argList,
    h.optM_call_identifier n hn, h.span]
  cases Build.optM (Build.qubitList fuel) (support.child QubitList.canCast n) <;>
  cases Build.optM (Build.argList fuel) (support.child ArgList.canCast n) <;>
  cases Build.optM Build.identifier (GateCallExpr.identifier n) <;>
    simp [Except.map, h.gateCallExpr_mk]

theorem step_gPhaseCallExpr (ih : IH m T Ok fuel) (n : CNode) (hn : Ok n) :
    Build.gPhaseCallExpr (fuel + 1) (T n) = (Build.gPhaseCallExpr (fuel + 1) n).map m.gPhaseCallExpr := by
  unfold Build.gPhaseCallExpr GPhaseCallExpr.arg
  rw [h.optM_child n hn ih.expr, h.span]
  cases Build.optM (Build.expr fuel) (support.child Expr.canCast n) <;>
    simp [Except.map, h.gPhaseCallExpr_mk]

theorem step_modifier (ih : IH m T Ok fuel) (n : CNode) (hn : Ok n) :
    Build.modifier (fuel + 1) (T n) = (Build.modifier (fuel + 1) n).map m.modifier := by
  unfold Build.modifier PowModifier.paren_expr CtrlModifier.paren_expr NegCtrlModifier.paren_expr
  rw [h.kind, h.optM_child n hn ih.parenExpr, h.span]
  split
  · simp [Except.map, h.modifier_invModifier]
  · split
    · cases Build.optM (Build.parenExpr fuel) (support.child ParenExpr.canCast n) <;>
        simp [Except.map, h.modifier_powModifier]
    · split
      · cases Build.optM (Build.parenExpr fuel) (support.child ParenExpr.canCast n) <;>
          simp [Except.map, h.modifier_ctrlModifier]
      · cases Build.optM (Build.parenExpr fuel) (support.child ParenExpr.canCast n) <;>
          simp [Except.map, h.modifier_negCtrlModifier]

theorem step_expr (ih : IH m T Ok fuel) (n : CNode) (hn : Ok n) :
    Build.expr (fuel + 1) (T n) = (Build.expr (fuel + 1) n).map m.expr := by
  unfold Build.expr
  rw [h.kind]
  split
  · -- PREFIX_EXPR
    rename_i hk
    unfold PrefixExpr.expr
    rw [h.prefix_op_kind (h.prefixHead hn hk), h.optM_child n hn ih.expr, h.span]
    cases Build.optM (Build.expr fuel) (support.child Expr.canCast n) <;>
      simp [Except.map, h.expr_prefixExpr]
  · -- PAREN_EXPR
    rw [ih.parenExpr n hn]; cases Build.parenExpr fuel n <;> simp [Except.map, h.expr_parenExpr]
  · -- BIN_EXPR
    rw [h.bin_op_kind, h.bin_lhs, h.bin_rhs,
      h.optM n (BinExpr.lhs n) hn (fun _ hc => children_supp_head_mem hc) ih.expr,
      h.optM n (BinExpr.rhs n) hn (fun _ hc => children_supp_getElem_mem hc) ih.expr, h.span]
    cases Build.optM (Build.expr fuel) (BinExpr.lhs n) <;>
    cases Build.optM (Build.expr fuel) (BinExpr.rhs n) <;>
      simp [Except.map, h.expr_binExpr]
  · -- LITERAL
    rw [h.literal]; cases Build.literal n <;> simp [Except.map, h.expr_literal]
  · -- TIMING_LITERAL
    rename_i hk; exact h.timingLiteral hn hk
  · -- IDENTIFIER
    rename_i hk
    rw [h.identifier hn (by rw [Identifier.canCast, hk]; rfl)]
    cases Build.identifier n <;> simp [Except.map, h.expr_identifier]
  · -- HARDWARE_QUBIT
    rename_i hk
    rw [h.hardwareQubit hn (by rw [HardwareQubit.canCast, hk]; rfl)]
    cases Build.hardwareQubit n <;> simp [Except.map, h.expr_hardwareQubit]
  · -- RANGE_EXPR
    rw [ih.rangeExpr n hn]; cases Build.rangeExpr fuel n <;> simp [Except.map, h.expr_rangeExpr]
  · -- INDEX_EXPR
    unfold IndexExpr.expr IndexExpr.index_operator
    rw [h.optM_child n hn ih.expr, h.optM_child n hn ih.indexOperator, h.span]
    cases Build.optM (Build.expr fuel) (support.child Expr.canCast n) <;>
    cases Build.optM (Build.indexOperator fuel) (support.child IndexOperator.canCast n) <;>
      simp [Except.map, h.expr_indexExpr]
  · -- INDEXED_IDENTIFIER
    rw [ih.indexedIdentifier n hn]
    cases Build.indexedIdentifier fuel n <;> simp [Except.map, h.expr_indexedIdentifier]
  · -- MEASURE_EXPRESSION
    unfold MeasureExpression.gate_operand
    rw [h.optM_child n hn ih.gateOperand, h.span]
    cases Build.optM (Build.gateOperand fuel) (support.child GateOperand.canCast n) <;>
      simp [Except.map, h.expr_measureExpression]
  · -- RETURN_EXPR
    unfold ReturnExpr.expr
    rw [h.optM_child n hn ih.expr, h.span]
    cases Build.optM (Build.expr fuel) (support.child Expr.canCast n) <;>
      simp [Except.map, h.expr_returnExpr]
  · -- CAST_EXPRESSION
    unfold CastExpression.scalar_type CastExpression.expr
    rw [h.optM_child n hn ih.scalarType, h.optM_child n hn ih.expr, h.span]
    cases Build.optM (Build.scalarType fuel) (support.child ScalarType.canCast n) <;>
    cases Build.optM (Build.expr fuel) (support.child Expr.canCast n) <;>
      simp [Except.map, h.expr_castExpression]
  · -- CALL_EXPR
    unfold CallExpr.arg_list
    have hid : CallExpr.identifier = GateCallExpr.identifier := rfl
    rw [hid, h.gate_call_identifier, h.optM_child n hn ih.argList, h.optM_call_identifier n hn, h.span]
    cases Build.optM (Build.argList fuel) (support.child ArgList.canCast n) <;>
    cases Build.optM Build.identifier (GateCallExpr.identifier n) <;>
      simp [Except.map, h.expr_callExpr]
  · -- GATE_CALL_EXPR
    rw [ih.gateCallExpr n hn]; cases Build.gateCallExpr fuel n <;> simp [Except.map, h.expr_gateCallExpr]
  · -- G_PHASE_CALL_EXPR
    rw [ih.gPhaseCallExpr n hn]
    cases Build.gPhaseCallExpr fuel n <;> simp [Except.map, h.expr_gPhaseCallExpr]
  · -- MODIFIED_GATE_CALL_EXPR
    unfold ModifiedGateCallExpr.modifiers ModifiedGateCallExpr.gate_call_expr
      ModifiedGateCallExpr.g_phase_call_expr
    rw [h.listM_children n hn ih.modifier, h.optM_child n hn ih.gateCallExpr,
      h.optM_child n hn ih.gPhaseCallExpr, h.span]
    cases Build.listM (Build.modifier fuel) (support.children Modifier.canCast n) <;>
    cases Build.optM (Build.gateCallExpr fuel) (support.child GateCallExpr.canCast n) <;>
    cases Build.optM (Build.gPhaseCallExpr fuel) (support.child GPhaseCallExpr.canCast n) <;>
      simp [Except.map, h.expr_modifiedGateCallExpr]
  iterate 5 simp [Except.map, h.expr_unsupported, h.span]
  rfl

theorem step_paramType (ih : IH m T Ok fuel) (n : CNode) (hn : Ok n) :
    Build.paramType (fuel + 1) (T n) = (Build.paramType (fuel + 1) n).map m.paramType := by
  simp only [Build.paramType]
  rw [h.kind]
  split
  · rw [ih.scalarType n hn]; cases Build.scalarType fuel n <;> simp [Except.map, h.paramType_scalarType]
  · simp [Except.map, h.paramType_arrayRefType, h.span]

theorem step_typedParam (ih : IH m T Ok fuel) (n : CNode) (hn : Ok n) :
    Build.typedParam (fuel + 1) (T n) = (Build.typedParam (fuel + 1) n).map m.typedParam := by
  simp only [Build.typedParam]
  unfold TypedParam.param_type TypedParam.name TypedParam.old_typed_param
  rw [h.child_supp_isSome, h.optM_child n hn ih.paramType, h.optM_childK Name.canCast n hn (fun _ => h.name),
    h.span]
  cases Build.optM (Build.paramType fuel) (support.child ParamType.canCast n) <;>
  cases Build.optM Build.name (support.child Name.canCast n) <;>
    simp [Except.map, h.typedParam_mk]

theorem step_typedParamList (ih : IH m T Ok fuel) (n : CNode) (hn : Ok n) :
    Build.typedParamList (fuel + 1) (T n) = (Build.typedParamList (fuel + 1) n).map m.typedParamList := by
  simp only [Build.typedParamList]
  unfold TypedParamList.typed_params
  rw [h.listM_children n hn ih.typedParam, h.span]
  cases Build.listM (Build.typedParam fuel) (support.children TypedParam.canCast n) <;>
    simp [Except.map, h.typedParamList_mk]

theorem returnSignature (ih : IH m T Ok fuel) (n : CNode) (hn : Ok n) :
    Build.returnSignature fuel (T n) = (Build.returnSignature fuel n).map m.returnSignature := by
  unfold Build.returnSignature ReturnSignature.scalar_type
  rw [h.optM_child n hn ih.scalarType, h.span]
  cases Build.optM (Build.scalarType fuel) (support.child ScalarType.canCast n) <;>
    simp [Except.map, h.returnSignature_mk]

theorem qubitType (ih : IH m T Ok fuel) (n : CNode) (hn : Ok n) :
    Build.qubitType fuel (T n) = (Build.qubitType fuel n).map m.qubitType := by
  unfold Build.qubitType QubitType.designator
  rw [h.optM_child n hn ih.designator, h.span]
  cases Build.optM (Build.designator fuel) (support.child Designator.canCast n) <;>
    simp [Except.map, h.qubitType_mk]

theorem step_forIterable (ih : IH m T Ok fuel) (n : CNode) (hn : Ok n) :
    Build.forIterable (fuel + 1) (T n) = (Build.forIterable (fuel + 1) n).map m.forIterable := by
  simp only [Build.forIterable]
  unfold ForIterable.set_expression ForIterable.range_expr ForIterable.for_iterable_expr
  rw [h.optM_child n hn ih.setExpression, h.optM_child n hn ih.rangeExpr, h.optM_child n hn ih.expr, h.span]
  cases Build.optM (Build.setExpression fuel) (support.child SetExpression.canCast n) <;>
  cases Build.optM (Build.rangeExpr fuel) (support.child RangeExpr.canCast n) <;>
  cases Build.optM (Build.expr fuel) (support.child Expr.canCast n) <;>
    simp [Except.map, h.forIterable_mk]

theorem step_blockExpr (ih : IH m T Ok fuel) (n : CNode) (hn : Ok n) :
    Build.blockExpr (fuel + 1) (T n) = (Build.blockExpr (fuel + 1) n).map m.blockExpr := by
  unfold Build.blockExpr BlockExpr.statements
  rw [h.listM_children n hn ih.stmt, h.span]
  cases Build.listM (Build.stmt fuel) (support.children Stmt.canCast n) <;>
    simp [Except.map, h.blockExpr_mk]

theorem step_blockOrStmt (ih : IH m T Ok fuel) (v : BlockOrStmt) (hv : Ok (bosNode v)) :
    Build.blockOrStmt (fuel + 1) (v.map T) = (Build.blockOrStmt (fuel + 1) v).map m.blockOrStmt := by
  cases v with
  | blockExpr b =>
    simp only [BlockOrStmt.map, Build.blockOrStmt]
    rw [ih.blockExpr b hv]; cases Build.blockExpr fuel b <;> simp [Except.map, h.blockOrStmt_blockExpr]
  | stmt s =>
    simp only [BlockOrStmt.map, Build.blockOrStmt]
    rw [ih.stmt s hv]; cases Build.stmt fuel s <;> simp [Except.map, h.blockOrStmt_stmt]

theorem accBosOf (ih : IH m T Ok fuel) (r : PRes BlockOrStmt) (hr : ∀ v, r = .ok v → Ok (bosNode v)) :
    Build.accBosOf fuel (Build.blockOrStmt fuel) (r.map (BlockOrStmt.map T)) =
      (Build.accBosOf fuel (Build.blockOrStmt fuel) r).map m.accBos := by
  cases r with
  | panic => simp only [PRes.map, Build.accBosOf]; split <;> simp [Except.map, h.accBos_panicked]
  | ok v =>
    simp only [PRes.map, Build.accBosOf]
    rw [ih.blockOrStmt v (hr v rfl)]; cases Build.blockOrStmt fuel v <;> simp [Except.map, h.accBos_ok]

omit h in
theorem optBosOf (ih : IH m T Ok fuel) (o : Option BlockOrStmt) (ho : ∀ v, o = some v → Ok (bosNode v)) :
    Build.optBosOf (Build.blockOrStmt fuel) (o.map (BlockOrStmt.map T)) =
      (Build.optBosOf (Build.blockOrStmt fuel) o).map (Option.map m.blockOrStmt) := by
  cases o with
  | none => rfl
  | some v =>
    simp only [Option.map_some, Build.optBosOf]
    rw [ih.blockOrStmt v (ho v rfl)]; cases Build.blockOrStmt fuel v <;> simp [Except.map]

theorem step_caseExpr (ih : IH m T Ok fuel) (n : CNode) (hn : Ok n) :
    Build.caseExpr (fuel + 1) (T n) = (Build.caseExpr (fuel + 1) n).map m.caseExpr := by
  unfold Build.caseExpr CaseExpr.expression_list CaseExpr.block_expr
  rw [h.optM_child n hn ih.expressionList, h.optM_child n hn ih.blockExpr, h.span]
  cases Build.optM (Build.expressionList fuel) (support.child ExpressionList.canCast n) <;>
  cases Build.optM (Build.blockExpr fuel) (support.child BlockExpr.canCast n) <;>
    simp [Except.map, h.caseExpr_mk]

theorem step_stmt (ih : IH m T Ok fuel) (n : CNode) (hn : Ok n) :
    Build.stmt (fuel + 1) (T n) = (Build.stmt (fuel + 1) n).map m.stmt := by
  unfold Build.stmt
  rw [h.kind]
  split
  · -- IF_STMT
    rw [h.condition, h.if_true_body, h.if_false_body,
      h.optM n (IfStmt.condition n) hn (fun _ hc => condition_mem hc) ih.expr,
      h.accBosOf ih _ (fun _ hv => h.ok_children hn (if_true_body_mem hv)),
      optBosOf ih _ (fun _ hv => h.ok_children hn (if_false_body_mem hv)), h.span]
    cases Build.optM (Build.expr fuel) (IfStmt.condition n) <;>
    cases Build.accBosOf fuel (Build.blockOrStmt fuel) (IfStmt.true_body_block_or_stmt n) <;>
    cases Build.optBosOf (Build.blockOrStmt fuel) (IfStmt.false_body_block_or_stmt n) <;>
      simp [Except.map, h.stmt_ifStmt]
  · -- WHILE_STMT
    rw [h.while_condition, h.while_block_or_stmt,
      h.optM n (WhileStmt.condition n) hn (fun _ hc => condition_mem hc) ih.expr,
      h.accBosOf ih _ (fun _ hv => h.ok_children hn (while_body_mem hv)), h.span]
    cases Build.optM (Build.expr fuel) (WhileStmt.condition n) <;>
    cases Build.accBosOf fuel (Build.blockOrStmt fuel) (WhileStmt.block_or_stmt n) <;>
      simp [Except.map, h.stmt_whileStmt]
  · -- FOR_STMT
    unfold ForStmt.loop_var ForStmt.scalar_type ForStmt.for_iterable
    rw [h.for_block_or_stmt, h.optM_childK Name.canCast n hn (fun _ => h.name),
      h.optM_child n hn ih.scalarType, h.optM_child n hn ih.forIterable,
      h.accBosOf ih _ (fun _ hv => h.ok_children hn (for_body_mem hv)), h.span]
    cases Build.optM Build.name (support.child Name.canCast n) <;>
    cases Build.optM (Build.scalarType fuel) (support.child ScalarType.canCast n) <;>
    cases Build.optM (Build.forIterable fuel) (support.child ForIterable.canCast n) <;>
    cases Build.accBosOf fuel (Build.blockOrStmt fuel) (ForStmt.block_or_stmt n) <;>
      simp [Except.map, h.stmt_forStmt]
  · -- SWITCH_CASE_STMT
    unfold SwitchCaseStmt.control SwitchCaseStmt.case_exprs SwitchCaseStmt.default_block
    rw [h.optM_child n hn ih.expr, h.listM_children n hn ih.caseExpr, h.optM_child n hn ih.blockExpr, h.span]
    cases Build.optM (Build.expr fuel) (support.child Expr.canCast n) <;>
    cases Build.listM (Build.caseExpr fuel) (support.children CaseExpr.canCast n) <;>
    cases Build.optM (Build.blockExpr fuel) (support.child BlockExpr.canCast n) <;>
      simp [Except.map, h.stmt_switchCaseStmt]
  · -- CLASSICAL_DECLARATION_STATEMENT
    unfold ClassicalDeclarationStatement.scalar_type ClassicalDeclarationStatement.name
      ClassicalDeclarationStatement.expr ClassicalDeclarationStatement.array_type
      ClassicalDeclarationStatement.const_token
    rw [h.child_supp_isSome, h.token_supp_isSome n .CONST_KW rfl, h.optM_child n hn ih.scalarType,
      h.optM_childK Name.canCast n hn (fun _ => h.name), h.optM_child n hn ih.expr, h.span]
    cases Build.optM (Build.scalarType fuel) (support.child ScalarType.canCast n) <;>
    cases Build.optM Build.name (support.child Name.canCast n) <;>
    cases Build.optM (Build.expr fuel) (support.child Expr.canCast n) <;>
      simp [Except.map, h.stmt_classicalDeclarationStatement]
  · -- I_O_DECLARATION_STATEMENT
    unfold IODeclarationStatement.scalar_type IODeclarationStatement.name
      IODeclarationStatement.array_type IODeclarationStatement.input_token
    rw [h.child_supp_isSome, h.token_supp_isSome n .INPUT_KW rfl, h.optM_child n hn ih.scalarType,
      h.optM_childK Name.canCast n hn (fun _ => h.name), h.span]
    cases Build.optM (Build.scalarType fuel) (support.child ScalarType.canCast n) <;>
    cases Build.optM Build.name (support.child Name.canCast n) <;>
      simp [Except.map, h.stmt_ioDeclarationStatement]
  · -- QUANTUM_DECLARATION_STATEMENT
    unfold QuantumDeclarationStatement.name QuantumDeclarationStatement.hardware_qubit
      QuantumDeclarationStatement.qubit_type
    rw [h.optM_childK Name.canCast n hn (fun _ => h.name),
      h.optM_childK HardwareQubit.canCast n hn (fun _ => h.hardwareQubit), h.optM_child n hn (h.qubitType ih),
      h.span]
    cases Build.optM Build.name (support.child Name.canCast n) <;>
    cases Build.optM Build.hardwareQubit (support.child HardwareQubit.canCast n) <;>
    cases Build.optM (Build.qubitType fuel) (support.child QubitType.canCast n) <;>
      simp [Except.map, h.stmt_quantumDeclarationStatement]
  · -- ASSIGNMENT_STMT
    unfold AssignmentStmt.identifier AssignmentStmt.indexed_identifier
    rw [h.assign_rhs, h.optM_childK Identifier.canCast n hn (fun _ => h.identifier),
      h.optM n (AssignmentStmt.rhs n) hn (fun _ hc => assign_rhs_mem hc) ih.expr,
      h.optM_child n hn ih.indexedIdentifier, h.span]
    cases Build.optM Build.identifier (support.child Identifier.canCast n) <;>
    cases Build.optM (Build.expr fuel) (AssignmentStmt.rhs n) <;>
    cases Build.optM (Build.indexedIdentifier fuel) (support.child IndexedIdentifier.canCast n) <;>
      simp [Except.map, h.stmt_assignmentStmt]
  · simp [Except.map, h.stmt_breakStmt, h.span]
  · simp [Except.map, h.stmt_continueStmt, h.span]
  · simp [Except.map, h.stmt_endStmt, h.span]
  · -- GATE
    unfold Gate.name Gate.body
    rw [h.gate_angle_params, h.gate_qubit_params, h.optM_childK Name.canCast n hn (fun _ => h.name),
      h.optM n (Gate.angle_params n) hn (fun _ hc => gate_params_mem.1 hc) (fun _ => h.paramList),
      h.optM n (Gate.qubit_params n) hn (fun _ hc => gate_params_mem.2 hc) (fun _ => h.paramList),
      h.optM_child n hn ih.blockExpr, h.span]
    cases Build.optM Build.name (support.child Name.canCast n) <;>
    cases Build.optM Build.paramList (Gate.angle_params n) <;>
    cases Build.optM Build.paramList (Gate.qubit_params n) <;>
    cases Build.optM (Build.blockExpr fuel) (support.child BlockExpr.canCast n) <;>
      simp [Except.map, h.stmt_gate]
  · -- DEF
    unfold Def.name Def.typed_param_list Def.body Def.return_signature
    rw [h.optM_childK Name.canCast n hn (fun _ => h.name), h.optM_child n hn ih.typedParamList,
      h.optM_child n hn ih.blockExpr, h.optM_child n hn (h.returnSignature ih), h.span]
    cases Build.optM Build.name (support.child Name.canCast n) <;>
    cases Build.optM (Build.typedParamList fuel) (support.child TypedParamList.canCast n) <;>
    cases Build.optM (Build.blockExpr fuel) (support.child BlockExpr.canCast n) <;>
    cases Build.optM (Build.returnSignature fuel) (support.child ReturnSignature.canCast n) <;>
      simp [Except.map, h.stmt_defStmt]
  · -- BARRIER
    unfold Barrier.qubit_list
    rw [h.optM_child n hn ih.qubitList, h.span]
    cases Build.optM (Build.qubitList fuel) (support.child QubitList.canCast n) <;>
      simp [Except.map, h.stmt_barrier]
  · -- DELAY_STMT
    unfold DelayStmt.qubit_list DelayStmt.designator
    rw [h.optM_child n hn ih.qubitList, h.optM_child n hn ih.designator, h.span]
    cases Build.optM (Build.qubitList fuel) (support.child QubitList.canCast n) <;>
    cases Build.optM (Build.designator fuel) (support.child Designator.canCast n) <;>
      simp [Except.map, h.stmt_delayStmt]
  · -- RESET
    unfold Reset.gate_operand
    rw [h.optM_child n hn ih.gateOperand, h.span]
    cases Build.optM (Build.gateOperand fuel) (support.child GateOperand.canCast n) <;>
      simp [Except.map, h.stmt_reset]
  · -- INCLUDE
    unfold Include.file
    rw [h.optM_child n hn (fun c _ => h.filePath c), h.span]
    cases Build.optM Build.filePath (support.child FilePath.canCast n) <;>
      simp [Except.map, h.stmt_includeStmt]
  · -- EXPR_STMT
    unfold ExprStmt.expr
    rw [h.optM_child n hn ih.expr, h.span]
    cases Build.optM (Build.expr fuel) (support.child Expr.canCast n) <;>
      simp [Except.map, h.stmt_exprStmt]
  · simp [Except.map, h.stmt_versionString, h.span]
  · -- PRAGMA_STATEMENT
    rename_i hk
    rw [h.pragma_text hn hk, h.span]
    cases Build.ofPRes (PragmaStatement.pragma_text n) <;> simp [Except.map, h.stmt_pragmaStatement]
  · -- ANNOTATION_STATEMENT
    rename_i hk
    rw [show AnnotationStatement.annotation_text (T n) = AnnotationStatement.annotation_text n from
      h.fixedText hn (.inr (.inr hk)), h.span]
    cases Build.ofPRes (AnnotationStatement.annotation_text n) <;>
      simp [Except.map, h.stmt_annotationStatement]
  · -- ALIAS_DECLARATION_STATEMENT
    unfold AliasDeclarationStatement.name AliasDeclarationStatement.expr
    rw [h.optM_childK Name.canCast n hn (fun _ => h.name), h.optM_child n hn ih.expr, h.span]
    cases Build.optM Build.name (support.child Name.canCast n) <;>
    cases Build.optM (Build.expr fuel) (support.child Expr.canCast n) <;>
      simp [Except.map, h.stmt_aliasDeclarationStatement]
  iterate 7 simp [Except.map, h.stmt_notImpl, h.span]
  rfl

omit h in
theorem ih_zero : IH m T Ok 0 := by
  constructor <;> intros <;> rfl

theorem ih_succ (ih : IH m T Ok fuel) : IH m T Ok (fuel + 1) :=
  ⟨h.step_expr ih, h.step_designator ih, h.step_scalarType ih, h.step_expressionList ih,
   h.step_setExpression ih, h.step_rangeExpr ih, h.step_indexOperator ih, h.step_indexedIdentifier ih,
   h.step_gateOperand ih, h.step_qubitList ih, h.step_argList ih, h.step_parenExpr ih,
   h.step_gateCallExpr ih, h.step_gPhaseCallExpr ih, h.step_modifier ih, h.step_paramType ih,
   h.step_typedParam ih, h.step_typedParamList ih, h.step_forIterable ih, h.step_stmt ih,
   h.step_blockExpr ih, h.step_blockOrStmt ih, h.step_caseExpr ih⟩

theorem ih : ∀ fuel, IH m T Ok fuel
  | 0 => ih_zero
  | fuel + 1 => h.ih_succ (ih fuel)

theorem programWith (fuel : Nat) (root : CNode) (hr : ∀ c ∈ root.children, Ok c) :
    Build.programWith fuel (T root) = (Build.programWith fuel root).map m.program := by
  unfold Build.programWith SourceFile.statements
  rw [h.children_supp, h.span, listM_map Ok _ (fun c hc => hr c (children_supp_mem hc)) (h.ih fuel).stmt]
  cases Build.listM (Build.stmt fuel) (support.children Stmt.canCast root) <;>
    simp [Except.map, h.program_mk]

/-- `hr`: the side condition below the root (the root, a `SOURCE_FILE`, is none of the kinds it
speaks of, and does start with the file's leading trivia) -/
theorem program (root : CNode) (hr : ∀ c ∈ root.children, Ok c) :
    Build.program (T root) = (Build.program root).map m.program := by
  unfold Build.program Build.defaultFuel Dump.defaultFuel
  rw [h.depth]
  exact h.programWith _ root hr

end BuildMap

end Oq3.Acc
