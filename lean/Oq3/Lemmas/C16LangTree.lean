/-
C16 for the inductive language of `Props/C04Lang2.lean`: the node sequence of every statement is ONE
balanced subtree (`isTree_nodesS2`, by mutual induction over the whole language; no well-formedness
needed: a fact about the node encoding), so that the children of the root of a program can be read
off its step sequence.

`splitTop` / `splitIn` cut a step sequence into its top-level subtrees in one pass: tokens and error
steps outside a node are pieces of their own; an unmatched `exit` — the `exit` of the parent — ends
the pass.
-/
import Oq3.Lemmas.LangEv2S

namespace Oq3.C16Lang
open Oq3.Gen Oq3.Parser Oq3.PrattEv Oq3.LangEv Oq3.LangEv2

mutual
/-- between two subtrees -/
def splitTop : List Step → List (List Step)
  | [] => []
  | .enter k :: r => splitIn r 0 [.enter k]
  | .exit :: _ => []
  | .token k n :: r => [.token k n] :: splitTop r
  | .error m :: r => [.error m] :: splitTop r
/-- inside a subtree: `d` further nodes are open, `acc` = the steps of the subtree so far -/
def splitIn : List Step → Nat → List Step → List (List Step)
  | [], _, _ => []
  | .enter k :: r, d, acc => splitIn r (d + 1) (acc ++ [.enter k])
  | .exit :: r, 0, acc => (acc ++ [.exit]) :: splitTop r
  | .exit :: r, d + 1, acc => splitIn r d (acc ++ [.exit])
  | .token k n :: r, d, acc => splitIn r d (acc ++ [.token k n])
  | .error m :: r, d, acc => splitIn r d (acc ++ [.error m])
end

def children : List Step → List (List Step)
  | .enter _ :: r => splitTop r
  | _ => []

def rootKind : List Step → Option SyntaxKind
  | .enter k :: _ => some k
  | _ => none

def width : List Step → Nat
  | [] => 0
  | .token _ n :: r => n + width r
  | _ :: r => width r

/-- `r` closes exactly one subtree in which `d` further nodes are open -/
def endsAt : List Step → Nat → Bool
  | [], _ => false
  | .enter _ :: r, d => endsAt r (d + 1)
  | .exit :: r, 0 => r.isEmpty
  | .exit :: r, d + 1 => endsAt r d
  | .token _ _ :: r, d => endsAt r d
  | .error _ :: r, d => endsAt r d

def isTree : List Step → Bool
  | .enter _ :: r => endsAt r 0
  | _ => false

theorem endsAt_append : ∀ (r0 : List Step) (e : Nat), endsAt r0 e = true →
    ∀ (r : List Step) (d : Nat), endsAt (r0 ++ r) (d + 1 + e) = endsAt r d
  | [], _, h, _, _ => by cases h
  | .enter k :: r0, e, h, r, d => by
    simp only [endsAt] at h
    have := endsAt_append r0 (e + 1) h r d
    rw [← Nat.add_assoc] at this
    simpa [endsAt] using this
  | .exit :: r0, 0, h, r, d => by
    simp only [endsAt, List.isEmpty_iff] at h
    subst h; simp [endsAt]
  | .exit :: r0, e + 1, h, r, d => by
    simp only [endsAt] at h
    have := endsAt_append r0 e h r d
    simpa [endsAt, ← Nat.add_assoc] using this
  | .token k n :: r0, e, h, r, d => by
    simp only [endsAt] at h
    simpa [endsAt] using endsAt_append r0 e h r d
  | .error m :: r0, e, h, r, d => by
    simp only [endsAt] at h
    simpa [endsAt] using endsAt_append r0 e h r d

theorem isTree_bal {t : List Step} (h : isTree t = true) (r : List Step) (d : Nat) :
    endsAt (t ++ r) d = endsAt r d := by
  match t, h with
  | .enter k :: r0, h =>
    simp only [isTree] at h
    simpa [endsAt] using endsAt_append r0 0 h r d

theorem splitIn_endsAt : ∀ (r : List Step) (d : Nat), endsAt r d = true →
    ∀ (rest acc : List Step), splitIn (r ++ rest) d acc = (acc ++ r) :: splitTop rest
  | [], _, h, _, _ => by cases h
  | .enter k :: r, d, h, rest, acc => by
    simp only [endsAt] at h
    have := splitIn_endsAt r (d + 1) h rest (acc ++ [.enter k])
    rw [List.append_assoc, List.singleton_append] at this
    simpa [splitIn] using this
  | .exit :: r, 0, h, rest, acc => by
    simp only [endsAt, List.isEmpty_iff] at h
    subst h; simp [splitIn]
  | .exit :: r, d + 1, h, rest, acc => by
    simp only [endsAt] at h
    have := splitIn_endsAt r d h rest (acc ++ [.exit])
    rw [List.append_assoc, List.singleton_append] at this
    simpa [splitIn] using this
  | .token k n :: r, d, h, rest, acc => by
    simp only [endsAt] at h
    have := splitIn_endsAt r d h rest (acc ++ [.token k n])
    rw [List.append_assoc, List.singleton_append] at this
    simpa [splitIn] using this
  | .error m :: r, d, h, rest, acc => by
    simp only [endsAt] at h
    have := splitIn_endsAt r d h rest (acc ++ [.error m])
    rw [List.append_assoc, List.singleton_append] at this
    simpa [splitIn] using this

theorem splitTop_tree {t : List Step} (h : isTree t = true) (rest : List Step) :
    splitTop (t ++ rest) = t :: splitTop rest := by
  match t, h with
  | .enter k :: r0, h =>
    simp only [isTree] at h
    simpa [splitTop] using splitIn_endsAt r0 0 h rest [.enter k]

theorem splitTop_trees_append : ∀ (ts : List (List Step)), (∀ t ∈ ts, isTree t = true) → ∀ rest : List Step,
    splitTop (ts.flatten ++ rest) = ts ++ splitTop rest
  | [], _, _ => by simp
  | t :: ts, h, rest => by
    rw [List.flatten_cons, List.append_assoc, splitTop_tree (h t (List.mem_cons_self ..)),
      splitTop_trees_append ts (fun t' ht' => h t' (List.mem_cons_of_mem _ ht')) rest, List.cons_append]

theorem splitTop_trees (ts : List (List Step)) (h : ∀ t ∈ ts, isTree t = true) (rest : List Step) :
    splitTop (ts.flatten ++ .exit :: rest) = ts := by
  rw [splitTop_trees_append ts h]; simp [splitTop]

theorem width_append (a b : List Step) : width (a ++ b) = width a + width b := by
  induction a with
  | nil => simp [width]
  | cons x a ih => cases x <;> simp [width, ih, Nat.add_assoc]

mutual
theorem balX : ∀ (x : X) (r : List Step) (d : Nat), endsAt (nodesX x ++ r) d = endsAt r d
  | .prim p, r, d => by simp [nodesX, balP p]
  | .bin o l x, r, d => by simp [nodesX, endsAt, balX l, balX x]
  | .pre o e, r, d => by simp [nodesX, endsAt, balX e]
theorem balP : ∀ (p : Prim) (r : List Step) (d : Nat), endsAt (LangEv2.nodesP p ++ r) d = endsAt r d
  | .id, _, _ => by simp [LangEv2.nodesP, endsAt]
  | .lit _, _, _ => by simp [LangEv2.nodesP, endsAt]
  | .timing _, _, _ => by simp [LangEv2.nodesP, endsAt]
  | .hw, _, _ => by simp [LangEv2.nodesP, endsAt]
  | .measureE, _, _ => by simp [LangEv2.nodesP, endsAt]
  | .measureHw, _, _ => by simp [LangEv2.nodesP, endsAt]
  | .measureIdx ixs, _, _ => by simp [LangEv2.nodesP, endsAt, balIdx ixs]
  | .paren e, _, _ => by simp [LangEv2.nodesP, endsAt, balX e]
  | .cast0 _ e, _, _ => by simp [LangEv2.nodesP, endsAt, balX e]
  | .castW _ w e, _, _ => by simp [LangEv2.nodesP, endsAt, balX e, balX w]
  | .idIdx ixs, _, _ => by simp [LangEv2.nodesP, endsAt, balIdx ixs]
  | .call p args, _, _ => by simp [LangEv2.nodesP, endsAt, balP p, balXs args]
  | .index p items, _, _ => by simp [LangEv2.nodesP, endsAt, balP p, balItems items]
theorem balXs : ∀ (xs : XList) (r : List Step) (d : Nat), endsAt (nodesXs xs ++ r) d = endsAt r d
  | .nil, _, _ => by simp [nodesXs]
  | .cons x .nil, _, _ => by simp [nodesXs, balX x]
  | .cons x (.cons y ys), _, _ => by simp [nodesXs, endsAt, balX x, balXs (.cons y ys)]
theorem balItem : ∀ (i : LangEv2.Item) (r : List Step) (d : Nat), endsAt (nodesItem i ++ r) d = endsAt r d
  | .ex x, _, _ => by simp [nodesItem, balX x]
  | .r2 lo hi, _, _ => by simp [nodesItem, endsAt, balX lo, balX hi]
  | .r3 lo mid hi, _, _ => by simp [nodesItem, endsAt, balX lo, balX mid, balX hi]
theorem balItems : ∀ (is : ItemList) (r : List Step) (d : Nat), endsAt (nodesItems is ++ r) d = endsAt r d
  | .one i, _, _ => by simp [nodesItems, balItem i]
  | .cons i is, _, _ => by simp [nodesItems, endsAt, balItem i, balItems is]
theorem balIdx : ∀ (ixs : IdxList) (r : List Step) (d : Nat), endsAt (nodesIdx ixs ++ r) d = endsAt r d
  | .one is, _, _ => by simp [nodesIdx, endsAt, balItems is]
  | .cons is rest, _, _ => by simp [nodesIdx, endsAt, balItems is, balIdx rest]
end

theorem balQ : ∀ (q : Q) (r : List Step) (d : Nat), endsAt (nodesQ q ++ r) d = endsAt r d
  | .id, _, _ => by simp [nodesQ, endsAt]
  | .hw, _, _ => by simp [nodesQ, endsAt]
  | .idx ixs, _, _ => by simp [nodesQ, endsAt, balIdx]

theorem balQs : ∀ (qs : QList) (r : List Step) (d : Nat), endsAt (nodesQs qs ++ r) d = endsAt r d
  | .one q, _, _ => by simp [nodesQs, balQ]
  | .cons q qs, _, _ => by simp [nodesQs, endsAt, balQ, balQs qs]

theorem balParen (e : X) (r : List Step) (d : Nat) : endsAt (parenNodes e ++ r) d = endsAt r d := by
  simp [parenNodes, endsAt, balX]

theorem balMod (m : Mod) (r : List Step) (d : Nat) : endsAt (nodesMod m ++ r) d = endsAt r d := by
  cases m with
  | inv => simp [nodesMod, endsAt]
  | pow e => simp [nodesMod, endsAt, balParen]
  | ctrl e => cases e <;> simp [nodesMod, endsAt, balParen]
  | negctrl e => cases e <;> simp [nodesMod, endsAt, balParen]

theorem balMods : ∀ (ms : List Mod) (r : List Step) (d : Nat), endsAt (nodesMods ms ++ r) d = endsAt r d
  | [], _, _ => by simp [nodesMods]
  | m :: ms, _, _ => by simp [nodesMods, balMod, balMods ms]

theorem balTyX (ty : Ty) (w : Option X) (r : List Step) (d : Nat) : endsAt (tyNodesX ty w ++ r) d = endsAt r d := by
  cases w <;> simp [tyNodesX, endsAt, balX]

theorem balDesig (w : X) (r : List Step) (d : Nat) : endsAt (desigNodes w ++ r) d = endsAt r d := by
  simp [desigNodes, endsAt, balX]

theorem balArgList (args : XList) (r : List Step) (d : Nat) : endsAt (argListNodes args ++ r) d = endsAt r d := by
  cases args <;> simp [argListNodes, endsAt, balXs]

theorem balQlist (qs : QList) (r : List Step) (d : Nat) : endsAt (qlistNodes qs ++ r) d = endsAt r d := by
  simp [qlistNodes, endsAt, balQs]

theorem balName (r : List Step) (d : Nat) : endsAt (nameNodes ++ r) d = endsAt r d := by
  simp [nameNodes, endsAt]

theorem balIter (it : Iter) (r : List Step) (d : Nat) : endsAt (iterNodes it ++ r) d = endsAt r d := by
  cases it <;> simp [iterNodes, endsAt, balX, balItems]

theorem balTyList : ∀ (ts : List Ty) (r : List Step) (d : Nat), endsAt (tyListNodes ts ++ r) d = endsAt r d
  | [], _, _ => by simp [tyListNodes]
  | [t], _, _ => by simp [tyListNodes, endsAt]
  | t :: u :: us, _, _ => by simp [tyListNodes, endsAt, balTyList (u :: us)]

theorem balParams : ∀ (n : Nat) (r : List Step) (d : Nat), endsAt (paramNodes n ++ r) d = endsAt r d
  | 0, _, _ => by simp [paramNodes, endsAt]
  | n + 1, _, _ => by simp [paramNodes, endsAt, balParams n]

theorem balTyped : ∀ (ps : List PTy) (r : List Step) (d : Nat), endsAt (typedNodes ps ++ r) d = endsAt r d
  | [], _, _ => by simp [typedNodes]
  | [p], _, _ => by simp [typedNodes, endsAt]
  | p :: q :: ps, _, _ => by simp [typedNodes, endsAt, balTyped (q :: ps)]

theorem balRet (ret : Option Ty) (r : List Step) (d : Nat) : endsAt (retNodes ret ++ r) d = endsAt r d := by
  cases ret <;> simp [retNodes, endsAt]

theorem balGateInner (args : XList) (qs : QList) (r : List Step) (d : Nat) :
    endsAt (gateCallInnerNodes args qs ++ r) (d + 1) = endsAt r d := by
  simp [gateCallInnerNodes, endsAt, balArgList, balQlist]

theorem balBlock (inner : List Step) (h : ∀ r d, endsAt (inner ++ r) d = endsAt r d) (r : List Step) (d : Nat) :
    endsAt (blockNodes inner ++ r) d = endsAt r d := by
  simp [blockNodes, endsAt, h]

mutual
theorem isTree_nodesS2 : ∀ st : Stmt2, isTree (nodesS2 st) = true
  | .decl cst ty w none => by cases cst <;> simp [nodesS2, isTree, endsAt, balTyX, balName]
  | .decl cst ty w (some e) => by cases cst <;> simp [nodesS2, isTree, endsAt, balTyX, balName, balX]
  | .io out ty w => by simp [nodesS2, isTree, endsAt, balTyX, balName]
  | .qubit none => by simp [nodesS2, isTree, endsAt, balName]
  | .qubit (some w) => by simp [nodesS2, isTree, endsAt, balName, balDesig]
  | .oldReg c items => by simp [nodesS2, isTree, endsAt, balItems]
  | .letS e => by simp [nodesS2, isTree, endsAt, balX]
  | .alias e => by simp [nodesS2, isTree, endsAt, balX, balName]
  | .assign ixs rhs => by simp [nodesS2, isTree, endsAt, balX, balP]
  | .exprS x => by simp [nodesS2, isTree, endsAt, balX]
  | .gate args qs => by simp [nodesS2, wrapNodes, isTree, endsAt, balGateInner]
  | .modGate m ms args qs => by simp [nodesS2, wrapNodes, isTree, endsAt, balGateInner, balMods]
  | .gphase x => by simp [nodesS2, wrapNodes, isTree, endsAt, balX]
  | .modGphase m ms x => by simp [nodesS2, wrapNodes, isTree, endsAt, balX, balMods]
  | .reset q => by simp [nodesS2, isTree, endsAt, balQ]
  | .barrier qs => by simp [nodesS2, isTree, endsAt, balQlist]
  | .delay d qs => by simp [nodesS2, isTree, endsAt, balQlist, balDesig]
  | .brk => rfl
  | .cont => rfl
  | .endS => rfl
  | .pragma => rfl
  | .annot => rfl
  | .incl => rfl
  | .version => rfl
  | .externS tys ret => by simp [nodesS2, isTree, endsAt, balName, balTyList, balRet]
  | .ifS c thn => by simp [nodesS2, isTree, endsAt, balX, balB thn]
  | .ifElse c thn els => by simp [nodesS2, isTree, endsAt, balX, balB thn, balB els]
  | .whileS c body => by simp [nodesS2, isTree, endsAt, balX, balB body]
  | .forS ty w it body => by simp [nodesS2, isTree, endsAt, balTyX, balName, balIter, balB body]
  | .switchS c cs => by simp [nodesS2, isTree, endsAt, balX, balC cs]
  | .block ss => by simp [nodesS2, isTree, endsAt, balBlock _ (balL2 ss)]
  | .gateDef none nq body => by simp [nodesS2, isTree, endsAt, balParams, balBlock _ (balL2 body)]
  | .gateDef (some k) nq body => by simp [nodesS2, isTree, endsAt, balParams, balBlock _ (balL2 body)]
  | .defS ps ret body => by simp [nodesS2, isTree, endsAt, balTyped, balRet, balBlock _ (balL2 body)]
  | .cal body => by simp [nodesS2, isTree, endsAt, balBlock _ (balL2 body)]
  | .ret none => rfl
  | .ret (some e) => by simp [nodesS2, wrapNodes, isTree, endsAt, balX]
theorem balB : ∀ (b : Body) (r : List Step) (d : Nat), endsAt (nodesB b ++ r) d = endsAt r d
  | .blk ss, r, d => by simp [nodesB, balBlock _ (balL2 ss)]
  | .one s, r, d => by simp [nodesB, isTree_bal (isTree_nodesS2 s)]
theorem balC : ∀ (cs : Cases) (r : List Step) (d : Nat), endsAt (nodesC cs ++ r) d = endsAt r d
  | .nil, _, _ => by simp [nodesC]
  | .dflt body, _, _ => by simp [nodesC, endsAt, balBlock _ (balL2 body)]
  | .cons vals body rest, _, _ => by simp [nodesC, endsAt, balItems, balBlock _ (balL2 body), balC rest]
theorem balL2 : ∀ (ss : Stmts2) (r : List Step) (d : Nat), endsAt (nodesL2 ss ++ r) d = endsAt r d
  | .nil, _, _ => by simp [nodesL2]
  | .cons st ss, _, _ => by simp [nodesL2, isTree_bal (isTree_nodesS2 st), balL2 ss]
end

theorem isTree_map_nodesS2 (l : List Stmt2) : ∀ t ∈ l.map nodesS2, isTree t = true := fun t ht => by
  obtain ⟨s, -, rfl⟩ := List.mem_map.1 ht
  exact isTree_nodesS2 s

theorem splitTop_flatMap_append (l : List Stmt2) (rest : List Step) :
    splitTop (l.flatMap nodesS2 ++ rest) = l.map nodesS2 ++ splitTop rest := by
  rw [List.flatMap_def]
  exact splitTop_trees_append (l.map nodesS2) (isTree_map_nodesS2 l) rest

theorem splitTop_flatMap (l : List Stmt2) (rest : List Step) :
    splitTop (l.flatMap nodesS2 ++ .exit :: rest) = l.map nodesS2 := by
  rw [List.flatMap_def]
  exact splitTop_trees (l.map nodesS2) (isTree_map_nodesS2 l) rest

theorem rootKind_isSome {t : List Step} (h : isTree t = true) : (rootKind t).isSome = true := by
  match t, h with
  | .enter k :: r, _ => rfl

end Oq3.C16Lang
