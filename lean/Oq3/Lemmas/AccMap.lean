/-
The accessors of `Model/Accessors.lean` under a map of concrete syntax trees.

`NodeMap T`: `T : CNode → CNode` keeps kinds, maps the child nodes of a node one by one, and its
non-trivia child tokens too (it may drop trivia tokens: `eraseTrivia` of `Lemmas/AccTrivia.lean`
does, the renaming of `Lemmas/RenameTextAcc.lean` does not).  Then every structural accessor
commutes with `T`: `A (T n) = (A n).map T`; accessors that return a kind or an operator, or the
text of a token that is not an `IDENT`, return the same value.
-/
import Oq3.Lemmas.AccBuild

namespace Oq3.Acc
open Oq3.Gen

theorem filterMap_cast (can : SyntaxKind → Bool) (l : List CNode) :
    l.filterMap (cast can) = l.filter (fun c => can c.kind) := by
  induction l with
  | nil => rfl
  | cons c cs ih => by_cases h : can c.kind = true <;> simp +decide [cast, h, ih]

theorem findSome_cast (can : SyntaxKind → Bool) (l : List CNode) :
    l.findSome? (cast can) = l.find? (fun c => can c.kind) := by
  induction l with
  | nil => rfl
  | cons c cs ih => by_cases h : can c.kind = true <;> simp +decide [cast, h, ih]

theorem children_supp_eq (can : SyntaxKind → Bool) (n : CNode) :
    support.children can n = n.childNodes.filter (fun c => can c.kind) := filterMap_cast can _

theorem child_supp_eq (can : SyntaxKind → Bool) (n : CNode) :
    support.child can n = n.childNodes.find? (fun c => can c.kind) := findSome_cast can _

theorem child_supp_mem {can : SyntaxKind → Bool} {n c : CNode} (h : support.child can n = some c) :
    c ∈ n.children := by
  rw [child_supp_eq] at h
  exact (List.mem_filter.mp (List.mem_of_find?_eq_some h)).1

theorem child_kind {can : SyntaxKind → Bool} {n c : CNode} (h : support.child can n = some c) :
    can c.kind = true := by
  rw [child_supp_eq] at h
  exact List.find?_some (p := fun c : CNode => can c.kind) h

theorem children_supp_mem {can : SyntaxKind → Bool} {n c : CNode} (h : c ∈ support.children can n) :
    c ∈ n.children := by
  rw [children_supp_eq] at h
  exact (List.mem_filter.mp (List.mem_filter.mp h).1).1

theorem children_kind {can : SyntaxKind → Bool} {n c : CNode} (h : c ∈ support.children can n) :
    can c.kind = true := by
  rw [children_supp_eq] at h
  exact (List.mem_filter.mp h).2

theorem find?_nonTrivia (p : CNode → Bool) (hp : ∀ c, c.kind.isTrivia = true → p c = false)
    (l : List CNode) : l.find? p = (l.filter (fun c => !c.kind.isTrivia)).find? p := by
  induction l with
  | nil => rfl
  | cons c cs ih =>
    cases ht : c.kind.isTrivia
    · simp [ht, List.find?_cons, ih]
    · simp [ht, hp c ht, ih]

theorem findSome?_nonTrivia {β : Type} (f : CNode → Option β)
    (hf : ∀ c, c.kind.isTrivia = true → f c = none) (l : List CNode) :
    l.findSome? f = (l.filter (fun c => !c.kind.isTrivia)).findSome? f := by
  induction l with
  | nil => rfl
  | cons c cs ih =>
    cases ht : c.kind.isTrivia
    · simp [ht, List.findSome?_cons, ih]
    · simp [ht, hf c ht, ih]

theorem binaryOpOfKind_trivia (k : SyntaxKind) (h : k.isTrivia = true) : binaryOpOfKind k = none := by
  cases k <;> first | rfl | cases h

def PRes.map {α β : Type} (f : α → β) : PRes α → PRes β
  | .ok a => .ok (f a)
  | .panic => .panic

def BlockOrStmt.map (T : CNode → CNode) : BlockOrStmt → BlockOrStmt
  | .blockExpr b => .blockExpr (T b)
  | .stmt s => .stmt (T s)

def bosNode : BlockOrStmt → CNode
  | .blockExpr b => b
  | .stmt s => s

theorem optM_map {α : Type} {T : CNode → CNode} {f : CNode → BM α} {er : α → α} (Q : CNode → Prop)
    (o : Option CNode) (hm : ∀ c, o = some c → Q c) (ih : ∀ c, Q c → f (T c) = (f c).map er) :
    Build.optM f (o.map T) = (Build.optM f o).map (Option.map er) := by
  cases o with
  | none => rfl
  | some c =>
    simp only [Option.map_some, Build.optM]
    rw [ih c (hm c rfl)]
    cases f c <;> rfl

theorem listM_map {α : Type} {T : CNode → CNode} {f : CNode → BM α} {er : α → α} (Q : CNode → Prop)
    (l : List CNode) (hm : ∀ c, c ∈ l → Q c) (ih : ∀ c, Q c → f (T c) = (f c).map er) :
    Build.listM f (l.map T) = (Build.listM f l).map (List.map er) := by
  induction l with
  | nil => rfl
  | cons c cs ihl =>
    simp only [List.map_cons, Build.listM]
    rw [ih c (hm c List.mem_cons_self), ihl (fun d hd => hm d (List.mem_cons_of_mem _ hd))]
    cases f c with
    | error e => rfl
    | ok a => cases Build.listM f cs <;> rfl

structure NodeMap (T : CNode → CNode) : Prop where
  kind : ∀ c, (T c).kind = c.kind
  isToken : ∀ c, (T c).isToken = c.isToken
  tokenText : ∀ c, c.kind ≠ .IDENT → (T c).tokenText = c.tokenText
  childNodes : ∀ n, (T n).childNodes = n.childNodes.map T
  childTokens : ∀ n, (T n).childTokens.filter (fun c => !c.kind.isTrivia) =
    (n.childTokens.filter (fun c => !c.kind.isTrivia)).map T
  firstNonTrivia : ∀ n, (T n).children.find? (fun e => !e.kind.isTrivia) =
    (n.children.find? (fun e => !e.kind.isTrivia)).map T

namespace NodeMap
variable {T : CNode → CNode} (h : NodeMap T)
include h

theorem children_supp (can : SyntaxKind → Bool) (n : CNode) :
    support.children can (T n) = (support.children can n).map T := by
  rw [children_supp_eq, children_supp_eq, h.childNodes, List.filter_map]
  simp only [Function.comp_def, h.kind]

theorem child_supp (can : SyntaxKind → Bool) (n : CNode) :
    support.child can (T n) = (support.child can n).map T := by
  rw [child_supp_eq, child_supp_eq, h.childNodes, List.find?_map]
  simp only [Function.comp_def, h.kind]

theorem child_supp_isSome (can : SyntaxKind → Bool) (n : CNode) :
    (support.child can (T n)).isSome = (support.child can n).isSome := by
  rw [h.child_supp, Option.isSome_map]

theorem token_supp (n : CNode) (k : SyntaxKind) (hk : k.isTrivia = false) :
    support.token (T n) k = (support.token n k).map T := by
  have hp : ∀ c : CNode, c.kind.isTrivia = true → (c.kind == k) = false := by
    intro c hc
    cases hck : c.kind == k
    · rfl
    · rw [eq_of_beq hck, hk] at hc; cases hc
  unfold support.token
  rw [find?_nonTrivia _ hp, h.childTokens, find?_nonTrivia _ hp n.childTokens, List.find?_map]
  simp only [Function.comp_def, h.kind]

theorem token_supp_isSome (n : CNode) (k : SyntaxKind) (hk : k.isTrivia = false) :
    (support.token (T n) k).isSome = (support.token n k).isSome := by
  rw [h.token_supp n k hk, Option.isSome_map]

theorem assign_rhs (n : CNode) : AssignmentStmt.rhs (T n) = (AssignmentStmt.rhs n).map T := by
  unfold AssignmentStmt.rhs
  simp only [h.children_supp, List.head?_map, List.getElem?_map, Option.isSome_map]
  split <;> rfl

theorem condition (n : CNode) : IfStmt.condition (T n) = (IfStmt.condition n).map T := by
  unfold IfStmt.condition
  simp only [h.children_supp, List.head?_map, List.getElem?_map]
  rcases (support.children Expr.canCast n).head? with _ | e
  · rfl
  · simp only [Option.map_some, Expr.isBlockExpr, h.kind]
    by_cases hb : (e.kind == SyntaxKind.BLOCK_EXPR) = true
    · simp only [hb, if_true]
      cases (support.children Expr.canCast n)[1]? <;> rfl
    · simp only [hb]; rfl

theorem while_condition (n : CNode) : WhileStmt.condition (T n) = (WhileStmt.condition n).map T :=
  h.condition n

theorem then_branch_block (n : CNode) :
    IfStmt.then_branch_block (T n) = (IfStmt.then_branch_block n).map T := by
  unfold IfStmt.then_branch_block
  simp only [h.children_supp, List.getElem?_map]
  rcases (support.children Expr.canCast n)[1]? with _ | e
  · rfl
  · simp only [Option.map_some, Expr.isBlockExpr, h.kind]
    by_cases hb : (e.kind == SyntaxKind.BLOCK_EXPR) = true <;> simp [hb]

theorem else_branch_block (n : CNode) :
    IfStmt.else_branch_block (T n) = (IfStmt.else_branch_block n).map T := by
  unfold IfStmt.else_branch_block
  simp only [h.children_supp, List.getElem?_map]
  rcases (support.children Expr.canCast n)[2]? with _ | e
  · rfl
  · simp only [Option.map_some, Expr.isBlockExpr, h.kind]
    by_cases hb : (e.kind == SyntaxKind.BLOCK_EXPR) = true <;> simp [hb]

theorem if_true_body (n : CNode) :
    IfStmt.true_body_block_or_stmt (T n) =
      (IfStmt.true_body_block_or_stmt n).map (BlockOrStmt.map T) := by
  unfold IfStmt.true_body_block_or_stmt IfStmt.then_branch_stmt
  rw [h.then_branch_block, h.child_supp]
  cases IfStmt.then_branch_block n <;> cases support.child Stmt.canCast n <;> rfl

theorem if_false_body (n : CNode) :
    IfStmt.false_body_block_or_stmt (T n) =
      (IfStmt.false_body_block_or_stmt n).map (BlockOrStmt.map T) := by
  unfold IfStmt.false_body_block_or_stmt IfStmt.else_branch_stmt
  rw [h.else_branch_block, h.child_supp]
  cases IfStmt.else_branch_block n <;> cases support.child Stmt.canCast n <;> rfl

theorem while_block_or_stmt (n : CNode) :
    WhileStmt.block_or_stmt (T n) = (WhileStmt.block_or_stmt n).map (BlockOrStmt.map T) := by
  unfold WhileStmt.block_or_stmt WhileStmt.body WhileStmt.stmt
  simp only [h.children_supp, List.head?_map]
  cases (support.children BlockExpr.canCast n).head? <;>
    cases (support.children Stmt.canCast n).head? <;> rfl

theorem for_block_or_stmt (n : CNode) :
    ForStmt.block_or_stmt (T n) = (ForStmt.block_or_stmt n).map (BlockOrStmt.map T) := by
  unfold ForStmt.block_or_stmt ForStmt.body ForStmt.stmt
  simp only [h.child_supp]
  cases support.child BlockExpr.canCast n <;> cases support.child Stmt.canCast n <;> rfl

theorem bin_op_kind (n : CNode) : BinExpr.op_kind (T n) = BinExpr.op_kind n := by
  have hf : ∀ c : CNode, c.kind.isTrivia = true →
      (binaryOpOfKind c.kind).map (fun op => (c, op)) = none := by
    intro c hc; rw [binaryOpOfKind_trivia _ hc]; rfl
  unfold BinExpr.op_kind BinExpr.op_details
  rw [findSome?_nonTrivia _ hf, h.childTokens, findSome?_nonTrivia _ hf n.childTokens,
    List.findSome?_map]
  simp [Function.comp_def, h.kind]

theorem bin_lhs (n : CNode) : BinExpr.lhs (T n) = (BinExpr.lhs n).map T := by
  unfold BinExpr.lhs; simp [h.children_supp]

theorem bin_rhs (n : CNode) : BinExpr.rhs (T n) = (BinExpr.rhs n).map T := by
  unfold BinExpr.rhs; simp [h.children_supp]

theorem range_sss (n : CNode) :
    RangeExpr.start_step_stop (T n) =
      ((RangeExpr.start_step_stop n).1.map T, (RangeExpr.start_step_stop n).2.1.map T,
       (RangeExpr.start_step_stop n).2.2.map T) := by
  unfold RangeExpr.start_step_stop
  simp only [h.children_supp, List.head?_map, List.getElem?_map, Option.isNone_map]
  split <;> rfl

theorem firstNonTriviaToken (n : CNode) :
    firstNonTriviaToken (T n) = (Acc.firstNonTriviaToken n).map T := by
  unfold Acc.firstNonTriviaToken
  rw [h.firstNonTrivia]
  generalize n.children.find? (fun e => !e.kind.isTrivia) = o
  cases o with
  | none => rfl
  | some c =>
    simp only [Option.map_some, h.isToken]
    cases c.isToken <;> rfl

/-- the text of an `IDENT` token is never read here -/
theorem literal_kind (n : CNode) :
    (Literal.kind (T n)).map Build.literalKind = (Literal.kind n).map Build.literalKind := by
  unfold Literal.kind Literal.token
  rw [h.firstNonTriviaToken]
  rcases Acc.firstNonTriviaToken n with t | _
  · simp only [PRes.map, h.kind]
    generalize hk : t.kind = k
    cases k <;> simp only [Build.literalKind] <;>
      rw [h.tokenText t (by rw [hk]; decide)]
  · rfl

theorem scalar_kind (n : CNode) : ScalarType.kind (T n) = ScalarType.kind n := by
  unfold ScalarType.kind ScalarType.token
  rw [h.firstNonTriviaToken]
  rcases Acc.firstNonTriviaToken n with t | _
  · simp only [PRes.map, h.kind]
  · rfl

theorem file_to_string (n : CNode) : FilePath.to_string (T n) = FilePath.to_string n := by
  unfold FilePath.to_string FilePath.string FilePath.token
  rw [h.firstNonTriviaToken]
  generalize Acc.firstNonTriviaToken n = r
  cases r with
  | panic => rfl
  | ok t =>
    simp only [PRes.map, h.kind]
    by_cases hk : (t.kind == SyntaxKind.STRING) = true
    · simp only [hk, if_true]
      rw [h.tokenText t (by rw [eq_of_beq hk]; decide)]
    · simp only [hk]; rfl

theorem gate_call_identifier (n : CNode) :
    GateCallExpr.identifier (T n) = (GateCallExpr.identifier n).map T := by
  unfold GateCallExpr.identifier
  simp only [h.children_supp, List.head?_map]
  rcases (support.children Expr.canCast n).head? with _ | e
  · rfl
  · simp only [Option.map_some, h.kind]; split <;> rfl

theorem call_identifier (n : CNode) : CallExpr.identifier (T n) = (CallExpr.identifier n).map T :=
  h.gate_call_identifier n

theorem gate_angle_params (n : CNode) : Gate.angle_params (T n) = (Gate.angle_params n).map T := by
  unfold Gate.angle_params Gate.angles_and_or_qubits
  simp only [h.children_supp, List.head?_map, List.getElem?_map, Option.isNone_map]
  split <;> rfl

theorem gate_qubit_params (n : CNode) : Gate.qubit_params (T n) = (Gate.qubit_params n).map T := by
  unfold Gate.qubit_params Gate.angles_and_or_qubits
  simp only [h.children_supp, List.head?_map, List.getElem?_map, Option.isNone_map]
  split <;> rfl

/-- `PrefixExpr::op_token` reads the first child, trivia or not -/
theorem prefix_op_kind {n : CNode} (hh : (T n).children.head? = n.children.head?.map T) :
    PrefixExpr.op_kind (T n) = PrefixExpr.op_kind n := by
  unfold PrefixExpr.op_kind PrefixExpr.op_token
  rw [hh]
  rcases n.children.head? with _ | c
  · rfl
  · simp only [Option.map_some, h.isToken]
    cases c.isToken
    · rfl
    · simp only [if_true, h.kind]

end NodeMap

end Oq3.Acc
