/-
The tight work bounds: the counters.  `Lemmas/Work.lean` describes what every parser-API call and grammar function
does to them by a row of constants and walks the grammar functions with these rows (`Lemmas/GrammarWork*.lean`).

Three counters are bounded separately:
  * `steps`      — `nth` calls since the last bump (what the step limit of `Parser::nth` looks at),
  * `sinceBump`  — events since the last bump (what the `oq3_verif` no-progress hook looks at),
  * `events.size`.
`sinceBump` and `events.size` change in the same way under every parser-API call (each pushes at
most one event), so the proof is written once for an abstract counter `M.val` (`Sys`)
and instantiated twice (`sysSB`, `sysEV`).  For `sysSB` the proof excludes the hook panic; for
`sysEV` the hook panic is tolerated (its absence is the other instance's result).
-/
import Oq3.Lemmas.Progress
set_option linter.unusedSimpArgs false
set_option linter.unusedVariables false

namespace Oq3.Parser
open Oq3.Gen

/-- failures excluded by the termination proof: fuel exhaustion and the two hang detectors -/
def A5 (o : Outcome) : Prop :=
  o ≠ .fuel ∧ o ≠ .panic "Parser::nth the parser seems stuck" ∧ o ≠ .panic "oq3_verif: no progress"

/-- an event-like counter with its budget invariant and the failures the proof tolerates -/
structure Sys where
  val : P → Nat
  A : Outcome → Prop
  /-- `Good B Bs s`: the budgets `B` (for `val`) and `Bs` (for `steps`) are below the limits of `s` -/
  Good : Nat → Nat → P → Prop
  push : ∀ s s', s'.events.size ≤ s.events.size + 1 → s'.sinceBump ≤ s.sinceBump + 1 → val s' ≤ val s + 1
  keep : ∀ s s', s'.events.size ≤ s.events.size → s'.sinceBump ≤ s.sinceBump → val s' ≤ val s
  good : ∀ B Bs s s', Good B Bs s → s'.noProgressLimit = s.noProgressLimit → s'.stepLimit = s.stepLimit → Good B Bs s'
  stepLim : ∀ B Bs s, Good B Bs s → Bs ≤ s.stepLimit
  hook : ∀ B Bs s, Good B Bs s → val s ≤ B → s.hookTrip = true → A (.panic "oq3_verif: no progress")
  other : ∀ o, o ≠ .fuel → o ≠ .panic "Parser::nth the parser seems stuck" → o ≠ .panic "oq3_verif: no progress" → A o

/-- the counter of the no-progress hook; the hook panic is excluded -/
def sysSB : Sys where
  val s := s.sinceBump
  A := A5
  Good B Bs s := (s.noProgressLimit = 0 ∨ B < s.noProgressLimit) ∧ Bs ≤ s.stepLimit
  push _ _ _ h := h
  keep _ _ _ h := h
  good B Bs s s' h h1 h2 := by rw [h1, h2]; exact h
  stepLim _ _ _ h := h.2
  hook B Bs s h hb ht := by
    exfalso
    simp only [P.hookTrip, Bool.and_eq_true, decide_eq_true_eq] at ht
    rcases h.1 with h0 | h0 <;> omega
  other o h1 h2 h3 := ⟨h1, h2, h3⟩

/-- the number of events; here the hook panic is tolerated (its absence is `sysSB`'s result) -/
def sysEV : Sys where
  val s := s.events.size
  A o := o ≠ .fuel ∧ o ≠ .panic "Parser::nth the parser seems stuck"
  Good B Bs s := Bs ≤ s.stepLimit
  push _ _ h _ := h
  keep _ _ h _ := h
  good B Bs s s' h h1 h2 := by rw [h2]; exact h
  stepLim _ _ _ h := h
  hook _ _ _ _ _ _ := ⟨by decide, by decide⟩
  other o h1 h2 _ := ⟨h1, h2⟩

open Lean Elab Tactic Meta in
/-- like `wp_callB`: the system `M` and the budgets are read off the hypothesis `M.Good B Bs s` for the
current state `s` -/
elab "wp_callS " sfx:ident : tactic => withMainContext do
  let g ← getMainGoal
  let t ← whnfR (← instantiateMVars (← g.getType))
  unless t.isAppOfArity ``Oq3.Parser.wp 5 do throwError "wp_callS: not a wp goal"
  let prog ← whnfR t.getAppArgs[2]!
  let st := t.getAppArgs[4]!
  let .const fn _ := prog.getAppFn | throwError "wp_callS: no head constant"
  unless (`Oq3.Grammar).isPrefixOf fn do throwError "wp_callS: not a grammar function"
  let mut bud : Option (Expr × Expr × Expr) := none
  for d in (← getLCtx) do
    if d.isImplementationDetail then continue
    let ty ← instantiateMVars d.type
    if ty.isAppOfArity ``Oq3.Parser.Sys.Good 4 && ty.getAppArgs[3]! == st then
      bud := some (ty.getAppArgs[0]!, ty.getAppArgs[1]!, ty.getAppArgs[2]!)
  let some (m, b, bs) := bud | throwError "wp_callS: no budget for the current state"
  let mstx ← Lean.Elab.Term.exprToSyntax m
  let bstx ← Lean.Elab.Term.exprToSyntax b
  let bsstx ← Lean.Elab.Term.exprToSyntax bs
  let nargs := prog.getAppNumArgs
  let leafName := fn.appendAfter ("_" ++ sfx.getId.eraseMacroScopes.toString)
  let hole ← `(_)
  if (← getEnv).contains leafName then
    let us : Array (TSyntax `term) := (#[mstx] ++ Array.replicate nargs hole).push bstx |>.push bsstx |>.push hole
    evalTactic (← `(tactic| with_reducible refine wp_conseq ($(mkIdent leafName) $us* ?_) ?_))
  else
    let some short := fn.components.getLast? | throwError "wp_callS: bad name"
    let us : Array (TSyntax `term) := (Array.replicate (nargs - 1) hole).push bstx |>.push bsstx |>.push hole
    evalTactic (← `(tactic| with_reducible refine wp_conseq ($(mkIdent (`ih ++ short)) $us* ?_) ?_))

end Oq3.Parser
