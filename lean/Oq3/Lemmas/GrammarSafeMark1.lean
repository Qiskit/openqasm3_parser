/- GENERATED by /verif/tools/gen_grammar_safe.py from Oq3/Model/Grammar.lean — the proofs are checked by Lean. -/
import Oq3.Lemmas.GrammarSafeMark0
set_option linter.unusedVariables false

namespace Oq3.Grammar
open Oq3.Gen Oq3.Parser
open Oq3.Gen.Ops (Assoc)
open Oq3.Gen.TokenSets

theorem optReturnSignature_mw {fuel : Nat} (ih : AllMark fuel) :
    Walk0 (Oq3.Grammar.optReturnSignature (fuel + 1)) fun _ _ _ => True := fun a => by
  unfold Oq3.Grammar.optReturnSignature; mw [typeSpec (MW.call0 ih.typeSpec)]

theorem delimitedParser_mw {fuel : Nat} (ih : AllMark fuel) (parser : DelimitedParser) :
    Walk0 (Oq3.Grammar.delimitedParser (fuel + 1) parser) fun _ _ _ => True := fun a => by
  unfold Oq3.Grammar.delimitedParser; mw [expr (MW.call0 ih.expr)]

theorem optItem_mw {fuel : Nat} (ih : AllMark fuel) (m : Marker) :
    WalkE m (Oq3.Grammar.optItem (fuel + 1) m) := fun a hm => by
  unfold Oq3.Grammar.optItem; mw [break_ (MW.callM (break__mark _)), continue_ (MW.callM (continue__mark _)), end_ (MW.callM (end__mark _)), defcalgrammar_ (MW.callM (defcalgrammar__mark _)), include' (MW.callM (include'_mark _)), versionString (MW.callM (versionString_mark _)), switchCaseStmt (MW.callM (ih.switchCaseStmt _)), ifStmt (MW.callM (ih.ifStmt _)), whileStmt (MW.callM (ih.whileStmt _)), forStmt (MW.callM (ih.forStmt _)), qubitDeclarationStmt (MW.callM (ih.qubitDeclarationStmt _)), resetStmt (MW.callM (ih.resetStmt _)), gateDefinition (MW.callM (ih.gateDefinition _)), defcal_ (MW.callM (ih.defcal_ _)), classicalDeclarationStmt (MW.callM (ih.classicalDeclarationStmt _)), ioDeclarationStmt (MW.callM (ih.ioDeclarationStmt _)), defStmt (MW.callM (ih.defStmt _)), externStmt (MW.callM (ih.externStmt _)), cal_ (MW.callM (ih.cal_ _)), barrier_ (MW.callM (ih.barrier_ _)), delayStmt (MW.callM (ih.delayStmt _)), aliasStmt (MW.callM (ih.aliasStmt _))]

theorem blockOrStatement_mw {fuel : Nat} (ih : AllMark fuel) :
    Walk0 (Oq3.Grammar.blockOrStatement (fuel + 1)) fun _ _ _ => True := fun a => by
  unfold Oq3.Grammar.blockOrStatement; mw [stmt (MW.call0 ih.stmt), blockExpr (MW.callD ih.blockExpr)]

theorem forStmt_mw {fuel : Nat} (ih : AllMark fuel) (m : Marker) :
    WalkM m (Oq3.Grammar.forStmt (fuel + 1) m) fun _ _ _ => True := fun a hm => by
  unfold Oq3.Grammar.forStmt; mw [name (MW.call0 name_mark), blockOrStatement (MW.call0 ih.blockOrStatement), expr (MW.call0 ih.expr), rangeExpr (MW.call0 ih.rangeExpr), typeSpec (MW.call0 ih.typeSpec), setExpression (MW.call0 ih.setExpression)]

theorem gateDefinition_mw {fuel : Nat} (ih : AllMark fuel) (m : Marker) :
    WalkM m (Oq3.Grammar.gateDefinition (fuel + 1) m) fun _ _ _ => True := fun a hm => by
  unfold Oq3.Grammar.gateDefinition; mw [nameR (MW.call0 (nameR_mark _)), tryBlockExpr (MW.call0 ih.tryBlockExpr), paramListGateParams (MW.call0 ih.paramListGateParams), paramListGateQubits (MW.call0 ih.paramListGateQubits)]

theorem classicalDeclarationStmt_mw {fuel : Nat} (ih : AllMark fuel) (m : Marker) :
    WalkM m (Oq3.Grammar.classicalDeclarationStmt (fuel + 1) m) fun _ _ _ => True := fun a hm => by
  unfold Oq3.Grammar.classicalDeclarationStmt; mw [returnsBoolClassicalDeclarationStmt (MW.callM (ih.returnsBoolClassicalDeclarationStmt _))]

theorem externStmt_mw {fuel : Nat} (ih : AllMark fuel) (m : Marker) :
    WalkM m (Oq3.Grammar.externStmt (fuel + 1) m) fun _ _ _ => True := fun a hm => by
  unfold Oq3.Grammar.externStmt; mw [nameR (MW.call0 (nameR_mark _)), optReturnSignature (MW.call0 ih.optReturnSignature), scalarTypeList (MW.call0 ih.scalarTypeList)]

theorem delayStmt_mw {fuel : Nat} (ih : AllMark fuel) (m : Marker) :
    WalkM m (Oq3.Grammar.delayStmt (fuel + 1) m) fun _ _ _ => True := fun a hm => by
  unfold Oq3.Grammar.delayStmt; mw [designator (MW.call0 ih.designator), argListGateCallQubits (MW.call0 ih.argListGateCallQubits)]

theorem rangeExpr_mw {fuel : Nat} (ih : AllMark fuel) :
    Walk0 (Oq3.Grammar.rangeExpr (fuel + 1)) fun _ _ _ => True := fun a => by
  unfold Oq3.Grammar.rangeExpr; mw [exprBp (MW.call0 (optNone (ih.exprBp _ _ _)))]

theorem exprStmt_some_mw {fuel : Nat} (ih : AllMark fuel) (m : Marker) :
    WalkM m (Oq3.Grammar.exprStmt (fuel + 1) (some m)) fun s r s' => (∀ cm bl, r = some (cm, bl) → Done s' cm ∧ obound (some m) s ≤ cm.pos) := fun a hm => by
  unfold Oq3.Grammar.exprStmt; mw [exprBp (MW.callMO (ih.exprBp _ _ _))]

theorem qOrCRegParam_mw {fuel : Nat} (ih : AllMark fuel) :
    Walk0 (Oq3.Grammar.qOrCRegParam (fuel + 1)) fun _ _ _ => True := fun a => by
  unfold Oq3.Grammar.qOrCRegParam; mw [indexOperator (MW.call0 ih.indexOperator)]

theorem exprBp_none_mw {fuel : Nat} (ih : AllMark fuel) (r : Restrictions) (bp : Nat) :
    Walk0 (Oq3.Grammar.exprBp (fuel + 1) none r bp) fun s r s' => (∀ cm bl, r = some (cm, bl) → Done s' cm ∧ obound none s ≤ cm.pos) := fun a => by
  unfold Oq3.Grammar.exprBp; mw [exprBpLoop (MW.callLO (ih.exprBpLoop _ _ _)), lhs (MW.callO (ih.lhs _))]

theorem lhs_mw {fuel : Nat} (ih : AllMark fuel) (r : Restrictions) :
    Walk0 (Oq3.Grammar.lhs (fuel + 1) r) fun s r s' => (∀ cm bl, r = some (cm, bl) → Done s' cm ∧ s.events.size ≤ cm.pos) := fun a => by
  unfold Oq3.Grammar.lhs; mw [exprBp (MW.call0 (optNone (ih.exprBp _ _ _))), postfixExpr (MW.callLD1 (ih.postfixExpr _ _ _)), atomExpr (MW.callO (ih.atomExpr _))]

theorem paramTypeSpec_mw {fuel : Nat} (ih : AllMark fuel) :
    Walk0 (Oq3.Grammar.paramTypeSpec (fuel + 1)) fun _ _ _ => True := fun a => by
  unfold Oq3.Grammar.paramTypeSpec; mw [arrayTypeSpec (MW.call0 (ih.arrayTypeSpec _)), nonArrayTypeSpec (MW.call0 ih.nonArrayTypeSpec)]

theorem arrayTypeDimsLoop_mw {fuel : Nat} (ih : AllMark fuel) :
    Walk0 (Oq3.Grammar.arrayTypeDimsLoop (fuel + 1)) fun _ _ _ => True := fun a => by
  unfold Oq3.Grammar.arrayTypeDimsLoop; mw [expr (MW.call0 ih.expr), arrayTypeDimsLoop (MW.call0 ih.arrayTypeDimsLoop)]

theorem qubitTypeSpec_mw {fuel : Nat} (ih : AllMark fuel) :
    Walk0 (Oq3.Grammar.qubitTypeSpec (fuel + 1)) fun _ _ _ => True := fun a => by
  unfold Oq3.Grammar.qubitTypeSpec; mw [designator (MW.call0 ih.designator)]

theorem indexedIdentifier_mw {fuel : Nat} (ih : AllMark fuel) (lhs : CompletedMarker) :
    WalkL lhs (Oq3.Grammar.indexedIdentifier (fuel + 1) lhs) fun s r s' => Done s' r ∧ lhs.pos ≤ r.pos := fun a hl => by
  unfold Oq3.Grammar.indexedIdentifier; mw [indexedIdentifierLoop (MW.call0 ih.indexedIdentifierLoop)]

theorem indexOperator_mw {fuel : Nat} (ih : AllMark fuel) :
    Walk0 (Oq3.Grammar.indexOperator (fuel + 1)) fun _ _ _ => True := fun a => by
  unfold Oq3.Grammar.indexOperator; mw [setExpression (MW.call0 ih.setExpression), expressionList (MW.call0 ih.expressionList)]

theorem castExpr_mw {fuel : Nat} (ih : AllMark fuel) :
    Walk0 (Oq3.Grammar.castExpr (fuel + 1)) fun s r s' => Done s' r ∧ s.events.size ≤ r.pos := fun a => by
  unfold Oq3.Grammar.castExpr; mw [expr (MW.call0 ih.expr), typeSpec (MW.call0 ih.typeSpec)]

theorem modifiedGateCallExprLoop_mw {fuel : Nat} (ih : AllMark fuel) :
    Walk0 (Oq3.Grammar.modifiedGateCallExprLoop (fuel + 1)) fun _ _ _ => True := fun a => by
  unfold Oq3.Grammar.modifiedGateCallExprLoop; mw [expr (MW.call0 ih.expr), modifiedGateCallExprLoop (MW.call0 ih.modifiedGateCallExprLoop)]

theorem tupleExpr_mw {fuel : Nat} (ih : AllMark fuel) :
    Walk0 (Oq3.Grammar.tupleExpr (fuel + 1)) fun s r s' => Done s' r ∧ s.events.size ≤ r.pos := fun a => by
  unfold Oq3.Grammar.tupleExpr; mw [tupleExprLoop (MW.call0 (ih.tupleExprLoop _ _))]

theorem arrayExprLoop_mw {fuel : Nat} (ih : AllMark fuel) (nExprs : Nat) (hasSemi : Bool) :
    Walk0 (Oq3.Grammar.arrayExprLoop (fuel + 1) nExprs hasSemi) fun _ _ _ => True := fun a => by
  unfold Oq3.Grammar.arrayExprLoop; mw [expr (MW.call0 ih.expr), arrayExprLoop (MW.call0 (ih.arrayExprLoop _ _))]

theorem returnExpr_mw {fuel : Nat} (ih : AllMark fuel) :
    Walk0 (Oq3.Grammar.returnExpr (fuel + 1)) fun s r s' => Done s' r ∧ s.events.size ≤ r.pos := fun a => by
  unfold Oq3.Grammar.returnExpr; mw [expr (MW.call0 ih.expr)]

theorem paramListGateParams_mw {fuel : Nat} (ih : AllMark fuel) :
    Walk0 (Oq3.Grammar.paramListGateParams (fuel + 1)) fun _ _ _ => True := fun a => by
  unfold Oq3.Grammar.paramListGateParams; mw [paramListOpenqasm (MW.call0 (ih.paramListOpenqasm _))]

theorem paramListDefParams_mw {fuel : Nat} (ih : AllMark fuel) :
    Walk0 (Oq3.Grammar.paramListDefParams (fuel + 1)) fun _ _ _ => True := fun a => by
  unfold Oq3.Grammar.paramListDefParams; mw [paramListOpenqasm (MW.call0 (ih.paramListOpenqasm _))]

theorem paramListDefcalQubits_mw {fuel : Nat} (ih : AllMark fuel) :
    Walk0 (Oq3.Grammar.paramListDefcalQubits (fuel + 1)) fun _ _ _ => True := fun a => by
  unfold Oq3.Grammar.paramListDefcalQubits; mw [paramListOpenqasm (MW.call0 (ih.paramListOpenqasm _))]

theorem arrayLiteral_mw {fuel : Nat} (ih : AllMark fuel) :
    Walk0 (Oq3.Grammar.arrayLiteral (fuel + 1)) fun _ _ _ => True := fun a => by
  unfold Oq3.Grammar.arrayLiteral; mw [paramListOpenqasm (MW.call0 (ih.paramListOpenqasm _))]

theorem paramListItem_mw {fuel : Nat} (ih : AllMark fuel) (flavor : DefFlavor) (m : Marker) (innerArrayLiteral : Bool) :
    WalkM m (Oq3.Grammar.paramListItem (fuel + 1) flavor m innerArrayLiteral) fun _ _ _ => True := fun a hm => by
  unfold Oq3.Grammar.paramListItem; mw [paramUntyped (MW.callM (paramUntyped_mark _)), paramUntypedOrHardwareQubit (MW.callM (paramUntypedOrHardwareQubit_mark _)), expr (MW.call0 ih.expr), exprOrRangeExpr (MW.call0 ih.exprOrRangeExpr), arrayLiteral (MW.call0 ih.arrayLiteral), paramTyped (MW.callM (ih.paramTyped _)), scalarType (MW.callM (ih.scalarType _)), argGateCallQubit (MW.callM (ih.argGateCallQubit _))]

theorem argGateCallQubit_mw {fuel : Nat} (ih : AllMark fuel) (m : Marker) :
    WalkM m (Oq3.Grammar.argGateCallQubit (fuel + 1) m) fun _ _ _ => True := fun a hm => by
  unfold Oq3.Grammar.argGateCallQubit; mw [indexedIdentifier (MW.callLD (ih.indexedIdentifier _))]

end Oq3.Grammar
