/-
The model syntax tree (`Builder.Tree`: kinds and leaf texts, ranges derived) as a `CNode`
(explicit ranges, the printed form of `oq3-run tree`), and the two notions of "erase the trivia":
`eraseTrivia (ofTree t off)` is a function of `eraseTriviaT t` alone (`E_ofTree`).
-/
import Oq3.Lemmas.AccTrivia
import Oq3.Lemmas.BuilderLayout

namespace Oq3.Acc
open Oq3.Gen Oq3.Builder Oq3.BuilderLayout

mutual
/-- the tree with its byte ranges, starting at offset `off`; second component: the end offset -/
def ofTree : Tree → Nat → CNode × Nat
  | .leaf k txt, off => (.token k off (off + Oq3.Builder.utf8Len txt) txt, off + Oq3.Builder.utf8Len txt)
  | .node k cs, off => (.node k off (ofTrees cs off).2 (ofTrees cs off).1, (ofTrees cs off).2)
def ofTrees : List Tree → Nat → List CNode × Nat
  | [], off => ([], off)
  | c :: cs, off => ((ofTree c off).1 :: (ofTrees cs (ofTree c off).2).1, (ofTrees cs (ofTree c off).2).2)
end

/-- the syntax tree (I4) of a model tree: ranges from offset 0 -/
def cnodeOf (t : Tree) : CNode := (ofTree t 0).1

mutual
def zeroTree : Tree → CNode
  | .leaf k txt => .token k 0 0 txt
  | .node k cs => .node k 0 0 (zeroTrees cs)
def zeroTrees : List Tree → List CNode
  | [] => []
  | c :: cs => zeroTree c :: zeroTrees cs
end

theorem isTriviaTok_ofTree (c : Tree) (off : Nat) : isTriviaTok (ofTree c off).1 = isTriviaLeaf c := by
  cases c <;> rfl

mutual
theorem E_ofTree : ∀ (t : Tree) (off : Nat), eraseTrivia (ofTree t off).1 = zeroTree (eraseTriviaT t)
  | .leaf k txt, off => rfl
  | .node k cs, off => by
    simp only [ofTree, eraseTrivia, eraseTriviaT, zeroTree]
    rw [EL_ofTrees cs off]
theorem EL_ofTrees : ∀ (cs : List Tree) (off : Nat),
    eraseTriviaL (ofTrees cs off).1 = zeroTrees (eraseTriviaTL cs)
  | [], off => rfl
  | c :: cs, off => by
    simp only [ofTrees, eraseTriviaL, eraseTriviaTL, isTriviaTok_ofTree]
    split
    · exact EL_ofTrees cs _
    · simp only [zeroTrees]
      rw [E_ofTree c off, EL_ofTrees cs _]
end

theorem eraseTrivia_cnodeOf {t1 t2 : Tree} (h : eraseTriviaT t1 = eraseTriviaT t2) :
    eraseTrivia (cnodeOf t1) = eraseTrivia (cnodeOf t2) := by
  unfold cnodeOf; rw [E_ofTree, E_ofTree, h]

end Oq3.Acc
