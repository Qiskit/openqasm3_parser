/-
`sym_eval`: a call-by-value symbolic evaluator for runs of the grammar model on overlay states
(`Oq3/Lemmas/SymExec.lean`).

Goal `prog S = R`, where `S` is an overlay state with concrete overlay data and the next tokens
are given by hypotheses.  The tactic evaluates the left-hand side head first —
`(x >>= f) S` by evaluating `x S` to a value and then `f a S'`; `if`s by deciding their
condition; `match`es by constructor reduction; calls of fuel-indexed grammar functions with their
`.run_i` equations; calls of leaf functions by unfolding; API primitives by rewriting with the
`*_ov` closed forms — and builds the proof term from the step lemmas below.  It leaves the goal
`V = R` for the computed value `V`.  Nothing is trusted: the result is an ordinary proof term.
The `.run_i` equations of the grammar functions are generated at the end of this file (`gen_runs`).

WHAT A CALL `sym_eval [rules]` NEEDS (the macro `accept` of `Props/C04.lean` is the shortest complete example).
* The state of the goal is an overlay `s.ov E dp st sb lv pr` with a literal list `E` and a literal `dp`; a goal `prog s = R`
  is brought into this form by `of_ov`.
* The side conditions of the `*_ov` rules are discharged by `assumption | decide | omega`, so the context holds
  `s.noProgressLimit = 0`, a bound on `s.steps` from which `omega` gets `st ≤ s.stepLimit` at every look-ahead, and
  `hpr : ∀ p ∈ s.protectedPos, p < s.events.size` (the three fields of `Ready s`).
* Every run completes or abandons a marker, which filters or searches the ghost list: pass `filter_base s hpr` and
  `contains_base s hpr` among the rules when the ghost list of the overlay is `s.protectedPos`.
* One rule per token read, in the form the `*_ov` rules ask for it: `s.kindAt (s.pos + i) = K` with the literal `i`, written
  `s.pos + 0` for the first token (sums of literals are folded, `+ 0` is not removed).
* A part of the phrase that has a lemma of its own enters as a rule `f args (s.ov E0 dp 0 sb lv pr) = .ok (a, s.ov (E0 ++ E) dp' …)`
  for all `E0`, `sb`, `lv` (`RunAt` of `Lemmas/LangEvRun.lean`): rules are tried on a call of a grammar function before its
  `.run_i` equations.
-/
import Lean
import Oq3.Lemmas.SymExec

namespace Oq3.Parser

theorem bind_step {α β} (x : G α) (f : α → G β) (S : P) (a : α) (s1 : P)
    (v : Except Outcome (β × P)) (h1 : x S = .ok (a, s1)) (h2 : f a s1 = v) : (x >>= f) S = v := by
  rw [G.bind_apply, h1]; exact h2

theorem bind_err {α β} (x : G α) (f : α → G β) (S : P) (e : Outcome) (h1 : x S = .error e) :
    (x >>= f) S = .error e := by
  rw [G.bind_apply, h1]

theorem ite_pos_step {α} (c : Prop) [Decidable c] (x y : G α) (S : P) (h : c = True) :
    (if c then x else y) S = x S := by
  have : c := by rw [h]; trivial
  simp only [this, if_true]

theorem ite_neg_step {α} (c : Prop) [Decidable c] (x y : G α) (S : P) (h : c = False) :
    (if c then x else y) S = y S := by
  have : ¬ c := by rw [h]; exact not_false
  simp only [this, if_false]

theorem andM_eq (x y : G Bool) (S : P) :
    (x <&&> y) S = (x >>= fun b => if b = true then y else pure false) S := by
  rw [G.andM_res, G.bind_res]

theorem orM_eq (x y : G Bool) (S : P) :
    (x <||> y) S = (x >>= fun b => if b = true then pure true else y) S := by
  rw [G.orM_res, G.bind_res]

theorem notM_eq (x : G Bool) (S : P) : (notM x) S = (x >>= fun b => pure (!b)) S := by
  rw [G.notM_res, G.bind_res]

end Oq3.Parser

namespace Oq3.Grammar
open Oq3.Gen Oq3.Parser
open Oq3.Gen.Ops (Assoc)

theorem currentOpScan_none (cur : SyntaxKind)
    (rows : List (SyntaxKind × Option SyntaxKind × Option (Nat × SyntaxKind × Assoc)))
    (h : rows.any (fun r => r.1 == cur) = false) (S : P) :
    currentOpScan cur rows S = .ok (notAnOp, S) := by
  rw [PrattEv.currentOpScan_eq, PrattEv.scanF_none _ _ _ _ _ h]

/-- the tokens with which an operator of `current_op` can start (`PrattEv.startsOp`, by `rfl`) -/
def opFirst (k : SyntaxKind) : Bool := Ops.currentOpRows.any (fun r => r.1 == k)

/-- the `Follow` condition of an assignment: the next token starts no operator of `current_op` -/
theorem currentOp_follow (s : P) (k : SyntaxKind) (dp : Nat) (hk : s.kindAt (s.pos + dp) = k)
    (hf : opFirst k = false) (E : List Ev) (st sb lv : Nat) (pr : List Nat) :
    currentOp (s.ov E dp st sb lv pr) = .ok (notAnOp, s.ov E dp st sb lv pr) := by
  rw [PrattEv.currentOp_ov, PrattEv.opF_nonop _ _ _ (by rw [show s.kinds.getD _ .EOF = k from hk]; exact hf)]

end Oq3.Grammar

namespace Oq3.SymExec
open Lean Meta Elab Tactic

/-- evaluate a closed `Bool` term by definitional unfolding -/
def reduceClosedBoolImpl (e : Expr) : SimpM Simp.DStep := do
  if e.hasFVar || e.hasMVar then return .continue
  if e.isConstOf ``true || e.isConstOf ``false then return .continue
  let v ← whnfD e
  if v.isConstOf ``true || v.isConstOf ``false then return .done v
  return .continue

dsimproc_decl closedIsClassicalType (Oq3.Parser.isClassicalType _) := reduceClosedBoolImpl
dsimproc_decl closedIsType (Oq3.Parser.isType _) := reduceClosedBoolImpl
dsimproc_decl closedIsCregOrQreg (Oq3.Parser.isCregOrQreg _) := reduceClosedBoolImpl
dsimproc_decl closedIsScalarType (Oq3.Gen.SyntaxKind.isScalarType _) := reduceClosedBoolImpl
dsimproc_decl closedTypeCanHaveDesignator (Oq3.Grammar.typeCanHaveDesignator _) := reduceClosedBoolImpl
dsimproc_decl closedIsBlock (Oq3.Grammar.BlockLike.isBlock _) := reduceClosedBoolImpl
dsimproc_decl closedIsBlocklike (Oq3.Grammar.BlockLike.isBlocklike _) := reduceClosedBoolImpl
dsimproc_decl closedBEq (_ == _) := reduceClosedBoolImpl
dsimproc_decl closedBNe (_ != _) := reduceClosedBoolImpl
dsimproc_decl closedContains (List.contains _ _) := reduceClosedBoolImpl

structure EvalCtx where
  simp : Expr → MetaM Simp.Result
  /-- rewriting with the user-supplied rules only (tried first on calls of grammar functions) -/
  userSimp : Expr → MetaM Simp.Result
  /-- names of definitions that are evaluated by unfolding -/
  unfold : Name → Bool

def isValue (e : Expr) : Bool := e.isAppOf ``Except.ok || e.isAppOf ``Except.error

/-- `Except.ok (a, s1)` ↦ `(a, s1)` -/
def okParts (v : Expr) : MetaM (Option (Expr × Expr)) := do
  if !v.isAppOf ``Except.ok then return none
  let pr ← whnfCore v.appArg!
  if pr.isAppOfArity ``Prod.mk 4 then
    return some (pr.getAppArgs[2]!, pr.getAppArgs[3]!)
  return none

/-- proof of `e = r.expr` also when `simp` only reports definitional equality -/
def proofOf (e : Expr) (r : Simp.Result) : MetaM Expr := do
  match r.proof? with
  | some p => return p
  | none => mkExpectedTypeHint (← mkEqRefl e) (← mkEq e r.expr)

partial def eval (cx : EvalCtx) (e0 : Expr) : MetaM (Expr × Expr) := do
  let e0 ← instantiateMVars e0
  let e ← whnfCore e0
  let finish (v pf : Expr) : MetaM (Expr × Expr) := do
    let pf ← instantiateMVars pf
    if pf.hasExprMVar then
      throwError "sym_eval: internal: metavariable left in the proof of the step at{indentExpr e0}\nproof{indentExpr (pf.headBeta)}"
    return (v, ← mkExpectedTypeHint pf (← mkEq e0 v))
  if isValue e then
    return (e, ← mkEqRefl e)
  let fn := e.getAppFn
  let args := e.getAppArgs
  -- (x >>= f) S
  if fn.isConstOf ``Bind.bind && args.size == 7 then
    let α := args[2]!; let β := args[3]!; let x := args[4]!; let f := args[5]!; let S := args[6]!
    let (v1, p1) ← eval cx (mkApp x S)
    match ← okParts v1 with
    | some (a, s1) =>
      let e2 := (mkApp2 f a s1).headBeta
      let (v, p2) ← eval cx e2
      let p2' ← mkExpectedTypeHint p2 (← mkEq (mkApp2 f a s1) v)
      let pf ← mkAppOptM ``Oq3.Parser.bind_step #[α, β, x, f, S, a, s1, v, p1, p2']
      return ← finish v pf
    | none =>
      if v1.isAppOf ``Except.error then
        let err := v1.appArg!
        let pf ← mkAppOptM ``Oq3.Parser.bind_err #[α, β, x, f, S, err, p1]
        let ty ← inferType pf
        let some (_, _, v) := ty.eq? | throwError "sym_eval: internal (bind_err)"
        return ← finish v pf
      throwError "sym_eval: the run is stuck at{indentExpr v1}"
  -- (if c then x else y) S
  if fn.isConstOf ``ite && args.size == 6 then
    let c := args[1]!; let inst := args[2]!; let x := args[3]!; let y := args[4]!
    let S := args[5]!
    let r ← cx.simp c
    let hc ← proofOf c r
    if r.expr.isConstOf ``True then
      let (v, p2) ← eval cx (mkApp x S)
      let p0 ← mkAppOptM ``Oq3.Parser.ite_pos_step #[none, c, inst, x, y, S, hc]
      return ← finish v (← mkEqTrans p0 p2)
    else if r.expr.isConstOf ``False then
      let (v, p2) ← eval cx (mkApp y S)
      let p0 ← mkAppOptM ``Oq3.Parser.ite_neg_step #[none, c, inst, x, y, S, hc]
      return ← finish v (← mkEqTrans p0 p2)
    else
      throwError "sym_eval: cannot decide the condition{indentExpr c}\nsimplified to{indentExpr r.expr}"
  -- fuel-indexed grammar function with a `.run` equation, or an unfoldable leaf definition
  if let .const n _ := fn then
    if (`Oq3.Grammar).isPrefixOf n then
      let r ← cx.userSimp e
      if r.expr != e then
        let p1 ← proofOf e r
        let (v, p2) ← eval cx r.expr
        return ← finish v (← mkEqTrans p1 p2)
    for runName in (List.range 20).map (fun i => n ++ Name.mkSimple s!"run_{i + 1}") do
      if (← getEnv).contains runName then
        let thm ← mkConstWithFreshMVarLevels runName
        let (mvars, _, ty) ← forallMetaTelescope (← inferType thm)
        let some (_, lhs, rhs) := ty.eq? | throwError "sym_eval: bad run lemma {runName}"
        if ← withReducible (isDefEq lhs e) then
          let rhs ← instantiateMVars rhs
          let p0 ← instantiateMVars (mkAppN thm mvars)
          let (v, p2) ← eval cx rhs
          return ← finish v (← mkEqTrans p0 p2)
    if cx.unfold n then
      if let some e2 ← unfoldDefinition? e then
        let (v, p2) ← eval cx e2
        return ← finish v p2
  -- anything else: one rewriting pass with the closed forms of the primitives
  let r ← cx.simp e
  if r.expr == e then
    throwError "sym_eval: the run is stuck (or out of fuel) at{indentExpr e}"
  let p1 ← proofOf e r
  let (v, p2) ← eval cx r.expr
  finish v (← mkEqTrans p1 p2)

open Oq3.Parser in
/-- `sym_eval [h₁, …]`: evaluate the left-hand side of the goal `prog S = R` (see the module
doc); the `hᵢ` are the token hypotheses and any further rewrite rules for values. -/
elab "sym_eval" "[" hs:Lean.Parser.Tactic.simpLemma,* "]" : tactic => withMainContext do
  let stx ← `(tactic| simp (config := { decide := true }) (disch := first | assumption | decide | omega) only
    [andM_eq, orM_eq, notM_eq, G.pure_apply, G.fail_apply, G.panic_apply,
     current_ov, nth_ov, at_ov, atTs_ov,
     at_comp2_ov _ _ _ _ _ _ _ .MINUSEQ .MINUS .EQ (by decide),
     at_comp2_ov _ _ _ _ _ _ _ .THIN_ARROW .MINUS .R_ANGLE (by decide),
     at_comp2_ov _ _ _ _ _ _ _ .COLON2 .COLON .COLON (by decide),
     at_comp2_ov _ _ _ _ _ _ _ .NEQ .BANG .EQ (by decide),
     at_comp2_ov _ _ _ _ _ _ _ .DOT2 .DOT .DOT (by decide),
     at_comp2_ov _ _ _ _ _ _ _ .STAREQ .STAR .EQ (by decide),
     at_comp2_ov _ _ _ _ _ _ _ .SLASHEQ .SLASH .EQ (by decide),
     at_comp2_ov _ _ _ _ _ _ _ .AMP2 .AMP .AMP (by decide),
     at_comp2_ov _ _ _ _ _ _ _ .AMPEQ .AMP .EQ (by decide),
     at_comp2_ov _ _ _ _ _ _ _ .PERCENTEQ .PERCENT .EQ (by decide),
     at_comp2_ov _ _ _ _ _ _ _ .CARETEQ .CARET .EQ (by decide),
     at_comp2_ov _ _ _ _ _ _ _ .PLUSEQ .PLUS .EQ (by decide),
     at_comp2_ov _ _ _ _ _ _ _ .DOUBLE_PLUS .PLUS .PLUS (by decide),
     at_comp2_ov _ _ _ _ _ _ _ .DOUBLE_STAR .STAR .STAR (by decide),
     at_comp2_ov _ _ _ _ _ _ _ .SHL .L_ANGLE .L_ANGLE (by decide),
     at_comp2_ov _ _ _ _ _ _ _ .LTEQ .L_ANGLE .EQ (by decide),
     at_comp2_ov _ _ _ _ _ _ _ .EQ2 .EQ .EQ (by decide),
     at_comp2_ov _ _ _ _ _ _ _ .FAT_ARROW .EQ .R_ANGLE (by decide),
     at_comp2_ov _ _ _ _ _ _ _ .GTEQ .R_ANGLE .EQ (by decide),
     at_comp2_ov _ _ _ _ _ _ _ .SHR .R_ANGLE .R_ANGLE (by decide),
     at_comp2_ov _ _ _ _ _ _ _ .PIPEEQ .PIPE .EQ (by decide),
     at_comp2_ov _ _ _ _ _ _ _ .PIPE2 .PIPE .PIPE (by decide),
     at_comp3_ov _ _ _ _ _ _ _ .DOT3 .DOT .DOT .DOT (by decide),
     at_comp3_ov _ _ _ _ _ _ _ .DOT2EQ .DOT .DOT .EQ (by decide),
     at_comp3_ov _ _ _ _ _ _ _ .SHLEQ .L_ANGLE .L_ANGLE .EQ (by decide),
     at_comp3_ov _ _ _ _ _ _ _ .SHREQ .R_ANGLE .R_ANGLE .EQ (by decide), error_ov, start_ov, doBump_ov,
     eat_ov, bump_ov, bumpAny_ov, expect_ov, complete_ov, abandon_ov, precede_ov, extendTo_ov,
     Oq3.Grammar.currentOpScan_none, Oq3.Grammar.notAnOp, Oq3.Gen.Ops.currentOpRows,
     List.nil_append, List.cons_append, List.length_cons, List.length_nil,
     List.getElem?_cons_zero, List.getElem?_cons_succ, List.getElem?_nil, List.set_cons_zero, List.set_cons_succ,
     List.getLast?_cons_cons, List.getLast?_singleton, List.dropLast_cons_cons, List.dropLast_singleton,
     List.filter_cons, List.contains_cons,
     Nat.reduceAdd, Nat.reduceSub, Nat.add_sub_cancel, Nat.reduceEqDiff, Nat.reduceBEq, Nat.reduceBNe,
     if_true, if_false, Bool.false_eq_true, Bool.true_eq_false, Bool.or_false, Bool.false_or,
     Option.getD_some, Option.getD_none, dbg, Oq3.Grammar.DefFlavor.listKind,
     Option.map_some, Option.map_none, Option.isSome_some, Option.isSome_none, Option.isNone_some, Option.isNone_none,
     Bool.or_eq_true, beq_iff_eq, bne_iff_ne, ne_eq, Nat.add_left_cancel_iff, or_false, false_or, or_self, not_false_eq_true,
     not_true_eq_false, decide_true, decide_false, decide_not,
     closedIsClassicalType, closedIsType, closedIsCregOrQreg, closedIsScalarType, closedTypeCanHaveDesignator,
     closedIsBlock, closedIsBlocklike, closedBEq, closedBNe, closedContains,
     Bool.false_and, Bool.and_false, Bool.true_and, Bool.and_true, Bool.true_or, Bool.or_true, Bool.not_true,
     Bool.not_false, $hs,*])
  let goal ← getMainGoal
  let tgt ← instantiateMVars (← goal.getType)
  let some (_, lhs, rhs) := tgt.eq? | throwError "sym_eval: the goal is not an equation"
  let ustx ← `(tactic| simp (config := { decide := true }) (disch := first | assumption | decide | omega) only
    [$hs,*])
  let res ← mkSimpContext stx false
  let ures ← mkSimpContext ustx false
  let env ← getEnv
  let unfold : Name → Bool := fun n =>
    (`Oq3.Grammar).isPrefixOf n && !(env.contains (n ++ `run_1))
  let (v, pf) ← res.dischargeWrapper.with fun d? => ures.dischargeWrapper.with fun ud? => do
    let cx : EvalCtx :=
      { simp := fun e => do
          let (r, _) ← Lean.Meta.simp e res.ctx res.simprocs d?
          pure r
        userSimp := fun e => do
          let (r, _) ← Lean.Meta.simp e ures.ctx ures.simprocs ud?
          pure r
        unfold := unfold }
    eval cx lhs
  let pf ← instantiateMVars pf
  if pf.hasExprMVar then
    let mvs := (pf.collectMVars {}).result
    let mut msg := m!"sym_eval: internal: unassigned metavariables in the proof:"
    for mv in mvs do
      msg := msg ++ m!"\n  {mkMVar mv} : {← mv.getType}"
    throwError msg
  let newGoal ← mkFreshExprSyntheticOpaqueMVar (← mkEq v rhs)
  goal.assign (← mkEqTrans pf newGoal)
  replaceMainGoal [newGoal.mvarId!]

/-- `gen_runs f` adds, for every equation lemma `f.eq_i` of `f` (`i ≥ 1`), its version applied to a
parser state: `f.run_i : f <patterns> s = <body> s` -/
elab "gen_runs " f:ident : command => Command.liftTermElabM do
  let fname ← realizeGlobalConstNoOverloadWithInfo f
  let some eqns ← getEqnsFor? fname | throwError "no equation lemmas for {fname}"
  for h : i in [0:eqns.size] do
    let eqName := eqns[i]
    let info ← getConstInfo eqName
    let pf ← forallTelescope info.type fun xs _ => do
      let eqPf := mkAppN (mkConst eqName (info.levelParams.map mkLevelParam)) xs
      withLocalDeclD `s (mkConst ``Oq3.Parser.P) fun sv => do
        let pf ← mkCongrFun eqPf sv
        mkLambdaFVars (xs.push sv) pf
    let ty ← instantiateMVars (← inferType pf)
    let nm := fname ++ (Name.mkSimple s!"run_{i + 1}")
    addDecl <| .thmDecl { name := nm, levelParams := info.levelParams, type := ty, value := pf }

end Oq3.SymExec

namespace Oq3.Grammar
open Oq3.Gen Oq3.Parser Oq3.SymExec

gen_runs optReturnSignature
gen_runs delimited
gen_runs delimitedLoop
gen_runs delimitedParser
gen_runs sourceFileContents
gen_runs item
gen_runs optItem
gen_runs switchCaseStmt
gen_runs switchCaseLoop
gen_runs blockOrStatement
gen_runs ifStmt
gen_runs whileStmt
gen_runs forStmt
gen_runs qubitDeclarationStmt
gen_runs resetStmt
gen_runs gateDefinition
gen_runs defcal_
gen_runs returnsBoolClassicalDeclarationStmt
gen_runs classicalDeclarationStmt
gen_runs ioDeclarationStmt
gen_runs defStmt
gen_runs externStmt
gen_runs cal_
gen_runs barrier_
gen_runs delayStmt
gen_runs aliasStmt
gen_runs expr
gen_runs rangeExpr
gen_runs exprOrRangeExpr
gen_runs exprStmt
gen_runs stmt
gen_runs letStmt
gen_runs qOrCRegParam
gen_runs qOrCRegDeclaration
gen_runs exprBlockStatements
gen_runs exprBp
gen_runs exprBpLoop
gen_runs lhs
gen_runs postfixExpr
gen_runs callExpr
gen_runs paramTypeSpec
gen_runs typeSpec
gen_runs arrayTypeSpec
gen_runs arrayTypeDimsLoop
gen_runs nonArrayTypeSpec
gen_runs complexTypeSpec
gen_runs qubitTypeSpec
gen_runs designator
gen_runs indexExpr
gen_runs indexedIdentifier
gen_runs indexedIdentifierLoop
gen_runs setExpression
gen_runs indexOperator
gen_runs callArgList
gen_runs atomExpr
gen_runs castExpr
gen_runs gphaseCallExpr
gen_runs modifiedGateCallExpr
gen_runs modifiedGateCallExprLoop
gen_runs gateCallExpr
gen_runs measureExpression
gen_runs tupleExpr
gen_runs tupleExprLoop
gen_runs arrayExpr
gen_runs arrayExprLoop
gen_runs tryBlockExpr
gen_runs blockExpr
gen_runs returnExpr
gen_runs boxExpr
gen_runs paramListGateParams
gen_runs paramListGateQubits
gen_runs argListGateCallQubits
gen_runs paramListDefParams
gen_runs scalarTypeList
gen_runs paramListDefcalParams
gen_runs paramListDefcalQubits
gen_runs expressionList
gen_runs caseValueList
gen_runs arrayLiteral
gen_runs paramListOpenqasm
gen_runs paramListOpenqasmLoop
gen_runs paramListItem
gen_runs paramTyped
gen_runs scalarType
gen_runs argGateCallQubit
gen_runs currentOpScan

end Oq3.Grammar
