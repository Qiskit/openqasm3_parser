/- GENERATED by /verif/tools/gen_grammar_closed.py from Oq3/Model/Grammar.lean — the proofs are checked by Lean. -/
import Oq3.Lemmas.RenameTextInv
import Oq3.Lemmas.GrammarClosed

namespace Oq3.Grammar
open Oq3.Gen Oq3.Parser
open Oq3.Parser (Pres TokID)
open Oq3.Gen.Ops (Assoc)
open Oq3.Gen.TokenSets

/-- all functions of the mutual block at one fuel level -/
structure AllTI (fuel : Nat) : Prop where
  optReturnSignature : Pres TokID (Oq3.Grammar.optReturnSignature fuel )
  delimited : ∀ (bra ket : SyntaxKind) (consumeBraket : Bool) (delim : SyntaxKind) (firstSet : TokenSet) (parser : DelimitedParser), Pres TokID (Oq3.Grammar.delimited fuel bra ket consumeBraket delim firstSet parser)
  delimitedLoop : ∀ (ket delim : SyntaxKind) (firstSet : TokenSet) (parser : DelimitedParser), Pres TokID (Oq3.Grammar.delimitedLoop fuel ket delim firstSet parser)
  delimitedParser : ∀ (parser : DelimitedParser), Pres TokID (Oq3.Grammar.delimitedParser fuel parser)
  sourceFileContents : ∀ (stopOnRCurly : Bool), Pres TokID (Oq3.Grammar.sourceFileContents fuel stopOnRCurly)
  item : ∀ (stopOnRCurly : Bool), Pres TokID (Oq3.Grammar.item fuel stopOnRCurly)
  optItem : ∀ (m : Marker), Pres TokID (Oq3.Grammar.optItem fuel m)
  switchCaseStmt : ∀ (m : Marker), Pres TokID (Oq3.Grammar.switchCaseStmt fuel m)
  switchCaseLoop : Pres TokID (Oq3.Grammar.switchCaseLoop fuel )
  blockOrStatement : Pres TokID (Oq3.Grammar.blockOrStatement fuel )
  ifStmt : ∀ (m : Marker), Pres TokID (Oq3.Grammar.ifStmt fuel m)
  whileStmt : ∀ (m : Marker), Pres TokID (Oq3.Grammar.whileStmt fuel m)
  forStmt : ∀ (m : Marker), Pres TokID (Oq3.Grammar.forStmt fuel m)
  qubitDeclarationStmt : ∀ (m : Marker), Pres TokID (Oq3.Grammar.qubitDeclarationStmt fuel m)
  resetStmt : ∀ (m : Marker), Pres TokID (Oq3.Grammar.resetStmt fuel m)
  gateDefinition : ∀ (m : Marker), Pres TokID (Oq3.Grammar.gateDefinition fuel m)
  defcal_ : ∀ (m : Marker), Pres TokID (Oq3.Grammar.defcal_ fuel m)
  returnsBoolClassicalDeclarationStmt : ∀ (m : Marker), Pres TokID (Oq3.Grammar.returnsBoolClassicalDeclarationStmt fuel m)
  classicalDeclarationStmt : ∀ (m : Marker), Pres TokID (Oq3.Grammar.classicalDeclarationStmt fuel m)
  ioDeclarationStmt : ∀ (m : Marker), Pres TokID (Oq3.Grammar.ioDeclarationStmt fuel m)
  defStmt : ∀ (m : Marker), Pres TokID (Oq3.Grammar.defStmt fuel m)
  externStmt : ∀ (m : Marker), Pres TokID (Oq3.Grammar.externStmt fuel m)
  cal_ : ∀ (m : Marker), Pres TokID (Oq3.Grammar.cal_ fuel m)
  barrier_ : ∀ (m : Marker), Pres TokID (Oq3.Grammar.barrier_ fuel m)
  delayStmt : ∀ (m : Marker), Pres TokID (Oq3.Grammar.delayStmt fuel m)
  aliasStmt : ∀ (m : Marker), Pres TokID (Oq3.Grammar.aliasStmt fuel m)
  expr : Pres TokID (Oq3.Grammar.expr fuel )
  rangeExpr : Pres TokID (Oq3.Grammar.rangeExpr fuel )
  exprOrRangeExpr : Pres TokID (Oq3.Grammar.exprOrRangeExpr fuel )
  exprStmt : ∀ (m : Option Marker), Pres TokID (Oq3.Grammar.exprStmt fuel m)
  stmt : Pres TokID (Oq3.Grammar.stmt fuel )
  letStmt : ∀ (m : Marker), Pres TokID (Oq3.Grammar.letStmt fuel m)
  qOrCRegParam : Pres TokID (Oq3.Grammar.qOrCRegParam fuel )
  qOrCRegDeclaration : ∀ (m : Marker), Pres TokID (Oq3.Grammar.qOrCRegDeclaration fuel m)
  exprBlockStatements : Pres TokID (Oq3.Grammar.exprBlockStatements fuel )
  exprBp : ∀ (m : Option Marker) (r : Restrictions) (bp : Nat), Pres TokID (Oq3.Grammar.exprBp fuel m r bp)
  exprBpLoop : ∀ (r : Restrictions) (bp : Nat) (lhs : CompletedMarker), Pres TokID (Oq3.Grammar.exprBpLoop fuel r bp lhs)
  lhs : ∀ (r : Restrictions), Pres TokID (Oq3.Grammar.lhs fuel r)
  postfixExpr : ∀ (lhs : CompletedMarker) (blockLike : BlockLike) (allowCalls : Bool), Pres TokID (Oq3.Grammar.postfixExpr fuel lhs blockLike allowCalls)
  callExpr : ∀ (lhs : CompletedMarker), Pres TokID (Oq3.Grammar.callExpr fuel lhs)
  paramTypeSpec : Pres TokID (Oq3.Grammar.paramTypeSpec fuel )
  typeSpec : Pres TokID (Oq3.Grammar.typeSpec fuel )
  arrayTypeSpec : ∀ (wantArrayRefType : Bool), Pres TokID (Oq3.Grammar.arrayTypeSpec fuel wantArrayRefType)
  arrayTypeDimsLoop : Pres TokID (Oq3.Grammar.arrayTypeDimsLoop fuel )
  nonArrayTypeSpec : Pres TokID (Oq3.Grammar.nonArrayTypeSpec fuel )
  complexTypeSpec : Pres TokID (Oq3.Grammar.complexTypeSpec fuel )
  qubitTypeSpec : Pres TokID (Oq3.Grammar.qubitTypeSpec fuel )
  designator : Pres TokID (Oq3.Grammar.designator fuel )
  indexExpr : ∀ (lhs : CompletedMarker), Pres TokID (Oq3.Grammar.indexExpr fuel lhs)
  indexedIdentifier : ∀ (lhs : CompletedMarker), Pres TokID (Oq3.Grammar.indexedIdentifier fuel lhs)
  indexedIdentifierLoop : Pres TokID (Oq3.Grammar.indexedIdentifierLoop fuel )
  setExpression : Pres TokID (Oq3.Grammar.setExpression fuel )
  indexOperator : Pres TokID (Oq3.Grammar.indexOperator fuel )
  callArgList : Pres TokID (Oq3.Grammar.callArgList fuel )
  atomExpr : ∀ (_r : Restrictions), Pres TokID (Oq3.Grammar.atomExpr fuel _r)
  castExpr : Pres TokID (Oq3.Grammar.castExpr fuel )
  gphaseCallExpr : Pres TokID (Oq3.Grammar.gphaseCallExpr fuel )
  modifiedGateCallExpr : Pres TokID (Oq3.Grammar.modifiedGateCallExpr fuel )
  modifiedGateCallExprLoop : Pres TokID (Oq3.Grammar.modifiedGateCallExprLoop fuel )
  gateCallExpr : Pres TokID (Oq3.Grammar.gateCallExpr fuel )
  measureExpression : Pres TokID (Oq3.Grammar.measureExpression fuel )
  tupleExpr : Pres TokID (Oq3.Grammar.tupleExpr fuel )
  tupleExprLoop : ∀ (sawComma sawExpr : Bool), Pres TokID (Oq3.Grammar.tupleExprLoop fuel sawComma sawExpr)
  arrayExpr : Pres TokID (Oq3.Grammar.arrayExpr fuel )
  arrayExprLoop : ∀ (nExprs : Nat) (hasSemi : Bool), Pres TokID (Oq3.Grammar.arrayExprLoop fuel nExprs hasSemi)
  tryBlockExpr : Pres TokID (Oq3.Grammar.tryBlockExpr fuel )
  blockExpr : Pres TokID (Oq3.Grammar.blockExpr fuel )
  returnExpr : Pres TokID (Oq3.Grammar.returnExpr fuel )
  boxExpr : ∀ (m : Option Marker), Pres TokID (Oq3.Grammar.boxExpr fuel m)
  paramListGateParams : Pres TokID (Oq3.Grammar.paramListGateParams fuel )
  paramListGateQubits : Pres TokID (Oq3.Grammar.paramListGateQubits fuel )
  argListGateCallQubits : Pres TokID (Oq3.Grammar.argListGateCallQubits fuel )
  paramListDefParams : Pres TokID (Oq3.Grammar.paramListDefParams fuel )
  scalarTypeList : Pres TokID (Oq3.Grammar.scalarTypeList fuel )
  paramListDefcalParams : Pres TokID (Oq3.Grammar.paramListDefcalParams fuel )
  paramListDefcalQubits : Pres TokID (Oq3.Grammar.paramListDefcalQubits fuel )
  expressionList : Pres TokID (Oq3.Grammar.expressionList fuel )
  caseValueList : Pres TokID (Oq3.Grammar.caseValueList fuel )
  arrayLiteral : Pres TokID (Oq3.Grammar.arrayLiteral fuel )
  paramListOpenqasm : ∀ (flavor : DefFlavor), Pres TokID (Oq3.Grammar.paramListOpenqasm fuel flavor)
  paramListOpenqasmLoop : ∀ (flavor : DefFlavor) (numParams : Nat), Pres TokID (Oq3.Grammar.paramListOpenqasmLoop fuel flavor numParams)
  paramListItem : ∀ (flavor : DefFlavor) (m : Marker) (innerArrayLiteral : Bool), Pres TokID (Oq3.Grammar.paramListItem fuel flavor m innerArrayLiteral)
  paramTyped : ∀ (m : Marker), Pres TokID (Oq3.Grammar.paramTyped fuel m)
  scalarType : ∀ (m : Marker), Pres TokID (Oq3.Grammar.scalarType fuel m)
  argGateCallQubit : ∀ (m : Marker), Pres TokID (Oq3.Grammar.argGateCallQubit fuel m)

theorem allTI (fuel : Nat) : AllTI fuel :=
  (allHolds tokIDClosed fuel).rec AllTI.mk

theorem sourceFile_tip (fuel : Nat) : Pres TokID (sourceFile fuel) :=
  sourceFile_closed tokIDClosed fuel

theorem entryExpr_tip (fuel : Nat) : Pres TokID (entryExpr fuel) :=
  entryExpr_closed tokIDClosed fuel

end Oq3.Grammar
