/-
"No silent error node" (C12), grammar-independent part.

A parser state is `NoSilent` when an `ERROR` node or `ERROR` token among its events is accompanied
by at least one `error` event.  The property is monotone — once an `error` event exists it exists
forever (`abandon` pops only a trailing tombstone `Start`; `complete`/`precede`/`extend_to` rewrite
a `Start` into a `Start`) — so all the work is at the places that can push `Token(ERROR)` (every
token-consuming primitive) or complete a node as `ERROR`.

Assertions: `St e ok s` :=  an error event exists  ∨  (`e` ∧ no ERROR node/token so far ∧ the
current token kind satisfies `ok`).  `e` is `False` once an error has certainly been pushed on the
path; `ok` is what the enclosing guards (`at`, `at_ts`, `current`) told about the current token;
it is forgotten (`Any`) by everything that consumes input.  `Tr A x B` is the Hoare triple for
successful runs.
-/
import Oq3.Lemmas.ParserInv
import Oq3.Model.Grammar

namespace Oq3.Parser
open Oq3.Gen

def Ev.errFree : Ev → Bool
  | .start k _ => k != .ERROR
  | .token k _ => k != .ERROR
  | _ => true

def HasErr (s : P) : Prop := ∃ m, Ev.error m ∈ s.events.toList

def Clean (s : P) : Prop := ∀ e ∈ s.events.toList, e.errFree = true

/-- **the C12 clause on a parser state** -/
def NoSilent (s : P) : Prop :=
  (∃ e ∈ s.events.toList, (∃ fp, e = Ev.start .ERROR fp) ∨ (∃ n, e = Ev.token .ERROR n)) →
    ∃ m, Ev.error m ∈ s.events.toList

def Any : SyntaxKind → Prop := fun _ => True

def St (e : Prop) (ok : SyntaxKind → Prop) (s : P) : Prop :=
  HasErr s ∨ (e ∧ Clean s ∧ ok (s.kindAt s.pos))

theorem St.noSilent {e ok s} (h : St e ok s) : NoSilent s := by
  rintro ⟨ev, hev, hk⟩
  rcases h with h | ⟨_, hc, _⟩
  · exact h
  · have := hc ev hev
    rcases hk with ⟨fp, rfl⟩ | ⟨n, rfl⟩ <;> simp [Ev.errFree] at this

theorem St.weak {e e0 : Prop} {ok s} (hw : e → e0) (h : St e ok s) : St e0 Any s := by
  rcases h with h | ⟨he, hc, _⟩
  · exact .inl h
  · exact .inr ⟨hw he, hc, trivial⟩

theorem St.refine {e ok ok'} {s : P} (h : St e ok s)
    (hk : ok (s.kindAt s.pos) → ok' (s.kindAt s.pos)) : St e ok' s :=
  h.imp id fun ⟨he, hc, hok⟩ => ⟨he, hc, hk hok⟩

theorem St.init (kinds : Array SyntaxKind) (joint : Array Bool) (npl : Nat) :
    St True Any { kinds := kinds, joint := joint, noProgressLimit := npl } :=
  .inr ⟨trivial, by intro e he; simp at he, trivial⟩

/-- a step that consumes no input -/
structure Quiet (s s' : P) : Prop where
  kinds : s'.kinds = s.kinds
  pos : s'.pos = s.pos
  err : HasErr s → HasErr s'
  clean : Clean s → Clean s'

theorem Quiet.refl (s : P) : Quiet s s := ⟨rfl, rfl, id, id⟩

theorem Quiet.st {s s' : P} (q : Quiet s s') {e ok} (h : St e ok s) : St e ok s' := by
  rcases h with h | ⟨he, hc, hk⟩
  · exact .inl (q.err h)
  · refine .inr ⟨he, q.clean hc, ?_⟩
    unfold P.kindAt; rw [q.kinds, q.pos]; exact hk

theorem hasErr_push {evs : Array Ev} (x : Ev) (h : ∃ m, Ev.error m ∈ evs.toList) :
    ∃ m, Ev.error m ∈ (evs.push x).toList := by
  obtain ⟨m, hm⟩ := h
  exact ⟨m, by simp [hm]⟩

theorem clean_push {evs : Array Ev} (x : Ev) (hx : x.errFree = true)
    (h : ∀ e ∈ evs.toList, e.errFree = true) : ∀ e ∈ (evs.push x).toList, e.errFree = true := by
  intro e he
  simp only [Array.toList_push, List.mem_append, List.mem_singleton] at he
  rcases he with he | rfl
  · exact h e he
  · exact hx

theorem mem_set_of_ne {l : List Ev} {i : Nat} {x y a : Ev} (hi : l[i]? = some x) (hne : a ≠ x)
    (ha : a ∈ l) : a ∈ l.set i y := by
  obtain ⟨j, hj⟩ := List.mem_iff_getElem?.mp ha
  have hji : i ≠ j := by
    intro e; subst e; rw [hi] at hj; exact hne (Option.some.inj hj).symm
  exact List.mem_iff_getElem?.mpr ⟨j, by rw [List.getElem?_set_ne hji]; exact hj⟩

theorem quiet_set_start {s : P} {i : Nat} {k0 k : SyntaxKind} {fp0 fp : Option Nat}
    (hi : s.events[i]? = some (.start k0 fp0)) (hk : k ≠ .ERROR ∨ k = k0) (s' : P)
    (hk' : s'.kinds = s.kinds) (hp : s'.pos = s.pos)
    (he : s'.events = s.events.setIfInBounds i (.start k fp)) : Quiet s s' := by
  have hi' : s.events.toList[i]? = some (.start k0 fp0) := by simpa using hi
  refine ⟨hk', hp, ?_, ?_⟩
  · rintro ⟨m, hm⟩
    refine ⟨m, ?_⟩
    rw [he, toList_set!]
    exact mem_set_of_ne hi' (by intro h; cases h) hm
  · intro hc e hmem
    rw [he, toList_set!] at hmem
    rcases List.mem_or_eq_of_mem_set hmem with h | rfl
    · exact hc e h
    · rcases hk with hk | rfl
      · simpa [Ev.errFree] using hk
      · have := hc _ (List.mem_of_getElem? hi')
        simpa [Ev.errFree] using this

theorem quiet_push {s : P} (x : Ev) (hx : x.errFree = true) (s' : P) (hk' : s'.kinds = s.kinds)
    (hp : s'.pos = s.pos) (he : s'.events = s.events.push x) : Quiet s s' :=
  ⟨hk', hp, fun h => by unfold HasErr; rw [he]; exact hasErr_push x h,
    fun h => by unfold Clean; rw [he]; exact clean_push x hx h⟩

theorem Quiet.trans {a b c : P} (h1 : Quiet a b) (h2 : Quiet b c) : Quiet a c :=
  ⟨h2.kinds.trans h1.kinds, h2.pos.trans h1.pos, fun h => h2.err (h1.err h),
    fun h => h2.clean (h1.clean h)⟩

/-- Hoare triple over successful runs (state-only postcondition) -/
structure Tr (A : P → Prop) {α} (x : G α) (B : P → Prop) : Prop where
  run : ∀ s r, A s → x s = .ok r → B r.2

/-- `x` keeps what is known about the current token (consumes nothing, adds no ERROR) -/
structure Keeps {α} (x : G α) : Prop where
  tr : ∀ e ok, Tr (St e ok) x (St e ok)

/-- `x` may consume input but never silently -/
structure Cons {α} (x : G α) : Prop where
  tr : ∀ e ok, Tr (St e ok) x (St e Any)

theorem Tr.bind {A B C : P → Prop} {α β} {x : G α} {f : α → G β} (hx : Tr A x B)
    (hf : ∀ a, Tr B (f a) C) : Tr A (x >>= f) C := by
  refine ⟨fun s r hs h => ?_⟩
  obtain ⟨a, s1, h1, h2⟩ := (G.bind_ok x f s r).mp h
  exact (hf a).run s1 r (hx.run s (a, s1) hs h1) h2

theorem Tr.post {A B C : P → Prop} {α} {x : G α} (hx : Tr A x B) (hw : ∀ s, B s → C s) :
    Tr A x C := ⟨fun s r hs h => hw _ (hx.run s r hs h)⟩

theorem Tr.pre {A A' B : P → Prop} {α} {x : G α} (hx : Tr A' x B) (hw : ∀ s, A s → A' s) :
    Tr A x B := ⟨fun s r hs h => hx.run s r (hw _ hs) h⟩

theorem Tr.fail {A B : P → Prop} {α} (o : Outcome) : Tr A (fail o : G α) B :=
  ⟨fun s r _ h => by simp at h⟩

theorem Tr.panic {A B : P → Prop} {α} (site : String) : Tr A (panic site : G α) B :=
  ⟨fun s r _ h => by simp at h⟩

theorem Tr.bind_panic {A C : P → Prop} {α β} (site : String) (f : α → G β) :
    Tr A ((Oq3.Parser.panic site : G α) >>= f) C := by
  refine ⟨fun s r _ h => ?_⟩
  obtain ⟨a, s1, h1, _⟩ := (G.bind_ok _ f s r).mp h
  simp at h1

theorem Tr.bind_fail {A C : P → Prop} {α β} (o : Outcome) (f : α → G β) :
    Tr A ((Oq3.Parser.fail o : G α) >>= f) C := by
  refine ⟨fun s r _ h => ?_⟩
  obtain ⟨a, s1, h1, _⟩ := (G.bind_ok _ f s r).mp h
  simp at h1

theorem Tr.ite {A C : P → Prop} {α} (c : Prop) [Decidable c] {x y : G α} (hx : c → Tr A x C)
    (hy : ¬c → Tr A y C) : Tr A (if c then x else y) C := by
  split
  · exact hx ‹_›
  · exact hy ‹_›

theorem Tr.pure_weak {e e0 : Prop} {ok} {α} (a : α) (hw : e → e0) :
    Tr (St e ok) (pure a : G α) (St e0 Any) := by
  refine ⟨fun s r hs h => ?_⟩; simp at h; subst h; exact hs.weak hw

theorem Tr.bind_keeps {e ok} {C : P → Prop} {α β} {x : G α} {f : α → G β} (hx : Keeps x)
    (hf : ∀ a, Tr (St e ok) (f a) C) : Tr (St e ok) (x >>= f) C := (hx.tr e ok).bind hf

theorem Tr.bind_cons {e ok} {C : P → Prop} {α β} {x : G α} {f : α → G β} (hx : Cons x)
    (hf : ∀ a, Tr (St e Any) (f a) C) : Tr (St e ok) (x >>= f) C := (hx.tr e ok).bind hf

theorem Tr.tail_keeps {e e0 : Prop} {ok} {α} {x : G α} (hx : Keeps x) (hw : e → e0) :
    Tr (St e ok) x (St e0 Any) := (hx.tr e ok).post fun _ h => h.weak hw

theorem Tr.tail_cons {e e0 : Prop} {ok} {α} {x : G α} (hx : Cons x) (hw : e → e0) :
    Tr (St e ok) x (St e0 Any) := (hx.tr e ok).post fun _ h => h.weak hw

theorem Tr.tail {e e' e0 : Prop} {ok ok'} {α} {x : G α} (hx : Tr (St e ok) x (St e' ok'))
    (hw : e' → e0) : Tr (St e ok) x (St e0 Any) := hx.post fun _ h => h.weak hw

theorem Keeps.cons {α} {x : G α} (h : Keeps x) : Cons x :=
  ⟨fun e ok => (h.tr e ok).post fun _ hs => hs.weak id⟩

theorem Keeps.of_quiet {α} {x : G α} (h : ∀ s r, x s = .ok r → Quiet s r.2) : Keeps x :=
  ⟨fun _ _ => ⟨fun s r hs hr => (h s r hr).st hs⟩⟩

theorem Keeps.of_readOnly {α} {x : G α} (h : ReadOnly x) : Keeps x :=
  Keeps.of_quiet fun s r hr => by rw [h s r hr]; exact Quiet.refl s

theorem Keeps.bind {α β} {x : G α} {f : α → G β} (hx : Keeps x) (hf : ∀ a, Keeps (f a)) :
    Keeps (x >>= f) := ⟨fun e ok => (hx.tr e ok).bind fun a => (hf a).tr e ok⟩

theorem Keeps.pure {α} (a : α) : Keeps (pure a : G α) :=
  ⟨fun _ _ => ⟨fun s r hs h => by simp at h; subst h; exact hs⟩⟩

theorem Keeps.fail {α} (o : Outcome) : Keeps (fail o : G α) := ⟨fun _ _ => Tr.fail o⟩
theorem Keeps.panic {α} (site : String) : Keeps (panic site : G α) := ⟨fun _ _ => Tr.panic site⟩

theorem keepsM : MClosed Keeps := ⟨Keeps.pure, Keeps.bind⟩

theorem keeps_andM {x y : G Bool} (hx : Keeps x) (hy : Keeps y) : Keeps (x <&&> y) := keepsM.andM hx hy

theorem keeps_orM {x y : G Bool} (hx : Keeps x) (hy : Keeps y) : Keeps (x <||> y) := keepsM.orM hx hy

theorem keeps_notM {x : G Bool} (hx : Keeps x) : Keeps (notM x) := keepsM.notM hx

theorem Keeps.ite {α} (c : Prop) [Decidable c] {x y : G α} (hx : Keeps x) (hy : Keeps y) :
    Keeps (if c then x else y) := by
  split <;> assumption

theorem Cons.bind {α β} {x : G α} {f : α → G β} (hx : Cons x) (hf : ∀ a, Cons (f a)) :
    Cons (x >>= f) := ⟨fun e ok => (hx.tr e ok).bind fun a => (hf a).tr e Any⟩

theorem Cons.pure {α} (a : α) : Cons (pure a : G α) := (Keeps.pure a).cons
theorem Cons.fail {α} (o : Outcome) : Cons (fail o : G α) := ⟨fun _ _ => Tr.fail o⟩
theorem Cons.panic {α} (site : String) : Cons (panic site : G α) := ⟨fun _ _ => Tr.panic site⟩

theorem consM : MClosed Cons := ⟨Cons.pure, Cons.bind⟩

theorem cons_andM {x y : G Bool} (hx : Cons x) (hy : Cons y) : Cons (x <&&> y) := consM.andM hx hy

theorem cons_orM {x y : G Bool} (hx : Cons x) (hy : Cons y) : Cons (x <||> y) := consM.orM hx hy

theorem cons_notM {x : G Bool} (hx : Cons x) : Cons (notM x) := consM.notM hx

theorem Cons.ite {α} (c : Prop) [Decidable c] {x y : G α} (hx : Cons x) (hy : Cons y) :
    Cons (if c then x else y) := by
  split <;> assumption

theorem current_keeps : Keeps current := Keeps.of_readOnly current_readOnly
theorem at_keeps (k : SyntaxKind) : Keeps (at' k) := Keeps.of_readOnly (at_readOnly k)
theorem nthAt_keeps (n : Nat) (k : SyntaxKind) : Keeps (nthAt n k) :=
  Keeps.of_readOnly (nthAt_readOnly n k)
theorem atTs_keeps (ts : TokenSet) : Keeps (atTs ts) := Keeps.of_readOnly (atTs_readOnly ts)

theorem nth_keeps (n : Nat) : Keeps (nth n) :=
  Keeps.of_quiet fun s r h => by rw [nth_ok n s r h]; exact ⟨rfl, rfl, id, id⟩

/-- the raw token kind that `at(kind)` finds at the current position -/
def firstPiece (k : SyntaxKind) : SyntaxKind :=
  match compositePieces k with
  | some (k1 :: _) => k1
  | _ => k

theorem atF_cur {k : SyntaxKind} {s : P} (h : atF k s.kinds s.joint s.pos = true) :
    s.kindAt s.pos = firstPiece k := by
  unfold atF at h; unfold firstPiece
  split at h
  · rename_i hc; rw [hc]; exact beq_iff_eq.mp h
  · rename_i hc; rw [hc]; simp only [Bool.and_eq_true, beq_iff_eq] at h; exact h.1.1
  · rename_i hc; rw [hc]; simp only [Bool.and_eq_true, beq_iff_eq] at h; exact h.1.1.1.1
  · cases h

/-- after `if p.at(k)`: the then-branch knows the current kind -/
theorem Tr.bind_at {e ok} {C : P → Prop} {β} (k : SyntaxKind) {f : Bool → G β}
    (ht : Tr (St e (fun c => c = firstPiece k)) (f true) C)
    (hf : Tr (St e ok) (f false) C) : Tr (St e ok) (at' k >>= f) C := by
  refine ⟨fun s r hs h => ?_⟩
  rw [G.bind_apply, at_total] at h
  cases ha : atF k s.kinds s.joint s.pos <;> rw [ha] at h
  · exact hf.run _ r hs h
  · exact ht.run _ r (hs.refine fun _ => atF_cur ha) h

theorem Tr.bind_at_or {e ok} {C : P → Prop} {β} (a b : SyntaxKind) {f : Bool → G β}
    (ht : Tr (St e (fun c => c = firstPiece a ∨ c = firstPiece b)) (f true) C)
    (hf : Tr (St e ok) (f false) C) : Tr (St e ok) ((at' a <||> at' b) >>= f) C := by
  refine ⟨fun s r hs h => ?_⟩
  rw [G.bind_apply, G.orM_apply, at_total] at h
  cases ha : atF a s.kinds s.joint s.pos <;> simp only [ha, Bool.false_eq_true, if_false, if_true] at h
  · rw [at_total] at h
    cases hb : atF b s.kinds s.joint s.pos <;> rw [hb] at h
    · exact hf.run _ r hs h
    · exact ht.run _ r (hs.refine fun _ => .inr (atF_cur hb)) h
  · exact ht.run _ r (hs.refine fun _ => .inl (atF_cur ha)) h

theorem Tr.bind_current {e ok} {C : P → Prop} {β} {f : SyntaxKind → G β}
    (hf : ∀ k, Tr (St e (fun c => ok c ∧ c = k)) (f k) C) : Tr (St e ok) (current >>= f) C :=
  ⟨fun s r hs h => (hf _).run _ r (hs.refine fun hk => ⟨hk, rfl⟩) h⟩

theorem Tr.bind_atTs {e ok} {C : P → Prop} {β} (ts : TokenSet) {f : Bool → G β}
    (ht : Tr (St e (fun c => c ∈ ts)) (f true) C)
    (hf : Tr (St e ok) (f false) C) : Tr (St e ok) (atTs ts >>= f) C := by
  refine ⟨fun s r hs h => ?_⟩
  rw [G.bind_apply, atTs_eq] at h
  cases hb : (decide ((s.kindAt s.pos).toNat < 128) && ts.contains (s.kindAt s.pos)) <;> rw [hb] at h
  · exact hf.run _ r hs h
  · refine ht.run _ r (hs.refine fun _ => ?_) h
    simp only [Bool.and_eq_true, List.contains_iff_mem] at hb; exact hb.2

theorem start_keeps : Keeps start := by
  refine Keeps.of_quiet fun s r h => ?_
  have := start_ok s r h
  subst this
  exact quiet_push Ev.tombstone rfl _ rfl rfl rfl

/-- `p.error(..)`: from here on an error event exists -/
theorem error_tr (msg : String) {e ok} : Tr (St e ok) (error msg) (St False ok) := by
  refine ⟨fun s r _ h => ?_⟩
  have := pushEvent_ok _ s r h
  subst this
  exact .inl ⟨msg, by simp⟩

theorem error_keeps (msg : String) : Keeps (error msg) :=
  ⟨fun _ _ => (error_tr msg).post fun _ h => h.elim .inl fun h => h.1.elim⟩

theorem doBump_st {e ok} (k : SyntaxKind) (n : Nat) (s : P) (r : Unit × P)
    (hk : e → ok (s.kindAt s.pos) → k ≠ .ERROR) (hs : St e ok s) (h : doBump k n s = .ok r) :
    St e Any r.2 := by
  have := doBump_ok _ _ _ _ h
  subst this
  rcases hs with hs | ⟨he, hc, hok⟩
  · exact .inl (hasErr_push _ hs)
  · refine .inr ⟨he, clean_push _ ?_ hc, trivial⟩
    simpa [Ev.errFree] using hk he hok

theorem eat_tr {e ok} (k : SyntaxKind) (hk : e → k ≠ .ERROR) : Tr (St e ok) (eat k) (St e Any) := by
  refine ⟨fun s r hs h => ?_⟩
  obtain ⟨_, rfl | ⟨_, rfl⟩⟩ := eat_ok k s r h
  · exact hs.weak id
  · exact doBump_st k _ s _ (fun he _ => hk he) hs (doBump_eq _ _ _)

theorem eat_cons (k : SyntaxKind) (hk : k ≠ .ERROR) : Cons (eat k) := ⟨fun _ _ => eat_tr k fun _ => hk⟩

theorem bump_cons (k : SyntaxKind) (hk : k ≠ .ERROR) : Cons (bump k) := by
  unfold bump
  refine Cons.bind (eat_cons k hk) ?_
  intro b
  split
  · exact Cons.panic _
  · exact Cons.pure _

/-- `p.expect(k)`: consumes `k`, or reports -/
theorem expect_cons (k : SyntaxKind) (hk : k ≠ .ERROR) : Cons (expect k) := by
  unfold expect
  refine Cons.bind (eat_cons k hk) ?_
  intro b
  split
  · exact Cons.pure _
  · exact Cons.bind (error_keeps _).cons (fun _ => Cons.pure _)

theorem expect_false {ok} (k : SyntaxKind) (s : P) (r : Bool × P)
    (h : expect k s = .ok r) (hr : r.1 = false) : St False ok r.2 := by
  unfold expect at h
  obtain ⟨b, s1, h1, h2⟩ := (G.bind_ok _ _ _ _).mp h
  split at h2
  · simp at h2; subst h2; simp at hr
  · obtain ⟨_, s2, h3, h4⟩ := (G.bind_ok _ _ _ _).mp h2
    simp at h4; subst h4
    have := pushEvent_ok _ _ _ h3
    obtain ⟨_, rfl⟩ := Prod.mk.inj this
    refine .inl ⟨s!"expected {dbg k}", ?_⟩
    simp only [Array.toList_push]
    exact List.mem_append_right _ (List.mem_singleton.mpr rfl)

theorem bumpAny_tr {e ok} (hk : ∀ c, ok c → c ≠ .ERROR) : Tr (St e ok) bumpAny (St e Any) := by
  refine ⟨fun s r hs h => ?_⟩
  obtain e | ⟨_, e⟩ := bumpAny_ok s r h <;> rw [e]
  · exact hs.weak id
  · exact doBump_st _ 1 s _ (fun _ hok => hk _ hok) hs (doBump_eq _ _ _)

theorem bumpAny_err_tr {ok} : Tr (St False ok) bumpAny (St False Any) := by
  refine ⟨fun s r hs h => ?_⟩
  have hE : HasErr s := hs.elim id fun h => h.1.elim
  exact (bumpAny_tr (e := False) (ok := fun _ => False) (fun _ h => h.elim)).run s r (.inl hE) h

theorem bump_current_tr {e ok} (k : SyntaxKind) (hk : e → k ≠ .ERROR) :
    Tr (St e ok) (bump k) (St e Any) := by
  unfold bump
  refine (eat_tr k hk).bind fun b => ?_
  split
  · exact Tr.panic _
  · exact Tr.pure_weak _ id

theorem complete_quiet (m : Marker) (kind : SyntaxKind) (s : P) (r : CompletedMarker × P)
    (hk : kind ≠ .ERROR) (h : m.complete kind s = .ok r) : Quiet s r.2 := by
  obtain ⟨fp, hm, _, rfl⟩ := complete_ok m kind s r h
  exact (quiet_set_start (k := kind) (fp := fp) hm (.inl hk) (s.slotSet m.pos kind fp) rfl rfl rfl).trans
    (quiet_push .finish rfl _ rfl rfl rfl)

theorem complete_keeps (m : Marker) (kind : SyntaxKind) (hk : kind ≠ .ERROR) :
    Keeps (m.complete kind) := Keeps.of_quiet fun s r h => complete_quiet m kind s r hk h

/-- completing a node as `ERROR` is fine once an error has been reported -/
theorem complete_err_tr (m : Marker) {ok} : Tr (St False ok) (m.complete .ERROR) (St False ok) := by
  refine ⟨fun s r hs h => ?_⟩
  obtain ⟨msg, hmsg⟩ : HasErr s := hs.elim id fun h => h.1.elim
  obtain ⟨fp, hm, _, rfl⟩ := complete_ok m .ERROR s r h
  have hm' : s.events.toList[m.pos]? = some (.start .TOMBSTONE fp) := by simpa using hm
  refine .inl (hasErr_push _ ⟨msg, ?_⟩)
  show Ev.error msg ∈ (s.events.setIfInBounds m.pos (.start .ERROR fp)).toList
  rw [toList_set!]
  exact mem_set_of_ne hm' (by intro h; cases h) hmsg

theorem abandon_keeps (m : Marker) : Keeps m.abandon := by
  refine Keeps.of_quiet fun s r h => ?_
  obtain ⟨_, e | ⟨_, hback, e⟩⟩ := abandon_ok m s r h <;> rw [e]
  · exact ⟨rfl, rfl, id, id⟩
  have hl := dropLast_eq s.events.toList _ (by simpa [Array.back?] using hback)
  refine ⟨rfl, rfl, ?_, ?_⟩
  · rintro ⟨msg, hmsg⟩
    refine ⟨msg, ?_⟩
    simp only [Array.toList_pop]
    rw [hl] at hmsg
    simp only [List.mem_append, List.mem_singleton] at hmsg
    rcases hmsg with hmsg | hmsg
    · exact hmsg
    · cases hmsg
  · intro hc e he
    simp only [Array.toList_pop] at he
    exact hc e (List.dropLast_subset _ he)

theorem precede_keeps (cm : CompletedMarker) : Keeps cm.precede := by
  refine Keeps.of_quiet fun s r h => ?_
  obtain ⟨k, fp0, hm, _, rfl⟩ := precede_ok cm s r h
  refine (quiet_push (s := s) Ev.tombstone rfl s.started rfl rfl rfl).trans ?_
  exact quiet_set_start (k := k) (fp := some (s.events.size - cm.pos)) hm (.inr rfl) _ rfl rfl rfl

theorem extendTo_keeps (cm : CompletedMarker) (m : Marker) : Keeps (cm.extendTo m) := by
  refine Keeps.of_quiet fun s r h => ?_
  obtain ⟨k, fp, _, _, hm, _, _, _, rfl⟩ := extendTo_ok cm m s r h
  exact quiet_set_start (k := k) (fp := some (cm.pos - m.pos)) hm (.inr rfl) _ rfl rfl rfl

/-- `err_recover` always reports before it wraps a token into an `ERROR` node -/
theorem errRecover_tr (msg : String) (rec : TokenSet) {e ok} :
    Tr (St e ok) (errRecover msg rec) (St False Any) := by
  unfold errRecover
  refine Tr.bind_keeps current_keeps fun k => ?_
  split
  · exact (error_tr _).bind fun _ => Tr.pure_weak _ id
  · refine Tr.bind_keeps (atTs_keeps rec) fun b => ?_
    split
    · exact (error_tr _).bind fun _ => Tr.pure_weak _ id
    · refine Tr.bind_keeps start_keeps fun m => ?_
      refine (error_tr _).bind fun _ => ?_
      exact bumpAny_err_tr.bind fun _ => (complete_err_tr m).bind fun _ => Tr.pure_weak _ id

theorem errRecover_cons (msg : String) (rec : TokenSet) : Cons (errRecover msg rec) :=
  ⟨fun _ _ => (errRecover_tr msg rec).post fun _ h => h.weak False.elim⟩

theorem errAndBump_cons (msg : String) : Cons (errAndBump msg) := errRecover_cons msg []

/-! ### rule forms used by the generated proofs (one lemma per program shape, so that a rule that
does not apply fails by a cheap head-symbol mismatch) -/

/-- functions that begin with `bump_any`: fine when the caller knows the current token -/
structure ConsCur {α} (x : G α) : Prop where
  tr : ∀ e ok, (∀ c, ok c → c ≠ SyntaxKind.ERROR) → Tr (St e ok) x (St e Any)

theorem ConsCur.fail {α} (o : Outcome) : ConsCur (fail o : G α) := ⟨fun _ _ _ => Tr.fail o⟩

theorem Tr.bind_conscur {e ok} {C : P → Prop} {α β} {x : G α} {f : α → G β} (hx : ConsCur x)
    (hk : ∀ c, ok c → c ≠ SyntaxKind.ERROR) (hf : ∀ a, Tr (St e Any) (f a) C) :
    Tr (St e ok) (x >>= f) C := (hx.tr e ok hk).bind hf

theorem Tr.tail_conscur {e e0 : Prop} {ok} {α} {x : G α} (hx : ConsCur x)
    (hk : ∀ c, ok c → c ≠ SyntaxKind.ERROR) (hw : e → e0) : Tr (St e ok) x (St e0 Any) :=
  (hx.tr e ok hk).post fun _ h => h.weak hw

theorem Tr.bind_bumpAny {e ok} {C : P → Prop} {β} {f : Unit → G β}
    (hk : ∀ c, ok c → c ≠ SyntaxKind.ERROR) (hf : ∀ a, Tr (St e Any) (f a) C) :
    Tr (St e ok) (bumpAny >>= f) C := (bumpAny_tr hk).bind hf

theorem Tr.tail_bumpAny {e e0 : Prop} {ok} (hk : ∀ c, ok c → c ≠ SyntaxKind.ERROR) (hw : e → e0) :
    Tr (St e ok) bumpAny (St e0 Any) := (bumpAny_tr hk).post fun _ h => h.weak hw

theorem Tr.bind_bumpAny_err {ok} {C : P → Prop} {β} {f : Unit → G β}
    (hf : ∀ a, Tr (St False Any) (f a) C) : Tr (St False ok) (bumpAny >>= f) C :=
  bumpAny_err_tr.bind hf

theorem Tr.tail_bumpAny_err {e0 : Prop} {ok} : Tr (St False ok) bumpAny (St e0 Any) :=
  bumpAny_err_tr.post fun _ h => h.weak False.elim

theorem Tr.bind_error {e ok} {C : P → Prop} {β} {msg : String} {f : Unit → G β}
    (hf : ∀ a, Tr (St False ok) (f a) C) : Tr (St e ok) (error msg >>= f) C :=
  (error_tr msg).bind hf

theorem Tr.tail_error {e e0 : Prop} {ok} {msg : String} : Tr (St e ok) (error msg) (St e0 Any) :=
  (error_tr msg).post fun _ h => h.weak False.elim

theorem Tr.bind_complete_err {ok} {C : P → Prop} {β} {m : Marker} {f : CompletedMarker → G β}
    (hf : ∀ a, Tr (St False ok) (f a) C) : Tr (St False ok) (m.complete .ERROR >>= f) C :=
  (complete_err_tr m).bind hf

theorem Tr.tail_complete_err {e0 : Prop} {ok} {m : Marker} :
    Tr (St False ok) (m.complete .ERROR) (St e0 Any) :=
  (complete_err_tr m).post fun _ h => h.weak False.elim

end Oq3.Parser
