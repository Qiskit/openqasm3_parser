/-
Parser-state invariant "the ghost list `protectedPos` only mentions existing events"
(`ProtOK`), the side condition of the relocation theorems (`Props/C16Reloc.lean`).  Primitive
lemmas in the `Pres` style; `protClosed` collects them for the walk of the grammar
(`Lemmas/GrammarClosed.lean`), `Lemmas/GrammarProt.lean` states the result.
-/
import Oq3.Lemmas.Run
set_option linter.unusedVariables false
set_option linter.unusedSimpArgs false

namespace Oq3.Parser
open Oq3.Gen

def ProtOK (s : P) : Prop := ∀ q ∈ s.protectedPos, q < s.events.size

theorem ProtOK.mono {s s' : P} (h : ProtOK s) (h1 : s'.protectedPos = s.protectedPos)
    (h2 : s.events.size ≤ s'.events.size) : ProtOK s' := by
  intro q hq; rw [h1] at hq; have := h q hq; omega

theorem nth_po (n : Nat) : Pres ProtOK (nth n) :=
  ⟨fun s r hs h => by rw [nth_ok n s r h]; exact hs.mono rfl (Nat.le_refl _)⟩

theorem start_po : Pres ProtOK start :=
  ⟨fun s r hs h => by rw [start_ok s r h]; exact hs.mono rfl (by simp)⟩

theorem error_po (msg : String) : Pres ProtOK (error msg) :=
  ⟨fun s r hs h => by rw [pushEvent_ok _ s r h]; exact hs.mono rfl (by simp)⟩

theorem eat_po (k : SyntaxKind) : Pres ProtOK (eat k) := by
  refine ⟨fun s r hs h => ?_⟩
  obtain ⟨_, rfl | ⟨_, rfl⟩⟩ := eat_ok k s r h
  · exact hs
  · exact hs.mono rfl (by simp [P.bumped])

theorem bumpAny_po : Pres ProtOK bumpAny := by
  refine ⟨fun s r hs h => ?_⟩
  obtain e | ⟨_, e⟩ := bumpAny_ok s r h <;> rw [e]
  · exact hs
  · exact hs.mono rfl (by simp [P.bumped])

theorem complete_po (m : Marker) (kind : SyntaxKind) : Pres ProtOK (m.complete kind) := by
  refine ⟨fun s r hs h => ?_⟩
  obtain ⟨fp, _, _, rfl⟩ := complete_ok m kind s r h
  intro q hq
  simp only [P.slotSet, List.mem_filter] at hq
  have := hs q hq.1
  simp only [P.slotSet, Array.size_push, Array.set!_eq_setIfInBounds, Array.size_setIfInBounds]
  omega

theorem abandon_po (m : Marker) : Pres ProtOK m.abandon := by
  refine ⟨fun s r hs h => ?_⟩
  obtain ⟨hnp, e | ⟨hlast, _, e⟩⟩ := abandon_ok m s r h <;> rw [e]
  · exact hs.mono rfl (Nat.le_refl _)
  intro q hq
  have := hs q hq
  have hne : q ≠ m.pos := fun he => hnp (he ▸ hq)
  simp only [Array.size_pop]
  omega

theorem precede_po (cm : CompletedMarker) : Pres ProtOK cm.precede := by
  refine ⟨fun s r hs h => ?_⟩
  obtain ⟨k, fp, _, _, rfl⟩ := precede_ok cm s r h
  intro q hq
  simp only [P.started, List.mem_cons] at hq
  simp only [P.started, Array.set!_eq_setIfInBounds, Array.size_setIfInBounds, Array.size_push]
  rcases hq with rfl | hq
  · omega
  · have := hs q hq; omega

theorem extendTo_po (cm : CompletedMarker) (m : Marker) : Pres ProtOK (cm.extendTo m) := by
  refine ⟨fun s r hs h => ?_⟩
  obtain ⟨_, _, _, _, _, _, _, _, rfl⟩ := extendTo_ok cm m s r h
  exact hs.mono rfl (by simp)

theorem protClosed : GClosed (Pres ProtOK) :=
  Pres.closed (nth_po 1) start_po error_po eat_po bumpAny_po complete_po abandon_po precede_po extendTo_po

end Oq3.Parser
