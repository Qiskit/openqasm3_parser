/-
The typed-accessor layer is blind to trivia and to text ranges:

  `Build.program (eraseTrivia t) = (Build.program t).map eraseSpans`     (`program_eraseTrivia`)

for every tree `t` in which no `Name`/`Identifier`/`HardwareQubit`/`Param`/`PragmaStatement`/
`AnnotationStatement`/`PrefixExpr` node starts with a trivia token (`headOk`, guaranteed by the
tree builder).  `E_build`: the instance `T := eraseTrivia`, `m := erMap` (`Props/C17.lean`) of
`BuildMap` (`Lemmas/AccBuildMap.lean`): the accessors commute with `eraseTrivia`
(`Lemmas/AccTrivia.lean`), and `erMap` is the lawful map of the typed AST that zeroes every range.
-/
import Oq3.Lemmas.AccTrivia
import Oq3.Lemmas.AccBuildMap
import Oq3.Props.C17

namespace Oq3.C17Layout
open Oq3.Gen Oq3.Acc Oq3.C17

local notation "E" => eraseTrivia

mutual
theorem depth_E : ∀ c : CNode, (E c).depth = c.depth
  | .token .. => rfl
  | .node k s e cs => by
    simp only [eraseTrivia, CNode.depth]
    rw [depthList_E cs]
theorem depthList_E : ∀ cs : List CNode,
    CNode.depth.depthList (eraseTriviaL cs) = CNode.depth.depthList cs
  | [] => rfl
  | c :: cs => by
    unfold eraseTriviaL
    split
    · rename_i h
      have hd : c.depth = 0 := by
        cases c with
        | node => simp [isTriviaTok, CNode.isToken] at h
        | token => rfl
      simp only [CNode.depth.depthList, hd, depthList_E cs]
      omega
    · simp only [CNode.depth.depthList, depth_E c, depthList_E cs]
end

/-- `headOk` is what `eraseTrivia` needs to keep the texts read from a first child: the nodes it
speaks of then start with the same child after erasure -/
theorem E_build : BuildMap erMap eraseTrivia (fun n => headOk n = true) where
  toNodeMap := E_map
  toLawful := erMap_lawful
  ok_children := headOk_children
  depth := depth_E
  span := span_E
  nameText := fun {n} hn hk => by
    have hl := headOk_local hn (by rcases hk with hk | hk | hk <;> rw [hk] <;> rfl)
    unfold Build.text HasTextNode.text
    rw [textOfFirstToken_E hl]
    exact (congrFun Except.map_id _).symm
  fixedText := fun hn hk =>
    textOfFirstToken_E (headOk_local hn (by rcases hk with hk | hk | hk <;> rw [hk] <;> rfl))
  timeUnit := fun hn _ hi =>
    textOfFirstToken_E (headOk_local (headOk_children hn (child_supp_mem hi)) (by
      have hk := child_kind hi
      simp only [Identifier.canCast, beq_iff_eq] at hk
      rw [hk]; rfl))
  prefixHead := fun hn hk => head_children_E (headOk_local hn (by rw [hk]; rfl))

/-- fifteen fields of `BuildMap.IH erMap eraseTrivia _ fuel` (which `E_build.ih fuel` proves) spelt
with `er*`; no proof uses it.  `gateOperand` asks for the kind of the node, which nothing needs. -/
structure IH1 (fuel : Nat) : Prop where
  expr : ∀ n, headOk n = true → Build.expr fuel (E n) = (Build.expr fuel n).map erExpr
  designator : ∀ n, headOk n = true → Build.designator fuel (E n) = (Build.designator fuel n).map erDesignator
  scalarType : ∀ n, headOk n = true → Build.scalarType fuel (E n) = (Build.scalarType fuel n).map erScalarType
  expressionList : ∀ n, headOk n = true →
    Build.expressionList fuel (E n) = (Build.expressionList fuel n).map erExprList
  setExpression : ∀ n, headOk n = true → Build.setExpression fuel (E n) = (Build.setExpression fuel n).map erSet
  rangeExpr : ∀ n, headOk n = true → Build.rangeExpr fuel (E n) = (Build.rangeExpr fuel n).map erRange
  indexOperator : ∀ n, headOk n = true →
    Build.indexOperator fuel (E n) = (Build.indexOperator fuel n).map erIndexOp
  indexedIdentifier : ∀ n, headOk n = true →
    Build.indexedIdentifier fuel (E n) = (Build.indexedIdentifier fuel n).map erIndexedIdent
  gateOperand : ∀ n, headOk n = true → GateOperand.canCast n.kind = true →
    Build.gateOperand fuel (E n) = (Build.gateOperand fuel n).map erGateOperand
  qubitList : ∀ n, headOk n = true → Build.qubitList fuel (E n) = (Build.qubitList fuel n).map erQubitList
  argList : ∀ n, headOk n = true → Build.argList fuel (E n) = (Build.argList fuel n).map erArgList
  parenExpr : ∀ n, headOk n = true → Build.parenExpr fuel (E n) = (Build.parenExpr fuel n).map erParen
  gateCallExpr : ∀ n, headOk n = true →
    Build.gateCallExpr fuel (E n) = (Build.gateCallExpr fuel n).map erGateCall
  gPhaseCallExpr : ∀ n, headOk n = true →
    Build.gPhaseCallExpr fuel (E n) = (Build.gPhaseCallExpr fuel n).map erGPhase
  modifier : ∀ n, headOk n = true → Build.modifier fuel (E n) = (Build.modifier fuel n).map erModifier

/-- an instance of `E_map` for reference; no proof uses it -/
theorem isSome_child_E (can : SyntaxKind → Bool) (n : CNode) :
    (support.child can (E n)).isSome = (support.child can n).isSome :=
  E_map.child_supp_isSome can n

/-- the hypothesis of the blindness theorem: below the root, no node of the seven kinds whose
accessors read the first child starts with a trivia token (the root itself — `SOURCE_FILE` — does
start with the file's leading trivia) -/
def rootHeadOk (root : CNode) : Bool := headOkL root.children

theorem program_eraseTrivia (root : CNode) (h : rootHeadOk root = true) :
    Build.program (E root) = (Build.program root).map eraseSpans :=
  E_build.program root (fun _ hc => headOkL_mem h hc)

end Oq3.C17Layout
