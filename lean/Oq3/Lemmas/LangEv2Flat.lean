/-
C04, extended reference language: the flat statements of `Stmt2` that the dispatcher `opt_item`
(or the keyword tests of `stmt`) parses: declarations, `let`, `reset`, `barrier`, `delay`, `break` / `continue` /
`end`, pragma / annotation lines, `include`, the version line, `extern`.
-/
import Oq3.Lemmas.LangEv2Stmt
set_option linter.unusedSimpArgs false
set_option linter.unusedVariables false

namespace Oq3.LangEv2
open Oq3.Gen Oq3.Parser Oq3.Grammar Oq3.SymExec Oq3.PrattEv Oq3.LangEv
open Oq3.Gen.Ops (Assoc)

theorem tyNext (ty : Ty) (w : Option X) (s : P) (q : Nat) (htt : Toks s q (tyToksX ty w)) (k : SyntaxKind) (hk : k ≠ .L_PAREN)
    (hid : s.kindAt (q + (tyToksX ty w).length) = k) : s.kindAt (q + 1) ≠ .L_PAREN := by
  cases w with
  | none => simp only [tyToksX, List.length_cons, List.length_nil] at hid; rw [hid]; exact hk
  | some e => simp only [tyToksX, Toks, tk] at htt; rw [htt.2.2.1]; decide

theorem stmt_decl_none2 (ty : Ty) (w : Option X) (nw : Nat) (hw : ∀ e, w = some e → ExprOKF e nw) (F : Nat) (s : P) (hr : RdyF 8 s)
    (hF : nw + 8 ≤ F) (hwide : w.isSome = true → ty.wide = true) (hc : WidthOK w)
    (htk : Toks s s.pos (toksS2 (.decl false ty w none))) :
    Acc (stmt F) s (toksS2 (.decl false ty w none)).length (evsS2 (.decl false ty w none)) := by
  obtain ⟨g, rfl⟩ : ∃ g, F = g + 4 + 4 := ⟨F - 8, by omega⟩
  simp only [toksS2, Bool.false_eq_true, if_false] at ⊢
  tok_at [toksS2, Bool.false_eq_true, if_false] at htk
  obtain ⟨htt, hid, hsemi⟩ := htk
  have h0 : s.kindAt (s.pos + 0) = ty.kind := by
    obtain ⟨ts, hts⟩ := tyToksX_head ty w
    exact Toks_head htt hts
  have h1 : s.kindAt (s.pos + 1) ≠ .L_PAREN := tyNext ty w s _ htt _ (by decide) (kindAt_pos hid (by omega))
  obtain ⟨sbT, hty⟩ := typeSpecX_runAt ty w hw (F := g + 4) (by omega) hr hwide hc htt hid (by decide)
  obtain ⟨sbN, hvn⟩ := varName_runAt hr hid
  have hab := fun dp st sb lv => abandon_mid s hr.prot
    (Ev.start SyntaxKind.TOMBSTONE none :: Ev.start SyntaxKind.TOMBSTONE none :: tyEvsX ty w) dp st sb lv 1
    (by have := tyEvsX_length ty w; simp only [List.length_cons]; omega)
  run_base2 [h0, h1, hty, hab, hid, hvn, hsemi, ty.kind_beq, ty.isType, ty.isClassical, ty.isScalar, ty.notIn, ty.bump_ov]

theorem stmt_const_none (ty : Ty) (w : Option X) (F : Nat) (s : P) (hr : RdyF 8 s)
    (hF : optFuel w + 8 ≤ F) (hwide : w.isSome = true → ty.wide = true) (hc : WidthOK w)
    (htk : Toks s s.pos (toksS2 (.decl true ty w none))) :
    Acc (stmt F) s (toksS2 (.decl true ty w none)).length (evsS2 (.decl true ty w none)) := by
  obtain ⟨g, rfl⟩ : ∃ g, F = g + 4 + 4 := ⟨F - 8, by omega⟩
  simp only [toksS2, if_true] at ⊢
  tok_at [toksS2, if_true] at htk
  obtain ⟨h0, htt, hid, hsemi⟩ := htk
  obtain ⟨sbT, hty⟩ := typeSpecX_runAt ty w (optFuel_ok w) (F := g + 4) (by omega) hr hwide hc htt hid (by decide)
  obtain ⟨sbN, hvn⟩ := varName_runAt hr hid
  have hab := fun dp st sb lv => abandon_mid s hr.prot
    (Ev.start SyntaxKind.TOMBSTONE none :: .token .CONST_KW 1 :: Ev.start SyntaxKind.TOMBSTONE none :: tyEvsX ty w) dp st sb lv 2
    (by have := tyEvsX_length ty w; simp only [List.length_cons]; omega)
  run_base2 [h0, hty, hab, hid, hvn, hsemi]

theorem stmt_decl_some2 (ty : Ty) (w : Option X) (e : X) (nw ne : Nat) (hw : ∀ e, w = some e → ExprOKF e nw) (he : ExprOKF e ne)
    (F : Nat) (s : P) (hr : RdyF 8 s) (hF : max nw ne + 8 ≤ F) (hce : CanonX 1 e)
    (hwide : w.isSome = true → ty.wide = true) (hc : WidthOK w)
    (htk : Toks s s.pos (toksS2 (.decl false ty w (some e)))) :
    Acc (stmt F) s (toksS2 (.decl false ty w (some e))).length (evsS2 (.decl false ty w (some e))) := by
  obtain ⟨g, rfl⟩ : ∃ g, F = g + 4 + 4 := ⟨F - 8, by omega⟩
  simp only [toksS2, Bool.false_eq_true, if_false] at ⊢
  tok_at [toksS2, Bool.false_eq_true, if_false] at htk
  obtain ⟨htt, hid, heq, hte, hsemi⟩ := htk
  have h0 : s.kindAt (s.pos + 0) = ty.kind := by
    obtain ⟨ts, hts⟩ := tyToksX_head ty w
    exact Toks_head htt hts
  have h1 : s.kindAt (s.pos + 1) ≠ .L_PAREN := tyNext ty w s _ htt _ (by decide) (kindAt_pos hid (by omega))
  obtain ⟨sbT, hty⟩ := typeSpecX_runAt ty w hw (F := g + 4) (by omega) hr hwide hc htt hid (by decide)
  obtain ⟨sbN, hvn⟩ := varName_runAt hr hid
  have hee := he.exprAt (g + 3) hr _ hte hce hsemi rfl (by omega)
  have hab := fun dp st sb lv => abandon_mid s hr.prot
    (Ev.start SyntaxKind.TOMBSTONE none :: Ev.start SyntaxKind.TOMBSTONE none :: tyEvsX ty w) dp st sb lv 1
    (by have := tyEvsX_length ty w; simp only [List.length_cons]; omega)
  run_base2 [h0, h1, hty, hab, hid, hvn, heq, hee, hsemi, ty.kind_beq, ty.isType, ty.isClassical, ty.isScalar, ty.notIn, ty.bump_ov]

theorem stmt_const_some (ty : Ty) (w : Option X) (e : X) (F : Nat) (s : P) (hr : RdyF 8 s)
    (hF : max (optFuel w) (fuelX e) + 8 ≤ F) (hce : CanonX 1 e)
    (hwide : w.isSome = true → ty.wide = true) (hc : WidthOK w)
    (htk : Toks s s.pos (toksS2 (.decl true ty w (some e)))) :
    Acc (stmt F) s (toksS2 (.decl true ty w (some e))).length (evsS2 (.decl true ty w (some e))) := by
  obtain ⟨g, rfl⟩ : ∃ g, F = g + 4 + 4 := ⟨F - 8, by omega⟩
  simp only [toksS2, if_true] at ⊢
  tok_at [toksS2, if_true] at htk
  obtain ⟨h0, htt, hid, heq, hte, hsemi⟩ := htk
  have h1 : s.kindAt (s.pos + 1) = ty.kind := by
    obtain ⟨ts, hts⟩ := tyToksX_head ty w
    exact Toks_head htt hts
  obtain ⟨sbT, hty⟩ := typeSpecX_runAt ty w (optFuel_ok w) (F := g + 4) (by omega) hr hwide hc htt hid (by decide)
  obtain ⟨sbN, hvn⟩ := varName_runAt hr hid
  have he := (exprX_okF e).exprAt (g + 3) hr _ hte hce hsemi rfl (by omega)
  have hab := fun dp st sb lv => abandon_mid s hr.prot
    (Ev.start SyntaxKind.TOMBSTONE none :: .token .CONST_KW 1 :: Ev.start SyntaxKind.TOMBSTONE none :: tyEvsX ty w) dp st sb lv 2
    (by have := tyEvsX_length ty w; simp only [List.length_cons]; omega)
  run_base2 [h0, h1, hty, hab, hid, hvn, heq, he, hsemi, ty.kind_beq, ty.isType, ty.isClassical, ty.isScalar, ty.notIn, ty.bump_ov]

theorem stmt_io (out : Bool) (ty : Ty) (w : Option X) (F : Nat) (s : P) (hr : RdyF 8 s)
    (hF : optFuel w + 8 ≤ F) (hwide : w.isSome = true → ty.wide = true) (hc : WidthOK w)
    (htk : Toks s s.pos (toksS2 (.io out ty w))) :
    Acc (stmt F) s (toksS2 (.io out ty w)).length (evsS2 (.io out ty w)) := by
  obtain ⟨g, rfl⟩ : ∃ g, F = g + 4 + 3 := ⟨F - 7, by omega⟩
  tok_at [toksS2] at htk
  obtain ⟨h0, htt, hid, hsemi⟩ := htk
  have h1 : s.kindAt (s.pos + 1) = ty.kind := by
    obtain ⟨ts, hts⟩ := tyToksX_head ty w
    exact Toks_head htt hts
  obtain ⟨sbT, hty⟩ := typeSpecX_runAt ty w (optFuel_ok w) (F := g + 4) (by omega) hr hwide hc htt hid (by decide)
  obtain ⟨sbN, hvn⟩ := varName_runAt hr hid
  cases out <;> simp only [Bool.false_eq_true, if_false, if_true] at h0 ⊢ <;>
  run_base2 [h0, h1, hty, hid, hvn, hsemi, ty.kind_beq, ty.isType, ty.isClassical, ty.isScalar, ty.notIn, ty.bump_ov]

theorem designator_acc (w : X) (F : Nat) (s : P) (hr : RdyF 2 s) (hF : fuelX w + 2 ≤ F)
    (h0 : s.kindAt (s.pos + 0) = .L_BRACK) (htw : Toks s (s.pos + 1) (toksX w))
    (hrb : s.kindAt (s.pos + (1 + (toksX w).length)) = .R_BRACK) (hc : CanonX 1 w)
    (hf1 : firstX w ≠ .FLOAT_NUMBER) (hf2 : firstX w ≠ .BIT_STRING) :
    AccV (designator F) true s ((toksX w).length + 2) (desigEvs w) := by
  obtain ⟨g, rfl⟩ : ∃ g, F = g + 2 := ⟨F - 2, by omega⟩
  have hsub := (exprX_okF w).exprAt g hr 1 htw hc hrb rfl (by omega)
  obtain ⟨j, ts, hts⟩ := toksX_first w
  have h1 : s.kindAt (s.pos + 1) = firstX w := Toks_head htw hts
  obtain ⟨-, -, -, -, -, -, -, -, -, -, e3, e4, e5⟩ := xFirst_ne (h1 ▸ firstX_xFirst w)
  rw [← h1] at hf1 hf2
  run_base2 [h0, hf1, hf2, e3, e4, e5, hrb, hsub]

theorem desig_len (w : X) : (desigToks w).length = (toksX w).length + 2 := by
  simp only [desigToks, List.length_cons, List.length_append, List.length_nil]

theorem designator_runAt (w : X) {F : Nat} (hF : fuelX w + 2 ≤ F) {s : P} {k : Nat} (hr : RdyF k s) (hc : WidthOK (some w)) {dp : Nat}
    (h0 : s.kindAt (s.pos + dp) = .L_BRACK) (htw : Toks s (s.pos + (dp + 1)) (toksX w))
    (hrb : s.kindAt (s.pos + (dp + 1 + (toksX w).length)) = .R_BRACK) :
    ∃ sb', RunAt (designator F) true s dp (dp + 1 + (toksX w).length + 1) (desigEvs w) sb' :=
  RunAt.of_acc (fun E0 sb lv => designator_acc w F _ (hr.ov 2 E0 dp 0 sb lv (by have := hr.lim; omega)) hF h0
    ((Toks_ov s _ _ _ _ _ _ _ _).2 (Toks_pos htw (Nat.add_assoc _ _ _)))
    (kindAt_pos hrb (by show s.pos + dp + _ = _; omega)) (hc w rfl).1 (hc w rfl).2.1 (hc w rfl).2.2) (by omega)

theorem stmt_qubit_none (F : Nat) (s : P) (hr : RdyF 8 s) (hF : 8 ≤ F) (htk : Toks s s.pos (toksS2 (.qubit none))) :
    Acc (stmt F) s (toksS2 (.qubit none)).length (evsS2 (.qubit none)) := by
  obtain ⟨g, rfl⟩ : ∃ g, F = g + 8 := ⟨F - 8, by omega⟩
  tok_at [toksS2] at htk
  obtain ⟨h0, h1, h2⟩ := htk
  run_base2 [h0, h1, h2]

theorem stmt_qubit_some (w : X) (F : Nat) (s : P) (hr : RdyF 8 s) (hF : fuelX w + 8 ≤ F)
    (htk : Toks s s.pos (toksS2 (.qubit (some w)))) (hc : WidthOK (some w)) :
    Acc (stmt F) s (toksS2 (.qubit (some w))).length (evsS2 (.qubit (some w))) := by
  obtain ⟨g, rfl⟩ : ∃ g, F = g + 4 := ⟨F - 4, by omega⟩
  tok_at [toksS2, desigToks] at htk
  obtain ⟨h0, h1, htw, hrb, hid, hsemi⟩ := htk
  obtain ⟨sbD, hd⟩ := designator_runAt w (F := g) (by omega) hr hc h1 htw hrb
  obtain ⟨sbN, hvn⟩ := varName_runAt hr hid
  run_base2 [h0, h1, hd, hid, hvn, hsemi]


theorem stmt_oldReg (c : Bool) (items : ItemList) (F : Nat) (s : P) (hr : RdyF 8 s)
    (hF : sumItems items + countItems items + 11 ≤ F)
    (htk : Toks s s.pos (toksS2 (.oldReg c items))) (hc : CanonItems items) (hfo : ItemsFirstOK items) :
    Acc (stmt F) s (toksS2 (.oldReg c items)).length (evsS2 (.oldReg c items)) := by
  obtain ⟨g, rfl⟩ : ∃ g, F = g + 4 := ⟨F - 4, by omega⟩
  tok_at [toksS2] at htk
  obtain ⟨h0, h1, h2, hti, hrb, hsemi⟩ := htk
  have hop := fun E0 st sb lv (hst : st + 6 ≤ s.stepLimit) => ov_rule (indexOp_acc items (sumItems items) (g + 1) _
    (itemsOK items) (by omega) (hr.ov 6 E0 2 st sb lv hst) h2 ((Toks_ov s _ _ _ _ _ _ _ _).2 hti)
    (kindAt_pos hrb (by show s.pos + 2 + _ = _; omega)) hc hfo)
  have hsemi' : s.kindAt (s.pos + (2 + ((toksItems items).length + 2))) = .SEMICOLON := kindAt_pos hsemi (by omega)
  have bE : (s.kindAt (s.pos + 2) == SyntaxKind.EOF) = false := by rw [h2]; rfl
  cases c <;> simp only [Bool.false_eq_true, if_false, if_true] at h0 ⊢ <;> run_base2 [h0, h1, h2, bE, hop, hsemi']


/-- `let x = e ;` through `stmt` (LET_STMT) -/
theorem stmt_letS (e : X) (F : Nat) (s : P) (hr : RdyF 8 s) (hF : fuelX e + 4 ≤ F)
    (htk : Toks s s.pos (toksS2 (.letS e))) (hc : CanonX 1 e) :
    Acc (stmt F) s (toksS2 (.letS e)).length (evsS2 (.letS e)) := by
  obtain ⟨g, rfl⟩ : ∃ g, F = g + 1 + 2 := ⟨F - 3, by omega⟩
  tok_at [toksS2] at htk
  obtain ⟨h0, h1, h2, hte, hsemi⟩ := htk
  have he := (exprX_okF e).exprAt g hr 3 hte hc hsemi rfl (by omega)
  run_base2 [h0, h1, h2, he, hsemi]

theorem stmt_reset2 (q : Q) (F : Nat) (s : P) (hr : RdyF 8 s) (hF : needQ q + 4 ≤ F)
    (htk : Toks s s.pos (toksS2 (.reset q))) (hc : CanonQ q) :
    Acc (stmt F) s (toksS2 (.reset q)).length (evsS2 (.reset q)) := by
  obtain ⟨g, rfl⟩ : ∃ g, F = g + 3 := ⟨F - 3, by omega⟩
  tok_at [toksS2] at htk
  obtain ⟨h0, htq, hsemi⟩ := htk
  obtain ⟨ts, hts⟩ := toksQ_first q
  have h1 : s.kindAt (s.pos + 1) = firstQ q := Toks_head htq hts
  have harg := qarg_acc q g (s.ov [Ev.start SyntaxKind.TOMBSTONE none, .token .RESET_KW 1] 1 0 1 (s.live + 1) s.protectedPos)
    hr.hook hr.lim (by intro p hp; exact (Rdy_ov 0 s _ _ _ _ _ _ hr.hook (Nat.zero_le _) (hr.prot' _)).prot p hp) (by omega)
    ((Toks_ov s _ _ _ _ _ _ _ _).2 htq) (by show s.kindAt (s.pos + 1 + _) ≠ _; rw [Nat.add_assoc, hsemi]; decide) hc 0 2 (s.live + 1)
    (by have := hr.lim; show 0 + 6 ≤ s.stepLimit; omega)
  simp only [ov_ov, List.cons_append, List.nil_append, ov_events_size, List.length_cons, List.length_nil, ov_prot, Nat.add_zero,
    Nat.zero_add, Nat.reduceAdd] at harg
  rcases firstQ_cases q with hq | hq <;> rw [hq] at h1 <;> run_base2 [h0, h1, harg, hsemi]


theorem stmt_barrier2 (qs : QList) (F : Nat) (s : P) (hr : RdyF 8 s) (hF : needQs qs + 5 ≤ F)
    (htk : Toks s s.pos (toksS2 (.barrier qs))) (hc : CanonQs qs) :
    Acc (stmt F) s (toksS2 (.barrier qs)).length (evsS2 (.barrier qs)) := by
  obtain ⟨g, rfl⟩ : ∃ g, F = g + 3 := ⟨F - 3, by omega⟩
  tok_at [toksS2] at htk
  obtain ⟨h0, htq, hsemi⟩ := htk
  obtain ⟨q, ts, hts⟩ := toksQs_first qs
  have h1 : s.kindAt (s.pos + 1) = firstQ q := Toks_head htq hts
  obtain ⟨sbQ, hq⟩ := qlist_runAt qs (F := g) (by omega) hr hc htq hsemi
  rcases firstQ_cases q with hq1 | hq1 <;> rw [hq1] at h1 <;> run_base2 [h0, h1, hq, hsemi]

theorem stmt_delay (d : X) (qs : QList) (F : Nat) (s : P) (hr : RdyF 8 s) (hF : max (fuelX d + 2) (needQs qs + 2) + 3 ≤ F)
    (htk : Toks s s.pos (toksS2 (.delay d qs))) (hcd : WidthOK (some d)) (hc : CanonQs qs) :
    Acc (stmt F) s (toksS2 (.delay d qs)).length (evsS2 (.delay d qs)) := by
  obtain ⟨g, rfl⟩ : ∃ g, F = g + 3 := ⟨F - 3, by omega⟩
  tok_at [toksS2, desigToks] at htk
  obtain ⟨h0, h1, htw, hrb, htq, hsemi⟩ := htk
  obtain ⟨sbD, hd⟩ := designator_runAt d (F := g) (by omega) hr hcd h1 htw hrb
  obtain ⟨sbQ, hq⟩ := qlist_runAt qs (F := g) (by omega) hr hc htq hsemi
  run_base2 [h0, h1, hd, hq, hsemi]

theorem stmt_brk2 (F : Nat) (s : P) (hr : RdyF 8 s) (hF : 8 ≤ F) (htk : Toks s s.pos (toksS2 .brk)) :
    Acc (stmt F) s (toksS2 .brk).length (evsS2 .brk) := by
  obtain ⟨f, rfl⟩ : ∃ f, F = f + 8 := ⟨F - 8, by omega⟩
  tok_at [toksS2] at htk
  run_base2 [htk.1, htk.2]

theorem stmt_cont2 (F : Nat) (s : P) (hr : RdyF 8 s) (hF : 8 ≤ F) (htk : Toks s s.pos (toksS2 .cont)) :
    Acc (stmt F) s (toksS2 .cont).length (evsS2 .cont) := by
  obtain ⟨f, rfl⟩ : ∃ f, F = f + 8 := ⟨F - 8, by omega⟩
  tok_at [toksS2] at htk
  run_base2 [htk.1, htk.2]

theorem stmt_endS2 (F : Nat) (s : P) (hr : RdyF 8 s) (hF : 8 ≤ F) (htk : Toks s s.pos (toksS2 .endS)) :
    Acc (stmt F) s (toksS2 .endS).length (evsS2 .endS) := by
  obtain ⟨f, rfl⟩ : ∃ f, F = f + 8 := ⟨F - 8, by omega⟩
  tok_at [toksS2] at htk
  run_base2 [htk.1, htk.2]

theorem stmt_pragma (F : Nat) (s : P) (hr : RdyF 8 s) (hF : 8 ≤ F) (htk : Toks s s.pos (toksS2 .pragma)) :
    Acc (stmt F) s (toksS2 .pragma).length (evsS2 .pragma) := by
  obtain ⟨f, rfl⟩ : ∃ f, F = f + 8 := ⟨F - 8, by omega⟩
  tok_at [toksS2] at htk
  run_base2 [htk]

theorem stmt_annot (F : Nat) (s : P) (hr : RdyF 8 s) (hF : 8 ≤ F) (htk : Toks s s.pos (toksS2 .annot)) :
    Acc (stmt F) s (toksS2 .annot).length (evsS2 .annot) := by
  obtain ⟨f, rfl⟩ : ∃ f, F = f + 8 := ⟨F - 8, by omega⟩
  tok_at [toksS2] at htk
  run_base2 [htk]

theorem stmt_incl (F : Nat) (s : P) (hr : RdyF 8 s) (hF : 8 ≤ F) (htk : Toks s s.pos (toksS2 .incl)) :
    Acc (stmt F) s (toksS2 .incl).length (evsS2 .incl) := by
  obtain ⟨f, rfl⟩ : ∃ f, F = f + 8 := ⟨F - 8, by omega⟩
  tok_at [toksS2] at htk
  run_base2 [htk.1, htk.2.1, htk.2.2]

theorem stmt_version (F : Nat) (s : P) (hr : RdyF 8 s) (hF : 8 ≤ F) (htk : Toks s s.pos (toksS2 .version)) :
    Acc (stmt F) s (toksS2 .version).length (evsS2 .version) := by
  obtain ⟨f, rfl⟩ : ∃ f, F = f + 8 := ⟨F - 8, by omega⟩
  tok_at [toksS2] at htk
  run_base2 [htk.1, htk.2.1, htk.2.2]


theorem tyListToks_cons2 (t u : Ty) (ts : List Ty) : tyListToks (t :: u :: ts) = tk t.kind :: tk .COMMA :: tyListToks (u :: ts) := rfl

theorem tyLoop_acc (ts : List Ty) : ∀ (t : Ty) (g k : Nat) (s : P), RdyF 2 s → Toks s s.pos (tyListToks (t :: ts)) →
    s.kindAt (s.pos + (tyListToks (t :: ts)).length) = .R_PAREN →
    AccV (paramListOpenqasmLoop (g + ts.length + 6) .typeListFlavor k) (k + ts.length + 1) s (tyListToks (t :: ts)).length
      (tyListEvs (t :: ts)) := by
  induction ts with
  | nil =>
    intro t g k s hr htk hend
    simp only [tyListToks, Toks, tk, List.length_cons, List.length_nil] at htk hend
    obtain ⟨h0, -, -⟩ := htk
    rw [show s.pos = s.pos + 0 from rfl] at h0
    simp only [Nat.zero_add] at hend
    have hnb : s.kindAt (s.pos + 1) ≠ .L_BRACK := by rw [hend]; decide
    run_base2 [h0, hnb, hend, t.kind_beq, t.isType, t.isClassical, t.isScalar, t.notIn, t.bump_ov]
  | cons u us ih =>
    intro t g k s hr htk hend
    rw [tyListToks_cons2] at htk hend
    simp only [List.length_cons] at hend
    tok_at [] at htk
    obtain ⟨h0, h1, htk⟩ := htk
    obtain ⟨sbR, hrec'⟩ := RunAt.of_acc (fun E0 sb lv => ih u g (k + 1) _ (hr.ov 2 E0 2 0 sb lv (by have := hr.lim; omega))
      ((Toks_ov s _ _ _ _ _ _ _ _).2 htk) (kindAt_pos hend (by show s.pos + 2 + _ = _; omega))) rfl
    have hnb : s.kindAt (s.pos + 1) ≠ .L_BRACK := by rw [h1]; decide
    show AccV (paramListOpenqasmLoop ((g + us.length + 6) + 1) .typeListFlavor k) _ s _ _
    run_base2 [h0, h1, hnb, hrec', t.kind_beq, t.isType, t.isClassical, t.isScalar, t.notIn, t.bump_ov]

theorem retSigSome_acc (ty : Ty) (g : Nat) (s : P) (hr : RdyF 2 s) (htk : Toks s s.pos (retToks (some ty)))
    (h3 : s.kindAt (s.pos + 3) ≠ .L_BRACK) :
    AccV (optReturnSignature (g + 5)) true s (retToks (some ty)).length (retEvs (some ty)) := by
  simp only [retToks, Toks, tk, List.length_cons, List.length_nil, true_implies] at htk
  obtain ⟨h0, hj, h1, -, h2, -, -⟩ := htk
  rw [show s.pos = s.pos + 0 from rfl] at h0
  rw [show s.pos + 1 + 1 = s.pos + 2 from rfl] at h2
  have hatF : atF .THIN_ARROW s.kinds s.joint (s.pos + 0) = true := by
    rw [atF_THIN_ARROW]
    simp only [P.kindAt] at h0 h1
    simp only [Nat.add_zero] at h0 ⊢
    simp only [h0, h1, hj, beq_self_eq_true, Bool.and_self]
  have hat : ∀ E st sb lv pr, at' .THIN_ARROW (s.ov E 0 st sb lv pr) = .ok (true, s.ov E 0 st sb lv pr) := by
    intro E st sb lv pr; rw [at_total]; exact congrArg (fun b => Except.ok (b, _)) hatF
  have hjr : ∀ E st sb lv pr, (s.ov E 0 st sb lv pr).jointRes (s.pos + 0) = .ok (true, s.ov E 0 st sb lv pr) := by
    intro E st sb lv pr
    unfold P.jointRes
    rw [isJoint_in_range _ _ (by show s.kindAt (s.pos + 0 + 1) ≠ _; rw [Nat.add_zero, h1]; decide)]
    have : (s.ov E 0 st sb lv pr).joint.getD (s.pos + 0) false = true := by rw [Nat.add_zero]; exact hj
    rw [this]
  have hbump := fun E st sb lv pr => bump_atF_ov .THIN_ARROW (by decide) s E 0 st sb lv pr hatF
  rw [show eatRawTokens .THIN_ARROW = 2 from by decide] at hbump
  run_base2 [h0, h1, hjr, hat, hbump, h2, h3, ty.kind_beq, ty.isType, ty.isClassical, ty.isScalar, ty.notIn, ty.bump_ov]

theorem stmt_externS (tys : List Ty) (ret : Ty) (F : Nat) (s : P) (hr : RdyF 8 s) (hF : tys.length + 11 ≤ F)
    (htk : Toks s s.pos (toksS2 (.externS tys ret))) :
    Acc (stmt F) s (toksS2 (.externS tys ret)).length (evsS2 (.externS tys ret)) := by
  tok_at [toksS2] at htk
  obtain ⟨h0, h1, h2, htt, hrp, htr, hsemi⟩ := htk
  have hret := fun (f : Nat) => RunAt.of_acc (fun E0 sb lv => retSigSome_acc ret f _
    (hr.ov 2 E0 (3 + (tyListToks tys).length + 1) 0 sb lv (by have := hr.lim; omega)) ((Toks_ov s _ _ _ _ _ _ _ _).2 htr)
    (by have h := hsemi
        rw [show (retToks (some ret)).length = 3 from rfl] at h
        show s.kindAt (s.pos + _ + 3) ≠ _; rw [Nat.add_assoc, h]; decide)) rfl
  cases tys with
  | nil =>
    obtain ⟨g, rfl⟩ : ∃ g, F = g + 5 + 3 := ⟨F - 8, by simp only [List.length_nil] at hF; omega⟩
    obtain ⟨sbR, hret'⟩ := hret g
    simp only [tyListToks, List.length_nil, Nat.add_zero] at hret' hrp hsemi ⊢
    run_base2 [h0, h1, h2, hrp, hret', hsemi]
  | cons t ts =>
    obtain ⟨g, rfl⟩ : ∃ g, F = (g + ts.length + 6) + 1 + 1 + 3 := ⟨F - ts.length - 11, by simp only [List.length_cons] at hF; omega⟩
    obtain ⟨sbL, hloop⟩ := RunAt.of_acc (fun E0 sb lv => tyLoop_acc ts t g 0 _
      (hr.ov 2 E0 3 0 sb lv (by have := hr.lim; omega)) ((Toks_ov s _ _ _ _ _ _ _ _).2 htt)
      (kindAt_pos hrp (Nat.add_assoc _ _ _))) rfl
    obtain ⟨sbR, hret'⟩ := hret (g + ts.length + 3)
    have h3 : s.kindAt (s.pos + 3) = t.kind := by
      cases ts <;> simp only [tyListToks, Toks, tk] at htt <;> exact htt.1
    run_base2 [h0, h1, h2, h3, hloop, hrp, hret', hsemi, t.kind_beq, t.isType, t.isClassical, t.isScalar, t.notIn, t.bump_ov]

end Oq3.LangEv2
