/- GENERATED by /verif/tools/gen_grammar_cost2.py from Oq3/Model/Grammar.lean — the proofs are checked by Lean. -/
import Oq3.Lemmas.GrammarWork0
set_option linter.unusedVariables false
set_option linter.unusedSimpArgs false

namespace Oq3.Grammar
open Oq3.Gen Oq3.Parser
open Oq3.Gen.Ops (Assoc)
open Oq3.Gen.TokenSets

theorem arrayTypeSpec_false_wk {M : Sys} {fuel : Nat} (ih : AllWork M fuel) (E : Env M ⟨1, 5, 0, 0, 38, 0, 10⟩ fuel)
    (hX : (false = true → (atF .ARRAY_KW E.s₀.kinds E.s₀.joint E.s₀.pos = true ∨ atF .MUTABLE_KW E.s₀.kinds E.s₀.joint E.s₀.pos = true ∨ atF .READONLY_KW E.s₀.kinds E.s₀.joint E.s₀.pos = true))) :
    W E .init (Oq3.Grammar.arrayTypeSpec (fuel + 1) false) (Exit E fun _ s' => E.s₀.pos < s'.pos) E.s₀ := by
  unfold Oq3.Grammar.arrayTypeSpec
  revert hX
  ww [expr (W.callF (.of_field ih.expr)), typeSpec (W.callF (.of_field ih.typeSpec)), arrayTypeDimsLoop (W.callFN (.of_field' ih.arrayTypeDimsLoop))]

theorem forStmt_wk {M : Sys} {fuel : Nat} (ih : AllWork M fuel) (m : Marker) (E : Env M ⟨1, 1, 0, 0, 12, 0, 6⟩ fuel) :
    W E .init (Oq3.Grammar.forStmt (fuel + 1) m) (Exit E fun _ s' => E.s₀.pos < s'.pos) E.s₀ := by
  unfold Oq3.Grammar.forStmt
  ww [name (W.callSN name_spec), blockOrStatement (W.callFN (.of_field' ih.blockOrStatement)), expr (W.callF (.of_field ih.expr)), rangeExpr (W.callFP (.of_field ih.rangeExpr)), typeSpec (W.callF (.of_field ih.typeSpec)), setExpression (W.callFP (.of_field ih.setExpression))]

theorem tupleExprLoop_wk {M : Sys} {fuel : Nat} (ih : AllWork M fuel) (sawComma sawExpr : Bool) (E : Env M ⟨12, 15, 2, 5, 0, 2, 0⟩ fuel) :
    W E .init (Oq3.Grammar.tupleExprLoop (fuel + 1) sawComma sawExpr) (Exit E fun _ _ => True) E.s₀ := by
  unfold Oq3.Grammar.tupleExprLoop
  ww [expr (W.callF (.of_field ih.expr)), tupleExprLoop (W.callFN (.of_field' (ih.tupleExprLoop _ _)))]

theorem whileStmt_wk {M : Sys} {fuel : Nat} (ih : AllWork M fuel) (m : Marker) (E : Env M ⟨1, 1, 0, 0, 12, 0, 6⟩ fuel) :
    W E .init (Oq3.Grammar.whileStmt (fuel + 1) m) (Exit E fun _ s' => E.s₀.pos < s'.pos) E.s₀ := by
  unfold Oq3.Grammar.whileStmt
  ww [blockOrStatement (W.callFN (.of_field' ih.blockOrStatement)), expr (W.callF (.of_field ih.expr))]

theorem externStmt_wk {M : Sys} {fuel : Nat} (ih : AllWork M fuel) (m : Marker) (E : Env M ⟨9, 1, 0, 0, 12, 0, 6⟩ fuel) :
    W E .init (Oq3.Grammar.externStmt (fuel + 1) m) (Exit E fun _ s' => E.s₀.pos < s'.pos) E.s₀ := by
  unfold Oq3.Grammar.externStmt
  ww [nameR (W.callSN (nameR_spec _)), optReturnSignature (W.callFN (.of_field' ih.optReturnSignature)), scalarTypeList (W.callFN (.of_field' ih.scalarTypeList))]

theorem exprStmt_wk {M : Sys} {fuel : Nat} (ih : AllWork M fuel) (m : Option Marker) (E : Env M ⟨11, 15, 2, 5, 12, 2, 6⟩ fuel) :
    W E .init (Oq3.Grammar.exprStmt (fuel + 1) m) (Exit E fun r s' => (r.isSome = true → E.s₀.pos < s'.pos) ∧ (exprHalt (E.s₀.kindAt E.s₀.pos) = false → E.s₀.pos < s'.pos)) E.s₀ := by
  unfold Oq3.Grammar.exprStmt
  ww [exprBp (W.callF (.of_field (ih.exprBp _ _ _)))]

theorem typeSpec_wk {M : Sys} {fuel : Nat} (ih : AllWork M fuel) (E : Env M ⟨3, 5, 0, 3, 37, 0, 10⟩ fuel) :
    W E .init (Oq3.Grammar.typeSpec (fuel + 1)) (Exit E fun r s' => ((isType (E.s₀.kindAt E.s₀.pos) || atF .L_BRACK E.s₀.kinds E.s₀.joint E.s₀.pos) = true → E.s₀.pos < s'.pos)) E.s₀ := by
  unfold Oq3.Grammar.typeSpec
  ww [arrayTypeSpec (W.callFPX (.of_fieldX (ih.arrayTypeSpec _))), nonArrayTypeSpec (W.callF (.of_field ih.nonArrayTypeSpec))]

theorem indexOperator_wk {M : Sys} {fuel : Nat} (ih : AllWork M fuel) (E : Env M ⟨1, 2, 0, 0, 38, 0, 8⟩ fuel) :
    W E .init (Oq3.Grammar.indexOperator (fuel + 1)) (Exit E fun _ s' => E.s₀.pos < s'.pos) E.s₀ := by
  unfold Oq3.Grammar.indexOperator
  ww [setExpression (W.callFP (.of_field ih.setExpression)), expressionList (W.callFN (.of_field' ih.expressionList))]

theorem arrayExpr_wk {M : Sys} {fuel : Nat} (ih : AllWork M fuel) (E : Env M ⟨1, 2, 0, 0, 25, 0, 8⟩ fuel) :
    W E .init (Oq3.Grammar.arrayExpr (fuel + 1)) (Exit E fun _ s' => E.s₀.pos < s'.pos) E.s₀ := by
  unfold Oq3.Grammar.arrayExpr
  ww [arrayExprLoop (W.callFN (.of_field' (ih.arrayExprLoop _ _)))]

theorem argListGateCallQubits_wk {M : Sys} {fuel : Nat} (ih : AllWork M fuel) (E : Env M ⟨5, 7, 0, 7, 40, 0, 8⟩ fuel) :
    W E .init (Oq3.Grammar.argListGateCallQubits (fuel + 1)) (Exit E fun _ _ => True) E.s₀ := by
  unfold Oq3.Grammar.argListGateCallQubits
  ww [paramListOpenqasm (W.callFX (.of_fieldX (ih.paramListOpenqasm _)))]

theorem paramListOpenqasm_wk {M : Sys} {fuel : Nat} (ih : AllWork M fuel) (flavor : DefFlavor) (E : Env M ⟨rkList flavor, wEBudList flavor, wSBudList flavor, wENList flavor, wEDList flavor, wSNList flavor, wSDList flavor⟩ fuel)
    (hX : (flavor = .arrayLiteral → atF .L_CURLY E.s₀.kinds E.s₀.joint E.s₀.pos = true)) :
    W E .init (Oq3.Grammar.paramListOpenqasm (fuel + 1) flavor) (Exit E fun r s' => (flavor = .arrayLiteral → E.s₀.pos < s'.pos)) E.s₀ := by
  unfold Oq3.Grammar.paramListOpenqasm
  revert hX
  ww [paramListOpenqasmLoop (W.callFN (.of_field' (ih.paramListOpenqasmLoop _ _)))]

end Oq3.Grammar
