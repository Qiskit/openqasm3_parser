/- GENERATED by /verif/tools/gen_grammar_cost.py from Oq3/Model/Grammar.lean — the proofs are checked by Lean.

The loose linear work bound `AllCost` of every grammar function: `w = events + events since the last bump +
nth-steps since the last bump` grows by at most `A_f + costRR * (tokens consumed)`.  Each clause is the
corresponding clause of the tight bounds (`allWork`, for the hook counter and for the number of events) weakened by
`cost_field` (`Lemmas/Cost.lean: wp_cost_of_work`); the side condition compares the constants of the two tables.
The tool computes the constants from the text of the model.
-/
import Oq3.Lemmas.GrammarWork
import Oq3.Lemmas.Cost

namespace Oq3.Grammar
open Oq3.Gen Oq3.Parser
open Oq3.Gen.Ops (Assoc)
open Oq3.Gen.TokenSets

/-- price of one token -/
def costRR : Nat := 18777
/-- budget of `source_file` beyond `costRR * n` -/
def costF : Nat := 7006

def caList : DefFlavor → Nat
  | .gateParams => 28
  | .gateQubits => 28
  | .gateCallQubits => 32
  | .defParams => 216
  | .defCalParams => 216
  | .defCalQubits => 34
  | .expressionList => 1374
  | .arrayLiteral => 14
  | .caseValues => 1374
  | .typeListFlavor => 91

def caLoop : DefFlavor → Nat
  | .gateParams => 14
  | .gateQubits => 14
  | .gateCallQubits => 18
  | .defParams => 202
  | .defCalParams => 202
  | .defCalQubits => 20
  | .expressionList => 1360
  | .arrayLiteral => 470
  | .caseValues => 1360
  | .typeListFlavor => 77

def caItem : DefFlavor → Nat
  | .gateParams => 6
  | .gateQubits => 6
  | .gateCallQubits => 10
  | .defParams => 194
  | .defCalParams => 194
  | .defCalQubits => 12
  | .expressionList => 1352
  | .arrayLiteral => 462
  | .caseValues => 1352
  | .typeListFlavor => 69

def cdList : DefFlavor → Nat
  | .gateParams => 0
  | .gateQubits => 0
  | .gateCallQubits => 11216
  | .defParams => 10768
  | .defCalParams => 0
  | .defCalQubits => 0
  | .expressionList => 0
  | .arrayLiteral => 10768
  | .caseValues => 0
  | .typeListFlavor => 10768

def cdLoop : DefFlavor → Nat
  | .gateParams => 0
  | .gateQubits => 0
  | .gateCallQubits => 11216
  | .defParams => 10768
  | .defCalParams => 0
  | .defCalQubits => 0
  | .expressionList => 0
  | .arrayLiteral => 0
  | .caseValues => 0
  | .typeListFlavor => 10768

def cdItem : DefFlavor → Nat
  | .gateParams => 14
  | .gateQubits => 14
  | .gateCallQubits => 11234
  | .defParams => 10970
  | .defCalParams => 202
  | .defCalQubits => 20
  | .expressionList => 1360
  | .arrayLiteral => 470
  | .caseValues => 1360
  | .typeListFlavor => 10845

/-- all functions of the mutual block at one fuel level -/
structure AllCost (fuel : Nat) : Prop where
  optReturnSignature : ∀  (B : Nat) (s : P), 1 + 20 * s.kinds.size ≤ fuel + 20 * s.pos ∧ s.pos ≤ s.kinds.size ∧ Lim B s ∧ s.w + 8 + 18777 * s.kinds.size ≤ B + 18777 * s.pos →
    wp A5 (Oq3.Grammar.optReturnSignature fuel ) (fun r s' => Adv s s' ∧ Lim B s' ∧ s'.w + 18777 * s.pos ≤ s.w + 18777 * s'.pos + 8 ∧ (s.pos < s'.pos → s'.w + 18777 * s.pos + 10768 ≤ s.w + 18777 * s'.pos + 8)) s
  delimited : ∀ (bra ket : SyntaxKind) (consumeBraket : Bool) (delim : SyntaxKind) (firstSet : TokenSet) (parser : DelimitedParser) (B : Nat) (s : P), 14 + 20 * s.kinds.size ≤ fuel + 20 * s.pos ∧ s.pos ≤ s.kinds.size ∧ Lim B s ∧ s.w + 456 + 18777 * s.kinds.size ≤ B + 18777 * s.pos →
    wp A5 (Oq3.Grammar.delimited fuel bra ket consumeBraket delim firstSet parser) (fun r s' => Adv s s' ∧ Lim B s' ∧ s'.w + 18777 * s.pos ≤ s.w + 18777 * s'.pos + 456 ∧ (s.pos < s'.pos → s'.w + 18777 * s.pos + 0 ≤ s.w + 18777 * s'.pos + 456) ∧ (consumeBraket = true → s.pos < s'.pos)) s
  delimitedLoop : ∀ (ket delim : SyntaxKind) (firstSet : TokenSet) (parser : DelimitedParser) (B : Nat) (s : P), 13 + 20 * s.kinds.size ≤ fuel + 20 * s.pos ∧ s.pos ≤ s.kinds.size ∧ Lim B s ∧ s.w + 452 + 18777 * s.kinds.size ≤ B + 18777 * s.pos →
    wp A5 (Oq3.Grammar.delimitedLoop fuel ket delim firstSet parser) (fun r s' => Adv s s' ∧ Lim B s' ∧ s'.w + 18777 * s.pos ≤ s.w + 18777 * s'.pos + 452 ∧ (s.pos < s'.pos → s'.w + 18777 * s.pos + 0 ≤ s.w + 18777 * s'.pos + 452)) s
  delimitedParser : ∀ (parser : DelimitedParser) (B : Nat) (s : P), 12 + 20 * s.kinds.size ≤ fuel + 20 * s.pos ∧ s.pos ≤ s.kinds.size ∧ Lim B s ∧ s.w + 448 + 18777 * s.kinds.size ≤ B + 18777 * s.pos →
    wp A5 (Oq3.Grammar.delimitedParser fuel parser) (fun r s' => Adv s s' ∧ Lim B s' ∧ s'.w + 18777 * s.pos ≤ s.w + 18777 * s'.pos + 448 ∧ (s.pos < s'.pos → s'.w + 18777 * s.pos + 452 ≤ s.w + 18777 * s'.pos + 448) ∧ (r = true → s.pos < s'.pos)) s
  sourceFileContents : ∀ (stopOnRCurly : Bool) (B : Nat) (s : P), 18 + 20 * s.kinds.size ≤ fuel + 20 * s.pos ∧ s.pos ≤ s.kinds.size ∧ Lim B s ∧ s.w + 7002 + 18777 * s.kinds.size ≤ B + 18777 * s.pos →
    wp A5 (Oq3.Grammar.sourceFileContents fuel stopOnRCurly) (fun r s' => Adv s s' ∧ Lim B s' ∧ s'.w + 18777 * s.pos ≤ s.w + 18777 * s'.pos + 7002 ∧ (s.pos < s'.pos → s'.w + 18777 * s.pos + 0 ≤ s.w + 18777 * s'.pos + 7002)) s
  item : ∀ (stopOnRCurly : Bool) (B : Nat) (s : P), 17 + 20 * s.kinds.size ≤ fuel + 20 * s.pos ∧ s.pos ≤ s.kinds.size ∧ Lim B s ∧ s.w + 7002 + 18777 * s.kinds.size ≤ B + 18777 * s.pos →
    wp A5 (Oq3.Grammar.item fuel stopOnRCurly) (fun r s' => Adv s s' ∧ Lim B s' ∧ s'.w + 18777 * s.pos ≤ s.w + 18777 * s'.pos + 7002 ∧ (s.pos < s'.pos → s'.w + 18777 * s.pos + 7002 ≤ s.w + 18777 * s'.pos + 7002) ∧ ((atF .EOF s.kinds s.joint s.pos || (atF .R_CURLY s.kinds s.joint s.pos && stopOnRCurly)) = false → s.pos < s'.pos)) s
  optItem : ∀ (m : Marker) (B : Nat) (s : P), 14 + 20 * s.kinds.size ≤ fuel + 20 * s.pos ∧ s.pos ≤ s.kinds.size ∧ Lim B s ∧ s.w + 3218 + 18777 * s.kinds.size ≤ B + 18777 * s.pos →
    wp A5 (Oq3.Grammar.optItem fuel m) (fun r s' => Adv s s' ∧ Lim B s' ∧ s'.w + 18777 * s.pos ≤ s.w + 18777 * s'.pos + 3218 ∧ (s.pos < s'.pos → s'.w + 18777 * s.pos + 10768 ≤ s.w + 18777 * s'.pos + 3218) ∧ (r.isOk = true → s.pos < s'.pos) ∧ (r.isOk = false → s'.tv = s.tv)) s
  switchCaseStmt : ∀ (m : Marker) (B : Nat) (s : P), 1 + 20 * s.kinds.size ≤ fuel + 20 * s.pos ∧ s.pos ≤ s.kinds.size ∧ Lim B s ∧ s.w + 16 + 18777 * s.kinds.size ≤ B + 18777 * s.pos →
    wp A5 (Oq3.Grammar.switchCaseStmt fuel m) (fun r s' => Adv s s' ∧ Lim B s' ∧ s'.w + 18777 * s.pos ≤ s.w + 18777 * s'.pos + 16 ∧ (s.pos < s'.pos → s'.w + 18777 * s.pos + 10768 ≤ s.w + 18777 * s'.pos + 16) ∧ (s.pos < s'.pos)) s
  switchCaseLoop : ∀  (B : Nat) (s : P), 1 + 20 * s.kinds.size ≤ fuel + 20 * s.pos ∧ s.pos ≤ s.kinds.size ∧ Lim B s ∧ s.w + 6 + 18777 * s.kinds.size ≤ B + 18777 * s.pos →
    wp A5 (Oq3.Grammar.switchCaseLoop fuel ) (fun r s' => Adv s s' ∧ Lim B s' ∧ s'.w + 18777 * s.pos ≤ s.w + 18777 * s'.pos + 6 ∧ (s.pos < s'.pos → s'.w + 18777 * s.pos + 0 ≤ s.w + 18777 * s'.pos + 6)) s
  blockOrStatement : ∀  (B : Nat) (s : P), 16 + 20 * s.kinds.size ≤ fuel + 20 * s.pos ∧ s.pos ≤ s.kinds.size ∧ Lim B s ∧ s.w + 3774 + 18777 * s.kinds.size ≤ B + 18777 * s.pos →
    wp A5 (Oq3.Grammar.blockOrStatement fuel ) (fun r s' => Adv s s' ∧ Lim B s' ∧ s'.w + 18777 * s.pos ≤ s.w + 18777 * s'.pos + 3774 ∧ (s.pos < s'.pos → s'.w + 18777 * s.pos + 0 ≤ s.w + 18777 * s'.pos + 3774)) s
  ifStmt : ∀ (m : Marker) (B : Nat) (s : P), 1 + 20 * s.kinds.size ≤ fuel + 20 * s.pos ∧ s.pos ≤ s.kinds.size ∧ Lim B s ∧ s.w + 12 + 18777 * s.kinds.size ≤ B + 18777 * s.pos →
    wp A5 (Oq3.Grammar.ifStmt fuel m) (fun r s' => Adv s s' ∧ Lim B s' ∧ s'.w + 18777 * s.pos ≤ s.w + 18777 * s'.pos + 12 ∧ (s.pos < s'.pos → s'.w + 18777 * s.pos + 10768 ≤ s.w + 18777 * s'.pos + 12) ∧ (s.pos < s'.pos)) s
  whileStmt : ∀ (m : Marker) (B : Nat) (s : P), 1 + 20 * s.kinds.size ≤ fuel + 20 * s.pos ∧ s.pos ≤ s.kinds.size ∧ Lim B s ∧ s.w + 8 + 18777 * s.kinds.size ≤ B + 18777 * s.pos →
    wp A5 (Oq3.Grammar.whileStmt fuel m) (fun r s' => Adv s s' ∧ Lim B s' ∧ s'.w + 18777 * s.pos ≤ s.w + 18777 * s'.pos + 8 ∧ (s.pos < s'.pos → s'.w + 18777 * s.pos + 10768 ≤ s.w + 18777 * s'.pos + 8) ∧ (s.pos < s'.pos)) s
  forStmt : ∀ (m : Marker) (B : Nat) (s : P), 1 + 20 * s.kinds.size ≤ fuel + 20 * s.pos ∧ s.pos ≤ s.kinds.size ∧ Lim B s ∧ s.w + 30 + 18777 * s.kinds.size ≤ B + 18777 * s.pos →
    wp A5 (Oq3.Grammar.forStmt fuel m) (fun r s' => Adv s s' ∧ Lim B s' ∧ s'.w + 18777 * s.pos ≤ s.w + 18777 * s'.pos + 30 ∧ (s.pos < s'.pos → s'.w + 18777 * s.pos + 10768 ≤ s.w + 18777 * s'.pos + 30) ∧ (s.pos < s'.pos)) s
  qubitDeclarationStmt : ∀ (m : Marker) (B : Nat) (s : P), 3 + 20 * s.kinds.size ≤ fuel + 20 * s.pos ∧ s.pos ≤ s.kinds.size ∧ Lim B s ∧ s.w + 39 + 18777 * s.kinds.size ≤ B + 18777 * s.pos →
    wp A5 (Oq3.Grammar.qubitDeclarationStmt fuel m) (fun r s' => Adv s s' ∧ Lim B s' ∧ s'.w + 18777 * s.pos ≤ s.w + 18777 * s'.pos + 39 ∧ (s.pos < s'.pos → s'.w + 18777 * s.pos + 10768 ≤ s.w + 18777 * s'.pos + 39) ∧ (s.pos < s'.pos)) s
  resetStmt : ∀ (m : Marker) (B : Nat) (s : P), 1 + 20 * s.kinds.size ≤ fuel + 20 * s.pos ∧ s.pos ≤ s.kinds.size ∧ Lim B s ∧ s.w + 10 + 18777 * s.kinds.size ≤ B + 18777 * s.pos →
    wp A5 (Oq3.Grammar.resetStmt fuel m) (fun r s' => Adv s s' ∧ Lim B s' ∧ s'.w + 18777 * s.pos ≤ s.w + 18777 * s'.pos + 10 ∧ (s.pos < s'.pos → s'.w + 18777 * s.pos + 10768 ≤ s.w + 18777 * s'.pos + 10) ∧ (s.pos < s'.pos)) s
  gateDefinition : ∀ (m : Marker) (B : Nat) (s : P), 1 + 20 * s.kinds.size ≤ fuel + 20 * s.pos ∧ s.pos ≤ s.kinds.size ∧ Lim B s ∧ s.w + 24 + 18777 * s.kinds.size ≤ B + 18777 * s.pos →
    wp A5 (Oq3.Grammar.gateDefinition fuel m) (fun r s' => Adv s s' ∧ Lim B s' ∧ s'.w + 18777 * s.pos ≤ s.w + 18777 * s'.pos + 24 ∧ (s.pos < s'.pos → s'.w + 18777 * s.pos + 10768 ≤ s.w + 18777 * s'.pos + 24) ∧ (s.pos < s'.pos)) s
  defcal_ : ∀ (m : Marker) (B : Nat) (s : P), 1 + 20 * s.kinds.size ≤ fuel + 20 * s.pos ∧ s.pos ≤ s.kinds.size ∧ Lim B s ∧ s.w + 24 + 18777 * s.kinds.size ≤ B + 18777 * s.pos →
    wp A5 (Oq3.Grammar.defcal_ fuel m) (fun r s' => Adv s s' ∧ Lim B s' ∧ s'.w + 18777 * s.pos ≤ s.w + 18777 * s'.pos + 24 ∧ (s.pos < s'.pos → s'.w + 18777 * s.pos + 10768 ≤ s.w + 18777 * s'.pos + 24) ∧ (s.pos < s'.pos)) s
  returnsBoolClassicalDeclarationStmt : ∀ (m : Marker) (B : Nat) (s : P), 12 + 20 * s.kinds.size ≤ fuel + 20 * s.pos ∧ s.pos ≤ s.kinds.size ∧ Lim B s ∧ s.w + 1009 + 18777 * s.kinds.size ≤ B + 18777 * s.pos →
    wp A5 (Oq3.Grammar.returnsBoolClassicalDeclarationStmt fuel m) (fun r s' => Adv s s' ∧ Lim B s' ∧ s'.w + 18777 * s.pos ≤ s.w + 18777 * s'.pos + 1009 ∧ (s.pos < s'.pos → s'.w + 18777 * s.pos + 10768 ≤ s.w + 18777 * s'.pos + 1009) ∧ ((isClassicalType (s.kindAt s.pos) = true ∨ atF .CONST_KW s.kinds s.joint s.pos = true) → s.pos < s'.pos)) s
  classicalDeclarationStmt : ∀ (m : Marker) (B : Nat) (s : P), 13 + 20 * s.kinds.size ≤ fuel + 20 * s.pos ∧ s.pos ≤ s.kinds.size ∧ Lim B s ∧ s.w + 1009 + 18777 * s.kinds.size ≤ B + 18777 * s.pos →
    wp A5 (Oq3.Grammar.classicalDeclarationStmt fuel m) (fun r s' => Adv s s' ∧ Lim B s' ∧ s'.w + 18777 * s.pos ≤ s.w + 18777 * s'.pos + 1009 ∧ (s.pos < s'.pos → s'.w + 18777 * s.pos + 10768 ≤ s.w + 18777 * s'.pos + 1009) ∧ ((isClassicalType (s.kindAt s.pos) = true ∨ atF .CONST_KW s.kinds s.joint s.pos = true) → s.pos < s'.pos)) s
  ioDeclarationStmt : ∀ (m : Marker) (B : Nat) (s : P), 4 + 20 * s.kinds.size ≤ fuel + 20 * s.pos ∧ s.pos ≤ s.kinds.size ∧ Lim B s ∧ s.w + 83 + 18777 * s.kinds.size ≤ B + 18777 * s.pos →
    wp A5 (Oq3.Grammar.ioDeclarationStmt fuel m) (fun r s' => Adv s s' ∧ Lim B s' ∧ s'.w + 18777 * s.pos ≤ s.w + 18777 * s'.pos + 83 ∧ (s.pos < s'.pos → s'.w + 18777 * s.pos + 10768 ≤ s.w + 18777 * s'.pos + 83) ∧ (s.kindAt s.pos ≠ .EOF → s.pos < s'.pos)) s
  defStmt : ∀ (m : Marker) (B : Nat) (s : P), 9 + 20 * s.kinds.size ≤ fuel + 20 * s.pos ∧ s.pos ≤ s.kinds.size ∧ Lim B s ∧ s.w + 260 + 18777 * s.kinds.size ≤ B + 18777 * s.pos →
    wp A5 (Oq3.Grammar.defStmt fuel m) (fun r s' => Adv s s' ∧ Lim B s' ∧ s'.w + 18777 * s.pos ≤ s.w + 18777 * s'.pos + 260 ∧ (s.pos < s'.pos → s'.w + 18777 * s.pos + 10768 ≤ s.w + 18777 * s'.pos + 260) ∧ (s.pos < s'.pos)) s
  externStmt : ∀ (m : Marker) (B : Nat) (s : P), 9 + 20 * s.kinds.size ≤ fuel + 20 * s.pos ∧ s.pos ≤ s.kinds.size ∧ Lim B s ∧ s.w + 127 + 18777 * s.kinds.size ≤ B + 18777 * s.pos →
    wp A5 (Oq3.Grammar.externStmt fuel m) (fun r s' => Adv s s' ∧ Lim B s' ∧ s'.w + 18777 * s.pos ≤ s.w + 18777 * s'.pos + 127 ∧ (s.pos < s'.pos → s'.w + 18777 * s.pos + 10768 ≤ s.w + 18777 * s'.pos + 127) ∧ (s.pos < s'.pos)) s
  cal_ : ∀ (m : Marker) (B : Nat) (s : P), 1 + 20 * s.kinds.size ≤ fuel + 20 * s.pos ∧ s.pos ≤ s.kinds.size ∧ Lim B s ∧ s.w + 4 + 18777 * s.kinds.size ≤ B + 18777 * s.pos →
    wp A5 (Oq3.Grammar.cal_ fuel m) (fun r s' => Adv s s' ∧ Lim B s' ∧ s'.w + 18777 * s.pos ≤ s.w + 18777 * s'.pos + 4 ∧ (s.pos < s'.pos → s'.w + 18777 * s.pos + 10768 ≤ s.w + 18777 * s'.pos + 4) ∧ (s.pos < s'.pos)) s
  barrier_ : ∀ (m : Marker) (B : Nat) (s : P), 1 + 20 * s.kinds.size ≤ fuel + 20 * s.pos ∧ s.pos ≤ s.kinds.size ∧ Lim B s ∧ s.w + 6 + 18777 * s.kinds.size ≤ B + 18777 * s.pos →
    wp A5 (Oq3.Grammar.barrier_ fuel m) (fun r s' => Adv s s' ∧ Lim B s' ∧ s'.w + 18777 * s.pos ≤ s.w + 18777 * s'.pos + 6 ∧ (s.pos < s'.pos → s'.w + 18777 * s.pos + 10768 ≤ s.w + 18777 * s'.pos + 6) ∧ (s.pos < s'.pos)) s
  delayStmt : ∀ (m : Marker) (B : Nat) (s : P), 1 + 20 * s.kinds.size ≤ fuel + 20 * s.pos ∧ s.pos ≤ s.kinds.size ∧ Lim B s ∧ s.w + 8 + 18777 * s.kinds.size ≤ B + 18777 * s.pos →
    wp A5 (Oq3.Grammar.delayStmt fuel m) (fun r s' => Adv s s' ∧ Lim B s' ∧ s'.w + 18777 * s.pos ≤ s.w + 18777 * s'.pos + 8 ∧ (s.pos < s'.pos → s'.w + 18777 * s.pos + 10768 ≤ s.w + 18777 * s'.pos + 8) ∧ (s.pos < s'.pos)) s
  aliasStmt : ∀ (m : Marker) (B : Nat) (s : P), 12 + 20 * s.kinds.size ≤ fuel + 20 * s.pos ∧ s.pos ≤ s.kinds.size ∧ Lim B s ∧ s.w + 476 + 18777 * s.kinds.size ≤ B + 18777 * s.pos →
    wp A5 (Oq3.Grammar.aliasStmt fuel m) (fun r s' => Adv s s' ∧ Lim B s' ∧ s'.w + 18777 * s.pos ≤ s.w + 18777 * s'.pos + 476 ∧ (s.pos < s'.pos → s'.w + 18777 * s.pos + 10768 ≤ s.w + 18777 * s'.pos + 476) ∧ (s.pos < s'.pos)) s
  expr : ∀  (B : Nat) (s : P), 11 + 20 * s.kinds.size ≤ fuel + 20 * s.pos ∧ s.pos ≤ s.kinds.size ∧ Lim B s ∧ s.w + 448 + 18777 * s.kinds.size ≤ B + 18777 * s.pos →
    wp A5 (Oq3.Grammar.expr fuel ) (fun r s' => Adv s s' ∧ Lim B s' ∧ s'.w + 18777 * s.pos ≤ s.w + 18777 * s'.pos + 448 ∧ (s.pos < s'.pos → s'.w + 18777 * s.pos + 10768 ≤ s.w + 18777 * s'.pos + 448) ∧ (r.isSome = true → s.pos < s'.pos) ∧ (exprHalt (s.kindAt s.pos) = false → s.pos < s'.pos)) s
  rangeExpr : ∀  (B : Nat) (s : P), 1 + 20 * s.kinds.size ≤ fuel + 20 * s.pos ∧ s.pos ≤ s.kinds.size ∧ Lim B s ∧ s.w + 14 + 18777 * s.kinds.size ≤ B + 18777 * s.pos →
    wp A5 (Oq3.Grammar.rangeExpr fuel ) (fun r s' => Adv s s' ∧ Lim B s' ∧ s'.w + 18777 * s.pos ≤ s.w + 18777 * s'.pos + 14 ∧ (s.pos < s'.pos → s'.w + 18777 * s.pos + 0 ≤ s.w + 18777 * s'.pos + 14) ∧ (s.pos < s'.pos)) s
  exprOrRangeExpr : ∀  (B : Nat) (s : P), 11 + 20 * s.kinds.size ≤ fuel + 20 * s.pos ∧ s.pos ≤ s.kinds.size ∧ Lim B s ∧ s.w + 1352 + 18777 * s.kinds.size ≤ B + 18777 * s.pos →
    wp A5 (Oq3.Grammar.exprOrRangeExpr fuel ) (fun r s' => Adv s s' ∧ Lim B s' ∧ s'.w + 18777 * s.pos ≤ s.w + 18777 * s'.pos + 1352 ∧ (s.pos < s'.pos → s'.w + 18777 * s.pos + 1360 ≤ s.w + 18777 * s'.pos + 1352) ∧ (exprHalt (s.kindAt s.pos) = false → s.pos < s'.pos)) s
  exprStmt : ∀ (m : Option Marker) (B : Nat) (s : P), 11 + 20 * s.kinds.size ≤ fuel + 20 * s.pos ∧ s.pos ≤ s.kinds.size ∧ Lim B s ∧ s.w + 448 + 18777 * s.kinds.size ≤ B + 18777 * s.pos →
    wp A5 (Oq3.Grammar.exprStmt fuel m) (fun r s' => Adv s s' ∧ Lim B s' ∧ s'.w + 18777 * s.pos ≤ s.w + 18777 * s'.pos + 448 ∧ (s.pos < s'.pos → s'.w + 18777 * s.pos + 10768 ≤ s.w + 18777 * s'.pos + 448) ∧ (r.isSome = true → s.pos < s'.pos) ∧ (exprHalt (s.kindAt s.pos) = false → s.pos < s'.pos)) s
  stmt : ∀  (B : Nat) (s : P), 15 + 20 * s.kinds.size ≤ fuel + 20 * s.pos ∧ s.pos ≤ s.kinds.size ∧ Lim B s ∧ s.w + 3766 + 18777 * s.kinds.size ≤ B + 18777 * s.pos →
    wp A5 (Oq3.Grammar.stmt fuel ) (fun r s' => Adv s s' ∧ Lim B s' ∧ s'.w + 18777 * s.pos ≤ s.w + 18777 * s'.pos + 3766 ∧ (s.pos < s'.pos → s'.w + 18777 * s.pos + 10768 ≤ s.w + 18777 * s'.pos + 3766) ∧ (atomHalt (s.kindAt s.pos) = false → s.pos < s'.pos)) s
  letStmt : ∀ (m : Marker) (B : Nat) (s : P), 1 + 20 * s.kinds.size ≤ fuel + 20 * s.pos ∧ s.pos ≤ s.kinds.size ∧ Lim B s ∧ s.w + 10 + 18777 * s.kinds.size ≤ B + 18777 * s.pos →
    wp A5 (Oq3.Grammar.letStmt fuel m) (fun r s' => Adv s s' ∧ Lim B s' ∧ s'.w + 18777 * s.pos ≤ s.w + 18777 * s'.pos + 10 ∧ (s.pos < s'.pos → s'.w + 18777 * s.pos + 10768 ≤ s.w + 18777 * s'.pos + 10) ∧ (s.pos < s'.pos)) s
  qOrCRegParam : ∀  (B : Nat) (s : P), 2 + 20 * s.kinds.size ≤ fuel + 20 * s.pos ∧ s.pos ≤ s.kinds.size ∧ Lim B s ∧ s.w + 20 + 18777 * s.kinds.size ≤ B + 18777 * s.pos →
    wp A5 (Oq3.Grammar.qOrCRegParam fuel ) (fun r s' => Adv s s' ∧ Lim B s' ∧ s'.w + 18777 * s.pos ≤ s.w + 18777 * s'.pos + 20 ∧ (s.pos < s'.pos → s'.w + 18777 * s.pos + 10970 ≤ s.w + 18777 * s'.pos + 20) ∧ (s.kindAt s.pos ≠ .EOF → s.pos < s'.pos)) s
  qOrCRegDeclaration : ∀ (m : Marker) (B : Nat) (s : P), 3 + 20 * s.kinds.size ≤ fuel + 20 * s.pos ∧ s.pos ≤ s.kinds.size ∧ Lim B s ∧ s.w + 24 + 18777 * s.kinds.size ≤ B + 18777 * s.pos →
    wp A5 (Oq3.Grammar.qOrCRegDeclaration fuel m) (fun r s' => Adv s s' ∧ Lim B s' ∧ s'.w + 18777 * s.pos ≤ s.w + 18777 * s'.pos + 24 ∧ (s.pos < s'.pos → s'.w + 18777 * s.pos + 10768 ≤ s.w + 18777 * s'.pos + 24) ∧ (s.kindAt s.pos ≠ .EOF → s.pos < s'.pos)) s
  exprBlockStatements : ∀  (B : Nat) (s : P), 16 + 20 * s.kinds.size ≤ fuel + 20 * s.pos ∧ s.pos ≤ s.kinds.size ∧ Lim B s ∧ s.w + 3766 + 18777 * s.kinds.size ≤ B + 18777 * s.pos →
    wp A5 (Oq3.Grammar.exprBlockStatements fuel ) (fun r s' => Adv s s' ∧ Lim B s' ∧ s'.w + 18777 * s.pos ≤ s.w + 18777 * s'.pos + 3766 ∧ (s.pos < s'.pos → s'.w + 18777 * s.pos + 7002 ≤ s.w + 18777 * s'.pos + 3766) ∧ (atomHalt (s.kindAt s.pos) = false → s.pos < s'.pos)) s
  exprBp : ∀ (m : Option Marker) (r : Restrictions) (bp : Nat) (B : Nat) (s : P), 10 + 20 * s.kinds.size ≤ fuel + 20 * s.pos ∧ s.pos ≤ s.kinds.size ∧ Lim B s ∧ s.w + 448 + 18777 * s.kinds.size ≤ B + 18777 * s.pos →
    wp A5 (Oq3.Grammar.exprBp fuel m r bp) (fun r s' => Adv s s' ∧ Lim B s' ∧ s'.w + 18777 * s.pos ≤ s.w + 18777 * s'.pos + 448 ∧ (s.pos < s'.pos → s'.w + 18777 * s.pos + 10768 ≤ s.w + 18777 * s'.pos + 448) ∧ (r.isSome = true → s.pos < s'.pos) ∧ (exprHalt (s.kindAt s.pos) = false → s.pos < s'.pos)) s
  exprBpLoop : ∀ (r : Restrictions) (bp : Nat) (lhs : CompletedMarker) (B : Nat) (s : P), 1 + 20 * s.kinds.size ≤ fuel + 20 * s.pos ∧ s.pos ≤ s.kinds.size ∧ Lim B s ∧ s.w + 16 + 18777 * s.kinds.size ≤ B + 18777 * s.pos →
    wp A5 (Oq3.Grammar.exprBpLoop fuel r bp lhs) (fun r s' => Adv s s' ∧ Lim B s' ∧ s'.w + 18777 * s.pos ≤ s.w + 18777 * s'.pos + 16 ∧ (s.pos < s'.pos → s'.w + 18777 * s.pos + 10768 ≤ s.w + 18777 * s'.pos + 16)) s
  lhs : ∀ (r : Restrictions) (B : Nat) (s : P), 9 + 20 * s.kinds.size ≤ fuel + 20 * s.pos ∧ s.pos ≤ s.kinds.size ∧ Lim B s ∧ s.w + 421 + 18777 * s.kinds.size ≤ B + 18777 * s.pos →
    wp A5 (Oq3.Grammar.lhs fuel r) (fun r s' => Adv s s' ∧ Lim B s' ∧ s'.w + 18777 * s.pos ≤ s.w + 18777 * s'.pos + 421 ∧ (s.pos < s'.pos → s'.w + 18777 * s.pos + 10768 ≤ s.w + 18777 * s'.pos + 421) ∧ (r.isSome = true → s.pos < s'.pos) ∧ (atomHalt (s.kindAt s.pos) = false → s.pos < s'.pos)) s
  postfixExpr : ∀ (lhs : CompletedMarker) (blockLike : BlockLike) (allowCalls : Bool) (B : Nat) (s : P), 4 + 20 * s.kinds.size ≤ fuel + 20 * s.pos ∧ s.pos ≤ s.kinds.size ∧ Lim B s ∧ s.w + 56 + 18777 * s.kinds.size ≤ B + 18777 * s.pos →
    wp A5 (Oq3.Grammar.postfixExpr fuel lhs blockLike allowCalls) (fun r s' => Adv s s' ∧ Lim B s' ∧ s'.w + 18777 * s.pos ≤ s.w + 18777 * s'.pos + 56 ∧ (s.pos < s'.pos → s'.w + 18777 * s.pos + 11216 ≤ s.w + 18777 * s'.pos + 56)) s
  callExpr : ∀ (lhs : CompletedMarker) (B : Nat) (s : P), 2 + 20 * s.kinds.size ≤ fuel + 20 * s.pos ∧ s.pos ≤ s.kinds.size ∧ Lim B s ∧ s.w + 18 + 18777 * s.kinds.size ≤ B + 18777 * s.pos →
    wp A5 (Oq3.Grammar.callExpr fuel lhs) (fun r s' => Adv s s' ∧ Lim B s' ∧ s'.w + 18777 * s.pos ≤ s.w + 18777 * s'.pos + 18 ∧ (s.pos < s'.pos → s'.w + 18777 * s.pos + 11328 ≤ s.w + 18777 * s'.pos + 18) ∧ (s.pos < s'.pos)) s
  paramTypeSpec : ∀  (B : Nat) (s : P), 3 + 20 * s.kinds.size ≤ fuel + 20 * s.pos ∧ s.pos ≤ s.kinds.size ∧ Lim B s ∧ s.w + 67 + 18777 * s.kinds.size ≤ B + 18777 * s.pos →
    wp A5 (Oq3.Grammar.paramTypeSpec fuel ) (fun r s' => Adv s s' ∧ Lim B s' ∧ s'.w + 18777 * s.pos ≤ s.w + 18777 * s'.pos + 67 ∧ (s.pos < s'.pos → s'.w + 18777 * s.pos + 10970 ≤ s.w + 18777 * s'.pos + 67) ∧ ((isType (s.kindAt s.pos) || atF .L_BRACK s.kinds s.joint s.pos || atF .ARRAY_KW s.kinds s.joint s.pos || atF .MUTABLE_KW s.kinds s.joint s.pos || atF .READONLY_KW s.kinds s.joint s.pos) = true → s.pos < s'.pos) ∧ ((isType (s.kindAt s.pos) || atF .L_BRACK s.kinds s.joint s.pos || atF .ARRAY_KW s.kinds s.joint s.pos || atF .MUTABLE_KW s.kinds s.joint s.pos || atF .READONLY_KW s.kinds s.joint s.pos) = false → s'.tv = s.tv)) s
  typeSpec : ∀  (B : Nat) (s : P), 3 + 20 * s.kinds.size ≤ fuel + 20 * s.pos ∧ s.pos ≤ s.kinds.size ∧ Lim B s ∧ s.w + 67 + 18777 * s.kinds.size ≤ B + 18777 * s.pos →
    wp A5 (Oq3.Grammar.typeSpec fuel ) (fun r s' => Adv s s' ∧ Lim B s' ∧ s'.w + 18777 * s.pos ≤ s.w + 18777 * s'.pos + 67 ∧ (s.pos < s'.pos → s'.w + 18777 * s.pos + 11664 ≤ s.w + 18777 * s'.pos + 67) ∧ ((isType (s.kindAt s.pos) || atF .L_BRACK s.kinds s.joint s.pos) = true → s.pos < s'.pos)) s
  arrayTypeSpec : ∀ (wantArrayRefType : Bool) (B : Nat) (s : P), 1 + 20 * s.kinds.size ≤ fuel + 20 * s.pos ∧ s.pos ≤ s.kinds.size ∧ Lim B s ∧ s.w + 34 + 18777 * s.kinds.size ≤ B + 18777 * s.pos ∧ (wantArrayRefType = true → (atF .ARRAY_KW s.kinds s.joint s.pos = true ∨ atF .MUTABLE_KW s.kinds s.joint s.pos = true ∨ atF .READONLY_KW s.kinds s.joint s.pos = true)) →
    wp A5 (Oq3.Grammar.arrayTypeSpec fuel wantArrayRefType) (fun r s' => Adv s s' ∧ Lim B s' ∧ s'.w + 18777 * s.pos ≤ s.w + 18777 * s'.pos + 34 ∧ (s.pos < s'.pos → s'.w + 18777 * s.pos + 11664 ≤ s.w + 18777 * s'.pos + 34) ∧ (s.pos < s'.pos)) s
  arrayTypeDimsLoop : ∀  (B : Nat) (s : P), 12 + 20 * s.kinds.size ≤ fuel + 20 * s.pos ∧ s.pos ≤ s.kinds.size ∧ Lim B s ∧ s.w + 452 + 18777 * s.kinds.size ≤ B + 18777 * s.pos →
    wp A5 (Oq3.Grammar.arrayTypeDimsLoop fuel ) (fun r s' => Adv s s' ∧ Lim B s' ∧ s'.w + 18777 * s.pos ≤ s.w + 18777 * s'.pos + 452 ∧ (s.pos < s'.pos → s'.w + 18777 * s.pos + 0 ≤ s.w + 18777 * s'.pos + 452)) s
  nonArrayTypeSpec : ∀  (B : Nat) (s : P), 2 + 20 * s.kinds.size ≤ fuel + 20 * s.pos ∧ s.pos ≤ s.kinds.size ∧ Lim B s ∧ s.w + 33 + 18777 * s.kinds.size ≤ B + 18777 * s.pos →
    wp A5 (Oq3.Grammar.nonArrayTypeSpec fuel ) (fun r s' => Adv s s' ∧ Lim B s' ∧ s'.w + 18777 * s.pos ≤ s.w + 18777 * s'.pos + 33 ∧ (s.pos < s'.pos → s'.w + 18777 * s.pos + 11664 ≤ s.w + 18777 * s'.pos + 33) ∧ ((isType (s.kindAt s.pos) || atF .L_BRACK s.kinds s.joint s.pos) = true → s.pos < s'.pos) ∧ ((isType (s.kindAt s.pos) || atF .L_BRACK s.kinds s.joint s.pos) = false → s'.tv = s.tv)) s
  complexTypeSpec : ∀  (B : Nat) (s : P), 1 + 20 * s.kinds.size ≤ fuel + 20 * s.pos ∧ s.pos ≤ s.kinds.size ∧ Lim B s ∧ s.w + 12 + 18777 * s.kinds.size ≤ B + 18777 * s.pos →
    wp A5 (Oq3.Grammar.complexTypeSpec fuel ) (fun r s' => Adv s s' ∧ Lim B s' ∧ s'.w + 18777 * s.pos ≤ s.w + 18777 * s'.pos + 12 ∧ (s.pos < s'.pos → s'.w + 18777 * s.pos + 11664 ≤ s.w + 18777 * s'.pos + 12) ∧ (s.pos < s'.pos)) s
  qubitTypeSpec : ∀  (B : Nat) (s : P), 2 + 20 * s.kinds.size ≤ fuel + 20 * s.pos ∧ s.pos ≤ s.kinds.size ∧ Lim B s ∧ s.w + 21 + 18777 * s.kinds.size ≤ B + 18777 * s.pos →
    wp A5 (Oq3.Grammar.qubitTypeSpec fuel ) (fun r s' => Adv s s' ∧ Lim B s' ∧ s'.w + 18777 * s.pos ≤ s.w + 18777 * s'.pos + 21 ∧ (s.pos < s'.pos → s'.w + 18777 * s.pos + 10768 ≤ s.w + 18777 * s'.pos + 21) ∧ (s.pos < s'.pos)) s
  designator : ∀  (B : Nat) (s : P), 1 + 20 * s.kinds.size ≤ fuel + 20 * s.pos ∧ s.pos ≤ s.kinds.size ∧ Lim B s ∧ s.w + 11 + 18777 * s.kinds.size ≤ B + 18777 * s.pos →
    wp A5 (Oq3.Grammar.designator fuel ) (fun r s' => Adv s s' ∧ Lim B s' ∧ s'.w + 18777 * s.pos ≤ s.w + 18777 * s'.pos + 11 ∧ (s.pos < s'.pos → s'.w + 18777 * s.pos + 11664 ≤ s.w + 18777 * s'.pos + 11) ∧ (s.pos < s'.pos)) s
  indexExpr : ∀ (lhs : CompletedMarker) (B : Nat) (s : P), 2 + 20 * s.kinds.size ≤ fuel + 20 * s.pos ∧ s.pos ≤ s.kinds.size ∧ Lim B s ∧ s.w + 12 + 18777 * s.kinds.size ≤ B + 18777 * s.pos →
    wp A5 (Oq3.Grammar.indexExpr fuel lhs) (fun r s' => Adv s s' ∧ Lim B s' ∧ s'.w + 18777 * s.pos ≤ s.w + 18777 * s'.pos + 12 ∧ (s.pos < s'.pos → s'.w + 18777 * s.pos + 11328 ≤ s.w + 18777 * s'.pos + 12) ∧ (s.pos < s'.pos)) s
  indexedIdentifier : ∀ (lhs : CompletedMarker) (B : Nat) (s : P), 3 + 20 * s.kinds.size ≤ fuel + 20 * s.pos ∧ s.pos ≤ s.kinds.size ∧ Lim B s ∧ s.w + 12 + 18777 * s.kinds.size ≤ B + 18777 * s.pos →
    wp A5 (Oq3.Grammar.indexedIdentifier fuel lhs) (fun r s' => Adv s s' ∧ Lim B s' ∧ s'.w + 18777 * s.pos ≤ s.w + 18777 * s'.pos + 12 ∧ (s.pos < s'.pos → s'.w + 18777 * s.pos + 11328 ≤ s.w + 18777 * s'.pos + 12) ∧ (s.pos < s'.pos)) s
  indexedIdentifierLoop : ∀  (B : Nat) (s : P), 2 + 20 * s.kinds.size ≤ fuel + 20 * s.pos ∧ s.pos ≤ s.kinds.size ∧ Lim B s ∧ s.w + 8 + 18777 * s.kinds.size ≤ B + 18777 * s.pos →
    wp A5 (Oq3.Grammar.indexedIdentifierLoop fuel ) (fun r s' => Adv s s' ∧ Lim B s' ∧ s'.w + 18777 * s.pos ≤ s.w + 18777 * s'.pos + 8 ∧ (s.pos < s'.pos → s'.w + 18777 * s.pos + 11328 ≤ s.w + 18777 * s'.pos + 8) ∧ (atF .L_BRACK s.kinds s.joint s.pos = true → s.pos < s'.pos)) s
  setExpression : ∀  (B : Nat) (s : P), 1 + 20 * s.kinds.size ≤ fuel + 20 * s.pos ∧ s.pos ≤ s.kinds.size ∧ Lim B s ∧ s.w + 8 + 18777 * s.kinds.size ≤ B + 18777 * s.pos →
    wp A5 (Oq3.Grammar.setExpression fuel ) (fun r s' => Adv s s' ∧ Lim B s' ∧ s'.w + 18777 * s.pos ≤ s.w + 18777 * s'.pos + 8 ∧ (s.pos < s'.pos → s'.w + 18777 * s.pos + 0 ≤ s.w + 18777 * s'.pos + 8) ∧ (s.pos < s'.pos)) s
  indexOperator : ∀  (B : Nat) (s : P), 1 + 20 * s.kinds.size ≤ fuel + 20 * s.pos ∧ s.pos ≤ s.kinds.size ∧ Lim B s ∧ s.w + 8 + 18777 * s.kinds.size ≤ B + 18777 * s.pos →
    wp A5 (Oq3.Grammar.indexOperator fuel ) (fun r s' => Adv s s' ∧ Lim B s' ∧ s'.w + 18777 * s.pos ≤ s.w + 18777 * s'.pos + 8 ∧ (s.pos < s'.pos → s'.w + 18777 * s.pos + 11336 ≤ s.w + 18777 * s'.pos + 8) ∧ (s.pos < s'.pos)) s
  callArgList : ∀  (B : Nat) (s : P), 1 + 20 * s.kinds.size ≤ fuel + 20 * s.pos ∧ s.pos ≤ s.kinds.size ∧ Lim B s ∧ s.w + 12 + 18777 * s.kinds.size ≤ B + 18777 * s.pos →
    wp A5 (Oq3.Grammar.callArgList fuel ) (fun r s' => Adv s s' ∧ Lim B s' ∧ s'.w + 18777 * s.pos ≤ s.w + 18777 * s'.pos + 12 ∧ (s.pos < s'.pos → s'.w + 18777 * s.pos + 11360 ≤ s.w + 18777 * s'.pos + 12) ∧ (s.pos < s'.pos)) s
  atomExpr : ∀ (_r : Restrictions) (B : Nat) (s : P), 8 + 20 * s.kinds.size ≤ fuel + 20 * s.pos ∧ s.pos ≤ s.kinds.size ∧ Lim B s ∧ s.w + 359 + 18777 * s.kinds.size ≤ B + 18777 * s.pos →
    wp A5 (Oq3.Grammar.atomExpr fuel _r) (fun r s' => Adv s s' ∧ Lim B s' ∧ s'.w + 18777 * s.pos ≤ s.w + 18777 * s'.pos + 359 ∧ (s.pos < s'.pos → s'.w + 18777 * s.pos + 11216 ≤ s.w + 18777 * s'.pos + 359) ∧ (r.isSome = true → s.pos < s'.pos) ∧ (atomHalt (s.kindAt s.pos) = false → s.pos < s'.pos)) s
  castExpr : ∀  (B : Nat) (s : P), 4 + 20 * s.kinds.size ≤ fuel + 20 * s.pos ∧ s.pos ≤ s.kinds.size ∧ Lim B s ∧ s.w + 75 + 18777 * s.kinds.size ≤ B + 18777 * s.pos ∧ isClassicalType (s.kindAt s.pos) = true →
    wp A5 (Oq3.Grammar.castExpr fuel ) (fun r s' => Adv s s' ∧ Lim B s' ∧ s'.w + 18777 * s.pos ≤ s.w + 18777 * s'.pos + 75 ∧ (s.pos < s'.pos → s'.w + 18777 * s.pos + 11216 ≤ s.w + 18777 * s'.pos + 75) ∧ (s.pos < s'.pos)) s
  gphaseCallExpr : ∀  (B : Nat) (s : P), 1 + 20 * s.kinds.size ≤ fuel + 20 * s.pos ∧ s.pos ≤ s.kinds.size ∧ Lim B s ∧ s.w + 6 + 18777 * s.kinds.size ≤ B + 18777 * s.pos →
    wp A5 (Oq3.Grammar.gphaseCallExpr fuel ) (fun r s' => Adv s s' ∧ Lim B s' ∧ s'.w + 18777 * s.pos ≤ s.w + 18777 * s'.pos + 6 ∧ (s.pos < s'.pos → s'.w + 18777 * s.pos + 11216 ≤ s.w + 18777 * s'.pos + 6) ∧ (s.pos < s'.pos)) s
  modifiedGateCallExpr : ∀  (B : Nat) (s : P), 7 + 20 * s.kinds.size ≤ fuel + 20 * s.pos ∧ s.pos ≤ s.kinds.size ∧ Lim B s ∧ s.w + 126 + 18777 * s.kinds.size ≤ B + 18777 * s.pos →
    wp A5 (Oq3.Grammar.modifiedGateCallExpr fuel ) (fun r s' => Adv s s' ∧ Lim B s' ∧ s'.w + 18777 * s.pos ≤ s.w + 18777 * s'.pos + 126 ∧ (s.pos < s'.pos → s'.w + 18777 * s.pos + 11216 ≤ s.w + 18777 * s'.pos + 126) ∧ (modHead (s.kindAt s.pos) = true → s.pos < s'.pos)) s
  modifiedGateCallExprLoop : ∀  (B : Nat) (s : P), 1 + 20 * s.kinds.size ≤ fuel + 20 * s.pos ∧ s.pos ≤ s.kinds.size ∧ Lim B s ∧ s.w + 62 + 18777 * s.kinds.size ≤ B + 18777 * s.pos →
    wp A5 (Oq3.Grammar.modifiedGateCallExprLoop fuel ) (fun r s' => Adv s s' ∧ Lim B s' ∧ s'.w + 18777 * s.pos ≤ s.w + 18777 * s'.pos + 62 ∧ (s.pos < s'.pos → s'.w + 18777 * s.pos + 11216 ≤ s.w + 18777 * s'.pos + 62) ∧ (modHead (s.kindAt s.pos) = true → s.pos < s'.pos)) s
  gateCallExpr : ∀  (B : Nat) (s : P), 6 + 20 * s.kinds.size ≤ fuel + 20 * s.pos ∧ s.pos ≤ s.kinds.size ∧ Lim B s ∧ s.w + 54 + 18777 * s.kinds.size ≤ B + 18777 * s.pos →
    wp A5 (Oq3.Grammar.gateCallExpr fuel ) (fun r s' => Adv s s' ∧ Lim B s' ∧ s'.w + 18777 * s.pos ≤ s.w + 18777 * s'.pos + 54 ∧ (s.pos < s'.pos → s'.w + 18777 * s.pos + 11216 ≤ s.w + 18777 * s'.pos + 54) ∧ (atF .IDENT s.kinds s.joint s.pos = true → s.pos < s'.pos)) s
  measureExpression : ∀  (B : Nat) (s : P), 1 + 20 * s.kinds.size ≤ fuel + 20 * s.pos ∧ s.pos ≤ s.kinds.size ∧ Lim B s ∧ s.w + 10 + 18777 * s.kinds.size ≤ B + 18777 * s.pos →
    wp A5 (Oq3.Grammar.measureExpression fuel ) (fun r s' => Adv s s' ∧ Lim B s' ∧ s'.w + 18777 * s.pos ≤ s.w + 18777 * s'.pos + 10 ∧ (s.pos < s'.pos → s'.w + 18777 * s.pos + 11216 ≤ s.w + 18777 * s'.pos + 10) ∧ (s.pos < s'.pos)) s
  tupleExpr : ∀  (B : Nat) (s : P), 1 + 20 * s.kinds.size ≤ fuel + 20 * s.pos ∧ s.pos ≤ s.kinds.size ∧ Lim B s ∧ s.w + 12 + 18777 * s.kinds.size ≤ B + 18777 * s.pos →
    wp A5 (Oq3.Grammar.tupleExpr fuel ) (fun r s' => Adv s s' ∧ Lim B s' ∧ s'.w + 18777 * s.pos ≤ s.w + 18777 * s'.pos + 12 ∧ (s.pos < s'.pos → s'.w + 18777 * s.pos + 11216 ≤ s.w + 18777 * s'.pos + 12) ∧ (s.pos < s'.pos)) s
  tupleExprLoop : ∀ (sawComma sawExpr : Bool) (B : Nat) (s : P), 12 + 20 * s.kinds.size ≤ fuel + 20 * s.pos ∧ s.pos ≤ s.kinds.size ∧ Lim B s ∧ s.w + 450 + 18777 * s.kinds.size ≤ B + 18777 * s.pos →
    wp A5 (Oq3.Grammar.tupleExprLoop fuel sawComma sawExpr) (fun r s' => Adv s s' ∧ Lim B s' ∧ s'.w + 18777 * s.pos ≤ s.w + 18777 * s'.pos + 450 ∧ (s.pos < s'.pos → s'.w + 18777 * s.pos + 0 ≤ s.w + 18777 * s'.pos + 450)) s
  arrayExpr : ∀  (B : Nat) (s : P), 1 + 20 * s.kinds.size ≤ fuel + 20 * s.pos ∧ s.pos ≤ s.kinds.size ∧ Lim B s ∧ s.w + 8 + 18777 * s.kinds.size ≤ B + 18777 * s.pos →
    wp A5 (Oq3.Grammar.arrayExpr fuel ) (fun r s' => Adv s s' ∧ Lim B s' ∧ s'.w + 18777 * s.pos ≤ s.w + 18777 * s'.pos + 8 ∧ (s.pos < s'.pos → s'.w + 18777 * s.pos + 11216 ≤ s.w + 18777 * s'.pos + 8) ∧ (s.pos < s'.pos)) s
  arrayExprLoop : ∀ (nExprs : Nat) (hasSemi : Bool) (B : Nat) (s : P), 12 + 20 * s.kinds.size ≤ fuel + 20 * s.pos ∧ s.pos ≤ s.kinds.size ∧ Lim B s ∧ s.w + 452 + 18777 * s.kinds.size ≤ B + 18777 * s.pos →
    wp A5 (Oq3.Grammar.arrayExprLoop fuel nExprs hasSemi) (fun r s' => Adv s s' ∧ Lim B s' ∧ s'.w + 18777 * s.pos ≤ s.w + 18777 * s'.pos + 452 ∧ (s.pos < s'.pos → s'.w + 18777 * s.pos + 0 ≤ s.w + 18777 * s'.pos + 452)) s
  tryBlockExpr : ∀  (B : Nat) (s : P), 2 + 20 * s.kinds.size ≤ fuel + 20 * s.pos ∧ s.pos ≤ s.kinds.size ∧ Lim B s ∧ s.w + 10 + 18777 * s.kinds.size ≤ B + 18777 * s.pos →
    wp A5 (Oq3.Grammar.tryBlockExpr fuel ) (fun r s' => Adv s s' ∧ Lim B s' ∧ s'.w + 18777 * s.pos ≤ s.w + 18777 * s'.pos + 10 ∧ (s.pos < s'.pos → s'.w + 18777 * s.pos + 10768 ≤ s.w + 18777 * s'.pos + 10)) s
  blockExpr : ∀  (B : Nat) (s : P), 1 + 20 * s.kinds.size ≤ fuel + 20 * s.pos ∧ s.pos ≤ s.kinds.size ∧ Lim B s ∧ s.w + 8 + 18777 * s.kinds.size ≤ B + 18777 * s.pos →
    wp A5 (Oq3.Grammar.blockExpr fuel ) (fun r s' => Adv s s' ∧ Lim B s' ∧ s'.w + 18777 * s.pos ≤ s.w + 18777 * s'.pos + 8 ∧ (s.pos < s'.pos → s'.w + 18777 * s.pos + 11216 ≤ s.w + 18777 * s'.pos + 8) ∧ (s.pos < s'.pos)) s
  returnExpr : ∀  (B : Nat) (s : P), 1 + 20 * s.kinds.size ≤ fuel + 20 * s.pos ∧ s.pos ≤ s.kinds.size ∧ Lim B s ∧ s.w + 6 + 18777 * s.kinds.size ≤ B + 18777 * s.pos →
    wp A5 (Oq3.Grammar.returnExpr fuel ) (fun r s' => Adv s s' ∧ Lim B s' ∧ s'.w + 18777 * s.pos ≤ s.w + 18777 * s'.pos + 6 ∧ (s.pos < s'.pos → s'.w + 18777 * s.pos + 11216 ≤ s.w + 18777 * s'.pos + 6) ∧ (s.pos < s'.pos)) s
  boxExpr : ∀ (m : Option Marker) (B : Nat) (s : P), 1 + 20 * s.kinds.size ≤ fuel + 20 * s.pos ∧ s.pos ≤ s.kinds.size ∧ Lim B s ∧ s.w + 6 + 18777 * s.kinds.size ≤ B + 18777 * s.pos →
    wp A5 (Oq3.Grammar.boxExpr fuel m) (fun r s' => Adv s s' ∧ Lim B s' ∧ s'.w + 18777 * s.pos ≤ s.w + 18777 * s'.pos + 6 ∧ (s.pos < s'.pos → s'.w + 18777 * s.pos + 11216 ≤ s.w + 18777 * s'.pos + 6) ∧ (s.pos < s'.pos)) s
  paramListGateParams : ∀  (B : Nat) (s : P), 4 + 20 * s.kinds.size ≤ fuel + 20 * s.pos ∧ s.pos ≤ s.kinds.size ∧ Lim B s ∧ s.w + 28 + 18777 * s.kinds.size ≤ B + 18777 * s.pos →
    wp A5 (Oq3.Grammar.paramListGateParams fuel ) (fun r s' => Adv s s' ∧ Lim B s' ∧ s'.w + 18777 * s.pos ≤ s.w + 18777 * s'.pos + 28 ∧ (s.pos < s'.pos → s'.w + 18777 * s.pos + 0 ≤ s.w + 18777 * s'.pos + 28)) s
  paramListGateQubits : ∀  (B : Nat) (s : P), 4 + 20 * s.kinds.size ≤ fuel + 20 * s.pos ∧ s.pos ≤ s.kinds.size ∧ Lim B s ∧ s.w + 28 + 18777 * s.kinds.size ≤ B + 18777 * s.pos →
    wp A5 (Oq3.Grammar.paramListGateQubits fuel ) (fun r s' => Adv s s' ∧ Lim B s' ∧ s'.w + 18777 * s.pos ≤ s.w + 18777 * s'.pos + 28 ∧ (s.pos < s'.pos → s'.w + 18777 * s.pos + 0 ≤ s.w + 18777 * s'.pos + 28)) s
  argListGateCallQubits : ∀  (B : Nat) (s : P), 5 + 20 * s.kinds.size ≤ fuel + 20 * s.pos ∧ s.pos ≤ s.kinds.size ∧ Lim B s ∧ s.w + 32 + 18777 * s.kinds.size ≤ B + 18777 * s.pos →
    wp A5 (Oq3.Grammar.argListGateCallQubits fuel ) (fun r s' => Adv s s' ∧ Lim B s' ∧ s'.w + 18777 * s.pos ≤ s.w + 18777 * s'.pos + 32 ∧ (s.pos < s'.pos → s'.w + 18777 * s.pos + 11216 ≤ s.w + 18777 * s'.pos + 32)) s
  paramListDefParams : ∀  (B : Nat) (s : P), 8 + 20 * s.kinds.size ≤ fuel + 20 * s.pos ∧ s.pos ≤ s.kinds.size ∧ Lim B s ∧ s.w + 216 + 18777 * s.kinds.size ≤ B + 18777 * s.pos →
    wp A5 (Oq3.Grammar.paramListDefParams fuel ) (fun r s' => Adv s s' ∧ Lim B s' ∧ s'.w + 18777 * s.pos ≤ s.w + 18777 * s'.pos + 216 ∧ (s.pos < s'.pos → s'.w + 18777 * s.pos + 10768 ≤ s.w + 18777 * s'.pos + 216)) s
  scalarTypeList : ∀  (B : Nat) (s : P), 8 + 20 * s.kinds.size ≤ fuel + 20 * s.pos ∧ s.pos ≤ s.kinds.size ∧ Lim B s ∧ s.w + 91 + 18777 * s.kinds.size ≤ B + 18777 * s.pos →
    wp A5 (Oq3.Grammar.scalarTypeList fuel ) (fun r s' => Adv s s' ∧ Lim B s' ∧ s'.w + 18777 * s.pos ≤ s.w + 18777 * s'.pos + 91 ∧ (s.pos < s'.pos → s'.w + 18777 * s.pos + 10768 ≤ s.w + 18777 * s'.pos + 91)) s
  paramListDefcalParams : ∀  (B : Nat) (s : P), 8 + 20 * s.kinds.size ≤ fuel + 20 * s.pos ∧ s.pos ≤ s.kinds.size ∧ Lim B s ∧ s.w + 216 + 18777 * s.kinds.size ≤ B + 18777 * s.pos →
    wp A5 (Oq3.Grammar.paramListDefcalParams fuel ) (fun r s' => Adv s s' ∧ Lim B s' ∧ s'.w + 18777 * s.pos ≤ s.w + 18777 * s'.pos + 216 ∧ (s.pos < s'.pos → s'.w + 18777 * s.pos + 0 ≤ s.w + 18777 * s'.pos + 216)) s
  paramListDefcalQubits : ∀  (B : Nat) (s : P), 4 + 20 * s.kinds.size ≤ fuel + 20 * s.pos ∧ s.pos ≤ s.kinds.size ∧ Lim B s ∧ s.w + 34 + 18777 * s.kinds.size ≤ B + 18777 * s.pos →
    wp A5 (Oq3.Grammar.paramListDefcalQubits fuel ) (fun r s' => Adv s s' ∧ Lim B s' ∧ s'.w + 18777 * s.pos ≤ s.w + 18777 * s'.pos + 34 ∧ (s.pos < s'.pos → s'.w + 18777 * s.pos + 0 ≤ s.w + 18777 * s'.pos + 34)) s
  expressionList : ∀  (B : Nat) (s : P), 15 + 20 * s.kinds.size ≤ fuel + 20 * s.pos ∧ s.pos ≤ s.kinds.size ∧ Lim B s ∧ s.w + 1374 + 18777 * s.kinds.size ≤ B + 18777 * s.pos →
    wp A5 (Oq3.Grammar.expressionList fuel ) (fun r s' => Adv s s' ∧ Lim B s' ∧ s'.w + 18777 * s.pos ≤ s.w + 18777 * s'.pos + 1374 ∧ (s.pos < s'.pos → s'.w + 18777 * s.pos + 0 ≤ s.w + 18777 * s'.pos + 1374)) s
  caseValueList : ∀  (B : Nat) (s : P), 15 + 20 * s.kinds.size ≤ fuel + 20 * s.pos ∧ s.pos ≤ s.kinds.size ∧ Lim B s ∧ s.w + 1374 + 18777 * s.kinds.size ≤ B + 18777 * s.pos →
    wp A5 (Oq3.Grammar.caseValueList fuel ) (fun r s' => Adv s s' ∧ Lim B s' ∧ s'.w + 18777 * s.pos ≤ s.w + 18777 * s'.pos + 1374 ∧ (s.pos < s'.pos → s'.w + 18777 * s.pos + 0 ≤ s.w + 18777 * s'.pos + 1374)) s
  arrayLiteral : ∀  (B : Nat) (s : P), 2 + 20 * s.kinds.size ≤ fuel + 20 * s.pos ∧ s.pos ≤ s.kinds.size ∧ Lim B s ∧ s.w + 14 + 18777 * s.kinds.size ≤ B + 18777 * s.pos ∧ atF .L_CURLY s.kinds s.joint s.pos = true →
    wp A5 (Oq3.Grammar.arrayLiteral fuel ) (fun r s' => Adv s s' ∧ Lim B s' ∧ s'.w + 18777 * s.pos ≤ s.w + 18777 * s'.pos + 14 ∧ (s.pos < s'.pos → s'.w + 18777 * s.pos + 10768 ≤ s.w + 18777 * s'.pos + 14) ∧ (s.pos < s'.pos)) s
  paramListOpenqasm : ∀ (flavor : DefFlavor) (B : Nat) (s : P), rkList flavor + 20 * s.kinds.size ≤ fuel + 20 * s.pos ∧ s.pos ≤ s.kinds.size ∧ Lim B s ∧ s.w + caList flavor + 18777 * s.kinds.size ≤ B + 18777 * s.pos ∧ (flavor = .arrayLiteral → atF .L_CURLY s.kinds s.joint s.pos = true) →
    wp A5 (Oq3.Grammar.paramListOpenqasm fuel flavor) (fun r s' => Adv s s' ∧ Lim B s' ∧ s'.w + 18777 * s.pos ≤ s.w + 18777 * s'.pos + caList flavor ∧ (s.pos < s'.pos → s'.w + 18777 * s.pos + cdList flavor ≤ s.w + 18777 * s'.pos + caList flavor) ∧ (flavor = .arrayLiteral → s.pos < s'.pos)) s
  paramListOpenqasmLoop : ∀ (flavor : DefFlavor) (numParams : Nat) (B : Nat) (s : P), rkLoop flavor + 20 * s.kinds.size ≤ fuel + 20 * s.pos ∧ s.pos ≤ s.kinds.size ∧ Lim B s ∧ s.w + caLoop flavor + 18777 * s.kinds.size ≤ B + 18777 * s.pos →
    wp A5 (Oq3.Grammar.paramListOpenqasmLoop fuel flavor numParams) (fun r s' => Adv s s' ∧ Lim B s' ∧ s'.w + 18777 * s.pos ≤ s.w + 18777 * s'.pos + caLoop flavor ∧ (s.pos < s'.pos → s'.w + 18777 * s.pos + cdLoop flavor ≤ s.w + 18777 * s'.pos + caLoop flavor)) s
  paramListItem : ∀ (flavor : DefFlavor) (m : Marker) (innerArrayLiteral : Bool) (B : Nat) (s : P), rkItem flavor + 20 * s.kinds.size ≤ fuel + 20 * s.pos ∧ s.pos ≤ s.kinds.size ∧ Lim B s ∧ s.w + caItem flavor + 18777 * s.kinds.size ≤ B + 18777 * s.pos ∧ (s.kindAt s.pos ≠ .EOF ∧ (innerArrayLiteral = true → atF .L_CURLY s.kinds s.joint s.pos = true) ∧ (itemGuard (s.kindAt s.pos) innerArrayLiteral = true ∨ (flavor = .defParams ∧ (atF .MUTABLE_KW s.kinds s.joint s.pos = true ∨ atF .READONLY_KW s.kinds s.joint s.pos = true)))) →
    wp A5 (Oq3.Grammar.paramListItem fuel flavor m innerArrayLiteral) (fun r s' => Adv s s' ∧ Lim B s' ∧ s'.w + 18777 * s.pos ≤ s.w + 18777 * s'.pos + caItem flavor ∧ (s.pos < s'.pos → s'.w + 18777 * s.pos + cdItem flavor ≤ s.w + 18777 * s'.pos + caItem flavor) ∧ (r = true → s.pos < s'.pos)) s
  paramTyped : ∀ (m : Marker) (B : Nat) (s : P), 4 + 20 * s.kinds.size ≤ fuel + 20 * s.pos ∧ s.pos ≤ s.kinds.size ∧ Lim B s ∧ s.w + 97 + 18777 * s.kinds.size ≤ B + 18777 * s.pos →
    wp A5 (Oq3.Grammar.paramTyped fuel m) (fun r s' => Adv s s' ∧ Lim B s' ∧ s'.w + 18777 * s.pos ≤ s.w + 18777 * s'.pos + 97 ∧ (s.pos < s'.pos → s'.w + 18777 * s.pos + 10970 ≤ s.w + 18777 * s'.pos + 97) ∧ (r = true → s.pos < s'.pos)) s
  scalarType : ∀ (m : Marker) (B : Nat) (s : P), 4 + 20 * s.kinds.size ≤ fuel + 20 * s.pos ∧ s.pos ≤ s.kinds.size ∧ Lim B s ∧ s.w + 69 + 18777 * s.kinds.size ≤ B + 18777 * s.pos →
    wp A5 (Oq3.Grammar.scalarType fuel m) (fun r s' => Adv s s' ∧ Lim B s' ∧ s'.w + 18777 * s.pos ≤ s.w + 18777 * s'.pos + 69 ∧ (s.pos < s'.pos → s'.w + 18777 * s.pos + 10845 ≤ s.w + 18777 * s'.pos + 69) ∧ (r = true → s.pos < s'.pos)) s
  argGateCallQubit : ∀ (m : Marker) (B : Nat) (s : P), 1 + 20 * s.kinds.size ≤ fuel + 20 * s.pos ∧ s.pos ≤ s.kinds.size ∧ Lim B s ∧ s.w + 10 + 18777 * s.kinds.size ≤ B + 18777 * s.pos →
    wp A5 (Oq3.Grammar.argGateCallQubit fuel m) (fun r s' => Adv s s' ∧ Lim B s' ∧ s'.w + 18777 * s.pos ≤ s.w + 18777 * s'.pos + 10 ∧ (s.pos < s'.pos → s'.w + 18777 * s.pos + 11234 ≤ s.w + 18777 * s'.pos + 10) ∧ (r = true → s.pos < s'.pos)) s

theorem allCost (fuel : Nat) : AllCost fuel :=
  { optReturnSignature := cost_field' (by decide) fun M => .of_field' (allWork M fuel).optReturnSignature
    delimited := fun bra ket consumeBraket delim firstSet parser => cost_field (by decide) fun M => .of_field ((allWork M fuel).delimited bra ket consumeBraket delim firstSet parser)
    delimitedLoop := fun ket delim firstSet parser => cost_field' (by decide) fun M => .of_field' ((allWork M fuel).delimitedLoop ket delim firstSet parser)
    delimitedParser := fun parser => cost_field (by decide) fun M => .of_field ((allWork M fuel).delimitedParser parser)
    sourceFileContents := fun stopOnRCurly => cost_field' (by decide) fun M => .of_field' ((allWork M fuel).sourceFileContents stopOnRCurly)
    item := fun stopOnRCurly => cost_field (by decide) fun M => .of_field ((allWork M fuel).item stopOnRCurly)
    optItem := fun m => cost_field (by decide) fun M => .of_field ((allWork M fuel).optItem m)
    switchCaseStmt := fun m => cost_field (by decide) fun M => .of_field ((allWork M fuel).switchCaseStmt m)
    switchCaseLoop := cost_field' (by decide) fun M => .of_field' (allWork M fuel).switchCaseLoop
    blockOrStatement := cost_field' (by decide) fun M => .of_field' (allWork M fuel).blockOrStatement
    ifStmt := fun m => cost_field (by decide) fun M => .of_field ((allWork M fuel).ifStmt m)
    whileStmt := fun m => cost_field (by decide) fun M => .of_field ((allWork M fuel).whileStmt m)
    forStmt := fun m => cost_field (by decide) fun M => .of_field ((allWork M fuel).forStmt m)
    qubitDeclarationStmt := fun m => cost_field (by decide) fun M => .of_field ((allWork M fuel).qubitDeclarationStmt m)
    resetStmt := fun m => cost_field (by decide) fun M => .of_field ((allWork M fuel).resetStmt m)
    gateDefinition := fun m => cost_field (by decide) fun M => .of_field ((allWork M fuel).gateDefinition m)
    defcal_ := fun m => cost_field (by decide) fun M => .of_field ((allWork M fuel).defcal_ m)
    returnsBoolClassicalDeclarationStmt := fun m => cost_field (by decide) fun M => .of_field ((allWork M fuel).returnsBoolClassicalDeclarationStmt m)
    classicalDeclarationStmt := fun m => cost_field (by decide) fun M => .of_field ((allWork M fuel).classicalDeclarationStmt m)
    ioDeclarationStmt := fun m => cost_field (by decide) fun M => .of_field ((allWork M fuel).ioDeclarationStmt m)
    defStmt := fun m => cost_field (by decide) fun M => .of_field ((allWork M fuel).defStmt m)
    externStmt := fun m => cost_field (by decide) fun M => .of_field ((allWork M fuel).externStmt m)
    cal_ := fun m => cost_field (by decide) fun M => .of_field ((allWork M fuel).cal_ m)
    barrier_ := fun m => cost_field (by decide) fun M => .of_field ((allWork M fuel).barrier_ m)
    delayStmt := fun m => cost_field (by decide) fun M => .of_field ((allWork M fuel).delayStmt m)
    aliasStmt := fun m => cost_field (by decide) fun M => .of_field ((allWork M fuel).aliasStmt m)
    expr := cost_field (by decide) fun M => .of_field (allWork M fuel).expr
    rangeExpr := cost_field (by decide) fun M => .of_field (allWork M fuel).rangeExpr
    exprOrRangeExpr := cost_field (by decide) fun M => .of_field (allWork M fuel).exprOrRangeExpr
    exprStmt := fun m => cost_field (by decide) fun M => .of_field ((allWork M fuel).exprStmt m)
    stmt := cost_field (by decide) fun M => .of_field (allWork M fuel).stmt
    letStmt := fun m => cost_field (by decide) fun M => .of_field ((allWork M fuel).letStmt m)
    qOrCRegParam := cost_field (by decide) fun M => .of_field (allWork M fuel).qOrCRegParam
    qOrCRegDeclaration := fun m => cost_field (by decide) fun M => .of_field ((allWork M fuel).qOrCRegDeclaration m)
    exprBlockStatements := cost_field (by decide) fun M => .of_field (allWork M fuel).exprBlockStatements
    exprBp := fun m r bp => cost_field (by decide) fun M => .of_field ((allWork M fuel).exprBp m r bp)
    exprBpLoop := fun r bp lhs => cost_field' (by decide) fun M => .of_field' ((allWork M fuel).exprBpLoop r bp lhs)
    lhs := fun r => cost_field (by decide) fun M => .of_field ((allWork M fuel).lhs r)
    postfixExpr := fun lhs blockLike allowCalls => cost_field' (by decide) fun M => .of_field' ((allWork M fuel).postfixExpr lhs blockLike allowCalls)
    callExpr := fun lhs => cost_field (by decide) fun M => .of_field ((allWork M fuel).callExpr lhs)
    paramTypeSpec := cost_field (by decide) fun M => .of_field (allWork M fuel).paramTypeSpec
    typeSpec := cost_field (by decide) fun M => .of_field (allWork M fuel).typeSpec
    arrayTypeSpec := fun wantArrayRefType => cost_fieldX (by decide) fun M => .of_fieldX ((allWork M fuel).arrayTypeSpec wantArrayRefType)
    arrayTypeDimsLoop := cost_field' (by decide) fun M => .of_field' (allWork M fuel).arrayTypeDimsLoop
    nonArrayTypeSpec := cost_field (by decide) fun M => .of_field (allWork M fuel).nonArrayTypeSpec
    complexTypeSpec := cost_field (by decide) fun M => .of_field (allWork M fuel).complexTypeSpec
    qubitTypeSpec := cost_field (by decide) fun M => .of_field (allWork M fuel).qubitTypeSpec
    designator := cost_field (by decide) fun M => .of_field (allWork M fuel).designator
    indexExpr := fun lhs => cost_field (by decide) fun M => .of_field ((allWork M fuel).indexExpr lhs)
    indexedIdentifier := fun lhs => cost_field (by decide) fun M => .of_field ((allWork M fuel).indexedIdentifier lhs)
    indexedIdentifierLoop := cost_field (by decide) fun M => .of_field (allWork M fuel).indexedIdentifierLoop
    setExpression := cost_field (by decide) fun M => .of_field (allWork M fuel).setExpression
    indexOperator := cost_field (by decide) fun M => .of_field (allWork M fuel).indexOperator
    callArgList := cost_field (by decide) fun M => .of_field (allWork M fuel).callArgList
    atomExpr := fun _r => cost_field (by decide) fun M => .of_field ((allWork M fuel).atomExpr _r)
    castExpr := cost_fieldX (by decide) fun M => .of_fieldX (allWork M fuel).castExpr
    gphaseCallExpr := cost_field (by decide) fun M => .of_field (allWork M fuel).gphaseCallExpr
    modifiedGateCallExpr := cost_field (by decide) fun M => .of_field (allWork M fuel).modifiedGateCallExpr
    modifiedGateCallExprLoop := cost_field (by decide) fun M => .of_field (allWork M fuel).modifiedGateCallExprLoop
    gateCallExpr := cost_field (by decide) fun M => .of_field (allWork M fuel).gateCallExpr
    measureExpression := cost_field (by decide) fun M => .of_field (allWork M fuel).measureExpression
    tupleExpr := cost_field (by decide) fun M => .of_field (allWork M fuel).tupleExpr
    tupleExprLoop := fun sawComma sawExpr => cost_field' (by decide) fun M => .of_field' ((allWork M fuel).tupleExprLoop sawComma sawExpr)
    arrayExpr := cost_field (by decide) fun M => .of_field (allWork M fuel).arrayExpr
    arrayExprLoop := fun nExprs hasSemi => cost_field' (by decide) fun M => .of_field' ((allWork M fuel).arrayExprLoop nExprs hasSemi)
    tryBlockExpr := cost_field' (by decide) fun M => .of_field' (allWork M fuel).tryBlockExpr
    blockExpr := cost_field (by decide) fun M => .of_field (allWork M fuel).blockExpr
    returnExpr := cost_field (by decide) fun M => .of_field (allWork M fuel).returnExpr
    boxExpr := fun m => cost_field (by decide) fun M => .of_field ((allWork M fuel).boxExpr m)
    paramListGateParams := cost_field' (by decide) fun M => .of_field' (allWork M fuel).paramListGateParams
    paramListGateQubits := cost_field' (by decide) fun M => .of_field' (allWork M fuel).paramListGateQubits
    argListGateCallQubits := cost_field' (by decide) fun M => .of_field' (allWork M fuel).argListGateCallQubits
    paramListDefParams := cost_field' (by decide) fun M => .of_field' (allWork M fuel).paramListDefParams
    scalarTypeList := cost_field' (by decide) fun M => .of_field' (allWork M fuel).scalarTypeList
    paramListDefcalParams := cost_field' (by decide) fun M => .of_field' (allWork M fuel).paramListDefcalParams
    paramListDefcalQubits := cost_field' (by decide) fun M => .of_field' (allWork M fuel).paramListDefcalQubits
    expressionList := cost_field' (by decide) fun M => .of_field' (allWork M fuel).expressionList
    caseValueList := cost_field' (by decide) fun M => .of_field' (allWork M fuel).caseValueList
    arrayLiteral := cost_fieldX (by decide) fun M => .of_fieldX (allWork M fuel).arrayLiteral
    paramListOpenqasm := fun flavor => cost_fieldX (by cases flavor <;> decide) fun M => .of_fieldX ((allWork M fuel).paramListOpenqasm flavor)
    paramListOpenqasmLoop := fun flavor numParams => cost_field' (by cases flavor <;> decide) fun M => .of_field' ((allWork M fuel).paramListOpenqasmLoop flavor numParams)
    paramListItem := fun flavor m innerArrayLiteral => cost_fieldX (by cases flavor <;> decide) fun M => .of_fieldX ((allWork M fuel).paramListItem flavor m innerArrayLiteral)
    paramTyped := fun m => cost_field (by decide) fun M => .of_field ((allWork M fuel).paramTyped m)
    scalarType := fun m => cost_field (by decide) fun M => .of_field ((allWork M fuel).scalarType m)
    argGateCallQubit := fun m => cost_field (by decide) fun M => .of_field ((allWork M fuel).argGateCallQubit m) }

end Oq3.Grammar
