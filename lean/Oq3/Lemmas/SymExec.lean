/-
Symbolic execution of the grammar model from an ARBITRARY start state.

`s.ov E dp st sb lv pr` is the base state `s` overlaid with a concrete run: events `E` pushed on
top of `s.events`, `dp` tokens consumed, and concrete values for the bookkeeping fields.  Every
API primitive maps overlay states to overlay states (`*_ov`, closed forms derived from
`Oq3/Lemmas/Run.lean`), so a run of a grammar function on a state whose next tokens are known is
computed by rewriting — no induction, no assumption on `s` beyond `Ready s`.
-/
import Oq3.Model.Grammar
import Oq3.Lemmas.Run
import Oq3.Lemmas.Safe

namespace Oq3.Parser
open Oq3.Gen

def P.ov (s : P) (E : List Ev) (dp st sb lv : Nat) (pr : List Nat) : P :=
  { s with events := s.events ++ E.toArray, pos := s.pos + dp, steps := st, sinceBump := sb,
           live := lv, protectedPos := pr }

theorem P.ov_base (s : P) : s.ov [] 0 s.steps s.sinceBump s.live s.protectedPos = s := by
  simp [P.ov]

theorem ov_ov (s : P) (A B : List Ev) (da sa ba la db sb bb lb : Nat) (pa pb : List Nat) :
    (s.ov A da sa ba la pa).ov B db sb bb lb pb = s.ov (A ++ B) (da + db) sb bb lb pb := by
  simp only [P.ov, Nat.add_assoc, Array.append_assoc, List.append_toArray]

theorem of_ov {α} (x : G α) (s : P) (r : Except Outcome (α × P))
    (h : x (s.ov [] 0 s.steps s.sinceBump s.live s.protectedPos) = r) : x s = r := by
  rwa [P.ov_base] at h

/-- what an acceptance lemma needs from its start state: the no-progress hook is off (it cannot
trip on a run that consumes tokens anyway), the step counter has room for a few look-aheads, and
the ghost list of protected marker positions only mentions existing events -/
structure Ready (s : P) : Prop where
  hook : s.noProgressLimit = 0
  steps : s.steps + 8 ≤ s.stepLimit
  prot : ∀ p ∈ s.protectedPos, p < s.events.size

/-! ### `>>=`, `if`, `<&&>`, `<||>`, `notM` applied to a state, in a form that plain `simp` evaluates head first

`(x >>= f) s = bindRes (x s) f` exposes the continuation only once `x s` has been rewritten to a value (the congruence
lemmas keep `simp` out of `f`, where a symbolic intermediate state would unfold the whole grammar); likewise `iteRes`
for the condition of an `if`.  `sym_eval` (`Lemmas/SymTactic.lean`) does this order of evaluation itself, with `bind_step`
and `ite_pos_step`; of this section it uses the three `G.*M_res` equations, to read `<&&>`, `<||>`, `notM` as `>>=`. -/

def bindRes {α β} (r : Except Outcome (α × P)) (f : α → G β) : Except Outcome (β × P) :=
  match r with
  | .ok (a, s1) => f a s1
  | .error e => .error e

theorem bindRes_ok {α β} (a : α) (s1 : P) (f : α → G β) : bindRes (.ok (a, s1)) f = f a s1 := rfl
theorem bindRes_error {α β} (e : Outcome) (f : α → G β) :
    bindRes (.error e : Except Outcome (α × P)) f = .error e := rfl

@[congr] theorem bindRes_congr {α β} {r r' : Except Outcome (α × P)} (h : r = r') (f : α → G β) :
    bindRes r f = bindRes r' f := by rw [h]

def iteRes {α} (c : Prop) [Decidable c] (x y : G α) (s : P) : Except Outcome (α × P) :=
  if c then x s else y s

@[congr] theorem iteRes_congr {α} {c c' : Prop} [Decidable c] [Decidable c'] (h : c = c') (x y : G α) (s : P) :
    iteRes c x y s = iteRes c' x y s := by
  subst h
  unfold iteRes
  split <;> rfl

theorem iteRes_true {α} (x y : G α) (s : P) : iteRes True x y s = x s := rfl
theorem iteRes_false {α} (x y : G α) (s : P) : iteRes False x y s = y s := rfl

theorem G.ite_res {α} (c : Prop) [Decidable c] (x y : G α) (s : P) :
    (if c then x else y) s = iteRes c x y s := by
  unfold iteRes; split <;> rfl

theorem G.bind_res {α β} (x : G α) (f : α → G β) (s : P) : (x >>= f) s = bindRes (x s) f := by
  rw [G.bind_apply]; rfl

theorem G.andM_res (x y : G Bool) (s : P) :
    (x <&&> y) s = bindRes (x s) (fun b => if b = true then y else pure false) := by
  rw [G.andM_apply]
  cases x s with
  | error e => rfl
  | ok p => obtain ⟨b, s1⟩ := p; cases b <;> rfl

theorem G.orM_res (x y : G Bool) (s : P) :
    (x <||> y) s = bindRes (x s) (fun b => if b = true then pure true else y) := by
  rw [G.orM_apply]
  cases x s with
  | error e => rfl
  | ok p => obtain ⟨b, s1⟩ := p; cases b <;> rfl

theorem G.notM_res (x : G Bool) (s : P) :
    (notM x) s = bindRes (x s) (fun b => pure (!b)) := by
  rw [G.notM_apply]
  cases x s with
  | error e => rfl
  | ok p => rfl

theorem ov_push (a : Array Ev) (E : List Ev) (e : Ev) :
    (a ++ E.toArray).push e = a ++ (E ++ [e]).toArray := by
  apply Array.ext'; simp

theorem ov_size (a : Array Ev) (E : List Ev) : (a ++ E.toArray).size = a.size + E.length := by simp

theorem ov_get (a : Array Ev) (E : List Ev) (i : Nat) : (a ++ E.toArray)[a.size + i]? = E[i]? := by
  rw [Array.getElem?_append_right (Nat.le_add_right _ _)]
  simp

theorem ov_set (a : Array Ev) (E : List Ev) (i : Nat) (x : Ev) :
    (a ++ E.toArray).set! (a.size + i) x = a ++ (E.set i x).toArray := by
  apply Array.ext'
  simp [Array.set!]

theorem ov_pop (a : Array Ev) (E : List Ev) (h : E ≠ []) :
    (a ++ E.toArray).pop = a ++ E.dropLast.toArray := by
  apply Array.ext'
  simp [List.dropLast_append_of_ne_nil h]

theorem ov_back (a : Array Ev) (E : List Ev) (h : E ≠ []) :
    (a ++ E.toArray).back? = E.getLast? := by
  simp [Array.back?_eq_getElem?, List.getLast?_eq_getElem?]
  rw [show a.size + E.length - 1 = a.size + (E.length - 1) by
    have : 0 < E.length := List.length_pos_iff.mpr h
    omega]
  rw [Array.getElem?_append_right (Nat.le_add_right _ _)]
  simp

section
variable (s : P) (E : List Ev) (dp st sb lv : Nat) (pr : List Nat)

theorem ov_events_size : (s.ov E dp st sb lv pr).events.size = s.events.size + E.length := ov_size _ _

theorem ov_events_get (i : Nat) : (s.ov E dp st sb lv pr).events[s.events.size + i]? = E[i]? := ov_get _ _ _

theorem hookTrip_ov (hnp : s.noProgressLimit = 0) : (s.ov E dp st sb lv pr).hookTrip = false := by
  simp [P.hookTrip, P.ov, hnp]

theorem kindAt_ov (i : Nat) : (s.ov E dp st sb lv pr).kindAt i = s.kindAt i := rfl

theorem current_ov : current (s.ov E dp st sb lv pr) = .ok (s.kindAt (s.pos + dp), s.ov E dp st sb lv pr) := rfl

theorem nth_ov (n : Nat) (hn : n ≤ 3) (hst : st ≤ s.stepLimit) :
    nth n (s.ov E dp st sb lv pr) = .ok (s.kindAt (s.pos + (dp + n)), s.ov E dp (st + 1) sb lv pr) := by
  rw [nth_eq]
  have h1 : ¬ n > 3 := by omega
  have h2 : ¬ (s.ov E dp st sb lv pr).steps > (s.ov E dp st sb lv pr).stepLimit := by
    show ¬ st > s.stepLimit; omega
  simp only [h1, h2, if_false]
  rw [show s.pos + (dp + n) = s.pos + dp + n by omega]
  rfl

theorem at_ov (k : SyntaxKind) (hc : compositePieces k = none) :
    at' k (s.ov E dp st sb lv pr) = .ok (s.kindAt (s.pos + dp) == k, s.ov E dp st sb lv pr) := by
  rw [at_simple_eq k hc]; rfl

theorem at_comp2_ov (k k1 k2 : SyntaxKind) (hc : compositePieces k = some [k1, k2]) :
    at' k (s.ov E dp st sb lv pr) =
      if (s.kindAt (s.pos + dp) == k1 && s.kindAt (s.pos + (dp + 1)) == k2) = true then
        (s.ov E dp st sb lv pr).jointRes (s.pos + dp)
      else .ok (false, s.ov E dp st sb lv pr) := by
  rw [at_comp2_eq k k1 k2 hc]
  rw [show s.pos + (dp + 1) = s.pos + dp + 1 by omega]
  rfl

theorem at_comp3_false_ov (k k1 k2 k3 : SyntaxKind) (hc : compositePieces k = some [k1, k2, k3])
    (h : (s.kindAt (s.pos + dp) == k1 && s.kindAt (s.pos + (dp + 1)) == k2) = false) :
    at' k (s.ov E dp st sb lv pr) = .ok (false, s.ov E dp st sb lv pr) := by
  rw [at_comp3_eq k k1 k2 k3 hc]
  rw [show s.pos + (dp + 1) = s.pos + dp + 1 by omega] at h
  have : ((s.ov E dp st sb lv pr).kindAt (s.ov E dp st sb lv pr).pos == k1 &&
      (s.ov E dp st sb lv pr).kindAt ((s.ov E dp st sb lv pr).pos + 1) == k2) = false := h
  simp only [this, Bool.false_and, Bool.false_eq_true, if_false]

theorem at_comp3_ov (k k1 k2 k3 : SyntaxKind) (hc : compositePieces k = some [k1, k2, k3]) :
    at' k (s.ov E dp st sb lv pr) =
      if (s.kindAt (s.pos + dp) == k1 && s.kindAt (s.pos + (dp + 1)) == k2 &&
          s.kindAt (s.pos + (dp + 2)) == k3) = true then
        match (s.ov E dp st sb lv pr).isJoint (s.pos + dp) with
        | .ok false => .ok (false, s.ov E dp st sb lv pr)
        | .ok true => (s.ov E dp st sb lv pr).jointRes (s.pos + dp + 1)
        | .error e => .error e
      else .ok (false, s.ov E dp st sb lv pr) := by
  rw [at_comp3_eq k k1 k2 k3 hc]
  rw [show s.pos + (dp + 1) = s.pos + dp + 1 by omega, show s.pos + (dp + 2) = s.pos + dp + 2 by omega]
  rfl

theorem atTs_ov (ts : TokenSet) :
    atTs ts (s.ov E dp st sb lv pr) =
      .ok (decide ((s.kindAt (s.pos + dp)).toNat < 128) && ts.contains (s.kindAt (s.pos + dp)),
        s.ov E dp st sb lv pr) := by
  rw [atTs_eq]; rfl

theorem pushEvent_ov (hnp : s.noProgressLimit = 0) (e : Ev) :
    pushEvent e (s.ov E dp st sb lv pr) = .ok ((), s.ov (E ++ [e]) dp st (sb + 1) lv pr) := by
  rw [pushEvent_eq, hookTrip_ov s E dp st sb lv pr hnp]
  simp only [Bool.false_eq_true, if_false, P.ov, ov_push]

theorem error_ov (hnp : s.noProgressLimit = 0) (msg : String) :
    error msg (s.ov E dp st sb lv pr) = .ok ((), s.ov (E ++ [.error msg]) dp st (sb + 1) lv pr) :=
  pushEvent_ov s E dp st sb lv pr hnp _

theorem start_ov (hnp : s.noProgressLimit = 0) :
    start (s.ov E dp st sb lv pr) =
      .ok ({ pos := s.events.size + E.length }, s.ov (E ++ [.start .TOMBSTONE none]) dp st (sb + 1) (lv + 1) pr) := by
  rw [start_eq, hookTrip_ov s E dp st sb lv pr hnp]
  simp only [Bool.false_eq_true, if_false, P.ov, ov_push, ov_size, Ev.tombstone]

theorem doBump_ov (k : SyntaxKind) (n : Nat) :
    doBump k n (s.ov E dp st sb lv pr) = .ok ((), s.ov (E ++ [.token k n]) (dp + n) 0 1 lv pr) := by
  rw [doBump_eq]
  simp only [P.ov, ov_push, Nat.add_assoc]

theorem eat_ov (k : SyntaxKind) (hc : compositePieces k = none) (hk : (k == .EOF) = false) :
    eat k (s.ov E dp st sb lv pr) =
      if (s.kindAt (s.pos + dp) == k) = true then
        .ok (true, s.ov (E ++ [.token k 1]) (dp + 1) 0 1 lv pr)
      else .ok (false, s.ov E dp st sb lv pr) := by
  rw [eat_simple_eq k hc hk]
  show (if (s.kindAt (s.pos + dp) == k) = true then _ else _) = _
  split
  · simp only [P.ov, ov_push, Nat.add_assoc]
  · rfl

theorem bump_ov (k : SyntaxKind) (hc : compositePieces k = none) (hk : (k == .EOF) = false) :
    bump k (s.ov E dp st sb lv pr) =
      if (s.kindAt (s.pos + dp) == k) = true then
        .ok ((), s.ov (E ++ [.token k 1]) (dp + 1) 0 1 lv pr)
      else .error (.panic "Parser::bump assertion") := by
  rw [bump_simple_eq k hc hk]
  show (if (s.kindAt (s.pos + dp) == k) = true then _ else _) = _
  split
  · simp only [P.ov, ov_push, Nat.add_assoc]
  · rfl

theorem bumpAny_ov :
    bumpAny (s.ov E dp st sb lv pr) =
      if (s.kindAt (s.pos + dp) == .EOF) = true then .ok ((), s.ov E dp st sb lv pr)
      else .ok ((), s.ov (E ++ [.token (s.kindAt (s.pos + dp)) 1]) (dp + 1) 0 1 lv pr) := by
  rw [bumpAny_eq]
  show (if (s.kindAt (s.pos + dp) == .EOF) = true then _ else _) = _
  split
  · rfl
  · simp only [P.ov, ov_push, Nat.add_assoc, P.kindAt]

theorem expect_ov (hnp : s.noProgressLimit = 0) (k : SyntaxKind) (hc : compositePieces k = none)
    (hk : (k == .EOF) = false) :
    expect k (s.ov E dp st sb lv pr) =
      if (s.kindAt (s.pos + dp) == k) = true then
        .ok (true, s.ov (E ++ [.token k 1]) (dp + 1) 0 1 lv pr)
      else .ok (false, s.ov (E ++ [.error s!"expected {dbg k}"]) dp st (sb + 1) lv pr) := by
  rw [expect_simple_eq k hc hk, hookTrip_ov s E dp st sb lv pr hnp]
  show (if (s.kindAt (s.pos + dp) == k) = true then _ else _) = _
  split
  · simp only [P.ov, ov_push, Nat.add_assoc]
  · simp only [Bool.false_eq_true, if_false, P.ov, ov_push]

theorem complete_ov (hnp : s.noProgressLimit = 0) (i : Nat) (b : Bool) (kind : SyntaxKind) :
    Marker.complete { pos := s.events.size + i, isFp := b } kind (s.ov E dp st sb lv pr) =
      match E[i]? with
      | some (.start k0 fp) =>
        if (k0 != .TOMBSTONE) = true then .error (.modelError "Marker::complete: marker already completed")
        else if (kind == .TOMBSTONE) = true then .error (.modelError "Marker::complete with TOMBSTONE")
        else .ok (⟨s.events.size + i, kind⟩,
          s.ov ((E.set i (.start kind fp)) ++ [.finish]) dp st (sb + 1) (lv - 1)
            (pr.filter (· != s.events.size + i)))
      | _ => .error (.panic "Marker::complete unreachable") := by
  rw [complete_eq, hookTrip_ov s E dp st sb lv pr hnp]
  show (match (s.events ++ E.toArray)[s.events.size + i]? with | some (.start k0 fp) => _ | _ => _) = _
  rw [ov_get]
  cases E[i]? with
  | none => rfl
  | some e =>
    cases e with
    | finish => rfl
    | token _ _ => rfl
    | error _ => rfl
    | start k0 fp =>
      simp only [Bool.false_eq_true, if_false, P.slotSet, P.ov, ov_set, ov_push]

theorem abandon_ov (i : Nat) (hE : E ≠ []) :
    Marker.abandon { pos := s.events.size + i, isFp := false } (s.ov E dp st sb lv pr) =
      if (pr.contains (s.events.size + i)) = true then
        .error (.modelError "Marker::abandon of a forward-parent marker")
      else if (i + 1 == E.length) = true then
        match E.getLast? with
        | some (.start k fp) =>
          if (k == .TOMBSTONE && fp.isNone) = true then .ok ((), s.ov E.dropLast dp st sb (lv - 1) pr)
          else .error (.panic "Marker::abandon unreachable")
        | _ => .error (.panic "Marker::abandon unreachable")
      else .ok ((), s.ov E dp st sb (lv - 1) pr) := by
  rw [abandon_eq]
  have hlen : 0 < E.length := List.length_pos_iff.mpr hE
  have hsz : ((s.ov E dp st sb lv pr).events.size == 0) = false := by
    simp only [P.ov, ov_size, beq_eq_false_iff_ne, ne_eq]; omega
  have hpos : ((s.events.size + i) == (s.ov E dp st sb lv pr).events.size - 1) = (i + 1 == E.length) := by
    simp only [P.ov, ov_size]
    rw [Bool.eq_iff_iff]
    simp only [beq_iff_eq]
    omega
  simp only [Bool.false_or, hsz, Bool.false_eq_true, if_false, hpos]
  show (if (pr.contains (s.events.size + i)) = true then _ else _) = _
  split
  · rfl
  · split
    · show (match (s.events ++ E.toArray).back? with | some (.start k fp) => _ | _ => _) = _
      rw [ov_back _ _ hE]
      cases E.getLast? with
      | none => rfl
      | some e =>
        cases e with
        | finish => rfl
        | token _ _ => rfl
        | error _ => rfl
        | start k fp =>
          simp only
          split
          · simp only [P.ov, ov_pop _ _ hE]
          · rfl
    · rfl

theorem precede_ov (hnp : s.noProgressLimit = 0) (i : Nat) (k : SyntaxKind) (hi : i ≤ E.length) :
    CompletedMarker.precede ⟨s.events.size + i, k⟩ (s.ov E dp st sb lv pr) =
      match (E ++ [Ev.start .TOMBSTONE none])[i]? with
      | some (.start k0 _) =>
        .ok ({ pos := s.events.size + E.length, isFp := true },
          s.ov ((E ++ [Ev.start .TOMBSTONE none]).set i (.start k0 (some (E.length - i)))) dp st (sb + 1) (lv + 1)
            ((s.events.size + E.length) :: pr))
      | _ => .error (.panic "CompletedMarker::precede unreachable") := by
  rw [precede_eq, hookTrip_ov s E dp st sb lv pr hnp]
  simp only [Bool.false_eq_true, if_false]
  show (match ((s.events ++ E.toArray).push (Ev.start .TOMBSTONE none))[s.events.size + i]? with
    | some (.start k0 _) => _ | _ => _) = _
  rw [ov_push, ov_get]
  cases (E ++ [Ev.start .TOMBSTONE none])[i]? with
  | none => rfl
  | some e =>
    cases e with
    | finish => rfl
    | token _ _ => rfl
    | error _ => rfl
    | start k0 fp =>
      have h1 : ¬ ((s.ov E dp st sb lv pr).events.size < s.events.size + i) := by
        simp only [P.ov, ov_size]; omega
      have h2 : (s.ov E dp st sb lv pr).events.size - (s.events.size + i) = E.length - i := by
        simp only [P.ov, ov_size]; omega
      simp only [h1, if_false, h2]
      simp only [P.started, P.ov, ov_push, ov_set, ov_size, Ev.tombstone]

theorem extendTo_ov (i j : Nat) (k : SyntaxKind) (b : Bool) (hji : j ≤ i) :
    CompletedMarker.extendTo ⟨s.events.size + i, k⟩ { pos := s.events.size + j, isFp := b }
        (s.ov E dp st sb lv pr) =
      match E[j]? with
      | some (.start kj _) =>
        match E[i]? with
        | some (.start k' _) =>
          if (k' == .TOMBSTONE) = true then
            .error (.modelError "CompletedMarker::extend_to: not a completed marker")
          else .ok (⟨s.events.size + i, k⟩,
            s.ov (E.set j (.start kj (some (i - j)))) dp st sb (lv - 1) pr)
        | _ => .error (.modelError "CompletedMarker::extend_to: not a completed marker")
      | _ => .error (.panic "CompletedMarker::extend_to unreachable") := by
  rw [extendTo_eq]
  show (match (s.events ++ E.toArray)[s.events.size + j]? with | some (.start kj _) => _ | _ => _) = _
  rw [ov_get]
  cases E[j]? with
  | none => rfl
  | some e =>
    cases e with
    | finish => rfl
    | token _ _ => rfl
    | error _ => rfl
    | start kj fpj =>
      have h1 : ¬ (s.events.size + i < s.events.size + j) := by omega
      simp only [h1, if_false]
      show (match (s.events ++ E.toArray)[s.events.size + i]? with | some (.start k' _) => _ | _ => _) = _
      rw [ov_get]
      cases E[i]? with
      | none => rfl
      | some e2 =>
        cases e2 with
        | finish => rfl
        | token _ _ => rfl
        | error _ => rfl
        | start k' fp' =>
          simp only
          split
          · rfl
          · have h2 : s.events.size + i - (s.events.size + j) = i - j := by omega
            simp only [h2, P.ov, ov_set]

end

theorem filter_base (s : P) (hp : ∀ p ∈ s.protectedPos, p < s.events.size) (i : Nat) :
    s.protectedPos.filter (· != s.events.size + i) = s.protectedPos := by
  rw [List.filter_eq_self]
  intro p hpm
  have := hp p hpm
  simp only [bne_iff_ne, ne_eq]; omega

theorem contains_base (s : P) (hp : ∀ p ∈ s.protectedPos, p < s.events.size) (i : Nat) :
    s.protectedPos.contains (s.events.size + i) = false := by
  rw [List.contains_eq_mem]
  simp only [decide_eq_false_iff_not]
  intro hm
  have := hp _ hm
  omega

end Oq3.Parser

namespace Oq3.PrattEv
open Oq3.Gen Oq3.Parser Oq3.Grammar
open Oq3.Gen.Ops (Assoc)

def scanF (cur : SyntaxKind) (K : Array SyntaxKind) (J : Array Bool) (p : Nat) :
    List (SyntaxKind × Option SyntaxKind × Option (Nat × SyntaxKind × Assoc)) → Nat × SyntaxKind × Assoc
  | [] => notAnOp
  | (k, guard, res) :: rows =>
    if k == cur then
      match guard with
      | none => res.getD notAnOp
      | some g => if atF g K J p then res.getD notAnOp else scanF cur K J p rows
    else scanF cur K J p rows

/-- `current_op` as a pure function of the input and the position -/
def opF (K : Array SyntaxKind) (J : Array Bool) (p : Nat) : Nat × SyntaxKind × Assoc :=
  scanF (K.getD p .EOF) K J p Ops.currentOpRows

theorem currentOpScan_eq (cur : SyntaxKind)
    (rows : List (SyntaxKind × Option SyntaxKind × Option (Nat × SyntaxKind × Assoc))) (s : P) :
    currentOpScan cur rows s = .ok (scanF cur s.kinds s.joint s.pos rows, s) := by
  induction rows with
  | nil => rfl
  | cons r rows ih =>
    obtain ⟨k, guard, res⟩ := r
    unfold currentOpScan scanF
    by_cases hk : (k == cur) = true
    · simp only [hk, if_true]
      cases guard with
      | none => rfl
      | some g =>
        simp only
        rw [G.bind_apply, at_total]
        simp only
        cases atF g s.kinds s.joint s.pos
        · simp only [Bool.false_eq_true, if_false]; exact ih
        · simp only [if_true]; rfl
    · simp only [hk]; exact ih

/-- **`current_op` is total and pure** -/
theorem currentOp_eq (s : P) : currentOp s = .ok (opF s.kinds s.joint s.pos, s) := by
  unfold currentOp
  rw [G.bind_apply, current_eq]
  exact currentOpScan_eq _ _ s

theorem currentOp_ov (s : P) (E : List Ev) (dp st sb lv : Nat) (pr : List Nat) :
    currentOp (s.ov E dp st sb lv pr) =
      .ok (opF s.kinds s.joint (s.pos + dp), s.ov E dp st sb lv pr) :=
  currentOp_eq _

theorem scanF_none (cur : SyntaxKind) (K : Array SyntaxKind) (J : Array Bool) (p : Nat)
    (rows : List (SyntaxKind × Option SyntaxKind × Option (Nat × SyntaxKind × Assoc)))
    (h : rows.any (fun r => r.1 == cur) = false) : scanF cur K J p rows = notAnOp := by
  induction rows with
  | nil => rfl
  | cons r rows ih =>
    obtain ⟨k, guard, res⟩ := r
    simp only [List.any_cons, Bool.or_eq_false_iff] at h
    unfold scanF
    simp only [h.1, Bool.false_eq_true, if_false]
    exact ih h.2

/-- the tokens with which an operator of `current_op` starts (`Grammar.opFirst` of `Lemmas/SymTactic.lean` is the same
function, by `rfl`) -/
def startsOp (k : SyntaxKind) : Bool := Ops.currentOpRows.any (fun r => r.1 == k)

theorem opF_nonop (K : Array SyntaxKind) (J : Array Bool) (p : Nat)
    (h : startsOp (K.getD p .EOF) = false) : opF K J p = notAnOp :=
  scanF_none _ K J p _ h

end Oq3.PrattEv
