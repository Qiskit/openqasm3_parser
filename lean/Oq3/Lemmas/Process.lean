/-
`event::process` (`Oq3/Model/Process.lean`) is total on sound forward-parent links, keeps tokens and
errors in order and keeps the tree shape (`process_total`, `process_items`, `process_rooted`).
Proved through a three-state depth machine run over events (index order) and over output steps, and
the fact that hoisting a `Start` event to an earlier position never invalidates a run.
-/
import Oq3.Model.Process
import Oq3.Lemmas.Builder

namespace Oq3.Parser
open Oq3.Gen

/-- machine state: `none` = root not opened yet, `some d` = depth (0 = root closed) -/
abbrev MS := Option Nat

def MS.enter : MS → Option MS
  | none => some (some 1)
  | some 0 => none
  | some (d + 1) => some (some (d + 2))

def MS.exit : MS → Option MS
  | some (d + 1) => some (some d)
  | _ => none

def MS.inside : MS → Option MS
  | some (d + 1) => some (some (d + 1))
  | _ => none

def stepM (st : MS) : Step → Option MS
  | .enter _ => st.enter
  | .exit => st.exit
  | _ => st.inside

def runM (st : MS) : List Step → Option MS
  | [] => some st
  | s :: ss => (stepM st s).bind fun st' => runM st' ss

def evM (st : MS) : Ev → Option MS
  | .start k _ => if k == .TOMBSTONE then some st else st.enter
  | .finish => st.exit
  | _ => st.inside

def runE (st : MS) : List Ev → Option MS
  | [] => some st
  | e :: es => (evM st e).bind fun st' => runE st' es

theorem runM_append (st : MS) (a b : List Step) :
    runM st (a ++ b) = (runM st a).bind fun st' => runM st' b := by
  induction a generalizing st with
  | nil => simp [runM]
  | cons x xs ih =>
    simp only [List.cons_append, runM]
    cases stepM st x with
    | none => rfl
    | some st' => exact ih st'

theorem runE_append (st : MS) (a b : List Ev) :
    runE st (a ++ b) = (runE st a).bind fun st' => runE st' b := by
  induction a generalizing st with
  | nil => simp [runE]
  | cons x xs ih =>
    simp only [List.cons_append, runE]
    cases evM st x with
    | none => rfl
    | some st' => exact ih st'

theorem wf_iff_runM (d : Nat) (ss : List Step) :
    Oq3.Builder.wf d ss = true ↔ runM (some d) ss = some (some 0) := by
  induction ss generalizing d with
  | nil => simp [Oq3.Builder.wf, runM]
  | cons s ss ih =>
    cases d with
    | zero => cases s <;> simp [Oq3.Builder.wf, runM, stepM, MS.enter, MS.exit, MS.inside]
    | succ d =>
      cases s <;> simp [Oq3.Builder.wf, runM, stepM, MS.enter, MS.exit, MS.inside, ih]

theorem rooted_iff_runM (ss : List Step) :
    Oq3.Builder.rooted ss = true ↔ (runM none ss = some (some 0)) := by
  cases ss with
  | nil => simp [Oq3.Builder.rooted, runM]
  | cons s ss =>
    cases s <;> simp [Oq3.Builder.rooted, runM, stepM, MS.enter, MS.exit, MS.inside, wf_iff_runM]

def MS.up : MS → MS
  | none => some 1
  | some d => some (d + 1)

theorem MS.enter_eq_up {st : MS} (h : st ≠ some 0) : st.enter = some st.up := by
  match st, h with
  | none, _ => rfl
  | some (d + 1), _ => rfl

theorem evM_up {st st1 : MS} {e : Ev} (h : evM st e = some st1) (h1 : st1 ≠ some 0) :
    evM st.up e = some st1.up ∧ st ≠ some 0 := by
  cases e with
  | start k fp =>
    simp only [evM] at h ⊢
    split at h
    · rename_i hk; cases h; exact ⟨if_pos hk, h1⟩
    · rename_i hk
      rw [if_neg hk]
      match st, h with
      | none, h => cases h; exact ⟨rfl, by simp⟩
      | some (d + 1), h => cases h; exact ⟨rfl, by simp⟩
  | finish =>
    match st, h with
    | some (d + 1), h =>
      cases h
      cases d with
      | zero => exact absurd rfl h1
      | succ d => exact ⟨rfl, by simp⟩
  | token k n => match st, h with | some (d + 1), h => cases h; exact ⟨rfl, by simp⟩
  | error m => match st, h with | some (d + 1), h => cases h; exact ⟨rfl, by simp⟩

theorem runE_up (st : MS) (a : List Ev) (sa : MS) (h : runE st a = some sa) (hsa : sa ≠ some 0) :
    runE st.up a = some sa.up ∧ st ≠ some 0 := by
  induction a generalizing st with
  | nil => simp only [runE, Option.some.injEq] at h; subst h; exact ⟨rfl, hsa⟩
  | cons e a ih =>
    obtain ⟨st1, he, h⟩ := Option.bind_eq_some_iff.mp h
    obtain ⟨ih1, ih2⟩ := ih st1 h
    obtain ⟨e1, e2⟩ := evM_up he ih2
    exact ⟨by simp only [runE, e1, Option.bind_some]; exact ih1, e2⟩

/-- **Hoisting.** A non-tombstone `Start` further on can be entered now instead: the run over
the list with that event tombstoned, started one level deeper, ends in the same state. -/
theorem runE_hoist (st : MS) (a b : List Ev) (k : SyntaxKind) (fp : Option Nat) (fin : MS)
    (hk : (k == .TOMBSTONE) = false)
    (h : runE st (a ++ .start k fp :: b) = some fin) :
    st.enter = some st.up ∧ runE st.up (a ++ Ev.tombstone :: b) = some fin := by
  rw [runE_append] at h
  cases ha : runE st a with
  | none => simp [ha] at h
  | some sa =>
    simp only [ha, Option.bind_some, runE, evM, hk, Bool.false_eq_true, if_false] at h
    cases hb : sa.enter with
    | none => simp [hb] at h
    | some sb =>
      simp only [hb, Option.bind_some] at h
      have hsa : sa ≠ some 0 := by intro e; subst e; simp [MS.enter] at hb
      obtain ⟨h1, h2⟩ := runE_up st a sa ha hsa
      refine ⟨MS.enter_eq_up h2, ?_⟩
      rw [runE_append, h1]
      simp only [Option.bind_some, runE, evM, Ev.tombstone, beq_self_eq_true, if_true]
      rw [MS.enter_eq_up hsa] at hb
      simp only [Option.some.injEq] at hb
      rw [hb]; exact h

theorem runE_retomb (st : MS) (a b : List Ev) (fp : Option Nat) :
    runE st (a ++ .start .TOMBSTONE fp :: b) = runE st (a ++ Ev.tombstone :: b) := by
  rw [runE_append, runE_append]
  cases runE st a with
  | none => rfl
  | some sa => simp [runE, evM, Ev.tombstone]


def enterN : Nat → MS → Option MS
  | 0, st => some st
  | n + 1, st => st.enter.bind (enterN n)

theorem enterN_add (a b : Nat) (st : MS) :
    enterN (a + b) st = (enterN a st).bind (enterN b) := by
  induction a generalizing st with
  | zero => simp [enterN]
  | succ a ih =>
    rw [Nat.succ_add]
    simp only [enterN]
    cases st.enter with
    | none => rfl
    | some st' => exact ih st'

def nonTombCount (ks : List SyntaxKind) : Nat := (ks.filter (· != .TOMBSTONE)).length

theorem nonTombCount_append (a b : List SyntaxKind) :
    nonTombCount (a ++ b) = nonTombCount a + nonTombCount b := by
  simp [nonTombCount]

theorem runM_enters (st : MS) (ks : List SyntaxKind) :
    runM st (enters ks) = enterN (nonTombCount ks) st := by
  unfold enters nonTombCount
  generalize ks.filter (· != .TOMBSTONE) = l
  induction l generalizing st with
  | nil => rfl
  | cons x xs ih =>
    simp only [List.map_cons, runM, stepM, List.length_cons, enterN]
    cases st.enter with
    | none => rfl
    | some st' => exact ih st'

theorem drop_set_gt {α} (l : List α) (i t : Nat) (x : α) (h : i < t) :
    (l.set t x).drop (i + 1) = (l.drop (i + 1)).set (t - (i + 1)) x := by
  rw [List.drop_set]; simp [show ¬ t < i + 1 by omega]

theorem drop_set_le {α} (l : List α) (i t : Nat) (x : α) (h : t ≤ i) :
    (l.set t x).drop (i + 1) = l.drop (i + 1) := by
  rw [List.drop_set]; simp [show t < i + 1 by omega]

theorem split_at {α} (l : List α) (j : Nat) (x : α) (h : l[j]? = some x) :
    l = l.take j ++ x :: l.drop (j + 1) := by
  rw [← Oq3.Builder.drop_eq_cons h, List.take_append_drop]

theorem nonTombCount_single (k : SyntaxKind) :
    nonTombCount [k] = if (k == .TOMBSTONE) = true then 0 else 1 := by
  unfold nonTombCount
  cases h : (k == SyntaxKind.TOMBSTONE) <;> simp [List.filter, bne, h]

/-- the non-structural content of an event list / a step list: tokens and errors in order -/
inductive Item | token (k : SyntaxKind) (n : Nat) | error (msg : String)
  deriving DecidableEq, Repr

def itemsE : List Ev → List Item
  | [] => []
  | .token k n :: es => .token k n :: itemsE es
  | .error m :: es => .error m :: itemsE es
  | _ :: es => itemsE es

def itemsS : List Step → List Item
  | [] => []
  | .token k n :: ss => .token k n :: itemsS ss
  | .error m :: ss => .error m :: itemsS ss
  | _ :: ss => itemsS ss

theorem itemsS_append (a b : List Step) : itemsS (a ++ b) = itemsS a ++ itemsS b := by
  induction a with
  | nil => rfl
  | cons x xs ih => cases x <;> simp [itemsS, ih]

theorem itemsS_enters (ks : List SyntaxKind) : itemsS (enters ks) = [] := by
  unfold enters
  generalize ks.filter (· != .TOMBSTONE) = l
  induction l with
  | nil => rfl
  | cons x xs ih => simp [itemsS, ih]

theorem itemsE_set_start (evs : List Ev) (t : Nat) (k : SyntaxKind) (fp : Option Nat)
    (h : evs[t]? = some (.start k fp)) : itemsE (evs.set t Ev.tombstone) = itemsE evs := by
  induction evs generalizing t with
  | nil => simp at h
  | cons e es ih =>
    cases t with
    | zero => simp at h; subst h; simp [List.set, itemsE, Ev.tombstone]
    | succ t => simp at h; cases e <;> simp [List.set, itemsE, ih t h]

/-- visiting one chain target at index `t ≥ i` while the events after `i` are still to be run:
the items after `i` stay, and a run over them can enter the target's node now instead -/
theorem visit (evs : List Ev) (i t : Nat) (k : SyntaxKind) (fp : Option Nat)
    (hi : evs[i]? = some Ev.tombstone) (hit : i ≤ t) (ht : evs[t]? = some (.start k fp)) :
    (evs.set t Ev.tombstone)[i]? = some Ev.tombstone ∧
    itemsE ((evs.set t Ev.tombstone).drop (i + 1)) = itemsE (evs.drop (i + 1)) ∧
    ∀ st fin, runE st (evs.drop (i + 1)) = some fin →
      ∃ st', enterN (nonTombCount [k]) st = some st' ∧
        runE st' ((evs.set t Ev.tombstone).drop (i + 1)) = some fin := by
  by_cases hti : t = i
  · subst hti
    rw [hi] at ht
    simp only [Ev.tombstone, Option.some.injEq, Ev.start.injEq] at ht
    obtain ⟨rfl, rfl⟩ := ht
    rw [drop_set_le _ _ _ _ (Nat.le_refl _)]
    exact ⟨by rw [List.getElem?_set_self (List.getElem?_eq_some_iff.mp hi).1], rfl,
      fun st fin hrun => ⟨st, by simp [nonTombCount_single, enterN], hrun⟩⟩
  · have hR : (evs.drop (i + 1))[t - (i + 1)]? = some (.start k fp) := by
      rw [List.getElem?_drop]; rw [show i + 1 + (t - (i + 1)) = t by omega]; exact ht
    rw [drop_set_gt _ _ _ _ (by omega)]
    refine ⟨by rw [List.getElem?_set_ne (by omega)]; exact hi, itemsE_set_start _ _ k fp hR, ?_⟩
    intro st fin hrun
    rw [List.set_eq_take_append_cons_drop, if_pos (List.getElem?_eq_some_iff.mp hR).1]
    rw [split_at _ _ _ hR] at hrun
    cases hk : (k == SyntaxKind.TOMBSTONE) with
    | false =>
      obtain ⟨h1, h2⟩ := runE_hoist st _ _ k fp fin hk hrun
      exact ⟨st.up, by simp [nonTombCount_single, hk, enterN, h1], h2⟩
    | true =>
      have : k = .TOMBSTONE := by simpa using hk
      subst this
      rw [runE_retomb] at hrun
      exact ⟨st, by simp [nonTombCount_single, enterN], hrun⟩

theorem chain_spec (fuel : Nat) (evs : List Ev) (i idx fwd : Nat) (acc ks : List SyntaxKind)
    (evs' : List Ev) (hc : chain fuel evs idx fwd acc = some (ks, evs'))
    (hi : evs[i]? = some Ev.tombstone) (hidx : i ≤ idx) :
    ∃ new, ks = new ++ acc ∧ evs'.length = evs.length ∧
      itemsE (evs'.drop (i + 1)) = itemsE (evs.drop (i + 1)) ∧
      ∀ st fin, runE st (evs.drop (i + 1)) = some fin →
        ∃ st', enterN (nonTombCount new) st = some st' ∧ runE st' (evs'.drop (i + 1)) = some fin := by
  induction fuel generalizing evs idx fwd acc with
  | zero => simp [chain] at hc
  | succ fuel ih =>
    simp only [chain] at hc
    split at hc
    · rename_i k ht
      simp only [Option.some.injEq, Prod.mk.injEq] at hc
      obtain ⟨rfl, rfl⟩ := hc
      obtain ⟨_, h2, h3⟩ := visit evs i (idx + fwd) k none hi (by omega) ht
      exact ⟨[k], rfl, by simp, h2, h3⟩
    · rename_i k f ht
      obtain ⟨h1, h2, h3⟩ := visit evs i (idx + fwd) k (some f) hi (by omega) ht
      obtain ⟨new, hks, hl, hit, hr⟩ := ih _ _ _ _ hc h1 (by omega)
      refine ⟨new ++ [k], by simp [hks], by simpa using hl, hit.trans h2, ?_⟩
      intro st fin hrun
      obtain ⟨st1, e1, r1⟩ := h3 st fin hrun
      obtain ⟨st', e2, r2⟩ := hr st1 fin r1
      exact ⟨st', by rw [nonTombCount_append, Nat.add_comm, enterN_add, e1]; exact e2, r2⟩
    · simp at hc

/-- one round of the main loop: the steps emitted for event `i` carry its item and move the
depth machine as the event does -/
theorem processGo_step (n i : Nat) (evs : List Ev) (out res : List Step)
    (hgo : processGo (n + 1) i evs out = some res) (hi : i < evs.length) :
    ∃ evs' em, processGo n (i + 1) evs' (out ++ em) = some res ∧ evs'.length = evs.length ∧
      itemsS em ++ itemsE (evs'.drop (i + 1)) = itemsE (evs.drop i) ∧
      ∀ st fin, runE st (evs.drop i) = some fin →
        ∃ st', runM st em = some st' ∧ runE st' (evs'.drop (i + 1)) = some fin := by
  have hget : evs[i]? = some evs[i] := List.getElem?_eq_getElem hi
  have hdrop : (evs.set i Ev.tombstone).drop (i + 1) = evs.drop (i + 1) :=
    drop_set_le _ _ _ _ (Nat.le_refl _)
  simp only [processGo, hget] at hgo
  rw [List.drop_eq_getElem_cons hi]
  cases he : evs[i] with
  | start k fp =>
    rw [he] at hgo
    have hent : ∀ st st1, evM st (.start k fp) = some st1 →
        enterN (nonTombCount [k]) st = some st1 := by
      intro st st1 hst1
      simp only [evM] at hst1
      rw [nonTombCount_single]
      split at hst1
      · rename_i hk; simp only [Option.some.injEq] at hst1; subst hst1; simp [hk, enterN]
      · rename_i hk; simp [hk, enterN, hst1]
    cases fp with
    | none =>
      refine ⟨_, _, hgo, by simp, by simp [itemsS_enters, itemsE, hdrop], ?_⟩
      intro st fin hrun
      obtain ⟨st1, hst1, hrun⟩ := Option.bind_eq_some_iff.mp hrun
      exact ⟨st1, by rw [runM_enters]; exact hent _ _ hst1, by rw [hdrop]; exact hrun⟩
    | some f =>
      simp only at hgo
      split at hgo
      · simp at hgo
      · rename_i ks evs' hch
        obtain ⟨new, hks, hl, hit, hr⟩ :=
          chain_spec _ _ i i f [k] ks evs' hch (List.getElem?_set_self hi) (Nat.le_refl _)
        rw [hdrop] at hit hr
        refine ⟨evs', _, hgo, by simpa using hl, by simp [itemsS_enters, itemsE, hit], ?_⟩
        intro st fin hrun
        obtain ⟨st1, hst1, hrun⟩ := Option.bind_eq_some_iff.mp hrun
        obtain ⟨st', e, r⟩ := hr st1 fin hrun
        refine ⟨st', ?_, r⟩
        rw [runM_enters, hks, nonTombCount_append, Nat.add_comm, enterN_add, hent _ _ hst1]
        exact e
  | finish | token _ _ | error _ =>
    rw [he] at hgo
    refine ⟨_, _, hgo, by simp, by simp [itemsS, itemsE, hdrop], ?_⟩
    intro st fin hrun
    obtain ⟨st1, hst1, hrun⟩ := Option.bind_eq_some_iff.mp hrun
    exact ⟨st1, by simpa [runM, stepM, evM] using hst1, by rw [hdrop]; exact hrun⟩

theorem processGo_rooted (n i : Nat) (evs : List Ev) (out res : List Step) (st : MS)
    (hgo : processGo n i evs out = some res) (hlen : n + i = evs.length)
    (hout : runM none out = some st) (hrest : runE st (evs.drop i) = some (some 0)) :
    runM none res = some (some 0) := by
  induction n generalizing i evs out st with
  | zero =>
    simp only [processGo, Option.some.injEq] at hgo; subst hgo
    have : evs.drop i = [] := by simp; omega
    rw [this] at hrest
    simp only [runE, Option.some.injEq] at hrest
    rw [hout, hrest]
  | succ n ih =>
    obtain ⟨evs', em, hgo, hl, _, hr⟩ := processGo_step n i evs out res hgo (by omega)
    obtain ⟨st', h1, h2⟩ := hr st _ hrest
    exact ih (i + 1) evs' _ st' hgo (by omega) (by rw [runM_append, hout]; exact h1) h2

theorem processGo_items (n i : Nat) (evs : List Ev) (out res : List Step)
    (hgo : processGo n i evs out = some res) (hlen : n + i = evs.length) :
    itemsS res = itemsS out ++ itemsE (evs.drop i) := by
  induction n generalizing i evs out with
  | zero =>
    simp only [processGo, Option.some.injEq] at hgo; subst hgo
    have : evs.drop i = [] := by simp; omega
    simp [this, itemsE]
  | succ n ih =>
    obtain ⟨evs', em, hgo, hl, hit, _⟩ := processGo_step n i evs out res hgo (by omega)
    rw [ih _ evs' _ hgo (by omega), itemsS_append, List.append_assoc, hit]

/-- every forward-parent link points at a `Start` event -/
def FpOK (evs : List Ev) : Prop :=
  ∀ j k f, evs[j]? = some (Ev.start k (some f)) → ∃ k' fp', evs[j + f]? = some (Ev.start k' fp')

theorem cntFp_set_tomb_lt (evs : List Ev) (i : Nat) (k : SyntaxKind) (f : Nat)
    (h : evs[i]? = some (.start k (some f))) : cntFp (evs.set i Ev.tombstone) < cntFp evs := by
  induction evs generalizing i with
  | nil => simp at h
  | cons e es ih =>
    cases i with
    | zero =>
      simp at h; subst h
      simp [List.set, cntFp, Ev.hasFp, Ev.tombstone]
    | succ i =>
      simp at h
      have := ih i h
      simp only [List.set, cntFp]; omega

theorem cntFp_set_tomb_le (evs : List Ev) (i : Nat) : cntFp (evs.set i Ev.tombstone) ≤ cntFp evs := by
  induction evs generalizing i with
  | nil => simp [List.set]
  | cons e es ih =>
    cases i with
    | zero => cases e.hasFp <;> simp [List.set, cntFp, Ev.hasFp, Ev.tombstone]
    | succ i => have := ih i; simp only [List.set, cntFp]; omega

theorem FpOK.set_tomb {evs : List Ev} (h : FpOK evs) (t : Nat) : FpOK (evs.set t Ev.tombstone) := by
  intro j k f hj
  by_cases hjt : j = t
  · subst hjt
    have hl : j < evs.length := by
      have := (List.getElem?_eq_some_iff.mp hj).1; simpa using this
    rw [List.getElem?_set_self hl] at hj
    simp [Ev.tombstone] at hj
  · rw [List.getElem?_set_ne (by omega)] at hj
    obtain ⟨k', fp', h'⟩ := h j k f hj
    by_cases hjf : j + f = t
    · have hl : t < evs.length := by rw [← hjf]; exact (List.getElem?_eq_some_iff.mp h').1
      exact ⟨.TOMBSTONE, none, by rw [hjf, List.getElem?_set_self hl]; rfl⟩
    · exact ⟨k', fp', by rw [List.getElem?_set_ne (by omega)]; exact h'⟩

theorem FpOK.target_set_tomb {evs : List Ev} (h : FpOK evs) {i : Nat} {k : SyntaxKind} {f : Nat}
    (hi : evs[i]? = some (.start k (some f))) :
    ∃ k fp, (evs.set i Ev.tombstone)[i + f]? = some (.start k fp) := by
  obtain ⟨k', fp', h'⟩ := h i k f hi
  by_cases hf : f = 0
  · subst hf
    exact ⟨.TOMBSTONE, none, by simp [List.getElem?_set_self (List.getElem?_eq_some_iff.mp hi).1]; rfl⟩
  · exact ⟨k', fp', by rw [List.getElem?_set_ne (by omega)]; exact h'⟩

theorem chain_total (fuel : Nat) (evs : List Ev) (idx fwd : Nat) (acc : List SyntaxKind)
    (hfp : FpOK evs) (ht : ∃ k fp, evs[idx + fwd]? = some (.start k fp))
    (hfuel : cntFp evs < fuel) :
    ∃ ks evs', chain fuel evs idx fwd acc = some (ks, evs') ∧ FpOK evs' ∧
      evs'.length = evs.length ∧ cntFp evs' ≤ cntFp evs := by
  induction fuel generalizing evs idx fwd acc with
  | zero => omega
  | succ fuel ih =>
    obtain ⟨k, fp, ht⟩ := ht
    simp only [chain, ht]
    cases fp with
    | none => exact ⟨_, _, rfl, hfp.set_tomb _, by simp, cntFp_set_tomb_le _ _⟩
    | some f =>
      have hlt := cntFp_set_tomb_lt evs _ k f ht
      have ht2 := hfp.target_set_tomb ht
      obtain ⟨ks, evs', h1, h2, h3, h4⟩ := ih _ (idx + fwd) f (k :: acc) (hfp.set_tomb _) ht2 (by omega)
      exact ⟨ks, evs', h1, h2, by simpa using h3, by omega⟩

theorem processGo_total (n i : Nat) (evs : List Ev) (out : List Step) (hfp : FpOK evs)
    (hlen : n + i = evs.length) : ∃ res, processGo n i evs out = some res := by
  induction n generalizing i evs out with
  | zero => exact ⟨out, rfl⟩
  | succ n ih =>
    have hi : i < evs.length := by omega
    have hget : evs[i]? = some evs[i] := List.getElem?_eq_getElem hi
    have hlen' : n + (i + 1) = (evs.set i Ev.tombstone).length := by simp; omega
    simp only [processGo, hget]
    cases he : evs[i] with
    | start k fp =>
      cases fp with
      | none => exact ih _ _ _ (hfp.set_tomb _) hlen'
      | some f =>
        simp only
        rw [he] at hget
        have ht2 := hfp.target_set_tomb hget
        have hlt := cntFp_set_tomb_lt evs i k f hget
        obtain ⟨ks, evs', h1, h2, h3, _⟩ := chain_total (cntFp evs + 1) _ i f [k] (hfp.set_tomb _) ht2 (by omega)
        rw [h1]
        exact ih _ _ _ h2 (by rw [h3]; exact hlen')
    | finish | token _ _ | error _ => exact ih _ _ _ (hfp.set_tomb _) hlen'

/-- **`process` is total** on event lists whose forward-parent links point at `Start`
events: it never reaches `unreachable!()` and never indexes out of bounds. -/
theorem process_total (evs : List Ev) (hfp : FpOK evs) : ∃ res, process evs = some res :=
  processGo_total evs.length 0 evs [] hfp (by simp)

/-- tokens and errors come out of `process` exactly as they went in, in order -/
theorem process_items (evs : List Ev) (res : List Step) (hp : process evs = some res) :
    itemsS res = itemsE evs := by
  have := processGo_items evs.length 0 evs [] res hp (by simp)
  simpa [itemsS] using this

/-- **`process` keeps the tree shape.** If the events, read in index order by the depth
machine, form one rooted balanced node, so do the output steps — whatever forward-parent
links there are. -/
theorem process_rooted (evs : List Ev) (res : List Step)
    (hev : runE none evs = some (some 0)) (hp : process evs = some res) :
    Oq3.Builder.rooted res = true := by
  rw [rooted_iff_runM]
  exact processGo_rooted evs.length 0 evs [] res none hp (by simp) rfl (by simpa using hev)

end Oq3.Parser
