/- GENERATED by /verif/tools/gen_grammar_closed.py from Oq3/Model/Grammar.lean — the proofs are checked by Lean. -/
import Oq3.Lemmas.Locality
import Oq3.Lemmas.GrammarClosed

namespace Oq3.Grammar
open Oq3.Gen Oq3.Parser
open Oq3.Gen.Ops (Assoc)
open Oq3.Gen.TokenSets

/-- all functions of the mutual block at one fuel level -/
structure AllLM (fuel : Nat) : Prop where
  optReturnSignature : LM (Oq3.Grammar.optReturnSignature fuel )
  delimited : ∀ (bra ket : SyntaxKind) (consumeBraket : Bool) (delim : SyntaxKind) (firstSet : TokenSet) (parser : DelimitedParser), LM (Oq3.Grammar.delimited fuel bra ket consumeBraket delim firstSet parser)
  delimitedLoop : ∀ (ket delim : SyntaxKind) (firstSet : TokenSet) (parser : DelimitedParser), LM (Oq3.Grammar.delimitedLoop fuel ket delim firstSet parser)
  delimitedParser : ∀ (parser : DelimitedParser), LM (Oq3.Grammar.delimitedParser fuel parser)
  sourceFileContents : ∀ (stopOnRCurly : Bool), LM (Oq3.Grammar.sourceFileContents fuel stopOnRCurly)
  item : ∀ (stopOnRCurly : Bool), LM (Oq3.Grammar.item fuel stopOnRCurly)
  optItem : ∀ (m : Marker), LM (Oq3.Grammar.optItem fuel m)
  switchCaseStmt : ∀ (m : Marker), LM (Oq3.Grammar.switchCaseStmt fuel m)
  switchCaseLoop : LM (Oq3.Grammar.switchCaseLoop fuel )
  blockOrStatement : LM (Oq3.Grammar.blockOrStatement fuel )
  ifStmt : ∀ (m : Marker), LM (Oq3.Grammar.ifStmt fuel m)
  whileStmt : ∀ (m : Marker), LM (Oq3.Grammar.whileStmt fuel m)
  forStmt : ∀ (m : Marker), LM (Oq3.Grammar.forStmt fuel m)
  qubitDeclarationStmt : ∀ (m : Marker), LM (Oq3.Grammar.qubitDeclarationStmt fuel m)
  resetStmt : ∀ (m : Marker), LM (Oq3.Grammar.resetStmt fuel m)
  gateDefinition : ∀ (m : Marker), LM (Oq3.Grammar.gateDefinition fuel m)
  defcal_ : ∀ (m : Marker), LM (Oq3.Grammar.defcal_ fuel m)
  returnsBoolClassicalDeclarationStmt : ∀ (m : Marker), LM (Oq3.Grammar.returnsBoolClassicalDeclarationStmt fuel m)
  classicalDeclarationStmt : ∀ (m : Marker), LM (Oq3.Grammar.classicalDeclarationStmt fuel m)
  ioDeclarationStmt : ∀ (m : Marker), LM (Oq3.Grammar.ioDeclarationStmt fuel m)
  defStmt : ∀ (m : Marker), LM (Oq3.Grammar.defStmt fuel m)
  externStmt : ∀ (m : Marker), LM (Oq3.Grammar.externStmt fuel m)
  cal_ : ∀ (m : Marker), LM (Oq3.Grammar.cal_ fuel m)
  barrier_ : ∀ (m : Marker), LM (Oq3.Grammar.barrier_ fuel m)
  delayStmt : ∀ (m : Marker), LM (Oq3.Grammar.delayStmt fuel m)
  aliasStmt : ∀ (m : Marker), LM (Oq3.Grammar.aliasStmt fuel m)
  expr : LM (Oq3.Grammar.expr fuel )
  rangeExpr : LM (Oq3.Grammar.rangeExpr fuel )
  exprOrRangeExpr : LM (Oq3.Grammar.exprOrRangeExpr fuel )
  exprStmt : ∀ (m : Option Marker), LM (Oq3.Grammar.exprStmt fuel m)
  stmt : LM (Oq3.Grammar.stmt fuel )
  letStmt : ∀ (m : Marker), LM (Oq3.Grammar.letStmt fuel m)
  qOrCRegParam : LM (Oq3.Grammar.qOrCRegParam fuel )
  qOrCRegDeclaration : ∀ (m : Marker), LM (Oq3.Grammar.qOrCRegDeclaration fuel m)
  exprBlockStatements : LM (Oq3.Grammar.exprBlockStatements fuel )
  exprBp : ∀ (m : Option Marker) (r : Restrictions) (bp : Nat), LM (Oq3.Grammar.exprBp fuel m r bp)
  exprBpLoop : ∀ (r : Restrictions) (bp : Nat) (lhs : CompletedMarker), LM (Oq3.Grammar.exprBpLoop fuel r bp lhs)
  lhs : ∀ (r : Restrictions), LM (Oq3.Grammar.lhs fuel r)
  postfixExpr : ∀ (lhs : CompletedMarker) (blockLike : BlockLike) (allowCalls : Bool), LM (Oq3.Grammar.postfixExpr fuel lhs blockLike allowCalls)
  callExpr : ∀ (lhs : CompletedMarker), LM (Oq3.Grammar.callExpr fuel lhs)
  paramTypeSpec : LM (Oq3.Grammar.paramTypeSpec fuel )
  typeSpec : LM (Oq3.Grammar.typeSpec fuel )
  arrayTypeSpec : ∀ (wantArrayRefType : Bool), LM (Oq3.Grammar.arrayTypeSpec fuel wantArrayRefType)
  arrayTypeDimsLoop : LM (Oq3.Grammar.arrayTypeDimsLoop fuel )
  nonArrayTypeSpec : LM (Oq3.Grammar.nonArrayTypeSpec fuel )
  complexTypeSpec : LM (Oq3.Grammar.complexTypeSpec fuel )
  qubitTypeSpec : LM (Oq3.Grammar.qubitTypeSpec fuel )
  designator : LM (Oq3.Grammar.designator fuel )
  indexExpr : ∀ (lhs : CompletedMarker), LM (Oq3.Grammar.indexExpr fuel lhs)
  indexedIdentifier : ∀ (lhs : CompletedMarker), LM (Oq3.Grammar.indexedIdentifier fuel lhs)
  indexedIdentifierLoop : LM (Oq3.Grammar.indexedIdentifierLoop fuel )
  setExpression : LM (Oq3.Grammar.setExpression fuel )
  indexOperator : LM (Oq3.Grammar.indexOperator fuel )
  callArgList : LM (Oq3.Grammar.callArgList fuel )
  atomExpr : ∀ (_r : Restrictions), LM (Oq3.Grammar.atomExpr fuel _r)
  castExpr : LM (Oq3.Grammar.castExpr fuel )
  gphaseCallExpr : LM (Oq3.Grammar.gphaseCallExpr fuel )
  modifiedGateCallExpr : LM (Oq3.Grammar.modifiedGateCallExpr fuel )
  modifiedGateCallExprLoop : LM (Oq3.Grammar.modifiedGateCallExprLoop fuel )
  gateCallExpr : LM (Oq3.Grammar.gateCallExpr fuel )
  measureExpression : LM (Oq3.Grammar.measureExpression fuel )
  tupleExpr : LM (Oq3.Grammar.tupleExpr fuel )
  tupleExprLoop : ∀ (sawComma sawExpr : Bool), LM (Oq3.Grammar.tupleExprLoop fuel sawComma sawExpr)
  arrayExpr : LM (Oq3.Grammar.arrayExpr fuel )
  arrayExprLoop : ∀ (nExprs : Nat) (hasSemi : Bool), LM (Oq3.Grammar.arrayExprLoop fuel nExprs hasSemi)
  tryBlockExpr : LM (Oq3.Grammar.tryBlockExpr fuel )
  blockExpr : LM (Oq3.Grammar.blockExpr fuel )
  returnExpr : LM (Oq3.Grammar.returnExpr fuel )
  boxExpr : ∀ (m : Option Marker), LM (Oq3.Grammar.boxExpr fuel m)
  paramListGateParams : LM (Oq3.Grammar.paramListGateParams fuel )
  paramListGateQubits : LM (Oq3.Grammar.paramListGateQubits fuel )
  argListGateCallQubits : LM (Oq3.Grammar.argListGateCallQubits fuel )
  paramListDefParams : LM (Oq3.Grammar.paramListDefParams fuel )
  scalarTypeList : LM (Oq3.Grammar.scalarTypeList fuel )
  paramListDefcalParams : LM (Oq3.Grammar.paramListDefcalParams fuel )
  paramListDefcalQubits : LM (Oq3.Grammar.paramListDefcalQubits fuel )
  expressionList : LM (Oq3.Grammar.expressionList fuel )
  caseValueList : LM (Oq3.Grammar.caseValueList fuel )
  arrayLiteral : LM (Oq3.Grammar.arrayLiteral fuel )
  paramListOpenqasm : ∀ (flavor : DefFlavor), LM (Oq3.Grammar.paramListOpenqasm fuel flavor)
  paramListOpenqasmLoop : ∀ (flavor : DefFlavor) (numParams : Nat), LM (Oq3.Grammar.paramListOpenqasmLoop fuel flavor numParams)
  paramListItem : ∀ (flavor : DefFlavor) (m : Marker) (innerArrayLiteral : Bool), LM (Oq3.Grammar.paramListItem fuel flavor m innerArrayLiteral)
  paramTyped : ∀ (m : Marker), LM (Oq3.Grammar.paramTyped fuel m)
  scalarType : ∀ (m : Marker), LM (Oq3.Grammar.scalarType fuel m)
  argGateCallQubit : ∀ (m : Marker), LM (Oq3.Grammar.argGateCallQubit fuel m)

theorem allLM (fuel : Nat) : AllLM fuel :=
  (allHolds lmClosed fuel).rec AllLM.mk

theorem sourceFile_lm (fuel : Nat) : LM (sourceFile fuel) :=
  sourceFile_closed lmClosed fuel

theorem entryExpr_lm (fuel : Nat) : LM (entryExpr fuel) :=
  entryExpr_closed lmClosed fuel

end Oq3.Grammar
