/-
C17 (renaming through lexer and parser): the events of every successful `source_file` parse satisfy
`tokIdE` — a token event of one raw token has the kind of that raw token; a token event of several
raw tokens (a composite operator) is not an `IDENT` and glues no raw `IDENT`.

From the state invariant `TokID` (`Lemmas/RenameTextInv.lean`), lifted through the grammar by the
generated `Lemmas/GrammarClosed.lean` (`Lemmas/RenameTextGrammar.lean`); that the final state still has the input kinds is part
of the parser-state invariant `Inv` (`Lemmas/GrammarInv.lean`).
-/
import Oq3.Lemmas.RenameTextGrammar
import Oq3.Lemmas.ParseTop

namespace Oq3.RenameText
open Oq3.Gen Oq3.Parser Oq3.Grammar

theorem tokID_init (kinds : Array SyntaxKind) (joint : Array Bool) (npl : Nat) :
    TokID { kinds := kinds, joint := joint, noProgressLimit := npl } := ⟨rfl, rfl⟩

theorem parseWith_ok {x : G Unit} {K : Array SyntaxKind} {J : Array Bool} {npl : Nat} {ev : Array Ev} {pos : Nat}
    (h : parseWith x K J npl = .ok (ev, pos)) :
    ∃ s, x { kinds := K, joint := J, noProgressLimit := npl } = .ok ((), s) ∧ s.live = 0 ∧ ev = s.events ∧
      pos = s.pos := by
  unfold parseWith at h
  simp only [StateT.run] at h
  split at h
  · rename_i u s hs
    split at h
    · cases h
    · rename_i hl
      injection h with h; injection h with h1 h2
      exact ⟨s, hs, by simpa using hl, h1.symm, h2.symm⟩
  · cases h

theorem parseWith_tokId (x : G Unit) (kinds : Array SyntaxKind) (joint : Array Bool) (npl : Nat)
    (hI : Pres (Inv kinds joint) x) (hT : Pres TokID x) (events : Array Ev) (pos : Nat)
    (h : parseWith x kinds joint npl = .ok (events, pos)) : tokIdE kinds 0 events.toList = true := by
  obtain ⟨s, hs, -, rfl, -⟩ := parseWith_ok h
  have := (hT.run _ _ (tokID_init kinds joint npl) hs).2
  rwa [(hI.run _ _ (inv_init kinds joint npl) hs).kinds_eq] at this

theorem parse_tokId (fuel : Nat) (kinds : Array SyntaxKind) (joint : Array Bool) (npl : Nat)
    (events : Array Ev) (pos : Nat)
    (h : parseSourceFile fuel kinds joint npl = .ok (events, pos)) :
    tokIdE kinds 0 events.toList = true :=
  parseWith_tokId _ kinds joint npl (sourceFile_pres fuel) (sourceFile_tip fuel) events pos h

theorem parseExpr_tokId (fuel : Nat) (kinds : Array SyntaxKind) (joint : Array Bool) (npl : Nat)
    (events : Array Ev) (pos : Nat)
    (h : parseExpr fuel kinds joint npl = .ok (events, pos)) :
    tokIdE kinds 0 events.toList = true :=
  parseWith_tokId _ kinds joint npl (entryExpr_pres fuel) (entryExpr_tip fuel) events pos h

end Oq3.RenameText
