/-
C16 for the inductive language of `Props/C04Lang2.lean`: statement LISTS, the adjacency
conditions between neighbouring statements as decidable predicates, and the decomposition of the
well-formedness of a list (`WFL2`, `WFTop`) into "every statement is well formed ON ITS OWN" plus
those adjacency conditions.

* `ofList`: `List Stmt2 → Stmts2`; the print, the events and the nodes of `ofList l` are the
  concatenations (`List.flatMap`) of the prints / events / nodes of the statements.
* `Compat a b` (F09e): NOT (`a` ends — through brace-less bodies — with an assignment AND `b` is an
  expression statement whose first token is `-`).  `adjOK l`: every neighbouring pair is compatible.
* `lastOK l` (F09d / F09f): the last statement of a block body does not end with a bare block.
* `letOK l` (F09b): no `let` statement after the first statement that the top-level dispatcher
  `item` does not dispatch itself (`isItem2 = false`): from there on `let` is a LET_STMT, on its own
  (and in the item run) it is an ALIAS_DECLARATION_STATEMENT.
* `wfL2_ofList`: `WFL2 curly (ofList l) ↔ (∀ s ∈ l, WFS2 s) ∧ adjOK l ∧ (curly → lastOK l)`.
* `wfTop_ofList_full` (no hypothesis): `WFTop (ofList l) ↔ (∀ s ∈ l, WFTop [alone s]) ∧ adjOK l ∧ letMode l`, where
  `alone s` is the statement that the TEXT of `s` is on its own (`let`: alias declaration) and `letMode l` says that
  every `let` of `l` is in the mode of its position.
* `wfTop_ofList` (its corollary): if every singleton program `[s]`, `s ∈ l`, is well formed, then no `s` is a LET_STMT,
  `letMode l = letOK l`, and `WFTop (ofList l) ↔ adjOK l ∧ letOK l`.
-/
import Oq3.Lemmas.LangEv2Top

namespace Oq3.C16Lang
open Oq3.Gen Oq3.Parser Oq3.LangEv Oq3.LangEv2

def ofList : List Stmt2 → Stmts2
  | [] => .nil
  | s :: l => .cons s (ofList l)

abbrev single (s : Stmt2) : Stmts2 := .cons s .nil

theorem ofList_single (s : Stmt2) : ofList [s] = single s := rfl

theorem toksL2_ofList : ∀ l : List Stmt2, toksL2 (ofList l) = l.flatMap toksS2
  | [] => rfl
  | s :: l => by simp only [ofList, toksL2, List.flatMap_cons, toksL2_ofList l]

theorem evsL2_ofList : ∀ l : List Stmt2, evsL2 (ofList l) = l.flatMap evsS2
  | [] => rfl
  | s :: l => by simp only [ofList, evsL2, List.flatMap_cons, evsL2_ofList l]

theorem nodesL2_ofList : ∀ l : List Stmt2, nodesL2 (ofList l) = l.flatMap nodesS2
  | [] => rfl
  | s :: l => by simp only [ofList, nodesL2, List.flatMap_cons, nodesL2_ofList l]

theorem toksL2_single (s : Stmt2) : toksL2 (single s) = toksS2 s := by simp [toksL2]
theorem evsL2_single (s : Stmt2) : evsL2 (single s) = evsS2 s := by simp [evsL2]
theorem nodesL2_single (s : Stmt2) : nodesL2 (single s) = nodesS2 s := by simp [nodesL2]

theorem ofList_ne_nil : ∀ l : List Stmt2, ofList l ≠ .nil ↔ l ≠ []
  | [] => by simp [ofList]
  | s :: l => by simp [ofList]

theorem needL2_pos (ss : Stmts2) : 1 ≤ needL2 ss := by
  cases ss <;> simp only [needL2] <;> omega

theorem needL2_single_le : ∀ (l : List Stmt2) (s : Stmt2), s ∈ l → needL2 (single s) ≤ needL2 (ofList l)
  | s' :: l, s, h => by
    have hp := needL2_pos (ofList l)
    rcases List.mem_cons.1 h with rfl | h
    · simp only [needL2, ofList]; omega
    · have := needL2_single_le l s h
      simp only [needL2, ofList] at this ⊢; omega

/-- the largest need of a statement; `needL2_ofList_le`: plus the number of statements plus one it
bounds the need of the list -/
def maxNeed : List Stmt2 → Nat
  | [] => 0
  | s :: l => max (needS2 s) (maxNeed l)

theorem needL2_ofList_le : ∀ l : List Stmt2, needL2 (ofList l) ≤ maxNeed l + l.length + 1
  | [] => by simp [ofList, needL2, maxNeed]
  | s :: l => by
    have := needL2_ofList_le l
    simp only [ofList, needL2, maxNeed, List.length_cons]; omega

def startsMinusS : Stmt2 → Bool
  | .exprS x => firstX x == .MINUS
  | _ => false

theorem startsMinus2_cons (s : Stmt2) (ss : Stmts2) : startsMinus2 (.cons s ss) = startsMinusS s := by
  cases s <;> rfl

/-- **F09e**: `b` may follow `a` — not (`a` ends with an assignment and `b` starts with `-`) -/
def Compat (a b : Stmt2) : Bool := !(endsAssign a && startsMinusS b)

def headOK (a : Stmt2) : List Stmt2 → Bool
  | [] => true
  | b :: _ => Compat a b

def adjOK : List Stmt2 → Bool
  | [] => true
  | a :: l => headOK a l && adjOK l

/-- **F09d / F09f**: the last statement (of a block body) does not end with a bare block -/
def lastOK : List Stmt2 → Bool
  | [] => true
  | [a] => !endsBlock a
  | _ :: b :: l => lastOK (b :: l)

def noLet (l : List Stmt2) : Bool := l.all fun s => !isLet s

/-- **F09b**: no `let` after the first statement that `item` hands to the statement loop -/
def letOK : List Stmt2 → Bool
  | [] => true
  | s :: l => if isItem2 s then letOK l else noLet l

def compatTop (l : List Stmt2) : Bool := adjOK l && letOK l

def compatBlock (l : List Stmt2) : Bool := adjOK l && lastOK l

theorem adjOK_pair (a b : Stmt2) : adjOK [a, b] = Compat a b := by simp [adjOK, headOK]

theorem headOK_iff (a : Stmt2) (l : List Stmt2) :
    (endsAssign a = true → startsMinus2 (ofList l) = false) ↔ headOK a l = true := by
  cases l with
  | nil => simp [ofList, startsMinus2, headOK]
  | cons b l =>
    simp only [ofList, startsMinus2_cons, headOK, Compat]
    cases endsAssign a <;> cases startsMinusS b <;> simp

theorem lastOK_cons (s : Stmt2) (l : List Stmt2) :
    lastOK (s :: l) = true ↔ (endsBlock s = true → l ≠ []) ∧ lastOK l = true := by
  cases l with
  | nil => cases h : endsBlock s <;> simp [lastOK, h]
  | cons b l => simp [lastOK]

/-- **`WFL2` of a list = every statement well formed + the adjacency conditions** -/
theorem wfL2_ofList (curly : Bool) : ∀ l : List Stmt2,
    WFL2 curly (ofList l) ↔ (∀ s ∈ l, WFS2 s) ∧ adjOK l = true ∧ (curly = true → lastOK l = true)
  | [] => by simp [ofList, WFL2, adjOK, lastOK]
  | s :: l => by
    have ih := wfL2_ofList curly l
    simp only [ofList, WFL2, ih, headOK_iff, ofList_ne_nil, adjOK, Bool.and_eq_true, lastOK_cons, List.mem_cons,
      forall_eq_or_imp]
    constructor
    · rintro ⟨h1, ⟨h2, h3, h4⟩, h5, h6⟩
      exact ⟨⟨h1, h2⟩, ⟨h5, h3⟩, fun hc => ⟨fun hb => h6 hb hc, h4 hc⟩⟩
    · rintro ⟨⟨h1, h2⟩, ⟨h5, h3⟩, h4⟩
      exact ⟨h1, ⟨h2, h3, fun hc => (h4 hc).2⟩, h5, fun hb hc => (h4 hc).1 hb⟩

theorem wfBlock_ofList (l : List Stmt2) :
    WFL2 true (ofList l) ↔ (∀ s ∈ l, WFS2 s) ∧ compatBlock l = true := by
  rw [wfL2_ofList]; simp [compatBlock]

theorem wfBlock_single (s : Stmt2) : WFL2 true (single s) ↔ WFS2 s ∧ endsBlock s = false := by
  have := wfBlock_ofList [s]
  simp only [ofList] at this
  rw [this]; simp [compatBlock, adjOK, headOK, lastOK]

theorem wfTop_single (s : Stmt2) :
    WFTop (single s) ↔ (isItem2 s = true ∧ WFItem s) ∨ (isItem2 s = false ∧ WFS2 s) := by
  simp [WFTop, WFL2, startsMinus2]

theorem letOK_of_noLet : ∀ l : List Stmt2, noLet l = true → letOK l = true
  | [], _ => rfl
  | s :: l, h => by
    simp only [noLet, List.all_cons, Bool.and_eq_true] at h
    simp only [letOK]
    split
    · exact letOK_of_noLet l h.2
    · exact h.2

/-- the LET_STMT constructor only (`isLet` of `Lemmas/LangEv2Top.lean` = `isLetS || isAlias`: both print `let`) -/
def isLetS : Stmt2 → Bool
  | .letS _ => true
  | _ => false

/-- the statement that the text of `s` is when it is parsed on its own at the top level: `let` is an alias declaration -/
def alone : Stmt2 → Stmt2
  | .letS e => .alias e
  | s => s

theorem toksS2_alone (s : Stmt2) : toksS2 (alone s) = toksS2 s := by cases s <;> rfl

theorem needL2_single_alone (s : Stmt2) : needL2 (single (alone s)) ≤ needL2 (single s) + 2 := by
  cases s with
  | letS e => simp only [alone, needL2, needS2]; omega
  | _ => exact Nat.le_add_right _ _

theorem alone_of_notLetS (s : Stmt2) (h : isLetS s = false) : alone s = s := by
  cases s <;> first | rfl | cases h

def isAlias : Stmt2 → Bool
  | .alias _ => true
  | _ => false

/-- every `let` is in the mode of its position: ALIAS_DECLARATION_STATEMENT in the item run, LET_STMT after the
first statement that `item` does not dispatch -/
def letMode : List Stmt2 → Bool
  | [] => true
  | s :: l => if isItem2 s then !isLetS s && letMode l else l.all fun s => !isAlias s

theorem wfItem_iff (s : Stmt2) (h : isItem2 s = true) :
    WFItem s ↔ isLetS s = false ∧ WFTop (single (alone s)) := by
  cases s <;> first | (cases h; done) | simp [wfTop_single, alone, isItem2, WFItem, isLetS]

theorem wfS2_iff (s : Stmt2) : WFS2 s ↔ isAlias s = false ∧ WFTop (single (alone s)) := by
  cases s <;> simp [wfTop_single, alone, isItem2, WFItem, isAlias, WFS2]

theorem isAlias_item (s : Stmt2) (h : isItem2 s = false) : isAlias s = false := by
  cases s <;> first | rfl | cases h

/-- **`WFTop` of a list, completely**: the text of every statement is well formed on its own, neighbours are
compatible (F09e), and every `let` is in the mode of its position (F09b) -/
theorem wfTop_ofList_full : ∀ l : List Stmt2,
    WFTop (ofList l) ↔ (∀ s ∈ l, WFTop (single (alone s))) ∧ adjOK l = true ∧ letMode l = true
  | [] => by simp [ofList, WFTop, adjOK, letMode]
  | s :: l => by
    have ih := wfTop_ofList_full l
    cases hit : isItem2 s with
    | true =>
      simp only [ofList, WFTop, hit, true_and, Bool.true_eq_false, false_and, or_false, ih, headOK_iff, wfItem_iff s hit,
        adjOK, letMode, if_true, Bool.and_eq_true, Bool.not_eq_true', List.mem_cons, forall_eq_or_imp]
      constructor
      · rintro ⟨⟨h1, h2⟩, ⟨h3, h4, h5⟩, h6⟩
        exact ⟨⟨h2, h3⟩, ⟨h6, h4⟩, h1, h5⟩
      · rintro ⟨⟨h2, h3⟩, ⟨h6, h4⟩, h1, h5⟩
        exact ⟨⟨h1, h2⟩, ⟨h3, h4, h5⟩, h6⟩
    | false =>
      have hb : WFTop (ofList (s :: l)) ↔ WFL2 false (ofList (s :: l)) := by
        simp only [ofList, WFTop, hit, Bool.false_eq_true, false_and, false_or, true_and]
      rw [hb, wfL2_ofList]
      simp only [letMode, hit, Bool.false_eq_true, if_false, List.all_eq_true, Bool.not_eq_true', false_implies,
        and_true]
      constructor
      · rintro ⟨h1, h2⟩
        exact ⟨fun x hx => ((wfS2_iff x).1 (h1 x hx)).2, h2,
          fun x hx => ((wfS2_iff x).1 (h1 x (List.mem_cons_of_mem _ hx))).1⟩
      · rintro ⟨h1, h2, h3⟩
        refine ⟨fun x hx => (wfS2_iff x).2 ⟨?_, h1 x hx⟩, h2⟩
        rcases List.mem_cons.1 hx with rfl | hx'
        · exact isAlias_item _ hit
        · exact h3 x hx'

/-- alone at the top level a `let` is an alias declaration, never a LET_STMT -/
theorem isLetS_of_single (s : Stmt2) (h : WFTop (single s)) : isLetS s = false := by
  cases s <;> first | rfl | skip
  rcases (wfTop_single _).1 h with ⟨-, h⟩ | ⟨h, -⟩
  · exact absurd h (by simp [WFItem])
  · cases h

/-- without LET_STMTs both conditions say: no alias declaration after the first statement that `item` does not dispatch -/
theorem letMode_eq_letOK : ∀ l : List Stmt2, (∀ s ∈ l, isLetS s = false) → letMode l = letOK l
  | [], _ => rfl
  | s :: l, h => by
    have hl : ∀ x ∈ l, isLetS x = false := fun x hx => h x (List.mem_cons_of_mem _ hx)
    simp only [letMode, letOK, h s (List.mem_cons_self ..), Bool.not_false, Bool.true_and, letMode_eq_letOK l hl, noLet]
    congr 1
    rw [Bool.eq_iff_iff, List.all_eq_true, List.all_eq_true]
    refine forall_congr' fun x => forall_congr' fun hx => ?_
    have := hl x hx
    cases x <;> first | exact Iff.rfl | cases this

/-- **`WFTop` of a list of statements that are well formed on their own = the adjacency conditions** -/
theorem wfTop_ofList (l : List Stmt2) (hs : ∀ s ∈ l, WFTop (single s)) :
    WFTop (ofList l) ↔ compatTop l = true := by
  have hl : ∀ s ∈ l, isLetS s = false := fun s h => isLetS_of_single s (hs s h)
  rw [wfTop_ofList_full, compatTop, Bool.and_eq_true, letMode_eq_letOK l hl]
  exact ⟨fun h => h.2, fun h => ⟨fun s hm => by rw [alone_of_notLetS s (hl s hm)]; exact hs s hm, h⟩⟩

/-- the direction `Props/C16Lang.lean` uses (`concat_clean`, `concat_events`, `concat_clean_joint`):
statements that are well formed on their own and pairwise compatible
form a well-formed program -/
theorem wfTop_of_singles (l : List Stmt2) (hs : ∀ s ∈ l, WFTop (single s)) (hc : compatTop l = true) :
    WFTop (ofList l) := (wfTop_ofList l hs).2 hc

end Oq3.C16Lang
