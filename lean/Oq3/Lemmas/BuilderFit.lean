/-
The builder-side "fit" theorem for the end-to-end lossless result (C02), independent of the lexer:
if the token steps of a rooted step list fit the raw token table — every token step of `n` raw
tokens finds, after the leading trivia, `n` consecutive non-trivia tokens, and in the end only
trivia is left (`fitsGo`) — then `intersperse_trivia` fails none of its assertions
(`range_text`, `eat_n_trivias`, `kind`) and returns `is_eof = true`.

`fits_of_adj` derives `fitsGo` from the shape the parser invariant gives: token events account
for all non-trivia tokens (`sumI`), and the raw tokens glued into one event are adjacent in the
token table (`glueI (adjBits toks)`).
-/
import Oq3.Lemmas.Builder
import Oq3.Lemmas.Process

namespace Oq3.Builder
open Oq3.Gen Oq3.Parser

def ntKinds (toks : List RawTok) : List SyntaxKind :=
  (toks.filter (fun t => !t.kind.isTrivia)).map (·.kind)

def headNonTrivia : List RawTok → Bool
  | [] => false
  | t :: _ => !t.kind.isTrivia

/-- bit `i`: the raw token right after the `i`-th non-trivia token exists and is not trivia -/
def adjBits : List RawTok → List Bool
  | [] => []
  | t :: rest => if t.kind.isTrivia then adjBits rest else headNonTrivia rest :: adjBits rest

/-- exactly `n` leading tokens, none of them trivia; the rest -/
def takeN : List RawTok → Nat → Option (List RawTok)
  | r, 0 => some r
  | [], _ + 1 => none
  | t :: r, n + 1 => if t.kind.isTrivia then none else takeN r n

/-- the token/error items fit the token table `r`: each token item of `n` raw tokens finds, after
the leading trivia, `n` consecutive non-trivia tokens; at the end only trivia is left -/
def fitsGo : List RawTok → List Item → Bool
  | r, [] => r.all (fun t => t.kind.isTrivia)
  | r, .token _ n :: is =>
    if n = 0 then false
    else
      match takeN (r.dropWhile (fun t => t.kind.isTrivia)) n with
      | some r' => fitsGo r' is
      | none => false
  | r, .error _ :: is => fitsGo r is

theorem takeN_zero (r : List RawTok) : takeN r 0 = some r := by cases r <;> rfl

theorem takeN_split {r r' : List RawTok} {n : Nat} (h : takeN r n = some r') :
    ∃ l, l.length = n ∧ r = l ++ r' ∧ ∀ x ∈ l, x.kind.isTrivia = false := by
  induction n generalizing r with
  | zero => rw [takeN_zero] at h; cases h; exact ⟨[], rfl, rfl, by simp⟩
  | succ n ih =>
    cases r with
    | nil => simp [takeN] at h
    | cons t r0 =>
      simp only [takeN] at h
      split at h
      · simp at h
      · rename_i ht
        obtain ⟨l, h1, h2, h3⟩ := ih h
        refine ⟨t :: l, by simp [h1], by rw [h2]; rfl, ?_⟩
        intro x hx
        rcases List.mem_cons.mp hx with rfl | hx
        · simpa using ht
        · exact h3 x hx

theorem fitsGo_cons_trivia (t : RawTok) (r : List RawTok) (is : List Item)
    (ht : t.kind.isTrivia = true) : fitsGo (t :: r) is = fitsGo r is := by
  induction is with
  | nil => simp [fitsGo, ht]
  | cons i is ih =>
    cases i with
    | token k n => simp [fitsGo, ht]
    | error m => simpa [fitsGo] using ih

theorem fitsGo_dropWhile (r : List RawTok) (is : List Item) :
    fitsGo (r.dropWhile (fun t => t.kind.isTrivia)) is = fitsGo r is := by
  induction r with
  | nil => rfl
  | cons t r ih =>
    cases ht : t.kind.isTrivia with
    | true => rw [List.dropWhile_cons, if_pos ht, ih, fitsGo_cons_trivia t r is ht]
    | false => rw [List.dropWhile_cons, if_neg (by simp [ht])]

theorem takeWhile_drop {α} (p : α → Bool) (m : Nat) (l : List α) (h : m ≤ (l.takeWhile p).length) :
    (l.drop m).takeWhile p = (l.takeWhile p).drop m := by
  induction m generalizing l with
  | zero => rfl
  | succ m ih =>
    cases l with
    | nil => rfl
    | cons x xs =>
      rw [List.takeWhile_cons] at h ⊢
      split at h
      · rename_i hx
        rw [if_pos hx]
        exact ih xs (by simpa using h)
      · cases h

theorem takeWhile_eq_self {α} (p : α → Bool) (l : List α) (h : ∀ x ∈ l, p x = true) :
    l.takeWhile p = l := by
  simpa using List.takeWhile_append_of_pos (l₂ := []) h

theorem eatTrivias_drop (toks : List RawTok) (b : B) :
    toks.drop (eatTrivias toks b).pos = (toks.drop b.pos).dropWhile (fun t => t.kind.isTrivia) ∧
    (eatTrivias toks b).state = b.state := by
  refine ⟨?_, eatTriviasAux_state _ b⟩
  unfold eatTrivias
  rw [eatTriviasAux_pos, ← List.drop_drop, drop_takeWhile_length]

theorem eatNTrivias_ok (toks : List RawTok) (m : Nat) (b : B)
    (h : m ≤ ((toks.drop b.pos).takeWhile (fun t => t.kind.isTrivia)).length) :
    ∃ b', eatNTrivias toks m b = .ok b' ∧ b'.pos = b.pos + m ∧ b'.state = b.state := by
  induction m generalizing b with
  | zero => exact ⟨b, rfl, rfl, rfl⟩
  | succ m ih =>
    cases hd : toks.drop b.pos with
    | nil => rw [hd] at h; simp at h
    | cons t r =>
      rw [hd, List.takeWhile_cons] at h
      have ht : t.kind.isTrivia = true := by
        cases htt : t.kind.isTrivia with
        | true => rfl
        | false => simp [htt] at h
      rw [if_pos ht] at h
      obtain ⟨hget, hd'⟩ := of_drop_eq_cons hd
      obtain ⟨b', h1, h2, h3⟩ := ih (emit { b with pos := b.pos + 1 } (.token t.kind t.text))
        (by simp only [emit]; rw [hd']; simpa using h)
      refine ⟨b', ?_, ?_, ?_⟩
      · exact eatNTrivias_succ_ok.mpr ⟨t, hget, ht, h1⟩
      · rw [h2]; simp [emit]; omega
      · rw [h3]; simp [emit]

theorem nAttachedConst_le (l : List RawTok) (i res : Nat) (h : res ≤ i + l.length) :
    nAttachedConst l i res ≤ i + l.length := by
  fun_induction nAttachedConst l i res <;> simp_all <;> omega

theorem nAttachedTrivias_le (k : SyntaxKind) (l : List RawTok) : nAttachedTrivias k l ≤ l.length := by
  unfold nAttachedTrivias
  split
  · have := nAttachedConst_le l 0 0 (by omega); omega
  · omega

theorem flushPending_ok (b : B) (h : b.state ≠ .pendingEnter) :
    ∃ b', flushPending b = .ok b' ∧ b'.pos = b.pos ∧ b'.state = .normal := by
  unfold flushPending
  split
  · rename_i hs; exact absurd hs h
  · exact ⟨_, rfl, rfl, rfl⟩
  · exact ⟨_, rfl, rfl, rfl⟩

theorem step_fit (toks : List RawTok) (b : B) (s : Step) (ss : List Step)
    (hst : b.state ≠ .pendingEnter)
    (hfit : fitsGo (toks.drop b.pos) (itemsS (s :: ss)) = true) :
    ∃ b', step toks b s = .ok b' ∧ b'.state ≠ .pendingEnter ∧
      fitsGo (toks.drop b'.pos) (itemsS ss) = true := by
  cases s with
  | token k n =>
    obtain ⟨b1, hb1, hp1, hs1⟩ := flushPending_ok b hst
    obtain ⟨hd2, hs2⟩ := eatTrivias_drop toks b1
    simp only [itemsS, fitsGo] at hfit
    split at hfit
    · simp at hfit
    · rename_i hn
      rw [← hp1, ← hd2] at hfit
      split at hfit
      · rename_i r' hr'
        obtain ⟨l, hl, hsplit, _⟩ := takeN_split hr'
        have hlen := congrArg List.length hsplit
        simp only [List.length_drop, List.length_append] at hlen
        refine ⟨_, step_token_ok.mpr ⟨b1, hb1, doToken_ok_iff.mpr ⟨by omega, by omega, rfl⟩⟩, ?_, ?_⟩
        · simp [emit, hs2, hs1]
        · simp only [emit]
          rw [← List.drop_drop, hsplit, ← hl, List.drop_left]; exact hfit
      · simp at hfit
  | enter k =>
    obtain ⟨b1, hb1, hp1, hs1⟩ := flushPending_ok b hst
    simp only [itemsS] at hfit
    let leading := (toks.drop b1.pos).takeWhile (fun t => t.kind.isTrivia)
    let nAtt := nAttachedTrivias k leading.reverse
    have hnAtt : nAtt ≤ leading.length := by
      have := nAttachedTrivias_le k leading.reverse
      rwa [List.length_reverse] at this
    obtain ⟨b2, hb2, hp2, hs2⟩ := eatNTrivias_ok toks (leading.length - nAtt) b1 (Nat.sub_le leading.length nAtt)
    -- after the first batch, `nAtt` trivia tokens still lead
    have hrest : nAtt ≤ ((toks.drop (emit b2 (.enter k)).pos).takeWhile
        (fun t => t.kind.isTrivia)).length := by
      simp only [emit, hp2]
      rw [← List.drop_drop, takeWhile_drop _ _ _ (Nat.sub_le _ _), List.length_drop]
      show nAtt ≤ leading.length - (leading.length - nAtt)
      omega
    obtain ⟨b3, hb3, hp3, hs3⟩ := eatNTrivias_ok toks nAtt (emit b2 (.enter k)) hrest
    refine ⟨b3, ?_, ?_, ?_⟩
    · rw [step_enter_eq _ _ _ hst]
      exact enterBody_ok_iff.mpr ⟨b1, hb1, b2, hb2, hb3⟩
    · rw [hs3]; simp [emit, hs2, hs1]
    · have hpos : b3.pos = b1.pos + leading.length := by
        rw [hp3]; simp only [emit, hp2]; omega
      rw [hpos, ← List.drop_drop, drop_takeWhile_length, fitsGo_dropWhile, hp1]
      exact hfit
  | exit =>
    obtain ⟨b1, hb1, hp1, _⟩ := flushPending_ok b hst
    exact ⟨_, step_exit_ok.mpr ⟨b1, hb1, rfl⟩, by simp, by simpa [itemsS, hp1] using hfit⟩
  | error msg =>
    simp only [itemsS, fitsGo] at hfit
    exact ⟨_, rfl, by simpa [emit] using hst, by simpa [emit] using hfit⟩

theorem steps_fit (toks : List RawTok) (ss : List Step) (b : B) (hst : b.state ≠ .pendingEnter)
    (hfit : fitsGo (toks.drop b.pos) (itemsS ss) = true) :
    ∃ b', steps toks ss b = .ok b' ∧ (toks.drop b'.pos).all (fun t => t.kind.isTrivia) = true := by
  induction ss generalizing b with
  | nil => exact ⟨b, rfl, by simpa [itemsS, fitsGo] using hfit⟩
  | cons s ss ih =>
    obtain ⟨b1, h1, hs1, hf1⟩ := step_fit toks b s ss hst hfit
    obtain ⟨b', h2, h3⟩ := ih b1 hs1 hf1
    exact ⟨b', steps_cons_ok.mpr ⟨b1, h1, h2⟩, h3⟩

/-- **Fit theorem.**  On a rooted step list whose items fit the token table,
`intersperse_trivia` returns normally with `is_eof = true`. -/
theorem intersperse_fits (toks : List RawTok) (ss : List Step) (hr : rooted ss = true)
    (hfit : fitsGo toks (itemsS ss) = true) :
    ∃ out, intersperseTrivia toks ss = .ok (out, true) := by
  obtain ⟨k, rest, rfl⟩ : ∃ k rest, ss = .enter k :: rest := by
    unfold rooted at hr
    split at hr
    · exact ⟨_, _, rfl⟩
    · cases hr
  simp only [itemsS] at hfit
  let b0 : B := emit { ({} : B) with state := .normal } (.enter k)
  obtain ⟨b, hb, hall⟩ := steps_fit toks rest b0 (by simp [b0, emit]) (by simpa [b0, emit] using hfit)
  have hsteps : steps toks (.enter k :: rest) {} = .ok b := steps_cons_ok.mpr ⟨b0, rfl, hb⟩
  have hinv := steps_rooted toks _ hr b hsteps
  have hpos : (eatTrivias toks b).pos = toks.length := by
    unfold eatTrivias
    rw [eatTriviasAux_pos, takeWhile_eq_self _ _ (List.all_eq_true.mp hall),
      List.length_drop]
    have := hinv.pos_le; omega
  exact ⟨_, intersperseTrivia_ok_iff.mpr ⟨b, hsteps, hinv.root rfl, rfl, by simp [hpos]⟩⟩

/-- `glueOK` on items over a list of bits: every token item has `n ≥ 1` and bits
`c … c+n-2` are set (`c` = raw tokens consumed before) -/
def glueI (J : List Bool) : Nat → List Item → Bool
  | _, [] => true
  | c, .token _ n :: is =>
    decide (n ≥ 1) && (List.range (n - 1)).all (fun j => J.getD (c + j) false) && glueI J (c + n) is
  | c, .error _ :: is => glueI J c is

def sumI : List Item → Nat
  | [] => 0
  | .token _ n :: is => n + sumI is
  | .error _ :: is => sumI is

theorem adjBits_dropWhile (r : List RawTok) :
    adjBits (r.dropWhile (fun t => t.kind.isTrivia)) = adjBits r ∧
    ntKinds (r.dropWhile (fun t => t.kind.isTrivia)) = ntKinds r := by
  induction r with
  | nil => exact ⟨rfl, rfl⟩
  | cons t r ih =>
    cases ht : t.kind.isTrivia with
    | true => rw [List.dropWhile_cons, if_pos ht]; simp [adjBits, ntKinds, ht] at ih ⊢; exact ih
    | false => rw [List.dropWhile_cons, if_neg (by simp [ht])]; exact ⟨rfl, rfl⟩

theorem headNonTrivia_dropWhile (r : List RawTok)
    (h : r.dropWhile (fun t => t.kind.isTrivia) ≠ []) :
    headNonTrivia (r.dropWhile (fun t => t.kind.isTrivia)) = true := by
  induction r with
  | nil => exact absurd rfl h
  | cons t r ih =>
    cases ht : t.kind.isTrivia with
    | true =>
      rw [List.dropWhile_cons, if_pos ht] at h ⊢
      exact ih h
    | false =>
      rw [List.dropWhile_cons, if_neg (by simp [ht])]
      simp [headNonTrivia, ht]

theorem takeN_adj (n : Nat) : ∀ (r : List RawTok), n ≤ (ntKinds r).length →
    (n = 0 ∨ headNonTrivia r = true) →
    (∀ j, j + 1 < n → (adjBits r).getD j false = true) →
    ∃ r', takeN r n = some r' ∧ adjBits r' = (adjBits r).drop n ∧ ntKinds r' = (ntKinds r).drop n := by
  induction n with
  | zero => intro r _ _ _; exact ⟨r, takeN_zero r, rfl, rfl⟩
  | succ n ih =>
    intro r hn hh hadj
    cases r with
    | nil => simp [ntKinds] at hn
    | cons t r0 =>
      have ht : t.kind.isTrivia = false := by
        rcases hh with h | h
        · omega
        · simpa [headNonTrivia] using h
      have hnt : ntKinds (t :: r0) = t.kind :: ntKinds r0 := by simp [ntKinds, ht]
      have hab : adjBits (t :: r0) = headNonTrivia r0 :: adjBits r0 := by simp [adjBits, ht]
      rw [hnt] at hn
      obtain ⟨r', h1, h2, h3⟩ := ih r0 (by simpa using hn)
        (by
          by_cases h0 : n = 0
          · exact Or.inl h0
          · right
            have := hadj 0 (by omega)
            rwa [hab, List.getD_cons_zero] at this)
        (fun j hj => by
          have := hadj (j + 1) (by omega)
          rwa [hab, List.getD_cons_succ] at this)
      refine ⟨r', by simp only [takeN, ht]; exact h1, ?_, ?_⟩
      · rw [h2, hab, List.drop_succ_cons]
      · rw [h3, hnt, List.drop_succ_cons]

theorem glueI_shift (J : List Bool) (n : Nat) (is : List Item) (c : Nat) :
    glueI (J.drop n) c is = glueI J (n + c) is := by
  induction is generalizing c with
  | nil => rfl
  | cons i is ih =>
    cases i with
    | token k m =>
      simp only [glueI, ih, List.getD_eq_getElem?_getD, List.getElem?_drop]
      simp [Nat.add_assoc]
    | error e => simp only [glueI, ih]

/-- **From the parser's accounting to `fitsGo`**: the token items account for all non-trivia raw
tokens and the tokens glued into one item are adjacent in the token table. -/
theorem fits_of_adj (is : List Item) : ∀ (r : List RawTok),
    glueI (adjBits r) 0 is = true → sumI is = (ntKinds r).length → fitsGo r is = true := by
  induction is with
  | nil =>
    intro r _ hs
    simp only [sumI] at hs
    simp only [fitsGo, List.all_eq_true]
    intro t ht
    cases htr : t.kind.isTrivia with
    | true => rfl
    | false =>
      exfalso
      have : t.kind ∈ ntKinds r := by
        simp only [ntKinds, List.mem_map, List.mem_filter]
        exact ⟨t, ⟨ht, by simp [htr]⟩, rfl⟩
      rw [List.eq_nil_of_length_eq_zero hs.symm] at this
      simp at this
  | cons i is ih =>
    intro r hg hs
    cases i with
    | error m => simp only [glueI, sumI, fitsGo] at hg hs ⊢; exact ih r hg hs
    | token k n =>
      simp only [glueI, Bool.and_eq_true, decide_eq_true_eq, List.all_eq_true, List.mem_range,
        Nat.zero_add] at hg
      simp only [sumI] at hs
      obtain ⟨⟨hn, hadj⟩, hrest⟩ := hg
      obtain ⟨ha, hk⟩ := adjBits_dropWhile r
      have hne : r.dropWhile (fun t => t.kind.isTrivia) ≠ [] := by
        intro he
        rw [he] at hk
        have : (ntKinds r).length = 0 := by rw [← hk]; rfl
        omega
      obtain ⟨r', h1, h2, h3⟩ := takeN_adj n (r.dropWhile (fun t => t.kind.isTrivia))
        (by rw [hk]; omega) (Or.inr (headNonTrivia_dropWhile r hne))
        (fun j hj => by rw [ha]; exact hadj j (by omega))
      simp only [fitsGo]
      rw [if_neg (by omega), h1]
      apply ih r'
      · rw [h2, ha, glueI_shift]; simpa using hrest
      · rw [h3, hk, List.length_drop]; omega

end Oq3.Builder
