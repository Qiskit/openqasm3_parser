/- GENERATED by /verif/tools/gen_grammar_closed.py from Oq3/Model/Grammar.lean — the proofs are checked by Lean. -/
import Oq3.Lemmas.JointInsens
import Oq3.Lemmas.GrammarClosed

namespace Oq3.Grammar
open Oq3.Gen Oq3.Parser
open Oq3.Gen.Ops (Assoc)
open Oq3.Gen.TokenSets

/-- all functions of the mutual block at one fuel level -/
structure AllJI (fuel : Nat) : Prop where
  optReturnSignature : JI (Oq3.Grammar.optReturnSignature fuel )
  delimited : ∀ (bra ket : SyntaxKind) (consumeBraket : Bool) (delim : SyntaxKind) (firstSet : TokenSet) (parser : DelimitedParser), JI (Oq3.Grammar.delimited fuel bra ket consumeBraket delim firstSet parser)
  delimitedLoop : ∀ (ket delim : SyntaxKind) (firstSet : TokenSet) (parser : DelimitedParser), JI (Oq3.Grammar.delimitedLoop fuel ket delim firstSet parser)
  delimitedParser : ∀ (parser : DelimitedParser), JI (Oq3.Grammar.delimitedParser fuel parser)
  sourceFileContents : ∀ (stopOnRCurly : Bool), JI (Oq3.Grammar.sourceFileContents fuel stopOnRCurly)
  item : ∀ (stopOnRCurly : Bool), JI (Oq3.Grammar.item fuel stopOnRCurly)
  optItem : ∀ (m : Marker), JI (Oq3.Grammar.optItem fuel m)
  switchCaseStmt : ∀ (m : Marker), JI (Oq3.Grammar.switchCaseStmt fuel m)
  switchCaseLoop : JI (Oq3.Grammar.switchCaseLoop fuel )
  blockOrStatement : JI (Oq3.Grammar.blockOrStatement fuel )
  ifStmt : ∀ (m : Marker), JI (Oq3.Grammar.ifStmt fuel m)
  whileStmt : ∀ (m : Marker), JI (Oq3.Grammar.whileStmt fuel m)
  forStmt : ∀ (m : Marker), JI (Oq3.Grammar.forStmt fuel m)
  qubitDeclarationStmt : ∀ (m : Marker), JI (Oq3.Grammar.qubitDeclarationStmt fuel m)
  resetStmt : ∀ (m : Marker), JI (Oq3.Grammar.resetStmt fuel m)
  gateDefinition : ∀ (m : Marker), JI (Oq3.Grammar.gateDefinition fuel m)
  defcal_ : ∀ (m : Marker), JI (Oq3.Grammar.defcal_ fuel m)
  returnsBoolClassicalDeclarationStmt : ∀ (m : Marker), JI (Oq3.Grammar.returnsBoolClassicalDeclarationStmt fuel m)
  classicalDeclarationStmt : ∀ (m : Marker), JI (Oq3.Grammar.classicalDeclarationStmt fuel m)
  ioDeclarationStmt : ∀ (m : Marker), JI (Oq3.Grammar.ioDeclarationStmt fuel m)
  defStmt : ∀ (m : Marker), JI (Oq3.Grammar.defStmt fuel m)
  externStmt : ∀ (m : Marker), JI (Oq3.Grammar.externStmt fuel m)
  cal_ : ∀ (m : Marker), JI (Oq3.Grammar.cal_ fuel m)
  barrier_ : ∀ (m : Marker), JI (Oq3.Grammar.barrier_ fuel m)
  delayStmt : ∀ (m : Marker), JI (Oq3.Grammar.delayStmt fuel m)
  aliasStmt : ∀ (m : Marker), JI (Oq3.Grammar.aliasStmt fuel m)
  expr : JI (Oq3.Grammar.expr fuel )
  rangeExpr : JI (Oq3.Grammar.rangeExpr fuel )
  exprOrRangeExpr : JI (Oq3.Grammar.exprOrRangeExpr fuel )
  exprStmt : ∀ (m : Option Marker), JI (Oq3.Grammar.exprStmt fuel m)
  stmt : JI (Oq3.Grammar.stmt fuel )
  letStmt : ∀ (m : Marker), JI (Oq3.Grammar.letStmt fuel m)
  qOrCRegParam : JI (Oq3.Grammar.qOrCRegParam fuel )
  qOrCRegDeclaration : ∀ (m : Marker), JI (Oq3.Grammar.qOrCRegDeclaration fuel m)
  exprBlockStatements : JI (Oq3.Grammar.exprBlockStatements fuel )
  exprBp : ∀ (m : Option Marker) (r : Restrictions) (bp : Nat), JI (Oq3.Grammar.exprBp fuel m r bp)
  exprBpLoop : ∀ (r : Restrictions) (bp : Nat) (lhs : CompletedMarker), JI (Oq3.Grammar.exprBpLoop fuel r bp lhs)
  lhs : ∀ (r : Restrictions), JI (Oq3.Grammar.lhs fuel r)
  postfixExpr : ∀ (lhs : CompletedMarker) (blockLike : BlockLike) (allowCalls : Bool), JI (Oq3.Grammar.postfixExpr fuel lhs blockLike allowCalls)
  callExpr : ∀ (lhs : CompletedMarker), JI (Oq3.Grammar.callExpr fuel lhs)
  paramTypeSpec : JI (Oq3.Grammar.paramTypeSpec fuel )
  typeSpec : JI (Oq3.Grammar.typeSpec fuel )
  arrayTypeSpec : ∀ (wantArrayRefType : Bool), JI (Oq3.Grammar.arrayTypeSpec fuel wantArrayRefType)
  arrayTypeDimsLoop : JI (Oq3.Grammar.arrayTypeDimsLoop fuel )
  nonArrayTypeSpec : JI (Oq3.Grammar.nonArrayTypeSpec fuel )
  complexTypeSpec : JI (Oq3.Grammar.complexTypeSpec fuel )
  qubitTypeSpec : JI (Oq3.Grammar.qubitTypeSpec fuel )
  designator : JI (Oq3.Grammar.designator fuel )
  indexExpr : ∀ (lhs : CompletedMarker), JI (Oq3.Grammar.indexExpr fuel lhs)
  indexedIdentifier : ∀ (lhs : CompletedMarker), JI (Oq3.Grammar.indexedIdentifier fuel lhs)
  indexedIdentifierLoop : JI (Oq3.Grammar.indexedIdentifierLoop fuel )
  setExpression : JI (Oq3.Grammar.setExpression fuel )
  indexOperator : JI (Oq3.Grammar.indexOperator fuel )
  callArgList : JI (Oq3.Grammar.callArgList fuel )
  atomExpr : ∀ (_r : Restrictions), JI (Oq3.Grammar.atomExpr fuel _r)
  castExpr : JI (Oq3.Grammar.castExpr fuel )
  gphaseCallExpr : JI (Oq3.Grammar.gphaseCallExpr fuel )
  modifiedGateCallExpr : JI (Oq3.Grammar.modifiedGateCallExpr fuel )
  modifiedGateCallExprLoop : JI (Oq3.Grammar.modifiedGateCallExprLoop fuel )
  gateCallExpr : JI (Oq3.Grammar.gateCallExpr fuel )
  measureExpression : JI (Oq3.Grammar.measureExpression fuel )
  tupleExpr : JI (Oq3.Grammar.tupleExpr fuel )
  tupleExprLoop : ∀ (sawComma sawExpr : Bool), JI (Oq3.Grammar.tupleExprLoop fuel sawComma sawExpr)
  arrayExpr : JI (Oq3.Grammar.arrayExpr fuel )
  arrayExprLoop : ∀ (nExprs : Nat) (hasSemi : Bool), JI (Oq3.Grammar.arrayExprLoop fuel nExprs hasSemi)
  tryBlockExpr : JI (Oq3.Grammar.tryBlockExpr fuel )
  blockExpr : JI (Oq3.Grammar.blockExpr fuel )
  returnExpr : JI (Oq3.Grammar.returnExpr fuel )
  boxExpr : ∀ (m : Option Marker), JI (Oq3.Grammar.boxExpr fuel m)
  paramListGateParams : JI (Oq3.Grammar.paramListGateParams fuel )
  paramListGateQubits : JI (Oq3.Grammar.paramListGateQubits fuel )
  argListGateCallQubits : JI (Oq3.Grammar.argListGateCallQubits fuel )
  paramListDefParams : JI (Oq3.Grammar.paramListDefParams fuel )
  scalarTypeList : JI (Oq3.Grammar.scalarTypeList fuel )
  paramListDefcalParams : JI (Oq3.Grammar.paramListDefcalParams fuel )
  paramListDefcalQubits : JI (Oq3.Grammar.paramListDefcalQubits fuel )
  expressionList : JI (Oq3.Grammar.expressionList fuel )
  caseValueList : JI (Oq3.Grammar.caseValueList fuel )
  arrayLiteral : JI (Oq3.Grammar.arrayLiteral fuel )
  paramListOpenqasm : ∀ (flavor : DefFlavor), JI (Oq3.Grammar.paramListOpenqasm fuel flavor)
  paramListOpenqasmLoop : ∀ (flavor : DefFlavor) (numParams : Nat), JI (Oq3.Grammar.paramListOpenqasmLoop fuel flavor numParams)
  paramListItem : ∀ (flavor : DefFlavor) (m : Marker) (innerArrayLiteral : Bool), JI (Oq3.Grammar.paramListItem fuel flavor m innerArrayLiteral)
  paramTyped : ∀ (m : Marker), JI (Oq3.Grammar.paramTyped fuel m)
  scalarType : ∀ (m : Marker), JI (Oq3.Grammar.scalarType fuel m)
  argGateCallQubit : ∀ (m : Marker), JI (Oq3.Grammar.argGateCallQubit fuel m)

theorem allJI (fuel : Nat) : AllJI fuel :=
  (allHolds jiClosed fuel).rec AllJI.mk

theorem sourceFile_ji (fuel : Nat) : JI (sourceFile fuel) :=
  sourceFile_closed jiClosed fuel

theorem entryExpr_ji (fuel : Nat) : JI (entryExpr fuel) :=
  entryExpr_closed jiClosed fuel

end Oq3.Grammar
