/-
The tree builder never lets a node (other than the root) of a "text-head" kind start with a
trivia token: `buildTree_rootHeadOkT` (`rootHeadOk_cnodeOf` for the `CNode`).  This is the hypothesis `rootHeadOk` of the accessor
blindness theorem (`Lemmas/AccLayout.lean`), discharged for every tree the builder produces.

Why it holds: on `enter k` (outside the very first one) `intersperse_trivia` first emits ALL the
leading trivia except the `n_attached_trivias kind` last ones, then `enter k`, then the attached
ones; `n_attached_trivias` is 0 unless `kind == CONST`, and `CONST` is not a head kind.  So right
after `enter k` the next raw token is not trivia, and the next thing emitted is a token step's own
(non-trivia) token, another `enter`, or `exit`.

Hypothesis `tokenKindsOk`: no parser step is `token k _` with `k` a trivia kind (the parser never
sees trivia).
-/
import Oq3.Lemmas.TreeCNode
import Oq3.Lemmas.AccLayout

namespace Oq3.BuilderLayout
open Oq3.Gen Oq3.Parser Oq3.Builder Oq3.Acc

/-- state: (the last thing emitted, errors aside, was `enter k` of a head kind below the root;
number of open nodes) -/
def scanStep : Bool × Nat → StrStep → Option (Bool × Nat)
  | (f, d), .error _ _ => some (f, d)
  | (f, d), .token k _ => if f && k.isTrivia then none else some (false, d)
  | (_, d), .enter k => some (headKind k && decide (0 < d), d + 1)
  | (_, d), .exit => some (false, d - 1)

def scanFrom (st : Bool × Nat) (out : List StrStep) : Option (Bool × Nat) := out.foldlM scanStep st

theorem scanFrom_append (st : Bool × Nat) (a b : List StrStep) :
    scanFrom st (a ++ b) = (scanFrom st a).bind (fun s => scanFrom s b) := by
  simp [scanFrom, List.foldlM_append]

theorem scanFrom_snoc {st s : Bool × Nat} {a : List StrStep} (x : StrStep) (h : scanFrom st a = some s) :
    scanFrom st (a ++ [x]) = scanStep s x := by
  rw [scanFrom_append, h]; simp [scanFrom]

/-- builder invariant, on the output so far and the position in the raw token table -/
def HInv (toks : List RawTok) (out : List StrStep) (pos : Nat) : Prop :=
  ∃ f d, scanFrom (false, 0) out = some (f, d) ∧
    (f = true → ∀ t, (toks.drop pos).head? = some t → t.kind.isTrivia = false)

abbrev HInvB (toks : List RawTok) (b : B) : Prop := HInv toks b.out b.pos

theorem HInv.emit_trivia {toks : List RawTok} {out : List StrStep} {pos : Nat} (h : HInv toks out pos)
    {t : RawTok} (ht : toks[pos]? = some t) (hk : t.kind.isTrivia = true) :
    HInv toks (out ++ [.token t.kind t.text]) (pos + 1) := by
  obtain ⟨f, d, hs, hf⟩ := h
  have hff : f = false := by
    cases f with
    | false => rfl
    | true =>
      have := hf rfl t (by rw [List.head?_drop]; exact ht)
      rw [hk] at this; cases this
  subst hff
  refine ⟨false, d, ?_, fun h => by cases h⟩
  rw [scanFrom_snoc _ hs]; simp [scanStep]

theorem HInv.emit_reset {toks : List RawTok} {out : List StrStep} {pos : Nat} (h : HInv toks out pos)
    (x : StrStep) (p : Nat) (hx : ∀ f d, ∃ d', scanStep (f, d) x = some (false, d')) :
    HInv toks (out ++ [x]) p := by
  obtain ⟨f, d, hs, _⟩ := h
  obtain ⟨d', hd'⟩ := hx f d
  refine ⟨false, d', ?_, fun h => by cases h⟩
  rw [scanFrom_snoc _ hs, hd']

theorem eatTriviasAux_hinv {toks : List RawTok} (rest : List RawTok) (b : B) (h : HInvB toks b)
    (hr : toks.drop b.pos = rest) : HInvB toks (eatTriviasAux rest b) := by
  induction rest generalizing b with
  | nil => exact h
  | cons t r ih =>
    simp only [eatTriviasAux]
    obtain ⟨ht, hr'⟩ := of_drop_eq_cons hr
    cases hk : t.kind.isTrivia with
    | false => simpa using h
    | true => exact ih _ (HInv.emit_trivia h ht hk) hr'

theorem eatTrivias_hinv {toks : List RawTok} (b : B) (h : HInvB toks b) : HInvB toks (eatTrivias toks b) :=
  eatTriviasAux_hinv _ b h rfl

theorem eatNTrivias_hinv {toks : List RawTok} (n : Nat) (b b' : B) (h : HInvB toks b)
    (he : eatNTrivias toks n b = .ok b') : HInvB toks b' := by
  induction n generalizing b with
  | zero => simp only [eatNTrivias] at he; cases he; exact h
  | succ n ih =>
    obtain ⟨t, ht, hk, he⟩ := eatNTrivias_succ_ok.mp he
    exact ih _ (HInv.emit_trivia h ht hk) he

theorem flushPending_hinv {toks : List RawTok} {b c : B} (h : HInvB toks b) (hf : flushPending b = .ok c) :
    HInvB toks c ∧ c.pos = b.pos := by
  obtain ⟨_, rfl⟩ | ⟨_, rfl⟩ := flushPending_cases hf
  · exact ⟨h, rfl⟩
  · exact ⟨HInv.emit_reset h .exit b.pos (fun f d => ⟨d - 1, rfl⟩), rfl⟩

def tokenKindsOk (ss : List Step) : Bool :=
  ss.all fun s => match s with
    | .token k _ => !k.isTrivia
    | _ => true

theorem enter_state_ne {toks : List RawTok} {b c : B} {k : SyntaxKind}
    (hs : enterBody toks b k = .ok c) (hc : c.state = .pendingEnter) : False := by
  obtain ⟨d, hf, e1, he, hs⟩ := enterBody_ok_iff.mp hs
  rw [← (eatNTrivias_quiet _ _ _ hs).state] at hc
  simp only [emit] at hc
  rw [← (eatNTrivias_quiet _ _ _ he).state, flushPending_state hf] at hc
  cases hc

theorem HInv.emit_enter {toks : List RawTok} {out : List StrStep} {pos : Nat} (h : HInv toks out pos)
    (k : SyntaxKind) (p : Nat)
    (hp : headKind k = true → ∀ t, (toks.drop p).head? = some t → t.kind.isTrivia = false) :
    HInv toks (out ++ [.enter k]) p := by
  obtain ⟨f, d, hs, _⟩ := h
  refine ⟨headKind k && decide (0 < d), d + 1, ?_, ?_⟩
  · rw [scanFrom_snoc _ hs]; rfl
  · intro hf
    simp only [Bool.and_eq_true] at hf
    exact hp hf.1

theorem headKind_not_const {k : SyntaxKind} (h : headKind k = true) : (k == SyntaxKind.CONST) = false := by
  cases hk : k == SyntaxKind.CONST
  · rfl
  · rw [eq_of_beq hk] at h; cases h

/-- before the first `enter` only error steps have been emitted -/
def PE (b : B) : Prop := b.state = .pendingEnter → scanFrom (false, 0) b.out = some (false, 0)

theorem step_pe {toks : List RawTok} {b c : B} (s : Step) (h : PE b) (hs : step toks b s = .ok c) : PE c := by
  cases s with
  | token k n =>
    intro hc
    exfalso
    obtain ⟨d, hf, hs⟩ := step_token_ok.mp hs
    obtain ⟨_, _, rfl⟩ := doToken_ok_iff.mp hs
    simp only [emit] at hc
    rw [← (eatTrivias_quiet toks d).1.state, flushPending_state hf] at hc
    cases hc
  | enter k =>
    intro hc
    exfalso
    by_cases hb : b.state = .pendingEnter
    · rw [step_enter_pending toks k hb] at hs; cases hs; cases hc
    · rw [step_enter_eq _ _ _ hb] at hs
      exact enter_state_ne hs hc
  | exit =>
    obtain ⟨d, _, rfl⟩ := step_exit_ok.mp hs
    intro hc
    cases hc
  | error m =>
    rw [step_error_eq] at hs; cases hs
    intro hc
    have := h hc
    simp only [emit]
    rw [scanFrom_snoc _ this]; rfl

theorem enter_hinv {toks : List RawTok} {b c : B} {k : SyntaxKind} (h : HInvB toks b)
    (hs : enterBody toks b k = .ok c) : HInvB toks c := by
  obtain ⟨d, hf, e1, he, hs⟩ := enterBody_ok_iff.mp hs
  obtain ⟨hd, _⟩ := flushPending_hinv h hf
  have h1 := eatNTrivias_hinv _ _ _ hd he
  have hp1 := (eatNTrivias_state_pos he).2
  have henter : HInvB toks (emit e1 (.enter k)) := by
    simp only [emit]
    apply HInv.emit_enter h1
    intro hk t ht
    have hn : nAttachedTrivias k ((toks.drop d.pos).takeWhile (·.kind.isTrivia)).reverse = 0 := by
      simp [nAttachedTrivias, headKind_not_const hk]
    rw [hn, Nat.sub_zero] at hp1
    rw [hp1, ← List.drop_drop, drop_takeWhile_length] at ht
    have := List.head?_dropWhile_not (fun x : RawTok => x.kind.isTrivia) (toks.drop d.pos)
    rwa [ht] at this
  exact eatNTrivias_hinv _ _ _ henter hs

theorem step_hinv {toks : List RawTok} {b c : B} (s : Step) (h : HInvB toks b) (hpe : PE b)
    (hk : (match s with | .token k _ => !k.isTrivia | _ => true) = true)
    (hs : step toks b s = .ok c) : HInvB toks c := by
  cases s with
  | token k n =>
    obtain ⟨d, hf, hs⟩ := step_token_ok.mp hs
    obtain ⟨_, _, rfl⟩ := doToken_ok_iff.mp hs
    have hk' : k.isTrivia = false := by simpa using hk
    exact HInv.emit_reset (eatTrivias_hinv d (flushPending_hinv h hf).1) _ _
      (fun f d => ⟨d, by simp [scanStep, hk']⟩)
  | enter k =>
    by_cases hb : b.state = .pendingEnter
    · rw [step_enter_pending toks k hb] at hs; cases hs
      refine ⟨false, 1, ?_, fun hh => by cases hh⟩
      simp only [emit]
      rw [scanFrom_snoc _ (hpe hb)]; simp [scanStep]
    · rw [step_enter_eq _ _ _ hb] at hs
      exact enter_hinv h hs
  | exit =>
    obtain ⟨d, hf, rfl⟩ := step_exit_ok.mp hs
    exact (flushPending_hinv h hf).1
  | error m =>
    rw [step_error_eq] at hs; cases hs
    obtain ⟨f, d, hsc, hf⟩ := h
    refine ⟨f, d, ?_, hf⟩
    simp only [emit]
    rw [scanFrom_snoc _ hsc]; rfl

theorem steps_hinv {toks : List RawTok} (ss : List Step) {b c : B} (h : HInvB toks b) (hpe : PE b)
    (hk : tokenKindsOk ss = true) (hs : steps toks ss b = .ok c) : HInvB toks c := by
  induction ss generalizing b with
  | nil => simp only [steps] at hs; cases hs; exact h
  | cons s ss ih =>
    obtain ⟨d, h1, hs⟩ := steps_cons_ok.mp hs
    simp only [tokenKindsOk, List.all_cons, Bool.and_eq_true] at hk
    exact ih (step_hinv s h hpe hk.1 h1) (step_pe s hpe h1) hk.2 hs

theorem intersperse_scan {toks : List RawTok} {ss : List Step} {out : List StrStep} {eof : Bool}
    (hk : tokenKindsOk ss = true) (h : intersperseTrivia toks ss = .ok (out, eof)) :
    ∃ st, scanFrom (false, 0) out = some st := by
  obtain ⟨c, hb, _, rfl, _⟩ := intersperseTrivia_ok_iff.mp h
  have h0 : HInvB toks ({} : B) := ⟨false, 0, rfl, fun hh => by cases hh⟩
  obtain ⟨f, d, hsc, _⟩ := eatTrivias_hinv c (steps_hinv ss h0 (fun _ => rfl) hk hb)
  exact ⟨_, by rw [scanFrom_snoc _ hsc]; rfl⟩

mutual
def headOkT : Tree → Bool
  | .node k cs => (!headKind k || match cs with
      | c :: _ => !isTriviaLeaf c
      | [] => true) && headOkTL cs
  | .leaf .. => true
def headOkTL : List Tree → Bool
  | [] => true
  | c :: cs => headOkT c && headOkTL cs
end

def rootHeadOkT : Tree → Bool
  | .node _ cs => headOkTL cs
  | .leaf .. => true

theorem headOkTL_iff (l : List Tree) : headOkTL l = true ↔ ∀ c ∈ l, headOkT c = true := by
  induction l with
  | nil => simp [headOkTL]
  | cons a as ih => simp [headOkTL, ih]

/-- the non-root open nodes of a head kind have a non-trivia first child (if any yet) -/
def stackOk : List (SyntaxKind × List Tree) → Prop
  | [] => True
  | [_] => True
  | (k, cs) :: p2 :: ps =>
    (headKind k = true → ∀ c, cs.getLast? = some c → isTriviaLeaf c = false) ∧ stackOk (p2 :: ps)

/-- what the scan state `(f, d)` says about the tree builder's stack: `d` nodes are open, finished
children are `headOkT`, and `f` is set whenever the innermost open node is a fresh head-kind node
below the root -/
structure TG (tb : TB) (f : Bool) (d : Nat) : Prop where
  depth : d = tb.parents.length
  kids : ∀ p ∈ tb.parents, ∀ c ∈ p.2, headOkT c = true
  top : ∀ x ∈ tb.top, rootHeadOkT x = true
  stack : stackOk tb.parents
  fresh : ∀ k rest, tb.parents = (k, []) :: rest → rest ≠ [] → headKind k = true → f = true

theorem getLast?_cons_of_ne {α} (a : α) {l : List α} (h : l ≠ []) : (a :: l).getLast? = l.getLast? := by
  cases l with
  | nil => exact absurd rfl h
  | cons b t => simp [List.getLast?_cons_cons]

theorem TG.push {tb : TB} {f : Bool} {d : Nat} (h : TG tb f d) (x : Tree)
    (hx : tb.parents ≠ [] → headOkT x = true) (hr : tb.parents = [] → rootHeadOkT x = true)
    (hf : f = true → isTriviaLeaf x = false) : TG (tb.push x) false d := by
  unfold TB.push
  rcases hp : tb.parents with _ | ⟨⟨k0, cs0⟩, ps⟩
  · refine ⟨by rw [h.depth, hp], by simp, ?_, by simp [stackOk], by simp⟩
    intro y hy
    rcases List.mem_cons.mp hy with rfl | hy
    · exact hr hp
    · exact h.top y hy
  · have hx := hx (by rw [hp]; simp)
    refine ⟨by rw [h.depth, hp]; rfl, ?_, h.top, ?_, ?_⟩
    · intro p hp' c hc
      rcases List.mem_cons.mp hp' with rfl | hp'
      · rcases List.mem_cons.mp hc with rfl | hc
        · exact hx
        · exact h.kids (k0, cs0) (by rw [hp]; exact List.mem_cons_self) c hc
      · exact h.kids p (by rw [hp]; exact List.mem_cons_of_mem _ hp') c hc
    · have hst := h.stack
      rw [hp] at hst
      cases ps with
      | nil => simp [stackOk]
      | cons p2 ps2 =>
        simp only [stackOk] at hst ⊢
        refine ⟨?_, hst.2⟩
        intro hk0 c hc
        cases cs0 with
        | nil =>
          simp only [List.getLast?_singleton, Option.some.injEq] at hc
          subst hc
          exact hf (h.fresh k0 (p2 :: ps2) hp (by simp) hk0)
        | cons c0 cs0' =>
          rw [getLast?_cons_of_ne _ (by simp)] at hc
          exact hst.1 hk0 c hc
    · intro k1 rest hp1 _ _
      cases hp1

theorem tg_step {tb tb' : TB} {f f' : Bool} {d d' : Nat} (x : StrStep) (h : TG tb f d)
    (hs : scanStep (f, d) x = some (f', d')) (ht : tbStep tb x = .ok tb') : TG tb' f' d' := by
  cases x with
  | error m p =>
    simp only [scanStep, Option.some.injEq, Prod.mk.injEq] at hs
    simp only [tbStep] at ht
    cases ht
    obtain ⟨rfl, rfl⟩ := hs
    exact ⟨h.depth, h.kids, h.top, h.stack, h.fresh⟩
  | token k t =>
    simp only [scanStep] at hs
    split at hs
    · cases hs
    · rename_i hft
      simp only [Option.some.injEq, Prod.mk.injEq] at hs
      obtain ⟨rfl, rfl⟩ := hs
      simp only [tbStep] at ht
      cases ht
      exact h.push _ (fun _ => rfl) (fun _ => rfl) (fun hf => by simpa [hf, isTriviaLeaf] using hft)
  | enter k =>
    simp only [scanStep, Option.some.injEq, Prod.mk.injEq] at hs
    obtain ⟨rfl, rfl⟩ := hs
    simp only [tbStep] at ht
    cases ht
    refine ⟨by simp [h.depth], ?_, h.top, ?_, ?_⟩
    · intro p hp c hc
      simp only [List.mem_cons] at hp
      rcases hp with rfl | hp
      · cases hc
      · exact h.kids p hp c hc
    · cases hps : tb.parents with
      | nil => simp [stackOk]
      | cons p2 ps2 =>
        simp only [stackOk]
        exact ⟨(by intro _ c hc; cases hc), (by rw [← hps]; exact h.stack)⟩
    · intro k1 rest hp1 hrest hk1
      simp only [List.cons.injEq, Prod.mk.injEq] at hp1
      obtain ⟨⟨rfl, _⟩, rfl⟩ := hp1
      have : 0 < d := by
        rw [h.depth]; exact List.length_pos_iff.mpr hrest
      simp [hk1, this]
  | exit =>
    simp only [scanStep, Option.some.injEq, Prod.mk.injEq] at hs
    obtain ⟨rfl, rfl⟩ := hs
    simp only [tbStep] at ht
    rcases hp : tb.parents with _ | ⟨⟨k0, cs0⟩, ps⟩
    · rw [hp] at ht; cases ht
    · rw [hp] at ht
      simp only at ht
      cases ht
      have hall : headOkTL cs0.reverse = true := by
        rw [headOkTL_iff]; intro c hc
        exact h.kids (k0, cs0) (by rw [hp]; exact List.mem_cons_self) c (List.mem_reverse.mp hc)
      have hst := h.stack
      rw [hp] at hst
      -- the state with the node popped, seen right after an `enter`
      have hpop : TG ({ tb with parents := ps } : TB) true (d - 1) :=
        ⟨by simp [h.depth, hp], fun p hp' => h.kids p (by rw [hp]; exact List.mem_cons_of_mem _ hp'),
          h.top, by cases ps <;> simp_all [stackOk], fun _ _ _ _ _ => rfl⟩
      refine hpop.push _ ?_ (fun _ => hall) (fun _ => rfl)
      intro hps
      obtain ⟨p2, ps2, rfl⟩ := List.exists_cons_of_ne_nil hps
      simp only [stackOk] at hst
      simp only [headOkT, Bool.and_eq_true, Bool.or_eq_true, Bool.not_eq_true']
      refine ⟨?_, hall⟩
      cases hk0 : headKind k0
      · exact Or.inl rfl
      · right
        rcases hr : cs0.reverse with _ | ⟨c, r⟩
        · rfl
        · have : cs0.getLast? = some c := by
            rw [← List.head?_reverse, hr]; rfl
          simp only [Bool.not_eq_true']
          exact hst.1 hk0 c this
theorem tg_steps (out : List StrStep) {tb tb' : TB} {f : Bool} {d : Nat} {st : Bool × Nat}
    (h : TG tb f d) (hs : scanFrom (f, d) out = some st) (ht : tbSteps out tb = .ok tb') :
    TG tb' st.1 st.2 := by
  induction out generalizing tb f d with
  | nil =>
    simp only [scanFrom, List.foldlM_nil] at hs
    simp only [tbSteps] at ht
    cases ht
    cases hs
    exact h
  | cons x xs ih =>
    simp only [scanFrom, List.foldlM_cons] at hs
    obtain ⟨tb1, h2, ht⟩ := tbSteps_cons_ok.mp ht
    cases h1 : scanStep (f, d) x with
    | none => rw [h1] at hs; cases hs
    | some s1 =>
      rw [h1] at hs
      exact ih (tg_step x h h1 h2) hs ht

/-- **the builder's tree has no head-kind node (below the root) that starts with trivia** -/
theorem buildTree_rootHeadOkT {toks : List RawTok} {ss : List Step} {t : Tree} {e : List SynErr}
    {eof : Bool} (hk : tokenKindsOk ss = true) (h : buildTree toks ss = .ok (t, e, eof)) :
    rootHeadOkT t = true := by
  obtain ⟨out, r, hi, hr, hf⟩ := buildTree_ok_iff.mp h
  obtain ⟨st, hst⟩ := intersperse_scan hk hi
  have hg : TG ({} : TB) false 0 :=
    ⟨rfl, (by intro p hp; cases hp), (by intro x hx; cases hx), trivial, (by intro k rest hp; cases hp)⟩
  obtain ⟨k, cs, htop, rfl, _⟩ := tbFinish_ok_iff.mp hf
  exact (tg_steps out hg hst hr).top _ (by rw [htop]; exact List.mem_cons_self)

mutual
theorem headOk_ofTree : ∀ (t : Tree) (off : Nat), headOk (ofTree t off).1 = headOkT t
  | .leaf k txt, off => rfl
  | .node k cs, off => by
    simp only [ofTree, headOk, headOkT, headLocal, CNode.children]
    rw [headOkL_ofTrees cs off]
    congr 2
    cases cs with
    | nil => rfl
    | cons c cs' => simp only [ofTrees, isTriviaTok_ofTree]
theorem headOkL_ofTrees : ∀ (cs : List Tree) (off : Nat), headOkL (ofTrees cs off).1 = headOkTL cs
  | [], off => rfl
  | c :: cs, off => by
    simp only [ofTrees, headOkL, headOkTL]
    rw [headOk_ofTree c off, headOkL_ofTrees cs _]
end

theorem rootHeadOk_cnodeOf (t : Tree) : Oq3.C17Layout.rootHeadOk (cnodeOf t) = rootHeadOkT t := by
  cases t with
  | leaf k txt => rfl
  | node k cs =>
    simp only [cnodeOf, ofTree, Oq3.C17Layout.rootHeadOk, CNode.children, rootHeadOkT]
    exact headOkL_ofTrees cs 0

end Oq3.BuilderLayout
