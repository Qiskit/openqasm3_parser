/-
The semantic pass under a map of its input.

`Comm κ g x y`: running `y` from the mapped context `κ c` is running `x` from `c`, the final context
mapped by `κ` and the result by `g` (same outcome, panics included).  `Natural κ m`: `m` is a lawful
map of the typed AST (`Lemmas/AstMap.lean`) and the primitives of the context commute with `κ` when
text ranges and names are mapped as `m` maps them.  Then every function of the pass commutes:
`f (m.x a)` from `κ c` is `f a` from `c`, mapped — the non-recursive functions
(`Natural.lookupSymbol`, …), the 25 functions of the mutual block by induction on the fuel
(`Natural.all`) and, with the primitives of the top-level loop (`NaturalTop`), the whole analysis
(`NaturalTop.analyzeWith`).  Instances: erasing text ranges (`Props/C17.lean`), renaming identifiers
(`Props/C17Rename.lean`).
-/
import Oq3.Props.C06
import Oq3.Lemmas.AstMap

namespace Oq3.Sema
open Oq3.Types Oq3.Symbols Oq3.C06

structure Comm (κ : Ctx → Ctx) {α β} (g : α → β) (x : M α) (y : M β) : Prop where
  run : ∀ c, y (κ c) = (x c).map (fun r => (g r.1, κ r.2))

namespace Comm
variable {κ : Ctx → Ctx}

theorem bind {α α' β β'} {g : α → α'} {h : β → β'} {x : M α} {y : M α'} {f : α → M β} {f' : α' → M β'}
    (hx : Comm κ g x y) (hf : ∀ a, Comm κ h (f a) (f' (g a))) : Comm κ h (x >>= f) (y >>= f') := by
  refine ⟨fun c => ?_⟩
  show (StateT.bind y f') (κ c) = Except.map _ ((StateT.bind x f) c)
  unfold StateT.bind
  simp only [Bind.bind, Except.bind]
  rw [hx.run c]
  cases x c with
  | error e => rfl
  | ok p => obtain ⟨a, c1⟩ := p; exact (hf a).run c1

theorem pure {α β} {g : α → β} {a : α} {b : β} (h : g a = b) : Comm κ g (pure a) (pure b) := by
  refine ⟨fun c => ?_⟩; subst h; rfl

theorem pure_id {α} {a : α} : Comm κ id (Pure.pure a : M α) (Pure.pure a) := pure rfl

theorem fail {α β} {g : α → β} (site : String) : Comm κ g (Sema.fail site) (Sema.fail site) :=
  ⟨fun _ => rfl⟩

theorem throw {α β} {g : α → β} (o : Outcome) : Comm κ g (throw o : M α) (throw o : M β) :=
  ⟨fun _ => rfl⟩

theorem of_eq {α β} {g : α → β} {x : M α} {y y' : M β} (h : Comm κ g x y) (e : y = y') : Comm κ g x y' :=
  e ▸ h

theorem unwrap {α β} (g : α → β) (site : String) (o : Option α) :
    Comm κ g (Sema.unwrap site o) (Sema.unwrap site (o.map g)) := by
  cases o
  · exact fail _
  · exact pure rfl

theorem unwrap_id {α} (site : String) (o : Option α) : Comm κ id (Sema.unwrap site o) (Sema.unwrap site o) :=
  of_eq (unwrap id site o) (by rw [Option.map_id]; rfl)

theorem ite {α β} {g : α → β} (p : Prop) [Decidable p] {x x' : M α} {y y' : M β}
    (h1 : Comm κ g x y) (h2 : Comm κ g x' y') : Comm κ g (if p then x else x') (if p then y else y') := by
  split <;> assumption

theorem fail_bind {α α' β β'} {h : β → β'} (site : String) {f : α → M β} {f' : α' → M β'} :
    Comm κ h (Sema.fail site >>= f) (Sema.fail site >>= f') := ⟨fun _ => rfl⟩

theorem throw_bind {α α' β β'} {h : β → β'} (o : Outcome) {f : α → M β} {f' : α' → M β'} :
    Comm κ h ((MonadExcept.throw o : M α) >>= f) ((MonadExcept.throw o : M α') >>= f') := ⟨fun _ => rfl⟩

end Comm

open Oq3.Ast.Map.Lawful

structure Natural (κ : Ctx → Ctx) (m : Ast.Map) : Prop extends m.Lawful where
  insertError (k : SemanticErrorKind) (sp : Ast.Span) : Comm κ id (insertError k sp) (insertError k (m.span sp))
  enterScope (k : ScopeType) : Comm κ id (enterScope k) (enterScope k)
  exitScope : Comm κ id exitScope exitScope
  newBinding (n : String) (t : T) (sp : Ast.Span) :
    Comm κ id (newBinding n t sp) (newBinding (m.text n) t (m.span sp))
  tableLookup (n : String) : Comm κ id (tableLookup n) (tableLookup (m.text n))
  currentScopeType : Comm κ id currentScopeType currentScopeType
  insertConstValue (id' : Nat) (v : TExpr) : Comm κ id (insertConstValue id' v) (insertConstValue id' v)
  getConstValue (id' : Nat) : Comm κ id (getConstValue id') (getConstValue id')
  pushAnnotation (a : String) : Comm κ id (pushAnnotation a) (pushAnnotation a)

set_option hygiene false in
/-- the laws of `m`, on constructors and projections.  They are named as constants, with `h.toLawful`
(`h : Natural κ m` is in scope) to discharge their hypothesis: building the set from a hundred
terms `h.x` at every call costs more than the rewriting. -/
macro "comm_simp" : tactic => `(tactic| simp only [
  expr_prefixExpr, expr_parenExpr, expr_binExpr, expr_literal, expr_timingLiteral, expr_identifier,
  expr_hardwareQubit, expr_rangeExpr, expr_indexExpr, expr_indexedIdentifier, expr_measureExpression,
  expr_returnExpr, expr_castExpression, expr_callExpr, expr_gateCallExpr, expr_gPhaseCallExpr,
  expr_modifiedGateCallExpr, expr_unsupported, parenExpr_mk, rangeExpr_mk, designator_mk, scalarType_mk,
  expressionList_mk, setExpression_mk, indexKind_setExpression, indexKind_expressionList, indexOperator_mk,
  indexedIdentifier_mk, gateOperand_hardwareQubit, gateOperand_identifier, gateOperand_indexedIdentifier,
  qubitList_mk, argList_mk, gateCallExpr_mk, gPhaseCallExpr_mk, modifier_invModifier, modifier_powModifier,
  modifier_ctrlModifier, modifier_negCtrlModifier, paramType_scalarType, paramType_arrayRefType, stmt_ifStmt,
  stmt_whileStmt, stmt_forStmt, stmt_switchCaseStmt, stmt_classicalDeclarationStatement,
  stmt_ioDeclarationStatement, stmt_quantumDeclarationStatement, stmt_assignmentStmt, stmt_breakStmt,
  stmt_continueStmt, stmt_endStmt, stmt_gate, stmt_defStmt, stmt_barrier, stmt_delayStmt, stmt_reset,
  stmt_includeStmt, stmt_exprStmt, stmt_versionString, stmt_pragmaStatement, stmt_annotationStatement,
  stmt_aliasDeclarationStatement, stmt_notImpl, blockExpr_mk, blockOrStmt_blockExpr, blockOrStmt_stmt,
  accBos_ok, accBos_panicked, caseExpr_mk, parenExpr_span, rangeExpr_span, designator_span,
  indexedIdentifier_span, qubitList_span, argList_span, gateCallExpr_span, gPhaseCallExpr_span,
  gateOperand_span, expr_span, name_text, name_span, identifier_text, identifier_span, hardwareQubit_text,
  hardwareQubit_span, param_text, param_span, paramList_params, filePath_toString, literal_kind, literal_span,
  typedParam_paramType, typedParam_old, typedParam_name, typedParam_span, typedParamList_params,
  returnSignature_st, qubitType_designator, forIterable_set, forIterable_range, forIterable_expr,
  h.toLawful, hardwareQubitToAsgTexpr, Option.map_some, Option.map_none, List.map_cons, List.map_nil])

/-- closes `f (m.x a) = f b` where `b` is `m.x a` with the laws of `m` applied -/
macro "comm_eq" : tactic => `(tactic| first | with_reducible rfl | (comm_simp <;> rfl) | rfl)

set_option hygiene false in
/-- the non-recursive functions, by the lemmas below; `h : Natural κ m` (or `NaturalTop κ m`) is in
scope.  Where the argument is not literally `m.x a`, `comm_eq` shows that it is one. -/
macro "comm_lemma" : tactic => `(tactic| first
  | with_reducible apply h.withScope
  | with_reducible apply h.inGlobalScope
  | with_reducible apply h.lookupSymbol
  | with_reducible apply h.lookupGateSymbol
  | with_reducible apply h.notImpl
  | with_reducible apply Comm.binaryOpToAsgType
  | with_reducible apply Comm.intNumberValue
  | with_reducible apply Comm.negativeFloatNumberToAsgType
  | with_reducible apply Comm.negativeIntToAsgType
  | ((with_reducible apply Comm.of_eq (h.literalToAsgTexpr _)); comm_eq)
  | ((with_reducible apply Comm.of_eq (h.lookupIdentifier _)); comm_eq)
  | ((with_reducible apply Comm.of_eq (h.designatorToAsg _)); comm_eq)
  | ((with_reducible apply Comm.of_eq (h.scalarTypeToType _ _)); comm_eq)
  | ((with_reducible apply Comm.of_eq (h.paramTypeToType _ _)); comm_eq)
  | with_reducible apply h.declareClassicalHelper
  | ((with_reducible apply Comm.of_eq (h.ioDeclarationStatementToAsgStmt _ _ _ _)); comm_eq)
  | ((with_reducible apply Comm.of_eq (h.bindParams _ _)); comm_eq)
  | ((with_reducible apply Comm.of_eq (h.bindParameterList _ _)); comm_eq)
  | ((with_reducible apply Comm.of_eq (h.bindTypedParams _)); comm_eq)
  | ((with_reducible apply Comm.of_eq (h.bindTypedParameterList _)); comm_eq)
  | with_reducible apply h.notGlobalCheck
  | ((with_reducible apply Comm.of_eq (h.gateNotGlobalCheck _)); comm_eq)
  | with_reducible apply h.returnGlobalCheck
  | with_reducible apply h.delayDurationCheck
  | ((with_reducible apply Comm.of_eq (h.quantumBinopCheck _ _ _ _)); comm_eq)
  | with_reducible apply h.gateOperandIdentCheck
  | with_reducible apply h.gateOperandIndexedCheck
  | ((with_reducible apply Comm.of_eq (h.gateCallCheck _ _ _ _ _ _ _ _)); comm_eq)
  | ((with_reducible apply Comm.of_eq (h.defArityCheck _ _ _)); comm_eq)
  | with_reducible apply h.mutateConstCheck
  | with_reducible apply h.annotationsIsEmpty
  | with_reducible apply h.takeAnnotations
  | with_reducible apply h.insertStmt)

set_option hygiene false in
/-- the induction hypothesis `ih : AllComm κ m fuel` -/
macro "comm_ih" : tactic => `(tactic| first
  | ((with_reducible apply Comm.of_eq (ih.stmtToAsgStmt _)); comm_eq)
  | ((with_reducible apply Comm.of_eq (ih.caseExprsLoop _)); comm_eq)
  | ((with_reducible apply Comm.of_eq (ih.exprStmtToAsgStmt _)); comm_eq)
  | ((with_reducible apply Comm.of_eq (ih.modifiersLoop _)); comm_eq)
  | ((with_reducible apply Comm.of_eq (ih.parenExprToAsgTexpr _)); comm_eq)
  | ((with_reducible apply Comm.of_eq (ih.exprToAsgTexpr _)); comm_eq)
  | ((with_reducible apply Comm.of_eq (ih.setExpressionToAsgType _)); comm_eq)
  | ((with_reducible apply Comm.of_eq (ih.rangeExpressionToAsgType _)); comm_eq)
  | ((with_reducible apply Comm.of_eq (ih.gateCallExprToAsgStmt _ _)); comm_eq)
  | ((with_reducible apply Comm.of_eq (ih.callExprToAsgTexpr _ _ _)); comm_eq)
  | ((with_reducible apply Comm.of_eq (ih.gateOperandToAsgTexpr _)); comm_eq)
  | ((with_reducible apply Comm.of_eq (ih.indexOperatorToAsgType _)); comm_eq)
  | ((with_reducible apply Comm.of_eq (ih.expressionListToAsgType _)); comm_eq)
  | ((with_reducible apply Comm.of_eq (ih.qubitListToAsgTexpr _)); comm_eq)
  | ((with_reducible apply Comm.of_eq (ih.gateOperandsLoop _)); comm_eq)
  | ((with_reducible apply Comm.of_eq (ih.expressionListToAsgTexpr _)); comm_eq)
  | ((with_reducible apply Comm.of_eq (ih.exprsLoop _)); comm_eq)
  | ((with_reducible apply Comm.of_eq (ih.blockExprToAsgStmtList _)); comm_eq)
  | ((with_reducible apply Comm.of_eq (ih.stmtsLoop _)); comm_eq)
  | ((with_reducible apply Comm.of_eq (ih.blockExprToAsgType _)); comm_eq)
  | ((with_reducible apply Comm.of_eq (ih.blockOrStmtToAsgType _)); comm_eq)
  | ((with_reducible apply Comm.of_eq (ih.classicalDeclarationStatementToAsgStmt _ _ _ _ _ _)); comm_eq)
  | ((with_reducible apply Comm.of_eq (ih.assignmentStmtToAsgStmt _ _ _ _)); comm_eq)
  | ((with_reducible apply Comm.of_eq (ih.indexedIdentifierToAsgType _)); comm_eq)
  | ((with_reducible apply Comm.of_eq (ih.indexOperatorsLoop _)); comm_eq))

set_option hygiene false in
/-- one step of a commutation proof; `h : Natural κ m` is in scope.  Sequencing comes first (most
steps are a `>>=` or its binder): `Comm.bind` leaves the map `g` of the intermediate result open, and
the rule that closes the first part fixes it (`unwrap` to the map of its argument, all others to
`id`).  Then the rules for single functions, none of which fits a `>>=`; rewriting by the laws of
`m` and case splits only when nothing else applies.  `assumption` is how a fact about a part enters:
the caller states it with `have` before `comm` (a `Comm` hypothesis of the lemma, the induction
hypothesis of a list recursion). -/
macro "comm_step" : tactic => `(tactic| first
  | intro _
  | with_reducible apply Comm.fail_bind
  | with_reducible apply Comm.throw_bind
  | with_reducible apply Comm.bind
  | with_reducible apply Comm.pure_id
  | ((with_reducible apply Comm.pure); rfl)
  | with_reducible apply Comm.fail
  | with_reducible apply Comm.throw
  | with_reducible apply Comm.unwrap_id
  | with_reducible apply Comm.unwrap
  | with_reducible apply h.insertError
  | with_reducible apply h.enterScope
  | with_reducible apply h.exitScope
  | with_reducible apply h.newBinding
  | with_reducible apply h.tableLookup
  | with_reducible apply h.currentScopeType
  | with_reducible apply h.insertConstValue
  | with_reducible apply h.getConstValue
  | with_reducible apply h.pushAnnotation
  | assumption
  | dsimp only [id_eq]
  | comm_lemma
  | comm_ih
  | apply Comm.ite
  | comm_simp
  | (cases ‹Ast.ForIterable› <;> try comm_simp)
  | (cases ‹Ast.ReturnSignature› <;> try comm_simp)
  | (split <;> try comm_simp))

macro "comm" : tactic => `(tactic| ((try comm_simp); repeat' comm_step))

namespace Comm
variable {κ : Ctx → Ctx}

theorem binaryOpToAsgType (op : Ast.BinaryOp) : Comm κ id (binaryOpToAsgType op) (binaryOpToAsgType op) := by
  unfold Sema.binaryOpToAsgType; comm

theorem intNumberValue (site text : String) : Comm κ id (intNumberValue site text) (intNumberValue site text) := by
  unfold Sema.intNumberValue; comm

theorem negativeFloatNumberToAsgType (fmt : Option String) :
    Comm κ id (negativeFloatNumberToAsgType fmt) (negativeFloatNumberToAsgType fmt) := by
  unfold Sema.negativeFloatNumberToAsgType; comm

theorem negativeIntToAsgType (text : String) : Comm κ id (negativeIntToAsgType text) (negativeIntToAsgType text) := by
  unfold Sema.negativeIntToAsgType; comm

end Comm

/- The theorems of this namespace (and of `NaturalTop`) bear the names of the functions of the pass, so
inside it a bare `lookupSymbol` is the theorem: the functions are written `Sema.lookupSymbol`. -/
namespace Natural
variable {κ : Ctx → Ctx} {m : Ast.Map} (h : Natural κ m)
include h

theorem withScope {α β} {g : α → β} (k : ScopeType) {x : M α} {y : M β} (hx : Comm κ g x y) :
    Comm κ g (withScope k x) (withScope k y) := by
  unfold Sema.withScope
  exact Comm.bind (h.enterScope k) fun _ => Comm.bind hx fun _ => Comm.bind h.exitScope fun _ => Comm.pure rfl

theorem inGlobalScope : Comm κ id inGlobalScope inGlobalScope := by
  unfold Sema.inGlobalScope; comm

theorem lookupSymbol (n : String) (sp : Ast.Span) :
    Comm κ id (lookupSymbol n sp) (lookupSymbol (m.text n) (m.span sp)) := by
  unfold Sema.lookupSymbol; comm

theorem lookupGateSymbol (n : String) (sp : Ast.Span) :
    Comm κ id (lookupGateSymbol n sp) (lookupGateSymbol (m.text n) (m.span sp)) := by
  unfold Sema.lookupGateSymbol; comm

theorem redeclLoop (sp : Ast.Span) (ns : List String) :
    Comm κ id (redeclLoop sp ns) (redeclLoop (m.span sp) ns) := by
  induction ns with
  | nil => unfold Sema.redeclLoop; comm
  | cons n ns ih => unfold Sema.redeclLoop; comm

theorem notImpl (sp : Ast.Span) : Comm κ id (notImpl sp) (notImpl (m.span sp)) := by
  unfold Sema.notImpl; comm

theorem literalToAsgTexpr (l : Ast.Literal) :
    Comm κ id (literalToAsgTexpr l) (literalToAsgTexpr (m.literal l)) := by
  unfold Sema.literalToAsgTexpr
  comm

theorem lookupIdentifier (i : Ast.Identifier) :
    Comm κ id (lookupIdentifier i) (lookupIdentifier (m.identifier i)) := by
  unfold Sema.lookupIdentifier; comm

theorem getAstDesignatorExpression_map (d : Option Ast.Designator) :
    getAstDesignatorExpression (d.map m.designator) = (getAstDesignatorExpression d).map m.expr := by
  rcases d with _ | ⟨sp, e⟩ <;>
    simp only [Option.map_some, Option.map_none, h.designator_mk, getAstDesignatorExpression]

theorem designatorToAsg (d : Option Ast.Designator) :
    Comm κ id (designatorToAsg d) (designatorToAsg (d.map m.designator)) := by
  unfold Sema.designatorToAsg
  rw [h.getAstDesignatorExpression_map]
  rcases getAstDesignatorExpression d with _ | e
  · comm
  · cases e <;> comm

theorem scalarTypeToType (st : Ast.ScalarType) (b : Bool) :
    Comm κ id (scalarTypeToType st b) (scalarTypeToType (m.scalarType st) b) := by
  unfold Sema.scalarTypeToType
  rcases st with ⟨sp, k, d, _ | ⟨sp', k', d', i'⟩⟩ <;> simp only [h.scalarType_mk, Option.map_some, Option.map_none] <;> comm

theorem paramTypeToType (pt : Ast.ParamType) (b : Bool) :
    Comm κ id (paramTypeToType pt b) (paramTypeToType (m.paramType pt) b) := by
  unfold Sema.paramTypeToType
  cases pt <;> simp only [h.paramType_scalarType, h.paramType_arrayRefType] <;> comm

theorem declareClassicalHelper (id' : SymbolIdResult) (i : Option TExpr) :
    Comm κ id (declareClassicalHelper id' i) (declareClassicalHelper id' i) := by
  unfold Sema.declareClassicalHelper; comm

theorem ioDeclarationStatementToAsgStmt (a : Bool) (st : Option Ast.ScalarType) (n : Option Ast.Name) (i : Bool) :
    Comm κ id (ioDeclarationStatementToAsgStmt a st n i)
      (ioDeclarationStatementToAsgStmt a (st.map m.scalarType) (n.map m.name) i) := by
  unfold Sema.ioDeclarationStatementToAsgStmt; comm

theorem bindParams (t : T) (ps : List Ast.Param) :
    Comm κ id (bindParams t ps) (bindParams t (ps.map m.param)) := by
  induction ps with
  | nil => unfold Sema.bindParams; comm
  | cons p ps ih => simp only [List.map_cons]; unfold Sema.bindParams; comm

theorem bindParameterList (l : Option Ast.ParamList) (t : T) :
    Comm κ id (bindParameterList l t) (bindParameterList (l.map m.paramList) t) := by
  unfold Sema.bindParameterList
  cases l <;> simp only [Option.map_some, Option.map_none] <;> comm

theorem bindTypedParams (ps : List Ast.TypedParam) :
    Comm κ id (bindTypedParams ps) (bindTypedParams (ps.map m.typedParam)) := by
  induction ps with
  | nil => unfold Sema.bindTypedParams; comm
  | cons p ps ih =>
    obtain ⟨sp, pt, old, nm⟩ := p
    simp only [List.map_cons]; unfold Sema.bindTypedParams
    cases pt <;> simp only [h.typedParam_paramType, h.typedParam_old, h.typedParam_name, h.typedParam_span,
      Option.map_some, Option.map_none] <;> comm

theorem bindTypedParameterList (l : Option Ast.TypedParamList) :
    Comm κ id (bindTypedParameterList l) (bindTypedParameterList (l.map m.typedParamList)) := by
  unfold Sema.bindTypedParameterList
  cases l <;> simp only [Option.map_some, Option.map_none] <;> comm

theorem notGlobalCheck (sp : Ast.Span) : Comm κ id (notGlobalCheck sp) (notGlobalCheck (m.span sp)) := by
  unfold Sema.notGlobalCheck; comm

theorem gateNotGlobalCheck (n : Option Ast.Name) :
    Comm κ id (gateNotGlobalCheck n) (gateNotGlobalCheck (n.map m.name)) := by
  unfold Sema.gateNotGlobalCheck; comm

theorem returnGlobalCheck (sp : Ast.Span) : Comm κ id (returnGlobalCheck sp) (returnGlobalCheck (m.span sp)) := by
  unfold Sema.returnGlobalCheck; comm

theorem delayDurationCheck (d : TExpr) (sp : Ast.Span) :
    Comm κ id (delayDurationCheck d sp) (delayDurationCheck d (m.span sp)) := by
  unfold Sema.delayDurationCheck; comm

theorem quantumBinopCheck (l r : TExpr) (lhs rhs : Option Ast.Expr) :
    Comm κ id (quantumBinopCheck l r lhs rhs) (quantumBinopCheck l r (lhs.map m.expr) (rhs.map m.expr)) := by
  unfold Sema.quantumBinopCheck; comm

theorem gateOperandIdentCheck (t : T) (sp : Ast.Span) :
    Comm κ id (gateOperandIdentCheck t sp) (gateOperandIdentCheck t (m.span sp)) := by
  unfold Sema.gateOperandIdentCheck; comm

theorem gateOperandIndexedCheck (t : T) (sp : Ast.Span) :
    Comm κ id (gateOperandIndexedCheck t sp) (gateOperandIndexedCheck t (m.span sp)) := by
  unfold Sema.gateOperandIndexedCheck; comm

theorem gateCallCheck (sp : Ast.Span) (ql : Option Ast.QubitList) (al : Option Ast.ArgList)
    (g : Ast.Identifier) (r : SymbolIdResult) (t : T) (np nq : Nat) :
    Comm κ id (gateCallCheck sp ql al g r t np nq)
      (gateCallCheck (m.span sp) (ql.map m.qubitList) (al.map m.argList) (m.identifier g) r t np nq) := by
  unfold Sema.gateCallCheck; comm

theorem defArityCheck (e n : Nat) (al : Option Ast.ArgList) :
    Comm κ id (defArityCheck e n al) (defArityCheck e n (al.map m.argList)) := by
  unfold Sema.defArityCheck; comm

theorem mutateConstCheck (ok : Bool) (t : T) (sp : Ast.Span) :
    Comm κ id (mutateConstCheck ok t sp) (mutateConstCheck ok t (m.span sp)) := by
  unfold Sema.mutateConstCheck; comm

structure AllComm (κ : Ctx → Ctx) (m : Ast.Map) (fuel : Nat) : Prop where
  stmtToAsgStmt : ∀ (s : Ast.Stmt), Comm κ id (Oq3.Sema.stmtToAsgStmt fuel s) (Oq3.Sema.stmtToAsgStmt fuel (m.stmt s))
  caseExprsLoop : ∀ (cs : List Ast.CaseExpr), Comm κ id (Oq3.Sema.caseExprsLoop fuel cs) (Oq3.Sema.caseExprsLoop fuel (cs.map m.caseExpr))
  exprStmtToAsgStmt : ∀ (e : Option Ast.Expr), Comm κ id (Oq3.Sema.exprStmtToAsgStmt fuel e) (Oq3.Sema.exprStmtToAsgStmt fuel (e.map m.expr))
  modifiersLoop : ∀ (ms : List Ast.Modifier), Comm κ id (Oq3.Sema.modifiersLoop fuel ms) (Oq3.Sema.modifiersLoop fuel (ms.map m.modifier))
  parenExprToAsgTexpr : ∀ (p : Ast.ParenExpr), Comm κ id (Oq3.Sema.parenExprToAsgTexpr fuel p) (Oq3.Sema.parenExprToAsgTexpr fuel (m.parenExpr p))
  exprToAsgTexpr : ∀ (e : Option Ast.Expr), Comm κ id (Oq3.Sema.exprToAsgTexpr fuel e) (Oq3.Sema.exprToAsgTexpr fuel (e.map m.expr))
  setExpressionToAsgType : ∀ (s : Ast.SetExpression), Comm κ id (Oq3.Sema.setExpressionToAsgType fuel s) (Oq3.Sema.setExpressionToAsgType fuel (m.setExpression s))
  rangeExpressionToAsgType : ∀ (r : Ast.RangeExpr), Comm κ id (Oq3.Sema.rangeExpressionToAsgType fuel r) (Oq3.Sema.rangeExpressionToAsgType fuel (m.rangeExpr r))
  gateCallExprToAsgStmt : ∀ (g : Ast.GateCallExpr) (ms : List GateModifier), Comm κ id (Oq3.Sema.gateCallExprToAsgStmt fuel g ms) (Oq3.Sema.gateCallExprToAsgStmt fuel (m.gateCallExpr g) ms)
  callExprToAsgTexpr : ∀ (sp : Ast.Span) (al : Option Ast.ArgList) (i : Option Ast.Identifier), Comm κ id (Oq3.Sema.callExprToAsgTexpr fuel sp al i) (Oq3.Sema.callExprToAsgTexpr fuel (m.span sp) (al.map m.argList) (i.map m.identifier))
  gateOperandToAsgTexpr : ∀ (g : Ast.GateOperand), Comm κ id (Oq3.Sema.gateOperandToAsgTexpr fuel g) (Oq3.Sema.gateOperandToAsgTexpr fuel (m.gateOperand g))
  indexOperatorToAsgType : ∀ (i : Ast.IndexOperator), Comm κ id (Oq3.Sema.indexOperatorToAsgType fuel i) (Oq3.Sema.indexOperatorToAsgType fuel (m.indexOperator i))
  expressionListToAsgType : ∀ (el : Ast.ExpressionList), Comm κ id (Oq3.Sema.expressionListToAsgType fuel el) (Oq3.Sema.expressionListToAsgType fuel (m.expressionList el))
  qubitListToAsgTexpr : ∀ (ql : Option Ast.QubitList), Comm κ id (Oq3.Sema.qubitListToAsgTexpr fuel ql) (Oq3.Sema.qubitListToAsgTexpr fuel (ql.map m.qubitList))
  gateOperandsLoop : ∀ (gs : List Ast.GateOperand), Comm κ id (Oq3.Sema.gateOperandsLoop fuel gs) (Oq3.Sema.gateOperandsLoop fuel (gs.map m.gateOperand))
  expressionListToAsgTexpr : ∀ (el : Ast.ExpressionList), Comm κ id (Oq3.Sema.expressionListToAsgTexpr fuel el) (Oq3.Sema.expressionListToAsgTexpr fuel (m.expressionList el))
  exprsLoop : ∀ (es : List Ast.Expr), Comm κ id (Oq3.Sema.exprsLoop fuel es) (Oq3.Sema.exprsLoop fuel (es.map m.expr))
  blockExprToAsgStmtList : ∀ (b : Ast.BlockExpr), Comm κ id (Oq3.Sema.blockExprToAsgStmtList fuel b) (Oq3.Sema.blockExprToAsgStmtList fuel (m.blockExpr b))
  stmtsLoop : ∀ (ss : List Ast.Stmt), Comm κ id (Oq3.Sema.stmtsLoop fuel ss) (Oq3.Sema.stmtsLoop fuel (ss.map m.stmt))
  blockExprToAsgType : ∀ (b : Ast.BlockExpr), Comm κ id (Oq3.Sema.blockExprToAsgType fuel b) (Oq3.Sema.blockExprToAsgType fuel (m.blockExpr b))
  blockOrStmtToAsgType : ∀ (b : Ast.BlockOrStmt), Comm κ id (Oq3.Sema.blockOrStmtToAsgType fuel b) (Oq3.Sema.blockOrStmtToAsgType fuel (m.blockOrStmt b))
  classicalDeclarationStatementToAsgStmt : ∀ (sp : Ast.Span) (a : Bool) (st : Option Ast.ScalarType) (k : Bool) (n : Option Ast.Name) (e : Option Ast.Expr), Comm κ id (Oq3.Sema.classicalDeclarationStatementToAsgStmt fuel sp a st k n e) (Oq3.Sema.classicalDeclarationStatementToAsgStmt fuel (m.span sp) a (st.map m.scalarType) k (n.map m.name) (e.map m.expr))
  assignmentStmtToAsgStmt : ∀ (sp : Ast.Span) (i : Option Ast.Identifier) (rhs : Option Ast.Expr) (ii : Option Ast.IndexedIdentifier), Comm κ id (Oq3.Sema.assignmentStmtToAsgStmt fuel sp i rhs ii) (Oq3.Sema.assignmentStmtToAsgStmt fuel (m.span sp) (i.map m.identifier) (rhs.map m.expr) (ii.map m.indexedIdentifier))
  indexedIdentifierToAsgType : ∀ (ii : Ast.IndexedIdentifier), Comm κ id (Oq3.Sema.indexedIdentifierToAsgType fuel ii) (Oq3.Sema.indexedIdentifierToAsgType fuel (m.indexedIdentifier ii))
  indexOperatorsLoop : ∀ (ixs : List Ast.IndexOperator), Comm κ id (Oq3.Sema.indexOperatorsLoop fuel ixs) (Oq3.Sema.indexOperatorsLoop fuel (ixs.map m.indexOperator))

theorem stmtToAsgStmt_step {fuel : Nat} (ih : AllComm κ m fuel) (s : Ast.Stmt) :
    Comm κ id (Oq3.Sema.stmtToAsgStmt (fuel + 1) s) (Oq3.Sema.stmtToAsgStmt (fuel + 1) (m.stmt s)) := by
  cases s <;> (comm_simp; simp only [Oq3.Sema.stmtToAsgStmt, Sema.withScope]; comm)

theorem caseExprsLoop_step {fuel : Nat} (ih : AllComm κ m fuel) (cs : List Ast.CaseExpr) :
    Comm κ id (Oq3.Sema.caseExprsLoop (fuel + 1) cs) (Oq3.Sema.caseExprsLoop (fuel + 1) (cs.map m.caseExpr)) := by
  rcases cs with _ | ⟨x, rest⟩ <;> simp only [List.map_cons, List.map_nil] <;> (unfold Oq3.Sema.caseExprsLoop; comm)

theorem exprStmtToAsgStmt_step {fuel : Nat} (ih : AllComm κ m fuel) (e : Option Ast.Expr) :
    Comm κ id (Oq3.Sema.exprStmtToAsgStmt (fuel + 1) e) (Oq3.Sema.exprStmtToAsgStmt (fuel + 1) (e.map m.expr)) := by
  rcases e with _ | e
  · unfold Oq3.Sema.exprStmtToAsgStmt; comm
  cases e <;> (try cases ‹Ast.GPhaseCallExpr›) <;> (try cases ‹Option Ast.GateCallExpr›) <;>
    ((try comm_simp); unfold Oq3.Sema.exprStmtToAsgStmt; comm)

theorem modifiersLoop_step {fuel : Nat} (ih : AllComm κ m fuel) (ms : List Ast.Modifier) :
    Comm κ id (Oq3.Sema.modifiersLoop (fuel + 1) ms) (Oq3.Sema.modifiersLoop (fuel + 1) (ms.map m.modifier)) := by
  rcases ms with _ | ⟨x, rest⟩ <;> simp only [List.map_cons, List.map_nil] <;> (unfold Oq3.Sema.modifiersLoop; comm)

theorem parenExprToAsgTexpr_step {fuel : Nat} (ih : AllComm κ m fuel) (p : Ast.ParenExpr) :
    Comm κ id (Oq3.Sema.parenExprToAsgTexpr (fuel + 1) p) (Oq3.Sema.parenExprToAsgTexpr (fuel + 1) (m.parenExpr p)) := by
  unfold Oq3.Sema.parenExprToAsgTexpr
  comm

theorem exprToAsgTexpr_step {fuel : Nat} (ih : AllComm κ m fuel) (e : Option Ast.Expr) :
    Comm κ id (Oq3.Sema.exprToAsgTexpr (fuel + 1) e) (Oq3.Sema.exprToAsgTexpr (fuel + 1) (e.map m.expr)) := by
  rcases e with _ | e
  · unfold Oq3.Sema.exprToAsgTexpr; comm
  cases e
  case prefixExpr sp op operand =>
    rcases operand with _ | o
    · simp only [Option.map_some, Option.map_none, h.expr_prefixExpr]; unfold Oq3.Sema.exprToAsgTexpr; comm
    · cases o <;> ((try comm_simp); unfold Oq3.Sema.exprToAsgTexpr; comm)
  all_goals (try cases ‹Ast.UnsupportedExprKind›)
  all_goals ((try comm_simp); unfold Oq3.Sema.exprToAsgTexpr; comm)

theorem setExpressionToAsgType_step {fuel : Nat} (ih : AllComm κ m fuel) (s : Ast.SetExpression) :
    Comm κ id (Oq3.Sema.setExpressionToAsgType (fuel + 1) s) (Oq3.Sema.setExpressionToAsgType (fuel + 1) (m.setExpression s)) := by
  unfold Oq3.Sema.setExpressionToAsgType
  comm

theorem rangeExpressionToAsgType_step {fuel : Nat} (ih : AllComm κ m fuel) (r : Ast.RangeExpr) :
    Comm κ id (Oq3.Sema.rangeExpressionToAsgType (fuel + 1) r) (Oq3.Sema.rangeExpressionToAsgType (fuel + 1) (m.rangeExpr r)) := by
  unfold Oq3.Sema.rangeExpressionToAsgType
  comm

theorem gateCallExprToAsgStmt_step {fuel : Nat} (ih : AllComm κ m fuel) (g : Ast.GateCallExpr) (ms : List GateModifier) :
    Comm κ id (Oq3.Sema.gateCallExprToAsgStmt (fuel + 1) g ms) (Oq3.Sema.gateCallExprToAsgStmt (fuel + 1) (m.gateCallExpr g) ms) := by
  unfold Oq3.Sema.gateCallExprToAsgStmt
  comm

theorem callExprToAsgTexpr_step {fuel : Nat} (ih : AllComm κ m fuel) (sp : Ast.Span) (al : Option Ast.ArgList) (i : Option Ast.Identifier) :
    Comm κ id (Oq3.Sema.callExprToAsgTexpr (fuel + 1) sp al i) (Oq3.Sema.callExprToAsgTexpr (fuel + 1) (m.span sp) (al.map m.argList) (i.map m.identifier)) := by
  unfold Oq3.Sema.callExprToAsgTexpr
  comm

theorem gateOperandToAsgTexpr_step {fuel : Nat} (ih : AllComm κ m fuel) (g : Ast.GateOperand) :
    Comm κ id (Oq3.Sema.gateOperandToAsgTexpr (fuel + 1) g) (Oq3.Sema.gateOperandToAsgTexpr (fuel + 1) (m.gateOperand g)) := by
  unfold Oq3.Sema.gateOperandToAsgTexpr
  comm

theorem indexOperatorToAsgType_step {fuel : Nat} (ih : AllComm κ m fuel) (i : Ast.IndexOperator) :
    Comm κ id (Oq3.Sema.indexOperatorToAsgType (fuel + 1) i) (Oq3.Sema.indexOperatorToAsgType (fuel + 1) (m.indexOperator i)) := by
  unfold Oq3.Sema.indexOperatorToAsgType
  comm

/- `omit h`: this function calls no primitive of the context and reads no field of its argument, so
`comm` does not use `h`, and `all` calls the lemma without `h.`; likewise for five more below. -/
omit h in
theorem expressionListToAsgType_step {fuel : Nat} (ih : AllComm κ m fuel) (el : Ast.ExpressionList) :
    Comm κ id (Oq3.Sema.expressionListToAsgType (fuel + 1) el) (Oq3.Sema.expressionListToAsgType (fuel + 1) (m.expressionList el)) := by
  unfold Oq3.Sema.expressionListToAsgType
  comm

theorem qubitListToAsgTexpr_step {fuel : Nat} (ih : AllComm κ m fuel) (ql : Option Ast.QubitList) :
    Comm κ id (Oq3.Sema.qubitListToAsgTexpr (fuel + 1) ql) (Oq3.Sema.qubitListToAsgTexpr (fuel + 1) (ql.map m.qubitList)) := by
  unfold Oq3.Sema.qubitListToAsgTexpr
  comm

omit h in
theorem gateOperandsLoop_step {fuel : Nat} (ih : AllComm κ m fuel) (gs : List Ast.GateOperand) :
    Comm κ id (Oq3.Sema.gateOperandsLoop (fuel + 1) gs) (Oq3.Sema.gateOperandsLoop (fuel + 1) (gs.map m.gateOperand)) := by
  rcases gs with _ | ⟨x, rest⟩ <;> simp only [List.map_cons, List.map_nil] <;> (unfold Oq3.Sema.gateOperandsLoop; comm)

theorem expressionListToAsgTexpr_step {fuel : Nat} (ih : AllComm κ m fuel) (el : Ast.ExpressionList) :
    Comm κ id (Oq3.Sema.expressionListToAsgTexpr (fuel + 1) el) (Oq3.Sema.expressionListToAsgTexpr (fuel + 1) (m.expressionList el)) := by
  unfold Oq3.Sema.expressionListToAsgTexpr
  comm

omit h in
theorem exprsLoop_step {fuel : Nat} (ih : AllComm κ m fuel) (es : List Ast.Expr) :
    Comm κ id (Oq3.Sema.exprsLoop (fuel + 1) es) (Oq3.Sema.exprsLoop (fuel + 1) (es.map m.expr)) := by
  rcases es with _ | ⟨x, rest⟩ <;> simp only [List.map_cons, List.map_nil] <;> (unfold Oq3.Sema.exprsLoop; comm)

theorem blockExprToAsgStmtList_step {fuel : Nat} (ih : AllComm κ m fuel) (b : Ast.BlockExpr) :
    Comm κ id (Oq3.Sema.blockExprToAsgStmtList (fuel + 1) b) (Oq3.Sema.blockExprToAsgStmtList (fuel + 1) (m.blockExpr b)) := by
  unfold Oq3.Sema.blockExprToAsgStmtList
  comm

omit h in
theorem stmtsLoop_step {fuel : Nat} (ih : AllComm κ m fuel) (ss : List Ast.Stmt) :
    Comm κ id (Oq3.Sema.stmtsLoop (fuel + 1) ss) (Oq3.Sema.stmtsLoop (fuel + 1) (ss.map m.stmt)) := by
  rcases ss with _ | ⟨x, rest⟩ <;> simp only [List.map_cons, List.map_nil] <;> (unfold Oq3.Sema.stmtsLoop; comm)

omit h in
theorem blockExprToAsgType_step {fuel : Nat} (ih : AllComm κ m fuel) (b : Ast.BlockExpr) :
    Comm κ id (Oq3.Sema.blockExprToAsgType (fuel + 1) b) (Oq3.Sema.blockExprToAsgType (fuel + 1) (m.blockExpr b)) := by
  unfold Oq3.Sema.blockExprToAsgType
  comm

theorem blockOrStmtToAsgType_step {fuel : Nat} (ih : AllComm κ m fuel) (b : Ast.BlockOrStmt) :
    Comm κ id (Oq3.Sema.blockOrStmtToAsgType (fuel + 1) b) (Oq3.Sema.blockOrStmtToAsgType (fuel + 1) (m.blockOrStmt b)) := by
  unfold Oq3.Sema.blockOrStmtToAsgType
  comm

theorem classicalDeclarationStatementToAsgStmt_step {fuel : Nat} (ih : AllComm κ m fuel) (sp : Ast.Span) (a : Bool) (st : Option Ast.ScalarType) (k : Bool) (n : Option Ast.Name) (e : Option Ast.Expr) :
    Comm κ id (Oq3.Sema.classicalDeclarationStatementToAsgStmt (fuel + 1) sp a st k n e) (Oq3.Sema.classicalDeclarationStatementToAsgStmt (fuel + 1) (m.span sp) a (st.map m.scalarType) k (n.map m.name) (e.map m.expr)) := by
  unfold Oq3.Sema.classicalDeclarationStatementToAsgStmt
  comm

theorem assignmentStmtToAsgStmt_step {fuel : Nat} (ih : AllComm κ m fuel) (sp : Ast.Span) (i : Option Ast.Identifier) (rhs : Option Ast.Expr) (ii : Option Ast.IndexedIdentifier) :
    Comm κ id (Oq3.Sema.assignmentStmtToAsgStmt (fuel + 1) sp i rhs ii) (Oq3.Sema.assignmentStmtToAsgStmt (fuel + 1) (m.span sp) (i.map m.identifier) (rhs.map m.expr) (ii.map m.indexedIdentifier)) := by
  unfold Oq3.Sema.assignmentStmtToAsgStmt
  comm

theorem indexedIdentifierToAsgType_step {fuel : Nat} (ih : AllComm κ m fuel) (ii : Ast.IndexedIdentifier) :
    Comm κ id (Oq3.Sema.indexedIdentifierToAsgType (fuel + 1) ii) (Oq3.Sema.indexedIdentifierToAsgType (fuel + 1) (m.indexedIdentifier ii)) := by
  unfold Oq3.Sema.indexedIdentifierToAsgType
  comm

omit h in
theorem indexOperatorsLoop_step {fuel : Nat} (ih : AllComm κ m fuel) (ixs : List Ast.IndexOperator) :
    Comm κ id (Oq3.Sema.indexOperatorsLoop (fuel + 1) ixs) (Oq3.Sema.indexOperatorsLoop (fuel + 1) (ixs.map m.indexOperator)) := by
  rcases ixs with _ | ⟨x, rest⟩ <;> simp only [List.map_cons, List.map_nil] <;> (unfold Oq3.Sema.indexOperatorsLoop; comm)

theorem all (fuel : Nat) : AllComm κ m fuel := by
  induction fuel with
  | zero => constructor <;> intros <;> exact Comm.throw _  -- at fuel 0 every function is `throw .fuel`
  | succ fuel ih =>
    constructor
    · exact h.stmtToAsgStmt_step ih
    · exact h.caseExprsLoop_step ih
    · exact h.exprStmtToAsgStmt_step ih
    · exact h.modifiersLoop_step ih
    · exact h.parenExprToAsgTexpr_step ih
    · exact h.exprToAsgTexpr_step ih
    · exact h.setExpressionToAsgType_step ih
    · exact h.rangeExpressionToAsgType_step ih
    · exact h.gateCallExprToAsgStmt_step ih
    · exact h.callExprToAsgTexpr_step ih
    · exact h.gateOperandToAsgTexpr_step ih
    · exact h.indexOperatorToAsgType_step ih
    · exact expressionListToAsgType_step ih
    · exact h.qubitListToAsgTexpr_step ih
    · exact gateOperandsLoop_step ih
    · exact h.expressionListToAsgTexpr_step ih
    · exact exprsLoop_step ih
    · exact h.blockExprToAsgStmtList_step ih
    · exact stmtsLoop_step ih
    · exact blockExprToAsgType_step ih
    · exact h.blockOrStmtToAsgType_step ih
    · exact h.classicalDeclarationStatementToAsgStmt_step ih
    · exact h.assignmentStmtToAsgStmt_step ih
    · exact h.indexedIdentifierToAsgType_step ih
    · exact indexOperatorsLoop_step ih

end Natural

theorem standardLibraryGates_eq (sp : Ast.Span) (c : Ctx) (g : SymTab × List Name)
    (hg : c.symbolTable.standardLibraryGates = g) :
    standardLibraryGates sp c = redeclLoop sp g.2 { c with symbolTable := g.1 } := by
  unfold standardLibraryGates
  rw [bind_eq_of_ok (x := get) (a := c) (c1 := c) rfl]
  simp only [hg]
  rw [bind_eq_of_ok (x := set _) (a := ⟨⟩) rfl]

structure NaturalTop (κ : Ctx → Ctx) (m : Ast.Map) : Prop extends Natural κ m where
  annotationsIsEmpty : Comm κ id annotationsIsEmpty annotationsIsEmpty
  takeAnnotations : Comm κ id takeAnnotations takeAnnotations
  insertStmt (s : Stmt) : Comm κ id (insertStmt s) (insertStmt s)
  standardLibraryGates (sp : Ast.Span) : Comm κ id (standardLibraryGates sp) (standardLibraryGates (m.span sp))
  empty : κ {} = {}

namespace NaturalTop
open Natural
variable {κ : Ctx → Ctx} {m : Ast.Map} (h : NaturalTop κ m)
include h

theorem attachM (o : Option Stmt) : Comm κ id (attachM o) (attachM o) := by
  unfold C06.attachM; comm

theorem topStmtM (fuel : Nat) (s : Ast.Stmt) : Comm κ id (topStmtM fuel s) (topStmtM fuel (m.stmt s)) := by
  have hs := (h.all fuel).stmtToAsgStmt
  cases s
  case includeStmt sp file =>
    rw [h.stmt_includeStmt]
    unfold C06.topStmtM
    refine Comm.bind (Comm.unwrap m.filePath _ _) fun f => ?_
    rw [h.filePath_toString]
    refine Comm.bind (Comm.unwrap_id _ _) fun fp => ?_
    dsimp only [id_eq]
    by_cases hc : (fp == "stdgates.inc") = true
    · simp only [hc, if_true]
      exact Comm.bind (h.standardLibraryGates sp) fun _ => Comm.pure rfl
    · simp only [hc]
      exact Comm.throw_bind _
  all_goals (refine Comm.of_eq (hs _) ?_; comm_simp; rfl)

theorem syntaxToSemanticLoop (fuel : Nat) (ss : List Ast.Stmt) :
    Comm κ id (syntaxToSemanticLoop fuel ss) (syntaxToSemanticLoop fuel (ss.map m.stmt)) := by
  induction ss generalizing fuel with
  | nil =>
    cases fuel with
    | zero => unfold Sema.syntaxToSemanticLoop; exact Comm.throw _
    | succ fuel => simp only [List.map_nil]; unfold Sema.syntaxToSemanticLoop; exact Comm.pure rfl
  | cons s rest ih =>
    cases fuel with
    | zero => unfold Sema.syntaxToSemanticLoop; exact Comm.throw _
    | succ fuel =>
      simp only [List.map_cons, topLoop_cons_eq]
      exact Comm.bind (h.topStmtM fuel s) fun o => Comm.bind (h.attachM o) fun _ => ih fuel

theorem parseIncludedFiles (ss : List Ast.Stmt) :
    Comm κ id (parseIncludedFiles ss) (parseIncludedFiles (ss.map m.stmt)) := by
  induction ss with
  | nil => simp only [List.map_nil]; unfold Sema.parseIncludedFiles; exact Comm.pure rfl
  | cons s rest ih =>
    cases s <;> (simp only [List.map_cons]; comm_simp; simp only [Sema.parseIncludedFiles]) <;> first | exact ih | skip
    comm

theorem syntaxToSemantic (fuel : Nat) (p : Ast.Program) :
    Comm κ id (syntaxToSemantic fuel p) (syntaxToSemantic fuel (m.program p)) := by
  obtain ⟨sp, ss⟩ := p
  rw [h.program_mk]
  unfold Sema.syntaxToSemantic
  have h1 := h.parseIncludedFiles ss
  have h2 := h.syntaxToSemanticLoop fuel ss
  comm

theorem analyzeWith (fuel : Nat) (p : Ast.Program) :
    analyzeWith fuel (m.program p) = (analyzeWith fuel p).map κ := by
  unfold Sema.analyzeWith
  have hr := (h.syntaxToSemantic fuel p).run {}
  rw [h.empty] at hr
  simp only [StateT.run]
  rw [hr]
  cases Sema.syntaxToSemantic fuel p {} with
  | error e => rfl
  | ok r => rfl

end NaturalTop

end Oq3.Sema
