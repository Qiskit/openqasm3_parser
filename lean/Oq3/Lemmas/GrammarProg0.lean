/- GENERATED by /verif/tools/gen_grammar_progress.py from Oq3/Model/Grammar.lean — the proofs are checked by Lean.

What the walks of the grammar (`Lemmas/GrammarWork*.lean`) use besides the calculus, as `tok_nf` rules: the ranks of the
three parameter-list functions by list flavour (every other rank is a numeral in the statements), and `at K` for the
simple kinds `K` of the grammar as a test of the current token.
-/
import Oq3.Lemmas.Progress
set_option linter.unusedVariables false
set_option linter.unusedSimpArgs false

namespace Oq3.Grammar
open Oq3.Gen Oq3.Parser
open Oq3.Gen.Ops (Assoc)
open Oq3.Gen.TokenSets

/-- rank of `paramListOpenqasm` by flavor -/
def rkList : DefFlavor → Nat
  | .gateParams => 3
  | .gateQubits => 3
  | .gateCallQubits => 4
  | .defParams => 7
  | .defCalParams => 7
  | .defCalQubits => 3
  | .expressionList => 14
  | .arrayLiteral => 1
  | .caseValues => 14
  | .typeListFlavor => 7

/-- rank of `paramListOpenqasmLoop` by flavor -/
def rkLoop : DefFlavor → Nat
  | .gateParams => 2
  | .gateQubits => 2
  | .gateCallQubits => 3
  | .defParams => 6
  | .defCalParams => 6
  | .defCalQubits => 2
  | .expressionList => 13
  | .arrayLiteral => 13
  | .caseValues => 13
  | .typeListFlavor => 6

/-- rank of `paramListItem` by flavor -/
def rkItem : DefFlavor → Nat
  | .gateParams => 1
  | .gateQubits => 1
  | .gateCallQubits => 2
  | .defParams => 5
  | .defCalParams => 5
  | .defCalQubits => 1
  | .expressionList => 12
  | .arrayLiteral => 12
  | .caseValues => 12
  | .typeListFlavor => 5

theorem atF_ANNOTATION (K J p) : atF .ANNOTATION K J p = (K.getD p .EOF == .ANNOTATION) := atF_simple (by decide) K J p
theorem atF_ARRAY_KW (K J p) : atF .ARRAY_KW K J p = (K.getD p .EOF == .ARRAY_KW) := atF_simple (by decide) K J p
theorem atF_AT (K J p) : atF .AT K J p = (K.getD p .EOF == .AT) := atF_simple (by decide) K J p
theorem atF_BARRIER_KW (K J p) : atF .BARRIER_KW K J p = (K.getD p .EOF == .BARRIER_KW) := atF_simple (by decide) K J p
theorem atF_BOX_KW (K J p) : atF .BOX_KW K J p = (K.getD p .EOF == .BOX_KW) := atF_simple (by decide) K J p
theorem atF_BREAK_KW (K J p) : atF .BREAK_KW K J p = (K.getD p .EOF == .BREAK_KW) := atF_simple (by decide) K J p
theorem atF_CAL_KW (K J p) : atF .CAL_KW K J p = (K.getD p .EOF == .CAL_KW) := atF_simple (by decide) K J p
theorem atF_CASE_KW (K J p) : atF .CASE_KW K J p = (K.getD p .EOF == .CASE_KW) := atF_simple (by decide) K J p
theorem atF_COLON (K J p) : atF .COLON K J p = (K.getD p .EOF == .COLON) := atF_simple (by decide) K J p
theorem atF_COMMA (K J p) : atF .COMMA K J p = (K.getD p .EOF == .COMMA) := atF_simple (by decide) K J p
theorem atF_COMPLEX_TY (K J p) : atF .COMPLEX_TY K J p = (K.getD p .EOF == .COMPLEX_TY) := atF_simple (by decide) K J p
theorem atF_CONST_KW (K J p) : atF .CONST_KW K J p = (K.getD p .EOF == .CONST_KW) := atF_simple (by decide) K J p
theorem atF_CONTINUE_KW (K J p) : atF .CONTINUE_KW K J p = (K.getD p .EOF == .CONTINUE_KW) := atF_simple (by decide) K J p
theorem atF_CREG_KW (K J p) : atF .CREG_KW K J p = (K.getD p .EOF == .CREG_KW) := atF_simple (by decide) K J p
theorem atF_CTRL_KW (K J p) : atF .CTRL_KW K J p = (K.getD p .EOF == .CTRL_KW) := atF_simple (by decide) K J p
theorem atF_DEFAULT_KW (K J p) : atF .DEFAULT_KW K J p = (K.getD p .EOF == .DEFAULT_KW) := atF_simple (by decide) K J p
theorem atF_DEFCALGRAMMAR_KW (K J p) : atF .DEFCALGRAMMAR_KW K J p = (K.getD p .EOF == .DEFCALGRAMMAR_KW) := atF_simple (by decide) K J p
theorem atF_DEFCAL_KW (K J p) : atF .DEFCAL_KW K J p = (K.getD p .EOF == .DEFCAL_KW) := atF_simple (by decide) K J p
theorem atF_DEF_KW (K J p) : atF .DEF_KW K J p = (K.getD p .EOF == .DEF_KW) := atF_simple (by decide) K J p
theorem atF_DELAY_KW (K J p) : atF .DELAY_KW K J p = (K.getD p .EOF == .DELAY_KW) := atF_simple (by decide) K J p
theorem atF_DIM_KW (K J p) : atF .DIM_KW K J p = (K.getD p .EOF == .DIM_KW) := atF_simple (by decide) K J p
theorem atF_ELSE_KW (K J p) : atF .ELSE_KW K J p = (K.getD p .EOF == .ELSE_KW) := atF_simple (by decide) K J p
theorem atF_END_KW (K J p) : atF .END_KW K J p = (K.getD p .EOF == .END_KW) := atF_simple (by decide) K J p
theorem atF_EOF (K J p) : atF .EOF K J p = (K.getD p .EOF == .EOF) := atF_simple (by decide) K J p
theorem atF_EQ (K J p) : atF .EQ K J p = (K.getD p .EOF == .EQ) := atF_simple (by decide) K J p
theorem atF_EXTERN_KW (K J p) : atF .EXTERN_KW K J p = (K.getD p .EOF == .EXTERN_KW) := atF_simple (by decide) K J p
theorem atF_FLOAT_NUMBER (K J p) : atF .FLOAT_NUMBER K J p = (K.getD p .EOF == .FLOAT_NUMBER) := atF_simple (by decide) K J p
theorem atF_FLOAT_TY (K J p) : atF .FLOAT_TY K J p = (K.getD p .EOF == .FLOAT_TY) := atF_simple (by decide) K J p
theorem atF_FOR_KW (K J p) : atF .FOR_KW K J p = (K.getD p .EOF == .FOR_KW) := atF_simple (by decide) K J p
theorem atF_GATE_KW (K J p) : atF .GATE_KW K J p = (K.getD p .EOF == .GATE_KW) := atF_simple (by decide) K J p
theorem atF_GPHASE_KW (K J p) : atF .GPHASE_KW K J p = (K.getD p .EOF == .GPHASE_KW) := atF_simple (by decide) K J p
theorem atF_HARDWAREIDENT (K J p) : atF .HARDWAREIDENT K J p = (K.getD p .EOF == .HARDWAREIDENT) := atF_simple (by decide) K J p
theorem atF_IDENT (K J p) : atF .IDENT K J p = (K.getD p .EOF == .IDENT) := atF_simple (by decide) K J p
theorem atF_IF_KW (K J p) : atF .IF_KW K J p = (K.getD p .EOF == .IF_KW) := atF_simple (by decide) K J p
theorem atF_INCLUDE_KW (K J p) : atF .INCLUDE_KW K J p = (K.getD p .EOF == .INCLUDE_KW) := atF_simple (by decide) K J p
theorem atF_INV_KW (K J p) : atF .INV_KW K J p = (K.getD p .EOF == .INV_KW) := atF_simple (by decide) K J p
theorem atF_IN_KW (K J p) : atF .IN_KW K J p = (K.getD p .EOF == .IN_KW) := atF_simple (by decide) K J p
theorem atF_LET_KW (K J p) : atF .LET_KW K J p = (K.getD p .EOF == .LET_KW) := atF_simple (by decide) K J p
theorem atF_L_BRACK (K J p) : atF .L_BRACK K J p = (K.getD p .EOF == .L_BRACK) := atF_simple (by decide) K J p
theorem atF_L_CURLY (K J p) : atF .L_CURLY K J p = (K.getD p .EOF == .L_CURLY) := atF_simple (by decide) K J p
theorem atF_L_PAREN (K J p) : atF .L_PAREN K J p = (K.getD p .EOF == .L_PAREN) := atF_simple (by decide) K J p
theorem atF_MEASURE_KW (K J p) : atF .MEASURE_KW K J p = (K.getD p .EOF == .MEASURE_KW) := atF_simple (by decide) K J p
theorem atF_MUTABLE_KW (K J p) : atF .MUTABLE_KW K J p = (K.getD p .EOF == .MUTABLE_KW) := atF_simple (by decide) K J p
theorem atF_NEGCTRL_KW (K J p) : atF .NEGCTRL_KW K J p = (K.getD p .EOF == .NEGCTRL_KW) := atF_simple (by decide) K J p
theorem atF_O_P_E_N_Q_A_S_M_KW (K J p) : atF .O_P_E_N_Q_A_S_M_KW K J p = (K.getD p .EOF == .O_P_E_N_Q_A_S_M_KW) := atF_simple (by decide) K J p
theorem atF_POW_KW (K J p) : atF .POW_KW K J p = (K.getD p .EOF == .POW_KW) := atF_simple (by decide) K J p
theorem atF_PRAGMA (K J p) : atF .PRAGMA K J p = (K.getD p .EOF == .PRAGMA) := atF_simple (by decide) K J p
theorem atF_QREG_KW (K J p) : atF .QREG_KW K J p = (K.getD p .EOF == .QREG_KW) := atF_simple (by decide) K J p
theorem atF_QUBIT_KW (K J p) : atF .QUBIT_KW K J p = (K.getD p .EOF == .QUBIT_KW) := atF_simple (by decide) K J p
theorem atF_READONLY_KW (K J p) : atF .READONLY_KW K J p = (K.getD p .EOF == .READONLY_KW) := atF_simple (by decide) K J p
theorem atF_RESET_KW (K J p) : atF .RESET_KW K J p = (K.getD p .EOF == .RESET_KW) := atF_simple (by decide) K J p
theorem atF_RETURN_KW (K J p) : atF .RETURN_KW K J p = (K.getD p .EOF == .RETURN_KW) := atF_simple (by decide) K J p
theorem atF_R_BRACK (K J p) : atF .R_BRACK K J p = (K.getD p .EOF == .R_BRACK) := atF_simple (by decide) K J p
theorem atF_R_CURLY (K J p) : atF .R_CURLY K J p = (K.getD p .EOF == .R_CURLY) := atF_simple (by decide) K J p
theorem atF_R_PAREN (K J p) : atF .R_PAREN K J p = (K.getD p .EOF == .R_PAREN) := atF_simple (by decide) K J p
theorem atF_SEMICOLON (K J p) : atF .SEMICOLON K J p = (K.getD p .EOF == .SEMICOLON) := atF_simple (by decide) K J p
theorem atF_STRING (K J p) : atF .STRING K J p = (K.getD p .EOF == .STRING) := atF_simple (by decide) K J p
theorem atF_SWITCH_KW (K J p) : atF .SWITCH_KW K J p = (K.getD p .EOF == .SWITCH_KW) := atF_simple (by decide) K J p
theorem atF_VERSION_STRING (K J p) : atF .VERSION_STRING K J p = (K.getD p .EOF == .VERSION_STRING) := atF_simple (by decide) K J p
theorem atF_WHILE_KW (K J p) : atF .WHILE_KW K J p = (K.getD p .EOF == .WHILE_KW) := atF_simple (by decide) K J p

attribute [tok_nf] rkList rkLoop rkItem atF_ANNOTATION atF_ARRAY_KW atF_AT atF_BARRIER_KW atF_BOX_KW atF_BREAK_KW atF_CAL_KW atF_CASE_KW atF_COLON atF_COMMA atF_COMPLEX_TY atF_CONST_KW atF_CONTINUE_KW atF_CREG_KW atF_CTRL_KW atF_DEFAULT_KW atF_DEFCALGRAMMAR_KW atF_DEFCAL_KW atF_DEF_KW atF_DELAY_KW atF_DIM_KW atF_ELSE_KW atF_END_KW atF_EOF atF_EQ atF_EXTERN_KW atF_FLOAT_NUMBER atF_FLOAT_TY atF_FOR_KW atF_GATE_KW atF_GPHASE_KW atF_HARDWAREIDENT atF_IDENT atF_IF_KW atF_INCLUDE_KW atF_INV_KW atF_IN_KW atF_LET_KW atF_L_BRACK atF_L_CURLY atF_L_PAREN atF_MEASURE_KW atF_MUTABLE_KW atF_NEGCTRL_KW atF_O_P_E_N_Q_A_S_M_KW atF_POW_KW atF_PRAGMA atF_QREG_KW atF_QUBIT_KW atF_READONLY_KW atF_RESET_KW atF_RETURN_KW atF_R_BRACK atF_R_CURLY atF_R_PAREN atF_SEMICOLON atF_STRING atF_SWITCH_KW atF_VERSION_STRING atF_WHILE_KW

end Oq3.Grammar
