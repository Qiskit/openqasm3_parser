/-
The parser API (`Oq3/Model/ParserApi.lean`) as functions of the state: how the combinators of `G`
evaluate (`G.*_apply`; `G.*_ok` for the successful runs) and one equation per primitive (`*_eq`,
with its reading for a successful run, `*_ok`, where proofs by cases want that).  `Parser::at`
is total and read-only: `at_total`, with `atF` as its value.  What is proved about a primitive
elsewhere starts from these equations.
-/
import Oq3.Lemmas.Tables
import Oq3.Lemmas.GClosed
set_option linter.unusedSimpArgs false
namespace Oq3.Parser
open Oq3.Gen

theorem G.bind_apply {α β} (x : G α) (f : α → G β) (s : P) :
    (x >>= f) s = match x s with
      | .ok (a, s1) => f a s1
      | .error e => .error e := by
  show StateT.bind x f s = _
  unfold StateT.bind
  simp only [bind, Except.bind]
  cases x s with
  | error e => rfl
  | ok p => rfl

theorem G.pure_apply {α} (a : α) (s : P) : (pure a : G α) s = .ok (a, s) := rfl
theorem G.fail_apply {α} (o : Outcome) (s : P) : (fail o : G α) s = .error o := rfl
theorem G.panic_apply {α} (site : String) (s : P) : (panic site : G α) s = .error (.panic site) := rfl
theorem G.map_apply {α β} (f : α → β) (x : G α) (s : P) :
    (f <$> x) s = match x s with
      | .ok (a, s1) => .ok (f a, s1)
      | .error e => .error e := by
  show StateT.map f x s = _
  unfold StateT.map
  simp only [bind, Except.bind, pure, Except.pure]
  cases x s with
  | error e => rfl
  | ok p => rfl

theorem G.andM_apply (x y : G Bool) (s : P) :
    (x <&&> y) s = match x s with
      | .ok (b, s1) => if b = true then y s1 else .ok (false, s1)
      | .error e => .error e := by
  unfold _root_.andM
  rw [G.bind_apply]
  cases x s with
  | error e => rfl
  | ok p => obtain ⟨b, s1⟩ := p; cases b <;> rfl

theorem G.orM_apply (x y : G Bool) (s : P) :
    (x <||> y) s = match x s with
      | .ok (b, s1) => if b = true then .ok (true, s1) else y s1
      | .error e => .error e := by
  unfold _root_.orM
  rw [G.bind_apply]
  cases x s with
  | error e => rfl
  | ok p => obtain ⟨b, s1⟩ := p; cases b <;> rfl

theorem G.notM_apply (x : G Bool) (s : P) :
    (notM x) s = match x s with
      | .ok (b, s1) => .ok (!b, s1)
      | .error e => .error e := by
  unfold _root_.notM
  rw [G.map_apply]
  cases x s with
  | error e => rfl
  | ok p => rfl

theorem G.bind_ok {α β} (x : G α) (f : α → G β) (s : P) (r : β × P) :
    (x >>= f) s = .ok r ↔ ∃ a s1, x s = .ok (a, s1) ∧ f a s1 = .ok r := by
  rw [G.bind_apply]
  cases x s with
  | error e => simp
  | ok p => exact ⟨fun h => ⟨p.1, p.2, rfl, h⟩, fun ⟨_, _, e, h⟩ => by cases e; exact h⟩

theorem G.map_ok {α β} (f : α → β) (x : G α) (s : P) (r : β × P) :
    (f <$> x) s = .ok r ↔ ∃ a s1, x s = .ok (a, s1) ∧ r = (f a, s1) := by
  rw [G.map_apply]
  cases x s with
  | error e => simp
  | ok p => exact ⟨fun h => ⟨p.1, p.2, rfl, (Except.ok.inj h).symm⟩, fun ⟨_, _, e, h⟩ => by cases e; rw [h]⟩

@[simp] theorem G.pure_ok {α} (a : α) (s : P) (r : α × P) : (pure a : G α) s = .ok r ↔ r = (a, s) := by
  show Except.ok (a, s) = Except.ok r ↔ _
  constructor <;> intro h <;> simp_all

@[simp] theorem G.get_ok (s : P) (r : P × P) : (get : G P) s = .ok r ↔ r = (s, s) := by
  show Except.ok (s, s) = Except.ok r ↔ _
  constructor <;> intro h <;> simp_all

@[simp] theorem G.set_ok (s0 s : P) (r : PUnit × P) : (set s0 : G PUnit) s = .ok r ↔ r = (⟨⟩, s0) := by
  show Except.ok (PUnit.unit, s0) = Except.ok r ↔ _
  constructor <;> intro h <;> simp_all

@[simp] theorem G.modify_ok (f : P → P) (s : P) (r : PUnit × P) :
    (modify f : G PUnit) s = .ok r ↔ r = (⟨⟩, f s) := by
  show Except.ok (PUnit.unit, f s) = Except.ok r ↔ _
  constructor <;> intro h <;> simp_all

@[simp] theorem G.panic_ok {α} (site : String) (s : P) (r : α × P) : (panic site : G α) s = .ok r ↔ False := by
  show Except.error _ = Except.ok r ↔ _
  simp

@[simp] theorem G.fail_ok {α} (o : Outcome) (s : P) (r : α × P) : (fail o : G α) s = .ok r ↔ False := by
  show Except.error _ = Except.ok r ↔ _
  simp

@[simp] theorem G.throw_ok {α} (o : Outcome) (s : P) (r : α × P) : (throw o : G α) s = .ok r ↔ False := by
  show Except.error _ = Except.ok r ↔ _
  simp

@[simp] theorem exists2_eq {α β : Type} {a0 : α} {b0 : β} {Q : α → β → Prop} :
    (∃ a b, (a = a0 ∧ b = b0) ∧ Q a b) ↔ Q a0 b0 := by
  constructor
  · rintro ⟨_, _, ⟨rfl, rfl⟩, h⟩; exact h
  · intro h; exact ⟨a0, b0, ⟨rfl, rfl⟩, h⟩


@[simp] theorem G.get_bind_ok {β} (f : P → G β) (s : P) (r : β × P) :
    (get >>= f) s = .ok r ↔ f s s = .ok r := by
  rw [G.bind_ok]; simp

@[simp] theorem G.set_bind_ok {β} (s0 : P) (f : PUnit → G β) (s : P) (r : β × P) :
    (set s0 >>= f) s = .ok r ↔ f ⟨⟩ s0 = .ok r := by
  rw [G.bind_ok]; simp
  exact ⟨fun ⟨⟨⟩, h⟩ => h, fun h => ⟨⟨⟩, h⟩⟩

@[simp] theorem G.modify_bind_ok {β} (g : P → P) (f : PUnit → G β) (s : P) (r : β × P) :
    (modify g >>= f) s = .ok r ↔ f ⟨⟩ (g s) = .ok r := by
  rw [G.bind_ok]; simp
  exact ⟨fun ⟨⟨⟩, h⟩ => h, fun h => ⟨⟨⟩, h⟩⟩

@[simp] theorem G.pure_bind_ok {α β} (a : α) (f : α → G β) (s : P) (r : β × P) :
    (pure a >>= f) s = .ok r ↔ f a s = .ok r := by
  rw [G.bind_ok]; simp

/-- the `oq3_verif` hook would trip on the next pushed event -/
def P.hookTrip (s : P) : Bool := decide (s.noProgressLimit > 0) && decide (s.sinceBump ≥ s.noProgressLimit)

theorem current_eq (s : P) : current s = .ok (s.kindAt s.pos, s) := rfl

theorem current_ok (s : P) (r) : current s = .ok r ↔ r = (s.kindAt s.pos, s) :=
  ⟨fun h => (Except.ok.inj h).symm, fun h => h ▸ rfl⟩

theorem nth_eq (n : Nat) (s : P) :
    nth n s = if n > 3 then .error (.panic "Parser::nth assertion n <= 3")
      else if s.steps > s.stepLimit then .error (.panic "Parser::nth the parser seems stuck")
      else .ok (s.kindAt (s.pos + n), { s with steps := s.steps + 1 }) := by
  unfold nth
  show (if n > 3 then _ else _ : G SyntaxKind) s = _
  split
  · rfl
  · split <;> rfl

theorem at_simple_eq (k : SyntaxKind) (hc : compositePieces k = none) (s : P) :
    at' k s = .ok (s.kindAt s.pos == k, s) := by
  unfold at' nthAt
  simp only [hc]
  rfl

theorem pushEvent_eq (e : Ev) (s : P) :
    pushEvent e s = if s.hookTrip then .error (.panic "oq3_verif: no progress")
      else .ok ((), { s with events := s.events.push e, sinceBump := s.sinceBump + 1 }) := by
  unfold pushEvent P.hookTrip
  show (if _ then _ else _ : G Unit) s = _
  split <;> rfl

theorem pushEvent_ok (e : Ev) (s : P) (r : Unit × P) (h : pushEvent e s = .ok r) :
    r = ((), { s with events := s.events.push e, sinceBump := s.sinceBump + 1 }) := by
  rw [pushEvent_eq] at h
  split at h
  · cases h
  · exact (Except.ok.inj h).symm

theorem error_eq (msg : String) (s : P) :
    error msg s = if s.hookTrip then .error (.panic "oq3_verif: no progress")
      else .ok ((), { s with events := s.events.push (.error msg), sinceBump := s.sinceBump + 1 }) :=
  pushEvent_eq _ s

theorem start_eq (s : P) :
    start s = if s.hookTrip then .error (.panic "oq3_verif: no progress")
      else .ok ({ pos := s.events.size },
        { s with events := s.events.push Ev.tombstone, sinceBump := s.sinceBump + 1, live := s.live + 1 }) := by
  unfold start
  show (pushEvent Ev.tombstone >>= fun _ => _) s = _
  rw [G.bind_apply, pushEvent_eq]
  by_cases h : s.hookTrip = true
  · simp only [h, if_true]
  · simp only [h, if_false]; rfl

theorem start_ok (s : P) (r : Marker × P) (h : start s = .ok r) :
    r = ({ pos := s.events.size },
         { s with events := s.events.push Ev.tombstone, sinceBump := s.sinceBump + 1,
                  live := s.live + 1 }) := by
  rw [start_eq] at h
  split at h
  · cases h
  · exact (Except.ok.inj h).symm

theorem doBump_eq (k : SyntaxKind) (n : Nat) (s : P) :
    doBump k n s = .ok ((), { s with pos := s.pos + n, steps := 0, sinceBump := 1,
                                      events := s.events.push (.token k n) }) := by
  unfold doBump
  show pushEvent _ _ = _
  rw [pushEvent_eq]
  have : ({ s with pos := s.pos + n, steps := 0, sinceBump := 0 } : P).hookTrip = false := by
    simp [P.hookTrip]; omega
  rw [this]; rfl

theorem doBump_ok (k : SyntaxKind) (n : Nat) (s : P) (r : Unit × P) (h : doBump k n s = .ok r) :
    r = ((), { s with pos := s.pos + n, steps := 0, sinceBump := 1,
                      events := s.events.push (.token k n) }) := by
  rw [doBump_eq] at h; exact (Except.ok.inj h).symm

theorem eat_simple_eq (k : SyntaxKind) (hc : compositePieces k = none) (hk : (k == .EOF) = false) (s : P) :
    eat k s = if (s.kindAt s.pos == k) = true then
        .ok (true, { s with pos := s.pos + 1, steps := 0, sinceBump := 1,
                            events := s.events.push (.token k 1) })
      else .ok (false, s) := by
  unfold eat
  simp only [hk, Bool.false_eq_true, if_false]
  rw [G.bind_apply, at_simple_eq k hc]
  simp only
  have he : eatRawTokens k = 1 := tablesOK.2 k hc
  cases hb : (s.kindAt s.pos == k) with
  | false => simp only [Bool.not_false, if_true, Bool.false_eq_true, if_false]; rfl
  | true =>
    simp only [Bool.not_true, Bool.false_eq_true, if_false, if_true]
    rw [G.bind_apply, doBump_eq, he]; rfl

theorem bump_simple_eq (k : SyntaxKind) (hc : compositePieces k = none) (hk : (k == .EOF) = false) (s : P) :
    bump k s = if (s.kindAt s.pos == k) = true then
        .ok ((), { s with pos := s.pos + 1, steps := 0, sinceBump := 1,
                          events := s.events.push (.token k 1) })
      else .error (.panic "Parser::bump assertion") := by
  unfold bump
  rw [G.bind_apply, eat_simple_eq k hc hk]
  by_cases h : (s.kindAt s.pos == k) = true
  · simp only [h, if_true]; rfl
  · simp only [h, if_false]; rfl

theorem bumpAny_eq (s : P) :
    bumpAny s = if (s.kindAt s.pos == .EOF) = true then .ok ((), s)
      else .ok ((), { s with pos := s.pos + 1, steps := 0, sinceBump := 1,
                             events := s.events.push (.token (s.kindAt s.pos) 1) }) := by
  unfold bumpAny
  rw [G.bind_apply, current_eq]
  simp only
  by_cases h : (s.kindAt s.pos == .EOF) = true
  · simp only [h, if_true]; rfl
  · simp only [h, if_false, Bool.false_eq_true]; rw [doBump_eq]

theorem expect_simple_eq (k : SyntaxKind) (hc : compositePieces k = none) (hk : (k == .EOF) = false) (s : P) :
    expect k s = if (s.kindAt s.pos == k) = true then
        .ok (true, { s with pos := s.pos + 1, steps := 0, sinceBump := 1,
                            events := s.events.push (.token k 1) })
      else if s.hookTrip then .error (.panic "oq3_verif: no progress")
      else .ok (false, { s with events := s.events.push (.error s!"expected {dbg k}"),
                                sinceBump := s.sinceBump + 1 }) := by
  unfold expect
  rw [G.bind_apply, eat_simple_eq k hc hk]
  by_cases h : (s.kindAt s.pos == k) = true
  · simp only [h, if_true]; rfl
  · simp only [h, if_false, Bool.false_eq_true]
    rw [G.bind_apply, error_eq]
    by_cases h2 : s.hookTrip = true
    · simp only [h2, if_true]
    · simp only [h2, if_false]; rfl

/-- the state right after `Marker::complete` rewrote the marker's slot (before the `Finish`) -/
def P.slotSet (s : P) (i : Nat) (kind : SyntaxKind) (fp : Option Nat) : P :=
  { s with events := s.events.set! i (.start kind fp), live := s.live - 1,
           protectedPos := s.protectedPos.filter (· != i) }

theorem complete_eq (m : Marker) (kind : SyntaxKind) (s : P) :
    m.complete kind s = match s.events[m.pos]? with
      | some (.start k0 fp) =>
        if (k0 != .TOMBSTONE) = true then .error (.modelError "Marker::complete: marker already completed")
        else if (kind == .TOMBSTONE) = true then .error (.modelError "Marker::complete with TOMBSTONE")
        else if s.hookTrip then .error (.panic "oq3_verif: no progress")
        else .ok (⟨m.pos, kind⟩,
          { s.slotSet m.pos kind fp with events := (s.slotSet m.pos kind fp).events.push .finish,
                                          sinceBump := s.sinceBump + 1 })
      | _ => .error (.panic "Marker::complete unreachable") := by
  unfold Marker.complete
  show (match s.events[m.pos]? with | some (.start k0 fp) => _ | _ => _ : G CompletedMarker) s = _
  cases s.events[m.pos]? with
  | none => rfl
  | some e =>
    cases e with
    | finish => rfl
    | token _ _ => rfl
    | error _ => rfl
    | start k0 fp =>
      simp only
      by_cases h1 : (k0 != .TOMBSTONE) = true
      · simp only [h1, if_true]; rfl
      · simp only [h1, if_false]
        by_cases h2 : (kind == .TOMBSTONE) = true
        · simp only [h2, if_true]; rfl
        · simp only [h2, if_false]
          show (pushEvent .finish >>= fun _ => _) (s.slotSet m.pos kind fp) = _
          rw [G.bind_apply, pushEvent_eq]
          have e : (s.slotSet m.pos kind fp).hookTrip = s.hookTrip := rfl
          rw [e]
          by_cases h3 : s.hookTrip = true
          · simp only [h3, if_true, if_false, Bool.false_eq_true]
          · simp only [h3, if_true, if_false, Bool.false_eq_true]; rfl

theorem abandon_eq (m : Marker) (s : P) :
    m.abandon s =
      if (m.isFp || s.protectedPos.contains m.pos) = true then
        .error (.modelError "Marker::abandon of a forward-parent marker")
      else if (s.events.size == 0) = true then .error (.panic "Marker::abandon underflow")
      else if (m.pos == s.events.size - 1) = true then
        match s.events.back? with
        | some (.start k fp) =>
          if (k == .TOMBSTONE && fp.isNone) = true then
            .ok ((), { s with events := s.events.pop, live := s.live - 1 })
          else .error (.panic "Marker::abandon unreachable")
        | _ => .error (.panic "Marker::abandon unreachable")
      else .ok ((), { s with live := s.live - 1 }) := by
  unfold Marker.abandon
  show (if _ then _ else _ : G Unit) s = _
  by_cases h1 : (m.isFp || s.protectedPos.contains m.pos) = true
  · simp only [h1, if_true]; rfl
  · simp only [h1, if_false]
    by_cases h2 : (s.events.size == 0) = true
    · simp only [h2, if_true]; rfl
    · simp only [h2, if_false]
      by_cases h3 : (m.pos == s.events.size - 1) = true
      · simp only [h3, if_true]
        cases s.events.back? with
        | none => rfl
        | some e =>
          cases e with
          | finish => rfl
          | token _ _ => rfl
          | error _ => rfl
          | start k fp =>
            simp only
            by_cases h4 : (k == .TOMBSTONE && fp.isNone) = true
            · simp only [h4, if_true]; rfl
            · simp only [h4, if_false]; rfl
      · simp only [h3, if_false]; rfl

/-- the state after the `start` inside `CompletedMarker::precede` -/
def P.started (s : P) : P :=
  { s with events := s.events.push Ev.tombstone, sinceBump := s.sinceBump + 1, live := s.live + 1 }

theorem precede_eq (cm : CompletedMarker) (s : P) :
    cm.precede s =
      if s.hookTrip then .error (.panic "oq3_verif: no progress")
      else match s.started.events[cm.pos]? with
        | some (.start k _) =>
          if s.events.size < cm.pos then .error (.panic "CompletedMarker::precede u32 underflow")
          else .ok ({ pos := s.events.size, isFp := true },
            { s.started with
                events := s.started.events.set! cm.pos (.start k (some (s.events.size - cm.pos))),
                protectedPos := s.events.size :: s.protectedPos })
        | _ => .error (.panic "CompletedMarker::precede unreachable") := by
  unfold CompletedMarker.precede
  rw [G.bind_apply, start_eq]
  by_cases h : s.hookTrip = true
  · simp only [h, if_true]
  · simp only [h, if_false]
    show (match s.started.events[cm.pos]? with | some (.start k _) => _ | _ => _ : G Marker) s.started = _
    cases s.started.events[cm.pos]? with
    | none => rfl
    | some e =>
      cases e with
      | finish => rfl
      | token _ _ => rfl
      | error _ => rfl
      | start k fp =>
        simp only
        by_cases h2 : s.events.size < cm.pos
        · simp only [h2, if_true]; rfl
        · simp only [h2, if_false]; rfl

theorem extendTo_eq (cm : CompletedMarker) (m : Marker) (s : P) :
    cm.extendTo m s = match s.events[m.pos]? with
      | some (.start k _) =>
        if cm.pos < m.pos then .error (.panic "CompletedMarker::extend_to u32 underflow")
        else match s.events[cm.pos]? with
          | some (.start k' _) =>
            if (k' == .TOMBSTONE) = true then
              .error (.modelError "CompletedMarker::extend_to: not a completed marker")
            else .ok (cm, { s with events := s.events.set! m.pos (.start k (some (cm.pos - m.pos))),
                                   live := s.live - 1 })
          | _ => .error (.modelError "CompletedMarker::extend_to: not a completed marker")
      | _ => .error (.panic "CompletedMarker::extend_to unreachable") := by
  unfold CompletedMarker.extendTo
  show (match s.events[m.pos]? with | some (.start k _) => _ | _ => _ : G CompletedMarker) s = _
  cases s.events[m.pos]? with
  | none => rfl
  | some e =>
    cases e with
    | finish => rfl
    | token _ _ => rfl
    | error _ => rfl
    | start k fp =>
      simp only
      by_cases h1 : cm.pos < m.pos
      · simp only [h1, if_true]; rfl
      · simp only [h1, if_false]
        show (match s.events[cm.pos]? with | some (.start k' _) => _ | _ => _ : G CompletedMarker) s = _
        cases s.events[cm.pos]? with
        | none => rfl
        | some e2 =>
          cases e2 with
          | finish => rfl
          | token _ _ => rfl
          | error _ => rfl
          | start k' fp' =>
            simp only
            by_cases h2 : (k' == .TOMBSTONE) = true
            · simp only [h2, if_true]; rfl
            · simp only [h2, if_false]; rfl

theorem atTs_eq (ts : TokenSet) (s : P) :
    atTs ts s = .ok (decide ((s.kindAt s.pos).toNat < 128) && ts.contains (s.kindAt s.pos), s) := by
  unfold atTs
  rw [G.bind_apply, current_eq]
  rfl

def P.jointRes (s : P) (i : Nat) : Except Outcome (Bool × P) :=
  match s.isJoint i with
  | .ok b => .ok (b, s)
  | .error e => .error e

theorem at_comp2_eq (k k1 k2 : SyntaxKind) (hc : compositePieces k = some [k1, k2]) (s : P) :
    at' k s = if (s.kindAt s.pos == k1 && s.kindAt (s.pos + 1) == k2) = true then s.jointRes s.pos
      else .ok (false, s) := by
  unfold at' nthAt
  simp only [hc]
  unfold atComposite
  show (if _ then _ else _ : G Bool) s = _
  simp only [Nat.add_zero]
  by_cases h : (s.kindAt s.pos == k1 && s.kindAt (s.pos + 1) == k2) = true
  · simp only [h, if_true]
    unfold P.jointRes
    cases s.isJoint s.pos <;> rfl
  · simp only [h, if_false]; rfl

theorem at_comp3_eq (k k1 k2 k3 : SyntaxKind) (hc : compositePieces k = some [k1, k2, k3]) (s : P) :
    at' k s =
      if (s.kindAt s.pos == k1 && s.kindAt (s.pos + 1) == k2 && s.kindAt (s.pos + 2) == k3) = true then
        match s.isJoint s.pos with
        | .ok false => .ok (false, s)
        | .ok true => s.jointRes (s.pos + 1)
        | .error e => .error e
      else .ok (false, s) := by
  unfold at' nthAt
  simp only [hc]
  unfold atComposite
  show (if _ then _ else _ : G Bool) s = _
  simp only [Nat.add_zero]
  by_cases h : (s.kindAt s.pos == k1 && s.kindAt (s.pos + 1) == k2 && s.kindAt (s.pos + 2) == k3) = true
  · simp only [h, if_true]
    unfold P.jointRes
    cases s.isJoint s.pos with
    | error e => rfl
    | ok b =>
      cases b
      · rfl
      · simp only
        cases s.isJoint (s.pos + 1) <;> rfl
  · simp only [h, if_false]; rfl

def ReadOnly {α} (x : G α) : Prop := ∀ s r, x s = .ok r → r.2 = s

theorem current_readOnly : ReadOnly current := by
  intro s r h; rw [current_eq] at h; cases h; rfl

theorem isJoint_match_readOnly (s : P) (e : Except Outcome Bool) (r : Bool × P)
    (h : (match e with
          | .ok b => (pure b : G Bool)
          | .error er => throw er) s = .ok r) : r.2 = s := by
  cases e with
  | ok b => simp at h; subst h; rfl
  | error er => simp at h

theorem atComposite_readOnly (n : Nat) (ps : List SyntaxKind) : ReadOnly (atComposite n ps) := by
  intro s r h
  rcases ps with _ | ⟨k1, _ | ⟨k2, _ | ⟨k3, _ | ⟨k4, rest⟩⟩⟩⟩
  · simp [atComposite] at h
  · simp [atComposite] at h
  · simp only [atComposite, G.get_bind_ok] at h
    split at h
    · exact isJoint_match_readOnly s _ r h
    · simp at h; subst h; rfl
  · simp only [atComposite, G.get_bind_ok] at h
    split at h
    · cases hj : s.isJoint (s.pos + n) with
      | error e => simp [hj] at h
      | ok b =>
        cases b with
        | false => simp [hj] at h; subst h; rfl
        | true => simp only [hj] at h; exact isJoint_match_readOnly s _ r h
    · simp at h; subst h; rfl
  · simp [atComposite] at h

theorem nthAt_readOnly (n : Nat) (k : SyntaxKind) : ReadOnly (nthAt n k) := by
  intro s r h
  unfold nthAt at h
  cases hc : compositePieces k with
  | some ps => simp only [hc] at h; exact atComposite_readOnly _ _ s r h
  | none => simp [hc, G.bind_ok, G.map_ok] at h; subst h; rfl

theorem at_readOnly (k : SyntaxKind) : ReadOnly (at' k) := nthAt_readOnly 0 k

theorem atTs_readOnly (ts : TokenSet) : ReadOnly (atTs ts) := by
  intro s r h; rw [atTs_eq] at h; cases h; rfl

theorem kindAt_ne_eof_lt (s : P) (i : Nat) (h : s.kindAt i ≠ .EOF) : i < s.kinds.size := by
  unfold P.kindAt at h
  by_cases hi : i < s.kinds.size
  · exact hi
  · exfalso; apply h; simp [Array.getD, hi]

/-- `Parser::at` as a pure function of the input arrays and the position -/
def atF (k : SyntaxKind) (K : Array SyntaxKind) (J : Array Bool) (p : Nat) : Bool :=
  match compositePieces k with
  | none => K.getD p .EOF == k
  | some [k1, k2] => K.getD p .EOF == k1 && K.getD (p + 1) .EOF == k2 && J.getD p false
  | some [k1, k2, k3] =>
    K.getD p .EOF == k1 && K.getD (p + 1) .EOF == k2 && K.getD (p + 2) .EOF == k3
      && J.getD p false && J.getD (p + 1) false
  | _ => false

theorem isJoint_in_range (s : P) (i : Nat) (h : s.kindAt (i + 1) ≠ .EOF) :
    s.isJoint i = .ok (s.joint.getD i false) := by
  have := kindAt_ne_eof_lt s _ h
  unfold P.isJoint
  have c : i / 64 < (s.kinds.size + 63) / 64 := by omega
  simp only [c, if_true]

/-- **`at` is total**: it never fails — in particular `Input::is_joint` is only evaluated when
the next token exists (the conjunct order of `at_composite2/3`), and the composite table only
has 2- and 3-piece entries — and it does not change the state. -/
theorem at_total (k : SyntaxKind) (s : P) : at' k s = .ok (atF k s.kinds s.joint s.pos, s) := by
  unfold atF
  cases hc : compositePieces k with
  | none => rw [at_simple_eq k hc]; rfl
  | some ps =>
    obtain ⟨hlen, _, hne⟩ := tablesOK.1 k ps hc
    rcases ps with _ | ⟨k1, _ | ⟨k2, _ | ⟨k3, _ | ⟨k4, rest⟩⟩⟩⟩
    · simp at hlen
    · simp at hlen
    · rw [at_comp2_eq k k1 k2 hc]
      simp only
      by_cases hkk : (s.kindAt s.pos == k1 && s.kindAt (s.pos + 1) == k2) = true
      · simp only [hkk, if_true]
        have h2 : s.kindAt (s.pos + 1) ≠ .EOF := by
          simp only [Bool.and_eq_true, beq_iff_eq] at hkk
          rw [hkk.2]; exact (hne k2 (by simp)).1
        unfold P.jointRes
        rw [isJoint_in_range s _ h2]
        simp only [P.kindAt] at hkk
        simp only [hkk, Bool.true_and]
      · simp only [hkk, if_false]
        simp only [P.kindAt, Bool.not_eq_true] at hkk
        simp only [hkk, Bool.false_and, Bool.false_eq_true, if_false]
    · rw [at_comp3_eq k k1 k2 k3 hc]
      simp only
      by_cases hkk : (s.kindAt s.pos == k1 && s.kindAt (s.pos + 1) == k2 && s.kindAt (s.pos + 2) == k3) = true
      · simp only [hkk, if_true]
        have hkk' := hkk
        simp only [Bool.and_eq_true, beq_iff_eq] at hkk'
        have h2 : s.kindAt (s.pos + 1) ≠ .EOF := by rw [hkk'.1.2]; exact (hne k2 (by simp)).1
        have h3 : s.kindAt (s.pos + 1 + 1) ≠ .EOF := by
          rw [show s.pos + 1 + 1 = s.pos + 2 by omega, hkk'.2]; exact (hne k3 (by simp)).1
        rw [isJoint_in_range s _ h2]
        unfold P.jointRes
        rw [isJoint_in_range s _ h3]
        simp only [P.kindAt] at hkk
        simp only [hkk, Bool.true_and]
        cases hj : s.joint.getD s.pos false
        · simp only [Bool.false_and]
        · simp only [Bool.true_and]
      · simp only [hkk, if_false]
        simp only [P.kindAt, Bool.not_eq_true] at hkk
        simp only [hkk, Bool.false_and, Bool.false_eq_true, if_false]
    · simp at hlen

theorem eat_eq (k : SyntaxKind) (hk : (k == .EOF) = false) (s : P) :
    eat k s = if atF k s.kinds s.joint s.pos = true then
        .ok (true, { s with pos := s.pos + eatRawTokens k, steps := 0, sinceBump := 1,
                            events := s.events.push (.token k (eatRawTokens k)) })
      else .ok (false, s) := by
  unfold eat
  simp only [hk, Bool.false_eq_true, if_false]
  rw [G.bind_apply, at_total]
  simp only
  cases hb : atF k s.kinds s.joint s.pos with
  | false => simp only [Bool.not_false, if_true, Bool.false_eq_true, if_false]; rfl
  | true =>
    simp only [Bool.not_true, Bool.false_eq_true, if_false, if_true]
    rw [G.bind_apply, doBump_eq]; rfl

/-- the state after `do_bump` -/
def P.bumped (k : SyntaxKind) (n : Nat) (t : P) : P :=
  { t with pos := t.pos + n, steps := 0, sinceBump := 1, events := t.events.push (.token k n) }

theorem nth_ok (n : Nat) (s : P) (r : SyntaxKind × P) (h : nth n s = .ok r) :
    r = (s.kindAt (s.pos + n), { s with steps := s.steps + 1 }) := by
  rw [nth_eq] at h
  (repeat' split at h) <;> cases h
  rfl

theorem eat_ok (k : SyntaxKind) (s : P) (r : Bool × P) (h : eat k s = .ok r) :
    k ≠ .EOF ∧ (r = (false, s) ∨
      atF k s.kinds s.joint s.pos = true ∧ r = (true, s.bumped k (eatRawTokens k))) := by
  by_cases hk : (k == .EOF) = true
  · unfold eat at h; rw [if_pos hk] at h; cases h
  · rw [eat_eq k (by simpa using hk)] at h
    refine ⟨by simpa using hk, ?_⟩
    split at h <;> cases h
    · exact .inr ⟨‹_›, rfl⟩
    · exact .inl rfl

theorem bumpAny_ok (s : P) (r : Unit × P) (h : bumpAny s = .ok r) :
    r.2 = s ∨ s.kindAt s.pos ≠ .EOF ∧ r.2 = s.bumped (s.kindAt s.pos) 1 := by
  rw [bumpAny_eq] at h
  split at h <;> cases h
  · exact .inl rfl
  · rename_i hk; exact .inr ⟨by simpa using hk, rfl⟩

theorem complete_ok (m : Marker) (kind : SyntaxKind) (s : P) (r : CompletedMarker × P)
    (h : m.complete kind s = .ok r) :
    ∃ fp, s.events[m.pos]? = some (.start .TOMBSTONE fp) ∧ (kind == .TOMBSTONE) = false ∧
      r = (⟨m.pos, kind⟩, { s.slotSet m.pos kind fp with
        events := (s.slotSet m.pos kind fp).events.push .finish, sinceBump := s.sinceBump + 1 }) := by
  rw [complete_eq] at h
  split at h
  · rename_i k0 fp hm
    split at h
    · cases h
    rename_i hk0
    split at h
    · cases h
    rename_i hkind
    split at h <;> cases h
    obtain rfl : k0 = .TOMBSTONE := by simpa using hk0
    exact ⟨fp, hm, by simpa using hkind, rfl⟩
  · cases h

theorem abandon_ok (m : Marker) (s : P) (r : Unit × P) (h : m.abandon s = .ok r) :
    m.pos ∉ s.protectedPos ∧ (r.2 = { s with live := s.live - 1 } ∨
      m.pos = s.events.size - 1 ∧ s.events.back? = some (.start .TOMBSTONE none) ∧
        r.2 = { s with events := s.events.pop, live := s.live - 1 }) := by
  rw [abandon_eq] at h
  split at h
  · cases h
  rename_i hprot
  refine ⟨fun hc => hprot (by simp [hc]), ?_⟩
  split at h
  · cases h
  split at h
  · rename_i hlast
    split at h
    · rename_i kb fpb hback
      split at h <;> cases h
      rename_i hkb
      obtain ⟨rfl, rfl⟩ : kb = .TOMBSTONE ∧ fpb = none := by
        simpa only [Bool.and_eq_true, beq_iff_eq, Option.isNone_iff_eq_none] using hkb
      exact .inr ⟨by simpa using hlast, hback, rfl⟩
    · cases h
  · cases h; exact .inl rfl

theorem precede_ok (cm : CompletedMarker) (s : P) (r : Marker × P) (h : cm.precede s = .ok r) :
    ∃ k fp, s.started.events[cm.pos]? = some (.start k fp) ∧ cm.pos ≤ s.events.size ∧
      r = ({ pos := s.events.size, isFp := true },
        { s.started with
            events := s.started.events.set! cm.pos (.start k (some (s.events.size - cm.pos))),
            protectedPos := s.events.size :: s.protectedPos }) := by
  rw [precede_eq] at h
  split at h
  · cases h
  split at h
  · rename_i k fp hm
    split at h <;> cases h
    exact ⟨k, fp, hm, by omega, rfl⟩
  · cases h

theorem extendTo_ok (cm : CompletedMarker) (m : Marker) (s : P) (r : CompletedMarker × P)
    (h : cm.extendTo m s = .ok r) :
    ∃ k fp k' fp', s.events[m.pos]? = some (.start k fp) ∧ m.pos ≤ cm.pos ∧
      s.events[cm.pos]? = some (.start k' fp') ∧ k' ≠ .TOMBSTONE ∧
      r = (cm, { s with events := s.events.set! m.pos (.start k (some (cm.pos - m.pos))),
                        live := s.live - 1 }) := by
  rw [extendTo_eq] at h
  split at h
  · rename_i k fp hm
    split at h
    · cases h
    split at h
    · rename_i k' fp' hc
      split at h <;> cases h
      rename_i hk
      exact ⟨k, fp, k', fp', hm, by omega, hc, by simpa using hk, rfl⟩
    · cases h
  · cases h

structure Pres (I : P → Prop) {α} (x : G α) : Prop where
  run : ∀ s r, I s → x s = .ok r → I r.2

theorem Pres.bind {I : P → Prop} {α β} {x : G α} {f : α → G β} (hx : Pres I x)
    (hf : ∀ a, Pres I (f a)) : Pres I (x >>= f) := by
  refine ⟨fun s r hs h => ?_⟩
  obtain ⟨a, s1, h1, h2⟩ := (G.bind_ok x f s r).mp h
  exact (hf a).run s1 r (hx.run s (a, s1) hs h1) h2

theorem Pres.pure {I : P → Prop} {α} (a : α) : Pres I (pure a : G α) := by
  refine ⟨fun s r hs h => ?_⟩; simp at h; subst h; exact hs

theorem Pres.fail {I : P → Prop} {α} (o : Outcome) : Pres I (fail o : G α) := by
  refine ⟨fun s r _ h => ?_⟩; simp at h

theorem ReadOnly.pres {I : P → Prop} {α} {x : G α} (h : ReadOnly x) : Pres I x := by
  refine ⟨fun s r hs hr => ?_⟩; rw [h s r hr]; exact hs

/-- `Pres I` is closed under the rules of `GClosed` as soon as the primitives that write the
state keep `I`; the others keep any `I` -/
theorem Pres.closed {I : P → Prop} (nth1 : Pres I (nth 1)) (start : Pres I start)
    (error : ∀ msg, Pres I (error msg)) (eat : ∀ k, Pres I (eat k)) (bumpAny : Pres I bumpAny)
    (complete : ∀ m k, Pres I (Marker.complete m k)) (abandon : ∀ m, Pres I (Marker.abandon m))
    (precede : ∀ cm, Pres I (CompletedMarker.precede cm))
    (extendTo : ∀ cm m, Pres I (CompletedMarker.extendTo cm m)) : GClosed (Pres I) :=
  { pure := Pres.pure, bind := Pres.bind, fail := Pres.fail, current := current_readOnly.pres,
    at' := fun _ => (at_readOnly _).pres, atTs := fun _ => (atTs_readOnly _).pres,
    nth1, start, error, eat, bumpAny, complete, abandon, precede, extendTo }

end Oq3.Parser
