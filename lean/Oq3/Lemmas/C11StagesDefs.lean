/-
C11 (gates, second half) — the CONCRETE composites: the lex-checked parse and the string entry
point, built from the real model stages (no stage is a parameter).

The definitions, each with the Rust function it mirrors:

* `lexerErrorsToSyntaxErrors`  — `oq3_syntax/src/parsing.rs: lexer_errors_to_syntax_errors`
  (and the identical loop at the end of `build_tree`): `(msg, lexed.text_range(i))` for every
  `(i, msg)` of `lexed.errors()`; `text_range` asserts `i < len` (`none` = that panic).
* `parseTextCheckLex`          — `oq3_syntax/src/parsing.rs: parse_text_check_lex`:
  `LexedStr::new`; if `!lexed.errors_is_empty()` return `(None, lexer errors)`; otherwise
  `to_input`, `TopEntryPoint::SourceFile.parse` (= grammar `source_file`, `event::process`, the debug
  balance assertions), `build_tree` (= `intersperse_trivia` + `SyntaxTreeBuilder`, then the lexer
  errors appended).
* `checkLexParse`              — `oq3_syntax/src/lib.rs: SourceFile::parse_check_lex`: the above; with
  a tree, `errors.extend(validation::validate(&root))` and `assert_eq!(root.kind(), SOURCE_FILE)`.
* `parsedOfChecked` / `includesOfTree` — what `oq3_source_file` reads off a `ParseOrErrors`:
  `have_parse()`, `errors().len()`, `tree()` (the typed AST through the accessor model
  `Acc.Build.program (cnodeOf tree)`), and the top-level include paths as `parse_included_files`
  computes them (`statements()`, `Stmt::Include`, `include.file()?`, `file.to_string()?`).
* `parseSourceString`          — `oq3_source_file/src/source_file.rs: parse_source_and_includes` on
  the top-level text, as called by `api.rs: parse_source_string` (the included files go through
  `Includes.parseIncludedFiles`, whose `parse` of an included text stays the parameter of that model).
* `analyzeTextInc`             — `oq3_semantics/src/syntax_to_semantics.rs: parse_source_string`
  (`parse_source_string_with_path_search`): `parse_source_string` then `analyze_source`
  (`Includes.analyzeSource`); `none` = analysis skipped: `Context::new`, `have_syntax_errors: true`.
* `analyzeText`                — the same on a machine where no include file can be read (`noFS`):
  the entry point for a text WITHOUT REAL INCLUDES (every include names `stdgates.inc`).
* `resultContext`, `resultHaveSyntaxErrors` — the `context` and `have_syntax_errors` fields of the
  `ParseResult`: `Context::new(..)` and `true` when the analysis was skipped.
* parts of these: `parseLexed` (the `to_input` … `build_tree` part of `parse_text_check_lex`),
  `parseChecked` (`parse_check_lex` read through `parsedOfChecked`), `ofSynErr`, `ofVErr`, `Tree.kind`,
  `noFS`.  `parserDiagnostics` mirrors no Rust function: what the parser stages report on a text,
  the lexer's errors aside.

A Rust panic / the model's fuel is an explicit `Fail` outcome naming the stage.
-/
import Oq3.Lemmas.Bridge
import Oq3.Lemmas.TreeCNode
import Oq3.Lemmas.AccBuild
import Oq3.Model.Validation
import Oq3.Model.Includes
import Oq3.Model.Grammar

namespace Oq3.Stages
open Oq3.Gen Oq3.Lexer Oq3.Lexed Oq3.Parser Oq3.Grammar Oq3.Builder Oq3.Bridge Oq3.Acc Oq3.Lemmas.Lexed

/-- `SyntaxError`: message and text range -/
structure SyntaxError where
  msg : String
  start : Nat
  stop : Nat
  deriving DecidableEq, Repr, Inhabited

/-- a stage that did not return normally -/
inductive Fail
  /-- `LexedStr::new` (a byte slice off a character boundary) -/
  | lexed
  /-- `LexedStr::text_range` assertion in the lexer-error loop -/
  | lexErrorRange
  /-- `LexedStr::to_input` -/
  | toInput
  /-- the grammar: a parser panic, the hang detectors, or the model's fuel -/
  | parser (o : Oq3.Parser.Outcome)
  /-- `event::process` -/
  | process
  /-- the debug balance assertions of `TopEntryPoint::parse` -/
  | balance
  /-- `intersperse_trivia` / rowan's builder -/
  | builder (site : String)
  /-- a panic inside `validation::validate` -/
  | validate (site : String)
  /-- `assert_eq!(root.kind(), SyntaxKind::SOURCE_FILE)` -/
  | rootKind
  /-- a typed accessor panicked while the AST was read (`BAD-AST`) -/
  | accessor (e : Oq3.Acc.BErr)
  /-- `parse_included_files` did not return (panic or the include model's fuel) -/
  | includes (o : Oq3.Includes.Outcome)
  /-- the semantic pass: a panic, an unsupported include, or its fuel -/
  | sema (o : Oq3.Sema.Outcome)
  deriving Repr, Inhabited

/-! ### `parse_text_check_lex` -/

/-- `lexer_errors_to_syntax_errors(lexed)` -/
def lexerErrorsToSyntaxErrors (l : LexedStr) : Option (List SyntaxError) :=
  l.errors.mapM fun (i, msg) =>
    match l.textRange i with
    | some (a, b) => some ⟨msg, a, b⟩
    | none => none

/-- `SyntaxError::new_at_offset(msg, pos)` for the builder's errors -/
def ofSynErr (e : SynErr) : SyntaxError := ⟨e.msg, e.pos, e.pos⟩

/-- a `validation.rs` diagnostic -/
def ofVErr (e : Oq3.Validation.VErr) : SyntaxError := ⟨e.msg, e.start, e.stop⟩

/-- the parser stages on a lexed text: `to_input`, `TopEntryPoint::SourceFile.parse`, `build_tree`
(tree and the builder's diagnostics = the parser's `Error` events with their offsets) -/
def parseLexed (fuel npl : Nat) (l : LexedStr) : Except Fail (Tree × List SynErr) :=
  match l.toInput with
  | none => .error .toInput
  | some inp =>
    match parseSourceFile fuel inp.kind.toArray inp.joint.toArray npl with
    | .error o => .error (.parser o)
    | .ok (events, _) =>
      match process events.toList with
      | none => .error .process
      | some steps =>
        if !balanceCheck steps then .error .balance
        else
          match buildTree (rawToksOf l) steps with
          | .error site => .error (.builder site)
          | .ok (tree, errs, _) => .ok (tree, errs)

/-- `parsing::parse_text_check_lex` -/
def parseTextCheckLex (uc : UC) (fuel npl : Nat) (text : List Char) :
    Except Fail (Option Tree × List SyntaxError) :=
  match LexedStr.new uc text with
  | none => .error .lexed
  | some l =>
    if !l.error.isEmpty then
      match lexerErrorsToSyntaxErrors l with
      | none => .error .lexErrorRange
      | some errs => .ok (none, errs)
    else
      match parseLexed fuel npl l with
      | .error f => .error f
      | .ok (tree, errs) =>
        -- `build_tree` appends the lexer errors after the builder's
        match lexerErrorsToSyntaxErrors l with
        | none => .error .lexErrorRange
        | some lerrs => .ok (some tree, errs.map ofSynErr ++ lerrs)

/-! ### `SourceFile::parse_check_lex` -/

def Tree.kind : Tree → SyntaxKind
  | .node k _ => k
  | .leaf k _ => k

/-- `SourceFile::parse_check_lex`: `(green_maybe, errors)` -/
def checkLexParse (uc : UC) (fuel npl : Nat) (text : List Char) :
    Except Fail (Option Tree × List SyntaxError) :=
  match parseTextCheckLex uc fuel npl text with
  | .error f => .error f
  | .ok (none, errs) => .ok (none, errs)
  | .ok (some tree, errs) =>
    match Oq3.Validation.validate tree 0 with
    | .error site => .error (.validate site)
    | .ok verrs =>
      if Tree.kind tree != .SOURCE_FILE then .error .rootKind
      else .ok (some tree, errs ++ verrs.map ofVErr)

/-! ### the PARSER's diagnostics of a text (what `SourceFile::parse` would report besides the lexer's) -/

/-- the diagnostics of the parser stages alone on a text: the `Error` events of the grammar as
`build_tree` places them, followed by the `validation.rs` diagnostics of the tree -/
def parserDiagnostics (uc : UC) (fuel npl : Nat) (text : List Char) : Except Fail (Tree × List SyntaxError) :=
  match parseLexed fuel npl (lexedOf uc text) with
  | .error f => .error f
  | .ok (tree, errs) =>
    match Oq3.Validation.validate tree 0 with
    | .error site => .error (.validate site)
    | .ok verrs =>
      if Tree.kind tree != .SOURCE_FILE then .error .rootKind
      else .ok (tree, errs.map ofSynErr ++ verrs.map ofVErr)

/-! ### what `oq3_source_file` reads off the result -/

/-- the top-level include statements as `parse_included_files` sees them: `none` =
`include.file()` is `None`, `some none` = `file.to_string()` is `None`; a panicking
`FilePath::token` is `BErr.badAst` -/
def includesOfTree (root : CNode) : Except BErr (List (Option (Option String))) :=
  ((SourceFile.statements root).filter (fun n => n.kind == .INCLUDE)).mapM fun n =>
    match Include.file n with
    | none => .ok none
    | some f =>
      match FilePath.to_string f with
      | .panic => .error .badAst
      | .ok none => .ok (some none)
      | .ok (some s) => .ok (some (some (String.ofList s)))

/-- the `ParseOrErrors` as the include model's `Parsed`: no tree ⇒ `lexErrors n`; a tree with
`n > 0` diagnostics ⇒ `syntaxErrors n includes`; a tree without diagnostics ⇒ its typed AST -/
def parsedOfChecked : Option Tree × List SyntaxError → Except Fail Oq3.Includes.Parsed
  | (none, errs) => .ok (.lexErrors errs.length)
  | (some tree, errs) =>
    if errs.length != 0 then
      match includesOfTree (cnodeOf tree) with
      | .error e => .error (.accessor e)
      | .ok incs => .ok (.syntaxErrors errs.length incs)
    else
      match Build.program (cnodeOf tree) with
      | .error e => .error (.accessor e)
      | .ok ast => .ok (.clean ast)

/-- `SourceFile::parse_check_lex(text)` as the include model sees it -/
def parseChecked (uc : UC) (fuel npl : Nat) (text : List Char) : Except Fail Oq3.Includes.Parsed :=
  match checkLexParse uc fuel npl text with
  | .error f => .error f
  | .ok r => parsedOfChecked r

/-! ### `parse_source_string` and `analyze_source` -/

open Oq3.Includes in
/-- `oq3_source_file: parse_source_string` (`parse_source_and_includes` on the top-level text):
the parsed source and its included sources.  The Rust scan is a plain iterator; the include model's
fuel counts list steps AND nesting, so it is given `ifuel` (nesting into included files) plus one
unit per top-level include statement -/
def parseSourceString (fs : FS) (parseInc : String → Parsed) (search env : Option (List String))
    (ifuel : Nat) (uc : UC) (fuel npl : Nat) (text : List Char) : Except Fail (Parsed × List PSrc) :=
  match parseChecked uc fuel npl text with
  | .error f => .error f
  | .ok p =>
    if p.haveParse then
      match parseIncludedFiles fs parseInc search env (ifuel + (includesOf p).length + 1) (includesOf p) with
      | .ok incs => .ok (p, incs)
      | .error o => .error (.includes o)
    else .ok (p, [])

open Oq3.Includes in
/-- `oq3_semantics: parse_source_string_with_path_search` = `parse_source_string` then
`analyze_source`; `none` = skipped because of syntax errors -/
def analyzeTextInc (fs : FS) (parseInc : String → Parsed) (search env : Option (List String))
    (ifuel afuel : Nat) (uc : UC) (fuel npl : Nat) (text : List Char) :
    Except Fail (Option (Oq3.Sema.Ctx × List ErrTree)) :=
  match parseSourceString fs parseInc search env ifuel uc fuel npl text with
  | .error f => .error f
  | .ok (p, incs) =>
    match analyzeSource afuel p incs with
    | .error o => .error (.sema o)
    | .ok r => .ok r

/-- a machine on which no file exists -/
def noFS : Oq3.Includes.FS := { isFile := fun _ => false, read := fun _ => .notFound }

/-- `oq3_semantics: parse_source_string(text, None)` for a text without real includes: nothing is
read, so the file system and the parse of included texts do not matter (`noFS`, no nesting fuel) -/
def analyzeText (afuel : Nat) (uc : UC) (fuel npl : Nat) (text : List Char) :
    Except Fail (Option (Oq3.Sema.Ctx × List Oq3.Includes.ErrTree)) :=
  analyzeTextInc noFS (fun _ => .lexErrors 0) none none 0 afuel uc fuel npl text

/-- the `context` of the `ParseResult`: `Context::new` (empty program, empty symbol table beyond the
built-ins, no semantic diagnostics) when the analysis was skipped -/
def resultContext : Option (Oq3.Sema.Ctx × List Oq3.Includes.ErrTree) → Oq3.Sema.Ctx
  | some (c, _) => c
  | none => {}

/-- the `have_syntax_errors` field of the `ParseResult` -/
def resultHaveSyntaxErrors : Option (Oq3.Sema.Ctx × List Oq3.Includes.ErrTree) → Bool
  | some _ => false
  | none => true

end Oq3.Stages

