/-
Bridge between the lexer side (`Oq3.Lexed`: `LexedStr`, `to_input`) and the builder side
(`Oq3.Builder`: raw token table, `intersperse_trivia`), for the end-to-end lossless theorem
(`Props/C02Full.lean`).

* `rawToksOf l` — the token table of a `LexedStr` as the builder sees it (kind and text of every
  token, no EOF sentinel), through the accessors `kind(i)`, `text(i)`.
* `toInput_exact` — the exact value of `to_input`: kinds = the non-trivia kinds, joint bits =
  `jointSpec` (bit `i` is set iff the raw token right after the `i`-th non-trivia token is not
  trivia, or the token is a `FLOAT_NUMBER` whose text does not end with `.`).
* `joint_exact` — hence a joint bit on a non-float token means "the next raw token is non-trivia".
-/
import Oq3.Lemmas.Lexed
import Oq3.Lemmas.BuilderFit

namespace Oq3.Bridge
open Oq3.Gen Oq3.Lexer Oq3.Lexed Oq3.Lemmas.Lexer Oq3.Lemmas.Lexed Oq3.Builder

/-- raw token table of a `LexedStr` (without the EOF sentinel), through `kind(i)` / `text(i)` -/
def rawToksOf (l : LexedStr) : List RawTok :=
  (List.range l.len).filterMap fun i =>
    match l.kindAt i, l.textAt i with
    | some k, some t => some ⟨k, t⟩
    | _, _ => none

def rawOf (t : Token) : RawTok := ⟨synKind t, t.text⟩

theorem rawToksOf_lexedOf (uc : UC) (s : List Char) :
    rawToksOf (lexedOf uc s) = (tokenize uc s).map rawOf := by
  have h : rawToksOf (lexedOf uc s) = (table (lexedOf uc s)).filterMap (fun e => match e.1, e.2 with
      | some k, some t => some (RawTok.mk k t)
      | _, _ => none) := by
    rw [table, List.filterMap_map]; rfl
  rw [h, table_lexedOf, List.filterMap_map]
  exact congrFun (List.filterMap_eq_map (f := rawOf)) _

theorem rawText_rawToksOf (uc : UC) (s : List Char) : rawText (rawToksOf (lexedOf uc s)) = s := by
  rw [rawToksOf_lexedOf]
  have := tokenize_texts uc s
  simp only [rawText, List.map_map]
  exact this

theorem keywordTable_ne_eof : ∀ p ∈ SyntaxKind.keywordTable, p.2 ≠ SyntaxKind.EOF := by decide

theorem scalarTypeTable_ne_eof : ∀ p ∈ SyntaxKind.scalarTypeTable, p.2 ≠ SyntaxKind.EOF := by decide

theorem lookup_ne_eof {tbl : List (List Char × SyntaxKind)} (ht : ∀ p ∈ tbl, p.2 ≠ SyntaxKind.EOF)
    {q : List Char × SyntaxKind → Bool} {k : SyntaxKind} (h : (tbl.find? q).map (·.2) = some k) :
    k ≠ .EOF := by
  obtain ⟨p, hp, rfl⟩ := Option.map_eq_some_iff.mp h
  exact ht p (List.mem_of_find?_eq_some hp)

theorem innerExtendToken_ne_eof (k : TokenKind) (txt : List Char) (hk : k ≠ .eof) :
    (innerExtendToken k txt).2.1 ≠ .EOF := by
  cases k with
  | eof => exact absurd rfl hk
  | ident =>
    simp only [innerExtendToken]
    split
    · simp
    · cases h1 : SyntaxKind.fromKeyword txt with
      | some k => simpa using lookup_ne_eof keywordTable_ne_eof h1
      | none =>
        cases h2 : SyntaxKind.fromScalarType txt with
        | some k => simpa using lookup_ne_eof scalarTypeTable_ne_eof h2
        | none => simp
  | hardwareIdent =>
    simp only [innerExtendToken]
    cases h1 : SyntaxKind.fromKeyword txt with
    | some k => simpa using lookup_ne_eof keywordTable_ne_eof h1
    | none => simp
  | literal l n => cases l <;> simp [innerExtendToken, extendLiteralFunc]
  | _ => simp [innerExtendToken]

theorem rawToks_kind_ne_eof (uc : UC) (s : List Char) :
    ∀ t ∈ rawToksOf (lexedOf uc s), t.kind ≠ .EOF := by
  rw [rawToksOf_lexedOf]
  intro t ht
  obtain ⟨tok, htok, rfl⟩ := List.mem_map.mp ht
  exact innerExtendToken_ne_eof tok.kind tok.text
    (forall_tokenize uc (fun t => t.kind ≠ .eof) (tokenAt_kind_ne_eof uc) s tok htok)


/-- the joint bits `to_input` computes, one per non-trivia token: the next raw token is
non-trivia, or the token is a `FLOAT_NUMBER` whose text does not end with `.` -/
def jointSpec : List RawTok → List Bool
  | [] => []
  | t :: rest =>
    if t.kind.isTrivia then jointSpec rest
    else (headNonTrivia rest || (t.kind == .FLOAT_NUMBER && !endsWithDot t.text)) :: jointSpec rest

/-- `was_joint()` on the bit list -/
def setLast (l : List Bool) : List Bool := l.set (l.length - 1) true

/-- one iteration of `to_input`, as a total function of the raw token -/
def pureStep (t : RawTok) (st : ToInputState) : ToInputState :=
  if t.kind.isTrivia then { st with wasJoint := false }
  else
    let res0 : Input := if st.wasJoint then { st.res with joint := setLast st.res.joint } else st.res
    let res1 := res0.push t.kind
    let res2 : Input :=
      if t.kind == .FLOAT_NUMBER && !endsWithDot t.text then { res1 with joint := setLast res1.joint }
      else res1
    ⟨res2, true⟩

theorem wasJoint_eq (inp : Input) (hlen : inp.joint.length = inp.kind.length) (hne : inp.kind ≠ []) :
    inp.wasJoint = some { inp with joint := setLast inp.joint } := by
  have hpos : 0 < inp.kind.length := List.length_pos_iff.mpr hne
  have hl : inp.len = inp.kind.length := rfl
  unfold Input.wasJoint
  rw [if_neg (by omega), if_pos (by omega)]
  simp [setLast, hl, hlen]

theorem setLast_length (l : List Bool) : (setLast l).length = l.length := by simp [setLast]

theorem setLast_append_singleton (l : List Bool) (b : Bool) : setLast (l ++ [b]) = l ++ [true] := by
  simp [setLast]

theorem toInputStep_eq (l : LexedStr) (i : Nat) (st : ToInputState) (hinv : InputInv st)
    (k : SyntaxKind) (t : List Char) (hk : l.kindAt i = some k) (ht : l.textAt i = some t) :
    toInputStep l i st = some (pureStep ⟨k, t⟩ st) ∧ InputInv (pureStep ⟨k, t⟩ st) := by
  obtain ⟨hlen, hwj⟩ := hinv
  simp only [toInputStep, hk, ht, pureStep]
  cases htr : k.isTrivia with
  | true => simp only [if_true]; exact ⟨trivial, hlen, by simp⟩
  | false =>
    simp only [Bool.false_eq_true, if_false]
    -- pending `was_joint` of the previous token
    have h0 : ∃ res0 : Input,
        (if st.wasJoint = true then st.res.wasJoint else some st.res) = some res0 ∧
        res0 = (if st.wasJoint = true then { st.res with joint := setLast st.res.joint } else st.res) ∧
        res0.joint.length = res0.kind.length := by
      cases hw : st.wasJoint with
      | false => exact ⟨st.res, by simp, by simp, hlen⟩
      | true =>
        refine ⟨{ st.res with joint := setLast st.res.joint }, ?_, by simp, ?_⟩
        · simp only [if_true]; exact wasJoint_eq st.res hlen (hwj hw)
        · simp [setLast_length, hlen]
    obtain ⟨res0, h01, h02, h03⟩ := h0
    rw [h01, ← h02]
    have hp1 : (res0.push k).joint.length = (res0.push k).kind.length := by simp [Input.push, h03]
    have hp2 : (res0.push k).kind ≠ [] := by simp [Input.push]
    simp only []
    cases hfl : (k == SyntaxKind.FLOAT_NUMBER) with
    | false => simp only [Bool.false_and, Bool.false_eq_true, if_false]; exact ⟨trivial, hp1, fun _ => hp2⟩
    | true =>
      simp only [Bool.true_and, if_true]
      cases hd : endsWithDot t with
      | true => simp only [Bool.not_true, Bool.false_eq_true, if_false]; exact ⟨trivial, hp1, fun _ => hp2⟩
      | false =>
        simp only [Bool.not_false, if_true, wasJoint_eq _ hp1 hp2]
        exact ⟨trivial, by simp [setLast_length, hp1], fun _ => hp2⟩

theorem fold_pureStep (suf : List RawTok) (st : ToInputState) :
    (suf.foldl (fun st t => pureStep t st) st).res =
      ⟨st.res.kind ++ ntKinds suf,
       (if st.wasJoint && headNonTrivia suf then setLast st.res.joint else st.res.joint) ++
         jointSpec suf⟩ := by
  induction suf generalizing st with
  | nil => simp [ntKinds, jointSpec, headNonTrivia]
  | cons t rest ih =>
    simp only [List.foldl_cons]
    rw [ih]
    cases htr : t.kind.isTrivia with
    | true =>
      simp [pureStep, htr, ntKinds, jointSpec, headNonTrivia]
    | false =>
      have hnt : ntKinds (t :: rest) = t.kind :: ntKinds rest := by simp [ntKinds, htr]
      have hhd : headNonTrivia (t :: rest) = true := by simp [headNonTrivia, htr]
      simp only [pureStep, htr, Bool.false_eq_true, if_false, hnt, jointSpec, hhd, Bool.and_true,
        Bool.true_and]
      cases hw : st.wasJoint <;> cases hh : headNonTrivia rest <;>
        cases hf : (t.kind == SyntaxKind.FLOAT_NUMBER && !endsWithDot t.text) <;>
        simp [Input.push, setLast_append_singleton]

theorem toInputLoop_eq (l : LexedStr) : ∀ (ts : List RawTok) (i : Nat) (st : ToInputState),
    InputInv st →
    (∀ j (hj : j < ts.length), l.kindAt (i + j) = some ts[j].kind ∧ l.textAt (i + j) = some ts[j].text) →
    toInputLoop l ts.length i st = some (ts.foldl (fun st t => pureStep t st) st) := by
  intro ts
  induction ts with
  | nil => intro i st _ _; rfl
  | cons t ts ih =>
    intro i st hinv hacc
    have h0 := hacc 0 (by simp)
    simp only [Nat.add_zero, List.getElem_cons_zero] at h0
    obtain ⟨h1, hinv1⟩ := toInputStep_eq l i st hinv t.kind t.text h0.1 h0.2
    simp only [List.length_cons, toInputLoop, h1, List.foldl_cons]
    exact ih (i + 1) _ hinv1 (fun j hj => by
      have := hacc (j + 1) (by simp; omega)
      simp only [List.getElem_cons_succ] at this
      rw [show i + 1 + j = i + (j + 1) by omega]; exact this)

theorem toInput_exact (uc : UC) (s : List Char) :
    (lexedOf uc s).toInput =
      some ⟨ntKinds (rawToksOf (lexedOf uc s)), jointSpec (rawToksOf (lexedOf uc s))⟩ := by
  rw [rawToksOf_lexedOf]
  have hloop := toInputLoop_eq (lexedOf uc s) ((tokenize uc s).map rawOf) 0 ⟨Input.empty, false⟩
    ⟨rfl, by simp⟩ (fun j hj => by
      have hj' : j < (tokenize uc s).length := by simpa using hj
      rw [Nat.zero_add, lexedOf_kindAt uc s j hj', lexedOf_textAt uc s j hj']
      simp [rawOf])
  simp only [List.length_map] at hloop
  simp only [LexedStr.toInput, lexedOf_len, hloop, Option.map_some, fold_pureStep]
  simp [Input.empty]

theorem jointSpec_length (toks : List RawTok) : (jointSpec toks).length = (ntKinds toks).length := by
  induction toks with
  | nil => rfl
  | cons t rest ih => cases h : t.kind.isTrivia <;> simp [jointSpec, ntKinds, h] at ih ⊢ <;> exact ih

theorem adjBits_length (toks : List RawTok) : (adjBits toks).length = (ntKinds toks).length := by
  induction toks with
  | nil => rfl
  | cons t rest ih => cases h : t.kind.isTrivia <;> simp [adjBits, ntKinds, h] at ih ⊢ <;> exact ih

/-- **Joint exactness.**  A joint bit on a token that is not a `FLOAT_NUMBER` means that the next
raw token is non-trivia: the two are adjacent in the token table. -/
theorem joint_exact (toks : List RawTok) (i : Nat)
    (hj : (jointSpec toks).getD i false = true)
    (hk : (ntKinds toks).getD i .EOF ≠ .FLOAT_NUMBER) : (adjBits toks).getD i false = true := by
  induction toks generalizing i with
  | nil => simp [jointSpec] at hj
  | cons t rest ih =>
    cases htr : t.kind.isTrivia with
    | true =>
      simp only [jointSpec, ntKinds, adjBits, htr, if_true, List.filter_cons, Bool.not_true,
        Bool.false_eq_true, if_false] at hj hk ⊢
      exact ih i hj hk
    | false =>
      have hnt : ntKinds (t :: rest) = t.kind :: ntKinds rest := by simp [ntKinds, htr]
      simp only [jointSpec, adjBits, htr, Bool.false_eq_true, if_false, hnt] at hj hk ⊢
      cases i with
      | zero =>
        simp only [List.getD_cons_zero] at hj hk ⊢
        have : (t.kind == SyntaxKind.FLOAT_NUMBER) = false := by simpa using hk
        simpa [this] using hj
      | succ i =>
        simp only [List.getD_cons_succ] at hj hk ⊢
        exact ih i hj hk

end Oq3.Bridge
