/-
The step counter of `Parser::nth` is forgotten at the first bump.

Only `nth` reads `steps`; it increments it, and `do_bump` resets it: two runs of a grammar function that
differ only in the start value of the counter return the same value, and either end in the same
state (a token was consumed) or in states that again differ only in the counter, at the start
position (`StepsIrr`).  This is what turns "the counter does not grow" (`LangEv.AccV`) into "the
counter is `0` afterwards" for a statement: compare with the run from `{ s with steps := 0 }`
(`LangEv2.StmtOK2.exact`).
-/
import Oq3.Lemmas.GrammarClosed
import Oq3.Lemmas.ParserInv
import Oq3.Lemmas.SafeTok

namespace Oq3.Parser
open Oq3.Gen

def StepsIrr {α : Type} (x : G α) : Prop :=
  ∀ s k a t a' t', x s = .ok (a, t) → x { s with steps := k } = .ok (a', t') →
    a' = a ∧ (t' = t ∨ t.pos = s.pos ∧ ∃ k', t' = { t with steps := k' })

/-- a computation that neither reads nor writes the counter and keeps the position (the `pos := s.pos` in the
hypothesis: at `k := s.steps` it says that the run does not move) -/
theorem StepsIrr.of_comm {α : Type} {x : G α}
    (h : ∀ s k, x { s with steps := k } = (x s).map fun p => (p.1, { p.2 with steps := k, pos := s.pos })) :
    StepsIrr x := by
  intro s k a t a' t' h1 h2
  have hp : t.pos = s.pos := by
    have := h s s.steps
    rw [show ({ s with steps := s.steps } : P) = s from rfl, h1] at this
    injection this with this
    exact (congrArg (fun p : α × P => p.2.pos) this :)
  rw [h, h1] at h2
  injection h2 with h2
  injection h2 with ha ht
  exact ⟨ha.symm, Or.inr ⟨hp, k, by rw [← ht, ← hp]⟩⟩

theorem stepsIrr_closed : GClosed @StepsIrr where
  pure a := .of_comm fun s k => rfl
  fail o := fun _ _ _ _ _ _ h => nomatch h
  bind {α β x f} hx hf := by
    intro s k b u b' u' h1 h2
    obtain ⟨a, t, hx1, hf1⟩ := (G.bind_ok x f s _).mp h1
    obtain ⟨a', t', hx2, hf2⟩ := (G.bind_ok x f _ _).mp h2
    obtain ⟨rfl, rfl | ⟨hp, k', rfl⟩⟩ := hx s k a t a' t' hx1 hx2
    · rw [hf1] at hf2
      injection hf2 with hf2
      injection hf2 with hb hu
      exact ⟨hb.symm, Or.inl hu.symm⟩
    · obtain ⟨hb, hu | ⟨hq, hu⟩⟩ := hf a' t k' b u b' u' hf1 hf2
      · exact ⟨hb, Or.inl hu⟩
      · exact ⟨hb, Or.inr ⟨hq.trans hp, hu⟩⟩
  current := .of_comm fun s k => rfl
  at' k := .of_comm fun s _ => by rw [at_total, at_total]; rfl
  atTs ts := .of_comm fun s _ => by rw [atTs_eq, atTs_eq]; rfl
  nth1 := by
    intro s k a t a' t' h1 h2
    rw [nth_eq] at h1 h2
    simp only [show ¬ 1 > 3 by decide, if_false] at h1 h2
    split at h1
    · cases h1
    · split at h2
      · cases h2
      · injection h1 with h1
        injection h2 with h2
        injection h1 with ha ht
        injection h2 with ha' ht'
        subst ht ht'
        exact ⟨ha'.symm.trans ha, Or.inr ⟨rfl, k + 1, rfl⟩⟩
  start := .of_comm fun s k => by
    rw [start_eq, start_eq, show ({ s with steps := k } : P).hookTrip = s.hookTrip from rfl]
    cases s.hookTrip <;> rfl
  error msg := .of_comm fun s k => by
    rw [error_eq, error_eq, show ({ s with steps := k } : P).hookTrip = s.hookTrip from rfl]
    cases s.hookTrip <;> rfl
  eat k := by
    by_cases hk : (k == .EOF) = true
    · intro s _ a t _ _ h
      unfold eat at h; simp only [hk, if_true] at h; cases h
    · intro s k₀ a t a' t' h1 h2
      rw [eat_eq k (by simpa using hk)] at h1 h2
      change (if atF k s.kinds s.joint s.pos = true then _ else _) = _ at h2
      by_cases hc : atF k s.kinds s.joint s.pos = true
      · simp only [hc, if_true] at h1 h2
        injection h1.symm.trans h2 with h
        injection h with ha ht
        exact ⟨ha.symm, Or.inl ht.symm⟩
      · simp only [hc] at h1 h2
        injection h1 with h1
        injection h2 with h2
        injection h1 with ha ht
        injection h2 with ha' ht'
        subst ht ht'
        exact ⟨ha'.symm.trans ha, Or.inr ⟨rfl, k₀, rfl⟩⟩
  bumpAny := by
    intro s k a t a' t' h1 h2
    rw [bumpAny_eq] at h1 h2
    change (if (s.kindAt s.pos == .EOF) = true then _ else _) = _ at h2
    by_cases hc : (s.kindAt s.pos == .EOF) = true
    · simp only [hc, if_true] at h1 h2
      injection h1 with h1
      injection h2 with h2
      injection h1 with _ ht
      injection h2 with _ ht'
      subst ht ht'
      exact ⟨rfl, Or.inr ⟨rfl, k, rfl⟩⟩
    · simp only [hc] at h1 h2
      injection h1.symm.trans h2 with h
      injection h with _ ht
      exact ⟨rfl, Or.inl ht.symm⟩
  complete m k := .of_comm fun s k₀ => by
    rw [complete_eq, complete_eq, show ({ s with steps := k₀ } : P).hookTrip = s.hookTrip from rfl,
      show ({ s with steps := k₀ } : P).events[m.pos]? = s.events[m.pos]? from rfl]
    repeat' split
    all_goals rfl
  abandon m := .of_comm fun s k => by
    rw [abandon_eq, abandon_eq, show ({ s with steps := k } : P).events = s.events from rfl,
      show ({ s with steps := k } : P).protectedPos = s.protectedPos from rfl]
    repeat' split
    all_goals rfl
  precede cm := .of_comm fun s k => by
    rw [precede_eq, precede_eq, show ({ s with steps := k } : P).hookTrip = s.hookTrip from rfl,
      show ({ s with steps := k } : P).started.events[cm.pos]? = s.started.events[cm.pos]? from rfl,
      show ({ s with steps := k } : P).events = s.events from rfl]
    repeat' split
    all_goals rfl
  extendTo cm m := .of_comm fun s k => by
    rw [extendTo_eq, extendTo_eq, show ({ s with steps := k } : P).events = s.events from rfl]
    repeat' split
    all_goals rfl

end Oq3.Parser
