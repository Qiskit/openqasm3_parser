/-
Parser-state invariant `TokID` (for C17, renaming through lexer and parser): the token events
account for exactly the raw tokens consumed so far (`sumTok = pos`), and every token event
`token k n` pushed at raw-token cursor `c` satisfies `tokId1`: if `n = 1` its kind is the kind of
raw token `c`; otherwise (a glued composite operator) neither `k` nor any of the glued raw tokens is
an `IDENT`.

Primitive lemmas in the `Pres` style of `Lemmas/ParserInv.lean` / `Lemmas/TokKinds.lean`;
`tokIDClosed` collects them for the walk of the grammar (`Lemmas/GrammarClosed.lean`),
`Lemmas/RenameTextGrammar.lean` states the result.
-/
import Oq3.Lemmas.SafeTok
import Oq3.Lemmas.ParserInv
import Oq3.Lemmas.RenameTextDefs

namespace Oq3.Parser
open Oq3.Gen Oq3.RenameText

def tokOnly : List Ev → List (SyntaxKind × Nat)
  | [] => []
  | .token k n :: es => (k, n) :: tokOnly es
  | _ :: es => tokOnly es

def sumT : List (SyntaxKind × Nat) → Nat
  | [] => 0
  | (_, n) :: ts => n + sumT ts

def tokIdT (K : Array SyntaxKind) : Nat → List (SyntaxKind × Nat) → Bool
  | _, [] => true
  | c, (k, n) :: ts => tokId1 (fun i => K.getD i .EOF) c k n && tokIdT K (c + n) ts

theorem sumTok_tokOnly (l : List Ev) : sumTok l = sumT (tokOnly l) := by
  induction l with
  | nil => rfl
  | cons e es ih => cases e <;> simp [sumTok, tokOnly, sumT, ih]

theorem tokIdE_tokOnly (K : Array SyntaxKind) (c : Nat) (l : List Ev) :
    tokIdE K c l = tokIdT K c (tokOnly l) := by
  induction l generalizing c with
  | nil => rfl
  | cons e es ih => cases e <;> simp [tokIdE, tokOnly, tokIdT, ih]

theorem tokOnly_append (a b : List Ev) : tokOnly (a ++ b) = tokOnly a ++ tokOnly b := by
  induction a with
  | nil => rfl
  | cons e es ih => cases e <;> simp [tokOnly, ih]

theorem tokOnly_set_start (l : List Ev) (t : Nat) (k k' : SyntaxKind) (fp fp' : Option Nat)
    (h : l[t]? = some (.start k fp)) : tokOnly (l.set t (.start k' fp')) = tokOnly l := by
  induction l generalizing t with
  | nil => simp at h
  | cons e es ih =>
    cases t with
    | zero => simp at h; subst h; simp [List.set, tokOnly]
    | succ t => simp at h; cases e <;> simp [List.set, tokOnly, ih t h]

theorem tokIdT_append (K : Array SyntaxKind) (c : Nat) (a b : List (SyntaxKind × Nat)) :
    tokIdT K c (a ++ b) = (tokIdT K c a && tokIdT K (c + sumT a) b) := by
  induction a generalizing c with
  | nil => simp [tokIdT, sumT]
  | cons x xs ih => simp only [List.cons_append, tokIdT, sumT, ih, Bool.and_assoc, Nat.add_assoc]

theorem tokIdE_append (K : Array SyntaxKind) (c : Nat) (a b : List Ev) :
    tokIdE K c (a ++ b) = (tokIdE K c a && tokIdE K (c + sumTok a) b) := by
  simp only [tokIdE_tokOnly, sumTok_tokOnly, tokOnly_append, tokIdT_append]

def TokID (s : P) : Prop :=
  sumTok s.events.toList = s.pos ∧ tokIdE s.kinds 0 s.events.toList = true

theorem TokID.congr {s s' : P} (h : TokID s) (h1 : s'.kinds = s.kinds) (hp : s'.pos = s.pos)
    (h2 : tokOnly s'.events.toList = tokOnly s.events.toList) : TokID s' := by
  obtain ⟨ha, hb⟩ := h
  rw [sumTok_tokOnly] at ha
  rw [tokIdE_tokOnly] at hb
  refine ⟨?_, ?_⟩
  · rw [sumTok_tokOnly, h2, hp]; exact ha
  · rw [tokIdE_tokOnly, h2, h1]; exact hb

theorem TokID.push {s s' : P} (h : TokID s) (e : Ev) (he : tokOnly [e] = []) (h1 : s'.kinds = s.kinds)
    (hp : s'.pos = s.pos) (h2 : s'.events = s.events.push e) : TokID s' := by
  refine h.congr h1 hp ?_
  rw [h2, Array.toList_push, tokOnly_append, he, List.append_nil]

theorem TokID.set {s s' : P} (h : TokID s) (i : Nat) (k k0 : SyntaxKind) (fp fp0 : Option Nat)
    (hi : s.events[i]? = some (.start k0 fp0)) (h1 : s'.kinds = s.kinds) (hp : s'.pos = s.pos)
    (h2 : s'.events = s.events.set! i (.start k fp)) : TokID s' := by
  refine h.congr h1 hp ?_
  rw [h2, Array.set!_eq_setIfInBounds, Array.toList_setIfInBounds]
  exact tokOnly_set_start _ _ _ _ _ _ (by simpa using hi)

theorem TokID.pushTok {s s' : P} (h : TokID s) (k : SyntaxKind) (n : Nat)
    (hk : tokId1 (fun i => s.kinds.getD i .EOF) s.pos k n = true) (h1 : s'.kinds = s.kinds)
    (hp : s'.pos = s.pos + n) (h2 : s'.events = s.events.push (.token k n)) : TokID s' := by
  obtain ⟨ha, hb⟩ := h
  refine ⟨?_, ?_⟩
  · rw [h2, Array.toList_push, sumTok_append, ha, hp]; simp [sumTok]
  · rw [h2, Array.toList_push, tokIdE_append, h1, hb, ha]
    simp only [tokIdE, Nat.zero_add, Bool.and_true]; exact hk

theorem composite_not_ident :
    ∀ p ∈ Ops.compositeTable, p.1 ≠ SyntaxKind.IDENT ∧ ∀ q ∈ p.2, q ≠ SyntaxKind.IDENT := by decide

theorem compositePieces_not_ident {k : SyntaxKind} {ps : List SyntaxKind}
    (h : compositePieces k = some ps) : k ≠ .IDENT ∧ ∀ q ∈ ps, q ≠ SyntaxKind.IDENT := by
  simp only [compositePieces, Option.map_eq_some_iff] at h
  obtain ⟨p, hp, hps⟩ := h
  have hm := List.mem_of_find?_eq_some hp
  have hk := List.find?_some hp
  have : p.1 = k := by simpa using hk
  rw [← this, ← hps]; exact composite_not_ident p hm

theorem atF_tokId1 {k : SyntaxKind} {K : Array SyntaxKind} {J : Array Bool} {p : Nat}
    (ha : atF k K J p = true) : tokId1 (fun i => K.getD i .EOF) p k (eatRawTokens k) = true := by
  cases hc : compositePieces k with
  | none =>
    rw [atF_simple hc] at ha
    rw [tablesOK.2 k hc]
    simpa [tokId1] using ha
  | some ps =>
    obtain ⟨hlen, heat, _⟩ := tablesOK.1 k ps hc
    obtain ⟨hk, hps⟩ := compositePieces_not_ident hc
    rw [heat]
    rcases ps with _ | ⟨k1, _ | ⟨k2, _ | ⟨k3, _ | ⟨k4, rest⟩⟩⟩⟩
    · simp at hlen
    · simp at hlen
    · simp only [atF, hc, Bool.and_eq_true, beq_iff_eq] at ha
      obtain ⟨⟨rfl, rfl⟩, _⟩ := ha
      simpa [tokId1, List.range_succ, hk] using hps
    · simp only [atF, hc, Bool.and_eq_true, beq_iff_eq] at ha
      obtain ⟨⟨⟨⟨rfl, rfl⟩, rfl⟩, _⟩, _⟩ := ha
      simpa [tokId1, List.range_succ, hk, and_assoc] using hps
    · simp at hlen

theorem nth_ti (n : Nat) : Pres TokID (nth n) :=
  ⟨fun s r hs h => by rw [nth_ok n s r h]; exact hs.congr rfl rfl rfl⟩

theorem start_ti : Pres TokID start :=
  ⟨fun s r hs h => by rw [start_ok s r h]; exact hs.push Ev.tombstone rfl rfl rfl rfl⟩

theorem error_ti (msg : String) : Pres TokID (error msg) :=
  ⟨fun s r hs h => by rw [pushEvent_ok _ s r h]; exact hs.push (.error msg) rfl rfl rfl rfl⟩

theorem eat_ti (k : SyntaxKind) : Pres TokID (eat k) := by
  refine ⟨fun s r hs h => ?_⟩
  obtain ⟨_, rfl | ⟨ha, rfl⟩⟩ := eat_ok k s r h
  · exact hs
  · exact hs.pushTok k _ (atF_tokId1 ha) rfl rfl rfl

theorem bumpAny_ti : Pres TokID bumpAny := by
  refine ⟨fun s r hs h => ?_⟩
  obtain e | ⟨_, e⟩ := bumpAny_ok s r h <;> rw [e]
  · exact hs
  · exact hs.pushTok _ 1 (by simp [tokId1, P.kindAt]) rfl rfl rfl

theorem complete_ti (m : Marker) (kind : SyntaxKind) : Pres TokID (m.complete kind) := by
  refine ⟨fun s r hs h => ?_⟩
  obtain ⟨fp, hm, _, rfl⟩ := complete_ok m kind s r h
  have h1 : TokID (s.slotSet m.pos kind fp) := hs.set m.pos kind _ fp fp hm rfl rfl rfl
  exact h1.push .finish rfl rfl rfl rfl

theorem abandon_ti (m : Marker) : Pres TokID m.abandon := by
  refine ⟨fun s r hs h => ?_⟩
  obtain ⟨_, e | ⟨_, hback, e⟩⟩ := abandon_ok m s r h <;> rw [e]
  · exact hs.congr rfl rfl rfl
  · -- the popped event is a `Start`: the token events stay
    refine hs.congr rfl rfl ?_
    have hl := dropLast_eq _ _ (show s.events.toList.getLast? = _ by simpa [Array.back?] using hback)
    simp only [Array.toList_pop]
    conv => rhs; rw [hl, tokOnly_append]
    simp [tokOnly]

theorem precede_ti (cm : CompletedMarker) : Pres TokID cm.precede := by
  refine ⟨fun s r hs h => ?_⟩
  obtain ⟨k, fp, hm, _, rfl⟩ := precede_ok cm s r h
  have h1 : TokID s.started := hs.push Ev.tombstone rfl rfl rfl rfl
  exact h1.set _ _ _ _ _ hm rfl rfl rfl

theorem extendTo_ti (cm : CompletedMarker) (m : Marker) : Pres TokID (cm.extendTo m) := by
  refine ⟨fun s r hs h => ?_⟩
  obtain ⟨k, fp, _, _, hm, _, _, _, rfl⟩ := extendTo_ok cm m s r h
  exact hs.set _ _ _ _ _ hm rfl rfl rfl

theorem tokIDClosed : GClosed (Pres TokID) :=
  Pres.closed (nth_ti 1) start_ti error_ti eat_ti bumpAny_ti complete_ti abandon_ti precede_ti extendTo_ti

end Oq3.Parser
