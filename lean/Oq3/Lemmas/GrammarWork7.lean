/- GENERATED by /verif/tools/gen_grammar_cost2.py from Oq3/Model/Grammar.lean — the proofs are checked by Lean. -/
import Oq3.Lemmas.GrammarWork0
set_option linter.unusedVariables false
set_option linter.unusedSimpArgs false

namespace Oq3.Grammar
open Oq3.Gen Oq3.Parser
open Oq3.Gen.Ops (Assoc)
open Oq3.Gen.TokenSets

theorem optItem_wk {M : Sys} {fuel : Nat} (ih : AllWork M fuel) (m : Marker) (E : Env M ⟨14, 23, 3, 0, 12, 1, 6⟩ fuel) :
    W E .init (Oq3.Grammar.optItem (fuel + 1) m) (Exit E fun r s' => (r.isOk = true → E.s₀.pos < s'.pos) ∧ (r.isOk = false → s'.tv = E.s₀.tv)) E.s₀ := by
  unfold Oq3.Grammar.optItem
  ww [break_ (W.callSP (break__spec _)), continue_ (W.callSP (continue__spec _)), end_ (W.callSP (end__spec _)), defcalgrammar_ (W.callSP (defcalgrammar__spec _)), include' (W.callSP (include'_spec _)), versionString (W.callSP (versionString_spec _)), switchCaseStmt (W.callFP (.of_field (ih.switchCaseStmt _))), ifStmt (W.callFP (.of_field (ih.ifStmt _))), whileStmt (W.callFP (.of_field (ih.whileStmt _))), forStmt (W.callFP (.of_field (ih.forStmt _))), qubitDeclarationStmt (W.callFP (.of_field (ih.qubitDeclarationStmt _))), resetStmt (W.callFP (.of_field (ih.resetStmt _))), gateDefinition (W.callFP (.of_field (ih.gateDefinition _))), defcal_ (W.callFP (.of_field (ih.defcal_ _))), classicalDeclarationStmt (W.callF (.of_field (ih.classicalDeclarationStmt _))), ioDeclarationStmt (W.callF (.of_field (ih.ioDeclarationStmt _))), defStmt (W.callFP (.of_field (ih.defStmt _))), externStmt (W.callFP (.of_field (ih.externStmt _))), cal_ (W.callFP (.of_field (ih.cal_ _))), barrier_ (W.callFP (.of_field (ih.barrier_ _))), delayStmt (W.callFP (.of_field (ih.delayStmt _))), aliasStmt (W.callFP (.of_field (ih.aliasStmt _)))]

theorem complexTypeSpec_wk {M : Sys} {fuel : Nat} (ih : AllWork M fuel) (E : Env M ⟨1, 2, 0, 0, 38, 0, 10⟩ fuel) :
    W E .init (Oq3.Grammar.complexTypeSpec (fuel + 1)) (Exit E fun _ s' => E.s₀.pos < s'.pos) E.s₀ := by
  unfold Oq3.Grammar.complexTypeSpec
  ww [nonArrayTypeSpec (W.callF (.of_field ih.nonArrayTypeSpec))]

theorem sourceFileContents_wk {M : Sys} {fuel : Nat} (ih : AllWork M fuel) (stopOnRCurly : Bool) (E : Env M ⟨18, 25, 6, 0, 0, 0, 0⟩ fuel) :
    W E .init (Oq3.Grammar.sourceFileContents (fuel + 1) stopOnRCurly) (Exit E fun _ _ => True) E.s₀ := by
  unfold Oq3.Grammar.sourceFileContents
  ww [sourceFileContents (W.callFN (.of_field' (ih.sourceFileContents _))), item (W.callF (.of_field (ih.item _)))]

theorem classicalDeclarationStmt_wk {M : Sys} {fuel : Nat} (ih : AllWork M fuel) (m : Marker) (E : Env M ⟨13, 23, 2, 15, 27, 2, 8⟩ fuel) :
    W E .init (Oq3.Grammar.classicalDeclarationStmt (fuel + 1) m) (Exit E fun r s' => ((isClassicalType (E.s₀.kindAt E.s₀.pos) = true ∨ atF .CONST_KW E.s₀.kinds E.s₀.joint E.s₀.pos = true) → E.s₀.pos < s'.pos)) E.s₀ := by
  unfold Oq3.Grammar.classicalDeclarationStmt
  ww [returnsBoolClassicalDeclarationStmt (W.callF (.of_field (ih.returnsBoolClassicalDeclarationStmt _)))]

theorem expr_wk {M : Sys} {fuel : Nat} (ih : AllWork M fuel) (E : Env M ⟨11, 15, 2, 5, 29, 2, 8⟩ fuel) :
    W E .init (Oq3.Grammar.expr (fuel + 1)) (Exit E fun r s' => (r.isSome = true → E.s₀.pos < s'.pos) ∧ (exprHalt (E.s₀.kindAt E.s₀.pos) = false → E.s₀.pos < s'.pos)) E.s₀ := by
  unfold Oq3.Grammar.expr
  ww [exprBp (W.callF (.of_field (ih.exprBp _ _ _)))]

theorem postfixExpr_wk {M : Sys} {fuel : Nat} (ih : AllWork M fuel) (lhs : CompletedMarker) (blockLike : BlockLike) (allowCalls : Bool) (E : Env M ⟨4, 4, 0, 0, 29, 0, 8⟩ fuel) :
    W E .init (Oq3.Grammar.postfixExpr (fuel + 1) lhs blockLike allowCalls) (Exit E fun _ _ => True) E.s₀ := by
  unfold Oq3.Grammar.postfixExpr
  ww [postfixExpr (W.callFN (.of_field' (ih.postfixExpr _ _ _))), callExpr (W.callFP (.of_field (ih.callExpr _))), indexExpr (W.callFP (.of_field (ih.indexExpr _))), indexedIdentifier (W.callFP (.of_field (ih.indexedIdentifier _)))]

theorem indexedIdentifier_wk {M : Sys} {fuel : Nat} (ih : AllWork M fuel) (lhs : CompletedMarker) (E : Env M ⟨3, 3, 0, 0, 29, 0, 8⟩ fuel) :
    W E .init (Oq3.Grammar.indexedIdentifier (fuel + 1) lhs) (Exit E fun _ s' => E.s₀.pos < s'.pos) E.s₀ := by
  unfold Oq3.Grammar.indexedIdentifier
  ww [indexedIdentifierLoop (W.callF (.of_field ih.indexedIdentifierLoop))]

theorem gateCallExpr_wk {M : Sys} {fuel : Nat} (ih : AllWork M fuel) (E : Env M ⟨6, 12, 0, 12, 40, 0, 8⟩ fuel) :
    W E .init (Oq3.Grammar.gateCallExpr (fuel + 1)) (Exit E fun r s' => (atF .IDENT E.s₀.kinds E.s₀.joint E.s₀.pos = true → E.s₀.pos < s'.pos)) E.s₀ := by
  unfold Oq3.Grammar.gateCallExpr
  ww [identifier (W.callS identifier_spec), callArgList (W.callFP (.of_field ih.callArgList)), argListGateCallQubits (W.callFN (.of_field' ih.argListGateCallQubits))]

theorem boxExpr_wk {M : Sys} {fuel : Nat} (ih : AllWork M fuel) (m : Option Marker) (E : Env M ⟨1, 2, 0, 0, 25, 0, 8⟩ fuel) :
    W E .init (Oq3.Grammar.boxExpr (fuel + 1) m) (Exit E fun _ s' => E.s₀.pos < s'.pos) E.s₀ := by
  unfold Oq3.Grammar.boxExpr
  ww [expr (W.callF (.of_field ih.expr))]

theorem expressionList_wk {M : Sys} {fuel : Nat} (ih : AllWork M fuel) (E : Env M ⟨15, 19, 2, 12, 0, 2, 0⟩ fuel) :
    W E .init (Oq3.Grammar.expressionList (fuel + 1)) (Exit E fun _ _ => True) E.s₀ := by
  unfold Oq3.Grammar.expressionList
  ww [paramListOpenqasm (W.callFX (.of_fieldX (ih.paramListOpenqasm _)))]

end Oq3.Grammar
