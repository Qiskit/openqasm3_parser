/- GENERATED by /verif/tools/gen_grammar_closed.py from Oq3/Model/Grammar.lean — the proofs are checked by Lean.

One walk of the grammar for every predicate `H` on parser computations that is closed under the
rules of `GClosed`: `H` holds of every grammar function. -/
import Oq3.Model.Grammar
import Oq3.Lemmas.GClosed

namespace Oq3.Grammar
open Oq3.Gen Oq3.Parser
open Oq3.Gen.Ops (Assoc)
open Oq3.Gen.TokenSets

variable {H : ∀ {α : Type}, G α → Prop}

theorem nameR_closed (hH : GClosed H) (recovery : TokenSet) : H (nameR recovery) := by
  unfold nameR; gclosed hH []

theorem name_closed (hH : GClosed H) : H name := by
  unfold name; gclosed hH [nameR_closed hH _]

theorem break__closed (hH : GClosed H) (m : Marker) : H (break_ m) := by
  unfold break_; gclosed hH []

theorem continue__closed (hH : GClosed H) (m : Marker) : H (continue_ m) := by
  unfold continue_; gclosed hH []

theorem end__closed (hH : GClosed H) (m : Marker) : H (end_ m) := by
  unfold end_; gclosed hH []

theorem filepathR_closed (hH : GClosed H) (recovery : TokenSet) : H (filepathR recovery) := by
  unfold filepathR; gclosed hH []

theorem defcalgrammar__closed (hH : GClosed H) (m : Marker) : H (defcalgrammar_ m) := by
  unfold defcalgrammar_; gclosed hH [filepathR_closed hH _]

theorem include'_closed (hH : GClosed H) (m : Marker) : H (include' m) := by
  unfold include'; gclosed hH [filepathR_closed hH _]

theorem version__closed (hH : GClosed H) : H version_ := by
  unfold version_; gclosed hH []

theorem versionString_closed (hH : GClosed H) (m : Marker) : H (versionString m) := by
  unfold versionString; gclosed hH [version__closed hH]

theorem currentOpScan_closed (hH : GClosed H) (cur : SyntaxKind)
    (rows : List (SyntaxKind × Option SyntaxKind × Option (Nat × SyntaxKind × Assoc))) :
    H (currentOpScan cur rows) := by
  induction rows with
  | nil => exact hH.pure _
  | cons r rows ih => obtain ⟨k, guard, res⟩ := r; unfold currentOpScan; gclosed hH [ih]

theorem currentOp_closed (hH : GClosed H) : H currentOp := by
  unfold currentOp; gclosed hH [currentOpScan_closed hH _ _]

theorem typeName_closed (hH : GClosed H) : H typeName := by
  unfold typeName; gclosed hH []

theorem varName_closed (hH : GClosed H) : H varName := by
  unfold varName; gclosed hH []

theorem identifier_closed (hH : GClosed H) : H identifier := by
  unfold identifier; gclosed hH []

theorem hardwareQubit_closed (hH : GClosed H) : H hardwareQubit := by
  unfold hardwareQubit; gclosed hH []

theorem literal_closed (hH : GClosed H) : H literal := by
  unfold literal; gclosed hH [identifier_closed hH]

theorem atListEndToken_closed (hH : GClosed H) (flavor : DefFlavor) : H (atListEndToken flavor) := by
  unfold atListEndToken; gclosed hH []

theorem paramUntyped_closed (hH : GClosed H) (m : Marker) : H (paramUntyped m) := by
  unfold paramUntyped; gclosed hH []

theorem paramUntypedOrHardwareQubit_closed (hH : GClosed H) (m : Marker) : H (paramUntypedOrHardwareQubit m) := by
  unfold paramUntypedOrHardwareQubit; gclosed hH [hardwareQubit_closed hH]

theorem bumpUntilEof_closed (hH : GClosed H) (n : Nat) : H (bumpUntilEof n) := by
  induction n with
  | zero => exact hH.fail _
  | succ n ih => unfold bumpUntilEof; gclosed hH [ih]

/-- `H` holds of every function of the mutual block at one fuel level -/
structure AllHolds (H : ∀ {α : Type}, G α → Prop) (fuel : Nat) : Prop where
  optReturnSignature : H (Oq3.Grammar.optReturnSignature fuel)
  delimited : ∀ (bra ket : SyntaxKind) (consumeBraket : Bool) (delim : SyntaxKind) (firstSet : TokenSet) (parser : DelimitedParser), H (Oq3.Grammar.delimited fuel bra ket consumeBraket delim firstSet parser)
  delimitedLoop : ∀ (ket delim : SyntaxKind) (firstSet : TokenSet) (parser : DelimitedParser), H (Oq3.Grammar.delimitedLoop fuel ket delim firstSet parser)
  delimitedParser : ∀ (parser : DelimitedParser), H (Oq3.Grammar.delimitedParser fuel parser)
  sourceFileContents : ∀ (stopOnRCurly : Bool), H (Oq3.Grammar.sourceFileContents fuel stopOnRCurly)
  item : ∀ (stopOnRCurly : Bool), H (Oq3.Grammar.item fuel stopOnRCurly)
  optItem : ∀ (m : Marker), H (Oq3.Grammar.optItem fuel m)
  switchCaseStmt : ∀ (m : Marker), H (Oq3.Grammar.switchCaseStmt fuel m)
  switchCaseLoop : H (Oq3.Grammar.switchCaseLoop fuel)
  blockOrStatement : H (Oq3.Grammar.blockOrStatement fuel)
  ifStmt : ∀ (m : Marker), H (Oq3.Grammar.ifStmt fuel m)
  whileStmt : ∀ (m : Marker), H (Oq3.Grammar.whileStmt fuel m)
  forStmt : ∀ (m : Marker), H (Oq3.Grammar.forStmt fuel m)
  qubitDeclarationStmt : ∀ (m : Marker), H (Oq3.Grammar.qubitDeclarationStmt fuel m)
  resetStmt : ∀ (m : Marker), H (Oq3.Grammar.resetStmt fuel m)
  gateDefinition : ∀ (m : Marker), H (Oq3.Grammar.gateDefinition fuel m)
  defcal_ : ∀ (m : Marker), H (Oq3.Grammar.defcal_ fuel m)
  returnsBoolClassicalDeclarationStmt : ∀ (m : Marker), H (Oq3.Grammar.returnsBoolClassicalDeclarationStmt fuel m)
  classicalDeclarationStmt : ∀ (m : Marker), H (Oq3.Grammar.classicalDeclarationStmt fuel m)
  ioDeclarationStmt : ∀ (m : Marker), H (Oq3.Grammar.ioDeclarationStmt fuel m)
  defStmt : ∀ (m : Marker), H (Oq3.Grammar.defStmt fuel m)
  externStmt : ∀ (m : Marker), H (Oq3.Grammar.externStmt fuel m)
  cal_ : ∀ (m : Marker), H (Oq3.Grammar.cal_ fuel m)
  barrier_ : ∀ (m : Marker), H (Oq3.Grammar.barrier_ fuel m)
  delayStmt : ∀ (m : Marker), H (Oq3.Grammar.delayStmt fuel m)
  aliasStmt : ∀ (m : Marker), H (Oq3.Grammar.aliasStmt fuel m)
  expr : H (Oq3.Grammar.expr fuel)
  rangeExpr : H (Oq3.Grammar.rangeExpr fuel)
  exprOrRangeExpr : H (Oq3.Grammar.exprOrRangeExpr fuel)
  exprStmt : ∀ (m : Option Marker), H (Oq3.Grammar.exprStmt fuel m)
  stmt : H (Oq3.Grammar.stmt fuel)
  letStmt : ∀ (m : Marker), H (Oq3.Grammar.letStmt fuel m)
  qOrCRegParam : H (Oq3.Grammar.qOrCRegParam fuel)
  qOrCRegDeclaration : ∀ (m : Marker), H (Oq3.Grammar.qOrCRegDeclaration fuel m)
  exprBlockStatements : H (Oq3.Grammar.exprBlockStatements fuel)
  exprBp : ∀ (m : Option Marker) (r : Restrictions) (bp : Nat), H (Oq3.Grammar.exprBp fuel m r bp)
  exprBpLoop : ∀ (r : Restrictions) (bp : Nat) (lhs : CompletedMarker), H (Oq3.Grammar.exprBpLoop fuel r bp lhs)
  lhs : ∀ (r : Restrictions), H (Oq3.Grammar.lhs fuel r)
  postfixExpr : ∀ (lhs : CompletedMarker) (blockLike : BlockLike) (allowCalls : Bool), H (Oq3.Grammar.postfixExpr fuel lhs blockLike allowCalls)
  callExpr : ∀ (lhs : CompletedMarker), H (Oq3.Grammar.callExpr fuel lhs)
  paramTypeSpec : H (Oq3.Grammar.paramTypeSpec fuel)
  typeSpec : H (Oq3.Grammar.typeSpec fuel)
  arrayTypeSpec : ∀ (wantArrayRefType : Bool), H (Oq3.Grammar.arrayTypeSpec fuel wantArrayRefType)
  arrayTypeDimsLoop : H (Oq3.Grammar.arrayTypeDimsLoop fuel)
  nonArrayTypeSpec : H (Oq3.Grammar.nonArrayTypeSpec fuel)
  complexTypeSpec : H (Oq3.Grammar.complexTypeSpec fuel)
  qubitTypeSpec : H (Oq3.Grammar.qubitTypeSpec fuel)
  designator : H (Oq3.Grammar.designator fuel)
  indexExpr : ∀ (lhs : CompletedMarker), H (Oq3.Grammar.indexExpr fuel lhs)
  indexedIdentifier : ∀ (lhs : CompletedMarker), H (Oq3.Grammar.indexedIdentifier fuel lhs)
  indexedIdentifierLoop : H (Oq3.Grammar.indexedIdentifierLoop fuel)
  setExpression : H (Oq3.Grammar.setExpression fuel)
  indexOperator : H (Oq3.Grammar.indexOperator fuel)
  callArgList : H (Oq3.Grammar.callArgList fuel)
  atomExpr : ∀ (_r : Restrictions), H (Oq3.Grammar.atomExpr fuel _r)
  castExpr : H (Oq3.Grammar.castExpr fuel)
  gphaseCallExpr : H (Oq3.Grammar.gphaseCallExpr fuel)
  modifiedGateCallExpr : H (Oq3.Grammar.modifiedGateCallExpr fuel)
  modifiedGateCallExprLoop : H (Oq3.Grammar.modifiedGateCallExprLoop fuel)
  gateCallExpr : H (Oq3.Grammar.gateCallExpr fuel)
  measureExpression : H (Oq3.Grammar.measureExpression fuel)
  tupleExpr : H (Oq3.Grammar.tupleExpr fuel)
  tupleExprLoop : ∀ (sawComma sawExpr : Bool), H (Oq3.Grammar.tupleExprLoop fuel sawComma sawExpr)
  arrayExpr : H (Oq3.Grammar.arrayExpr fuel)
  arrayExprLoop : ∀ (nExprs : Nat) (hasSemi : Bool), H (Oq3.Grammar.arrayExprLoop fuel nExprs hasSemi)
  tryBlockExpr : H (Oq3.Grammar.tryBlockExpr fuel)
  blockExpr : H (Oq3.Grammar.blockExpr fuel)
  returnExpr : H (Oq3.Grammar.returnExpr fuel)
  boxExpr : ∀ (m : Option Marker), H (Oq3.Grammar.boxExpr fuel m)
  paramListGateParams : H (Oq3.Grammar.paramListGateParams fuel)
  paramListGateQubits : H (Oq3.Grammar.paramListGateQubits fuel)
  argListGateCallQubits : H (Oq3.Grammar.argListGateCallQubits fuel)
  paramListDefParams : H (Oq3.Grammar.paramListDefParams fuel)
  scalarTypeList : H (Oq3.Grammar.scalarTypeList fuel)
  paramListDefcalParams : H (Oq3.Grammar.paramListDefcalParams fuel)
  paramListDefcalQubits : H (Oq3.Grammar.paramListDefcalQubits fuel)
  expressionList : H (Oq3.Grammar.expressionList fuel)
  caseValueList : H (Oq3.Grammar.caseValueList fuel)
  arrayLiteral : H (Oq3.Grammar.arrayLiteral fuel)
  paramListOpenqasm : ∀ (flavor : DefFlavor), H (Oq3.Grammar.paramListOpenqasm fuel flavor)
  paramListOpenqasmLoop : ∀ (flavor : DefFlavor) (numParams : Nat), H (Oq3.Grammar.paramListOpenqasmLoop fuel flavor numParams)
  paramListItem : ∀ (flavor : DefFlavor) (m : Marker) (innerArrayLiteral : Bool), H (Oq3.Grammar.paramListItem fuel flavor m innerArrayLiteral)
  paramTyped : ∀ (m : Marker), H (Oq3.Grammar.paramTyped fuel m)
  scalarType : ∀ (m : Marker), H (Oq3.Grammar.scalarType fuel m)
  argGateCallQubit : ∀ (m : Marker), H (Oq3.Grammar.argGateCallQubit fuel m)

theorem optReturnSignature_step (hH : GClosed H) {fuel : Nat} (ih : AllHolds H fuel) :
    H (optReturnSignature (fuel + 1)) := by
  unfold optReturnSignature; gclosed hH [ih.typeSpec]

theorem delimited_step (hH : GClosed H) {fuel : Nat} (ih : AllHolds H fuel) (bra ket : SyntaxKind) (consumeBraket : Bool) (delim : SyntaxKind) (firstSet : TokenSet) (parser : DelimitedParser) :
    H (delimited (fuel + 1) bra ket consumeBraket delim firstSet parser) := by
  unfold delimited; gclosed hH [ih.delimitedLoop _ _ _ _]

theorem delimitedLoop_step (hH : GClosed H) {fuel : Nat} (ih : AllHolds H fuel) (ket delim : SyntaxKind) (firstSet : TokenSet) (parser : DelimitedParser) :
    H (delimitedLoop (fuel + 1) ket delim firstSet parser) := by
  unfold delimitedLoop; gclosed hH [ih.delimitedLoop _ _ _ _, ih.delimitedParser _]

theorem delimitedParser_step (hH : GClosed H) {fuel : Nat} (ih : AllHolds H fuel) (parser : DelimitedParser) :
    H (delimitedParser (fuel + 1) parser) := by
  unfold delimitedParser; gclosed hH [ih.expr]

theorem sourceFileContents_step (hH : GClosed H) {fuel : Nat} (ih : AllHolds H fuel) (stopOnRCurly : Bool) :
    H (sourceFileContents (fuel + 1) stopOnRCurly) := by
  unfold sourceFileContents; gclosed hH [ih.sourceFileContents _, ih.item _]

theorem item_step (hH : GClosed H) {fuel : Nat} (ih : AllHolds H fuel) (stopOnRCurly : Bool) :
    H (item (fuel + 1) stopOnRCurly) := by
  unfold item; gclosed hH [ih.optItem _, ih.exprBlockStatements]

theorem optItem_step (hH : GClosed H) {fuel : Nat} (ih : AllHolds H fuel) (m : Marker) :
    H (optItem (fuel + 1) m) := by
  unfold optItem; gclosed hH [ih.switchCaseStmt _, ih.ifStmt _, ih.whileStmt _, ih.forStmt _, ih.qubitDeclarationStmt _, ih.resetStmt _, ih.gateDefinition _, ih.defcal_ _, ih.classicalDeclarationStmt _, ih.ioDeclarationStmt _, ih.defStmt _, ih.externStmt _, ih.cal_ _, ih.barrier_ _, ih.delayStmt _, ih.aliasStmt _, break__closed hH _, continue__closed hH _, end__closed hH _, defcalgrammar__closed hH _, include'_closed hH _, versionString_closed hH _]

theorem switchCaseStmt_step (hH : GClosed H) {fuel : Nat} (ih : AllHolds H fuel) (m : Marker) :
    H (switchCaseStmt (fuel + 1) m) := by
  unfold switchCaseStmt; gclosed hH [ih.switchCaseLoop, ih.expr, ih.tryBlockExpr]

theorem switchCaseLoop_step (hH : GClosed H) {fuel : Nat} (ih : AllHolds H fuel) :
    H (switchCaseLoop (fuel + 1)) := by
  unfold switchCaseLoop; gclosed hH [ih.switchCaseLoop, ih.tryBlockExpr, ih.caseValueList]

theorem blockOrStatement_step (hH : GClosed H) {fuel : Nat} (ih : AllHolds H fuel) :
    H (blockOrStatement (fuel + 1)) := by
  unfold blockOrStatement; gclosed hH [ih.stmt, ih.blockExpr]

theorem ifStmt_step (hH : GClosed H) {fuel : Nat} (ih : AllHolds H fuel) (m : Marker) :
    H (ifStmt (fuel + 1) m) := by
  unfold ifStmt; gclosed hH [ih.blockOrStatement, ih.ifStmt _, ih.expr]

theorem whileStmt_step (hH : GClosed H) {fuel : Nat} (ih : AllHolds H fuel) (m : Marker) :
    H (whileStmt (fuel + 1) m) := by
  unfold whileStmt; gclosed hH [ih.blockOrStatement, ih.expr]

theorem forStmt_step (hH : GClosed H) {fuel : Nat} (ih : AllHolds H fuel) (m : Marker) :
    H (forStmt (fuel + 1) m) := by
  unfold forStmt; gclosed hH [ih.blockOrStatement, ih.expr, ih.rangeExpr, ih.typeSpec, ih.setExpression, name_closed hH]

theorem qubitDeclarationStmt_step (hH : GClosed H) {fuel : Nat} (ih : AllHolds H fuel) (m : Marker) :
    H (qubitDeclarationStmt (fuel + 1) m) := by
  unfold qubitDeclarationStmt; gclosed hH [ih.qubitTypeSpec, varName_closed hH, hardwareQubit_closed hH]

theorem resetStmt_step (hH : GClosed H) {fuel : Nat} (ih : AllHolds H fuel) (m : Marker) :
    H (resetStmt (fuel + 1) m) := by
  unfold resetStmt; gclosed hH [ih.argGateCallQubit _]

theorem gateDefinition_step (hH : GClosed H) {fuel : Nat} (ih : AllHolds H fuel) (m : Marker) :
    H (gateDefinition (fuel + 1) m) := by
  unfold gateDefinition; gclosed hH [ih.tryBlockExpr, ih.paramListGateParams, ih.paramListGateQubits, nameR_closed hH _]

theorem defcal__step (hH : GClosed H) {fuel : Nat} (ih : AllHolds H fuel) (m : Marker) :
    H (defcal_ (fuel + 1) m) := by
  unfold defcal_; gclosed hH [ih.optReturnSignature, ih.tryBlockExpr, ih.paramListDefcalParams, ih.paramListDefcalQubits, nameR_closed hH _]

theorem returnsBoolClassicalDeclarationStmt_step (hH : GClosed H) {fuel : Nat} (ih : AllHolds H fuel) (m : Marker) :
    H (returnsBoolClassicalDeclarationStmt (fuel + 1) m) := by
  unfold returnsBoolClassicalDeclarationStmt; gclosed hH [ih.expr, ih.typeSpec, ih.arrayLiteral, varName_closed hH]

theorem classicalDeclarationStmt_step (hH : GClosed H) {fuel : Nat} (ih : AllHolds H fuel) (m : Marker) :
    H (classicalDeclarationStmt (fuel + 1) m) := by
  unfold classicalDeclarationStmt; gclosed hH [ih.returnsBoolClassicalDeclarationStmt _]

theorem ioDeclarationStmt_step (hH : GClosed H) {fuel : Nat} (ih : AllHolds H fuel) (m : Marker) :
    H (ioDeclarationStmt (fuel + 1) m) := by
  unfold ioDeclarationStmt; gclosed hH [ih.typeSpec, varName_closed hH]

theorem defStmt_step (hH : GClosed H) {fuel : Nat} (ih : AllHolds H fuel) (m : Marker) :
    H (defStmt (fuel + 1) m) := by
  unfold defStmt; gclosed hH [ih.optReturnSignature, ih.tryBlockExpr, ih.paramListDefParams, nameR_closed hH _]

theorem externStmt_step (hH : GClosed H) {fuel : Nat} (ih : AllHolds H fuel) (m : Marker) :
    H (externStmt (fuel + 1) m) := by
  unfold externStmt; gclosed hH [ih.optReturnSignature, ih.scalarTypeList, nameR_closed hH _]

theorem cal__step (hH : GClosed H) {fuel : Nat} (ih : AllHolds H fuel) (m : Marker) :
    H (cal_ (fuel + 1) m) := by
  unfold cal_; gclosed hH [ih.tryBlockExpr]

theorem barrier__step (hH : GClosed H) {fuel : Nat} (ih : AllHolds H fuel) (m : Marker) :
    H (barrier_ (fuel + 1) m) := by
  unfold barrier_; gclosed hH [ih.argListGateCallQubits]

theorem delayStmt_step (hH : GClosed H) {fuel : Nat} (ih : AllHolds H fuel) (m : Marker) :
    H (delayStmt (fuel + 1) m) := by
  unfold delayStmt; gclosed hH [ih.designator, ih.argListGateCallQubits]

theorem aliasStmt_step (hH : GClosed H) {fuel : Nat} (ih : AllHolds H fuel) (m : Marker) :
    H (aliasStmt (fuel + 1) m) := by
  unfold aliasStmt; gclosed hH [ih.expr, nameR_closed hH _]

theorem expr_step (hH : GClosed H) {fuel : Nat} (ih : AllHolds H fuel) :
    H (expr (fuel + 1)) := by
  unfold expr; gclosed hH [ih.exprBp _ _ _]

theorem rangeExpr_step (hH : GClosed H) {fuel : Nat} (ih : AllHolds H fuel) :
    H (rangeExpr (fuel + 1)) := by
  unfold rangeExpr; gclosed hH [ih.exprBp _ _ _]

theorem exprOrRangeExpr_step (hH : GClosed H) {fuel : Nat} (ih : AllHolds H fuel) :
    H (exprOrRangeExpr (fuel + 1)) := by
  unfold exprOrRangeExpr; gclosed hH [ih.exprBp _ _ _]

theorem exprStmt_step {fuel : Nat} (ih : AllHolds H fuel) (m : Option Marker) :
    H (exprStmt (fuel + 1) m) := by
  unfold exprStmt; exact ih.exprBp _ _ _

theorem stmt_step (hH : GClosed H) {fuel : Nat} (ih : AllHolds H fuel) :
    H (stmt (fuel + 1)) := by
  unfold stmt; gclosed hH [ih.optItem _, ih.exprStmt _, ih.letStmt _, ih.qOrCRegDeclaration _]

theorem letStmt_step (hH : GClosed H) {fuel : Nat} (ih : AllHolds H fuel) (m : Marker) :
    H (letStmt (fuel + 1) m) := by
  unfold letStmt; gclosed hH [ih.expr]

theorem qOrCRegParam_step (hH : GClosed H) {fuel : Nat} (ih : AllHolds H fuel) :
    H (qOrCRegParam (fuel + 1)) := by
  unfold qOrCRegParam; gclosed hH [ih.indexOperator]

theorem qOrCRegDeclaration_step (hH : GClosed H) {fuel : Nat} (ih : AllHolds H fuel) (m : Marker) :
    H (qOrCRegDeclaration (fuel + 1) m) := by
  unfold qOrCRegDeclaration; gclosed hH [ih.qOrCRegParam]

theorem exprBlockStatements_step (hH : GClosed H) {fuel : Nat} (ih : AllHolds H fuel) :
    H (exprBlockStatements (fuel + 1)) := by
  unfold exprBlockStatements; gclosed hH [ih.stmt, ih.exprBlockStatements]

theorem exprBp_step (hH : GClosed H) {fuel : Nat} (ih : AllHolds H fuel) (m : Option Marker) (r : Restrictions) (bp : Nat) :
    H (exprBp (fuel + 1) m r bp) := by
  unfold exprBp; gclosed hH [ih.exprBpLoop _ _ _, ih.lhs _]

theorem exprBpLoop_step (hH : GClosed H) {fuel : Nat} (ih : AllHolds H fuel) (r : Restrictions) (bp : Nat) (lhs : CompletedMarker) :
    H (exprBpLoop (fuel + 1) r bp lhs) := by
  unfold exprBpLoop; gclosed hH [ih.exprBp _ _ _, ih.exprBpLoop _ _ _, currentOp_closed hH]

theorem lhs_step (hH : GClosed H) {fuel : Nat} (ih : AllHolds H fuel) (r : Restrictions) :
    H (lhs (fuel + 1) r) := by
  unfold lhs; gclosed hH [ih.exprBp _ _ _, ih.postfixExpr _ _ _, ih.atomExpr _]

theorem postfixExpr_step (hH : GClosed H) {fuel : Nat} (ih : AllHolds H fuel) (lhs : CompletedMarker) (blockLike : BlockLike) (allowCalls : Bool) :
    H (postfixExpr (fuel + 1) lhs blockLike allowCalls) := by
  unfold postfixExpr; gclosed hH [ih.postfixExpr _ _ _, ih.callExpr _, ih.indexExpr _, ih.indexedIdentifier _]

theorem callExpr_step (hH : GClosed H) {fuel : Nat} (ih : AllHolds H fuel) (lhs : CompletedMarker) :
    H (callExpr (fuel + 1) lhs) := by
  unfold callExpr; gclosed hH [ih.callArgList, ih.argListGateCallQubits]

theorem paramTypeSpec_step (hH : GClosed H) {fuel : Nat} (ih : AllHolds H fuel) :
    H (paramTypeSpec (fuel + 1)) := by
  unfold paramTypeSpec; gclosed hH [ih.arrayTypeSpec _, ih.nonArrayTypeSpec]

theorem typeSpec_step (hH : GClosed H) {fuel : Nat} (ih : AllHolds H fuel) :
    H (typeSpec (fuel + 1)) := by
  unfold typeSpec; gclosed hH [ih.arrayTypeSpec _, ih.nonArrayTypeSpec]

theorem arrayTypeSpec_step (hH : GClosed H) {fuel : Nat} (ih : AllHolds H fuel) (wantArrayRefType : Bool) :
    H (arrayTypeSpec (fuel + 1) wantArrayRefType) := by
  unfold arrayTypeSpec; gclosed hH [ih.expr, ih.typeSpec, ih.arrayTypeDimsLoop]

theorem arrayTypeDimsLoop_step (hH : GClosed H) {fuel : Nat} (ih : AllHolds H fuel) :
    H (arrayTypeDimsLoop (fuel + 1)) := by
  unfold arrayTypeDimsLoop; gclosed hH [ih.expr, ih.arrayTypeDimsLoop]

theorem nonArrayTypeSpec_step (hH : GClosed H) {fuel : Nat} (ih : AllHolds H fuel) :
    H (nonArrayTypeSpec (fuel + 1)) := by
  unfold nonArrayTypeSpec; gclosed hH [ih.complexTypeSpec, ih.designator, typeName_closed hH]

theorem complexTypeSpec_step (hH : GClosed H) {fuel : Nat} (ih : AllHolds H fuel) :
    H (complexTypeSpec (fuel + 1)) := by
  unfold complexTypeSpec; gclosed hH [ih.nonArrayTypeSpec]

theorem qubitTypeSpec_step (hH : GClosed H) {fuel : Nat} (ih : AllHolds H fuel) :
    H (qubitTypeSpec (fuel + 1)) := by
  unfold qubitTypeSpec; gclosed hH [ih.designator, typeName_closed hH]

theorem designator_step (hH : GClosed H) {fuel : Nat} (ih : AllHolds H fuel) :
    H (designator (fuel + 1)) := by
  unfold designator; gclosed hH [ih.expr]

theorem indexExpr_step (hH : GClosed H) {fuel : Nat} (ih : AllHolds H fuel) (lhs : CompletedMarker) :
    H (indexExpr (fuel + 1) lhs) := by
  unfold indexExpr; gclosed hH [ih.indexOperator]

theorem indexedIdentifier_step (hH : GClosed H) {fuel : Nat} (ih : AllHolds H fuel) (lhs : CompletedMarker) :
    H (indexedIdentifier (fuel + 1) lhs) := by
  unfold indexedIdentifier; gclosed hH [ih.indexedIdentifierLoop]

theorem indexedIdentifierLoop_step (hH : GClosed H) {fuel : Nat} (ih : AllHolds H fuel) :
    H (indexedIdentifierLoop (fuel + 1)) := by
  unfold indexedIdentifierLoop; gclosed hH [ih.indexedIdentifierLoop, ih.indexOperator]

theorem setExpression_step (hH : GClosed H) {fuel : Nat} (ih : AllHolds H fuel) :
    H (setExpression (fuel + 1)) := by
  unfold setExpression; gclosed hH [ih.expressionList]

theorem indexOperator_step (hH : GClosed H) {fuel : Nat} (ih : AllHolds H fuel) :
    H (indexOperator (fuel + 1)) := by
  unfold indexOperator; gclosed hH [ih.setExpression, ih.expressionList]

theorem callArgList_step (hH : GClosed H) {fuel : Nat} (ih : AllHolds H fuel) :
    H (callArgList (fuel + 1)) := by
  unfold callArgList; gclosed hH [ih.delimited _ _ _ _ _ _]

theorem atomExpr_step (hH : GClosed H) {fuel : Nat} (ih : AllHolds H fuel) (_r : Restrictions) :
    H (atomExpr (fuel + 1) _r) := by
  unfold atomExpr; gclosed hH [ih.castExpr, ih.gphaseCallExpr, ih.modifiedGateCallExpr, ih.gateCallExpr, ih.measureExpression, ih.tupleExpr, ih.arrayExpr, ih.blockExpr, ih.returnExpr, ih.boxExpr _, identifier_closed hH, hardwareQubit_closed hH, literal_closed hH]

theorem castExpr_step (hH : GClosed H) {fuel : Nat} (ih : AllHolds H fuel) :
    H (castExpr (fuel + 1)) := by
  unfold castExpr; gclosed hH [ih.expr, ih.typeSpec]

theorem gphaseCallExpr_step (hH : GClosed H) {fuel : Nat} (ih : AllHolds H fuel) :
    H (gphaseCallExpr (fuel + 1)) := by
  unfold gphaseCallExpr; gclosed hH [ih.expr]

theorem modifiedGateCallExpr_step (hH : GClosed H) {fuel : Nat} (ih : AllHolds H fuel) :
    H (modifiedGateCallExpr (fuel + 1)) := by
  unfold modifiedGateCallExpr; gclosed hH [ih.gphaseCallExpr, ih.modifiedGateCallExprLoop, ih.gateCallExpr]

theorem modifiedGateCallExprLoop_step (hH : GClosed H) {fuel : Nat} (ih : AllHolds H fuel) :
    H (modifiedGateCallExprLoop (fuel + 1)) := by
  unfold modifiedGateCallExprLoop; gclosed hH [ih.expr, ih.modifiedGateCallExprLoop]

theorem gateCallExpr_step (hH : GClosed H) {fuel : Nat} (ih : AllHolds H fuel) :
    H (gateCallExpr (fuel + 1)) := by
  unfold gateCallExpr; gclosed hH [ih.callArgList, ih.argListGateCallQubits, identifier_closed hH]

theorem measureExpression_step (hH : GClosed H) {fuel : Nat} (ih : AllHolds H fuel) :
    H (measureExpression (fuel + 1)) := by
  unfold measureExpression; gclosed hH [ih.argGateCallQubit _]

theorem tupleExpr_step (hH : GClosed H) {fuel : Nat} (ih : AllHolds H fuel) :
    H (tupleExpr (fuel + 1)) := by
  unfold tupleExpr; gclosed hH [ih.tupleExprLoop _ _]

theorem tupleExprLoop_step (hH : GClosed H) {fuel : Nat} (ih : AllHolds H fuel) (sawComma sawExpr : Bool) :
    H (tupleExprLoop (fuel + 1) sawComma sawExpr) := by
  unfold tupleExprLoop; gclosed hH [ih.expr, ih.tupleExprLoop _ _]

theorem arrayExpr_step (hH : GClosed H) {fuel : Nat} (ih : AllHolds H fuel) :
    H (arrayExpr (fuel + 1)) := by
  unfold arrayExpr; gclosed hH [ih.arrayExprLoop _ _]

theorem arrayExprLoop_step (hH : GClosed H) {fuel : Nat} (ih : AllHolds H fuel) (nExprs : Nat) (hasSemi : Bool) :
    H (arrayExprLoop (fuel + 1) nExprs hasSemi) := by
  unfold arrayExprLoop; gclosed hH [ih.expr, ih.arrayExprLoop _ _]

theorem tryBlockExpr_step (hH : GClosed H) {fuel : Nat} (ih : AllHolds H fuel) :
    H (tryBlockExpr (fuel + 1)) := by
  unfold tryBlockExpr; gclosed hH [ih.blockExpr]

theorem blockExpr_step (hH : GClosed H) {fuel : Nat} (ih : AllHolds H fuel) :
    H (blockExpr (fuel + 1)) := by
  unfold blockExpr; gclosed hH [ih.exprBlockStatements]

theorem returnExpr_step (hH : GClosed H) {fuel : Nat} (ih : AllHolds H fuel) :
    H (returnExpr (fuel + 1)) := by
  unfold returnExpr; gclosed hH [ih.expr]

theorem boxExpr_step (hH : GClosed H) {fuel : Nat} (ih : AllHolds H fuel) (m : Option Marker) :
    H (boxExpr (fuel + 1) m) := by
  unfold boxExpr; gclosed hH [ih.expr]

theorem paramListGateParams_step {fuel : Nat} (ih : AllHolds H fuel) :
    H (paramListGateParams (fuel + 1)) := by
  unfold paramListGateParams; exact ih.paramListOpenqasm _

theorem paramListGateQubits_step {fuel : Nat} (ih : AllHolds H fuel) :
    H (paramListGateQubits (fuel + 1)) := by
  unfold paramListGateQubits; exact ih.paramListOpenqasm _

theorem argListGateCallQubits_step {fuel : Nat} (ih : AllHolds H fuel) :
    H (argListGateCallQubits (fuel + 1)) := by
  unfold argListGateCallQubits; exact ih.paramListOpenqasm _

theorem paramListDefParams_step {fuel : Nat} (ih : AllHolds H fuel) :
    H (paramListDefParams (fuel + 1)) := by
  unfold paramListDefParams; exact ih.paramListOpenqasm _

theorem scalarTypeList_step {fuel : Nat} (ih : AllHolds H fuel) :
    H (scalarTypeList (fuel + 1)) := by
  unfold scalarTypeList; exact ih.paramListOpenqasm _

theorem paramListDefcalParams_step {fuel : Nat} (ih : AllHolds H fuel) :
    H (paramListDefcalParams (fuel + 1)) := by
  unfold paramListDefcalParams; exact ih.paramListOpenqasm _

theorem paramListDefcalQubits_step {fuel : Nat} (ih : AllHolds H fuel) :
    H (paramListDefcalQubits (fuel + 1)) := by
  unfold paramListDefcalQubits; exact ih.paramListOpenqasm _

theorem expressionList_step {fuel : Nat} (ih : AllHolds H fuel) :
    H (expressionList (fuel + 1)) := by
  unfold expressionList; exact ih.paramListOpenqasm _

theorem caseValueList_step {fuel : Nat} (ih : AllHolds H fuel) :
    H (caseValueList (fuel + 1)) := by
  unfold caseValueList; exact ih.paramListOpenqasm _

theorem arrayLiteral_step {fuel : Nat} (ih : AllHolds H fuel) :
    H (arrayLiteral (fuel + 1)) := by
  unfold arrayLiteral; exact ih.paramListOpenqasm _

theorem paramListOpenqasm_step (hH : GClosed H) {fuel : Nat} (ih : AllHolds H fuel) (flavor : DefFlavor) :
    H (paramListOpenqasm (fuel + 1) flavor) := by
  unfold paramListOpenqasm; gclosed hH [ih.paramListOpenqasmLoop _ _]

theorem paramListOpenqasmLoop_step (hH : GClosed H) {fuel : Nat} (ih : AllHolds H fuel) (flavor : DefFlavor) (numParams : Nat) :
    H (paramListOpenqasmLoop (fuel + 1) flavor numParams) := by
  unfold paramListOpenqasmLoop; gclosed hH [ih.paramListOpenqasmLoop _ _, ih.paramListItem _ _ _, atListEndToken_closed hH _]

theorem paramListItem_step (hH : GClosed H) {fuel : Nat} (ih : AllHolds H fuel) (flavor : DefFlavor) (m : Marker) (innerArrayLiteral : Bool) :
    H (paramListItem (fuel + 1) flavor m innerArrayLiteral) := by
  unfold paramListItem; gclosed hH [ih.expr, ih.exprOrRangeExpr, ih.arrayLiteral, ih.paramTyped _, ih.scalarType _, ih.argGateCallQubit _, paramUntyped_closed hH _, paramUntypedOrHardwareQubit_closed hH _]

theorem paramTyped_step (hH : GClosed H) {fuel : Nat} (ih : AllHolds H fuel) (m : Marker) :
    H (paramTyped (fuel + 1) m) := by
  unfold paramTyped; gclosed hH [ih.qOrCRegParam, ih.paramTypeSpec, varName_closed hH]

theorem scalarType_step (hH : GClosed H) {fuel : Nat} (ih : AllHolds H fuel) (m : Marker) :
    H (scalarType (fuel + 1) m) := by
  unfold scalarType; gclosed hH [ih.typeSpec]

theorem argGateCallQubit_step (hH : GClosed H) {fuel : Nat} (ih : AllHolds H fuel) (m : Marker) :
    H (argGateCallQubit (fuel + 1) m) := by
  unfold argGateCallQubit; gclosed hH [ih.indexedIdentifier _]

theorem allHolds (hH : GClosed H) : ∀ fuel, AllHolds H fuel
  | 0 => by constructor <;> intros <;> exact hH.fail _
  | fuel + 1 =>
    have ih := allHolds hH fuel
    ⟨optReturnSignature_step hH ih,
     delimited_step hH ih,
     delimitedLoop_step hH ih,
     delimitedParser_step hH ih,
     sourceFileContents_step hH ih,
     item_step hH ih,
     optItem_step hH ih,
     switchCaseStmt_step hH ih,
     switchCaseLoop_step hH ih,
     blockOrStatement_step hH ih,
     ifStmt_step hH ih,
     whileStmt_step hH ih,
     forStmt_step hH ih,
     qubitDeclarationStmt_step hH ih,
     resetStmt_step hH ih,
     gateDefinition_step hH ih,
     defcal__step hH ih,
     returnsBoolClassicalDeclarationStmt_step hH ih,
     classicalDeclarationStmt_step hH ih,
     ioDeclarationStmt_step hH ih,
     defStmt_step hH ih,
     externStmt_step hH ih,
     cal__step hH ih,
     barrier__step hH ih,
     delayStmt_step hH ih,
     aliasStmt_step hH ih,
     expr_step hH ih,
     rangeExpr_step hH ih,
     exprOrRangeExpr_step hH ih,
     exprStmt_step ih,
     stmt_step hH ih,
     letStmt_step hH ih,
     qOrCRegParam_step hH ih,
     qOrCRegDeclaration_step hH ih,
     exprBlockStatements_step hH ih,
     exprBp_step hH ih,
     exprBpLoop_step hH ih,
     lhs_step hH ih,
     postfixExpr_step hH ih,
     callExpr_step hH ih,
     paramTypeSpec_step hH ih,
     typeSpec_step hH ih,
     arrayTypeSpec_step hH ih,
     arrayTypeDimsLoop_step hH ih,
     nonArrayTypeSpec_step hH ih,
     complexTypeSpec_step hH ih,
     qubitTypeSpec_step hH ih,
     designator_step hH ih,
     indexExpr_step hH ih,
     indexedIdentifier_step hH ih,
     indexedIdentifierLoop_step hH ih,
     setExpression_step hH ih,
     indexOperator_step hH ih,
     callArgList_step hH ih,
     atomExpr_step hH ih,
     castExpr_step hH ih,
     gphaseCallExpr_step hH ih,
     modifiedGateCallExpr_step hH ih,
     modifiedGateCallExprLoop_step hH ih,
     gateCallExpr_step hH ih,
     measureExpression_step hH ih,
     tupleExpr_step hH ih,
     tupleExprLoop_step hH ih,
     arrayExpr_step hH ih,
     arrayExprLoop_step hH ih,
     tryBlockExpr_step hH ih,
     blockExpr_step hH ih,
     returnExpr_step hH ih,
     boxExpr_step hH ih,
     paramListGateParams_step ih,
     paramListGateQubits_step ih,
     argListGateCallQubits_step ih,
     paramListDefParams_step ih,
     scalarTypeList_step ih,
     paramListDefcalParams_step ih,
     paramListDefcalQubits_step ih,
     expressionList_step ih,
     caseValueList_step ih,
     arrayLiteral_step ih,
     paramListOpenqasm_step hH ih,
     paramListOpenqasmLoop_step hH ih,
     paramListItem_step hH ih,
     paramTyped_step hH ih,
     scalarType_step hH ih,
     argGateCallQubit_step hH ih⟩

theorem sourceFile_closed (hH : GClosed H) (fuel : Nat) : H (sourceFile fuel) := by
  unfold sourceFile; gclosed hH [(allHolds hH fuel).sourceFileContents _]

theorem entryExpr_closed (hH : GClosed H) (fuel : Nat) : H (entryExpr fuel) := by
  unfold entryExpr; gclosed hH [(allHolds hH fuel).expr, bumpUntilEof_closed hH _]

end Oq3.Grammar
