/-
C04, extended reference language: fuel, well-formedness (`WFS2` / `WFL2`, the Follow restrictions as
syntactic conditions), and the acceptance of statements, bodies, `switch` cases and statement lists by
mutual induction over the extended language (`stmt_ok2` / `stmts_ok2`).
-/
import Oq3.Lemmas.LangEv2Ctl
import Oq3.Lemmas.StepsIrr
set_option linter.unusedSimpArgs false
set_option linter.unusedVariables false

namespace Oq3.LangEv2
open Oq3.Gen Oq3.Parser Oq3.Grammar Oq3.SymExec Oq3.PrattEv Oq3.LangEv
open Oq3.Gen.Ops (Assoc)

mutual
/-- fuel that `stmt` needs for the statement -/
def needS2 : Stmt2 → Nat
  | .decl _ _ w none => optFuel w + 8
  | .decl _ _ w (some e) => max (optFuel w) (fuelX e) + 8
  | .io _ _ w => optFuel w + 8
  | .qubit none => 8
  | .qubit (some w) => fuelX w + 8
  | .oldReg _ items => sumItems items + countItems items + 11
  | .letS e => fuelX e + 4
  | .alias e => fuelX e + 6
  | .assign ixs rhs => needX (.prim (lhsP ixs)) + fuelX rhs + 6
  | .exprS x => fuelX x + 3
  | .gate .nil qs => needQs qs + 8
  | .gate (.cons a as) qs => max (sumXs (.cons a as) + countXs (.cons a as) + 5) (needQs qs + 2) + 6
  | .modGate m ms args qs => max (needMods (m :: ms)) (max (needArgs args) (needQs qs + 2) + 1) + 7
  | .gphase x => fuelX x + 8
  | .modGphase m ms x => max (needMods (m :: ms)) (fuelX x + 2) + 8
  | .reset q => needQ q + 4
  | .barrier qs => needQs qs + 5
  | .delay d qs => max (fuelX d + 2) (needQs qs + 2) + 3
  | .brk => 8 | .cont => 8 | .endS => 8 | .pragma => 8 | .annot => 8 | .incl => 8 | .version => 8
  | .externS tys _ => tys.length + 11
  | .ifS c thn => max (fuelX c + 1) (needB thn) + 3
  | .ifElse c thn els => max (fuelX c + 1) (max (needB thn) (needB els)) + 3
  | .whileS c body => max (fuelX c + 1) (needB body) + 4
  | .forS _ w it body => max (max (optFuel w + 4) (needIter it)) (needB body) + 5
  | .switchS c cs => max (fuelX c + 1) (needCases (needC cs) cs + needC cs + 2) + 3
  | .block ss => needL2 ss + 7
  | .gateDef none nq body => max (nq + 5) (needL2 body + 3) + 3
  | .gateDef (some k) nq body => max (max (k + 5) (nq + 5)) (needL2 body + 3) + 3
  | .defS ps _ body => max (ps.length + 6) (needL2 body + 3) + 3
  | .cal body => needL2 body + 6
  | .ret none => 8
  | .ret (some x) => fuelX x + 9
def needB : Body → Nat
  | .blk ss => needL2 ss + 2
  | .one s => needS2 s + 1
/-- fuel for the blocks of the cases -/
def needC : Cases → Nat
  | .nil => 0
  | .dflt body => needL2 body
  | .cons _ body rest => max (needL2 body) (needC rest)
def needL2 : Stmts2 → Nat
  | .nil => 1
  | .cons s ss => max (needS2 s) (needL2 ss) + 1
end

def startsMinus2 : Stmts2 → Bool
  | .cons (.exprS x) _ => firstX x == .MINUS
  | _ => false

mutual
def WFS2 : Stmt2 → Prop
  | .decl _ ty w init => (w.isSome = true → ty.wide = true) ∧ WidthOK w ∧ (∀ e, init = some e → CanonX 1 e)
  | .io _ ty w => (w.isSome = true → ty.wide = true) ∧ WidthOK w
  | .qubit w => WidthOK w
  | .oldReg _ items => CanonItems items ∧ ItemsFirstOK items
  | .letS e => CanonX 1 e
  /- `let` as ALIAS_DECLARATION_STATEMENT only where `item` dispatches it: see `WFTop` -/
  | .alias _ => False
  /- F06: the right-hand side of an assignment is parsed at the binding power of `=` -/
  | .assign ixs rhs => CanonTarget ixs ∧ CanonX 12 rhs
  /- an expression statement does not start with a type keyword (`stmt` would parse a declaration) -/
  | .exprS x => CanonX 1 x ∧ exprStmtFirst2 (firstX x) = true
  | .gate args qs => CanonXs args ∧ CanonQs qs
  | .modGate m ms args qs => CanonMods (m :: ms) ∧ CanonXs args ∧ CanonQs qs
  | .gphase x => CanonX 1 x
  | .modGphase m ms x => CanonMods (m :: ms) ∧ CanonX 1 x
  | .reset q => CanonQ q
  | .barrier qs => CanonQs qs
  | .delay d qs => WidthOK (some d) ∧ CanonQs qs
  | .ifS c thn => CanonX 1 c ∧ WFB thn
  /- the `then` branch does not end with an `if` without `else` (it would take the `else`) -/
  | .ifElse c thn els => CanonX 1 c ∧ WFB thn ∧ WFB els ∧ endsIfB thn = false
  | .whileS c body => CanonX 1 c ∧ WFB body
  /- an expression as iterable needs a block as body (the token after the expression must end it) -/
  | .forS ty w it body => ((w.isSome = true → ty.wide = true) ∧ WidthOK w) ∧ CanonIter it ∧ iterBodyOK it body ∧ WFB body
  | .switchS c cs => CanonX 1 c ∧ CanonCases cs ∧ cs ≠ .nil ∧ WFC cs
  | .block ss => WFL2 true ss
  | .gateDef _ _ body => WFL2 true body
  | .defS _ _ body => WFL2 true body
  | .cal body => WFL2 true body
  | .ret e => ∀ x, e = some x → CanonX 1 x ∧ exprStmtFirst2 (firstX x) = true
  | _ => True
/-- a brace-less body is a statement that is not a bare block -/
def WFB : Body → Prop
  | .blk ss => WFL2 true ss
  | .one s => WFS2 s ∧ firstTokS2 s ≠ .L_CURLY
def WFC : Cases → Prop
  | .nil => True
  | .dflt body => WFL2 true body
  | .cons _ body rest => WFL2 true body ∧ WFC rest
/-- `curly`: the list is closed by `}` (inside a block), otherwise by the end of the input.
F09e: a statement that ends with an assignment is not followed by a statement starting with `-`;
F09d: a bare block is not the last statement of a block -/
def WFL2 : Bool → Stmts2 → Prop
  | _, .nil => True
  | curly, .cons s ss =>
    WFS2 s ∧ WFL2 curly ss ∧ (endsAssign s = true → startsMinus2 ss = false) ∧
      (endsBlock s = true → curly = true → ss ≠ .nil)
end

def stmtFirst (k : SyntaxKind) : Bool :=
  xFirst k || k == .CONST_KW || k == .INPUT_KW || k == .OUTPUT_KW || k == .QUBIT_KW || k == .CREG_KW || k == .QREG_KW ||
  k == .LET_KW || k == .INV_KW || k == .POW_KW || k == .CTRL_KW || k == .NEGCTRL_KW || k == .GPHASE_KW || k == .RESET_KW ||
  k == .BARRIER_KW || k == .DELAY_KW || k == .BREAK_KW || k == .CONTINUE_KW || k == .END_KW || k == .PRAGMA || k == .ANNOTATION ||
  k == .INCLUDE_KW || k == .O_P_E_N_Q_A_S_M_KW || k == .EXTERN_KW || k == .IF_KW || k == .WHILE_KW || k == .FOR_KW ||
  k == .SWITCH_KW || k == .L_CURLY || k == .GATE_KW || k == .DEF_KW || k == .CAL_KW || k == .RETURN_KW

theorem firstTokS2_stmtFirst (st : Stmt2) : stmtFirst (firstTokS2 st) = true := by
  cases st with
  | decl cst ty w init => cases cst <;> cases ty <;> rfl
  | io out ty w => cases out <;> rfl
  | oldReg c items => cases c <;> rfl
  | exprS x =>
    simp only [firstTokS2, stmtFirst, firstX_xFirst x, Bool.true_or]
  | modGate m ms args qs => rcases firstMod_cases m with h | h | h | h <;> simp only [firstTokS2, h] <;> rfl
  | modGphase m ms x => rcases firstMod_cases m with h | h | h | h <;> simp only [firstTokS2, h] <;> rfl
  | _ => rfl

theorem stmtFirst_props (k : SyntaxKind) : stmtFirst k = true →
    k ≠ .EOF ∧ k ≠ .R_CURLY ∧ k ≠ .ELSE_KW ∧ k ≠ .SEMICOLON ∧ k ≠ .CASE_KW ∧ k ≠ .DEFAULT_KW ∧
      (startsOp k = true → k = .BANG ∨ k = .MINUS) := by
  intro h
  have hno : ∀ K, stmtFirst K = false → k ≠ K := fun K hK e => by rw [e, hK] at h; cases h
  refine ⟨hno _ (by decide), hno _ (by decide), hno _ (by decide), hno _ (by decide), hno _ (by decide), hno _ (by decide),
    fun ho => ?_⟩
  -- of the tokens with which a row of the operator table starts, only `!` and `-` start a statement
  obtain ⟨r, hr, hk⟩ := List.any_eq_true.1 ho
  obtain rfl := eq_of_beq hk
  exact (by decide : ∀ r ∈ Ops.currentOpRows, stmtFirst r.1 = true → r.1 = .BANG ∨ r.1 = .MINUS) r hr h

def closerOf (curly : Bool) (k : SyntaxKind) : Prop := if curly = true then k = .R_CURLY else k = .EOF

theorem closerOf_closer {curly : Bool} {k : SyntaxKind} (h : closerOf curly k) : closer k := by
  unfold closerOf at h
  cases curly
  · exact Or.inr (by simpa using h)
  · exact Or.inl (by simpa using h)

theorem toksX_bang : ∀ (x : X), firstX x = .BANG → ∃ j k j' ts, toksX x = (.BANG, j) :: (k, j') :: ts ∧ xFirst k = true
  | .prim p, h => absurd h (firstP_notPre p).2.1
  | .pre o e, h => by
    obtain ⟨j', ts, ht⟩ := toksX_first e
    simp only [firstX] at h
    exact ⟨false, firstX e, j', ts, by simp [toksX, h, ht], firstX_xFirst e⟩
  | .bin o l r, h => by
    obtain ⟨j, k, j', ts, ht, hk⟩ := toksX_bang l h
    exact ⟨j, k, j', ts ++ (o.toks ++ toksX r), by simp [toksX, ht], hk⟩

theorem startsOp_exprS (st : Stmt2) (h : startsOp (firstTokS2 st) = true) : ∃ x, st = .exprS x := by
  cases st with
  | exprS x => exact ⟨x, rfl⟩
  | decl cst ty w init =>
    cases cst <;> cases ty <;> simp only [firstTokS2, Ty.kind, Bool.false_eq_true, if_false, if_true] at h <;> exact absurd h (by decide)
  | io out ty w => cases out <;> simp only [firstTokS2, Bool.false_eq_true, if_false, if_true] at h <;> exact absurd h (by decide)
  | oldReg c items => cases c <;> simp only [firstTokS2, Bool.false_eq_true, if_false, if_true] at h <;> exact absurd h (by decide)
  | modGate m ms args qs => rcases firstMod_cases m with h' | h' | h' | h' <;> simp only [firstTokS2, h'] at h <;> exact absurd h (by decide)
  | modGphase m ms x => rcases firstMod_cases m with h' | h' | h' | h' <;> simp only [firstTokS2, h'] at h <;> exact absurd h (by decide)
  | _ => simp only [firstTokS2] at h; exact absurd h (by decide)

theorem stopsAt_next2 (ss : Stmts2) (s : P) (q : Nat) (htk : Toks s q (toksL2 ss))
    (hcl : closer (s.kindAt (q + (toksL2 ss).length))) (hm : startsMinus2 ss = false) : StopsAt s q 1 := by
  unfold StopsAt
  cases ss with
  | nil =>
    simp only [toksL2, List.length_nil, Nat.add_zero] at hcl
    rw [opF_nonop _ _ _ (by rcases hcl with h | h <;> (simp only [P.kindAt] at h; rw [h]; decide))]
    decide
  | cons st ss' =>
    obtain ⟨j, ts, hts⟩ := toksS2_first st
    simp only [toksL2, Toks_append] at htk
    obtain ⟨hst, -⟩ := htk
    have h0 : s.kindAt q = firstTokS2 st := Toks_head hst hts
    have hop := (stmtFirst_props _ (firstTokS2_stmtFirst st)).2.2.2.2.2.2
    cases hso : startsOp (firstTokS2 st) with
    | false =>
      rw [opF_nonop _ _ _ (by simp only [P.kindAt] at h0; rw [h0]; exact hso)]
      decide
    | true =>
      obtain ⟨x, rfl⟩ := startsOp_exprS st hso
      rcases hop hso with hb | hmn
      · obtain ⟨j1, k, j', ts', ht, hk⟩ := toksX_bang x hb
        simp only [toksS2, Toks_append, ht, Toks] at hst
        obtain ⟨⟨-, -, h1, -⟩, -⟩ := hst
        rw [opF_bang s q (by rw [h0]; exact hb) (by rw [h1]; exact (xFirst_ne hk).1.1)]
        decide
      · simp only [startsMinus2, firstTokS2] at hm hmn
        rw [hmn] at hm
        cases hm


theorem next_tok (ss : Stmts2) (curly : Bool) (s : P) (q : Nat) (htk : Toks s q (toksL2 ss))
    (hcl : closerOf curly (s.kindAt (q + (toksL2 ss).length))) :
    (ss = .nil ∧ closerOf curly (s.kindAt q)) ∨ (ss ≠ .nil ∧ stmtFirst (s.kindAt q) = true) := by
  cases ss with
  | nil => left; simp only [toksL2, List.length_nil, Nat.add_zero] at hcl; exact ⟨rfl, hcl⟩
  | cons st ss' =>
    right
    obtain ⟨j, ts, hts⟩ := toksS2_first st
    simp only [toksL2, Toks_append, hts, Toks] at htk
    rw [htk.1.1]
    exact ⟨(by intro h; cases h), firstTokS2_stmtFirst st⟩

theorem next_ne (ss : Stmts2) (curly : Bool) (s : P) (q : Nat) (htk : Toks s q (toksL2 ss))
    (hcl : closerOf curly (s.kindAt (q + (toksL2 ss).length))) :
    s.kindAt q ≠ .ELSE_KW ∧ s.kindAt q ≠ .SEMICOLON := by
  rcases next_tok ss curly s q htk hcl with ⟨-, h⟩ | ⟨-, h⟩
  · rcases closerOf_closer h with h | h <;> rw [h] <;> exact ⟨by decide, by decide⟩
  · exact ⟨(stmtFirst_props _ h).2.2.1, (stmtFirst_props _ h).2.2.2.1⟩

theorem followS2_next (st : Stmt2) (ss : Stmts2) (curly : Bool) (s : P) (q : Nat) (htk : Toks s q (toksL2 ss))
    (hcl : closerOf curly (s.kindAt (q + (toksL2 ss).length)))
    (hm : endsAssign st = true → startsMinus2 ss = false) (hb : endsBlock st = true → curly = true → ss ≠ .nil) :
    FollowS2 st s q := by
  refine ⟨fun h => stopsAt_next2 ss s q htk (closerOf_closer hcl) (hm h), fun _ => (next_ne ss curly s q htk hcl).1,
    fun h => ?_, fun _ => (next_ne ss curly s q htk hcl).2⟩
  rcases next_tok ss curly s q htk hcl with ⟨h1, h2⟩ | ⟨-, h2⟩
  · cases curly with
    | false => unfold closerOf at h2; simp only [Bool.false_eq_true, if_false] at h2; rw [h2]; decide
    | true => exact absurd h1 (hb h rfl)
  · exact (stmtFirst_props _ h2).2.1

theorem ebs_nil2 (F : Nat) (s : P) (hk : closer (s.kindAt s.pos)) : Acc (exprBlockStatements (F + 1)) s 0 [] :=
  ebs_nil F s hk

theorem StmtOK2.mono {st : Stmt2} {n n' : Nat} (h : StmtOK2 st n) (hn : n ≤ n') : StmtOK2 st n' :=
  fun F s hF => h F s (Nat.le_trans hn hF)
theorem StmtsOK2F.mono {ss : Stmts2} {n n' : Nat} (h : StmtsOK2F ss n) (hn : n ≤ n') : StmtsOK2F ss n' :=
  fun F s hF => h F s (Nat.le_trans hn hF)
theorem BodyOKF.mono {b : Body} {n n' : Nat} (h : BodyOKF b n) (hn : n ≤ n') : BodyOKF b n' :=
  fun F s hF => h F s (Nat.le_trans hn hF)
theorem BodyOK.mono {b : Body} {n n' : Nat} (h : BodyOK b n) (hn : n ≤ n') : BodyOK b n' :=
  fun F s hF => h F s (Nat.le_trans hn hF)
theorem IfAccF.mono {st : Stmt2} {n n' : Nat} (h : IfAccF st n) (hn : n ≤ n') : IfAccF st n' :=
  fun F s hF => h F s (Nat.le_trans hn hF)

/-- Acceptance by `stmt` from every ready state leaves the step counter at `0`: the run from
`{ s with steps := 0 }` does (`Acc` bounds the counter by its start value), and the start value is
forgotten once a token is consumed (`StepsIrr`). -/
theorem StmtOK2.exact {st : Stmt2} {n : Nat} (h : StmtOK2 st n) (F : Nat) (s : P) (hF : n ≤ F) (hr : RdyF 8 s)
    (htk : Toks s s.pos (toksS2 st)) (hfol : FollowS2 st s (s.pos + (toksS2 st).length)) :
    ∃ sb, stmt F s = .ok ((), s.ov (evsS2 st) (toksS2 st).length 0 sb s.live s.protectedPos) := by
  obtain ⟨st0, sb0, hle, h0⟩ := h F { s with steps := 0 } hF
    ⟨hr.hook, (by show 0 + 8 ≤ s.stepLimit; have := hr.steps; omega), hr.prot, hr.lim⟩
    ((Toks_kinds s { s with steps := 0 } rfl rfl _ _).2 htk)
    ⟨fun h => (StopsAt_kinds s { s with steps := 0 } rfl rfl _ _).2 (hfol.assign h), hfol.noElse, hfol.noCurly,
      hfol.noSemi⟩
  obtain ⟨st1, sb1, -, h1⟩ := h F s hF hr htk hfol
  obtain rfl : st0 = 0 := Nat.le_zero.mp hle
  obtain ⟨-, ht | ⟨hp, -⟩⟩ := (allHolds stepsIrr_closed F).stmt _ s.steps _ _ _ _ h0 h1
  · exact ⟨sb0, h1.trans (by rw [ht]; rfl)⟩
  · -- a statement has a first token, so the run did consume one
    obtain ⟨j, ts, hts⟩ := toksS2_first st
    rw [hts] at hp
    exact absurd hp (by show s.pos + (ts.length + 1) ≠ s.pos; omega)

/-- `x = rhs;` with the fuel of `stmt_assign2`, which takes the maximum where `needS2` adds -/
theorem stmtOK2_assign (ixs : Option IdxList) (rhs : X) (hct : CanonTarget ixs) (hc : CanonX 12 rhs) :
    StmtOK2 (.assign ixs rhs) (max (needX (.prim (lhsP ixs)) + 1) (fuelX rhs + 2) + 2) :=
  fun F s hF hr htk hfol => stmt_assign2 ixs rhs _ (exprX_okF rhs) F s hr hF htk hct hc (hfol.assign rfl)

theorem firstTokB_blk (ss : Stmts2) : firstTokB (.blk ss) ≠ .IF_KW := by simp [firstTokB]

theorem ifElse_any (c : X) (thn els : Body) (hc : CanonX 1 c) (hif : endsIfB thn = false)
    (hb1 : BodyOKF thn (needB thn)) (hb2 : BodyOKF els (needB els))
    (hif2 : ∀ s', els = .one s' → firstTokS2 s' = .IF_KW → IfAccF s' (needS2 s')) :
    IfAccF (.ifElse c thn els) (max (fuelX c + 1) (max (needB thn) (needB els)) + 1) := by
  cases els with
  | blk ss => exact ifElse_acc c thn (.blk ss) _ _ _ (exprX_okF c) hb1 hb2 hc hif (firstTokB_blk ss)
  | one s' =>
    by_cases hf : firstTokS2 s' = .IF_KW
    · exact (ifElseIf_acc c thn s' _ _ hb1 (hif2 s' rfl hf) hc hif hf).mono (by simp only [needB]; omega)
    · exact ifElse_acc c thn (.one s') _ _ _ (exprX_okF c) hb1 hb2 hc hif hf

theorem closerOf_true {k : SyntaxKind} (h : k = .R_CURLY) : closerOf true k := by unfold closerOf; simpa using h

mutual
/-- **every well-formed statement is accepted by `stmt`**, with exactly its events -/
theorem stmt_ok2 : ∀ (st : Stmt2), WFS2 st → StmtOK2 st (needS2 st)
  | .decl false ty w none, hwf => fun F s hF hr htk _ =>
    stmt_decl_none2 ty w _ (optFuel_ok w) F s hr (by simp only [needS2] at hF; omega) hwf.1 hwf.2.1 htk
  | .decl true ty w none, hwf => fun F s hF hr htk _ =>
    stmt_const_none ty w F s hr (by simp only [needS2] at hF; omega) hwf.1 hwf.2.1 htk
  | .decl false ty w (some e), hwf => fun F s hF hr htk _ =>
    stmt_decl_some2 ty w e _ _ (optFuel_ok w) (exprX_okF e) F s hr (by simp only [needS2] at hF; omega) (hwf.2.2 e rfl) hwf.1 hwf.2.1 htk
  | .decl true ty w (some e), hwf => fun F s hF hr htk _ =>
    stmt_const_some ty w e F s hr (by simp only [needS2] at hF; omega) (hwf.2.2 e rfl) hwf.1 hwf.2.1 htk
  | .io out ty w, hwf => fun F s hF hr htk _ => stmt_io out ty w F s hr (by simp only [needS2] at hF; omega) hwf.1 hwf.2 htk
  | .qubit none, _ => fun F s hF hr htk _ => stmt_qubit_none F s hr (by simp only [needS2] at hF; omega) htk
  | .qubit (some w), hwf => fun F s hF hr htk _ => stmt_qubit_some w F s hr (by simp only [needS2] at hF; omega) htk hwf
  | .oldReg c items, hwf => fun F s hF hr htk _ =>
    stmt_oldReg c items F s hr (by simp only [needS2] at hF; omega) htk hwf.1 hwf.2
  | .letS e, hwf => fun F s hF hr htk _ => stmt_letS e F s hr (by simp only [needS2] at hF; omega) htk hwf
  | .alias _, hwf => absurd hwf (by simp [WFS2])
  | .assign ixs rhs, hwf => (stmtOK2_assign ixs rhs hwf.1 hwf.2).mono (by simp only [needS2]; omega)
  | .exprS x, hwf => fun F s hF hr htk _ => stmt_exprS2 x _ (exprX_okF x) F s hr (by simp only [needS2] at hF; omega) htk hwf.1 hwf.2
  | .gate .nil qs, hwf => fun F s hF hr htk _ => stmt_gate_nil2 qs F s hr (by simp only [needS2] at hF; omega) htk hwf.2
  | .gate (.cons a as) qs, hwf => fun F s hF hr htk _ =>
    stmt_gate_cons2 a as qs _ (xsOK _) F s hr (by simp only [needS2] at hF; omega) htk hwf.1 hwf.2
  | .modGate m ms args qs, hwf => fun F s hF hr htk _ =>
    stmt_modGate m ms args qs F s hr (by simp only [needS2] at hF; omega) htk hwf.1 hwf.2.1 hwf.2.2
  | .gphase x, hwf => fun F s hF hr htk _ => stmt_gphase x F s hr (by simp only [needS2] at hF; omega) htk hwf
  | .modGphase m ms x, hwf => fun F s hF hr htk _ =>
    stmt_modGphase m ms x F s hr (by simp only [needS2] at hF; omega) htk hwf.1 hwf.2
  | .reset q, hwf => fun F s hF hr htk _ => stmt_reset2 q F s hr (by simp only [needS2] at hF; omega) htk hwf
  | .barrier qs, hwf => fun F s hF hr htk _ => stmt_barrier2 qs F s hr (by simp only [needS2] at hF; omega) htk hwf
  | .delay d qs, hwf => fun F s hF hr htk _ => stmt_delay d qs F s hr (by simp only [needS2] at hF; omega) htk hwf.1 hwf.2
  | .brk, _ => fun F s hF hr htk _ => stmt_brk2 F s hr (by simp only [needS2] at hF; omega) htk
  | .cont, _ => fun F s hF hr htk _ => stmt_cont2 F s hr (by simp only [needS2] at hF; omega) htk
  | .endS, _ => fun F s hF hr htk _ => stmt_endS2 F s hr (by simp only [needS2] at hF; omega) htk
  | .pragma, _ => fun F s hF hr htk _ => stmt_pragma F s hr (by simp only [needS2] at hF; omega) htk
  | .annot, _ => fun F s hF hr htk _ => stmt_annot F s hr (by simp only [needS2] at hF; omega) htk
  | .incl, _ => fun F s hF hr htk _ => stmt_incl F s hr (by simp only [needS2] at hF; omega) htk
  | .version, _ => fun F s hF hr htk _ => stmt_version F s hr (by simp only [needS2] at hF; omega) htk
  | .externS tys ret, _ => fun F s hF hr htk _ => stmt_externS tys ret F s hr (by simp only [needS2] at hF; omega) htk
  | .ifS c thn, hwf =>
    (stmt_of_ifAcc _ _ (ifS_acc c thn _ (needB thn) (exprX_okF c) (body_okF thn hwf.2) hwf.1) rfl).mono (by simp only [needS2]; omega)
  | .ifElse c thn (.blk ss), hwf =>
    (stmt_of_ifAcc _ _ (ifElse_any c thn (.blk ss) hwf.1 hwf.2.2.2 (body_okF thn hwf.2.1) (body_okF (.blk ss) hwf.2.2.1)
      (fun s' h _ => by cases h)) rfl).mono (by simp only [needS2]; omega)
  | .ifElse c thn (.one s'), hwf =>
    (stmt_of_ifAcc _ _ (ifElse_any c thn (.one s') hwf.1 hwf.2.2.2 (body_okF thn hwf.2.1) (body_okF (.one s') hwf.2.2.1)
      (fun s'' h hf => by cases h; exact if_okF s' hwf.2.2.1.1 hf)) rfl).mono (by simp only [needS2]; omega)
  | .whileS c body, hwf => (stmt_whileS2 c body _ (needB body) (exprX_okF c) (body_okF body hwf.2) hwf.1).mono (by simp only [needS2]; omega)
  | .forS ty w it body, hwf =>
    (stmt_forS2 ty w it body _ (needB body) (iterOK_need it).1 (body_okF body hwf.2.2.2) hwf.1.1 hwf.1.2 hwf.2.1 hwf.2.2.1).mono
      (by have := (iterOK_need it).2; simp only [needS2]; omega)
  | .switchS c cs, hwf =>
    (stmt_switchS c cs (needC cs) (cases_okF cs hwf.2.2.2 (needC cs) (Nat.le_refl _)) hwf.1 hwf.2.1 hwf.2.2.1).mono
      (by simp only [needS2]; omega)
  | .block ss, hwf =>
    -- `closerOf true k` unfolds to `k = .R_CURLY`: `stmts_ok2 true ss hwf` is a `StmtsOK2F ss (needL2 ss)`
    (stmt_block ss (needL2 ss) (stmts_ok2 true ss hwf)).mono
      (by simp only [needS2]; omega)
  | .gateDef none nq body, hwf => fun F s hF hr htk _ =>
    stmt_gateDef_none2 nq body (needL2 body) F (stmts_ok2 true body hwf)
      s hr (by simp only [needS2] at hF; omega) htk
  | .gateDef (some k) nq body, hwf => fun F s hF hr htk _ =>
    stmt_gateDef_some2 k nq body (needL2 body) F (stmts_ok2 true body hwf)
      s hr (by simp only [needS2] at hF; omega) htk
  | .defS ps ret body, hwf => fun F s hF hr htk _ =>
    stmt_defS2 ps ret body (needL2 body) F (stmts_ok2 true body hwf)
      s hr (by simp only [needS2] at hF; omega) htk
  | .cal body, hwf => fun F s hF hr htk _ =>
    stmt_cal body (needL2 body) F (stmts_ok2 true body hwf)
      s hr (by simp only [needS2] at hF; omega) htk
  | .ret none, _ => fun F s hF hr htk _ => stmt_ret_none2 F s hr (by simp only [needS2] at hF; omega) htk
  | .ret (some x), hwf => fun F s hF hr htk _ =>
    stmt_ret_some2 x _ (exprX_okF x) F s hr (by simp only [needS2] at hF; omega) htk (hwf x rfl).1 (hwf x rfl).2
/-- the `if` statements at the level of `if_stmt` (for `else if` chains) -/
theorem if_okF : ∀ (st : Stmt2), WFS2 st → firstTokS2 st = .IF_KW → IfAccF st (needS2 st)
  | .ifS c thn, hwf, _ => (ifS_acc c thn _ (needB thn) (exprX_okF c) (body_okF thn hwf.2) hwf.1).mono (by simp only [needS2]; omega)
  | .ifElse c thn (.blk ss), hwf, _ =>
    (ifElse_any c thn (.blk ss) hwf.1 hwf.2.2.2 (body_okF thn hwf.2.1) (body_okF (.blk ss) hwf.2.2.1)
      (fun s' h _ => by cases h)).mono (by simp only [needS2]; omega)
  | .ifElse c thn (.one s'), hwf, _ =>
    (ifElse_any c thn (.one s') hwf.1 hwf.2.2.2 (body_okF thn hwf.2.1) (body_okF (.one s') hwf.2.2.1)
      (fun s'' h hf => by cases h; exact if_okF s' hwf.2.2.1.1 hf)).mono (by simp only [needS2]; omega)
  | .decl cst ty w init, _, h => by cases cst <;> cases ty <;> simp [firstTokS2, Ty.kind] at h
  | .io out _ _, _, h => by cases out <;> simp [firstTokS2] at h
  | .oldReg c _, _, h => by cases c <;> simp [firstTokS2] at h
  | .exprS x, _, h => by
    have := firstX_xFirst x; simp only [firstTokS2] at h; rw [h] at this; cases this
  | .modGate m _ _ _, _, h => by rcases firstMod_cases m with h' | h' | h' | h' <;> simp [firstTokS2, h'] at h
  | .modGphase m _ _, _, h => by rcases firstMod_cases m with h' | h' | h' | h' <;> simp [firstTokS2, h'] at h
  | .qubit _, _, h | .letS _, _, h | .alias _, _, h | .assign _ _, _, h | .gate _ _, _, h | .gphase _, _, h | .reset _, _, h
  | .barrier _, _, h | .delay _ _, _, h | .brk, _, h | .cont, _, h | .endS, _, h | .pragma, _, h | .annot, _, h | .incl, _, h
  | .version, _, h | .externS _ _, _, h | .whileS _ _, _, h | .forS _ _ _ _, _, h | .switchS _ _, _, h | .block _, _, h
  | .gateDef _ _ _, _, h | .defS _ _ _, _, h | .cal _, _, h | .ret _, _, h => by simp [firstTokS2] at h
theorem body_okF : ∀ (b : Body), WFB b → BodyOKF b (needB b)
  | .blk ss, hwf =>
    block_acc2 ss (needL2 ss) (stmts_ok2 true ss hwf)
  | .one st, hwf => one_acc st (needS2 st) (stmt_ok2 st hwf.1) hwf.2
theorem cases_okF : ∀ (cs : Cases), WFC cs → ∀ n, needC cs ≤ n → CasesOKF cs n
  | .nil, _, _, _ => trivial
  | .dflt body, hwf, n, hn =>
    StmtsOK2F.mono (stmts_ok2 true body hwf) (by simp only [needC] at hn; exact hn)
  | .cons _ body rest, hwf, n, hn =>
    ⟨StmtsOK2F.mono (stmts_ok2 true body hwf.1)
        (by simp only [needC] at hn; omega),
      cases_okF rest hwf.2 n (by simp only [needC] at hn; omega)⟩
/-- **every well-formed statement list is accepted by the statement loop** -/
theorem stmts_ok2 : ∀ (curly : Bool) (ss : Stmts2), WFL2 curly ss → ∀ (F : Nat) (s : P), needL2 ss ≤ F → RdyF 8 s →
    Toks s s.pos (toksL2 ss) → closerOf curly (s.kindAt (s.pos + (toksL2 ss).length)) →
    Acc (exprBlockStatements F) s (toksL2 ss).length (evsL2 ss)
  | curly, .nil, _, F, s, hF, hr, htk, hcl => by
    obtain ⟨g, rfl⟩ : ∃ g, F = g + 1 := ⟨F - 1, by simp only [needL2] at hF; omega⟩
    exact ebs_nil g s (closerOf_closer hcl)
  | curly, .cons st ss, hwf, F, s, hF, hr, htk, hcl => by
    obtain ⟨g, rfl⟩ : ∃ g, F = g + 1 := ⟨F - 1, by simp only [needL2] at hF; omega⟩
    simp only [needL2] at hF
    simp only [toksL2, Toks_append, List.length_append] at htk hcl ⊢
    obtain ⟨j, ts, hts⟩ := toksS2_first st
    have h0 : s.kindAt s.pos = firstTokS2 st := Toks_head htk.1 hts
    obtain ⟨hne1, hne2, -⟩ := stmtFirst_props _ (firstTokS2_stmtFirst st)
    refine ebs_cons g s _ _ _ _ (by rw [h0]; exact hne1) (by rw [h0]; exact hne2)
      (stmt_ok2 st hwf.1 g s (by omega) hr htk.1
        (followS2_next st ss curly s _ htk.2 (by rw [Nat.add_assoc]; exact hcl) hwf.2.2.1 hwf.2.2.2))
      (fun st' sb' hle => stmts_ok2 curly ss hwf.2.1 g _ (by omega)
        (hr.ov 8 _ _ _ _ _ (by have := hr.steps; omega))
        ((Toks_ov s _ _ _ _ _ _ _ _).2 htk.2)
        (by show closerOf curly (s.kindAt (s.pos + _ + _)); rw [Nat.add_assoc]; exact hcl))
end

/-! The same under `RdyL`. -/

theorem if_ok : ∀ (st : Stmt2), WFS2 st → firstTokS2 st = .IF_KW → IfAcc st (needS2 st) :=
  fun st hwf h => (if_okF st hwf h).toAcc
theorem body_ok : ∀ (b : Body), WFB b → BodyOK b (needB b) := fun b hwf => (body_okF b hwf).toOK
theorem cases_ok : ∀ (cs : Cases), WFC cs → ∀ n, needC cs ≤ n → CasesOK cs n :=
  fun cs hwf n hn => (cases_okF cs hwf n hn).toOK

end Oq3.LangEv2
