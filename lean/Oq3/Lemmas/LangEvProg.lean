/-
C04 for a recursive reference language: fuel, well-formedness, one iteration of the statement loop.
-/
import Oq3.Lemmas.LangEvDef
set_option linter.unusedSimpArgs false
set_option linter.unusedVariables false

namespace Oq3.LangEv
open Oq3.Gen Oq3.Parser Oq3.Grammar Oq3.SymExec Oq3.PrattEv
open Oq3.Gen.Ops (Assoc)

def optNeed : Option E → Nat
  | none => 0
  | some e => 6 * size e

mutual
/-- fuel that `stmt` needs for the statement -/
def needS : Stmt → Nat
  | .decl _ w init => max (optNeed w) (optNeed init) + 8
  | .assign rhs => 6 * size rhs + 6
  | .exprS e => 6 * size e + 3
  | .gate [] nq => nq + 11
  | .gate (a :: as) nq => argsNeed (a :: as) + nq + 13
  | .measure => 8
  | .assignMeasure => 12
  | .reset => 8
  | .barrier nq => nq + 8
  | .brk => 8
  | .cont => 8
  | .endS => 8
  | .ifS c thn => max (6 * size c) (needL thn) + 6
  | .ifElse c thn els => max (6 * size c) (max (needL thn) (needL els)) + 6
  | .whileS c body => max (6 * size c) (needL body) + 6
  | .forS _ lo hi body => max (max (6 * size lo) (6 * size hi)) (needL body) + 8
  | .gateDef none nq body => max (nq + 5) (needL body + 3) + 3
  | .gateDef (some k) nq body => max (max (k + 5) (nq + 5)) (needL body + 3) + 3
  | .defS ps _ body => max (ps.length + 6) (needL body + 3) + 3
  | .ret none => 8
  | .ret (some e) => 6 * size e + 9
/-- fuel that the statement loop needs for the list -/
def needL : Stmts → Nat
  | .nil => 1
  | .cons s ss => max (needS s) (needL ss) + 1
end

def firstTokE : E → SyntaxKind
  | .id => .IDENT
  | .int => .INT_NUMBER
  | .bin _ l _ => firstTokE l
  | .pre o _ => o.kind
  | .paren _ => .L_PAREN

theorem firstTokE_operand (e : E) : operandFirst (firstTokE e) = true := by
  induction e with
  | id => rfl
  | int => rfl
  | pre o e ih => cases o <;> rfl
  | paren e ih => rfl
  | bin o l r ihl ihr => exact ihl

def isAssign : Stmt → Bool
  | .assign _ => true
  | .assignMeasure => true
  | _ => false

def startsMinus : Stmts → Bool
  | .cons (.exprS e) _ => firstTokE e == .MINUS
  | _ => false

mutual
def WFS : Stmt → Prop
  | .decl ty w init =>
    (w.isSome = true → ty.wide = true) ∧ (∀ e, w = some e → CanonE 1 e) ∧ (∀ e, init = some e → CanonE 1 e)
  /- F06: the right-hand side of an assignment is parsed at binding power 12: it must not be a
  bare binary expression (atoms, prefix and parenthesised expressions are canonical at every level) -/
  | .assign rhs => CanonE 12 rhs
  | .exprS e => CanonE 1 e
  | .gate args _ => ∀ a ∈ args, CanonE 1 a
  | .ifS c thn => CanonE 1 c ∧ WFL thn
  | .ifElse c thn els => CanonE 1 c ∧ WFL thn ∧ WFL els
  | .whileS c body => CanonE 1 c ∧ WFL body
  | .forS _ lo hi body => CanonE 1 lo ∧ CanonE 1 hi ∧ WFL body
  | .gateDef _ _ body => WFL body
  | .defS _ _ body => WFL body
  | .ret e => ∀ x, e = some x → CanonE 1 x
  | _ => True
/-- F09e: an assignment keeps looking for a binary operator after its `;`, so the next statement
must not start with `-` (the only first token of our statements that `current_op` takes for an
operator) -/
def WFL : Stmts → Prop
  | .nil => True
  | .cons s ss => WFS s ∧ WFL ss ∧ (isAssign s = true → startsMinus ss = false)
end

def closer (k : SyntaxKind) : Prop := k = .R_CURLY ∨ k = .EOF

theorem ebs_nil (F : Nat) (s : P) (hk : closer (s.kindAt s.pos)) : Acc (exprBlockStatements (F + 1)) s 0 [] := by
  refine ⟨s.steps, s.sinceBump, Nat.le_refl _, of_ov _ _ _ ?_⟩
  have h0 : s.kindAt (s.pos + 0) = s.kindAt s.pos := rfl
  rcases hk with hk | hk
  · rw [← h0] at hk
    show _ = _
    sym_eval [hk]
    rfl
  · rw [← h0] at hk
    show _ = _
    sym_eval [hk]
    rfl

theorem ebs_cons (F : Nat) (s : P) (n1 n2 : Nat) (E1 E2 : List Ev)
    (hk1 : s.kindAt s.pos ≠ .EOF) (hk2 : s.kindAt s.pos ≠ .R_CURLY)
    (h1 : Acc (stmt F) s n1 E1)
    (h2 : ∀ st sb, st ≤ s.steps → Acc (exprBlockStatements F) (s.ov E1 n1 st sb s.live s.protectedPos) n2 E2) :
    Acc (exprBlockStatements (F + 1)) s (n1 + n2) (E1 ++ E2) := by
  obtain ⟨st1, sb1, hle1, hx⟩ := h1
  obtain ⟨st2, sb2, hle2, hy⟩ := h2 st1 sb1 hle1
  refine ⟨st2, sb2, Nat.le_trans hle2 hle1, of_ov _ _ _ ?_⟩
  have b1 : (s.kindAt (s.pos + 0) == SyntaxKind.EOF) = false := beq_false_of_ne hk1
  have b2 : (s.kindAt (s.pos + 0) == SyntaxKind.R_CURLY) = false := beq_false_of_ne hk2
  have hx' := to_ov hx
  rw [ov_ov] at hy
  have hy' : exprBlockStatements F (s.ov E1 n1 st1 sb1 s.live s.protectedPos) =
      .ok ((), s.ov (E1 ++ E2) (n1 + n2) st2 sb2 s.live s.protectedPos) := hy
  show _ = _
  sym_eval [b1, b2, hx', hy']
  rfl

theorem opF_bang (s : P) (q : Nat) (h0 : s.kindAt q = .BANG) (h1 : s.kindAt (q + 1) ≠ .EQ) :
    opF s.kinds s.joint q = notAnOp := by
  simp only [P.kindAt] at h0 h1
  unfold opF
  rw [h0, scanF_filter, rows_BANG]
  simp only [scanF, atF_NEQ, h0, h1, Bool.and_eq_true, beq_iff_eq, false_and, and_false, if_false, if_true]

end Oq3.LangEv
