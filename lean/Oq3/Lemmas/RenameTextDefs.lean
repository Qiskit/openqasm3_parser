/-
C17 (renaming through lexer and parser) — shared definitions.

* `tokId1`, `tokIdE`, `tokIdI`: the parser invariant "a token event of ONE raw token has the kind of
  that raw token; a token event of several raw tokens (a composite operator) is not an `IDENT` and
  glues no raw `IDENT`" — over events (`Lemmas/RenameTextInv.lean`, generated
  `Lemmas/RenameTextGrammar.lean`, `Lemmas/RenameTextParse.lean`) and over token items (builder).
* `mapTree`, `mapC`: a function `φ kind text` applied to every leaf text of a model tree / of a
  concrete syntax tree (kinds, shape and — for `mapC` — ranges kept).
-/
import Oq3.Lemmas.BuilderFit
import Oq3.Model.CNode

namespace Oq3.RenameText
open Oq3.Gen Oq3.Parser Oq3.Builder Oq3.Acc

/-- the check for one token event `token k n` at raw-token cursor `c`; `κ i` = kind of the `i`-th
raw (non-trivia) token -/
def tokId1 (κ : Nat → SyntaxKind) (c : Nat) (k : SyntaxKind) (n : Nat) : Bool :=
  if n = 1 then κ c == k
  else k != .IDENT && (List.range n).all fun j => κ (c + j) != .IDENT

/-- over parser events; `c` = raw tokens consumed before -/
def tokIdE (K : Array SyntaxKind) : Nat → List Ev → Bool
  | _, [] => true
  | c, .token k n :: es => tokId1 (fun i => K.getD i .EOF) c k n && tokIdE K (c + n) es
  | c, _ :: es => tokIdE K c es

def tokIdI (K : List SyntaxKind) : Nat → List Item → Bool
  | _, [] => true
  | c, .token k n :: is => tokId1 (fun i => K.getD i .EOF) c k n && tokIdI K (c + n) is
  | c, .error _ :: is => tokIdI K c is

theorem tokIdE_items (K : List SyntaxKind) (c : Nat) (evs : List Ev) :
    tokIdE K.toArray c evs = tokIdI K c (itemsE evs) := by
  induction evs generalizing c with
  | nil => rfl
  | cons e es ih => cases e <;> simp [tokIdE, tokIdI, itemsE, ih]

mutual
def mapTree (φ : SyntaxKind → List Char → List Char) : Tree → Tree
  | .leaf k t => .leaf k (φ k t)
  | .node k cs => .node k (mapTrees φ cs)
def mapTrees (φ : SyntaxKind → List Char → List Char) : List Tree → List Tree
  | [] => []
  | c :: cs => mapTree φ c :: mapTrees φ cs
end

mutual
def mapC (φ : SyntaxKind → List Char → List Char) : CNode → CNode
  | .node k s e cs => .node k s e (mapCs φ cs)
  | .token k s e t => .token k s e (φ k t)
def mapCs (φ : SyntaxKind → List Char → List Char) : List CNode → List CNode
  | [] => []
  | c :: cs => mapC φ c :: mapCs φ cs
end

theorem mapCs_eq (φ : SyntaxKind → List Char → List Char) (cs : List CNode) :
    mapCs φ cs = cs.map (mapC φ) := by
  induction cs with
  | nil => rfl
  | cons c cs ih => simp [mapCs, ih]

section
variable {φ : SyntaxKind → List Char → List Char}

@[simp] theorem kind_mapC (c : CNode) : (mapC φ c).kind = c.kind := by cases c <;> rfl
@[simp] theorem isNode_mapC (c : CNode) : (mapC φ c).isNode = c.isNode := by cases c <;> rfl
@[simp] theorem isToken_mapC (c : CNode) : (mapC φ c).isToken = c.isToken := by cases c <;> rfl
@[simp] theorem start_mapC (c : CNode) : (mapC φ c).start = c.start := by cases c <;> rfl
@[simp] theorem stop_mapC (c : CNode) : (mapC φ c).stop = c.stop := by cases c <;> rfl

theorem children_mapC (n : CNode) : (mapC φ n).children = n.children.map (mapC φ) := by
  cases n with
  | token => rfl
  | node k s e cs => simp [mapC, CNode.children, mapCs_eq]

theorem childNodes_mapC (n : CNode) : (mapC φ n).childNodes = n.childNodes.map (mapC φ) := by
  simp only [CNode.childNodes, children_mapC, List.filter_map, Function.comp_def, isNode_mapC]

theorem childTokens_mapC (n : CNode) : (mapC φ n).childTokens = n.childTokens.map (mapC φ) := by
  simp only [CNode.childTokens, children_mapC, List.filter_map, Function.comp_def, isToken_mapC]

end

theorem mapTrees_eq (φ : SyntaxKind → List Char → List Char) (cs : List Tree) :
    mapTrees φ cs = cs.map (mapTree φ) := by
  induction cs with
  | nil => rfl
  | cons c cs ih => simp [mapTrees, ih]

end Oq3.RenameText
