/-
Facts about the TRANSLATED tables (`Oq3/Gen/*`), proved by kernel evaluation.  They are
re-checked whenever the translator regenerates the tables from /repo's sources: a change to
`Parser::nth_at` / `Parser::eat` that makes the two composite-token tables disagree breaks
`tablesOK` (and with it every theorem that relies on the parser-state invariant).
-/
import Oq3.Model.ParserApi

namespace Oq3.Parser
open Oq3.Gen

theorem mem_all (k : SyntaxKind) : k ∈ SyntaxKind.all := by
  cases k <;> decide

def TablesOK : Prop :=
  (∀ k ps, compositePieces k = some ps →
    (ps.length = 2 ∨ ps.length = 3) ∧ eatRawTokens k = ps.length ∧
      ∀ p ∈ ps, p ≠ SyntaxKind.EOF ∧ p ≠ SyntaxKind.FLOAT_NUMBER) ∧
  (∀ k, compositePieces k = none → eatRawTokens k = 1)

def tablesOKb : Bool :=
  SyntaxKind.all.all fun k =>
    match compositePieces k with
    | some ps => (ps.length == 2 || ps.length == 3) && eatRawTokens k == ps.length && ps.all (fun p => p != .EOF && p != .FLOAT_NUMBER)
    | none => eatRawTokens k == 1

theorem tablesOKb_true : tablesOKb = true := by decide +kernel

/-- `nth_at`'s composite table and `eat`'s `n_raw_tokens` table agree: a composite kind is
glued from exactly as many raw tokens as `at` inspected, none of them `EOF` or `FLOAT_NUMBER`; every other kind
consumes one raw token. -/
theorem tablesOK : TablesOK := by
  have h := tablesOKb_true
  unfold tablesOKb at h
  rw [List.all_eq_true] at h
  constructor
  · intro k ps hk
    have := h k (mem_all k)
    simp only [hk, Bool.and_eq_true, Bool.or_eq_true, beq_iff_eq, List.all_eq_true, bne_iff_ne] at this
    exact ⟨this.1.1, this.1.2, fun p hp => this.2 p hp⟩
  · intro k hk
    have := h k (mem_all k)
    simpa [hk] using this

/-- every member of every translated token set has a discriminant below 128, so
`TokenSet::new` is well defined (the `u128` mask cannot overflow at compile time) -/
theorem tokenSets_small :
    (TokenSets.allSets.all fun p => p.2.all fun k => k.toNat < 128) = true := by decide +kernel

end Oq3.Parser
