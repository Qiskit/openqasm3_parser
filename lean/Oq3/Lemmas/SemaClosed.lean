/-
One walk of the translation for every property of computations that is compositional.

`Closed P`: `P` holds of `pure`, of a panic at a listed site, of running out of fuel and of the
primitives of the context (`SemaCtx.lean`), and `>>=` and `withScope` preserve it.  Then `P` holds of
every non-recursive function of `SemaCtx.lean` (`Closed.lookupSymbol`, …) and, by induction on the
fuel, of the twenty-five functions of the mutual block of `Sema.lean` (`Closed.all`).
`enterScope` / `exitScope` occur only inside `withScope`, `symStep` only inside them and inside
`newBinding` / `tableLookup`, so a property that holds of the bracket or of the two table operations but not of
their parts is covered.
-/
import Oq3.Model.Sema

namespace Oq3.Sema
open Oq3.Types Oq3.Symbols

/-- every string the model passes as a panic site -/
def allSites : List String := [
  "enter_scope: the unique global scope must be the first scope",
  "exit_scope: assertion failed (exiting the global scope)",
  "current_scope: no scope",
  "new_binding: model error",
  "lookup: index out of bounds",
  "lookup: model error",
  "binary_op_to_asg_type: comparison operators other than == and != are not supported",
  "binary_op_to_asg_type: binary logic operators unsupported",
  "binary_op_to_asg_type: unsupported binary operator (assignment)",
  "negative_float_number_to_asg_type: f.value() is None",
  "negative_int_to_asg_type: n.value_u128() is None",
  "literal_to_asg_texpr: int_num.value_u128() is None",
  "literal_to_asg_texpr: float_num.value() is None",
  "literal_to_asg_texpr: todo!() Byte/Char/String literal",
  "designator_to_asg: int_num.value() is None",
  "designator_to_asg: sym.unwrap() on Err",
  "designator_to_asg: const_value.unwrap() on None",
  "designator_to_asg: unsupported designator type",
  "scalar_type_to_type: ScalarTypeKind::None",
  "io_declaration_statement_to_asg_stmt: array types are not supported yet in the ASG",
  "io_declaration_statement_to_asg_stmt: scalar_type() is None",
  "io_declaration_statement_to_asg_stmt: name() is None",
  "bind_typed_parameter_list: neither param_type nor old_typed_param",
  "bind_typed_parameter_list: param.name() is None",
  "stmt_to_asg_stmt: Gate name() is None",
  "expr_to_asg_texpr: bin_expr.lhs() is None",
  "expr_to_asg_texpr: bin_expr.rhs() is None",
  "gate_call_expr_to_asg_stmt: arg_list() is None",
  "gate_call_expr_to_asg_stmt: qubit_list() is None",
  "call_expr_to_asg_texpr: arg_list() is None",
  "true_body_block_or_stmt: Error in oq3_syntax",
  "stmt_to_asg_stmt: IfStmt condition.unwrap() on None",
  "block_or_stmt: Error in oq3_syntax",
  "stmt_to_asg_stmt: WhileStmt condition.unwrap() on None",
  "stmt_to_asg_stmt: ForStmt loop_var() is None",
  "stmt_to_asg_stmt: ForStmt scalar_type() is None",
  "stmt_to_asg_stmt: ForStmt for_iterable() is None",
  "stmt_to_asg_stmt: ForStmt iterable expression unwrap() on None",
  "stmt_to_asg_stmt: ForStmt unreachable!() no iterable",
  "stmt_to_asg_stmt: SwitchCaseStmt control.unwrap() on None",
  "stmt_to_asg_stmt: QuantumDeclarationStatement hardware_qubit() is None",
  "stmt_to_asg_stmt: QuantumDeclarationStatement qubit_type() is None",
  "stmt_to_asg_stmt: Gate qubit params unwrap() on None",
  "stmt_to_asg_stmt: Gate body() is None",
  "stmt_to_asg_stmt: Def name() is None",
  "stmt_to_asg_stmt: Def body() is None",
  "stmt_to_asg_stmt: Def params.unwrap() on None",
  "stmt_to_asg_stmt: DelayStmt designator() is None",
  "stmt_to_asg_stmt: DelayStmt duration unwrap() on None",
  "stmt_to_asg_stmt: Reset gate_operand() is None",
  "stmt_to_asg_stmt: unreachable!() include in global scope",
  "stmt_to_asg_stmt: AliasDeclarationStatement name() is None",
  "stmt_to_asg_stmt: AliasDeclarationStatement rhs unwrap() on None",
  "stmt_to_asg_stmt: CaseExpr expression_list() is None",
  "stmt_to_asg_stmt: CaseExpr block_expr() is None",
  "expr_stmt_to_asg_stmt: g_phase_call_expr() is None",
  "expr_stmt_to_asg_stmt: gphase arg unwrap() on None",
  "expr_stmt_to_asg_stmt: expr::ExprStmt is None",
  "expr_stmt_to_asg_stmt: PowModifier paren_expr() is None",
  "expr_stmt_to_asg_stmt: PowModifier exponent unwrap() on None",
  "expr_to_asg_texpr: only integers and floats are supported as operands to unary minus",
  "expr_to_asg_texpr: time_unit() is None",
  "expr_to_asg_texpr: timing_literal.literal() is None",
  "expr_to_asg_texpr: bug in oq3_syntax or oq3_parser (imaginary literal kind)",
  "expr_to_asg_texpr: only floats are supported as operands to unary minus (timing literal)",
  "expr_to_asg_texpr: unary minus operand unwrap() on None",
  "expr_to_asg_texpr: no operand to unary minus found",
  "expr_to_asg_texpr: unary operators other than minus are not supported",
  "expr_to_asg_texpr: no operand to unary operator found",
  "expr_to_asg_texpr: bin_expr.op_kind() is None",
  "expr_to_asg_texpr: BinExpr left unwrap() on None",
  "expr_to_asg_texpr: BinExpr right unwrap() on None",
  "expr_to_asg_texpr: int_num.value_u128() is None",
  "expr_to_asg_texpr: float_num.value() is None",
  "expr_to_asg_texpr: bug in oq3_syntax or oq3_parser (timing literal kind)",
  "expr_to_asg_texpr: index_expr.index_operator() is None",
  "expr_to_asg_texpr: IndexExpr expr.unwrap() on None",
  "expr_to_asg_texpr: measure_expr.gate_operand() is None",
  "expr_to_asg_texpr: cast.scalar_type() is None",
  "expr_to_asg_texpr: CastExpression expr.unwrap() on None",
  "expr_to_asg_texpr: BlockExpr not supported",
  "expr_to_asg_texpr: ArrayExpr not supported",
  "expr_to_asg_texpr: ArrayLiteral not supported",
  "expr_to_asg_texpr: BoxExpr not supported",
  "expr_to_asg_texpr: you have found a bug in oq3_parser (gate call / dim expression as expression)",
  "set_expression_to_asg_type: expression_list() is None",
  "range_expression_to_asg_type: start unwrap() on None",
  "range_expression_to_asg_type: stop unwrap() on None",
  "gate_call_expr_to_asg_stmt: arg_list expression_list() is None",
  "gate_call_expr_to_asg_stmt: identifier() is None",
  "call_expr_to_asg_texpr: arg_list expression_list() is None",
  "call_expr_to_asg_texpr: identifier() is None",
  "call_expr_to_asg_texpr: programming error: expected Type::Def variant",
  "index_operator_to_asg_type: index_kind() is None",
  "qubit_list_to_asg_texpr: qubit_list.unwrap() on None",
  "block_or_stmt_to_asg_type: stmt_to_asg_stmt(..).unwrap() on None",
  "classical_declaration_statement_to_asg_stmt: scalar_type() is None",
  "classical_declaration_statement_to_asg_stmt: name() is None",
  "assignment_stmt_to_asg_stmt: rhs unwrap() on None",
  "assignment_stmt_to_asg_stmt: indexed_identifier() is None",
  "indexed_identifier_to_asg_type: identifier() is None",
  "syntax_to_semantic: include.file() is None",
  "syntax_to_semantic: file.to_string() is None",
  "AnnotatedStmt::new: annotation of annotated statement is not allowed"]

/-- closes `"literal" ∈ allSites` -/
macro "site_mem" : tactic => `(tactic| first | assumption | simp [allSites])

structure Closed (P : ∀ {α : Type}, M α → Prop) : Prop where
  pure {α} (a : α) : P (pure a)
  bind {α β} {x : M α} {f : α → M β} : P x → (∀ a, P (f a)) → P (x >>= f)
  fail {α} (site : String) : site ∈ allSites → P (fail site : M α)
  fuel {α} : P (throw Outcome.fuel : M α)
  insertError (k : SemanticErrorKind) (node : Ast.Span) : P (insertError k node)
  withScope {α} (k : ScopeType) {body : M α} : P body → P (withScope k body)
  newBinding (name : String) (typ : T) (node : Ast.Span) : P (newBinding name typ node)
  tableLookup (name : String) : P (tableLookup name)
  currentScopeType : P currentScopeType
  insertConstValue (id : Nat) (v : TExpr) : P (insertConstValue id v)
  getConstValue (id : Nat) : P (getConstValue id)
  pushAnnotation (a : String) : P (pushAnnotation a)

/-- for a property that holds of every single table step: the bracket `withScope` and the two
table operations are sequences of steps -/
theorem Closed.of_symStep {P : ∀ {α : Type}, M α → Prop}
    (hpure : ∀ {α} (a : α), P (Pure.pure a))
    (hbind : ∀ {α β} {x : M α} {f : α → M β}, P x → (∀ a, P (f a)) → P (x >>= f))
    (hfail : ∀ {α} (site : String), site ∈ allSites → P (Sema.fail site : M α))
    (hfuel : ∀ {α}, P (throw Outcome.fuel : M α))
    (hinsertError : ∀ k node, P (Sema.insertError k node))
    (hsymStep : ∀ site op, site ∈ allSites → P (Sema.symStep site op))
    (hcurrentScopeType : P Sema.currentScopeType)
    (hinsertConstValue : ∀ id v, P (Sema.insertConstValue id v))
    (hgetConstValue : ∀ id, P (Sema.getConstValue id))
    (hpushAnnotation : ∀ a, P (Sema.pushAnnotation a)) : Closed @P where
  pure := hpure
  bind := hbind
  fail := hfail
  fuel := hfuel
  insertError := hinsertError
  withScope k body hb := by
    unfold Sema.withScope enterScope exitScope
    exact hbind (hbind (hsymStep _ _ (by site_mem)) fun _ => hpure _) fun _ => hbind hb fun _ =>
      hbind (hbind (hsymStep _ _ (by site_mem)) fun _ => hpure _) fun _ => hpure _
  newBinding name typ node := by
    unfold Sema.newBinding
    refine hbind (hsymStep _ _ (by site_mem)) fun o => ?_
    split
    · exact hpure _
    · exact hbind (hinsertError _ _) fun _ => hpure _
    · exact hfail _ (by site_mem)
  tableLookup name := by
    unfold Sema.tableLookup
    refine hbind (hsymStep _ _ (by site_mem)) fun o => ?_
    split
    · exact hpure _
    · exact hpure _
    · exact hfail _ (by site_mem)
  currentScopeType := hcurrentScopeType
  insertConstValue := hinsertConstValue
  getConstValue := hgetConstValue
  pushAnnotation := hpushAnnotation

structure All (P : ∀ {α : Type}, M α → Prop) (fuel : Nat) : Prop where
  stmtToAsgStmt : ∀ (s : Ast.Stmt), P (stmtToAsgStmt fuel s)
  caseExprsLoop : ∀ (cs : List Ast.CaseExpr), P (caseExprsLoop fuel cs)
  exprStmtToAsgStmt : ∀ (e : Option Ast.Expr), P (exprStmtToAsgStmt fuel e)
  modifiersLoop : ∀ (ms : List Ast.Modifier), P (modifiersLoop fuel ms)
  parenExprToAsgTexpr : ∀ (p : Ast.ParenExpr), P (parenExprToAsgTexpr fuel p)
  exprToAsgTexpr : ∀ (e : Option Ast.Expr), P (exprToAsgTexpr fuel e)
  setExpressionToAsgType : ∀ (s : Ast.SetExpression), P (setExpressionToAsgType fuel s)
  rangeExpressionToAsgType : ∀ (r : Ast.RangeExpr), P (rangeExpressionToAsgType fuel r)
  gateCallExprToAsgStmt : ∀ (g : Ast.GateCallExpr) (ms : List GateModifier), P (gateCallExprToAsgStmt fuel g ms)
  callExprToAsgTexpr : ∀ (sp : Ast.Span) (al : Option Ast.ArgList) (i : Option Ast.Identifier), P (callExprToAsgTexpr fuel sp al i)
  gateOperandToAsgTexpr : ∀ (g : Ast.GateOperand), P (gateOperandToAsgTexpr fuel g)
  indexOperatorToAsgType : ∀ (i : Ast.IndexOperator), P (indexOperatorToAsgType fuel i)
  expressionListToAsgType : ∀ (el : Ast.ExpressionList), P (expressionListToAsgType fuel el)
  qubitListToAsgTexpr : ∀ (ql : Option Ast.QubitList), P (qubitListToAsgTexpr fuel ql)
  gateOperandsLoop : ∀ (gs : List Ast.GateOperand), P (gateOperandsLoop fuel gs)
  expressionListToAsgTexpr : ∀ (el : Ast.ExpressionList), P (expressionListToAsgTexpr fuel el)
  exprsLoop : ∀ (es : List Ast.Expr), P (exprsLoop fuel es)
  blockExprToAsgStmtList : ∀ (b : Ast.BlockExpr), P (blockExprToAsgStmtList fuel b)
  stmtsLoop : ∀ (ss : List Ast.Stmt), P (stmtsLoop fuel ss)
  blockExprToAsgType : ∀ (b : Ast.BlockExpr), P (blockExprToAsgType fuel b)
  blockOrStmtToAsgType : ∀ (b : Ast.BlockOrStmt), P (blockOrStmtToAsgType fuel b)
  classicalDeclarationStatementToAsgStmt : ∀ (sp : Ast.Span) (a : Bool) (st : Option Ast.ScalarType) (k : Bool) (n : Option Ast.Name) (e : Option Ast.Expr), P (classicalDeclarationStatementToAsgStmt fuel sp a st k n e)
  assignmentStmtToAsgStmt : ∀ (sp : Ast.Span) (i : Option Ast.Identifier) (rhs : Option Ast.Expr) (ii : Option Ast.IndexedIdentifier), P (assignmentStmtToAsgStmt fuel sp i rhs ii)
  indexedIdentifierToAsgType : ∀ (ii : Ast.IndexedIdentifier), P (indexedIdentifierToAsgType fuel ii)
  indexOperatorsLoop : ∀ (ixs : List Ast.IndexOperator), P (indexOperatorsLoop fuel ixs)

namespace Closed
variable {P : ∀ {α : Type}, M α → Prop} (hP : Closed @P)
include hP

theorem unwrap {α} (site : String) (o : Option α) (h : site ∈ allSites) : P (unwrap site o) := by
  cases o
  · exact hP.fail _ h
  · exact hP.pure _

/-- extensible: the functions already treated -/
syntax "closed_lemma" : tactic
macro_rules | `(tactic| closed_lemma) => `(tactic| fail "no lemma")

/-- extensible: the induction hypothesis `ih : All P fuel` -/
syntax "closed_ih" : tactic
macro_rules | `(tactic| closed_ih) => `(tactic| fail "no ih")

set_option hygiene false in
/-- one step of a closure proof; `hP : Closed P` is in scope.  `apply` throughout: a rule that does
not fit fails at once, where `exact` would first look for a coercion.  Sequencing comes before the
many rules for single functions, none of which can fit a `>>=`. -/
macro "closed_step" : tactic => `(tactic| first
  | cases ‹_ + 1 = Nat.succ _›
  | with_reducible apply hP.pure
  | with_reducible apply hP.fuel
  | (with_reducible apply hP.fail; site_mem)
  | (with_reducible apply hP.unwrap; site_mem)
  | with_reducible apply hP.insertError
  | with_reducible apply hP.newBinding
  | with_reducible apply hP.tableLookup
  | with_reducible apply hP.currentScopeType
  | with_reducible apply hP.insertConstValue
  | with_reducible apply hP.getConstValue
  | with_reducible apply hP.pushAnnotation
  | with_reducible apply hP.bind
  | intro _
  | with_reducible apply hP.withScope
  | closed_lemma
  | closed_ih
  | split
  | dsimp only)

macro "closed" : tactic => `(tactic| repeat' closed_step)

theorem inGlobalScope : P inGlobalScope := by
  unfold Sema.inGlobalScope; closed
macro_rules | `(tactic| closed_lemma) => `(tactic| with_reducible apply hP.inGlobalScope)

theorem lookupSymbol (n : String) (sp : Ast.Span) : P (lookupSymbol n sp) := by
  unfold Sema.lookupSymbol; closed
macro_rules | `(tactic| closed_lemma) => `(tactic| with_reducible apply hP.lookupSymbol)

theorem lookupGateSymbol (n : String) (sp : Ast.Span) : P (lookupGateSymbol n sp) := by
  unfold Sema.lookupGateSymbol; closed
macro_rules | `(tactic| closed_lemma) => `(tactic| with_reducible apply hP.lookupGateSymbol)

theorem notImpl (sp : Ast.Span) : P (notImpl sp) := by
  unfold Sema.notImpl; closed
macro_rules | `(tactic| closed_lemma) => `(tactic| with_reducible apply hP.notImpl)

theorem binaryOpToAsgType (op : Ast.BinaryOp) : P (binaryOpToAsgType op) := by
  unfold Sema.binaryOpToAsgType; closed
macro_rules | `(tactic| closed_lemma) => `(tactic| with_reducible apply hP.binaryOpToAsgType)

theorem intNumberValue (site text : String) (h : site ∈ allSites) : P (intNumberValue site text) := by
  unfold Sema.intNumberValue; closed
macro_rules | `(tactic| closed_lemma) => `(tactic| (with_reducible apply hP.intNumberValue; site_mem))

theorem negativeFloatNumberToAsgType (fmt : Option String) : P (negativeFloatNumberToAsgType fmt) := by
  unfold Sema.negativeFloatNumberToAsgType; closed
macro_rules | `(tactic| closed_lemma) => `(tactic| with_reducible apply hP.negativeFloatNumberToAsgType)

theorem negativeIntToAsgType (text : String) : P (negativeIntToAsgType text) := by
  unfold Sema.negativeIntToAsgType; closed
macro_rules | `(tactic| closed_lemma) => `(tactic| with_reducible apply hP.negativeIntToAsgType)

theorem literalToAsgTexpr (l : Ast.Literal) : P (literalToAsgTexpr l) := by
  unfold Sema.literalToAsgTexpr; closed
macro_rules | `(tactic| closed_lemma) => `(tactic| with_reducible apply hP.literalToAsgTexpr)

theorem lookupIdentifier (i : Ast.Identifier) : P (lookupIdentifier i) := by
  unfold Sema.lookupIdentifier; closed
macro_rules | `(tactic| closed_lemma) => `(tactic| with_reducible apply hP.lookupIdentifier)

theorem designatorToAsg (d : Option Ast.Designator) : P (designatorToAsg d) := by
  unfold Sema.designatorToAsg; closed
macro_rules | `(tactic| closed_lemma) => `(tactic| with_reducible apply hP.designatorToAsg)

theorem scalarTypeToType (st : Ast.ScalarType) (b : Bool) : P (scalarTypeToType st b) := by
  unfold Sema.scalarTypeToType; closed
macro_rules | `(tactic| closed_lemma) => `(tactic| with_reducible apply hP.scalarTypeToType)

theorem paramTypeToType (pt : Ast.ParamType) (b : Bool) : P (paramTypeToType pt b) := by
  unfold Sema.paramTypeToType; closed
macro_rules | `(tactic| closed_lemma) => `(tactic| with_reducible apply hP.paramTypeToType)

theorem declareClassicalHelper (id : SymbolIdResult) (i : Option TExpr) : P (declareClassicalHelper id i) := by
  unfold Sema.declareClassicalHelper; closed
macro_rules | `(tactic| closed_lemma) => `(tactic| with_reducible apply hP.declareClassicalHelper)

theorem ioDeclarationStatementToAsgStmt (a : Bool) (st : Option Ast.ScalarType) (n : Option Ast.Name) (i : Bool) : P (ioDeclarationStatementToAsgStmt a st n i) := by
  unfold Sema.ioDeclarationStatementToAsgStmt; closed
macro_rules | `(tactic| closed_lemma) => `(tactic| with_reducible apply hP.ioDeclarationStatementToAsgStmt)

theorem bindParams (t : T) (ps : List Ast.Param) : P (bindParams t ps) := by
  induction ps with
  | nil => unfold Sema.bindParams; closed
  | cons p ps ih => unfold Sema.bindParams; repeat' (first | with_reducible apply ih | closed_step)
macro_rules | `(tactic| closed_lemma) => `(tactic| with_reducible apply hP.bindParams)

theorem bindParameterList (l : Option Ast.ParamList) (t : T) : P (bindParameterList l t) := by
  unfold Sema.bindParameterList; closed
macro_rules | `(tactic| closed_lemma) => `(tactic| with_reducible apply hP.bindParameterList)

theorem bindTypedParams (ps : List Ast.TypedParam) : P (bindTypedParams ps) := by
  induction ps with
  | nil => unfold Sema.bindTypedParams; closed
  | cons p ps ih => unfold Sema.bindTypedParams; repeat' (first | with_reducible apply ih | closed_step)
macro_rules | `(tactic| closed_lemma) => `(tactic| with_reducible apply hP.bindTypedParams)

theorem bindTypedParameterList (l : Option Ast.TypedParamList) : P (bindTypedParameterList l) := by
  unfold Sema.bindTypedParameterList; closed
macro_rules | `(tactic| closed_lemma) => `(tactic| with_reducible apply hP.bindTypedParameterList)

theorem notGlobalCheck (sp : Ast.Span) : P (notGlobalCheck sp) := by
  unfold Sema.notGlobalCheck; closed
macro_rules | `(tactic| closed_lemma) => `(tactic| with_reducible apply hP.notGlobalCheck)

theorem gateNotGlobalCheck (n : Option Ast.Name) : P (gateNotGlobalCheck n) := by
  unfold Sema.gateNotGlobalCheck; closed
macro_rules | `(tactic| closed_lemma) => `(tactic| with_reducible apply hP.gateNotGlobalCheck)

theorem returnGlobalCheck (sp : Ast.Span) : P (returnGlobalCheck sp) := by
  unfold Sema.returnGlobalCheck; closed
macro_rules | `(tactic| closed_lemma) => `(tactic| with_reducible apply hP.returnGlobalCheck)

theorem delayDurationCheck (d : TExpr) (sp : Ast.Span) : P (delayDurationCheck d sp) := by
  unfold Sema.delayDurationCheck; closed
macro_rules | `(tactic| closed_lemma) => `(tactic| with_reducible apply hP.delayDurationCheck)

theorem quantumBinopCheck (l r : TExpr) (lhs rhs : Option Ast.Expr) : P (quantumBinopCheck l r lhs rhs) := by
  unfold Sema.quantumBinopCheck; closed
macro_rules | `(tactic| closed_lemma) => `(tactic| with_reducible apply hP.quantumBinopCheck)

theorem gateOperandIdentCheck (t : T) (sp : Ast.Span) : P (gateOperandIdentCheck t sp) := by
  unfold Sema.gateOperandIdentCheck; closed
macro_rules | `(tactic| closed_lemma) => `(tactic| with_reducible apply hP.gateOperandIdentCheck)

theorem gateOperandIndexedCheck (t : T) (sp : Ast.Span) : P (gateOperandIndexedCheck t sp) := by
  unfold Sema.gateOperandIndexedCheck; closed
macro_rules | `(tactic| closed_lemma) => `(tactic| with_reducible apply hP.gateOperandIndexedCheck)

theorem gateCallCheck (sp : Ast.Span) (ql : Option Ast.QubitList) (al : Option Ast.ArgList) (g : Ast.Identifier) (r : SymbolIdResult) (t : T) (np nq : Nat) : P (gateCallCheck sp ql al g r t np nq) := by
  unfold Sema.gateCallCheck; closed
macro_rules | `(tactic| closed_lemma) => `(tactic| with_reducible apply hP.gateCallCheck)

theorem defArityCheck (e n : Nat) (al : Option Ast.ArgList) : P (defArityCheck e n al) := by
  unfold Sema.defArityCheck; closed
macro_rules | `(tactic| closed_lemma) => `(tactic| with_reducible apply hP.defArityCheck)

theorem mutateConstCheck (ok : Bool) (t : T) (sp : Ast.Span) : P (mutateConstCheck ok t sp) := by
  unfold Sema.mutateConstCheck; closed
macro_rules | `(tactic| closed_lemma) => `(tactic| with_reducible apply hP.mutateConstCheck)

set_option hygiene false in
macro_rules | `(tactic| closed_ih) => `(tactic| first
  | with_reducible apply ih.stmtToAsgStmt
  | with_reducible apply ih.caseExprsLoop
  | with_reducible apply ih.exprStmtToAsgStmt
  | with_reducible apply ih.modifiersLoop
  | with_reducible apply ih.parenExprToAsgTexpr
  | with_reducible apply ih.exprToAsgTexpr
  | with_reducible apply ih.setExpressionToAsgType
  | with_reducible apply ih.rangeExpressionToAsgType
  | with_reducible apply ih.gateCallExprToAsgStmt
  | with_reducible apply ih.callExprToAsgTexpr
  | with_reducible apply ih.gateOperandToAsgTexpr
  | with_reducible apply ih.indexOperatorToAsgType
  | with_reducible apply ih.expressionListToAsgType
  | with_reducible apply ih.qubitListToAsgTexpr
  | with_reducible apply ih.gateOperandsLoop
  | with_reducible apply ih.expressionListToAsgTexpr
  | with_reducible apply ih.exprsLoop
  | with_reducible apply ih.blockExprToAsgStmtList
  | with_reducible apply ih.stmtsLoop
  | with_reducible apply ih.blockExprToAsgType
  | with_reducible apply ih.blockOrStmtToAsgType
  | with_reducible apply ih.classicalDeclarationStatementToAsgStmt
  | with_reducible apply ih.assignmentStmtToAsgStmt
  | with_reducible apply ih.indexedIdentifierToAsgType
  | with_reducible apply ih.indexOperatorsLoop)

theorem stmtToAsgStmt_step {fuel : Nat} (ih : All @P fuel) (s : Ast.Stmt) :
    P (stmtToAsgStmt (fuel + 1) s) := by
  unfold Sema.stmtToAsgStmt; closed

theorem caseExprsLoop_step {fuel : Nat} (ih : All @P fuel) (cs : List Ast.CaseExpr) :
    P (caseExprsLoop (fuel + 1) cs) := by
  unfold Sema.caseExprsLoop; closed

theorem exprStmtToAsgStmt_step {fuel : Nat} (ih : All @P fuel) (e : Option Ast.Expr) :
    P (exprStmtToAsgStmt (fuel + 1) e) := by
  unfold Sema.exprStmtToAsgStmt; closed

theorem modifiersLoop_step {fuel : Nat} (ih : All @P fuel) (ms : List Ast.Modifier) :
    P (modifiersLoop (fuel + 1) ms) := by
  unfold Sema.modifiersLoop; closed

-- four functions only call others of the block: their steps need `ih`, not `hP`
omit hP in
theorem parenExprToAsgTexpr_step {fuel : Nat} (ih : All @P fuel) (p : Ast.ParenExpr) :
    P (parenExprToAsgTexpr (fuel + 1) p) := by
  unfold Sema.parenExprToAsgTexpr; closed

theorem exprToAsgTexpr_step {fuel : Nat} (ih : All @P fuel) (e : Option Ast.Expr) :
    P (exprToAsgTexpr (fuel + 1) e) := by
  unfold Sema.exprToAsgTexpr; closed

theorem setExpressionToAsgType_step {fuel : Nat} (ih : All @P fuel) (s : Ast.SetExpression) :
    P (setExpressionToAsgType (fuel + 1) s) := by
  unfold Sema.setExpressionToAsgType; closed

theorem rangeExpressionToAsgType_step {fuel : Nat} (ih : All @P fuel) (r : Ast.RangeExpr) :
    P (rangeExpressionToAsgType (fuel + 1) r) := by
  unfold Sema.rangeExpressionToAsgType; closed

theorem gateCallExprToAsgStmt_step {fuel : Nat} (ih : All @P fuel) (g : Ast.GateCallExpr) (ms : List GateModifier) :
    P (gateCallExprToAsgStmt (fuel + 1) g ms) := by
  unfold Sema.gateCallExprToAsgStmt; closed

theorem callExprToAsgTexpr_step {fuel : Nat} (ih : All @P fuel) (sp : Ast.Span) (al : Option Ast.ArgList) (i : Option Ast.Identifier) :
    P (callExprToAsgTexpr (fuel + 1) sp al i) := by
  unfold Sema.callExprToAsgTexpr; closed

theorem gateOperandToAsgTexpr_step {fuel : Nat} (ih : All @P fuel) (g : Ast.GateOperand) :
    P (gateOperandToAsgTexpr (fuel + 1) g) := by
  unfold Sema.gateOperandToAsgTexpr; closed

theorem indexOperatorToAsgType_step {fuel : Nat} (ih : All @P fuel) (i : Ast.IndexOperator) :
    P (indexOperatorToAsgType (fuel + 1) i) := by
  unfold Sema.indexOperatorToAsgType; closed

omit hP in
theorem expressionListToAsgType_step {fuel : Nat} (ih : All @P fuel) (el : Ast.ExpressionList) :
    P (expressionListToAsgType (fuel + 1) el) := by
  unfold Sema.expressionListToAsgType; closed

theorem qubitListToAsgTexpr_step {fuel : Nat} (ih : All @P fuel) (ql : Option Ast.QubitList) :
    P (qubitListToAsgTexpr (fuel + 1) ql) := by
  unfold Sema.qubitListToAsgTexpr; closed

theorem gateOperandsLoop_step {fuel : Nat} (ih : All @P fuel) (gs : List Ast.GateOperand) :
    P (gateOperandsLoop (fuel + 1) gs) := by
  unfold Sema.gateOperandsLoop; closed

omit hP in
theorem expressionListToAsgTexpr_step {fuel : Nat} (ih : All @P fuel) (el : Ast.ExpressionList) :
    P (expressionListToAsgTexpr (fuel + 1) el) := by
  unfold Sema.expressionListToAsgTexpr; closed

theorem exprsLoop_step {fuel : Nat} (ih : All @P fuel) (es : List Ast.Expr) :
    P (exprsLoop (fuel + 1) es) := by
  unfold Sema.exprsLoop; closed

omit hP in
theorem blockExprToAsgStmtList_step {fuel : Nat} (ih : All @P fuel) (b : Ast.BlockExpr) :
    P (blockExprToAsgStmtList (fuel + 1) b) := by
  unfold Sema.blockExprToAsgStmtList; closed

theorem stmtsLoop_step {fuel : Nat} (ih : All @P fuel) (ss : List Ast.Stmt) :
    P (stmtsLoop (fuel + 1) ss) := by
  unfold Sema.stmtsLoop; closed

theorem blockExprToAsgType_step {fuel : Nat} (ih : All @P fuel) (b : Ast.BlockExpr) :
    P (blockExprToAsgType (fuel + 1) b) := by
  unfold Sema.blockExprToAsgType; closed

theorem blockOrStmtToAsgType_step {fuel : Nat} (ih : All @P fuel) (b : Ast.BlockOrStmt) :
    P (blockOrStmtToAsgType (fuel + 1) b) := by
  unfold Sema.blockOrStmtToAsgType; closed

theorem classicalDeclarationStatementToAsgStmt_step {fuel : Nat} (ih : All @P fuel) (sp : Ast.Span) (a : Bool) (st : Option Ast.ScalarType) (k : Bool) (n : Option Ast.Name) (e : Option Ast.Expr) :
    P (classicalDeclarationStatementToAsgStmt (fuel + 1) sp a st k n e) := by
  unfold Sema.classicalDeclarationStatementToAsgStmt; closed

theorem assignmentStmtToAsgStmt_step {fuel : Nat} (ih : All @P fuel) (sp : Ast.Span) (i : Option Ast.Identifier) (rhs : Option Ast.Expr) (ii : Option Ast.IndexedIdentifier) :
    P (assignmentStmtToAsgStmt (fuel + 1) sp i rhs ii) := by
  unfold Sema.assignmentStmtToAsgStmt; closed

theorem indexedIdentifierToAsgType_step {fuel : Nat} (ih : All @P fuel) (ii : Ast.IndexedIdentifier) :
    P (indexedIdentifierToAsgType (fuel + 1) ii) := by
  unfold Sema.indexedIdentifierToAsgType; closed

theorem indexOperatorsLoop_step {fuel : Nat} (ih : All @P fuel) (ixs : List Ast.IndexOperator) :
    P (indexOperatorsLoop (fuel + 1) ixs) := by
  unfold Sema.indexOperatorsLoop; closed

theorem all (fuel : Nat) : All @P fuel := by
  induction fuel with
  | zero =>
    constructor
    · intros; unfold Sema.stmtToAsgStmt; closed
    · intros; unfold Sema.caseExprsLoop; closed
    · intros; unfold Sema.exprStmtToAsgStmt; closed
    · intros; unfold Sema.modifiersLoop; closed
    · intros; unfold Sema.parenExprToAsgTexpr; closed
    · intros; unfold Sema.exprToAsgTexpr; closed
    · intros; unfold Sema.setExpressionToAsgType; closed
    · intros; unfold Sema.rangeExpressionToAsgType; closed
    · intros; unfold Sema.gateCallExprToAsgStmt; closed
    · intros; unfold Sema.callExprToAsgTexpr; closed
    · intros; unfold Sema.gateOperandToAsgTexpr; closed
    · intros; unfold Sema.indexOperatorToAsgType; closed
    · intros; unfold Sema.expressionListToAsgType; closed
    · intros; unfold Sema.qubitListToAsgTexpr; closed
    · intros; unfold Sema.gateOperandsLoop; closed
    · intros; unfold Sema.expressionListToAsgTexpr; closed
    · intros; unfold Sema.exprsLoop; closed
    · intros; unfold Sema.blockExprToAsgStmtList; closed
    · intros; unfold Sema.stmtsLoop; closed
    · intros; unfold Sema.blockExprToAsgType; closed
    · intros; unfold Sema.blockOrStmtToAsgType; closed
    · intros; unfold Sema.classicalDeclarationStatementToAsgStmt; closed
    · intros; unfold Sema.assignmentStmtToAsgStmt; closed
    · intros; unfold Sema.indexedIdentifierToAsgType; closed
    · intros; unfold Sema.indexOperatorsLoop; closed
  | succ fuel ih =>
    constructor
    · exact hP.stmtToAsgStmt_step ih
    · exact hP.caseExprsLoop_step ih
    · exact hP.exprStmtToAsgStmt_step ih
    · exact hP.modifiersLoop_step ih
    · exact parenExprToAsgTexpr_step ih
    · exact hP.exprToAsgTexpr_step ih
    · exact hP.setExpressionToAsgType_step ih
    · exact hP.rangeExpressionToAsgType_step ih
    · exact hP.gateCallExprToAsgStmt_step ih
    · exact hP.callExprToAsgTexpr_step ih
    · exact hP.gateOperandToAsgTexpr_step ih
    · exact hP.indexOperatorToAsgType_step ih
    · exact expressionListToAsgType_step ih
    · exact hP.qubitListToAsgTexpr_step ih
    · exact hP.gateOperandsLoop_step ih
    · exact expressionListToAsgTexpr_step ih
    · exact hP.exprsLoop_step ih
    · exact blockExprToAsgStmtList_step ih
    · exact hP.stmtsLoop_step ih
    · exact hP.blockExprToAsgType_step ih
    · exact hP.blockOrStmtToAsgType_step ih
    · exact hP.classicalDeclarationStatementToAsgStmt_step ih
    · exact hP.assignmentStmtToAsgStmt_step ih
    · exact hP.indexedIdentifierToAsgType_step ih
    · exact hP.indexOperatorsLoop_step ih

end Closed

/-- the same for the functions after the mutual block, which also use the pending annotations, the
program and the standard gates -/
structure ClosedTop (P : ∀ {α : Type}, M α → Prop) : Prop extends Closed @P where
  unsupportedInclude {α} : P (throw Outcome.unsupportedInclude : M α)
  annotationsIsEmpty : P annotationsIsEmpty
  takeAnnotations : P takeAnnotations
  insertStmt (s : Stmt) : P (insertStmt s)
  standardLibraryGates (node : Ast.Span) : P (standardLibraryGates node)

namespace ClosedTop
open Closed
variable {P : ∀ {α : Type}, M α → Prop} (hP : ClosedTop @P)
include hP

set_option hygiene false in
macro_rules | `(tactic| closed_lemma) => `(tactic| first
  | with_reducible apply hP.unsupportedInclude
  | with_reducible apply hP.annotationsIsEmpty
  | with_reducible apply hP.takeAnnotations
  | with_reducible apply hP.insertStmt
  | with_reducible apply hP.standardLibraryGates
  | with_reducible apply (hP.all _).stmtToAsgStmt)

theorem parseIncludedFiles (l : List Ast.Stmt) : P (parseIncludedFiles l) := by
  induction l with
  | nil => unfold Sema.parseIncludedFiles; closed
  | cons st rest ih =>
    cases st <;> (unfold Sema.parseIncludedFiles; repeat' (first | with_reducible apply ih | closed_step))

theorem syntaxToSemanticLoop (fuel : Nat) (l : List Ast.Stmt) : P (syntaxToSemanticLoop fuel l) := by
  induction l generalizing fuel with
  | nil => cases fuel <;> (unfold Sema.syntaxToSemanticLoop; closed)
  | cons st rest ih =>
    cases fuel <;> (unfold Sema.syntaxToSemanticLoop; repeat' (first | with_reducible apply ih | closed_step))

theorem syntaxToSemantic (fuel : Nat) (p : Ast.Program) : P (syntaxToSemantic fuel p) := by
  unfold Sema.syntaxToSemantic
  refine hP.bind (hP.parseIncludedFiles _) fun _ => ?_
  split
  · exact hP.bind hP.unsupportedInclude fun _ => hP.syntaxToSemanticLoop _ _
  · exact hP.bind (hP.pure _) fun _ => hP.syntaxToSemanticLoop _ _

end ClosedTop

end Oq3.Sema
