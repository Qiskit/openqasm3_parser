/-
Event-level Pratt round trip: `process` on an event list, segment by segment.

`GoSeg seg steps`: wherever the segment `seg` sits in an event list, the main loop of `process` walks
over it, appends `steps` to its output and leaves the events after the segment untouched.  The
segments of the expression trees (`goSeg_evs`, `process_evs`) are in `Lemmas/LangEvEmbed.lean`; here
are the rules for single events and the injectivity of `nodes`.
-/
import Oq3.Lemmas.PrattEv

namespace Oq3.PrattEv
open Oq3.Gen Oq3.Parser

/-- kinds along the forward-parent chain of one `expr_bp` call, outermost first -/
def spineKinds : E → List SyntaxKind
  | .bin _ l _ => .BIN_EXPR :: spineKinds l
  | t => [t.kind]

theorem spineKinds_length (t : E) : (spineKinds t).length = cF t := by
  induction t with
  | bin o l r ihl ihr => simp only [spineKinds, cF, List.length_cons, ihl]
  | _ => rfl


theorem get_mid (A R : List Ev) (x : Ev) : (A ++ (x :: R))[A.length]? = some x := by
  rw [List.getElem?_append_right (Nat.le_refl _)]; simp

theorem set_mid (A R : List Ev) (x y : Ev) : (A ++ (x :: R)).set A.length y = A ++ (y :: R) := by
  rw [List.set_append_right _ _ (Nat.le_refl _)]; simp

theorem get_mid2 (A P R : List Ev) (x : Ev) : (A ++ (P ++ (x :: R)))[A.length + P.length]? = some x := by
  rw [← List.append_assoc, ← List.length_append]; exact get_mid _ _ _

theorem set_mid2 (A P R : List Ev) (x y : Ev) : (A ++ (P ++ (x :: R))).set (A.length + P.length) y = A ++ (P ++ (y :: R)) := by
  rw [← List.append_assoc, ← List.length_append, set_mid, List.append_assoc]

theorem cntFp_append (a b : List Ev) : cntFp (a ++ b) = cntFp a + cntFp b := by
  induction a with
  | nil => simp [cntFp]
  | cons x xs ih => simp only [List.cons_append, cntFp, ih]; omega

/-- the loop of `process`, started at the first event of the segment `seg`, walks over it, appends
`steps` to the output and goes on with the events `R` after the segment unchanged -/
def GoSeg (seg : List Ev) (steps : List Step) : Prop :=
  ∀ (n : Nat) (A R : List Ev) (out : List Step), ∃ A' : List Ev,
    processGo (n + seg.length) A.length (A ++ (seg ++ R)) out = processGo n A'.length (A' ++ R) (out ++ steps)

theorem GoSeg.nil : GoSeg [] [] := by
  intro n A R out; exact ⟨A, by simp⟩

theorem GoSeg.append {a b : List Ev} {sa sb : List Step} (ha : GoSeg a sa) (hb : GoSeg b sb) :
    GoSeg (a ++ b) (sa ++ sb) := by
  intro n A R out
  obtain ⟨A1, h1⟩ := ha (n + b.length) A (b ++ R) out
  obtain ⟨A2, h2⟩ := hb n A1 R (out ++ sa)
  refine ⟨A2, ?_⟩
  rw [List.length_append, show n + (a.length + b.length) = n + b.length + a.length by omega,
    List.append_assoc, h1, h2, List.append_assoc]

theorem go_shift (A R : List Ev) : A ++ (Ev.tombstone :: R) = (A ++ [Ev.tombstone]) ++ R := by simp

theorem GoSeg.cast {a a' : List Ev} {sa sa' : List Step} (h : GoSeg a sa) (ha : a = a') (hs : sa = sa') :
    GoSeg a' sa' := by subst ha; subst hs; exact h

/-! One event without forward-parent link in front of a segment: `Token` and `Finish` are copied, a `Start`
is entered, a tombstone is skipped. -/

theorem GoSeg.token {k : SyntaxKind} {m : Nat} {E : List Ev} {S : List Step} (h : GoSeg E S) :
    GoSeg (.token k m :: E) (.token k m :: S) := by
  refine GoSeg.append (a := [.token k m]) (sa := [.token k m]) (fun n A R out => ⟨A ++ [Ev.tombstone], ?_⟩) h
  show processGo (n + 1) A.length (A ++ (Ev.token k m :: R)) out = _
  rw [processGo, get_mid]
  simp only
  rw [set_mid, go_shift, List.length_append]
  rfl

theorem GoSeg.finish {E : List Ev} {S : List Step} (h : GoSeg E S) : GoSeg (.finish :: E) (.exit :: S) := by
  refine GoSeg.append (a := [.finish]) (sa := [.exit]) (fun n A R out => ⟨A ++ [Ev.tombstone], ?_⟩) h
  show processGo (n + 1) A.length (A ++ (Ev.finish :: R)) out = _
  rw [processGo, get_mid]
  simp only
  rw [set_mid, go_shift, List.length_append]
  rfl

theorem GoSeg.start {k : SyntaxKind} {E : List Ev} {S : List Step} (hk : (k != .TOMBSTONE) = true) (h : GoSeg E S) :
    GoSeg (.start k none :: E) (.enter k :: S) := by
  refine GoSeg.append (a := [.start k none]) (sa := [.enter k]) (fun n A R out => ⟨A ++ [Ev.tombstone], ?_⟩) h
  show processGo (n + 1) A.length (A ++ (Ev.start k none :: R)) out = _
  rw [processGo, get_mid]
  simp only
  rw [set_mid, go_shift, List.length_append]
  simp [enters, List.filter, hk]

theorem GoSeg.tomb {E : List Ev} {S : List Step} (h : GoSeg E S) : GoSeg (Ev.tombstone :: E) S := by
  refine GoSeg.append (a := [Ev.tombstone]) (sa := []) (fun n A R out => ⟨A ++ [Ev.tombstone], ?_⟩) h
  show processGo (n + 1) A.length (A ++ (Ev.start .TOMBSTONE none :: R)) out = _
  rw [processGo, get_mid]
  simp only
  rw [set_mid, go_shift, List.length_append, show enters [SyntaxKind.TOMBSTONE] = [] from rfl]
  rfl

theorem BinOp.kind_inj (o o' : BinOp) (h : o.kind = o'.kind) : o = o' := by
  cases o <;> cases o' <;> first | rfl | (simp [BinOp.kind] at h)

theorem PreOp.kind_inj (o o' : PreOp) (h : o.kind = o'.kind) : o = o' := by
  cases o <;> cases o' <;> first | rfl | (simp [PreOp.kind] at h)

/-- the node sequence is a prefix code: it determines the tree (and what follows it) -/
theorem nodes_prefix (t : E) : ∀ (t' : E) (x y : List Step), nodes t ++ x = nodes t' ++ y → t = t' ∧ x = y := by
  induction t with
  | id =>
    intro t' x y h
    cases t' <;> simp [nodes] at h
    exact ⟨rfl, h⟩
  | int =>
    intro t' x y h
    cases t' <;> simp [nodes] at h
    exact ⟨rfl, h⟩
  | pre o e ih =>
    intro t' x y h
    cases t' with
    | pre o' e' =>
      simp only [nodes, List.cons_append, List.nil_append, List.append_assoc, List.cons.injEq, true_and,
        Step.token.injEq, and_true] at h
      obtain ⟨ho, h⟩ := h
      obtain ⟨he, h2⟩ := ih e' _ _ h
      exact ⟨by rw [PreOp.kind_inj o o' ho, he], (List.cons.inj h2).2⟩
    | _ => simp [nodes] at h
  | paren e ih =>
    intro t' x y h
    cases t' with
    | paren e' =>
      simp only [nodes, List.cons_append, List.nil_append, List.append_assoc, List.cons.injEq, true_and] at h
      obtain ⟨he, h2⟩ := ih e' _ _ h
      exact ⟨by rw [he], (List.cons.inj (List.cons.inj h2).2).2⟩
    | _ => simp [nodes] at h
  | bin o l r ihl ihr =>
    intro t' x y h
    cases t' with
    | bin o' l' r' =>
      simp only [nodes, List.cons_append, List.nil_append, List.append_assoc, List.cons.injEq, true_and] at h
      obtain ⟨hl, h2⟩ := ihl l' _ _ h
      simp only [List.cons.injEq, Step.token.injEq] at h2
      obtain ⟨⟨ho, -⟩, h3⟩ := h2
      obtain ⟨hr, h4⟩ := ihr r' _ _ h3
      exact ⟨by rw [BinOp.kind_inj o o' ho, hl, hr], (List.cons.inj h4).2⟩
    | _ => simp [nodes] at h

theorem nodes_injective (t t' : E) (h : nodes t = nodes t') : t = t' :=
  (nodes_prefix t t' [] [] (by simpa using h)).1

end Oq3.PrattEv
