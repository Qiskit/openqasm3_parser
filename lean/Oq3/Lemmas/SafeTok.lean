/-
Token-level assertions of the grammar: the rules used by the generated proof
`Lemmas/GrammarSafeTok.lean` that no `assert!(p.at(..))`, no `Parser::bump` assertion, no
`nth(n)` with `n > 3`, no out-of-range `Input::is_joint` and no `eat(EOF)` is reachable.
What each primitive does to the token view (`wp1_*`), then the walk of a function body over that view (`TW`, a `Walk`
of `Lemmas/Safe.lean`) with its tactic `tw`.

Errors of the marker primitives and the hang outcomes are tolerated here (`A1`); the former are excluded by
`Lemmas/SafeMark.lean` / `Lemmas/GrammarSafeMark.lean`.
-/
import Oq3.Lemmas.Safe
import Oq3.Model.Grammar
set_option linter.unusedSimpArgs false

namespace Oq3.Parser
open Oq3.Gen

def tokSites : List Outcome := [
  .panic "continue_", .panic "end_", .panic "switch_case_stmt", .panic "if_stmt", .panic "while_stmt",
  .panic "for_stmt", .panic "qubit_declaration_stmt", .panic "def_stmt", .panic "extern_stmt",
  .panic "alias_stmt", .panic "range_expr", .panic "call_expr", .panic "array_type_spec",
  .panic "complex_type_spec", .panic "qubit_type_spec", .panic "designator", .panic "index_expr",
  .panic "indexed_identifier", .panic "set_expression", .panic "index_operator", .panic "call_arg_list",
  .panic "gphase_call_expr", .panic "tuple_expr", .panic "array_expr", .panic "block_expr",
  .panic "return_expr", .panic "box_expr", .panic "at_list_end_token", .panic "delay_stmt",
  .panic "Parser::bump assertion", .panic "Parser::nth assertion n <= 3",
  .panic "Input::is_joint index out of bounds",
  .modelError "Parser::eat(EOF)", .modelError "atComposite: bad pieces"]

/-- tolerated in the token-level proof: the hang detectors and the failures of the marker API
(a positive list: the proof also shows that no other failure exists) -/
def A1 (o : Outcome) : Prop := o ∈ hangSites ++ markSites

instance (o : Outcome) : Decidable (A1 o) := by unfold A1; infer_instance

/-- close a goal `wp …` that has been reduced to a tolerated failure -/
macro "dec1" : tactic => `(tactic| (show A1 _; decide))

section
variable {α : Type} {s : P}

theorem wp1_any {x : G α} {Q : α → P → Prop} (he : ∀ o, x s = .error o → A1 o)
    (h : ∀ a s', Q a s') : wp A1 x Q s := by
  unfold wp post
  cases hx : x s with
  | error e => exact he e hx
  | ok p => exact h _ _

theorem wp1_keep {x : G α} {Q : α → P → Prop} (he : ∀ o, x s = .error o → A1 o)
    (hk : ∀ a s', x s = .ok (a, s') → s'.tv = s.tv) (h : ∀ a s', s'.tv = s.tv → Q a s') :
    wp A1 x Q s := by
  unfold wp post
  cases hx : x s with
  | error e => exact he e hx
  | ok p => exact h _ _ (hk _ _ hx)

theorem wp1_nth {n : Nat} (hn : n ≤ 3) {Q : SyntaxKind → P → Prop}
    (h : ∀ s', s'.tv = s.tv → Q (s.kindAt (s.pos + n)) s') : wp A1 (nth n) Q s := by
  apply wp_def
  rw [nth_eq]
  have h1 : ¬ n > 3 := by omega
  simp only [h1, if_false]
  split
  · dec1
  · exact h _ rfl

theorem wp1_start {Q : Marker → P → Prop} (h : ∀ m s', s'.tv = s.tv → Q m s') : wp A1 start Q s := by
  apply wp_def; rw [start_eq]
  split
  · dec1
  · exact h _ _ rfl

theorem wp1_error {msg : String} {Q : Unit → P → Prop} (h : ∀ s', s'.tv = s.tv → Q () s') :
    wp A1 (error msg) Q s := by
  apply wp_def; rw [error_eq]
  split
  · dec1
  · exact h _ rfl

theorem wp1_complete {m : Marker} {kind : SyntaxKind} {Q : CompletedMarker → P → Prop}
    (h : ∀ cm s', s'.tv = s.tv → cm.kind = kind → Q cm s') : wp A1 (m.complete kind) Q s := by
  apply wp_def; rw [complete_eq]
  cases s.events[m.pos]? with
  | none => dec1
  | some e =>
    cases e with
    | finish => dec1
    | token _ _ => dec1
    | error _ => dec1
    | start k0 fp =>
      simp only
      split
      · dec1
      · split
        · dec1
        · split
          · dec1
          · exact h _ _ rfl rfl

theorem wp1_abandon {m : Marker} {Q : Unit → P → Prop} (h : ∀ s', s'.tv = s.tv → Q () s') :
    wp A1 m.abandon Q s := by
  apply wp_def; rw [abandon_eq]
  split
  · dec1
  · split
    · dec1
    · split
      · cases s.events.back? with
        | none => dec1
        | some e =>
          cases e with
          | finish => dec1
          | token _ _ => dec1
          | error _ => dec1
          | start k fp =>
            simp only
            split
            · exact h _ rfl
            · dec1
      · exact h _ rfl

theorem wp1_precede {cm : CompletedMarker} {Q : Marker → P → Prop}
    (h : ∀ m s', s'.tv = s.tv → Q m s') : wp A1 cm.precede Q s := by
  apply wp_def; rw [precede_eq]
  split
  · dec1
  · cases s.started.events[cm.pos]? with
    | none => dec1
    | some e =>
      cases e with
      | finish => dec1
      | token _ _ => dec1
      | error _ => dec1
      | start k fp =>
        simp only
        split
        · dec1
        · exact h _ _ rfl

theorem wp1_extendTo {cm : CompletedMarker} {m : Marker} {Q : CompletedMarker → P → Prop}
    (h : ∀ s', s'.tv = s.tv → Q cm s') : wp A1 (cm.extendTo m) Q s := by
  apply wp_def; rw [extendTo_eq]
  cases s.events[m.pos]? with
  | none => dec1
  | some e =>
    cases e with
    | finish => dec1
    | token _ _ => dec1
    | error _ => dec1
    | start k fp =>
      simp only
      split
      · dec1
      · cases s.events[cm.pos]? with
        | none => dec1
        | some e2 =>
          cases e2 with
          | finish => dec1
          | token _ _ => dec1
          | error _ => dec1
          | start k' fp' =>
            simp only
            split
            · dec1
            · exact h _ rfl

theorem wp1_eat {k : SyntaxKind} (hk : (k == .EOF) = false) {Q : Bool → P → Prop}
    (h1 : atF k s.kinds s.joint s.pos = false → Q false s)
    (h2 : atF k s.kinds s.joint s.pos = true → ∀ s', Q true s') : wp A1 (eat k) Q s := by
  apply wp_def; rw [eat_eq k hk]
  cases hb : atF k s.kinds s.joint s.pos with
  | false => simp only [Bool.false_eq_true, if_false]; exact h1 hb
  | true => simp only [if_true]; exact h2 hb _

theorem wp1_bump {k : SyntaxKind} (hk : (k == .EOF) = false) {Q : Unit → P → Prop}
    (h : atF k s.kinds s.joint s.pos = true) (h2 : ∀ s', Q () s') : wp A1 (bump k) Q s := by
  unfold bump
  apply wp_bind
  apply wp1_eat hk
  · intro hf; rw [h] at hf; cases hf
  · intro _ s'; exact wp_pure (h2 s')

theorem wp1_bumpAny {Q : Unit → P → Prop} (h : ∀ s', Q () s') : wp A1 bumpAny Q s := by
  apply wp_def; rw [bumpAny_eq]
  split <;> exact h _

theorem wp1_expect {k : SyntaxKind} (hk : (k == .EOF) = false) {Q : Bool → P → Prop}
    (h : ∀ b s', Q b s') : wp A1 (expect k) Q s := by
  unfold expect
  apply wp_bind
  apply wp1_eat hk
  · intro _
    simp only [Bool.false_eq_true, if_false]
    apply wp_bind
    apply wp1_error
    intro s' _
    exact wp_pure (h _ _)
  · intro _ s'
    simp only [if_true]
    exact wp_pure (h _ _)

theorem wp1_errRecover {msg : String} {rec : TokenSet} {Q : Unit → P → Prop} (h : ∀ s', Q () s') :
    wp A1 (errRecover msg rec) Q s := by
  unfold errRecover
  apply wp_bind; apply wp_current
  split
  · apply wp_bind; apply wp1_error; intro s' _; exact wp_pure (h _)
  · apply wp_bind; apply wp_atTs
    split
    · apply wp_bind; apply wp1_error; intro s' _; exact wp_pure (h _)
    · apply wp_bind; apply wp1_start; intro m s1 _
      apply wp_bind; apply wp1_error; intro s2 _
      apply wp_bind; apply wp1_bumpAny; intro s3
      apply wp_bind; apply wp1_complete; intro cm s4 _ _
      exact wp_pure (h _)

theorem wp1_errAndBump {msg : String} {Q : Unit → P → Prop} (h : ∀ s', Q () s') :
    wp A1 (errAndBump msg) Q s := wp1_errRecover h

end

/-! ### the walk over the token view

The preconditions of the grammar functions speak of the token view only, and a call of the parser API either keeps the
view or leaves one of which nothing is known.  `TW x Q v`: from every state with view `v`, `x` fails with a tolerated
outcome or returns `r` in a state with a view `v'` such that `Q r v'`. -/

abbrev TV := Array SyntaxKind × Array Bool × Nat

abbrev TW {α : Type} (x : G α) (Q : α → TV → Prop) (v : TV) : Prop := Walk A1 (fun v s => s.tv = v) x Q v

section
variable {α : Type} {v : TV}

theorem ite_imp {c : Prop} [Decidable c] {A B : Prop} (h1 : c → A) (h2 : ¬c → B) : if c then A else B := by
  split
  · exact h1 ‹_›
  · exact h2 ‹_›

theorem TW.keep {x : G α} {Q : α → TV → Prop}
    (hx : ∀ (s : P) (Q' : α → P → Prop), (∀ a s', s'.tv = s.tv → Q' a s') → wp A1 x Q' s) (h : ∀ a, Q a v) :
    TW x Q v := fun s w => hx s _ fun a _ e => ⟨v, e.trans w, h a⟩

theorem TW.any {x : G α} {Q : α → TV → Prop} (hx : ∀ (s : P) (Q' : α → P → Prop), (∀ a s', Q' a s') → wp A1 x Q' s)
    (h : ∀ a v', Q a v') : TW x Q v := fun s _ => hx s _ fun a s' => ⟨s'.tv, rfl, h a _⟩

/-- `pre` is applied to the view written out, so that the clause of the callee fits without unfolding `P.tv` -/
theorem TW.call {x : G α} {Q : α → TV → Prop} {pre : TV → Prop}
    (hx : ∀ s : P, pre (s.kinds, s.joint, s.pos) → wp A1 x (fun _ _ => True) s) (hp : pre v) (h : ∀ a v', Q a v') :
    TW x Q v := fun s w => wp_conseq (hx s (show pre s.tv from w ▸ hp)) fun a s' _ => ⟨s'.tv, rfl, h a _⟩

theorem TW.call0 {x : G α} {Q : α → TV → Prop} (hx : ∀ s : P, True → wp A1 x (fun _ _ => True) s) (h : ∀ a v', Q a v') :
    TW x Q v := TW.call (pre := fun _ => True) hx trivial h

theorem TW.field {x : G α} {pre : TV → Prop} (h : ∀ v, pre v → TW x (fun _ _ => True) v) (s : P) (hp : pre s.tv) :
    wp A1 x (fun _ _ => True) s := wp_conseq (h _ hp s rfl) fun _ _ _ => trivial

theorem TW.at {k : SyntaxKind} {Q : Bool → TV → Prop} (h : Q (atF k v.1 v.2.1 v.2.2) v) : TW (at' k) Q v :=
  fun s w => wp_at (by subst w; exact ⟨_, rfl, h⟩)

theorem TW.current {Q : SyntaxKind → TV → Prop} (h : Q (v.1.getD v.2.2 .EOF) v) : TW current Q v :=
  fun s w => wp_current (by subst w; exact ⟨_, rfl, h⟩)

theorem TW.atTs {ts : TokenSet} {Q : Bool → TV → Prop}
    (h : Q (decide ((v.1.getD v.2.2 .EOF).toNat < 128) && ts.contains (v.1.getD v.2.2 .EOF)) v) : TW (atTs ts) Q v :=
  fun s w => wp_atTs (by subst w; exact ⟨_, rfl, h⟩)

theorem TW.nth {n : Nat} {Q : SyntaxKind → TV → Prop} (hn : n ≤ 3) (h : Q (v.1.getD (v.2.2 + n) .EOF) v) :
    TW (nth n) Q v := fun s w => wp1_nth hn fun _ e => ⟨v, e.trans w, by subst w; exact h⟩

theorem TW.start {Q : Marker → TV → Prop} (h : ∀ m, Q m v) : TW start Q v :=
  TW.keep (fun _ _ h => wp1_start h) h

theorem TW.error {msg : String} {Q : Unit → TV → Prop} (h : ∀ u, Q u v) : TW (error msg) Q v :=
  TW.keep (fun _ _ h => wp1_error (h ())) h

theorem TW.complete {m : Marker} {kind : SyntaxKind} {Q : CompletedMarker → TV → Prop}
    (h : ∀ cm, cm.kind = kind → Q cm v) : TW (m.complete kind) Q v :=
  fun _ w => wp1_complete fun cm _ e hk => ⟨v, e.trans w, h cm hk⟩

theorem TW.abandon {m : Marker} {Q : Unit → TV → Prop} (h : ∀ u, Q u v) : TW m.abandon Q v :=
  TW.keep (fun _ _ h => wp1_abandon (h ())) h

theorem TW.precede {cm : CompletedMarker} {Q : Marker → TV → Prop} (h : ∀ m, Q m v) : TW cm.precede Q v :=
  TW.keep (fun _ _ h => wp1_precede h) h

theorem TW.extendTo {cm : CompletedMarker} {m : Marker} {Q : CompletedMarker → TV → Prop} (h : Q cm v) :
    TW (cm.extendTo m) Q v := fun _ w => wp1_extendTo fun _ e => ⟨v, e.trans w, h⟩

theorem TW.eat {k : SyntaxKind} {Q : Bool → TV → Prop} (hk : (k == .EOF) = false)
    (h1 : atF k v.1 v.2.1 v.2.2 = false → Q false v) (h2 : atF k v.1 v.2.1 v.2.2 = true → ∀ v', Q true v') :
    TW (eat k) Q v := fun s w =>
  wp1_eat hk (fun e => ⟨v, w, h1 (by subst w; exact e)⟩) fun e s' => ⟨s'.tv, rfl, h2 (by subst w; exact e) _⟩

theorem TW.bump {k : SyntaxKind} {Q : Unit → TV → Prop} (hk : (k == .EOF) = false)
    (h : atF k v.1 v.2.1 v.2.2 = true) (h2 : ∀ u v', Q u v') : TW (bump k) Q v := fun s w =>
  wp1_bump hk (by subst w; exact h) fun s' => ⟨s'.tv, rfl, h2 () _⟩

theorem TW.bumpAny {Q : Unit → TV → Prop} (h : ∀ u v', Q u v') : TW bumpAny Q v :=
  TW.any (fun _ _ h => wp1_bumpAny (h ())) h

theorem TW.expect {k : SyntaxKind} {Q : Bool → TV → Prop} (hk : (k == .EOF) = false) (h : ∀ b v', Q b v') :
    TW (expect k) Q v := TW.any (fun _ _ h => wp1_expect hk h) h

theorem TW.errRecover {msg : String} {rec : TokenSet} {Q : Unit → TV → Prop} (h : ∀ u v', Q u v') :
    TW (errRecover msg rec) Q v := TW.any (fun _ _ h => wp1_errRecover (h ())) h

theorem TW.errAndBump {msg : String} {Q : Unit → TV → Prop} (h : ∀ u v', Q u v') : TW (errAndBump msg) Q v :=
  TW.errRecover h

end

end Oq3.Parser

namespace Oq3.Grammar
open Oq3.Gen Oq3.Parser
open Oq3.Gen.Ops (Assoc)

/-! ### `current_op` hands `bump` an operator that is really there -/

/-- the property of the translated operator table that `expr_bp` relies on: a row's result
operator is the row's guard, or (without guard) the row's first token, which is then a simple
token; no operator is `EOF` -/
def rowsOK (rows : List (SyntaxKind × Option SyntaxKind × Option (Nat × SyntaxKind × Assoc))) : Bool :=
  rows.all fun r =>
    match r.2.2 with
    | none => true
    | some (_, op, _) =>
      match r.2.1 with
      | some g => op == g && op != .EOF
      | none => op == r.1 && compositePieces op == none && op != .EOF

theorem currentOpRows_ok : rowsOK Ops.currentOpRows = true := by decide +kernel

/-- what `expr_bp` needs from `current_op` -/
def OpGood (s : P) (r : Nat × SyntaxKind × Assoc) : Prop :=
  r.1 = 0 ∨ (atF r.2.1 s.kinds s.joint s.pos = true ∧ (r.2.1 == SyntaxKind.EOF) = false)

theorem currentOpScan_spec (s : P)
    (rows : List (SyntaxKind × Option SyntaxKind × Option (Nat × SyntaxKind × Assoc)))
    (h : rowsOK rows = true) :
    ∃ r, currentOpScan (s.kindAt s.pos) rows s = .ok (r, s) ∧ OpGood s r := by
  induction rows with
  | nil => exact ⟨notAnOp, rfl, Or.inl rfl⟩
  | cons row rows ih =>
    obtain ⟨k, guard, res⟩ := row
    simp only [rowsOK, List.all_cons, Bool.and_eq_true] at h
    obtain ⟨hrow, hrest⟩ := h
    have ih' := ih (by simpa [rowsOK] using hrest)
    unfold currentOpScan
    by_cases hk : (k == s.kindAt s.pos) = true
    · simp only [hk, if_true]
      cases guard with
      | none =>
        simp only
        cases res with
        | none => exact ⟨notAnOp, rfl, Or.inl rfl⟩
        | some t =>
          obtain ⟨bp, op, a⟩ := t
          simp only [Bool.and_eq_true, beq_iff_eq, bne_iff_ne, ne_eq] at hrow
          obtain ⟨⟨h1, h2⟩, h3⟩ := hrow
          refine ⟨(bp, op, a), rfl, Or.inr ⟨?_, by simpa using h3⟩⟩
          have hk' : k = s.kindAt s.pos := by simpa using hk
          have hc : compositePieces op = none := by
            cases hcp : compositePieces op with
            | none => rfl
            | some ps => rw [hcp] at h2; simp at h2
          show atF op s.kinds s.joint s.pos = true
          rw [atF_simple hc]
          simp only [beq_iff_eq]
          show s.kindAt s.pos = op
          rw [← hk', ← h1]
      | some g =>
        simp only
        rw [G.bind_apply, at_total]
        simp only
        by_cases hg : atF g s.kinds s.joint s.pos = true
        · simp only [hg, if_true]
          cases res with
          | none => exact ⟨notAnOp, rfl, Or.inl rfl⟩
          | some t =>
            obtain ⟨bp, op, a⟩ := t
            simp only [Bool.and_eq_true, beq_iff_eq, bne_iff_ne, ne_eq] at hrow
            obtain ⟨h1, h3⟩ := hrow
            exact ⟨(bp, op, a), rfl, Or.inr ⟨by show atF op _ _ _ = true; rw [h1]; exact hg, by simpa using h3⟩⟩
        · simp only [hg, if_false]
          exact ih'
    · simp only [hk, if_false]
      exact ih'

theorem wp_currentOp {A : Outcome → Prop} {s : P} {Q : Nat × SyntaxKind × Assoc → P → Prop}
    (h : ∀ r, OpGood s r → Q r s) : wp A currentOp Q s := by
  unfold currentOp
  apply wp_bind; apply wp_current
  obtain ⟨r, hr, hg⟩ := currentOpScan_spec s _ currentOpRows_ok
  apply wp_def; rw [hr]; exact h r hg

/-! ### `type_name` bumps a simple, non-`EOF` token -/

theorem isType_simple_all :
    (SyntaxKind.all.all fun k => !isType k || (compositePieces k == none && k != .EOF)) = true := by
  decide +kernel

theorem isType_simple (k : SyntaxKind) (h : isType k = true) :
    compositePieces k = none ∧ (k == SyntaxKind.EOF) = false := by
  have := (List.all_eq_true.mp isType_simple_all) k (mem_all k)
  simp only [h, Bool.not_true, Bool.false_or, Bool.and_eq_true, beq_iff_eq, bne_iff_ne, ne_eq] at this
  refine ⟨?_, by simpa using this.2⟩
  cases hc : compositePieces k with
  | none => rfl
  | some ps => rw [hc] at this; simp at this

theorem wp1_typeName {s : P} {Q : Unit → P → Prop} (h : ∀ s', Q () s') : wp A1 typeName Q s := by
  unfold typeName
  apply wp_bind; apply wp_current
  split
  · apply wp_bind; apply wp1_error; intro s' _; exact wp_pure (h _)
  · rename_i ht
    apply wp_bind; apply wp_current
    have ht' : isType (s.kindAt s.pos) = true := by simpa using ht
    obtain ⟨hc, hne⟩ := isType_simple _ ht'
    apply wp1_bump hne
    · rw [atF_simple hc]; simp [P.kindAt]
    · exact h

theorem atF_of_kind {k : SyntaxKind} (hc : compositePieces k = none) {K : Array SyntaxKind}
    {J : Array Bool} {p : Nat} (h : K.getD p .EOF = k) : atF k K J p = true := by
  rw [atF_simple hc, h]; simp

theorem TW.currentOp {v : TV} {Q : Nat × SyntaxKind × Assoc → TV → Prop}
    (h : ∀ r, (r.1 = 0 ∨ atF r.2.1 v.1 v.2.1 v.2.2 = true ∧ (r.2.1 == SyntaxKind.EOF) = false) → Q r v) :
    TW currentOp Q v := fun s w => wp_currentOp fun r hg => ⟨v, w, h r (by subst w; exact hg)⟩

theorem TW.typeName {v : TV} {Q : Unit → TV → Prop} (h : ∀ u v', Q u v') : TW typeName Q v :=
  TW.any (fun _ _ h => wp1_typeName (h ())) h

theorem of_not_not {b : Bool} (h : ¬(!b) = true) : b = true := by simpa using h

theorem bnot_absurd {b : Bool} (h' : (!b) = true) (h : b = true) : False := by simp [h] at h'

/-- the operator that `expr_bp` bumps: its binding power is not below `bp`, so it is an operator -/
theorem opGood_of_bp {r bp : Nat} {A B : Prop} (h : r = 0 ∨ A ∧ B) (hb : 1 ≤ bp) (hn : ¬r < bp) : A ∧ B :=
  h.resolve_left (by omega)

/-- A side goal of the walk: the condition of a rule (a kind is not `EOF`, a tolerated failure), or the precondition of
a callee or of `bump`.  That is a test the walk has come through, as it stands or negated twice; or it follows from
the kind of the current token (`atF_of_kind`), or from what `current_op` returned (`opGood_of_bp`); `simp_all` for a
test that is part of a conjunction, and for arithmetic on binding powers `omega`. -/
macro "tw_close" : tactic => `(tactic| first
  | with_reducible exact trivial
  | with_reducible assumption
  | with_reducible exact of_not_not (by assumption)
  | decide
  | (refine atF_of_kind (by decide) ?_; first | with_reducible assumption | (simp_all; done))
  | with_reducible exact And.left (opGood_of_bp (by assumption) (by assumption) (by assumption))
  | with_reducible exact And.right (opGood_of_bp (by assumption) (by assumption) (by assumption))
  | (simp_all; done)
  | omega)

/-- an `assert!(p.at(K))` that the precondition or the branch the walk is in excludes -/
macro "tw_absurd" : tactic => `(tactic| (exfalso; first
  | with_reducible exact bnot_absurd (by assumption) (by assumption)
  | (simp_all; done)))

/-- One step of the walk.  A goal `TW ..`: the rule of the head of the program — structural, a call of the parser API,
or the call rule of the table `[f rule, ..]` for a grammar function; a `match` is split.  What a rule leaves of the
postcondition of a test is a proposition `if b then .. else ..`: `ite_imp`, not `split`, which would send `simp` through
the rest of the program. -/
syntax "tw_step" "[" (ident term:max),* "]" : tactic
macro_rules
  | `(tactic| tw_step [$[$f $h],*]) => `(tactic| first
  | (goal_kind wp; first
      | wp_rule [Pure.pure Walk.pure, Bind.bind Walk.bind, ite Walk.ite, andM Walk.andM, orM Walk.orM, notM Walk.notM,
          at' TW.at, current TW.current, atTs TW.atTs, nth TW.nth, start TW.start, error TW.error,
          Marker.complete TW.complete, Marker.abandon TW.abandon, CompletedMarker.precede TW.precede,
          CompletedMarker.extendTo TW.extendTo, eat TW.eat, bump TW.bump, bumpAny TW.bumpAny, expect TW.expect,
          errRecover TW.errRecover, errAndBump TW.errAndBump, typeName TW.typeName, currentOp TW.currentOp,
          $[$f $h],*]
      | (with_reducible apply Walk.fail; decide)
      | (with_reducible apply Walk.panic; decide)
      | split
      | dsimp only
      | tw_absurd)
  | (goal_kind pi; intro _)
  | (goal_kind other; first | with_reducible exact trivial | with_reducible apply ite_imp | split | tw_close)
  | (goal_kind and; tw_close))

syntax "tw" "[" (ident term:max),* "]" : tactic
macro_rules
  | `(tactic| tw [$[$f $h],*]) => `(tactic| repeat' tw_step [$[$f $h],*])

end Oq3.Grammar
