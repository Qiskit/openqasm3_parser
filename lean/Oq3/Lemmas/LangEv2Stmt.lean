/-
C04, extended reference language: the pieces of statements (type specifications, qubit
operands, gate modifiers) and the flat statements of `Stmt2`, each as an acceptance of `stmt` from an
arbitrary ready state.  Where the core language has the statement too, the rule for the expressions
inside is a hypothesis (`ExprOKF x n`; `exprX_okF x` for the extended language, `exprOK_toX t` for the core).
-/
import Oq3.Lemmas.LangEv2Expr
set_option linter.unusedSimpArgs false
set_option linter.unusedVariables false

namespace Oq3.LangEv2
open Oq3.Gen Oq3.Parser Oq3.Grammar Oq3.SymExec Oq3.PrattEv Oq3.LangEv
open Oq3.Gen.Ops (Assoc)

theorem tyToksX_head (ty : Ty) (w : Option X) : ∃ ts, tyToksX ty w = tk ty.kind :: ts := by
  cases w <;> exact ⟨_, rfl⟩

theorem tyEvsX_length (ty : Ty) (w : Option X) : 3 ≤ (tyEvsX ty w).length := by
  cases w <;> simp [tyEvsX]

def WidthOK (w : Option X) : Prop :=
  ∀ e, w = some e → CanonX 1 e ∧ firstX e ≠ .FLOAT_NUMBER ∧ firstX e ≠ .BIT_STRING

def optFuel : Option X → Nat
  | none => 0
  | some e => fuelX e

theorem optFuel_ok (w : Option X) : ∀ e, w = some e → ExprOKF e (optFuel w) := by
  rintro e rfl; exact exprX_okF e

theorem typeSpecX_acc (ty : Ty) (w : Option X) (nw : Nat) (hw : ∀ e, w = some e → ExprOKF e nw) (F : Nat) (s : P) (hr : RdyF 2 s)
    (hF : nw + 4 ≤ F)
    (hwide : w.isSome = true → ty.wide = true) (htk : Toks s s.pos (tyToksX ty w))
    (hnext : w = none → s.kindAt (s.pos + 1) ≠ .L_BRACK) (hc : WidthOK w) :
    AccV (typeSpec F) true s (tyToksX ty w).length (tyEvsX ty w) := by
  cases w with
  | none =>
    obtain ⟨f, rfl⟩ : ∃ f, F = f + 3 := ⟨F - 3, by omega⟩
    simp only [tyToksX, Toks, tk] at htk
    exact typeSpec_plain ty f s hr.rdy (by rw [Nat.add_zero]; exact htk.1) (hnext rfl)
  | some e =>
    obtain ⟨hc1, hc2, hc3⟩ := hc e rfl
    simp only [tyToksX, Toks, Toks_append, tk, List.length_cons, List.length_append, List.length_nil] at htk ⊢
    obtain ⟨h0, -, h1, -, htw, hrb, -, -⟩ := htk
    refine ⟨0, 3, Nat.zero_le _, ?_⟩
    rw [typeSpec_wideX ty e nw (hw e rfl) F s hr (by omega) (hwide rfl)
      (by rw [Nat.add_zero]; exact h0) h1 (Toks_pos htw (by omega)) (kindAt_pos hrb (by omega)) hc1 hc2 hc3]
    simp only [tyEvsX]

theorem tyToksX_next {ty : Ty} {w : Option X} {s : P} {q : Nat} {k : SyntaxKind}
    (hnext : s.kindAt (q + (tyToksX ty w).length) = k) (hk : k ≠ .L_BRACK) : w = none → s.kindAt (q + 1) ≠ .L_BRACK := by
  rintro rfl
  simp only [tyToksX, List.length_cons, List.length_nil] at hnext
  rw [hnext]; exact hk

/-- from any value of the step counter: in `ty x ;` the type is parsed before the first bump -/
theorem typeSpecX_runAt (ty : Ty) (w : Option X) {nw : Nat} (hw : ∀ e, w = some e → ExprOKF e nw) {F : Nat} (hF : nw + 4 ≤ F)
    {s : P} {k : Nat} (hr : RdyF k s) (hwide : w.isSome = true → ty.wide = true) (hc : WidthOK w) {dp : Nat}
    (htk : Toks s (s.pos + dp) (tyToksX ty w)) {kn : SyntaxKind}
    (hnext : s.kindAt (s.pos + (dp + (tyToksX ty w).length)) = kn) (hkn : kn ≠ .L_BRACK) :
    ∃ sb', RunAtS (typeSpec F) true s 2 dp (dp + (tyToksX ty w).length) (tyEvsX ty w) sb' :=
  RunAtS.of_acc (allHolds stepsIrr_closed F).typeSpec
    (by obtain ⟨ts, h⟩ := tyToksX_head ty w; rw [h]; exact Nat.le_add_left 1 _)
    (fun E0 st sb lv hst => typeSpecX_acc ty w nw hw F _ (hr.ov 2 E0 dp st sb lv hst) hF hwide
      ((Toks_ov s _ _ _ _ _ _ _ _).2 htk) (tyToksX_next (kindAt_pos hnext (Nat.add_assoc _ _ _)) hkn) hc) rfl

theorem varName_runAt {s : P} {k : Nat} (hr : RdyF k s) {dp : Nat} (h0 : s.kindAt (s.pos + dp) = .IDENT) :
    ∃ sb', RunAt varName () s dp (dp + 1) [.start .NAME none, .token .IDENT 1, .finish] sb' :=
  RunAt.of_acc (fun E0 sb lv => varName_acc _ (hr.rdy.ov 2 E0 dp 0 sb lv (by have := hr.lim; omega)) h0) rfl

def CanonQ : Q → Prop
  | .idx ixs => CanonIdx ixs ∧ IdxFirstOK ixs
  | _ => True

def needQ : Q → Nat
  | .idx ixs => sumIdx ixs + needIdxL ixs + 3
  | _ => 1

def sbQ : Q → Nat
  | .idx _ => 3
  | _ => 2

/-- one qubit operand: `arg_gate_call_qubit` with the marker the caller has just started -/
theorem qarg_acc (q : Q) (F : Nat) (s : P) (hnp : s.noProgressLimit = 0) (hlim : 8 ≤ s.stepLimit)
    (hpr : ∀ p ∈ s.protectedPos, p < s.events.size) (hF : needQ q ≤ F)
    (htk : Toks s s.pos (toksQ q)) (hend : s.kindAt (s.pos + (toksQ q).length) ≠ .L_BRACK) (hc : CanonQ q)
    (st sb lv : Nat) (hst : st + 6 ≤ s.stepLimit) :
    argGateCallQubit F { pos := s.events.size + 0, isFp := false } (s.ov [.start .TOMBSTONE none] 0 st sb (lv + 1) s.protectedPos) =
      .ok (true, s.ov (evsQ q) (toksQ q).length 0 (sbQ q) lv s.protectedPos) := by
  cases q with
  | id =>
    obtain ⟨f, rfl⟩ : ∃ f, F = f + 1 := ⟨F - 1, by simp only [needQ] at hF; omega⟩
    simp only [toksQ, Toks, tk, List.length_cons, List.length_nil] at htk hend
    have h0 : s.kindAt (s.pos + 0) = .IDENT := htk.1
    have b1 := beq_false_of_ne hend
    show _ = _
    sym_eval [filter_base s hpr, contains_base s hpr, h0, b1]
    rfl
  | hw =>
    obtain ⟨f, rfl⟩ : ∃ f, F = f + 1 := ⟨F - 1, by simp only [needQ] at hF; omega⟩
    simp only [toksQ, Toks, tk, List.length_cons, List.length_nil] at htk hend
    have h0 : s.kindAt (s.pos + 0) = .HARDWAREIDENT := htk.1
    show _ = _
    sym_eval [filter_base s hpr, contains_base s hpr, h0]
    rfl
  | idx ixs =>
    obtain ⟨f, rfl⟩ : ∃ f, F = f + 3 := ⟨F - 3, by simp only [needQ] at hF; omega⟩
    simp only [needQ] at hF
    simp only [CanonQ] at hc
    simp only [toksQ, Toks, tk, List.length_cons] at htk hend
    obtain ⟨h0, -, hti⟩ := htk
    rw [show s.pos = s.pos + 0 from rfl] at h0
    obtain ⟨ts, hts⟩ := toksIdx_head ixs
    have h1 : s.kindAt (s.pos + 1) = .L_BRACK := Toks_head hti hts
    have hloop := ov_rule (idxLoop ixs (sumIdx ixs) (f + 1)
      (s.ov [Ev.start SyntaxKind.IDENTIFIER (some 3), Ev.token SyntaxKind.IDENT 1, Ev.finish,
          Ev.start SyntaxKind.TOMBSTONE none] 1 0 3 (lv + 1) ((s.events.size + 3) :: s.protectedPos)) (idxOK ixs) (by omega)
      (RdyF_ov 6 s _ _ _ _ _ _ hnp (by omega) (prot_cons hpr (by simp only [List.length_cons, List.length_nil]; omega)) hlim)
      ((Toks_ov s _ _ _ _ _ _ _ _).2 hti) (by intro h; exact hend (kindAt_pos h (by show _ = s.pos + 1 + _; omega))) hc.1 hc.2)
    show _ = _
    sym_eval [filter_base s hpr, contains_base s hpr, h0, h1, hloop]
    close_ov

def countQs : QList → Nat
  | .one _ => 0
  | .cons _ qs => countQs qs + 1

def needQs : QList → Nat
  | .one q => needQ q + 2
  | .cons q qs => max (needQ q + 2) (needQs qs + 1)

def CanonQs : QList → Prop
  | .one q => CanonQ q
  | .cons q qs => CanonQ q ∧ CanonQs qs

def firstQ : Q → SyntaxKind
  | .hw => .HARDWAREIDENT
  | _ => .IDENT

theorem toksQ_first (q : Q) : ∃ ts, toksQ q = tk (firstQ q) :: ts := by cases q <;> exact ⟨_, rfl⟩

theorem firstQ_cases (q : Q) : firstQ q = .IDENT ∨ firstQ q = .HARDWAREIDENT := by cases q <;> simp [firstQ]

theorem qloop_acc : ∀ (qs : QList) (F k : Nat) (s : P), needQs qs ≤ F → RdyF 6 s → Toks s s.pos (toksQs qs) →
    s.kindAt (s.pos + (toksQs qs).length) = .SEMICOLON → CanonQs qs →
    AccV (paramListOpenqasmLoop F .gateCallQubits k) (k + countQs qs + 1) s (toksQs qs).length (evsQs qs)
  | .one q, F, k, s, hF, hr, htk, hsemi, hc => by
    obtain ⟨g, rfl⟩ : ∃ g, F = g + 2 := ⟨F - 2, by simp only [needQs] at hF; omega⟩
    simp only [needQs] at hF
    simp only [toksQs] at htk hsemi
    have harg := qarg_acc q g s hr.hook hr.lim hr.prot (by omega) htk (by rw [hsemi]; decide) hc
    obtain ⟨ts, hts⟩ := toksQ_first q
    have h0 : s.kindAt (s.pos + 0) = firstQ q := Toks_head htk hts
    rcases firstQ_cases q with hq | hq <;> rw [hq] at h0 <;> run_base2 [h0, harg, hsemi]
  | .cons q qs, F, k, s, hF, hr, htk, hsemi, hc => by
    obtain ⟨g, rfl⟩ : ∃ g, F = g + 2 := ⟨F - 2, by simp only [needQs] at hF; omega⟩
    simp only [needQs] at hF
    rw [show toksQs (.cons q qs) = toksQ q ++ (tk .COMMA :: toksQs qs) from rfl] at htk hsemi
    simp only [Toks_append, Toks, tk, List.length_append, List.length_cons] at htk hsemi
    obtain ⟨htq, hcomma, -, htrest⟩ := htk
    have harg := qarg_acc q g s hr.hook hr.lim hr.prot (by omega) htq (by rw [hcomma]; decide) hc.1
    obtain ⟨st3, sb3, hle3, hrec⟩ :=
      (qloop_acc qs (g + 1) (k + 1)
        (s.ov (evsQ q ++ [Ev.token .COMMA 1]) ((toksQ q).length + 1) 0 1 s.live s.protectedPos)
        (by omega) (hr.ov 6 _ _ _ _ _ (by have := hr.lim; omega))
        ((Toks_ov s _ _ _ _ _ _ _ _).2 (Toks_pos htrest (by show s.pos + _ = _; omega)))
        (kindAt_pos hsemi (by show s.pos + _ + _ = _; omega)) hc.2).at_ov
    obtain ⟨ts, hts⟩ := toksQ_first q
    have h0 : s.kindAt (s.pos + 0) = firstQ q := Toks_head htq hts
    show AccV (paramListOpenqasmLoop (g + 2) .gateCallQubits k) (k + (countQs qs + 1) + 1) s _ _
    rcases firstQ_cases q with hq | hq <;> rw [hq] at h0 <;> run_base2 [h0, harg, hcomma, hrec]


theorem qlist_acc (qs : QList) (F : Nat) (s : P) (hr : RdyF 6 s) (hF : needQs qs + 2 ≤ F) (htk : Toks s s.pos (toksQs qs))
    (hsemi : s.kindAt (s.pos + (toksQs qs).length) = .SEMICOLON) (hc : CanonQs qs) :
    Acc (argListGateCallQubits F) s (toksQs qs).length (qlistEvs qs) := by
  obtain ⟨g, rfl⟩ : ∃ g, F = g + 2 := ⟨F - 2, by omega⟩
  obtain ⟨st', sb', hle, hloop⟩ :=
    (qloop_acc qs g 0 (s.ov [.start .TOMBSTONE none] 0 s.steps (s.sinceBump + 1) (s.live + 1) s.protectedPos) (by omega)
      (RdyF_ov 6 s _ 0 _ _ _ _ hr.hook hr.steps (hr.prot' _) hr.lim)
      ((Toks_ov s _ 0 _ _ _ _ _ _).2 htk) hsemi hc).at_ov
  run_base2 [hloop]

theorem qlist_runAt (qs : QList) {F : Nat} (hF : needQs qs + 2 ≤ F) {s : P} {k : Nat} (hr : RdyF k s) (hc : CanonQs qs) {dp : Nat}
    (htk : Toks s (s.pos + dp) (toksQs qs)) (hsemi : s.kindAt (s.pos + (dp + (toksQs qs).length)) = .SEMICOLON) :
    ∃ sb', RunAt (argListGateCallQubits F) () s dp (dp + (toksQs qs).length) (qlistEvs qs) sb' :=
  RunAt.of_acc (fun E0 sb lv => qlist_acc qs F _ (hr.ov 6 E0 dp 0 sb lv (by have := hr.lim; omega)) hF
    ((Toks_ov s _ _ _ _ _ _ _ _).2 htk) (kindAt_pos hsemi (Nat.add_assoc _ _ _)) hc) rfl

theorem X.kind_ne_assign (x : X) : (x.kind == .ASSIGNMENT_STMT) = false := by
  cases x with
  | prim p => cases p <;> rfl
  | _ => rfl

/-- `exprStmt` on an expression of `X` followed by `;` (the marker of `stmt` becomes the head tombstone) -/
theorem exprStmt_X (x : X) (n : Nat) (hx : ExprOKF x n) (f : Nat) (s : P) (hr : RdyF 8 s) (hf : n ≤ f) (htk : Toks s s.pos (toksX x)) (hc : CanonX 1 x)
    (hsemi : s.kindAt (s.pos + (toksX x).length) = .SEMICOLON) :
    exprStmt (f + 1 + 1) (some { pos := s.events.size + 0 })
      (s.ov [Ev.start SyntaxKind.TOMBSTONE none] 0 (s.steps + 1) (s.sinceBump + 1) (s.live + 1) s.protectedPos) =
      .ok (some (⟨s.events.size + (rootX x + 1), x.kind⟩, .notBlock),
        s.ov (evsX x) (toksX x).length 0 (sbX x) s.live s.protectedPos) := by
  rw [exprStmt.run_2]
  have := exprBp_some f { preferStmt := true } 1 s hr.hook [] 0 (s.steps + 1) s.sinceBump s.live s.protectedPos
  simp only [List.nil_append, List.length_nil] at this
  rw [this, hx.atEnd 1 (f + 1) _ s [] 0 _ _ _ _ hr.hook (by have := hr.steps; omega) hr.lim
    (fun p hp => Nat.lt_add_right _ (hr.prot p hp)) (by rw [Nat.add_zero]; exact htk) hc (Nat.le_refl _) (by decide)
    (by rw [Nat.add_zero, hsemi]; rfl) (by omega)]
  simp only [List.nil_append, List.length_nil, Nat.add_zero, Nat.zero_add]

/-- `stmt_wrap` when the root node `kr` follows the head tombstone directly: the statement is `wrapStmt kr inner` -/
theorem stmt_wrapK (f : Nat) (s : P) (hr : RdyF 8 s) (k0 : SyntaxKind) (hk0 : exprStmtFirst2 k0 = true)
    (h0 : s.kindAt (s.pos + 0) = k0) (kr : SyntaxKind) (inner : List Ev) (n sbx stx : Nat)
    (hsub : exprStmt (f + 1) (some { pos := s.events.size + 0 })
        (s.ov [Ev.start SyntaxKind.TOMBSTONE none] 0 (s.steps + 1) (s.sinceBump + 1) (s.live + 1) s.protectedPos) =
      .ok (some (⟨s.events.size + 1, kr⟩, .notBlock),
        s.ov (tombLink :: .start kr none :: inner) n stx sbx s.live s.protectedPos))
    (hkr : (kr == .ASSIGNMENT_STMT) = false) (hsemi : s.kindAt (s.pos + n) = .SEMICOLON) :
    Acc (stmt (f + 2)) s (n + 1) (wrapStmt kr inner) :=
  (stmt_wrap f s hr.rdy k0 hk0 h0 _ n 1 sbx stx kr hsub rfl hkr hsemi).congr
    (by simp only [wrapStmt, List.set_cons_succ, List.set_cons_zero, List.length_cons, Nat.add_sub_cancel, List.cons_append]) rfl

theorem stmt_exprS2 (x : X) (n : Nat) (hx : ExprOKF x n) (F : Nat) (s : P) (hr : RdyF 8 s) (hF : n + 3 ≤ F)
    (htk : Toks s s.pos (toksS2 (.exprS x))) (hc : CanonX 1 x) (hfirst : exprStmtFirst2 (firstX x) = true) :
    Acc (stmt F) s (toksS2 (.exprS x)).length (evsS2 (.exprS x)) := by
  obtain ⟨f, rfl⟩ : ∃ f, F = f + 1 + 2 := ⟨F - 3, by omega⟩
  simp only [toksS2, Toks_append, Toks, tk, List.length_append, List.length_cons, List.length_nil] at htk ⊢
  obtain ⟨hte, hsemi, -, -⟩ := htk
  obtain ⟨j0, ts, hts⟩ := toksX_first x
  have h0 : s.kindAt (s.pos + 0) = firstX x := Toks_head hte hts
  have := stmt_wrap (f + 1) s hr.rdy _ hfirst h0 (evsX x) (toksX x).length (rootX x + 1)
    (sbX x) 0 x.kind (exprStmt_X x n hx f s hr (by omega) hte hc hsemi) (evsX_root x) (X.kind_ne_assign x) hsemi
  rw [evsX_set_root, evsX_length, show lenX x + 1 - (rootX x + 1) = lenX x - rootX x by omega] at this
  exact this

theorem toksQs_first (qs : QList) : ∃ q ts, toksQs qs = tk (firstQ q) :: ts := by
  cases qs with
  | one q => obtain ⟨ts, h⟩ := toksQ_first q; exact ⟨q, ts, h⟩
  | cons q qs => obtain ⟨ts, h⟩ := toksQ_first q; exact ⟨q, ts ++ (tk .COMMA :: toksQs qs), by simp [toksQs, h]⟩

theorem stmt_gate_nil2 (qs : QList) (F : Nat) (s : P) (hr : RdyF 8 s) (hF : needQs qs + 8 ≤ F)
    (htk : Toks s s.pos (toksS2 (.gate .nil qs))) (hc : CanonQs qs) :
    Acc (stmt F) s (toksS2 (.gate .nil qs)).length (evsS2 (.gate .nil qs)) := by
  obtain ⟨g, rfl⟩ : ∃ g, F = (g + 2) + 4 + 2 := ⟨F - 8, by omega⟩
  simp only [toksS2, argListToks, List.length_cons, List.length_append, List.length_nil, List.nil_append] at ⊢
  tok_at [toksS2, argListToks] at htk
  obtain ⟨h0, htq, hsemi'⟩ := htk
  obtain ⟨q, ts, hts⟩ := toksQs_first qs
  have h1 : s.kindAt (s.pos + 1) = firstQ q := Toks_head htq hts
  have hnp := hr.hook
  have hpr := hr.prot
  have hlim := hr.lim
  have hst : s.steps + 1 ≤ s.stepLimit := by have := hr.steps; omega
  obtain ⟨sbQ, hq⟩ := qlist_runAt qs (F := g + 2) (by omega) hr hc htq hsemi'
  obtain ⟨sbx, hsub⟩ : ∃ sbx, exprStmt ((g + 2) + 4 + 1) (some { pos := s.events.size + 0 })
      (s.ov [Ev.start SyntaxKind.TOMBSTONE none] 0 (s.steps + 1) (s.sinceBump + 1) (s.live + 1) s.protectedPos) =
      .ok (some (⟨s.events.size + 1, .GATE_CALL_EXPR⟩, .notBlock),
        s.ov (tombLink :: .start .GATE_CALL_EXPR none :: gateCallInner .nil qs) (1 + (toksQs qs).length) 0 sbx s.live s.protectedPos) := by
    rcases firstQ_cases q with hq1 | hq1 <;> rw [hq1] at h1 <;>
    (refine ⟨?_, ?_⟩
     rotate_left 1
     sym_eval [filter_base s hpr, contains_base s hpr, h0, h1, hq, hsemi']
     refine ok_ov_congr _ _ _ _ _ _ _ _ _ _ _ rfl ?_ rfl
     simp only [tombLink, gateCallInner, argListEvs, qlistEvs, List.cons_append, List.nil_append, List.append_assoc])
  exact (stmt_wrapK _ s hr _ (by decide) h0 _ _ _ _ _ hsub rfl hsemi').congr (by simp only [evsS2]) (by omega)

theorem argListToks_cons (a : X) (as : XList) : argListToks (.cons a as) = tk .L_PAREN :: (toksXs (.cons a as) ++ [tk .R_PAREN]) := rfl

theorem stmt_gate_cons2 (a : X) (as : XList) (qs : QList) (n : Nat) (hok : XsOK (.cons a as) n) (F : Nat) (s : P) (hr : RdyF 8 s)
    (hF : max (n + 4 + countXs (.cons a as)) (needQs qs + 2) + 6 ≤ F)
    (htk : Toks s s.pos (toksS2 (.gate (.cons a as) qs))) (hca : CanonXs (.cons a as)) (hc : CanonQs qs) :
    Acc (stmt F) s (toksS2 (.gate (.cons a as) qs)).length (evsS2 (.gate (.cons a as) qs)) := by
  obtain ⟨g, rfl⟩ : ∃ g, F = g + 6 := ⟨F - 6, by omega⟩
  simp only [toksS2, argListToks_cons, List.length_cons, List.length_append, List.length_nil] at ⊢
  tok_at [toksS2, argListToks_cons] at htk
  obtain ⟨h0, h1, hta, hrp, htq, hsemi⟩ := htk
  have hnp := hr.hook
  have hpr := hr.prot
  have hlim := hr.lim
  have hst : s.steps + 1 ≤ s.stepLimit := by have := hr.steps; omega
  have hargs := ov_rule (callArgsX (.cons a as) n g
      (s.ov [.start .TOMBSTONE none, .start .IDENTIFIER (some 3), .token .IDENT 1, .finish, .start .TOMBSTONE none]
        1 0 3 (s.live + 1 + 1) ((s.events.size + 4) :: s.protectedPos))
      hok (by omega) (hr.ov_cons 6 _ _ _ _ _ (by omega) (by simp only [List.length_cons, List.length_nil]; omega))
      h1 ((Toks_ov s _ _ _ _ _ _ _ _).2 hta)
      (kindAt_pos hrp (by show s.pos + 1 + _ = _; omega)) hca)
  -- the marker of the call is protected while the operands are parsed: not the base list, so the run is instantiated by hand
  obtain ⟨st', sb', hle, hq⟩ :=
    (qlist_acc qs g (s.ov (.start .TOMBSTONE none :: .start .IDENTIFIER (some 3) :: .token .IDENT 1 :: .finish :: .start .TOMBSTONE none ::
        .start .ARG_LIST none :: .start .EXPRESSION_LIST none :: .token .L_PAREN 1 ::
          (evsXs (.cons a as) ++ [.token .R_PAREN 1, .finish, .finish]))
        (1 + ((toksXs (.cons a as)).length + 2)) 0 3 (s.live + 1 + 1) ((s.events.size + 4) :: s.protectedPos))
      (hr.ov_cons 6 _ _ _ _ _ (by omega) (by simp only [List.length_cons, List.length_nil, List.length_append]; omega)) (by omega)
      ((Toks_ov s _ _ _ _ _ _ _ _).2 (Toks_pos htq (by show s.pos + _ = _; omega)))
      (kindAt_pos hsemi (by show s.pos + _ + _ = _; omega)) hc).at_ov
  obtain rfl : st' = 0 := by omega
  obtain ⟨q, ts, hts⟩ := toksQs_first qs
  have hq0 : s.kindAt (s.pos + (1 + ((toksXs (.cons a as)).length + 2))) = firstQ q := by
    exact kindAt_pos (Toks_head htq hts) (by omega)
  have hsemi' : s.kindAt (s.pos + (1 + ((toksXs (.cons a as)).length + 2) + (toksQs qs).length)) = .SEMICOLON :=
    kindAt_pos hsemi (by omega)
  have hsub : exprStmt (g + 4 + 1) (some { pos := s.events.size + 0 })
      (s.ov [Ev.start SyntaxKind.TOMBSTONE none] 0 (s.steps + 1) (s.sinceBump + 1) (s.live + 1) s.protectedPos) =
      .ok (some (⟨s.events.size + 4, .GATE_CALL_EXPR⟩, .notBlock),
        s.ov (Ev.start SyntaxKind.TOMBSTONE (some 4) :: Ev.start SyntaxKind.IDENTIFIER (some 3) ::
            Ev.token SyntaxKind.IDENT 1 :: Ev.finish :: Ev.start SyntaxKind.GATE_CALL_EXPR none ::
            (argListEvs (.cons a as) ++ (qlistEvs qs ++ [Ev.finish])))
          (1 + ((toksXs (.cons a as)).length + 2) + (toksQs qs).length) 0 (sb' + 1) s.live s.protectedPos) := by
    rcases firstQ_cases q with hq1 | hq1 <;> rw [hq1] at hq0 <;>
    (sym_eval [filter_base s hpr, contains_base s hpr, h0, h1, hargs, hq, hq0, hsemi', bne_self_eq_false]
     refine ok_ov_congr _ _ _ _ _ _ _ _ _ _ _ rfl ?_ rfl
     simp only [argListEvs, List.cons_append, List.nil_append, List.append_assoc])
  refine (stmt_wrap _ s hr.rdy _ (by decide) h0 _ _ 4 _ _ _ hsub rfl rfl hsemi').congr ?_ ?_
  · simp only [evsS2, tombLink, exprStmtTail, List.set_cons_succ, List.set_cons_zero, List.cons_append, List.nil_append,
      List.append_assoc, List.length_cons, List.length_append, List.length_nil]
    congr 6
  · omega

def CanonMod : Mod → Prop
  | .pow e => CanonX 1 e
  | .ctrl (some e) => CanonX 1 e
  | .negctrl (some e) => CanonX 1 e
  | _ => True

def CanonMods : List Mod → Prop
  | [] => True
  | m :: ms => CanonMod m ∧ CanonMods ms

def needMod : Mod → Nat
  | .pow e => fuelX e + 2
  | .ctrl (some e) => fuelX e + 2
  | .negctrl (some e) => fuelX e + 2
  | _ => 1

def needMods : List Mod → Nat
  | [] => 1
  | m :: ms => max (needMod m) (needMods ms) + 1

theorem fuelX_pos (x : X) : 2 ≤ fuelX x := by
  have := needX_pos x; have := cFX_pos x; unfold fuelX; omega

def isModKw (k : SyntaxKind) : Bool := k == .INV_KW || k == .POW_KW || k == .CTRL_KW || k == .NEGCTRL_KW

theorem mods_acc : ∀ (ms : List Mod) (F : Nat) (s : P), needMods ms ≤ F → RdyF 6 s → Toks s s.pos (toksMods ms) →
    (s.kindAt (s.pos + (toksMods ms).length) = .IDENT ∨ s.kindAt (s.pos + (toksMods ms).length) = .GPHASE_KW) → CanonMods ms →
    Acc (modifiedGateCallExprLoop F) s (toksMods ms).length (evsMods ms)
  | [], F, s, hF, hr, htk, hend, hc => by
    obtain ⟨g, rfl⟩ : ∃ g, F = g + 1 := ⟨F - 1, by simp only [needMods] at hF; omega⟩
    simp only [toksMods, List.length_nil] at hend
    rcases hend with h | h <;> run_base2 [h]
  | m :: ms, F, s, hF, hr, htk, hend, hc => by
    obtain ⟨g, rfl⟩ : ∃ g, F = g + 1 := ⟨F - 1, by simp only [needMods] at hF; omega⟩
    simp only [needMods] at hF
    simp only [toksMods, List.length_append] at hend
    tok_at [toksMods] at htk
    obtain ⟨htm, htrest⟩ := htk
    -- the rest of the modifiers, at whatever offset `dp` the run of `m` arrives
    have hrec : ∀ dp, dp = (toksMod m).length →
        ∃ sb', RunAt (modifiedGateCallExprLoop g) () s dp (dp + (toksMods ms).length) (evsMods ms) sb' := by
      rintro dp rfl
      exact RunAt.of_acc (fun E0 sb lv => mods_acc ms g _ (by omega) (hr.ov 6 E0 _ 0 sb lv (by have := hr.lim; omega))
        ((Toks_ov s _ _ _ _ _ _ _ _).2 (Toks_pos htrest (by show s.pos + _ = _; omega)))
        (by show s.kindAt (s.pos + _ + _) = _ ∨ s.kindAt (s.pos + _ + _) = _; rw [Nat.add_assoc]; exact hend) hc.2) rfl
    rcases m with _ | e | (_ | e) | (_ | e)
    case inv | ctrl.none | negctrl.none =>
      tok_at [toksMod] at htm
      obtain ⟨sbR, hrec'⟩ := hrec 2 rfl
      run_base2 [htm.1, htm.2, hrec']
    all_goals
      simp only [CanonMods, CanonMod] at hc
      simp only [needMod] at hF
      tok_at [toksMod, parenToks] at htm
      obtain ⟨h0, h1, hte, hrp, hat⟩ := htm
      obtain ⟨g', rfl⟩ : ∃ g', g = g' + 1 := ⟨g - 1, by have := fuelX_pos e; omega⟩
      have hsub := (exprX_okF e).exprAt g' hr 2 hte hc.1 hrp rfl (by omega)
      obtain ⟨sbR, hrec'⟩ := hrec (2 + (toksX e).length + 1 + 1)
        (by simp only [toksMod, parenToks, List.length_cons, List.length_append, List.length_nil]; omega)
      run_base2 [h0, h1, hsub, hrp, hat, hrec']

def needArgs : XList → Nat
  | .nil => 0
  | .cons a as => sumXs (.cons a as) + countXs (.cons a as) + 5

theorem gateCall_acc (args : XList) (qs : QList) (F : Nat) (s : P) (hr : RdyF 6 s)
    (hF : max (needArgs args) (needQs qs + 2) + 1 ≤ F)
    (h0 : s.kindAt (s.pos + 0) = .IDENT)
    (hta : Toks s (s.pos + 1) (argListToks args)) (htq : Toks s (s.pos + (1 + (argListToks args).length)) (toksQs qs))
    (hsemi : s.kindAt (s.pos + (1 + (argListToks args).length + (toksQs qs).length)) = .SEMICOLON)
    (hca : CanonXs args) (hc : CanonQs qs) :
    AccV (gateCallExpr F) ⟨s.events.size + 0, .GATE_CALL_EXPR⟩ s (1 + (argListToks args).length + (toksQs qs).length)
      (.start .GATE_CALL_EXPR none :: gateCallInner args qs) := by
  obtain ⟨g, rfl⟩ : ∃ g, F = g + 1 := ⟨F - 1, by omega⟩
  obtain ⟨q, ts, hts⟩ := toksQs_first qs
  cases args with
  | nil =>
    simp only [argListToks, List.length_nil, Nat.add_zero] at htq hsemi ⊢
    have h1 : s.kindAt (s.pos + 1) = firstQ q := Toks_head htq hts
    obtain ⟨sbQ, hq⟩ := qlist_runAt qs (F := g) (by omega) hr hc htq hsemi
    rcases firstQ_cases q with hq1 | hq1 <;> rw [hq1] at h1 <;> run_base2 [h0, h1, hq]
  | cons a as =>
    simp only [argListToks_cons, Toks, Toks_append, tk, List.length_cons, List.length_append, List.length_nil] at hta htq hsemi ⊢
    simp only [needArgs] at hF
    obtain ⟨h1, -, hta, hrp, -, -⟩ := hta
    have hargs := fun E0 st sb lv (hst : st + 6 ≤ s.stepLimit) => ov_rule (callArgsX (.cons a as) (sumXs (.cons a as)) g _
      (xsOK _) (by omega) (hr.ov 6 E0 1 st sb lv hst) h1 ((Toks_ov s _ _ _ _ _ _ _ _).2 hta)
      (kindAt_pos hrp (by show s.pos + 1 + _ = _; omega)) hca)
    obtain ⟨sbQ, hq⟩ := qlist_runAt qs (F := g) (by omega) hr hc (Toks_pos htq (by omega)) hsemi
    run_base2 [h0, h1, hargs, hq]

theorem gphaseCall_acc (x : X) (F : Nat) (s : P) (hr : RdyF 6 s) (hF : fuelX x + 2 ≤ F)
    (h0 : s.kindAt (s.pos + 0) = .GPHASE_KW) (htx : Toks s (s.pos + 1) (toksX x))
    (hsemi : s.kindAt (s.pos + (1 + (toksX x).length)) = .SEMICOLON) (hc : CanonX 1 x) :
    AccV (gphaseCallExpr F) ⟨s.events.size + 0, .G_PHASE_CALL_EXPR⟩ s (1 + (toksX x).length)
      (.start .G_PHASE_CALL_EXPR none :: .token .GPHASE_KW 1 :: (evsX x ++ [.finish])) := by
  obtain ⟨g, rfl⟩ : ∃ g, F = g + 2 := ⟨F - 2, by omega⟩
  have hsub := (exprX_okF x).exprAt g hr 1 htx hc hsemi rfl (by omega)
  run_base2 [h0, hsub]


theorem stmt_gphase (x : X) (F : Nat) (s : P) (hr : RdyF 8 s) (hF : fuelX x + 8 ≤ F)
    (htk : Toks s s.pos (toksS2 (.gphase x))) (hc : CanonX 1 x) :
    Acc (stmt F) s (toksS2 (.gphase x)).length (evsS2 (.gphase x)) := by
  obtain ⟨g, rfl⟩ : ∃ g, F = g + 4 + 2 := ⟨F - 6, by omega⟩
  simp only [toksS2, List.length_cons, List.length_append, List.length_nil] at ⊢
  tok_at [toksS2] at htk
  obtain ⟨h0, htx, hsemi'⟩ := htk
  have hnp := hr.hook
  have hpr := hr.prot
  have hlim := hr.lim
  have hst : s.steps + 2 ≤ s.stepLimit := by have := hr.steps; omega
  obtain ⟨g', rfl⟩ : ∃ g', g = g' + 1 := ⟨g - 1, by have := fuelX_pos x; omega⟩
  have hsub0 := (exprX_okF x).exprAt g' hr 1 htx hc hsemi' rfl (by omega)
  have hsub : exprStmt (g' + 1 + 4 + 1) (some { pos := s.events.size + 0 })
      (s.ov [Ev.start SyntaxKind.TOMBSTONE none] 0 (s.steps + 1) (s.sinceBump + 1) (s.live + 1) s.protectedPos) =
      .ok (some (⟨s.events.size + 1, .G_PHASE_CALL_EXPR⟩, .notBlock),
        s.ov (tombLink :: .start .G_PHASE_CALL_EXPR none :: .token .GPHASE_KW 1 :: (evsX x ++ [.finish])) (1 + (toksX x).length) 0 (sbX x + 1) s.live s.protectedPos) := by
    sym_eval [filter_base s hpr, contains_base s hpr, h0, hsub0, hsemi']
    rfl
  exact (stmt_wrapK _ s hr _ (by decide) h0 _ _ _ _ _ hsub rfl hsemi').congr (by simp only [evsS2]) (by omega)


def firstMod : Mod → SyntaxKind
  | .inv => .INV_KW
  | .pow _ => .POW_KW
  | .ctrl _ => .CTRL_KW
  | .negctrl _ => .NEGCTRL_KW

theorem toksMod_first (m : Mod) : ∃ ts, toksMod m = tk (firstMod m) :: ts := by
  cases m with
  | inv => exact ⟨_, rfl⟩
  | pow e => exact ⟨_, rfl⟩
  | ctrl e => cases e <;> exact ⟨_, rfl⟩
  | negctrl e => cases e <;> exact ⟨_, rfl⟩

theorem firstMod_cases (m : Mod) : firstMod m = .INV_KW ∨ firstMod m = .POW_KW ∨ firstMod m = .CTRL_KW ∨ firstMod m = .NEGCTRL_KW := by
  cases m <;> simp [firstMod]

theorem toksMods_first (m : Mod) (ms : List Mod) : ∃ ts, toksMods (m :: ms) = tk (firstMod m) :: ts := by
  obtain ⟨ts, h⟩ := toksMod_first m
  exact ⟨ts ++ toksMods ms, by simp only [toksMods, h, List.cons_append]⟩

/-- the modifiers as a rule for `sym_eval`, from any value of the step counter (a modified call starts with them) -/
theorem mods_runAt (m : Mod) (ms : List Mod) {F : Nat} (hF : needMods (m :: ms) ≤ F) {s : P} {k : Nat} (hr : RdyF k s)
    (hcm : CanonMods (m :: ms)) {dp : Nat} (htk : Toks s (s.pos + dp) (toksMods (m :: ms)))
    (hnext : s.kindAt (s.pos + (dp + (toksMods (m :: ms)).length)) = .IDENT ∨
      s.kindAt (s.pos + (dp + (toksMods (m :: ms)).length)) = .GPHASE_KW) :
    ∃ sb', RunAtS (modifiedGateCallExprLoop F) () s 6 dp (dp + (toksMods (m :: ms)).length) (evsMods (m :: ms)) sb' :=
  RunAtS.of_acc (allHolds stepsIrr_closed F).modifiedGateCallExprLoop
    (by obtain ⟨ts, h⟩ := toksMods_first m ms; rw [h]; exact Nat.le_add_left 1 _)
    (fun E0 st sb lv hst => mods_acc (m :: ms) F _ hF (hr.ov 6 E0 dp st sb lv hst) ((Toks_ov s _ _ _ _ _ _ _ _).2 htk)
      (by show s.kindAt (s.pos + _ + _) = _ ∨ s.kindAt (s.pos + _ + _) = _; rw [Nat.add_assoc]; exact hnext) hcm) rfl

theorem stmt_modGate (m : Mod) (ms : List Mod) (args : XList) (qs : QList) (F : Nat) (s : P) (hr : RdyF 8 s)
    (hF : max (needMods (m :: ms)) (max (needArgs args) (needQs qs + 2) + 1) + 7 ≤ F)
    (htk : Toks s s.pos (toksS2 (.modGate m ms args qs))) (hcm : CanonMods (m :: ms)) (hca : CanonXs args) (hc : CanonQs qs) :
    Acc (stmt F) s (toksS2 (.modGate m ms args qs)).length (evsS2 (.modGate m ms args qs)) := by
  obtain ⟨g, rfl⟩ : ∃ g, F = g + 5 + 2 := ⟨F - 7, by omega⟩
  simp only [toksS2, List.length_cons, List.length_append, List.length_nil] at ⊢
  tok_at [toksS2] at htk
  obtain ⟨htm, hid, hta, htq, hsemi⟩ := htk
  obtain ⟨ts, hts⟩ := toksMods_first m ms
  have h0 : s.kindAt (s.pos + 0) = firstMod m := Toks_head htm hts
  have hnp := hr.hook
  have hpr := hr.prot
  have hlim := hr.lim
  have hst : s.steps + 8 ≤ s.stepLimit := hr.steps
  obtain ⟨sbM, hmods⟩ := mods_runAt m ms (F := g + 1) (by omega) hr hcm htm (Or.inl hid)
  obtain ⟨aG, sbG, hgc⟩ := RunAtV.of_acc (fun E0 sb lv => ⟨_, gateCall_acc args qs (g + 1) _
    (hr.ov 6 E0 (0 + (toksMods (m :: ms)).length) 0 sb lv (by omega)) (by omega) hid
    ((Toks_ov s _ _ _ _ _ _ _ _).2 (Toks_pos hta (Nat.add_assoc _ _ _)))
    ((Toks_ov s _ _ _ _ _ _ _ _).2 (Toks_pos htq (by show s.pos + _ + _ = _; omega)))
    (kindAt_pos hsemi (by show s.pos + _ + _ = _; omega)) hca hc⟩) rfl
  have hsemi' : s.kindAt (s.pos + (0 + (toksMods (m :: ms)).length + (1 + (argListToks args).length + (toksQs qs).length))) = .SEMICOLON :=
    kindAt_pos hsemi (by omega)
  obtain ⟨sbx, hsub⟩ : ∃ sbx, exprStmt (g + 5 + 1) (some { pos := s.events.size + 0 })
      (s.ov [Ev.start SyntaxKind.TOMBSTONE none] 0 (s.steps + 1) (s.sinceBump + 1) (s.live + 1) s.protectedPos) =
      .ok (some (⟨s.events.size + 1, .MODIFIED_GATE_CALL_EXPR⟩, .notBlock),
        s.ov (tombLink :: .start .MODIFIED_GATE_CALL_EXPR none :: (evsMods (m :: ms) ++ (.start .GATE_CALL_EXPR none :: (gateCallInner args qs ++ [.finish]))))
          (0 + (toksMods (m :: ms)).length + (1 + (argListToks args).length + (toksQs qs).length)) 0 sbx s.live s.protectedPos) := by
    rcases firstMod_cases m with hq1 | hq1 | hq1 | hq1 <;> rw [hq1] at h0 <;>
    (refine ⟨?_, ?_⟩
     rotate_left 1
     sym_eval [filter_base s hpr, contains_base s hpr, h0, hmods, hid, hgc, hsemi']
     refine ok_ov_congr _ _ _ _ _ _ _ _ _ _ _ rfl ?_ rfl
     simp only [tombLink, List.cons_append, List.nil_append, List.append_assoc])
  exact (stmt_wrapK _ s hr _ (by rcases firstMod_cases m with h | h | h | h <;> rw [h] <;> rfl) h0 _ _ _ _ _ hsub rfl hsemi').congr (by simp only [evsS2]) (by omega)


theorem stmt_modGphase (m : Mod) (ms : List Mod) (x : X) (F : Nat) (s : P) (hr : RdyF 8 s)
    (hF : max (needMods (m :: ms)) (fuelX x + 2) + 8 ≤ F)
    (htk : Toks s s.pos (toksS2 (.modGphase m ms x))) (hcm : CanonMods (m :: ms)) (hc : CanonX 1 x) :
    Acc (stmt F) s (toksS2 (.modGphase m ms x)).length (evsS2 (.modGphase m ms x)) := by
  obtain ⟨g, rfl⟩ : ∃ g, F = g + 5 + 2 := ⟨F - 7, by omega⟩
  simp only [toksS2, List.length_cons, List.length_append, List.length_nil] at ⊢
  tok_at [toksS2] at htk
  obtain ⟨htm, hgp, htx, hsemi⟩ := htk
  obtain ⟨ts, hts⟩ := toksMods_first m ms
  have h0 : s.kindAt (s.pos + 0) = firstMod m := Toks_head htm hts
  have hnp := hr.hook
  have hpr := hr.prot
  have hlim := hr.lim
  have hst : s.steps + 8 ≤ s.stepLimit := hr.steps
  obtain ⟨sbM, hmods⟩ := mods_runAt m ms (F := g + 1) (by omega) hr hcm htm (Or.inr hgp)
  obtain ⟨aG, sbG, hgc⟩ := RunAtV.of_acc (fun E0 sb lv => ⟨_, gphaseCall_acc x (g + 1) _
    (hr.ov 6 E0 (0 + (toksMods (m :: ms)).length) 0 sb lv (by omega)) (by omega) hgp
    ((Toks_ov s _ _ _ _ _ _ _ _).2 (Toks_pos htx (Nat.add_assoc _ _ _)))
    (kindAt_pos hsemi (by show s.pos + _ + _ = _; omega)) hc⟩) rfl
  have hsemi' : s.kindAt (s.pos + (0 + (toksMods (m :: ms)).length + (1 + (toksX x).length))) = .SEMICOLON :=
    kindAt_pos hsemi (by omega)
  obtain ⟨sbx, hsub⟩ : ∃ sbx, exprStmt (g + 5 + 1) (some { pos := s.events.size + 0 })
      (s.ov [Ev.start SyntaxKind.TOMBSTONE none] 0 (s.steps + 1) (s.sinceBump + 1) (s.live + 1) s.protectedPos) =
      .ok (some (⟨s.events.size + 1, .MODIFIED_GATE_CALL_EXPR⟩, .notBlock),
        s.ov (tombLink :: .start .MODIFIED_GATE_CALL_EXPR none :: (evsMods (m :: ms) ++ (.start .G_PHASE_CALL_EXPR none :: .token .GPHASE_KW 1 ::
            (evsX x ++ [.finish, .finish]))))
          (0 + (toksMods (m :: ms)).length + (1 + (toksX x).length)) 0 sbx s.live s.protectedPos) := by
    rcases firstMod_cases m with hq1 | hq1 | hq1 | hq1 <;> rw [hq1] at h0 <;>
    (refine ⟨?_, ?_⟩
     rotate_left 1
     sym_eval [filter_base s hpr, contains_base s hpr, h0, hmods, hgp, hgc, hsemi']
     refine ok_ov_congr _ _ _ _ _ _ _ _ _ _ _ rfl ?_ rfl
     simp only [tombLink, List.cons_append, List.nil_append, List.append_assoc])
  exact (stmt_wrapK _ s hr _ (by rcases firstMod_cases m with h | h | h | h <;> rw [h] <;> rfl) h0 _ _ _ _ _ hsub rfl hsemi').congr (by simp only [evsS2]) (by omega)

theorem exprStmtFirst2_isEF {k : SyntaxKind} (h : exprStmtFirst2 k = true) : isEF k = true := by
  simp only [exprStmtFirst2, Bool.or_eq_true, beq_iff_eq] at h
  rcases h with ((((((((((((((((h | h) | h) | h) | h) | h) | h) | h) | h) | h) | h) | h) | h) | h) | h) | h) | h) | h <;> subst h <;> rfl

theorem stmt_ret_none2 (F : Nat) (s : P) (hr : RdyF 8 s) (hF : 8 ≤ F) (htk : Toks s s.pos (toksS2 (.ret none))) :
    Acc (stmt F) s (toksS2 (.ret none)).length (evsS2 (.ret none)) := by
  obtain ⟨f, rfl⟩ : ∃ f, F = f + 6 + 2 := ⟨F - 8, by omega⟩
  tok_at [toksS2] at htk
  obtain ⟨h0, h1⟩ := htk
  have hnp := hr.hook
  have hpr := hr.prot
  have hst : s.steps + 1 ≤ s.stepLimit := by have := hr.steps; omega
  have hsub : exprStmt (f + 6 + 1) (some { pos := s.events.size + 0 })
      (s.ov [Ev.start SyntaxKind.TOMBSTONE none] 0 (s.steps + 1) (s.sinceBump + 1) (s.live + 1) s.protectedPos) =
      .ok (some (⟨s.events.size + 1, .RETURN_EXPR⟩, .notBlock),
        s.ov [tombLink, .start .RETURN_EXPR none, .token .RETURN_KW 1, .finish] 1 0 2 s.live s.protectedPos) := by
    sym_eval [filter_base s hpr, contains_base s hpr, h0, h1]
    rfl
  exact stmt_wrapK (f + 6) s hr _ (by decide) h0 _ _ 1 2 _ hsub rfl h1

theorem stmt_ret_some2 (x : X) (n : Nat) (hx : ExprOKF x n) (F : Nat) (s : P) (hr : RdyF 8 s) (hF : n + 9 ≤ F)
    (htk : Toks s s.pos (toksS2 (.ret (some x)))) (hc : CanonX 1 x) (hfirst : exprStmtFirst2 (firstX x) = true) :
    Acc (stmt F) s (toksS2 (.ret (some x))).length (evsS2 (.ret (some x))) := by
  obtain ⟨f, rfl⟩ : ∃ f, F = f + 7 + 2 := ⟨F - 9, by omega⟩
  simp only [toksS2, List.length_cons, List.length_append, List.length_nil] at ⊢
  tok_at [toksS2] at htk
  obtain ⟨h0, hte, hsemi'⟩ := htk
  have hnp := hr.hook
  have hpr := hr.prot
  have hlim := hr.lim
  have hst : s.steps + 1 ≤ s.stepLimit := by have := hr.steps; omega
  obtain ⟨j1, ts, hts⟩ := toksX_first x
  have h1 : s.kindAt (s.pos + 1) = firstX x := Toks_head hte hts
  have hEF := exprStmtFirst2_isEF (h1 ▸ hfirst)
  unfold isEF at hEF
  have he := hx.exprAt (f + 2) hr 1 hte hc hsemi' rfl (by omega)
  have hsub : exprStmt (f + 7 + 1) (some { pos := s.events.size + 0 })
      (s.ov [Ev.start SyntaxKind.TOMBSTONE none] 0 (s.steps + 1) (s.sinceBump + 1) (s.live + 1) s.protectedPos) =
      .ok (some (⟨s.events.size + 1, .RETURN_EXPR⟩, .notBlock),
        s.ov (tombLink :: .start .RETURN_EXPR none :: .token .RETURN_KW 1 :: (evsX x ++ [.finish])) (1 + (toksX x).length) 0
          (sbX x + 1) s.live s.protectedPos) := by
    sym_eval [filter_base s hpr, contains_base s hpr, h0, hEF, he, hsemi']
    rfl
  exact (stmt_wrapK _ s hr _ (by decide) h0 _ _ _ _ _ hsub rfl hsemi').congr (by simp only [evsS2]) (by omega)

/-- the loop iteration of `expr_bp` at the `=` of an assignment statement (target: identifier or
indexed identifier), up to the return of the loop after the `;` -/
theorem loop_assign (s : P) (hnp : s.noProgressLimit = 0) (hpr : ∀ p ∈ s.protectedPos, p < s.events.size)
    (p : Nat) (k : SyntaxKind) (hk : k = .IDENTIFIER ∨ k = .INDEXED_IDENTIFIER) (fp0 : Option Nat)
    (hp : s.events[p]? = some (.start k fp0))
    (h0 : s.kindAt (s.pos + 0) = .EQ) (h1 : s.kindAt (s.pos + 0 + 1) ≠ .EQ) (h2 : s.kindAt (s.pos + 0 + 1) ≠ .R_ANGLE)
    (f : Nat) (cmr : CompletedMarker) (Er : List Ev) (nr sbr : Nat)
    (hr : exprBp (f + 1) none { preferStmt := false } 12
        ((s.setEv p (Ev.start k (some (s.events.size + 0 - p)))).ov
          [Ev.start SyntaxKind.TOMBSTONE none, Ev.token .EQ 1] (0 + 1) 0 1 (s.live + 1)
          ((s.events.size + 0) :: s.protectedPos)) =
      .ok (some (cmr, .notBlock), (s.setEv p (Ev.start k (some (s.events.size + 0 - p)))).ov
          ([Ev.start SyntaxKind.TOMBSTONE none, Ev.token .EQ 1] ++ Er) (1 + nr) 0 sbr
          (s.live + 1) ((s.events.size + 0) :: s.protectedPos)))
    (hsemi : s.kindAt (s.pos + (1 + nr)) = .SEMICOLON)
    (hfol : StopsAt s (s.pos + (1 + nr + 1)) 1) :
    exprBpLoop (f + 1 + 1) { preferStmt := true } 1 ⟨p, k⟩ s =
      .ok (some (⟨s.events.size + 0, .ASSIGNMENT_STMT⟩, .notBlock),
        (s.setEv p (Ev.start k (some (s.events.size + 0 - p)))).ov
          (Ev.start SyntaxKind.ASSIGNMENT_STMT none :: Ev.token .EQ 1 :: (Er ++ [Ev.token .SEMICOLON 1, Ev.finish]))
          (1 + nr + 1) 0 2 s.live s.protectedPos) := by
  have hcur : ∀ E st sb lv pr, currentOp (s.ov E 0 st sb lv pr) =
      .ok ((12, SyntaxKind.EQ, Assoc.right), s.ov E 0 st sb lv pr) := by
    intro E st sb lv pr
    rw [currentOp_ov, opF_assign s (s.pos + 0) h0 h1 h2]
  have hpre := precede_base s hnp p k k fp0 hp
  have hcomp := fun E dp st sb lv pr i b kind =>
    complete_ov (s.setEv p (.start k (some (s.events.size + 0 - p)))) E dp st sb lv pr hnp i b kind
  simp only [setEv_size] at hcomp
  have hexp := fun E dp st sb lv pr =>
    expect_ov (s.setEv p (.start k (some (s.events.size + 0 - p)))) E dp st sb lv pr (by rw [setEv_npl]; exact hnp) .SEMICOLON rfl rfl
  simp only [setEv_kindAt, setEv_pos] at hexp
  have hop2 : ∀ E st sb lv pr, currentOp ((s.setEv p (.start k (some (s.events.size + 0 - p)))).ov E (1 + nr + 1) st sb lv pr) =
      .ok (opF s.kinds s.joint (s.pos + (1 + nr + 1)),
        (s.setEv p (.start k (some (s.events.size + 0 - p)))).ov E (1 + nr + 1) st sb lv pr) :=
    fun E st sb lv pr => currentOp_ov _ E _ st sb lv pr
  unfold StopsAt at hfol
  generalize opF s.kinds s.joint (s.pos + (1 + nr + 1)) = x at hfol hop2
  obtain ⟨pw, op, as⟩ := x
  have hlt : (pw < 1) = True := eq_true hfol
  apply of_ov
  rcases hk with hk | hk <;> subst hk <;>
  (sym_eval [hcur, hpre, h0, hr, hcomp, hexp, hsemi, hop2, hlt, setEv_size, setEv_kindAt, setEv_pos, setEv_npl, setEv_stepLimit,
    filter_base s hpr, contains_base s hpr, bne_self_eq_false]
   simp only [List.append_assoc, List.cons_append, List.nil_append])

def isTarget (p : Prim) : Prop := p.kind = .IDENTIFIER ∨ p.kind = .INDEXED_IDENTIFIER

theorem isTarget_lhsP (ixs : Option IdxList) : isTarget (lhsP ixs) := by
  cases ixs <;> simp [isTarget, lhsP, Prim.kind, X.kind]

theorem lastP_lhsP_endIn (ixs : Option IdxList) : EndOKL (lastP (lhsP ixs)) .EQ := by
  cases ixs <;> simp [lhsP, lastP, EndOKL, EndIn]

theorem exprBp_assign (p : Prim) (hp : isTarget p) (hend : EndOKL (lastP p) .EQ) (rhs : X) (nr : Nat) (hx : ExprOKF rhs nr)
    (F : Nat) (s : P) (hr : RdyF 5 s) (hF : max (needX (.prim p) + 1) (nr + 2) ≤ F)
    (htk : Toks s s.pos (toksP p ++ (tk .EQ :: (toksX rhs ++ [tk .SEMICOLON])))) (hcp : CanonP p) (hc : CanonX 12 rhs)
    (hfol : StopsAt s (s.pos + (toksP p ++ (tk .EQ :: (toksX rhs ++ [tk .SEMICOLON]))).length) 1) :
    exprBp F none { preferStmt := true } 1 s =
      .ok (some (⟨s.events.size + (lenP p + 1), .ASSIGNMENT_STMT⟩, .notBlock),
        s.ov (.start .TOMBSTONE (some (rootP p + 1)) :: (bodyP p (some (lenP p - rootP p)) ++
            (.start .ASSIGNMENT_STMT none :: .token .EQ 1 :: (evsX rhs ++ [.token .SEMICOLON 1, .finish]))))
          (toksP p ++ (tk .EQ :: (toksX rhs ++ [tk .SEMICOLON]))).length 0 2 s.live s.protectedPos) := by
  obtain ⟨g, rfl⟩ : ∃ g, F = (g + 1 + 1) + cFX (.prim p) := ⟨F - 3, by simp only [cFX, needX] at hF ⊢; omega⟩
  have hcf : cFX (.prim p) = 1 := rfl
  simp only [Toks_append, Toks, tk, List.length_append, List.length_cons, List.length_nil] at htk hfol ⊢
  obtain ⟨htp, heq, -, htr, hsemi, -, -⟩ := htk
  obtain ⟨jr, tsr, htsr⟩ := toksX_first rhs
  have hnext := xFirst_ne (firstX_xFirst rhs)
  have h2 : s.kindAt (s.pos + (toksP p).length + 1) = firstX rhs := by rw [htsr] at htr; exact htr.1
  have hnp := hr.hook
  have hpr := hr.prot
  refine mbaseX (.prim p) 1 (g + 1 + 1) _ s _ _ hr
    ⟨htp, by show EndOKL (lastP p) (s.kindAt (s.pos + (toksP p).length)); rw [heq]; exact hend, trivial⟩ hcp (by simp only [cFX] at hF; omega) ?_
  have hlen := lenP_pos p
  show exprBpLoop (g + 1 + 1) { preferStmt := true } 1 ⟨s.events.size + (rootP p + 1), p.kind⟩
      (s.ov (evsX (.prim p)) (toksP p).length 0 (sbP p) s.live s.protectedPos) = _
  have hEl : (evsX (.prim p)).length = lenP p + 1 := evsX_length _
  have e : s.events.size + (lenP p + 1) + 0 - (s.events.size + (rootP p + 1)) = lenP p - rootP p := by omega
  have hrr := hx.atEnd 12 (g + 1) { preferStmt := false } s
    ((evsX (.prim p)).set (rootP p + 1) (.start p.kind (some (lenP p - rootP p))) ++ [.start .TOMBSTONE none, .token .EQ 1])
    ((toksP p).length + (0 + 1)) 0 1 (s.live + 1) ((s.events.size + (lenP p + 1) + 0) :: s.protectedPos)
    hnp (by have := hr.lim; omega) hr.lim
    (prot_cons hpr (by simp only [List.length_append, List.length_set, List.length_cons, List.length_nil, hEl]; omega))
    (Toks_pos htr (by omega)) hc (by decide) (by decide) (by rw [kindAt_pos hsemi (by omega)]; rfl) (by omega)
  rw [loop_assign (s.ov (evsX (.prim p)) (toksP p).length 0 (sbP p) s.live s.protectedPos) hnp
    (fun q hq => by rw [ov_events_size]; exact Nat.lt_add_right _ (hpr q hq))
    (s.events.size + (rootP p + 1)) p.kind hp none (by rw [ov_events_get]; exact evsX_root (.prim p))
    (kindAt_pos heq (by show s.pos + _ + 0 = _; omega))
    (h2 ▸ hnext.1.1 : s.kindAt (s.pos + (toksP p).length + 1) ≠ .EQ)
    (h2 ▸ hnext.1.2.2.2.2.2.2.1 : s.kindAt (s.pos + (toksP p).length + 1) ≠ .R_ANGLE)
    g _ (evsX rhs) (toksX rhs).length (sbX rhs)
    (by
      rw [setEv_ov_ov, setEv_ov_ov, ov_events_size, hEl, e, ← List.append_assoc,
        show (toksP p).length + (1 + (toksX rhs).length) = (toksP p).length + (0 + 1) + (toksX rhs).length by omega]
      exact hrr)
    (kindAt_pos hsemi (by show s.pos + _ + _ = _; omega))
    (by
      unfold StopsAt at hfol ⊢
      rw [show (s.ov (evsX (.prim p)) (toksP p).length 0 (sbP p) s.live s.protectedPos).pos + (1 + (toksX rhs).length + 1) =
        s.pos + ((toksP p).length + ((toksX rhs).length + (0 + 1) + 1)) by show s.pos + _ + _ = _; omega]
      exact hfol)]
  have e1 : (evsX (.prim p)).set (rootP p + 1) (.start p.kind (some (lenP p - rootP p))) =
      .start .TOMBSTONE (some (rootP p + 1)) :: bodyP p (some (lenP p - rootP p)) :=
    evsX_set_root (.prim p) (some (lenP p - rootP p))
  rw [setEv_ov_ov, ov_events_size, hEl, e, e1]
  refine ok_ov_congr _ _ _ _ _ _ _ _ _ _ _ rfl ?_ (by omega)
  simp only [List.cons_append, List.nil_append, List.append_assoc]

theorem toksP_lhsP_first (ixs : Option IdxList) : ∃ ts, toksP (lhsP ixs) = tk .IDENT :: ts := by
  cases ixs <;> exact ⟨_, rfl⟩

def CanonTarget : Option IdxList → Prop
  | none => True
  | some ixs => CanonIdx ixs ∧ IdxFirstOK ixs

theorem canonP_lhsP (ixs : Option IdxList) (h : CanonTarget ixs) : CanonP (lhsP ixs) := by
  cases ixs with
  | none => trivial
  | some ixs => exact h

/-- `x = rhs ;` / `x[…] = rhs ;`: `rhs` is canonical at the level of `=` (F06), and the token after the `;`
does not continue the assignment as a binary expression (F09e) -/
theorem stmt_assign2 (ixs : Option IdxList) (rhs : X) (nr : Nat) (hx : ExprOKF rhs nr) (F : Nat) (s : P) (hr : RdyF 8 s)
    (hF : max (needX (.prim (lhsP ixs)) + 1) (nr + 2) + 2 ≤ F)
    (htk : Toks s s.pos (toksS2 (.assign ixs rhs))) (hct : CanonTarget ixs) (hc : CanonX 12 rhs)
    (hfol : StopsAt s (s.pos + (toksS2 (.assign ixs rhs)).length) 1) :
    Acc (stmt F) s (toksS2 (.assign ixs rhs)).length (evsS2 (.assign ixs rhs)) := by
  obtain ⟨f, rfl⟩ : ∃ f, F = f + 1 + 1 := ⟨F - 2, by omega⟩
  simp only [toksS2] at htk hfol ⊢
  obtain ⟨ts, hts⟩ := toksP_lhsP_first ixs
  have h0 : s.kindAt (s.pos + 0) = .IDENT := by
    simp only [Toks_append, hts, Toks, tk] at htk; exact htk.1.1
  have hnp := hr.hook
  have hpr := hr.prot
  have hst : s.steps ≤ s.stepLimit := by have := hr.steps; omega
  have hmain := exprBp_assign (lhsP ixs) (isTarget_lhsP ixs) (lastP_lhsP_endIn ixs) rhs nr hx f
    (s.ov [] 0 (s.steps + 1) s.sinceBump s.live s.protectedPos)
    (hr.ov 5 _ _ _ _ _ (by have := hr.steps; omega)) (by omega)
    ((Toks_ov s _ _ _ _ _ _ _ _).2 (by show Toks s (s.pos + 0) _; exact htk)) (canonP_lhsP ixs hct) hc
    ((StopsAt_kinds s _ rfl rfl _ _).2 (by show StopsAt s (s.pos + 0 + _) 1; exact hfol))
  rw [ov_ov] at hmain
  simp only [List.nil_append, Nat.zero_add, ov_live, ov_prot, ov_events_size, List.length_nil, Nat.add_zero] at hmain
  have hsub : exprStmt (f + 1) (some { pos := s.events.size + 0 })
      (s.ov [Ev.start SyntaxKind.TOMBSTONE none] 0 (s.steps + 1) (s.sinceBump + 1) (s.live + 1) s.protectedPos) =
      .ok (some (⟨s.events.size + (lenP (lhsP ixs) + 1), .ASSIGNMENT_STMT⟩, .notBlock),
        s.ov (evsS2 (.assign ixs rhs)) (toksP (lhsP ixs) ++ (tk .EQ :: (toksX rhs ++ [tk .SEMICOLON]))).length 0 2 s.live s.protectedPos) := by
    obtain ⟨f', rfl⟩ : ∃ f', f = f' + 1 := ⟨f - 1, by omega⟩
    rw [exprStmt.run_2]
    have := exprBp_some f' { preferStmt := true } 1 s hr.hook [] 0 (s.steps + 1) s.sinceBump s.live s.protectedPos
    simp only [List.nil_append, List.length_nil] at this
    rw [this, hmain]
    rfl
  refine ⟨0, 2, Nat.zero_le _, of_ov _ _ _ ?_⟩
  sym_eval [filter_base s hpr, contains_base s hpr, h0, hsub]
  rfl

end Oq3.LangEv2
