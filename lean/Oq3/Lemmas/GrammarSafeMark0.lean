/- GENERATED by /verif/tools/gen_grammar_safe.py from Oq3/Model/Grammar.lean — the proofs are checked by Lean. -/
import Oq3.Lemmas.SafeMark
set_option linter.unusedVariables false

namespace Oq3.Grammar
open Oq3.Gen Oq3.Parser
open Oq3.Gen.Ops (Assoc)
open Oq3.Gen.TokenSets

theorem nameR_mark (recovery : TokenSet) : Plain (nameR recovery) :=
  MW.field0' fun a => by unfold nameR; mw []

theorem name_mark : Plain name :=
  MW.field0' fun a => by unfold name; mw [nameR (MW.call0 (nameR_mark _))]

theorem break__mark (m : Marker) : Takes m (break_ m) :=
  MW.fieldM fun a hm => by unfold break_; mw []

theorem continue__mark (m : Marker) : Takes m (continue_ m) :=
  MW.fieldM fun a hm => by unfold continue_; mw []

theorem end__mark (m : Marker) : Takes m (end_ m) :=
  MW.fieldM fun a hm => by unfold end_; mw []

theorem filepathR_mark (recovery : TokenSet) : Plain (filepathR recovery) :=
  MW.field0' fun a => by unfold filepathR; mw []

theorem defcalgrammar__mark (m : Marker) : Takes m (defcalgrammar_ m) :=
  MW.fieldM fun a hm => by unfold defcalgrammar_; mw [filepathR (MW.call0 (filepathR_mark _))]

theorem include'_mark (m : Marker) : Takes m (include' m) :=
  MW.fieldM fun a hm => by unfold include'; mw [filepathR (MW.call0 (filepathR_mark _))]

theorem version__mark : Plain version_ :=
  MW.field0' fun a => by unfold version_; mw []

theorem versionString_mark (m : Marker) : Takes m (versionString m) :=
  MW.fieldM fun a hm => by unfold versionString; mw [version_ (MW.call0 version__mark)]

theorem varName_mark : Plain varName :=
  MW.field0' fun a => by unfold varName; mw []

theorem identifier_mark  (s : P) (hpre : MG s) :
    wp A2 (identifier) (fun r s' => MG s' ∧ Fr (s.events.size) s s' ∧ s'.live = s.live ∧ Done s' r ∧ s.events.size ≤ r.pos) s :=
  MW.field0 (Y := fun s r s' => Done s' r ∧ s.events.size ≤ r.pos) (fun a => by unfold identifier; mw []) s hpre

theorem hardwareQubit_mark  (s : P) (hpre : MG s) :
    wp A2 (hardwareQubit) (fun r s' => MG s' ∧ Fr (s.events.size) s s' ∧ s'.live = s.live ∧ Done s' r ∧ s.events.size ≤ r.pos) s :=
  MW.field0 (Y := fun s r s' => Done s' r ∧ s.events.size ≤ r.pos) (fun a => by unfold hardwareQubit; mw []) s hpre

theorem literal_mark  (s : P) (hpre : MG s) :
    wp A2 (literal) (fun r s' => MG s' ∧ Fr (s.events.size) s s' ∧ s'.live = s.live ∧ (∀ cm, r = some cm → Done s' cm ∧ s.events.size ≤ cm.pos)) s :=
  MW.field0 (Y := fun s r s' => (∀ cm, r = some cm → Done s' cm ∧ s.events.size ≤ cm.pos)) (fun a => by unfold literal; mw [identifier (MW.callD identifier_mark)]) s hpre

theorem atListEndToken_mark (flavor : DefFlavor) : Plain (atListEndToken flavor) :=
  MW.field0' fun a => by unfold atListEndToken; mw []

theorem paramUntyped_mark (m : Marker) : Takes m (paramUntyped m) :=
  MW.fieldM fun a hm => by unfold paramUntyped; mw []

theorem paramUntypedOrHardwareQubit_mark (m : Marker) : Takes m (paramUntypedOrHardwareQubit m) :=
  MW.fieldM fun a hm => by unfold paramUntypedOrHardwareQubit; mw [hardwareQubit (MW.callD hardwareQubit_mark)]

/-- all functions of the mutual block at one fuel level -/
structure AllMark (fuel : Nat) : Prop where
  optReturnSignature : ∀  (s : P), MG s →
    wp A2 (Oq3.Grammar.optReturnSignature fuel ) (fun r s' => MG s' ∧ Fr (s.events.size) s s' ∧ s'.live = s.live) s
  delimited : ∀ (bra ket : SyntaxKind) (consumeBraket : Bool) (delim : SyntaxKind) (firstSet : TokenSet) (parser : DelimitedParser) (s : P), MG s →
    wp A2 (Oq3.Grammar.delimited fuel bra ket consumeBraket delim firstSet parser) (fun r s' => MG s' ∧ Fr (s.events.size) s s' ∧ s'.live = s.live) s
  delimitedLoop : ∀ (ket delim : SyntaxKind) (firstSet : TokenSet) (parser : DelimitedParser) (s : P), MG s →
    wp A2 (Oq3.Grammar.delimitedLoop fuel ket delim firstSet parser) (fun r s' => MG s' ∧ Fr (s.events.size) s s' ∧ s'.live = s.live) s
  delimitedParser : ∀ (parser : DelimitedParser) (s : P), MG s →
    wp A2 (Oq3.Grammar.delimitedParser fuel parser) (fun r s' => MG s' ∧ Fr (s.events.size) s s' ∧ s'.live = s.live) s
  sourceFileContents : ∀ (stopOnRCurly : Bool) (s : P), MG s →
    wp A2 (Oq3.Grammar.sourceFileContents fuel stopOnRCurly) (fun r s' => MG s' ∧ Fr (s.events.size) s s' ∧ s'.live = s.live) s
  item : ∀ (stopOnRCurly : Bool) (s : P), MG s →
    wp A2 (Oq3.Grammar.item fuel stopOnRCurly) (fun r s' => MG s' ∧ Fr (s.events.size) s s' ∧ s'.live = s.live) s
  optItem : ∀ (m : Marker) (s : P), MG s ∧ Live s m ∧ 1 ≤ s.live →
    wp A2 (Oq3.Grammar.optItem fuel m) (fun r s' => match r with | .ok _ => MG s' ∧ Fr m.pos s s' ∧ s'.live + 1 = s.live | .error m' => m' = m ∧ MG s' ∧ Live s' m ∧ Fr s.events.size s s' ∧ s'.live = s.live) s
  switchCaseStmt : ∀ (m : Marker) (s : P), MG s ∧ Live s m ∧ 1 ≤ s.live →
    wp A2 (Oq3.Grammar.switchCaseStmt fuel m) (fun r s' => MG s' ∧ Fr (m.pos) s s' ∧ s'.live + 1 = s.live) s
  switchCaseLoop : ∀  (s : P), MG s →
    wp A2 (Oq3.Grammar.switchCaseLoop fuel ) (fun r s' => MG s' ∧ Fr (s.events.size) s s' ∧ s'.live = s.live) s
  blockOrStatement : ∀  (s : P), MG s →
    wp A2 (Oq3.Grammar.blockOrStatement fuel ) (fun r s' => MG s' ∧ Fr (s.events.size) s s' ∧ s'.live = s.live) s
  ifStmt : ∀ (m : Marker) (s : P), MG s ∧ Live s m ∧ 1 ≤ s.live →
    wp A2 (Oq3.Grammar.ifStmt fuel m) (fun r s' => MG s' ∧ Fr (m.pos) s s' ∧ s'.live + 1 = s.live) s
  whileStmt : ∀ (m : Marker) (s : P), MG s ∧ Live s m ∧ 1 ≤ s.live →
    wp A2 (Oq3.Grammar.whileStmt fuel m) (fun r s' => MG s' ∧ Fr (m.pos) s s' ∧ s'.live + 1 = s.live) s
  forStmt : ∀ (m : Marker) (s : P), MG s ∧ Live s m ∧ 1 ≤ s.live →
    wp A2 (Oq3.Grammar.forStmt fuel m) (fun r s' => MG s' ∧ Fr (m.pos) s s' ∧ s'.live + 1 = s.live) s
  qubitDeclarationStmt : ∀ (m : Marker) (s : P), MG s ∧ Live s m ∧ 1 ≤ s.live →
    wp A2 (Oq3.Grammar.qubitDeclarationStmt fuel m) (fun r s' => MG s' ∧ Fr (m.pos) s s' ∧ s'.live + 1 = s.live) s
  resetStmt : ∀ (m : Marker) (s : P), MG s ∧ Live s m ∧ 1 ≤ s.live →
    wp A2 (Oq3.Grammar.resetStmt fuel m) (fun r s' => MG s' ∧ Fr (m.pos) s s' ∧ s'.live + 1 = s.live) s
  gateDefinition : ∀ (m : Marker) (s : P), MG s ∧ Live s m ∧ 1 ≤ s.live →
    wp A2 (Oq3.Grammar.gateDefinition fuel m) (fun r s' => MG s' ∧ Fr (m.pos) s s' ∧ s'.live + 1 = s.live) s
  defcal_ : ∀ (m : Marker) (s : P), MG s ∧ Live s m ∧ 1 ≤ s.live →
    wp A2 (Oq3.Grammar.defcal_ fuel m) (fun r s' => MG s' ∧ Fr (m.pos) s s' ∧ s'.live + 1 = s.live) s
  returnsBoolClassicalDeclarationStmt : ∀ (m : Marker) (s : P), MG s ∧ Live s m ∧ 1 ≤ s.live →
    wp A2 (Oq3.Grammar.returnsBoolClassicalDeclarationStmt fuel m) (fun r s' => MG s' ∧ Fr (m.pos) s s' ∧ s'.live + 1 = s.live) s
  classicalDeclarationStmt : ∀ (m : Marker) (s : P), MG s ∧ Live s m ∧ 1 ≤ s.live →
    wp A2 (Oq3.Grammar.classicalDeclarationStmt fuel m) (fun r s' => MG s' ∧ Fr (m.pos) s s' ∧ s'.live + 1 = s.live) s
  ioDeclarationStmt : ∀ (m : Marker) (s : P), MG s ∧ Live s m ∧ 1 ≤ s.live →
    wp A2 (Oq3.Grammar.ioDeclarationStmt fuel m) (fun r s' => MG s' ∧ Fr (m.pos) s s' ∧ s'.live + 1 = s.live) s
  defStmt : ∀ (m : Marker) (s : P), MG s ∧ Live s m ∧ 1 ≤ s.live →
    wp A2 (Oq3.Grammar.defStmt fuel m) (fun r s' => MG s' ∧ Fr (m.pos) s s' ∧ s'.live + 1 = s.live) s
  externStmt : ∀ (m : Marker) (s : P), MG s ∧ Live s m ∧ 1 ≤ s.live →
    wp A2 (Oq3.Grammar.externStmt fuel m) (fun r s' => MG s' ∧ Fr (m.pos) s s' ∧ s'.live + 1 = s.live) s
  cal_ : ∀ (m : Marker) (s : P), MG s ∧ Live s m ∧ 1 ≤ s.live →
    wp A2 (Oq3.Grammar.cal_ fuel m) (fun r s' => MG s' ∧ Fr (m.pos) s s' ∧ s'.live + 1 = s.live) s
  barrier_ : ∀ (m : Marker) (s : P), MG s ∧ Live s m ∧ 1 ≤ s.live →
    wp A2 (Oq3.Grammar.barrier_ fuel m) (fun r s' => MG s' ∧ Fr (m.pos) s s' ∧ s'.live + 1 = s.live) s
  delayStmt : ∀ (m : Marker) (s : P), MG s ∧ Live s m ∧ 1 ≤ s.live →
    wp A2 (Oq3.Grammar.delayStmt fuel m) (fun r s' => MG s' ∧ Fr (m.pos) s s' ∧ s'.live + 1 = s.live) s
  aliasStmt : ∀ (m : Marker) (s : P), MG s ∧ Live s m ∧ 1 ≤ s.live →
    wp A2 (Oq3.Grammar.aliasStmt fuel m) (fun r s' => MG s' ∧ Fr (m.pos) s s' ∧ s'.live + 1 = s.live) s
  expr : ∀  (s : P), MG s →
    wp A2 (Oq3.Grammar.expr fuel ) (fun r s' => MG s' ∧ Fr (s.events.size) s s' ∧ s'.live = s.live) s
  rangeExpr : ∀  (s : P), MG s →
    wp A2 (Oq3.Grammar.rangeExpr fuel ) (fun r s' => MG s' ∧ Fr (s.events.size) s s' ∧ s'.live = s.live) s
  exprOrRangeExpr : ∀  (s : P), MG s →
    wp A2 (Oq3.Grammar.exprOrRangeExpr fuel ) (fun r s' => MG s' ∧ Fr (s.events.size) s s' ∧ s'.live = s.live) s
  exprStmt : ∀ (m : Option Marker) (s : P), MG s ∧ OLive s m →
    wp A2 (Oq3.Grammar.exprStmt fuel m) (fun r s' => MG s' ∧ Fr (obound m s) s s' ∧ s'.live + ocount m = s.live ∧ (∀ cm bl, r = some (cm, bl) → Done s' cm ∧ obound m s ≤ cm.pos)) s
  stmt : ∀  (s : P), MG s →
    wp A2 (Oq3.Grammar.stmt fuel ) (fun r s' => MG s' ∧ Fr (s.events.size) s s' ∧ s'.live = s.live) s
  letStmt : ∀ (m : Marker) (s : P), MG s ∧ Live s m ∧ 1 ≤ s.live →
    wp A2 (Oq3.Grammar.letStmt fuel m) (fun r s' => MG s' ∧ Fr (m.pos) s s' ∧ s'.live + 1 = s.live) s
  qOrCRegParam : ∀  (s : P), MG s →
    wp A2 (Oq3.Grammar.qOrCRegParam fuel ) (fun r s' => MG s' ∧ Fr (s.events.size) s s' ∧ s'.live = s.live) s
  qOrCRegDeclaration : ∀ (m : Marker) (s : P), MG s ∧ Live s m ∧ 1 ≤ s.live →
    wp A2 (Oq3.Grammar.qOrCRegDeclaration fuel m) (fun r s' => MG s' ∧ Fr (m.pos) s s' ∧ s'.live + 1 = s.live) s
  exprBlockStatements : ∀  (s : P), MG s →
    wp A2 (Oq3.Grammar.exprBlockStatements fuel ) (fun r s' => MG s' ∧ Fr (s.events.size) s s' ∧ s'.live = s.live) s
  exprBp : ∀ (m : Option Marker) (r : Restrictions) (bp : Nat) (s : P), MG s ∧ OLive s m →
    wp A2 (Oq3.Grammar.exprBp fuel m r bp) (fun r s' => MG s' ∧ Fr (obound m s) s s' ∧ s'.live + ocount m = s.live ∧ (∀ cm bl, r = some (cm, bl) → Done s' cm ∧ obound m s ≤ cm.pos)) s
  exprBpLoop : ∀ (r : Restrictions) (bp : Nat) (lhs : CompletedMarker) (s : P), MG s ∧ Done s lhs →
    wp A2 (Oq3.Grammar.exprBpLoop fuel r bp lhs) (fun r s' => MG s' ∧ Fr (s.events.size) s s' ∧ s'.live = s.live ∧ (∀ cm bl, r = some (cm, bl) → Done s' cm ∧ lhs.pos ≤ cm.pos)) s
  lhs : ∀ (r : Restrictions) (s : P), MG s →
    wp A2 (Oq3.Grammar.lhs fuel r) (fun r s' => MG s' ∧ Fr (s.events.size) s s' ∧ s'.live = s.live ∧ (∀ cm bl, r = some (cm, bl) → Done s' cm ∧ s.events.size ≤ cm.pos)) s
  postfixExpr : ∀ (lhs : CompletedMarker) (blockLike : BlockLike) (allowCalls : Bool) (s : P), MG s ∧ Done s lhs →
    wp A2 (Oq3.Grammar.postfixExpr fuel lhs blockLike allowCalls) (fun r s' => MG s' ∧ Fr (s.events.size) s s' ∧ s'.live = s.live ∧ Done s' r.1 ∧ lhs.pos ≤ r.1.pos) s
  callExpr : ∀ (lhs : CompletedMarker) (s : P), MG s ∧ Done s lhs →
    wp A2 (Oq3.Grammar.callExpr fuel lhs) (fun r s' => MG s' ∧ Fr (s.events.size) s s' ∧ s'.live = s.live ∧ Done s' r ∧ lhs.pos ≤ r.pos) s
  paramTypeSpec : ∀  (s : P), MG s →
    wp A2 (Oq3.Grammar.paramTypeSpec fuel ) (fun r s' => MG s' ∧ Fr (s.events.size) s s' ∧ s'.live = s.live) s
  typeSpec : ∀  (s : P), MG s →
    wp A2 (Oq3.Grammar.typeSpec fuel ) (fun r s' => MG s' ∧ Fr (s.events.size) s s' ∧ s'.live = s.live) s
  arrayTypeSpec : ∀ (wantArrayRefType : Bool) (s : P), MG s →
    wp A2 (Oq3.Grammar.arrayTypeSpec fuel wantArrayRefType) (fun r s' => MG s' ∧ Fr (s.events.size) s s' ∧ s'.live = s.live) s
  arrayTypeDimsLoop : ∀  (s : P), MG s →
    wp A2 (Oq3.Grammar.arrayTypeDimsLoop fuel ) (fun r s' => MG s' ∧ Fr (s.events.size) s s' ∧ s'.live = s.live) s
  nonArrayTypeSpec : ∀  (s : P), MG s →
    wp A2 (Oq3.Grammar.nonArrayTypeSpec fuel ) (fun r s' => MG s' ∧ Fr (s.events.size) s s' ∧ s'.live = s.live) s
  complexTypeSpec : ∀  (s : P), MG s →
    wp A2 (Oq3.Grammar.complexTypeSpec fuel ) (fun r s' => MG s' ∧ Fr (s.events.size) s s' ∧ s'.live = s.live) s
  qubitTypeSpec : ∀  (s : P), MG s →
    wp A2 (Oq3.Grammar.qubitTypeSpec fuel ) (fun r s' => MG s' ∧ Fr (s.events.size) s s' ∧ s'.live = s.live) s
  designator : ∀  (s : P), MG s →
    wp A2 (Oq3.Grammar.designator fuel ) (fun r s' => MG s' ∧ Fr (s.events.size) s s' ∧ s'.live = s.live) s
  indexExpr : ∀ (lhs : CompletedMarker) (s : P), MG s ∧ Done s lhs →
    wp A2 (Oq3.Grammar.indexExpr fuel lhs) (fun r s' => MG s' ∧ Fr (s.events.size) s s' ∧ s'.live = s.live ∧ Done s' r ∧ lhs.pos ≤ r.pos) s
  indexedIdentifier : ∀ (lhs : CompletedMarker) (s : P), MG s ∧ Done s lhs →
    wp A2 (Oq3.Grammar.indexedIdentifier fuel lhs) (fun r s' => MG s' ∧ Fr (s.events.size) s s' ∧ s'.live = s.live ∧ Done s' r ∧ lhs.pos ≤ r.pos) s
  indexedIdentifierLoop : ∀  (s : P), MG s →
    wp A2 (Oq3.Grammar.indexedIdentifierLoop fuel ) (fun r s' => MG s' ∧ Fr (s.events.size) s s' ∧ s'.live = s.live) s
  setExpression : ∀  (s : P), MG s →
    wp A2 (Oq3.Grammar.setExpression fuel ) (fun r s' => MG s' ∧ Fr (s.events.size) s s' ∧ s'.live = s.live) s
  indexOperator : ∀  (s : P), MG s →
    wp A2 (Oq3.Grammar.indexOperator fuel ) (fun r s' => MG s' ∧ Fr (s.events.size) s s' ∧ s'.live = s.live) s
  callArgList : ∀  (s : P), MG s →
    wp A2 (Oq3.Grammar.callArgList fuel ) (fun r s' => MG s' ∧ Fr (s.events.size) s s' ∧ s'.live = s.live) s
  atomExpr : ∀ (_r : Restrictions) (s : P), MG s →
    wp A2 (Oq3.Grammar.atomExpr fuel _r) (fun r s' => MG s' ∧ Fr (s.events.size) s s' ∧ s'.live = s.live ∧ (∀ cm bl, r = some (cm, bl) → Done s' cm ∧ s.events.size ≤ cm.pos)) s
  castExpr : ∀  (s : P), MG s →
    wp A2 (Oq3.Grammar.castExpr fuel ) (fun r s' => MG s' ∧ Fr (s.events.size) s s' ∧ s'.live = s.live ∧ Done s' r ∧ s.events.size ≤ r.pos) s
  gphaseCallExpr : ∀  (s : P), MG s →
    wp A2 (Oq3.Grammar.gphaseCallExpr fuel ) (fun r s' => MG s' ∧ Fr (s.events.size) s s' ∧ s'.live = s.live ∧ Done s' r ∧ s.events.size ≤ r.pos) s
  modifiedGateCallExpr : ∀  (s : P), MG s →
    wp A2 (Oq3.Grammar.modifiedGateCallExpr fuel ) (fun r s' => MG s' ∧ Fr (s.events.size) s s' ∧ s'.live = s.live ∧ Done s' r ∧ s.events.size ≤ r.pos) s
  modifiedGateCallExprLoop : ∀  (s : P), MG s →
    wp A2 (Oq3.Grammar.modifiedGateCallExprLoop fuel ) (fun r s' => MG s' ∧ Fr (s.events.size) s s' ∧ s'.live = s.live) s
  gateCallExpr : ∀  (s : P), MG s →
    wp A2 (Oq3.Grammar.gateCallExpr fuel ) (fun r s' => MG s' ∧ Fr (s.events.size) s s' ∧ s'.live = s.live ∧ Done s' r ∧ s.events.size ≤ r.pos) s
  measureExpression : ∀  (s : P), MG s →
    wp A2 (Oq3.Grammar.measureExpression fuel ) (fun r s' => MG s' ∧ Fr (s.events.size) s s' ∧ s'.live = s.live ∧ Done s' r ∧ s.events.size ≤ r.pos) s
  tupleExpr : ∀  (s : P), MG s →
    wp A2 (Oq3.Grammar.tupleExpr fuel ) (fun r s' => MG s' ∧ Fr (s.events.size) s s' ∧ s'.live = s.live ∧ Done s' r ∧ s.events.size ≤ r.pos) s
  tupleExprLoop : ∀ (sawComma sawExpr : Bool) (s : P), MG s →
    wp A2 (Oq3.Grammar.tupleExprLoop fuel sawComma sawExpr) (fun r s' => MG s' ∧ Fr (s.events.size) s s' ∧ s'.live = s.live) s
  arrayExpr : ∀  (s : P), MG s →
    wp A2 (Oq3.Grammar.arrayExpr fuel ) (fun r s' => MG s' ∧ Fr (s.events.size) s s' ∧ s'.live = s.live ∧ Done s' r ∧ s.events.size ≤ r.pos) s
  arrayExprLoop : ∀ (nExprs : Nat) (hasSemi : Bool) (s : P), MG s →
    wp A2 (Oq3.Grammar.arrayExprLoop fuel nExprs hasSemi) (fun r s' => MG s' ∧ Fr (s.events.size) s s' ∧ s'.live = s.live) s
  tryBlockExpr : ∀  (s : P), MG s →
    wp A2 (Oq3.Grammar.tryBlockExpr fuel ) (fun r s' => MG s' ∧ Fr (s.events.size) s s' ∧ s'.live = s.live) s
  blockExpr : ∀  (s : P), MG s →
    wp A2 (Oq3.Grammar.blockExpr fuel ) (fun r s' => MG s' ∧ Fr (s.events.size) s s' ∧ s'.live = s.live ∧ Done s' r ∧ s.events.size ≤ r.pos) s
  returnExpr : ∀  (s : P), MG s →
    wp A2 (Oq3.Grammar.returnExpr fuel ) (fun r s' => MG s' ∧ Fr (s.events.size) s s' ∧ s'.live = s.live ∧ Done s' r ∧ s.events.size ≤ r.pos) s
  boxExpr : ∀ (m : Option Marker) (s : P), MG s ∧ OLive s m →
    wp A2 (Oq3.Grammar.boxExpr fuel m) (fun r s' => MG s' ∧ Fr (obound m s) s s' ∧ s'.live + ocount m = s.live ∧ Done s' r ∧ obound m s ≤ r.pos) s
  paramListGateParams : ∀  (s : P), MG s →
    wp A2 (Oq3.Grammar.paramListGateParams fuel ) (fun r s' => MG s' ∧ Fr (s.events.size) s s' ∧ s'.live = s.live) s
  paramListGateQubits : ∀  (s : P), MG s →
    wp A2 (Oq3.Grammar.paramListGateQubits fuel ) (fun r s' => MG s' ∧ Fr (s.events.size) s s' ∧ s'.live = s.live) s
  argListGateCallQubits : ∀  (s : P), MG s →
    wp A2 (Oq3.Grammar.argListGateCallQubits fuel ) (fun r s' => MG s' ∧ Fr (s.events.size) s s' ∧ s'.live = s.live) s
  paramListDefParams : ∀  (s : P), MG s →
    wp A2 (Oq3.Grammar.paramListDefParams fuel ) (fun r s' => MG s' ∧ Fr (s.events.size) s s' ∧ s'.live = s.live) s
  scalarTypeList : ∀  (s : P), MG s →
    wp A2 (Oq3.Grammar.scalarTypeList fuel ) (fun r s' => MG s' ∧ Fr (s.events.size) s s' ∧ s'.live = s.live) s
  paramListDefcalParams : ∀  (s : P), MG s →
    wp A2 (Oq3.Grammar.paramListDefcalParams fuel ) (fun r s' => MG s' ∧ Fr (s.events.size) s s' ∧ s'.live = s.live) s
  paramListDefcalQubits : ∀  (s : P), MG s →
    wp A2 (Oq3.Grammar.paramListDefcalQubits fuel ) (fun r s' => MG s' ∧ Fr (s.events.size) s s' ∧ s'.live = s.live) s
  expressionList : ∀  (s : P), MG s →
    wp A2 (Oq3.Grammar.expressionList fuel ) (fun r s' => MG s' ∧ Fr (s.events.size) s s' ∧ s'.live = s.live) s
  caseValueList : ∀  (s : P), MG s →
    wp A2 (Oq3.Grammar.caseValueList fuel ) (fun r s' => MG s' ∧ Fr (s.events.size) s s' ∧ s'.live = s.live) s
  arrayLiteral : ∀  (s : P), MG s →
    wp A2 (Oq3.Grammar.arrayLiteral fuel ) (fun r s' => MG s' ∧ Fr (s.events.size) s s' ∧ s'.live = s.live) s
  paramListOpenqasm : ∀ (flavor : DefFlavor) (s : P), MG s →
    wp A2 (Oq3.Grammar.paramListOpenqasm fuel flavor) (fun r s' => MG s' ∧ Fr (s.events.size) s s' ∧ s'.live = s.live) s
  paramListOpenqasmLoop : ∀ (flavor : DefFlavor) (numParams : Nat) (s : P), MG s →
    wp A2 (Oq3.Grammar.paramListOpenqasmLoop fuel flavor numParams) (fun r s' => MG s' ∧ Fr (s.events.size) s s' ∧ s'.live = s.live) s
  paramListItem : ∀ (flavor : DefFlavor) (m : Marker) (innerArrayLiteral : Bool) (s : P), MG s ∧ Live s m ∧ 1 ≤ s.live →
    wp A2 (Oq3.Grammar.paramListItem fuel flavor m innerArrayLiteral) (fun r s' => MG s' ∧ Fr (m.pos) s s' ∧ s'.live + 1 = s.live) s
  paramTyped : ∀ (m : Marker) (s : P), MG s ∧ Live s m ∧ 1 ≤ s.live →
    wp A2 (Oq3.Grammar.paramTyped fuel m) (fun r s' => MG s' ∧ Fr (m.pos) s s' ∧ s'.live + 1 = s.live) s
  scalarType : ∀ (m : Marker) (s : P), MG s ∧ Live s m ∧ 1 ≤ s.live →
    wp A2 (Oq3.Grammar.scalarType fuel m) (fun r s' => MG s' ∧ Fr (m.pos) s s' ∧ s'.live + 1 = s.live) s
  argGateCallQubit : ∀ (m : Marker) (s : P), MG s ∧ Live s m ∧ 1 ≤ s.live →
    wp A2 (Oq3.Grammar.argGateCallQubit fuel m) (fun r s' => MG s' ∧ Fr (m.pos) s s' ∧ s'.live + 1 = s.live) s

end Oq3.Grammar
