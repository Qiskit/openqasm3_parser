/-
C17 (renaming through lexer and parser) — the accessors of `Model/Accessors.lean` commute with
renaming the `IDENT` token texts of a concrete syntax tree.

`phi ρ kind text` = the text of a token after the renaming `ρ`: `ρ` applied to the text of an
`IDENT` token, every other token text unchanged.  `R = mapC (phi ρ)` renames a whole tree (kinds,
shape and ranges kept).  Every structural accessor (`support.child/children/token` and the
hand-written ones) returns the renamed constituent: `A (R n) = (A n).map R`; accessors that return
a kind or an operator return the same value; accessors that return the TEXT of a non-identifier
token (`Literal`, `FilePath`) return the same text.

`text_of_first_token` (`Name`/`Identifier`/`Param`/`HardwareQubit` text, pragma and annotation
text, time units) reads the first child whatever its kind.  `renOk ρ t` states the side condition
under which its value is what `renameAst ρ` expects:

* a `NAME`, `IDENTIFIER` or `PARAM` node whose first child is a token has an `IDENT` there (or a
  text that `ρ` fixes) — the grammar builds these nodes only around one `IDENT` token or empty
  (`name_r`, `var_name`, `identifier`, `param_untyped…`, `arg_gate_call_qubit`);
* a `HARDWARE_QUBIT`, `PRAGMA_STATEMENT` or `ANNOTATION_STATEMENT` node does not start with an
  `IDENT` token (or `ρ` fixes its text);
* the identifier of a `TIMING_LITERAL` (the time unit: `ns`, `us`, `dt`, … or whatever identifier
  follows the number) is fixed by `ρ` — `renameAst` does not rename time units.
-/
import Oq3.Lemmas.AccMap
import Oq3.Lemmas.RenameTextDefs
import Oq3.Props.C17RenameSym

namespace Oq3.RenameText
open Oq3.Gen Oq3.Acc Oq3.C17Rename

def phi (ρ : Ren) (k : SyntaxKind) (t : List Char) : List Char :=
  if k == .IDENT then (ρ.f (String.ofList t)).toList else t

theorem phi_ne (ρ : Ren) {k : SyntaxKind} (t : List Char) (h : k ≠ .IDENT) : phi ρ k t = t := by
  simp [phi, h]

variable {ρ : Ren}

local notation "R" => mapC (phi ρ)

/-- what lets every accessor commute with `mapC φ` (`Lemmas/AccMap.lean`): `φ` moves `IDENT` texts only -/
theorem mapC_nodeMap {φ : SyntaxKind → List Char → List Char}
    (hφ : ∀ k t, k ≠ SyntaxKind.IDENT → φ k t = t) : NodeMap (mapC φ) where
  kind := kind_mapC
  isToken := isToken_mapC
  tokenText := fun c h => by
    cases c with
    | node => rfl
    | token k s e t => exact hφ k t h
  childNodes := childNodes_mapC
  childTokens := fun n => by
    simp only [childTokens_mapC, List.filter_map, Function.comp_def, kind_mapC]
  firstNonTrivia := fun n => by
    rw [children_mapC, List.find?_map]
    simp only [Function.comp_def, kind_mapC]

theorem R_map (ρ : Ren) : NodeMap (mapC (phi ρ)) := mapC_nodeMap fun _ t h => phi_ne ρ t h

theorem span_R (c : CNode) : Build.span (R c) = Build.span c := by simp [Build.span]

/-- an instance of `R_map` for reference; no proof uses it -/
theorem call_identifier_R (n : CNode) : CallExpr.identifier (R n) = (CallExpr.identifier n).map R :=
  (R_map ρ).call_identifier n

def headTok (n : CNode) : Option (SyntaxKind × List Char) :=
  match n.children.head? with
  | some (.token k _ _ t) => some (k, t)
  | _ => none

def fixes (ρ : Ren) (t : List Char) : Bool := ρ.f (String.ofList t) == String.ofList t

/-- the condition at one node (see the file header) -/
def localOk (ρ : Ren) (n : CNode) : Bool :=
  match n.kind with
  | .NAME | .IDENTIFIER | .PARAM =>
    (match headTok n with
     | some (k, t) => k == .IDENT || fixes ρ t
     | none => true)
  | .HARDWARE_QUBIT | .PRAGMA_STATEMENT | .ANNOTATION_STATEMENT =>
    (match headTok n with
     | some (k, t) => k != .IDENT || fixes ρ t
     | none => true)
  | .TIMING_LITERAL =>
    (match support.child Identifier.canCast n with
     | some i =>
       (match headTok i with
        | some (_, t) => fixes ρ t
        | none => true)
     | none => true)
  | _ => true

mutual
/-- the side condition at every node of the tree (as `headOk` of `Lemmas/AccTrivia.lean`) -/
def renOk (ρ : Ren) : CNode → Bool
  | .node k s e cs => localOk ρ (.node k s e cs) && renOkL ρ cs
  | .token .. => true
def renOkL (ρ : Ren) : List CNode → Bool
  | [] => true
  | c :: cs => renOk ρ c && renOkL ρ cs
end

theorem renOkL_mem {cs : List CNode} (h : renOkL ρ cs = true) {c : CNode} (hc : c ∈ cs) :
    renOk ρ c = true := by
  induction cs with
  | nil => cases hc
  | cons d ds ih =>
    simp only [renOkL, Bool.and_eq_true] at h
    rcases List.mem_cons.mp hc with rfl | hm
    · exact h.1
    · exact ih h.2 hm

theorem renOk_children {n c : CNode} (h : renOk ρ n = true) (hc : c ∈ n.children) :
    renOk ρ c = true := by
  cases n with
  | token => cases hc
  | node k s e cs =>
    simp only [renOk, Bool.and_eq_true] at h
    exact renOkL_mem h.2 hc

theorem renOk_local {n : CNode} (h : renOk ρ n = true) : localOk ρ n = true := by
  cases n with
  | token k s e t =>
    simp only [localOk]
    split <;> simp [headTok, CNode.children, support.child, CNode.childNodes]
  | node k s e cs =>
    simp only [renOk, Bool.and_eq_true] at h
    exact h.1

theorem head_children_R (n : CNode) : (R n).children.head? = n.children.head?.map R := by
  rw [children_mapC, List.head?_map]

theorem phi_fixes {k : SyntaxKind} {t : List Char} (h : fixes ρ t = true) : phi ρ k t = t := by
  unfold phi
  split
  · rw [eq_of_beq h, String.toList_ofList]
  · rfl

theorem phi_head_name {k : SyntaxKind} {t : List Char}
    (h : (k == SyntaxKind.IDENT || fixes ρ t) = true) :
    String.ofList (phi ρ k t) = ρ.f (String.ofList t) := by
  cases hk : k == SyntaxKind.IDENT
  · rw [hk] at h; rw [phi_fixes h, eq_of_beq h]
  · simp only [phi, hk, if_true, String.ofList_toList]

theorem phi_head_fixed {k : SyntaxKind} {t : List Char}
    (h : (k != SyntaxKind.IDENT || fixes ρ t) = true) : phi ρ k t = t := by
  cases hk : k == SyntaxKind.IDENT
  · simp only [phi, hk]; rfl
  · rw [bne, hk] at h; exact phi_fixes h

theorem text_R_name {n : CNode}
    (h : ∀ k t, headTok n = some (k, t) → (k == SyntaxKind.IDENT || fixes ρ t) = true) :
    Build.text (R n) = (Build.text n).map ρ.f := by
  unfold Build.text HasTextNode.text textOfFirstToken
  rw [head_children_R]
  unfold headTok at h
  rcases hc : n.children.head? with _ | c
  · rfl
  · rw [hc] at h
    cases c with
    | node => rfl
    | token k s e t =>
      simp only [Option.map_some, mapC, Build.ofPRes, Except.map, Build.str, phi_head_name (h k t rfl)]

theorem textOfFirstToken_R_fix {n : CNode}
    (h : ∀ k t, headTok n = some (k, t) → (k != SyntaxKind.IDENT || fixes ρ t) = true) :
    textOfFirstToken (R n) = textOfFirstToken n := by
  unfold textOfFirstToken
  rw [head_children_R]
  unfold headTok at h
  rcases hc : n.children.head? with _ | c
  · rfl
  · rw [hc] at h
    cases c with
    | node => rfl
    | token k s e t => simp only [Option.map_some, mapC, phi_head_fixed (h k t rfl)]

end Oq3.RenameText
