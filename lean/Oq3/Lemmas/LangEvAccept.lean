/-
C04 for a recursive reference language: statements and statement lists are accepted by mutual induction
over the language (`stmt_ok` / `stmts_ok`), then whole programs by the top-level loop
`source_file_contents` / `item` (`sfc_ok`, `sourceFile_ok`).

A statement of the core language is accepted because its image in the extended language is
(`Lemmas/LangEvEmbed.lean`): the statement lemmas of `LangEv2Stmt` / `LangEv2Flat` / `LangEv2Ctl` take the
rule for the expressions inside as a hypothesis `ExprOKF x n`, and `exprOK_toX` supplies it with the fuel
`6 * size t` of the core language.
-/
import Oq3.Lemmas.LangEvEmbed
import Oq3.Lemmas.LangEv2Top
set_option linter.unusedSimpArgs false
set_option linter.unusedVariables false

namespace Oq3.LangEv
open Oq3.Gen Oq3.Parser Oq3.Grammar Oq3.SymExec Oq3.PrattEv Oq3.LangEv2
open Oq3.Gen.Ops (Assoc)

theorem acc_ofS2 (st : Stmt) {x : G Unit} {s : P} (htk : Toks s s.pos (toksS st))
    (h : Toks s s.pos (toksS2 st.toS2) → Acc x s (toksS2 st.toS2).length (evsS2 st.toS2)) :
    Acc x s (toksS st).length (evsS st) := by
  have := h (toksS2_toS2 st ▸ htk)
  rwa [toksS2_toS2, evsS2_toS2] at this

theorem stmtOK2_core {st : Stmt} {n : Nat} (h : StmtOK2 st.toS2 n) (F : Nat) (s : P) (hF : n ≤ F) (hr : RdyF 8 s)
    (htk : Toks s s.pos (toksS st)) (hfol : FollowS2 st.toS2 s (s.pos + (toksS st).length)) :
    Acc (stmt F) s (toksS st).length (evsS st) :=
  acc_ofS2 st htk fun htk => h F s hF hr htk (toksS2_toS2 st ▸ hfol)

/-- the induction hypothesis for the statement list of a block, as the extended language takes it -/
theorem stmtsOK2_core (ss : Stmts) (n : Nat)
    (h : ∀ (F : Nat) (s : P), n ≤ F → RdyF 8 s → Toks s s.pos (toksL ss) →
      closerOf true (s.kindAt (s.pos + (toksL ss).length)) → Acc (exprBlockStatements F) s (toksL ss).length (evsL ss)) :
    StmtsOK2F ss.toL2 n := by
  intro F s hF hr htk hcl
  rw [toksL2_toL2] at htk hcl ⊢
  rw [evsL2_toL2]
  exact h F s hF hr htk (closerOf_true hcl)

theorem endsAssign_toS2 (st : Stmt) : endsAssign st.toS2 = isAssign st := by cases st <;> rfl

theorem endsBlock_toS2 (st : Stmt) : endsBlock st.toS2 = false := by cases st <;> rfl

theorem isLet_toS2 (st : Stmt) : isLet st.toS2 = false := by cases st <;> rfl

theorem needQs_qsOf (n : Nat) : needQs (qsOf n) = n + 3 := by
  induction n with
  | zero => rfl
  | succ n ih => simp only [qsOf, needQs, needQ, ih]; omega

theorem canonQs_qsOf : ∀ n : Nat, CanonQs (qsOf n)
  | 0 => trivial
  | n + 1 => ⟨trivial, canonQs_qsOf n⟩

theorem firstX_toX (t : E) : firstX t.toX = firstTokE t := by
  induction t with
  | bin o l r ihl ihr => exact ihl
  | _ => rfl

theorem exprStmtFirst2_toX (t : E) : exprStmtFirst2 (firstX t.toX) = true := by
  rw [firstX_toX]; exact operandFirst_exprStmtFirst2 (firstTokE_operand t)

theorem startsMinus2_toL2 (ss : Stmts) : startsMinus2 ss.toL2 = startsMinus ss := by
  cases ss with
  | nil => rfl
  | cons st ss => cases st <;> first | rfl | simp only [Stmts.toL2, Stmt.toS2, startsMinus2, startsMinus, firstX_toX]

theorem restFirst_toS2 (st : Stmt) (h : isItem2 st.toS2 = false) : restFirst (firstTokS2 st.toS2) = true := by
  cases st <;> first | rfl | (cases h; done) | skip
  simp only [Stmt.toS2, firstTokS2, restFirst, exprStmtFirst2_toX, Bool.true_or]

theorem widthOK_toX (w : Option E) (h : ∀ e, w = some e → CanonE 1 e) : WidthOK (w.map E.toX) := by
  cases w with
  | none => intro e he; cases he
  | some t =>
    intro e he
    obtain rfl : t.toX = e := Option.some.inj he
    have := operandFirst_ne_lit (firstTokE_operand t)
    rw [firstX_toX]
    exact ⟨(canonX_toX t 1).2 (h t rfl), this.1, this.2.2.2.2⟩

theorem optNeed_ok (w : Option E) : ∀ e, w.map E.toX = some e → ExprOKF e (optNeed w) := by
  cases w with
  | none => intro e he; cases he
  | some t => intro e he; obtain rfl : t.toX = e := Option.some.inj he; exact exprOK_toX t

theorem countXs_xsOf (as : List E) : countXs (xsOf as) = as.length := by
  induction as with
  | nil => rfl
  | cons a as ih => simp only [xsOf, countXs, ih, List.length_cons]

theorem canonXs_xsOf : ∀ as : List E, (∀ x ∈ as, CanonE 1 x) → CanonXs (xsOf as)
  | [], _ => trivial
  | a :: as, h => ⟨(canonX_toX a 1).2 (h a (List.mem_cons_self ..)), canonXs_xsOf as fun x hx => h x (List.mem_cons_of_mem _ hx)⟩

/-- `argsNeed` reserves `6 * size a + 3` for each argument at its position -/
theorem xsOK_core : ∀ (as : List E) (n : Nat), argsNeed as ≤ n + 2 + as.length → XsOK (xsOf as) n
  | [], _, _ => trivial
  | a :: as, n, h => by
    simp only [argsNeed, List.length_cons] at h
    exact ⟨(exprOK_toX a).mono (by rw [countXs_xsOf]; omega), xsOK_core as n (by omega)⟩

theorem argsNeed_ge : ∀ (a : E) (as : List E), as.length + 9 ≤ argsNeed (a :: as)
  | a, [] => by have := need_ge a; have := fuel_bound a; simp only [argsNeed, List.length_nil]; omega
  | a, b :: bs => by have := argsNeed_ge b bs; simp only [argsNeed, List.length_cons] at this ⊢; omega

mutual
/-- **every well-formed statement is accepted by `stmt`**, from any `RdyF 8` state, with exactly its events: by the statement
lemmas of the extended language at the image of the statement, with the fuel bound of the core language; by lemmas of
their own where that bound is below what the extended language needs (`measure q;`, `x = measure q;`) -/
theorem stmt_ok : ∀ (st : Stmt) (F : Nat) (s : P), needS st ≤ F → RdyF 8 s → Toks s s.pos (toksS st) → WFS st →
    FollowS2 st.toS2 s (s.pos + (toksS st).length) → Acc (stmt F) s (toksS st).length (evsS st)
  | .decl ty w none, F, s, hF, hr, htk, hwf, _ =>
    acc_ofS2 (.decl ty w none) htk fun htk => stmt_decl_none2 ty (w.map E.toX) _ (optNeed_ok w) F s hr
      (by simp only [needS, show optNeed none = 0 from rfl] at hF; omega) (by simpa using hwf.1) (widthOK_toX w hwf.2.1) htk
  | .decl ty w (some e), F, s, hF, hr, htk, hwf, _ =>
    acc_ofS2 (.decl ty w (some e)) htk fun htk => stmt_decl_some2 ty (w.map E.toX) e.toX _ _ (optNeed_ok w) (exprOK_toX e) F s hr
      (by simp only [needS, show optNeed (some e) = 6 * size e from rfl] at hF; omega) ((canonX_toX e 1).2 (hwf.2.2 e rfl)) (by simpa using hwf.1)
      (widthOK_toX w hwf.2.1) htk
  | .assign rhs, F, s, hF, hr, htk, hwf, hfol =>
    acc_ofS2 (.assign rhs) htk fun htk => stmt_assign2 none rhs.toX _ (exprOK_toX rhs) F s hr
      (by have := need_ge rhs; have := fuel_bound rhs; simp only [needS] at hF
          rw [show needX (.prim (lhsP none)) = 8 from rfl]; omega)
      htk trivial ((canonX_toX rhs 12).2 hwf) (toksS2_toS2 (.assign rhs) ▸ hfol.assign rfl)
  | .exprS e, F, s, hF, hr, htk, hwf, _ =>
    acc_ofS2 (.exprS e) htk fun htk => stmt_exprS2 e.toX _ (exprOK_toX e) F s hr (by simp only [needS] at hF; omega)
      htk ((canonX_toX e 1).2 hwf) (exprStmtFirst2_toX e)
  | .gate [] nq, F, s, hF, hr, htk, _, _ =>
    acc_ofS2 (.gate [] nq) htk fun htk => stmt_gate_nil2 (qsOf nq) F s hr (by simp only [needS] at hF; rw [needQs_qsOf]; omega)
      htk (canonQs_qsOf nq)
  | .gate (a :: as) nq, F, s, hF, hr, htk, hwf, _ =>
    have hlen := argsNeed_ge a as
    acc_ofS2 (.gate (a :: as) nq) htk fun htk => stmt_gate_cons2 a.toX (xsOf as) (qsOf nq) (argsNeed (a :: as) - as.length - 3)
      (xsOK_core (a :: as) _ (by simp only [List.length_cons]; omega)) F s hr
      (by simp only [needS] at hF; rw [needQs_qsOf]; simp only [countXs, countXs_xsOf]; omega)
      htk (canonXs_xsOf (a :: as) hwf) (canonQs_qsOf nq)
  | .measure, F, s, hF, hr, htk, _, _ => stmt_measure F s hr.rdy hF htk
  | .assignMeasure, F, s, hF, hr, htk, _, hfol => stmt_assignMeasure F s hr.rdy hF htk (hfol.assign rfl)
  | .reset, F, s, hF, hr, htk, _, _ => stmt_reset2 .id F s hr (by simp only [needS] at hF; simp only [needQ]; omega) htk trivial
  | .barrier nq, F, s, hF, hr, htk, _, _ =>
    acc_ofS2 (.barrier nq) htk fun htk => stmt_barrier2 (qsOf nq) F s hr (by simp only [needS] at hF; rw [needQs_qsOf]; omega)
      htk (canonQs_qsOf nq)
  | .brk, F, s, hF, hr, htk, _, _ => stmt_brk2 F s hr hF htk
  | .cont, F, s, hF, hr, htk, _, _ => stmt_cont2 F s hr hF htk
  | .endS, F, s, hF, hr, htk, _, _ => stmt_endS2 F s hr hF htk
  | .ifS c thn, F, s, hF, hr, htk, hwf, hfol =>
    stmtOK2_core (st := .ifS c thn)
      (stmt_of_ifAcc _ _ (ifS_acc c.toX (.blk thn.toL2) _ _ (exprOK_toX c)
        (block_acc2 _ _ (stmtsOK2_core thn _ (stmts_ok true thn hwf.2)))
        ((canonX_toX c 1).2 hwf.1)) rfl)
      F s (by simp only [needS] at hF; omega) hr htk hfol
  | .ifElse c thn els, F, s, hF, hr, htk, hwf, hfol =>
    stmtOK2_core (st := .ifElse c thn els)
      (stmt_of_ifAcc _ _ (ifElse_acc c.toX (.blk thn.toL2) (.blk els.toL2) _ _ _ (exprOK_toX c)
        (block_acc2 _ _ (stmtsOK2_core thn _ (stmts_ok true thn hwf.2.1)))
        (block_acc2 _ _ (stmtsOK2_core els _ (stmts_ok true els hwf.2.2)))
        ((canonX_toX c 1).2 hwf.1) rfl (by simp [firstTokB])) rfl)
      F s (by simp only [needS] at hF; omega) hr htk hfol
  | .whileS c body, F, s, hF, hr, htk, hwf, hfol =>
    stmtOK2_core (st := .whileS c body)
      (stmt_whileS2 c.toX (.blk body.toL2) _ _ (exprOK_toX c)
        (block_acc2 _ _ (stmtsOK2_core body _ (stmts_ok true body hwf.2)))
        ((canonX_toX c 1).2 hwf.1))
      F s (by simp only [needS] at hF; omega) hr htk hfol
  | .forS ty lo hi body, F, s, hF, hr, htk, hwf, hfol =>
    stmtOK2_core (st := .forS ty lo hi body)
      (stmt_forS2 ty none (.range2 lo.toX hi.toX) (.blk body.toL2) (max (6 * size lo) (6 * size hi)) _
        ⟨(exprOK_toX lo).mono (Nat.le_max_left _ _), (exprOK_toX hi).mono (Nat.le_max_right _ _)⟩
        (block_acc2 _ _ (stmtsOK2_core body _ (stmts_ok true body hwf.2.2)))
        (fun h => by cases h) (fun e h => by cases h) ⟨(canonX_toX lo 1).2 hwf.1, (canonX_toX hi 1).2 hwf.2.1⟩ trivial)
      F s (by have := need_ge lo; have := fuel_bound lo; simp only [needS] at hF; simp only [optFuel]; omega) hr htk hfol
  | .gateDef none nq body, F, s, hF, hr, htk, hwf, _ =>
    acc_ofS2 (.gateDef none nq body) htk fun htk => stmt_gateDef_none2 nq body.toL2 (needL body) F
      (stmtsOK2_core body _ (stmts_ok true body hwf))
      s hr hF htk
  | .gateDef (some k) nq body, F, s, hF, hr, htk, hwf, _ =>
    acc_ofS2 (.gateDef (some k) nq body) htk fun htk => stmt_gateDef_some2 k nq body.toL2 (needL body) F
      (stmtsOK2_core body _ (stmts_ok true body hwf))
      s hr hF htk
  | .defS ps ret body, F, s, hF, hr, htk, hwf, _ =>
    acc_ofS2 (.defS ps ret body) htk fun htk => stmt_defS2 ps ret body.toL2 (needL body) F
      (stmtsOK2_core body _ (stmts_ok true body hwf))
      s hr hF htk
  | .ret none, F, s, hF, hr, htk, _, _ => stmt_ret_none2 F s hr hF htk
  | .ret (some e), F, s, hF, hr, htk, hwf, _ =>
    acc_ofS2 (.ret (some e)) htk fun htk => stmt_ret_some2 e.toX _ (exprOK_toX e) F s hr (by simp only [needS] at hF; omega)
      htk ((canonX_toX e 1).2 (hwf e rfl)) (exprStmtFirst2_toX e)
/-- **every well-formed statement list is accepted by the statement loop** -/
theorem stmts_ok : ∀ (curly : Bool) (ss : Stmts), WFL ss → ∀ (F : Nat) (s : P), needL ss ≤ F → RdyF 8 s →
    Toks s s.pos (toksL ss) → closerOf curly (s.kindAt (s.pos + (toksL ss).length)) →
    Acc (exprBlockStatements F) s (toksL ss).length (evsL ss)
  | curly, .nil, _, F, s, hF, hr, htk, hcl => by
    obtain ⟨g, rfl⟩ : ∃ g, F = g + 1 := ⟨F - 1, by simp only [needL] at hF; omega⟩
    exact ebs_nil g s (closerOf_closer hcl)
  | curly, .cons st ss, hwf, F, s, hF, hr, htk, hcl => by
    obtain ⟨g, rfl⟩ : ∃ g, F = g + 1 := ⟨F - 1, by simp only [needL] at hF; omega⟩
    simp only [needL] at hF
    simp only [toksL, Toks_append, List.length_append] at htk hcl ⊢
    obtain ⟨j, ts, hts⟩ := toksS2_first st.toS2
    rw [toksS2_toS2] at hts
    have h0 : s.kindAt s.pos = firstTokS2 st.toS2 := Toks_head htk.1 hts
    obtain ⟨hne1, hne2, -⟩ := stmtFirst_props _ (firstTokS2_stmtFirst st.toS2)
    refine ebs_cons g s _ _ _ _ (by rw [h0]; exact hne1) (by rw [h0]; exact hne2)
      (stmt_ok st g s (by omega) hr htk.1 hwf.1
        (followS2_next st.toS2 ss.toL2 curly s _ (toksL2_toL2 ss ▸ htk.2) (by rw [toksL2_toL2, Nat.add_assoc]; exact hcl)
          (by rw [endsAssign_toS2, startsMinus2_toL2]; exact hwf.2.2) (fun h => by rw [endsBlock_toS2] at h; cases h)))
      (fun st' sb' hle => stmts_ok curly ss hwf.2.1 g _ (by omega)
        (hr.ov 8 _ _ _ _ _ (by have := hr.steps; omega))
        ((Toks_ov s _ _ _ _ _ _ _ _).2 htk.2)
        (by show closerOf curly (s.kindAt (s.pos + _ + _)); rw [Nat.add_assoc]; exact hcl))
end

/-- **the top-level loop accepts every well-formed program** -/
theorem sfc_ok : ∀ (p : Stmts) (F : Nat) (s : P), needL p + 3 ≤ F → RdyF 9 s → Toks s s.pos (toksL p) →
    s.kindAt (s.pos + (toksL p).length) = .EOF → WFL p →
    AccW (sourceFileContents F false) s (toksL p).length (evsL p)
  | .nil, F, s, hF, hr, htk, heof, _ => by
    obtain ⟨g, rfl⟩ : ∃ g, F = g + 1 := ⟨F - 1, by omega⟩
    obtain ⟨st, sb, -, h⟩ := sfc_nil g s heof
    exact ⟨st, sb, h⟩
  | .cons st ss, F, s, hF, hr, htk, heof, hwf => by
    obtain ⟨g, rfl⟩ : ∃ g, F = g + 1 + 1 + 1 := ⟨F - 3, by omega⟩
    have hF' := hF
    simp only [needL] at hF'
    obtain ⟨j, ts, hts⟩ := toksS2_first st.toS2
    rw [toksS2_toS2] at hts
    have htk' := htk
    simp only [toksL, Toks_append, List.length_append] at htk' heof ⊢
    have h0 : s.kindAt s.pos = firstTokS2 st.toS2 := Toks_head htk'.1 hts
    obtain ⟨hne1, hne2, -⟩ := stmtFirst_props _ (firstTokS2_stmtFirst st.toS2)
    have hcl : closerOf false (s.kindAt (s.pos + (toksS st).length + (toksL2 ss.toL2).length)) :=
      closerOf_false (by rw [toksL2_toL2, Nat.add_assoc]; exact heof)
    cases hit : isItem2 st.toS2 with
    | true =>
      have hnext := (next_ne ss.toL2 false s _ (toksL2_toL2 ss ▸ htk'.2) hcl).2
      obtain ⟨hif, hlet⟩ := isItem2_first st.toS2 hit (isLet_toS2 st) s (toksS2_toS2 st ▸ htk'.1)
      obtain ⟨st1, sb1, hle1, hx⟩ := item_of_stmt (g + 1) s _ _
          (stmt_ok st (g + 1 + 1) s (by omega) (hr.mono (by omega)) htk'.1 hwf.1
            (followS2_next st.toS2 ss.toL2 false s _ (toksL2_toL2 ss ▸ htk'.2) hcl
              (by rw [endsAssign_toS2, startsMinus2_toL2]; exact hwf.2.2) (fun _ h => by cases h)))
          hif hlet hnext
      exact sfc_cons (g + 1 + 1) s _ _ _ _ st1 sb1 (by rw [h0]; exact hne1) (by rw [h0]; exact hne2) hx
        (sfc_ok ss (g + 1 + 1) _ (by omega)
          (hr.ov 9 _ _ _ _ _ (by have := hr.steps; omega))
          ((Toks_ov s _ _ _ _ _ _ _ _).2 htk'.2)
          (by show s.kindAt (s.pos + _ + _) = _; rw [Nat.add_assoc]; exact heof) hwf.2.1)
    | false =>
      have hall := stmts_ok false (.cons st ss) hwf (g + 1)
        (s.ov [] 0 (s.steps + 1) (s.sinceBump + 1) s.live s.protectedPos) (by omega)
        (hr.ov 8 _ _ _ _ _ (by have := hr.steps; omega))
        ((Toks_ov s _ _ _ _ _ _ _ _).2 (by rw [Nat.add_zero]; exact htk))
        (closerOf_false (by show s.kindAt (s.pos + 0 + _) = _; rw [Nat.add_zero]; simp only [toksL, List.length_append]; exact heof))
      obtain ⟨st', sb', hle, hrest⟩ := hall.at_ov
      simp only [List.nil_append, Nat.zero_add] at hrest
      have hrf := restFirst_props (restFirst_toS2 st hit)
      have hitem := item_rest g s (hr.mono (by omega)).rdy _ h0 hrf.1 hrf.2.1 hrf.2.2.1 hrf.2.2.2 _ hrest
      obtain ⟨st2, sb2, -, hnil⟩ := sfc_nil (g + 1) (s.ov (evsL (.cons st ss)) (toksL (.cons st ss)).length st' sb' s.live s.protectedPos)
        (by show s.kindAt (s.pos + _) = _; simp only [toksL, List.length_append]; exact heof)
      have := sfc_cons (g + 2) s _ 0 _ [] st' sb' (by rw [h0]; exact hne1) (by rw [h0]; exact hne2) hitem ⟨st2, sb2, hnil⟩
      simpa [toksL, evsL] using this

/-- **`source_file` accepts every well-formed program**, from any ready state whose input is the
print of the program followed by the end of the input -/
theorem sourceFile_ok (p : Stmts) (F : Nat) (s : P) (hF : needL p + 3 ≤ F) (hr : RdyF 9 s)
    (htk : Toks s s.pos (toksL p)) (heof : s.kindAt (s.pos + (toksL p).length) = .EOF) (hwf : WFL p) :
    AccW (sourceFile F) s (toksL p).length (evsP p) :=
  sourceFile_of_sfc F s hr.rdy _ _ (sfc_ok p F _ hF (hr.ov 9 _ _ _ _ _ hr.steps)
    ((Toks_ov s _ _ _ _ _ _ _ _).2 (by rw [Nat.add_zero]; exact htk))
    (by show s.kindAt (s.pos + 0 + _) = _; rw [Nat.add_zero]; exact heof) hwf)

end Oq3.LangEv
