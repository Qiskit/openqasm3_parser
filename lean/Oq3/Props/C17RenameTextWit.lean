/-
C17 — renaming through lexer and parser: two closed instances of `rename_invariant_text_partial`
(`Props/C17RenameText.lean`; `wit_instance`, `wit2_instance`) in which every hypothesis, the
tree-level side condition `hok` included, is discharged by evaluation of the model.
-/
import Oq3.Props.C17RenameText

namespace Oq3.C17RenameText
open Oq3.Gen Oq3.Lexer Oq3.Lexed Oq3.Ref Oq3.Parser Oq3.Grammar Oq3.Builder Oq3.Bridge
open Oq3.Lemmas.Lexer Oq3.Lemmas.Lexed Oq3.Lemmas.LexLocal Oq3.Props.C15 Oq3.BuilderLayout
open Oq3.C17Lex Oq3.C17Rename Oq3.RenameText Oq3.Acc Oq3.C17 Oq3.Sema

section Witness
open Oq3.Props.C14

/-- `qubit a;reset a;` -/
def rlayA : List (Lexeme × Sep) :=
  [(.word "qubit".toList, [.ws [' ']]), (.word ['a'], []), (.punct ';', []),
   (.word "reset".toList, [.ws [' ']]), (.word ['a'], []), (.punct ';', [])]

/-- `qubit _a;reset _a;` — the user name `a` renamed by `underscoreRen`; keywords untouched -/
def rlayB : List (Lexeme × Sep) :=
  [(.word "qubit".toList, [.ws [' ']]), (.word ['_', 'a'], []), (.punct ';', []),
   (.word "reset".toList, [.ws [' ']]), (.word ['_', 'a'], []), (.punct ';', [])]

theorem wit_ren : renItems underscoreRen rlayA rlayB = true := by decide +kernel

theorem wit_ok : itemsOK ucAscii rlayA = true ∧ itemsOK ucAscii rlayB = true ∧
    sepOK [] (itemsText rlayA) = true ∧ sepOK [] (itemsText rlayB) = true := by decide +kernel

theorem wit_hok : ∀ c, frontTree ucAscii 200 0 (sepText [] ++ itemsText rlayA) = some c →
    renTreeOk underscoreRen c = true := by
  have h : (frontTree ucAscii 200 0 (sepText [] ++ itemsText rlayA)).all (renTreeOk underscoreRen) = true := by
    decide +kernel
  intro c hc
  rw [hc] at h
  exact h

/-- so the instance below is not `none = none` -/
theorem wit_some : (frontEnd ucAscii 200 0 (sepText [] ++ itemsText rlayA)).isSome = true := by
  decide +kernel

theorem wit_instance (afuel : Nat) :
    (frontEnd ucAscii 200 0 (sepText [] ++ itemsText rlayB)).map
        (fun p => (analyzeWith afuel p).map erCtx) =
      (frontEnd ucAscii 200 0 (sepText [] ++ itemsText rlayA)).map
        (fun p => (analyzeWith afuel p).map (fun c => renameCtx underscoreRen (erCtx c))) :=
  rename_invariant_text_partial Oq3.Props.C15.ucAscii_ok underscoreRen [] rlayA rlayB wit_ren
    wit_ok.2.2.1 wit_ok.1 wit_ok.2.2.2 wit_ok.2.1 200 0 afuel wit_hok

/-- what clause 2 of the side condition looks at: the head token of the identifier of a
`TIMING_LITERAL` is the unit `ns`, and a map on names that moves `ns` does not fix it.  (The example
evaluates the accessor and the map; it does not evaluate `renTreeOk` at a `Ren`.) -/
example :
    let swapNs : String → String := fun s => if s = "ns" then "sn" else if s = "sn" then "ns" else s
    let tl : CNode := .node .TIMING_LITERAL 0 4
      [.node .LITERAL 0 2 [.token .INT_NUMBER 0 2 ['1', '0']],
       .node .IDENTIFIER 2 4 [.token .IDENT 2 4 ['n', 's']]]
    (match support.child Identifier.canCast tl with
     | some i => (headTok i).map (fun kt => swapNs (String.ofList kt.2) == String.ofList kt.2)
     | none => none) = some false := by decide +kernel

end Witness

section Witness2
open Oq3.Props.C14

def renLay (ρ : Ren) (items : List (Lexeme × Sep)) : List (Lexeme × Sep) :=
  items.map fun p =>
    match p.1 with
    | .word w => if Lexeme.wordKind w == .IDENT then (.word (ρ.f (String.ofList w)).toList, p.2) else p
    | _ => p

/-- `gate g(w) q{U(w,0,0) q;}qubit a;g(pi) a;` -/
def rlayC : List (Lexeme × Sep) :=
  [(.word "gate".toList, [.ws [' ']]), (.word ['g'], []), (.punct '(', []), (.word ['w'], []),
   (.punct ')', [.ws [' ']]), (.word ['q'], []), (.punct '{', []), (.word ['U'], []), (.punct '(', []),
   (.word ['w'], []), (.punct ',', []), (.int ['0'], []), (.punct ',', []), (.int ['0'], []),
   (.punct ')', [.ws [' ']]), (.word ['q'], []), (.punct ';', []), (.punct '}', []),
   (.word "qubit".toList, [.ws [' ']]), (.word ['a'], []), (.punct ';', []),
   (.word ['g'], []), (.punct '(', []), (.word ['p', 'i'], []), (.punct ')', [.ws [' ']]),
   (.word ['a'], []), (.punct ';', [])]

/-- `gate _g(_w) _q{U(_w,0,0) _q;}qubit _a;_g(pi) _a;` — `U` and `pi` are fixed names (so is every
standard gate name, e.g. `t`) -/
def rlayD : List (Lexeme × Sep) := renLay underscoreRen rlayC

example : itemsText rlayD = "gate _g(_w) _q{U(_w,0,0) _q;}qubit _a;_g(pi) _a;".toList := by decide +kernel

theorem wit2_ren : renItems underscoreRen rlayC rlayD = true := by decide +kernel

theorem wit2_ok : itemsOK ucAscii rlayC = true ∧ itemsOK ucAscii rlayD = true ∧
    sepOK [] (itemsText rlayC) = true ∧ sepOK [] (itemsText rlayD) = true := by decide +kernel

theorem wit2_hok : hokB ucAscii 700 0 underscoreRen (sepText [] ++ itemsText rlayC) = true := by
  decide +kernel

theorem wit2_some : (frontEnd ucAscii 700 0 (sepText [] ++ itemsText rlayC)).isSome = true := by
  decide +kernel

theorem wit2_instance (afuel : Nat) :
    (frontEnd ucAscii 700 0 (sepText [] ++ itemsText rlayD)).map
        (fun p => (analyzeWith afuel p).map erCtx) =
      (frontEnd ucAscii 700 0 (sepText [] ++ itemsText rlayC)).map
        (fun p => (analyzeWith afuel p).map (fun c => renameCtx underscoreRen (erCtx c))) :=
  rename_invariant_text_partial Oq3.Props.C15.ucAscii_ok underscoreRen [] rlayC rlayD wit2_ren
    wit2_ok.2.2.1 wit2_ok.1 wit2_ok.2.2.2 wit2_ok.2.1 700 0 afuel (hok_of_check wit2_hok)

/-- what the two analyses are (evaluated): the same three statements, no diagnostics, and the user
symbols `w q g a` of the first text are `_w _q _g _a` in the second -/
example :
    (frontEnd ucAscii 700 0 (sepText [] ++ itemsText rlayC)).map (fun p =>
      match analyzeWith 200 p with
      | .ok c => some (c.symbolTable.all.map Oq3.Symbols.Sym.name, c.semanticErrors.length, c.program.length)
      | .error _ => none) =
    some (some (["pi", "π", "euler", "ℇ", "tau", "τ", "U", "w", "q", "g", "a"], 0, 3)) ∧
    (frontEnd ucAscii 700 0 (sepText [] ++ itemsText rlayD)).map (fun p =>
      match analyzeWith 200 p with
      | .ok c => some (c.symbolTable.all.map Oq3.Symbols.Sym.name, c.semanticErrors.length, c.program.length)
      | .error _ => none) =
    some (some (["pi", "π", "euler", "ℇ", "tau", "τ", "U", "_w", "_q", "_g", "_a"], 0, 3)) := by
  constructor <;> decide +kernel

end Witness2

end Oq3.C17RenameText
