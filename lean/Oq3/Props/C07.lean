/-
C07 — names resolve by lexical scoping; undeclared and duplicate names are diagnosed.

Statements about the model `Oq3.Sema` (context operations of `SemaCtx.lean`, the mutual block of
`Sema.lean`), all for arbitrary ASTs, fuel and contexts:

* `frame_*`: analysing a statement (or any function of the block) leaves every scope below the
  current one untouched and only *extends* the current scope (`Ext` of `Lemmas/SemaInv.lean`);
  `lookup_after_frame`: hence a look-up afterwards answers as before unless the statement itself
  bound that name at its own level; `withScope_lookup_unchanged`: nothing bound inside an
  if/else/while/for/case/default/gate/def body is visible after it.
* `ids_name_correct_*`: every `ok id` produced by `lookupSymbol`/`lookupGateSymbol`/`newBinding`
  indexes a symbol with the looked-up/bound name (and type), and keeps doing so in every later
  table (`ids_stable_ext`).
* `undeclared_logs_once*`, `redeclaration_marked`, `shadowing_silent`: the three diagnostics, with the
  exact resulting state.
* `init_before_bind`: the unfolding equation of `classicalDeclarationStatementToAsgStmt` and the
  closed witness `int x = x;`.
* `witness_F07_*`: single-statement if/else bodies are analysed twice (duplicated diagnostics).
-/
import Oq3.Props.C03

namespace Oq3.Props.C07
open Oq3 Oq3.Sema Oq3.Types Oq3.Symbols

/-- **frame, statements**: scopes below the current one untouched; the current scope keeps its
kind and its old entries (as a suffix of the new entry list) -/
theorem frame_stmt (fuel : Nat) (stmt : Ast.Stmt) (s : Ctx) (r : Option Stmt × Ctx)
    (h : stmtToAsgStmt fuel stmt s = .ok r) :
    r.2.symbolTable.stack.tail = s.symbolTable.stack.tail ∧
    ∀ top ∈ s.symbolTable.stack.head?, ∃ top' ∈ r.2.symbolTable.stack.head?,
      top'.kind = top.kind ∧ top.tab <:+ top'.tab :=
  let e := ((allPres fuel).stmtToAsgStmt stmt).run s r h
  ⟨e.sym.tail, e.sym.head⟩

theorem frame_expr (fuel : Nat) (e : Option Ast.Expr) (s : Ctx) (r : Option TExpr × Ctx)
    (h : exprToAsgTexpr fuel e s = .ok r) :
    r.2.symbolTable.stack.tail = s.symbolTable.stack.tail ∧
    ∀ top ∈ s.symbolTable.stack.head?, ∃ top' ∈ r.2.symbolTable.stack.head?,
      top'.kind = top.kind ∧ top.tab <:+ top'.tab :=
  let x := ((allPres fuel).exprToAsgTexpr e).run s r h
  ⟨x.sym.tail, x.sym.head⟩

theorem get_append (new old : List (Name × Nat)) (k : ScopeType) (n : Name) :
    (Scope.mk (new ++ old) k).get n =
      match (Scope.mk new k).get n with
      | some id => some id
      | none => (Scope.mk old k).get n := by
  unfold Scope.get
  simp only [List.find?_append]
  cases h : List.find? (fun p => p.1 == n) new <;> simp

theorem get_new_none_of_old_some {new old : List (Name × Nat)} {k : ScopeType} {n : Name} {id : Nat}
    (hnd : ((new ++ old).map (·.1)).Nodup) (ho : (Scope.mk old k).get n = some id) :
    (Scope.mk new k).get n = none := by
  rw [C19.get_none_iff]
  intro p hp hpn
  have hm := C19.get_some_mem ho
  simp only [List.map_append] at hnd
  have := (List.nodup_append.mp hnd).2.2 p.1 (List.mem_map_of_mem hp) n
    (List.mem_map_of_mem (f := (·.1)) hm)
  exact this hpn

/-- **look-up after a framed step**: the answer is the same as before, unless the current scope
did not bind the name before and binds it now (the step declared it at its own level) -/
theorem lookup_after_frame {t t' : SymTab} (h : SymExt t t') (hi : C19.Inv t') (n : Name) :
    t'.lookupId n = t.lookupId n ∨
    ∃ top top', t.stack.head? = some top ∧ t'.stack.head? = some top' ∧
      top.get n = none ∧ top'.get n ≠ none := by
  cases hst : t.stack with
  | nil =>
    have hl := h.len; rw [hst] at hl
    have : t'.stack = [] := List.eq_nil_of_length_eq_zero hl
    left; unfold SymTab.lookupId; rw [hst, this]
  | cons top rest =>
    obtain ⟨top', htop', hk, hsuf⟩ := h.head top (by rw [hst]; rfl)
    have ht' : t'.stack = top' :: rest := by
      have htl := h.tail; rw [hst] at htl
      cases hst' : t'.stack with
      | nil => rw [hst'] at htop'; simp at htop'
      | cons a b =>
        rw [hst'] at htop' htl
        simp only [List.head?_cons, Option.mem_def, Option.some.injEq] at htop'
        simp only [List.tail_cons] at htl
        rw [htop', htl]
    obtain ⟨new, hnew⟩ := hsuf
    have hnd := hi.keys_nodup top' (by rw [ht']; simp)
    rw [← hnew] at hnd
    have hget : top'.get n = (Scope.mk (new ++ top.tab) top'.kind).get n := by
      rw [hnew]
    unfold SymTab.lookupId
    rw [hst, ht']
    simp only [List.findSome?_cons]
    cases hold : top.get n with
    | some id =>
      left
      have hold' : (Scope.mk top.tab top'.kind).get n = some id := by
        simpa [Scope.get] using hold
      have hn := get_new_none_of_old_some hnd hold'
      rw [hget, get_append, hn]; simp only []; rw [hold']
    | none =>
      cases hnew' : top'.get n with
      | none => left; rfl
      | some id' =>
        right
        exact ⟨top, top', rfl, rfl, hold, by rw [hnew']; simp⟩

/-- look-up after a statement: same as before unless the statement itself bound the name in the
scope it was analysed in -/
theorem lookup_after_stmt (fuel : Nat) (stmt : Ast.Stmt) (s : Ctx) (r : Option Stmt × Ctx)
    (h : stmtToAsgStmt fuel stmt s = .ok r) (hi : C19.Inv s.symbolTable) (n : Name) :
    r.2.symbolTable.lookupId n = s.symbolTable.lookupId n ∨
    ∃ top top', s.symbolTable.stack.head? = some top ∧ r.2.symbolTable.stack.head? = some top' ∧
      top.get n = none ∧ top'.get n ≠ none :=
  let e := ((allPres fuel).stmtToAsgStmt stmt).run s r h
  lookup_after_frame e.sym (e.sym.inv hi) n

/-- **names that go out of scope are not visible afterwards**: whatever a `with_scope!` body
binds, every look-up after the construct answers exactly as before it -/
theorem withScope_lookup_unchanged {α} (k : ScopeType) (body : M α) (hb : Pres body) (s : Ctx)
    (r : α × Ctx) (h : withScope k body s = .ok r) (n : Name) :
    r.2.symbolTable.lookupId n = s.symbolTable.lookupId n := by
  unfold SymTab.lookupId
  rw [C03.withScope_restores k body hb s r h]

theorem ids_stable_ext {t t' : SymTab} (h : SymExt t t') (id : Nat) (sym : Sym)
    (hs : t.all[id]? = some sym) : t'.all[id]? = some sym :=
  C19.getElem?_of_prefix h.all hs

theorem tableLookup_spec (name : String) (s : Ctx) (hi : C19.Inv s.symbolTable) :
    (s.symbolTable.lookupId name = none ∧
      tableLookup name s = .ok ((.error .missingBinding, .undefined), s)) ∨
    ∃ id ty, s.symbolTable.lookupId name = some id ∧ s.symbolTable.all[id]? = some ⟨name, ty⟩ ∧
      tableLookup name s = .ok ((.ok id, ty), s) := by
  rcases C19.lookup_sound s.symbolTable hi name with ⟨hm, hl⟩ | ⟨id, ty, hf, hl, ha⟩
  · left
    refine ⟨hl, ?_⟩
    unfold tableLookup
    rw [M.bind_ok]
    refine ⟨.missing, s, ?_, by simp⟩
    rw [symStep_ok]
    refine ⟨by rw [hm]; simp, ?_⟩
    rw [hm, step_lookup_state]
  · right
    refine ⟨id, ty, hl, ha, ?_⟩
    unfold tableLookup
    rw [M.bind_ok]
    refine ⟨.found id name ty, s, ?_, by simp⟩
    rw [symStep_ok]
    refine ⟨by rw [hf]; simp, ?_⟩
    rw [hf, step_lookup_state]

/-- `lookupSymbol` and `lookupGateSymbol` with the kind of their diagnostic as a parameter -/
def lookupK (k : SemanticErrorKind) (name : String) (node : Ast.Span) : M (SymbolIdResult × T) := do
  let r ← tableLookup name
  if !r.1.isOk then insertError k node
  pure r

theorem ids_name_correct_lookupK (k : SemanticErrorKind) (name : String) (node : Ast.Span) (s : Ctx)
    (hi : C19.Inv s.symbolTable) (id : Nat) (ty : T) (s' : Ctx)
    (h : lookupK k name node s = .ok ((.ok id, ty), s')) :
    s' = s ∧ s.symbolTable.all[id]? = some ⟨name, ty⟩ ∧ s.symbolTable.lookupId name = some id := by
  unfold lookupK at h
  obtain ⟨r1, s1, h1, h2⟩ := (M.bind_ok _ _ _ _).mp h
  rcases tableLookup_spec name s hi with ⟨_, hm⟩ | ⟨id', ty', hl, ha, hf⟩
  · rw [hm] at h1
    simp only [Except.ok.injEq, Prod.mk.injEq] at h1
    obtain ⟨rfl, rfl⟩ := h1
    simp only [SymbolIdResult.isOk, Bool.not_false, if_true] at h2
    obtain ⟨_, s2, _, h3⟩ := (M.bind_ok _ _ _ _).mp h2
    simp at h3
  · rw [hf] at h1
    simp only [Except.ok.injEq, Prod.mk.injEq] at h1
    obtain ⟨rfl, rfl⟩ := h1
    simp [SymbolIdResult.isOk] at h2
    obtain ⟨⟨rfl, rfl⟩, rfl⟩ := h2
    exact ⟨rfl, ha, hl⟩

/-- **`lookupSymbol`: an `ok id` indexes a symbol named as looked up** (with the returned type),
and the state is unchanged -/
theorem ids_name_correct_lookupSymbol (name : String) (node : Ast.Span) (s : Ctx)
    (hi : C19.Inv s.symbolTable) (id : Nat) (ty : T) (s' : Ctx)
    (h : lookupSymbol name node s = .ok ((.ok id, ty), s')) :
    s' = s ∧ s.symbolTable.all[id]? = some ⟨name, ty⟩ ∧ s.symbolTable.lookupId name = some id :=
  ids_name_correct_lookupK _ name node s hi id ty s' h

theorem ids_name_correct_lookupGateSymbol (name : String) (node : Ast.Span) (s : Ctx)
    (hi : C19.Inv s.symbolTable) (id : Nat) (ty : T) (s' : Ctx)
    (h : lookupGateSymbol name node s = .ok ((.ok id, ty), s')) :
    s' = s ∧ s.symbolTable.all[id]? = some ⟨name, ty⟩ ∧ s.symbolTable.lookupId name = some id :=
  ids_name_correct_lookupK _ name node s hi id ty s' h

def topScope (s : Ctx) : Option Scope := s.symbolTable.stack.head?

/-- **`newBinding`, fresh name**: returns the next fresh id, which indexes a symbol with exactly the
bound name and type; nothing is logged; the new entry is visible to look-up -/
theorem ids_name_correct_newBinding (name : String) (typ : T) (node : Ast.Span) (s : Ctx)
    (hi : C19.Inv s.symbolTable) (top : Scope) (rest : List Scope)
    (hst : s.symbolTable.stack = top :: rest) (hfree : top.get name = none) :
    ∃ s', newBinding name typ node s = .ok (.ok s.symbolTable.all.length, s') ∧
      s'.symbolTable.all[s.symbolTable.all.length]? = some ⟨name, typ⟩ ∧
      s'.symbolTable.lookupId name = some s.symbolTable.all.length ∧
      s'.semanticErrors = s.semanticErrors := by
  have hb := C19.bind_ok s.symbolTable hi name typ top rest hst hfree
  have hsym : symStep "current_scope: no scope" (.bind name typ) s =
      .ok (.bound s.symbolTable.all.length,
        { s with symbolTable := (s.symbolTable.step (.bind name typ)).1 }) := by
    rw [symStep_ok]; exact ⟨by rw [hb]; simp, by rw [hb]⟩
  refine ⟨{ s with symbolTable := (s.symbolTable.step (.bind name typ)).1 }, ?_, ?_, ?_, rfl⟩
  · unfold newBinding
    rw [M.bind_ok]
    exact ⟨_, _, hsym, by simp⟩
  · simp [hb]
  · simp only [hb]
    unfold SymTab.lookupId
    simp [Scope.get]

/-- shadowing is silent: a name bound only in an *outer* scope can be bound again, with no
diagnostic (special case of the previous theorem, stated for emphasis) -/
theorem shadowing_silent (name : String) (typ : T) (node : Ast.Span) (s : Ctx)
    (hi : C19.Inv s.symbolTable) (top : Scope) (rest : List Scope)
    (hst : s.symbolTable.stack = top :: rest) (hfree : top.get name = none)
    (_houter : ∃ sc ∈ rest, sc.get name ≠ none) :
    ∃ s', newBinding name typ node s = .ok (.ok s.symbolTable.all.length, s') ∧
      s'.semanticErrors = s.semanticErrors := by
  obtain ⟨s', h1, _, _, h4⟩ := ids_name_correct_newBinding name typ node s hi top rest hst hfree
  exact ⟨s', h1, h4⟩

theorem undeclared_lookupK (k : SemanticErrorKind) (name : String) (node : Ast.Span) (s : Ctx)
    (hi : C19.Inv s.symbolTable) (hl : s.symbolTable.lookupId name = none) :
    lookupK k name node s = .ok ((.error .missingBinding, .undefined),
      { s with semanticErrors := s.semanticErrors ++ [⟨k, node.start, node.stop⟩] }) := by
  rcases tableLookup_spec name s hi with ⟨_, hm⟩ | ⟨id', ty', hl', _, _⟩
  · unfold lookupK
    rw [M.bind_ok]
    refine ⟨_, _, hm, ?_⟩
    simp only [SymbolIdResult.isOk, Bool.not_false, if_true]
    rw [M.bind_ok]
    exact ⟨(), _, (insertError_ok _ _ _ _).mpr rfl, by simp⟩
  · rw [hl] at hl'; simp at hl'

/-- **undeclared use**: `(Err(MissingBinding), Undefined)`, exactly one `UndefVarError` at the node,
nothing else changes -/
theorem undeclared_logs_once (name : String) (node : Ast.Span) (s : Ctx)
    (hi : C19.Inv s.symbolTable) (hl : s.symbolTable.lookupId name = none) :
    lookupSymbol name node s = .ok ((.error .missingBinding, .undefined),
      { s with semanticErrors := s.semanticErrors ++ [⟨.undefVarError, node.start, node.stop⟩] }) :=
  undeclared_lookupK _ name node s hi hl

theorem undeclared_gate_logs_once (name : String) (node : Ast.Span) (s : Ctx)
    (hi : C19.Inv s.symbolTable) (hl : s.symbolTable.lookupId name = none) :
    lookupGateSymbol name node s = .ok ((.error .missingBinding, .undefined),
      { s with semanticErrors := s.semanticErrors ++ [⟨.undefGateError, node.start, node.stop⟩] }) :=
  undeclared_lookupK _ name node s hi hl

theorem declared_logs_nothing (name : String) (node : Ast.Span) (s : Ctx)
    (hi : C19.Inv s.symbolTable) (id : Nat) (hl : s.symbolTable.lookupId name = some id) :
    ∃ ty, lookupSymbol name node s = .ok ((.ok id, ty), s) ∧
      s.symbolTable.all[id]? = some ⟨name, ty⟩ := by
  rcases tableLookup_spec name s hi with ⟨hl', _⟩ | ⟨id', ty', hl', ha, hf⟩
  · rw [hl] at hl'; simp at hl'
  · rw [hl] at hl'; simp only [Option.some.injEq] at hl'; subst hl'
    refine ⟨ty', ?_, ha⟩
    unfold lookupSymbol
    rw [M.bind_ok]
    exact ⟨_, _, hf, by simp [SymbolIdResult.isOk]⟩

/-- **redeclaration**: a name already bound in the *current* scope yields `Err(AlreadyBound)`,
exactly one `RedeclarationError` at the node, and the table is unchanged (the first binding is
kept) -/
theorem redeclaration_marked (name : String) (typ : T) (node : Ast.Span) (s : Ctx)
    (top : Scope) (rest : List Scope) (hst : s.symbolTable.stack = top :: rest)
    (hbound : top.get name ≠ none) :
    newBinding name typ node s = .ok (.error .alreadyBound,
      { s with semanticErrors :=
          s.semanticErrors ++ [⟨.redeclarationError, node.start, node.stop⟩] }) := by
  have hsome : (top.get name).isSome = true := by
    cases hg : top.get name with
    | none => exact absurd hg hbound
    | some v => rfl
  have hstep : s.symbolTable.step (.bind name typ) = (s.symbolTable, .alreadyBound) := by
    simp [SymTab.step, hst, Scope.containsName, hsome]
  have hsym : symStep "current_scope: no scope" (.bind name typ) s = .ok (.alreadyBound, s) := by
    rw [symStep_ok]; rw [hstep]; exact ⟨by simp, rfl⟩
  unfold newBinding
  rw [M.bind_ok]
  refine ⟨.alreadyBound, s, hsym, ?_⟩
  simp only []
  rw [M.bind_ok]
  exact ⟨(), _, (insertError_ok _ _ _ _).mpr rfl, by simp⟩

/-- **unfolding equation**: in `classical_declaration_statement_to_asg_stmt` the initializer is
translated (`exprToAsgTexpr`) in the state that precedes `newBinding` of the declared name -/
theorem init_before_bind (fuel : Nat) (span : Ast.Span) (arrayType : Bool)
    (scalarType : Option Ast.ScalarType) (constToken : Bool) (name : Option Ast.Name)
    (expr : Option Ast.Expr) :
    classicalDeclarationStatementToAsgStmt (fuel + 1) span arrayType scalarType constToken name expr =
    (do
      let lhsType ← if arrayType then do
          notGlobalCheck span
          insertError .notImplementedError span
          pure T.todo
        else do
          let st ← unwrap "classical_declaration_statement_to_asg_stmt: scalar_type() is None" scalarType
          scalarTypeToType st constToken
      let name ← unwrap "classical_declaration_statement_to_asg_stmt: name() is None" name
      let initializer ← exprToAsgTexpr fuel expr
      let symbolId ← newBinding name.text lhsType span
      match initializer with
      | none => declareClassicalHelper symbolId none
      | some initializer =>
        let initType := initializer.getType
        if equalUpToConstness lhsType initType then
          pure (.declareClassical symbolId (some initializer))
        else
          match initializer.expression with
          | .literal literal =>
            if Sema.canCastLiteral lhsType initType literal then
              declareClassicalHelper symbolId (some (castToTexpr initializer lhsType))
            else do
              insertError .incompatibleTypesError span
              declareClassicalHelper symbolId (some initializer)
          | _ =>
            let promotedType := promoteTypesNotEqual lhsType initType
            if equalUpToConstness promotedType lhsType then
              declareClassicalHelper symbolId (some (castToTexpr initializer lhsType))
            else do
              if promotedType = T.void || promotedType = initType then
                insertError .incompatibleTypesError span
              declareClassicalHelper symbolId (some initializer)) := by
  rfl

def errorKinds : Except Outcome Ctx → List (SemanticErrorKind × Nat × Nat)
  | .ok c => c.semanticErrors.map fun e => (e.kind, e.start, e.stop)
  | .error _ => []

open C03 in
/-- `int x = x;`: the use of `x` in its own initializer is undeclared -/
def wSelfInit : Ast.Program := prog 10
  [.classicalDeclarationStatement (sp 0 10) false (some (intT 0 3)) false (some ⟨sp 4 5, "x"⟩)
     (some (ident 8 9 "x"))]

theorem witness_init_before_bind :
    errorKinds (analyze wSelfInit) =
      [(.undefVarError, 8, 9), (.incompatibleTypesError, 0, 10)] := by
  decide +kernel

open C03 in
/-- `if (c) a; else b;` as the accessors present it: `true_body_block_or_stmt()` and
`false_body_block_or_stmt()` both return the FIRST statement child (`a;`) -/
def wF07 : Ast.Program := prog 17
  [.ifStmt (sp 0 17) (some (ident 4 5 "c"))
     (.ok (.stmt (.exprStmt (sp 7 9) (some (ident 7 8 "a")))))
     (some (.stmt (.exprStmt (sp 7 9) (some (ident 7 8 "a")))))]

/-- the undeclared `a` is reported twice and `b` never: the diagnostic of `undeclared_logs_once`
is duplicated because the same statement is analysed as then- and as else-branch -/
theorem witness_F07_duplicated_diagnostics :
    errorKinds (analyze wF07) =
      [(.undefVarError, 4, 5), (.undefVarError, 7, 8), (.undefVarError, 7, 8)] := by
  decide +kernel

end Oq3.Props.C07
