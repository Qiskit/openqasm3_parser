/-
C18, auxiliary — fuel monotonicity of the semantic pass on successful runs.

`Le x y`: every successful run of `x` is a run of `y` with the same result; it is the first clause
of `Le2` (`Props/C18MonoErr.lean`; `Le2.toLe` below).  For each of the twenty-five functions `f` of the
mutual block of `Sema.lean`: `Le (f fuel a) (f (fuel + 1) a)` (`allMono`); hence
`f fuel a c = .ok r → fuel ≤ fuel' → f fuel' a c = .ok r` (`stmtToAsgStmt_mono_le`,
`syntaxToSemanticLoop_mono`).
-/
import Oq3.Props.C18MonoErr

namespace Oq3.C18E
open Oq3 Oq3.Types Oq3.Symbols Oq3.Sema

structure Le {α} (x y : M α) : Prop where
  run : ∀ c r, x c = .ok r → y c = .ok r

theorem Le.refl {α} (x : M α) : Le x x := ⟨fun _ _ h => h⟩

theorem Le.fail_left {α} (site : String) (y : M α) : Le (Sema.fail site : M α) y :=
  ⟨fun c r h => by cases h⟩

theorem Le2.toLe {α} {x y : M α} (h : Le2 x y) : Le x y := ⟨h.ok⟩

structure AllMono (fuel : Nat) : Prop where
  stmtToAsgStmt : ∀ (st : Ast.Stmt), Le (Sema.stmtToAsgStmt fuel st) (Sema.stmtToAsgStmt (fuel + 1) st)
  caseExprsLoop : ∀ (cs : List Ast.CaseExpr), Le (Sema.caseExprsLoop fuel cs) (Sema.caseExprsLoop (fuel + 1) cs)
  exprStmtToAsgStmt : ∀ (e : Option Ast.Expr), Le (Sema.exprStmtToAsgStmt fuel e) (Sema.exprStmtToAsgStmt (fuel + 1) e)
  modifiersLoop : ∀ (ms : List Ast.Modifier), Le (Sema.modifiersLoop fuel ms) (Sema.modifiersLoop (fuel + 1) ms)
  parenExprToAsgTexpr : ∀ (p : Ast.ParenExpr), Le (Sema.parenExprToAsgTexpr fuel p) (Sema.parenExprToAsgTexpr (fuel + 1) p)
  exprToAsgTexpr : ∀ (e : Option Ast.Expr), Le (Sema.exprToAsgTexpr fuel e) (Sema.exprToAsgTexpr (fuel + 1) e)
  setExpressionToAsgType : ∀ (se : Ast.SetExpression), Le (Sema.setExpressionToAsgType fuel se) (Sema.setExpressionToAsgType (fuel + 1) se)
  rangeExpressionToAsgType : ∀ (r : Ast.RangeExpr), Le (Sema.rangeExpressionToAsgType fuel r) (Sema.rangeExpressionToAsgType (fuel + 1) r)
  gateCallExprToAsgStmt : ∀ (gc : Ast.GateCallExpr) (mods : List GateModifier), Le (Sema.gateCallExprToAsgStmt fuel gc mods) (Sema.gateCallExprToAsgStmt (fuel + 1) gc mods)
  callExprToAsgTexpr : ∀ (sp : Ast.Span) (al : Option Ast.ArgList) (i : Option Ast.Identifier), Le (Sema.callExprToAsgTexpr fuel sp al i) (Sema.callExprToAsgTexpr (fuel + 1) sp al i)
  gateOperandToAsgTexpr : ∀ (g : Ast.GateOperand), Le (Sema.gateOperandToAsgTexpr fuel g) (Sema.gateOperandToAsgTexpr (fuel + 1) g)
  indexOperatorToAsgType : ∀ (ix : Ast.IndexOperator), Le (Sema.indexOperatorToAsgType fuel ix) (Sema.indexOperatorToAsgType (fuel + 1) ix)
  expressionListToAsgType : ∀ (el : Ast.ExpressionList), Le (Sema.expressionListToAsgType fuel el) (Sema.expressionListToAsgType (fuel + 1) el)
  qubitListToAsgTexpr : ∀ (ql : Option Ast.QubitList), Le (Sema.qubitListToAsgTexpr fuel ql) (Sema.qubitListToAsgTexpr (fuel + 1) ql)
  gateOperandsLoop : ∀ (gs : List Ast.GateOperand), Le (Sema.gateOperandsLoop fuel gs) (Sema.gateOperandsLoop (fuel + 1) gs)
  expressionListToAsgTexpr : ∀ (el : Ast.ExpressionList), Le (Sema.expressionListToAsgTexpr fuel el) (Sema.expressionListToAsgTexpr (fuel + 1) el)
  exprsLoop : ∀ (es : List Ast.Expr), Le (Sema.exprsLoop fuel es) (Sema.exprsLoop (fuel + 1) es)
  blockExprToAsgStmtList : ∀ (b : Ast.BlockExpr), Le (Sema.blockExprToAsgStmtList fuel b) (Sema.blockExprToAsgStmtList (fuel + 1) b)
  stmtsLoop : ∀ (ss : List Ast.Stmt), Le (Sema.stmtsLoop fuel ss) (Sema.stmtsLoop (fuel + 1) ss)
  blockExprToAsgType : ∀ (b : Ast.BlockExpr), Le (Sema.blockExprToAsgType fuel b) (Sema.blockExprToAsgType (fuel + 1) b)
  blockOrStmtToAsgType : ∀ (b : Ast.BlockOrStmt), Le (Sema.blockOrStmtToAsgType fuel b) (Sema.blockOrStmtToAsgType (fuel + 1) b)
  classicalDeclarationStatementToAsgStmt : ∀ (sp : Ast.Span) (arr : Bool) (st : Option Ast.ScalarType) (ct : Bool) (n : Option Ast.Name) (e : Option Ast.Expr), Le (Sema.classicalDeclarationStatementToAsgStmt fuel sp arr st ct n e) (Sema.classicalDeclarationStatementToAsgStmt (fuel + 1) sp arr st ct n e)
  assignmentStmtToAsgStmt : ∀ (sp : Ast.Span) (i : Option Ast.Identifier) (rhs : Option Ast.Expr) (ii : Option Ast.IndexedIdentifier), Le (Sema.assignmentStmtToAsgStmt fuel sp i rhs ii) (Sema.assignmentStmtToAsgStmt (fuel + 1) sp i rhs ii)
  indexedIdentifierToAsgType : ∀ (ii : Ast.IndexedIdentifier), Le (Sema.indexedIdentifierToAsgType fuel ii) (Sema.indexedIdentifierToAsgType (fuel + 1) ii)
  indexOperatorsLoop : ∀ (ixs : List Ast.IndexOperator), Le (Sema.indexOperatorsLoop fuel ixs) (Sema.indexOperatorsLoop (fuel + 1) ixs)

theorem allMono (fuel : Nat) : AllMono fuel :=
  have h := allMono2 fuel
  ⟨fun _ => (h.stmtToAsgStmt _).toLe,
   fun _ => (h.caseExprsLoop _).toLe,
   fun _ => (h.exprStmtToAsgStmt _).toLe,
   fun _ => (h.modifiersLoop _).toLe,
   fun _ => (h.parenExprToAsgTexpr _).toLe,
   fun _ => (h.exprToAsgTexpr _).toLe,
   fun _ => (h.setExpressionToAsgType _).toLe,
   fun _ => (h.rangeExpressionToAsgType _).toLe,
   fun _ _ => (h.gateCallExprToAsgStmt _ _).toLe,
   fun _ _ _ => (h.callExprToAsgTexpr _ _ _).toLe,
   fun _ => (h.gateOperandToAsgTexpr _).toLe,
   fun _ => (h.indexOperatorToAsgType _).toLe,
   fun _ => (h.expressionListToAsgType _).toLe,
   fun _ => (h.qubitListToAsgTexpr _).toLe,
   fun _ => (h.gateOperandsLoop _).toLe,
   fun _ => (h.expressionListToAsgTexpr _).toLe,
   fun _ => (h.exprsLoop _).toLe,
   fun _ => (h.blockExprToAsgStmtList _).toLe,
   fun _ => (h.stmtsLoop _).toLe,
   fun _ => (h.blockExprToAsgType _).toLe,
   fun _ => (h.blockOrStmtToAsgType _).toLe,
   fun _ _ _ _ _ _ => (h.classicalDeclarationStatementToAsgStmt _ _ _ _ _ _).toLe,
   fun _ _ _ _ => (h.assignmentStmtToAsgStmt _ _ _ _).toLe,
   fun _ => (h.indexedIdentifierToAsgType _).toLe,
   fun _ => (h.indexOperatorsLoop _).toLe⟩

/-- more fuel never changes a successful run (any of the twenty-five functions; stated for the
statement function) -/
theorem stmtToAsgStmt_mono_le {fuel fuel' : Nat} (h : fuel ≤ fuel') (st : Ast.Stmt) :
    Le (Sema.stmtToAsgStmt fuel st) (Sema.stmtToAsgStmt fuel' st) :=
  (stmtToAsgStmt_mono2_le h st).toLe

theorem syntaxToSemanticLoop_mono {fuel fuel' : Nat} (h : fuel ≤ fuel') (ss : List Ast.Stmt) :
    Le (Sema.syntaxToSemanticLoop fuel ss) (Sema.syntaxToSemanticLoop fuel' ss) :=
  (syntaxToSemanticLoop_mono2 h ss).toLe

end Oq3.C18E
