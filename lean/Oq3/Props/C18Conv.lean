/-
C18, converse — textual inclusion is an equivalence.

`inclusion_conv`: if the plain top-level loop over the spliced statement list returns, then the
include-aware analysis returns (for every fuel `≥ fuel + F`), in the same context up to
diagnostics, and the flat diagnostics are the weaving (`Woven`) of the main file's and the
included files' diagnostics.  With `C18Equiv.inclusion_equiv`: `inclusion_iff`.
-/
import Oq3.Props.C18Equiv

namespace Oq3.C18E
open Oq3 Oq3.Types Oq3.Symbols Oq3.Sema Oq3.Includes

def IncOK (bound : Nat) (stmts : List Ast.Stmt) (inc : List PSrc) (c : Ctx) (trees : List ErrTree)
    (c' : Ctx) : Prop :=
  ∀ K, bound ≤ K → syntaxToSemanticInc K stmts inc c = .ok (trees, c')

def FlatInc (fuel : Nat) : Prop :=
  ∀ (stmts : List Ast.Stmt) (inc : List PSrc) (flat : List Ast.Stmt) (c : Ctx) (F : Nat) (d' : Ctx),
    splice fuel stmts inc = some flat → IsGlobal c →
    syntaxToSemanticLoop F flat c = .ok ((), d') →
    ∃ trees c' own m, IncOK (fuel + F) stmts inc c trees c' ∧
      c'.semanticErrors = c.semanticErrors ++ own ∧
      d' = { c' with semanticErrors := c.semanticErrors ++ m } ∧ Woven own trees m ∧ IsGlobal c'

theorem step_simple_conv (k : Nat) (ih : FlatInc k) (s : Ast.Stmt) (hk : Kept s)
    (rest : List Ast.Stmt) (inc : List PSrc) (fr : List Ast.Stmt) (c : Ctx) (F : Nat) (d' : Ctx)
    (hfr : splice k rest inc = some fr) (hg : IsGlobal c)
    (hrun : syntaxToSemanticLoop F (s :: fr) c = .ok ((), d')) :
    ∃ trees c' own m, IncOK (k + 1 + F) (s :: rest) inc c trees c' ∧
      c'.semanticErrors = c.semanticErrors ++ own ∧
      d' = { c' with semanticErrors := c.semanticErrors ++ m } ∧ Woven own trees m ∧ IsGlobal c' := by
  cases F with
  | zero => exact ((C17.loop_zero _ _ _).mp hrun).elim
  | succ F' =>
    rw [C17.loop_cons] at hrun
    obtain ⟨c2, hstep, hrest⟩ := hrun
    unfold C17.topStepM at hstep
    rw [bind_ok'] at hstep
    obtain ⟨o, c1, h1, h2⟩ := hstep
    obtain ⟨n1, hn1⟩ := (topStmtM_errFrame F' s).errs_append h1
    obtain ⟨he2, hs2⟩ := attachM_ok h2
    have hg2 : IsGlobal c2 := (hg.of_ext ((topStmtM_pres F' s).run c _ h1)).of_symtab hs2
    obtain ⟨trees, c', own, m, hinc', ho, hd, hw, hg'⟩ := ih rest inc fr c2 F' d' hfr hg2 hrest
    refine ⟨trees, c', n1 ++ own, n1 ++ m, ?_, ?_, ?_, hw.prepend n1, hg'⟩
    · intro K hK
      obtain ⟨K', rfl⟩ : ∃ K', K = K' + 1 := ⟨K - 1, by omega⟩
      rw [hk.stepEq rest inc K', bind_ok']
      refine ⟨o, c1, (topStmtM_mono (by omega) s).run c _ h1, ?_⟩
      rw [bind_ok']
      exact ⟨(), c2, h2, hinc' K' (by omega)⟩
    · rw [ho, he2, hn1, List.append_assoc]
    · rw [hd, he2, hn1, List.append_assoc]

theorem flatInc (fuel : Nat) : FlatInc fuel := by
  induction fuel with
  | zero =>
    intro stmts inc flat c F d' hs
    simp [splice] at hs
  | succ k ih =>
    intro stmts inc flat c F d' hs hg hrun
    cases stmts with
    | nil =>
      simp only [splice, Option.some.injEq] at hs
      subst hs
      cases F with
      | zero => exact ((C17.loop_zero _ _ _).mp hrun).elim
      | succ F' =>
        have := (C17.loop_nil F' c _).mp hrun
        simp only [Prod.mk.injEq, true_and] at this
        subst this
        refine ⟨[], d', [], [], ?_, by simp, (ctx_errs_self d').symm, .done [], hg⟩
        intro K hK
        obtain ⟨K', rfl⟩ : ∃ K', K = K' + 1 := ⟨K - 1, by omega⟩
        simp [syntaxToSemanticInc, pure_run]
    | cons s rest =>
      rcases splice_cons_some hs with ⟨hk, fr, hfr, rfl⟩ |
        ⟨sp, f, p, src, inc', ast, af, rf, rfl, hf, hp, rfl, he, hpar, haf, hrf, rfl⟩
      · exact step_simple_conv k ih s hk rest inc fr c F d' hfr hg hrun
      · -- the flat run splits at the end of the spliced statements
        rw [C17.loop_append] at hrun
        obtain ⟨cm, hA, hR⟩ := hrun
        -- the spliced statements, transported to the erased context
        obtain ⟨nA, hnA, tA⟩ :=
          (syntaxToSemanticLoop_errFrame F af).transport (d := eraseErrs c) hA rfl
        simp only [eraseErrs_errs, List.nil_append] at tA
        obtain ⟨kids, c1, own1, m1, hinc1, ho1, hd1, hw1, hg1⟩ :=
          ih ast.statements src.included af (eraseErrs c) F _ haf (hg.of_symtab rfl) tA
        simp only [eraseErrs_errs, List.nil_append] at ho1 hd1
        obtain ⟨e2, rfl⟩ := ctx_split hd1
        obtain rfl : cm = { c1 with semanticErrors := c.semanticErrors ++ nA } :=
          ctx_eq_of_fields e2 hnA
        -- the rest, transported to the context with the saved diagnostics
        obtain ⟨nR, hnR, tR⟩ :=
          (syntaxToSemanticLoop_errFrame (F - af.length) rf).transport
            (d := { c1 with semanticErrors := c.semanticErrors }) hR rfl
        obtain ⟨more, c', own2, m2, hinc2, ho2, hd2, hw2, hg2⟩ :=
          ih rest inc' rf { c1 with semanticErrors := c.semanticErrors } (F - af.length) _ hrf
            (hg1.of_symtab rfl) tR
        simp only at ho2 hd2 hnR
        obtain ⟨e4, e3⟩ := ctx_split hd2
        obtain rfl := List.append_cancel_left e3
        refine ⟨.mk src.path c1.semanticErrors kids :: more, c', own2, nA ++ nR, ?_, ho2, ?_, ?_, hg2⟩
        · intro K hK
          obtain ⟨K', rfl⟩ : ∃ K', K = K' + 1 := ⟨K - 1, by omega⟩
          rw [include_arm_eval K' sp f p hf hp rest src inc' ast he hpar c hg, hinc1 K' (by omega)]
          simp only [hinc2 K' (by omega)]
        · exact ctx_eq_of_fields e4 (by rw [hnR, List.append_assoc])
        · have := Woven.kid (o0 := []) (p := src.path) (ho1 ▸ hw1) hw2
          simpa using this

/-- **C18, converse.**  If the plain top-level loop over the spliced statement list returns `d'`
from a context `c` in global scope, then the include-aware analysis of `stmts` with the sources
`inc` returns — for EVERY fuel `K ≥ fuel + F` — trees `trees` and a context `c'` with
`eraseErrs d' = eraseErrs c'`, and the flat diagnostics are the weaving of the main file's new
diagnostics `own` with the diagnostics recorded in `trees`. -/
theorem inclusion_conv (fuel : Nat) (stmts : List Ast.Stmt) (inc : List PSrc) (flat : List Ast.Stmt)
    (c : Ctx) (F : Nat) (d' : Ctx)
    (hs : splice fuel stmts inc = some flat) (hg : IsGlobal c)
    (h : (syntaxToSemanticLoop F flat).run c = .ok ((), d')) :
    ∃ trees c' own m,
      (∀ K, fuel + F ≤ K → (syntaxToSemanticInc K stmts inc).run c = .ok (trees, c')) ∧
      eraseErrs d' = eraseErrs c' ∧
      c'.semanticErrors = c.semanticErrors ++ own ∧ d'.semanticErrors = c.semanticErrors ++ m ∧
      Woven own trees m := by
  obtain ⟨trees, c', own, m, hinc, ho, hd, hw, -⟩ := flatInc fuel stmts inc flat c F d' hs hg h
  refine ⟨trees, c', own, m, hinc, ?_, ho, ?_, hw⟩
  · rw [hd]; rfl
  · rw [hd]

/-- the converse with the diagnostics as a multiset -/
theorem inclusion_conv_perm (fuel : Nat) (stmts : List Ast.Stmt) (inc : List PSrc)
    (flat : List Ast.Stmt) (c : Ctx) (F : Nat) (d' : Ctx)
    (hs : splice fuel stmts inc = some flat) (hg : IsGlobal c)
    (h : (syntaxToSemanticLoop F flat).run c = .ok ((), d')) :
    ∃ K trees c', (syntaxToSemanticInc K stmts inc).run c = .ok (trees, c') ∧
      eraseErrs d' = eraseErrs c' ∧
      d'.semanticErrors.Perm (c'.semanticErrors ++ treesErrs trees) := by
  obtain ⟨trees, c', own, m, hinc, he, ho, hd, hw⟩ := inclusion_conv fuel stmts inc flat c F d' hs hg h
  refine ⟨_, trees, c', hinc _ (Nat.le_refl _), he, ?_⟩
  rw [hd, ho, List.append_assoc]
  exact List.Perm.append_left _ hw.perm

theorem splice_mono_step (fuel : Nat) : ∀ (stmts : List Ast.Stmt) (inc : List PSrc) (flat : List Ast.Stmt),
    splice fuel stmts inc = some flat → splice (fuel + 1) stmts inc = some flat := by
  induction fuel with
  | zero => intro stmts inc flat h; simp [splice] at h
  | succ k ih =>
    intro stmts inc flat hs
    cases stmts with
    | nil => simpa [splice] using hs
    | cons s rest =>
      rcases splice_cons_some hs with ⟨hk, fr, hfr, rfl⟩ |
        ⟨sp, f, p, src, inc', ast, af, rf, rfl, hf, hp, rfl, he, hpar, haf, hrf, rfl⟩
      · rw [hk.splice, ih _ _ _ hfr]; rfl
      · simp only [splice, hf, hp, Bool.false_eq_true, if_false, he, hpar, ih _ _ _ haf,
          ih _ _ _ hrf]

theorem splice_mono {fuel fuel' : Nat} (h : fuel ≤ fuel') (stmts : List Ast.Stmt) (inc : List PSrc)
    (flat : List Ast.Stmt) (hs : splice fuel stmts inc = some flat) :
    splice fuel' stmts inc = some flat := by
  induction h with
  | refl => exact hs
  | step _ ih => exact splice_mono_step _ _ _ _ ih

/-- **textual inclusion is an equivalence.**  For a splice `flat` of `stmts` with the sources `inc`
and a start context in global scope: the include-aware analysis returns (with some fuel `≥ fuel`)
iff the plain analysis of the spliced list returns (with some fuel) — and whenever one of them
returns, so does the other, with the same context up to diagnostics and the diagnostics woven. -/
theorem inclusion_iff (fuel : Nat) (stmts : List Ast.Stmt) (inc : List PSrc) (flat : List Ast.Stmt)
    (c : Ctx) (hs : splice fuel stmts inc = some flat) (hg : IsGlobal c) :
    (∃ K, fuel ≤ K ∧ ∃ r, (syntaxToSemanticInc K stmts inc).run c = .ok r) ↔
    (∃ F r, (syntaxToSemanticLoop F flat).run c = .ok r) := by
  constructor
  · rintro ⟨K, hK, ⟨trees, c'⟩, h⟩
    obtain ⟨own, m, -, -, hF⟩ :=
      inclusion_equiv K stmts inc flat c trees c' (splice_mono hK _ _ _ hs) hg h
    obtain ⟨d', h1, -, -⟩ := hF _ (Nat.le_refl _)
    exact ⟨_, _, h1⟩
  · rintro ⟨F, ⟨u, d'⟩, h⟩
    obtain ⟨trees, c', own, m, hinc, -⟩ := inclusion_conv fuel stmts inc flat c F d' hs hg h
    exact ⟨fuel + F, by omega, _, hinc _ (Nat.le_refl _)⟩

/-- both results, side by side: any include run (fuel `K ≥ fuel`) and any flat run (fuel `F`) that
return, return the same context up to diagnostics, and the flat diagnostics are the weaving of the
include run's own diagnostics with its trees -/
theorem inclusion_results_agree (fuel : Nat) (stmts : List Ast.Stmt) (inc : List PSrc)
    (flat : List Ast.Stmt) (c : Ctx) (hs : splice fuel stmts inc = some flat) (hg : IsGlobal c)
    (K : Nat) (hK : fuel ≤ K) (trees : List ErrTree) (c' : Ctx)
    (hi : (syntaxToSemanticInc K stmts inc).run c = .ok (trees, c'))
    (F : Nat) (d' : Ctx) (hf : (syntaxToSemanticLoop F flat).run c = .ok ((), d')) :
    eraseErrs d' = eraseErrs c' ∧
    ∃ own m, c'.semanticErrors = c.semanticErrors ++ own ∧
      d'.semanticErrors = c.semanticErrors ++ m ∧ Woven own trees m := by
  obtain ⟨own, m, ho, hw, hF⟩ :=
    inclusion_equiv K stmts inc flat c trees c' (splice_mono hK _ _ _ hs) hg hi
  -- the flat run at a fuel that is large enough for both
  obtain ⟨d2, h2, he2, hd2⟩ := hF (max F (K + flat.length)) (Nat.le_max_right _ _)
  have := (syntaxToSemanticLoop_mono (Nat.le_max_left F (K + flat.length)) flat).run c _ hf
  rw [show (syntaxToSemanticLoop (max F (K + flat.length)) flat).run c =
    syntaxToSemanticLoop (max F (K + flat.length)) flat c from rfl, this] at h2
  simp only [Except.ok.injEq, Prod.mk.injEq, true_and] at h2
  subst h2
  exact ⟨he2, own, m, ho, hd2, hw⟩

end Oq3.C18E
