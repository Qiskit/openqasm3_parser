/-
C08, lifted to whole programs.

`WTS S st`: every typed expression occurring anywhere inside the ASG statement `st` — conditions,
initializers, assignment values and the index expressions of assignment targets, call arguments,
gate-call parameters, operands and modifier arguments, loop iterables, switch targets and case
values, delay durations, reset operands, bodies recursively — satisfies `WT S` (`Props/C08.lean`).

* `allSpecStmt`: the `Spec` specifications of the thirteen statement functions of the mutual block,
  by induction on fuel (the twelve expression functions are `C08.allSpec`).
* `Keep`: no function of the pass touches `Context.program` (only `Program::insert_stmt`, in the
  top-level loop, does): the `program` clause of `C06.Frame` (`Keep.of_frame`), which `loop_ok` reads
  off `C06.topStmtM_frame`.
* `program_well_typed`: `analyzeWith fuel p = .ok c → ∀ st ∈ c.program, WTS c.symbolTable.all st`.
* `const_value_recorded_iff` …: exactly which declarations fill `Context.const_values`.
-/
import Oq3.Props.C08
import Oq3.Props.C06

namespace Oq3.Props.C08
open Oq3 Oq3.Types Oq3.Symbols Oq3.Sema

/-- arguments of gate modifiers -/
def ModWT (S : List Sym) : GateModifier → Prop
  | .inv => True
  | .pow e => WT S e
  | .ctrl e => OptWT S e
  | .negCtrl e => OptWT S e

def ModsWT (S : List Sym) (ms : List GateModifier) : Prop := ∀ m, m ∈ ms → ModWT S m

/-- loop iterables -/
def IterWT (S : List Sym) : ForIterable → Prop
  | .setExpression es => ListWT S es
  | .rangeExpression a b c => WT S a ∧ OptWT S b ∧ WT S c
  | .expr e => WT S e

/-- **every typed expression inside the statement is well typed.**  Statement forms the pass never
produces (`block`, `box`, `cal`, `defCal`, `extern`, `includeStmt`, `oldStyleDeclaration`) have no
rule. -/
inductive WTS (S : List Sym) : Stmt → Prop
  | alias {sym rhs} : WT S rhs → WTS S (.alias sym rhs)
  | annotated {s anns} : WTS S s → WTS S (.annotatedStmt s anns)
  | assignIdent {sym v} : WT S v → WTS S (.assignment (.identifier sym) v)
  | assignIndexed {sym ixs v} : IxsWT S ixs → WT S v →
      WTS S (.assignment (.indexedIdentifier (.mk sym ixs)) v)
  | barrier {qs} : OptListWT S qs → WTS S (.barrier qs)
  | breakStmt : WTS S .breakStmt
  | continueStmt : WTS S .continueStmt
  | declareClassical {sym init} : OptWT S init → WTS S (.declareClassical sym init)
  | declareQuantum {sym} : WTS S (.declareQuantum sym)
  | declareHardwareQubit {name} : WTS S (.declareHardwareQubit name)
  | defStmt {sym params ss ret} : (∀ s, s ∈ ss → WTS S s) → WTS S (.defStmt sym params (.mk ss) ret)
  | delay {d qs} : WT S d → ListWT S qs → WTS S (.delay d qs)
  | endStmt : WTS S .endStmt
  | exprStmt {e} : WT S e → WTS S (.exprStmt e)
  | forStmt {v it ss} : IterWT S it → (∀ s, s ∈ ss → WTS S s) → WTS S (.forStmt v it (.mk ss))
  | gPhaseCall {a} : WT S a → WTS S (.gPhaseCall a)
  | gateCall {sym params qs mods} : OptListWT S params → ListWT S qs → ModsWT S mods →
      WTS S (.gateCall sym params qs mods)
  | gateDefinition {sym params qs ss} : (∀ s, s ∈ ss → WTS S s) →
      WTS S (.gateDefinition sym params qs (.mk ss))
  | inputDeclaration {sym} : WTS S (.inputDeclaration sym)
  | outputDeclaration {sym} : WTS S (.outputDeclaration sym)
  | ifStmt {c ts eb} : WT S c → (∀ s, s ∈ ts → WTS S s) →
      (∀ es, eb = some (.mk es) → ∀ s, s ∈ es → WTS S s) → WTS S (.ifStmt c (.mk ts) eb)
  | modifiedGPhaseCall {a mods} : WT S a → ModsWT S mods → WTS S (.modifiedGPhaseCall a mods)
  | nullStmt : WTS S .nullStmt
  | pragma {t} : WTS S (.pragma t)
  | reset {g} : WT S g → WTS S (.reset g)
  | switchCase {ctl cases dflt} : WT S ctl →
      (∀ vals ss, CaseExpr.mk vals ss ∈ cases → ListWT S vals) →
      (∀ vals ss, CaseExpr.mk vals ss ∈ cases → ∀ s, s ∈ ss → WTS S s) →
      (∀ ds, dflt = some ds → ∀ s, s ∈ ds → WTS S s) → WTS S (.switchCaseStmt ctl cases dflt)
  | whileStmt {c ss} : WT S c → (∀ s, s ∈ ss → WTS S s) → WTS S (.whileStmt c (.mk ss))

def OptWTS (S : List Sym) : Option Stmt → Prop
  | some s => WTS S s
  | none => True

def ListWTS (S : List Sym) (ss : List Stmt) : Prop := ∀ s, s ∈ ss → WTS S s

def OptListWTS (S : List Sym) : Option (List Stmt) → Prop
  | some ss => ListWTS S ss
  | none => True

def BlockWTS (S : List Sym) : Block → Prop
  | .mk ss => ListWTS S ss

def OptBlockWTS (S : List Sym) : Option Block → Prop
  | some b => BlockWTS S b
  | none => True

def CaseWTS (S : List Sym) : CaseExpr → Prop
  | .mk vals ss => ListWT S vals ∧ ListWTS S ss

def CasesWTS (S : List Sym) (cs : List CaseExpr) : Prop := ∀ c, c ∈ cs → CaseWTS S c

variable {S : List Sym}

theorem optWTS_some {s : Stmt} (h : WTS S s) : OptWTS S (some s) := h
theorem optWTS_none : OptWTS S none := trivial
theorem wts_of_optWTS_some {s : Stmt} (h : OptWTS S (some s)) : WTS S s := h
theorem listWTS_nil : ListWTS S [] := by intro s h; cases h
theorem listWTS_cons {s : Stmt} {ss : List Stmt} (h1 : WTS S s) (h2 : ListWTS S ss) :
    ListWTS S (s :: ss) := by
  intro x hx
  cases hx with
  | head => exact h1
  | tail _ h => exact h2 x h
theorem optListWTS_some {ss : List Stmt} (h : ListWTS S ss) : OptListWTS S (some ss) := h
theorem optListWTS_none : OptListWTS S none := trivial
theorem blockWTS_mk {ss : List Stmt} (h : ListWTS S ss) : BlockWTS S (.mk ss) := h
theorem optBlockWTS_some {b : Block} (h : BlockWTS S b) : OptBlockWTS S (some b) := h
theorem optBlockWTS_none : OptBlockWTS S none := trivial
theorem casesWTS_nil : CasesWTS S [] := by intro s h; cases h
theorem casesWTS_cons {vals : List TExpr} {ss : List Stmt} {cs : List CaseExpr}
    (h1 : ListWT S vals) (h2 : ListWTS S ss) (h3 : CasesWTS S cs) :
    CasesWTS S (.mk vals ss :: cs) := by
  intro x hx
  cases hx with
  | head => exact ⟨h1, h2⟩
  | tail _ h => exact h3 x h
theorem modsWT_nil : ModsWT S [] := by intro s h; cases h
theorem modsWT_cons {m : GateModifier} {ms : List GateModifier} (h1 : ModWT S m)
    (h2 : ModsWT S ms) : ModsWT S (m :: ms) := by
  intro x hx
  cases hx with
  | head => exact h1
  | tail _ h => exact h2 x h
theorem modWT_inv : ModWT S .inv := trivial
theorem modWT_pow {e : TExpr} (h : WT S e) : ModWT S (.pow e) := h
theorem modWT_ctrl {e : Option TExpr} (h : OptWT S e) : ModWT S (.ctrl e) := h
theorem modWT_negCtrl {e : Option TExpr} (h : OptWT S e) : ModWT S (.negCtrl e) := h
theorem modWT_ctrl_none : ModWT S (.ctrl none) := trivial
theorem modWT_negCtrl_none : ModWT S (.negCtrl none) := trivial
theorem iterWT_set {es : List TExpr} (h : ListWT S es) : IterWT S (.setExpression es) := h
theorem iterWT_range {a c : TExpr} {b : Option TExpr} (h1 : WT S a) (h2 : OptWT S b) (h3 : WT S c) :
    IterWT S (.rangeExpression a b c) := ⟨h1, h2, h3⟩
theorem iterWT_expr {e : TExpr} (h : WT S e) : IterWT S (.expr e) := h
theorem listWT_single {e : TExpr} (h : WT S e) : ListWT S [e] := by
  intro x hx; cases hx with
  | head => exact h
  | tail _ h => cases h
theorem listWTS_single {s : Stmt} (h : WTS S s) : ListWTS S [s] := listWTS_cons h listWTS_nil
theorem optWT_of_some {e : TExpr} (h : WT S e) : OptWT S (some e) := h

theorem wts_if {c : TExpr} {t : Block} {e : Option Block} (h1 : WT S c) (h2 : BlockWTS S t)
    (h3 : OptBlockWTS S e) : WTS S (.ifStmt c t e) := by
  cases t with
  | mk ts =>
    refine .ifStmt h1 h2 ?_
    intro es he; subst he; exact h3
theorem wts_while {c : TExpr} {b : Block} (h1 : WT S c) (h2 : BlockWTS S b) :
    WTS S (.whileStmt c b) := by
  cases b; exact .whileStmt h1 h2
theorem wts_for {v : SymbolIdResult} {it : ForIterable} {b : Block} (h1 : IterWT S it)
    (h2 : BlockWTS S b) : WTS S (.forStmt v it b) := by
  cases b; exact .forStmt h1 h2
theorem wts_switch {ctl : TExpr} {cases : List CaseExpr} {d : Option (List Stmt)} (h1 : WT S ctl)
    (h2 : CasesWTS S cases) (h3 : OptListWTS S d) : WTS S (.switchCaseStmt ctl cases d) := by
  refine .switchCase h1 (fun vals ss hm => (h2 _ hm).1) (fun vals ss hm => (h2 _ hm).2) ?_
  intro ds hd; subst hd; exact h3
theorem wts_gateDefinition {sym : SymbolIdResult} {ps : Option (List SymbolIdResult)}
    {qs : List SymbolIdResult} {b : Block} (h : BlockWTS S b) :
    WTS S (.gateDefinition sym ps qs b) := by
  cases b; exact .gateDefinition h
theorem wts_def {sym : SymbolIdResult} {ps : List SymbolIdResult} {b : Block} {ret : T}
    (h : BlockWTS S b) : WTS S (.defStmt sym ps b ret) := by
  cases b; exact .defStmt h
theorem wts_assignIndexed {ii : IndexedIdentifier} {t : T} {v : TExpr} (h1 : IIWT S ii t)
    (h2 : WT S v) : WTS S (.assignment (.indexedIdentifier ii) v) := by
  cases ii; exact .assignIndexed h1.2 h2
theorem wts_barrier {qs : List TExpr} (h : ListWT S qs) : WTS S (.barrier (some qs)) :=
  .barrier h
theorem wts_declareClassical_some {sym : SymbolIdResult} {e : TExpr} (h : WT S e) :
    WTS S (.declareClassical sym (some e)) := .declareClassical h
theorem wts_declareClassical_none {sym : SymbolIdResult} : WTS S (.declareClassical sym none) :=
  .declareClassical trivial

macro_rules | `(tactic| wt_close) => `(tactic| with_reducible first
  | exact optWTS_none
  | exact listWTS_nil
  | exact optListWTS_none
  | exact optBlockWTS_none
  | exact casesWTS_nil
  | exact modsWT_nil
  | exact modWT_inv
  | exact modWT_ctrl_none
  | exact modWT_negCtrl_none
  | exact WTS.breakStmt
  | exact WTS.continueStmt
  | exact WTS.endStmt
  | exact WTS.nullStmt
  | exact WTS.pragma
  | exact WTS.declareQuantum
  | exact WTS.declareHardwareQubit
  | exact WTS.inputDeclaration
  | exact WTS.outputDeclaration
  | exact wts_declareClassical_none
  | exact wts_of_optWTS_some ‹_›
  | exact (‹ModsWT _ _ → OptWTS _ _›) (by wt_close)
  | (apply optWTS_some <;> wt_close)
  | (apply listWTS_cons <;> wt_close)
  | (apply optListWTS_some <;> wt_close)
  | (apply blockWTS_mk <;> wt_close)
  | (apply optBlockWTS_some <;> wt_close)
  | (apply casesWTS_cons <;> wt_close)
  | (apply modsWT_cons <;> wt_close)
  | (apply modWT_pow <;> wt_close)
  | (apply modWT_ctrl <;> wt_close)
  | (apply modWT_negCtrl <;> wt_close)
  | (apply iterWT_set <;> wt_close)
  | (apply iterWT_range <;> wt_close)
  | (apply iterWT_expr <;> wt_close)
  | (apply listWTS_single <;> wt_close)
  | (apply wts_if <;> wt_close)
  | (apply wts_while <;> wt_close)
  | (apply wts_for <;> wt_close)
  | (apply wts_switch <;> wt_close)
  | (apply wts_gateDefinition <;> wt_close)
  | (apply wts_def <;> wt_close)
  | (apply wts_assignIndexed <;> wt_close)
  | (apply wts_barrier <;> wt_close)
  | (apply wts_declareClassical_some <;> wt_close)
  | (apply WTS.alias <;> wt_close)
  | (apply WTS.annotated <;> wt_close)
  | (apply WTS.assignIdent <;> wt_close)
  | (apply WTS.delay <;> wt_close)
  | (apply WTS.exprStmt <;> wt_close)
  | (apply WTS.gPhaseCall <;> wt_close)
  | (apply WTS.gateCall <;> wt_close)
  | (apply WTS.modifiedGPhaseCall <;> wt_close)
  | (apply WTS.reset <;> wt_close))

macro_rules | `(tactic| spec_lemma) => `(tactic| (spec_head Sema.symStep; spec_use (Spec.symStep _ _)))

theorem Spec.enterScope (k : ScopeType) : Spec S (enterScope k) (fun _ => True) := by
  unfold Sema.enterScope; spec
macro_rules | `(tactic| spec_lemma) => `(tactic| (spec_head Sema.enterScope; spec_use (Spec.enterScope _)))

theorem Spec.exitScope : Spec S exitScope (fun _ => True) := by
  unfold Sema.exitScope; spec
macro_rules | `(tactic| spec_lemma) => `(tactic| (spec_head Sema.exitScope; spec_use Spec.exitScope))

theorem Spec.withScope {α} (k : ScopeType) {body : M α} {R : α → Prop} (h : Spec S body R) :
    Spec S (withScope k body) R := by
  unfold Sema.withScope
  refine Spec.bind_unit (Spec.enterScope k) ?_
  refine Spec.bind h (fun a => ?_)
  refine Spec.bind_unit Spec.exitScope ?_
  exact Spec.pure (fun h => h)

theorem Spec.newBinding (name : String) (typ : T) (node : Ast.Span) :
    Spec S (newBinding name typ node) (fun _ => True) := by
  unfold Sema.newBinding; spec
macro_rules | `(tactic| spec_lemma) => `(tactic| (spec_head Sema.newBinding; spec_use (Spec.newBinding _ _ _)))

theorem Spec.insertConstValue (id : Nat) (v : TExpr) : Spec S (insertConstValue id v) (fun _ => True) :=
  Spec.modify _ fun _ => rfl
macro_rules | `(tactic| spec_lemma) => `(tactic| (spec_head Sema.insertConstValue; spec_use (Spec.insertConstValue _ _)))

theorem Spec.pushAnnotation (a : String) : Spec S (pushAnnotation a) (fun _ => True) :=
  Spec.modify _ fun _ => rfl
macro_rules | `(tactic| spec_lemma) => `(tactic| (spec_head Sema.pushAnnotation; spec_use (Spec.pushAnnotation _)))

theorem Spec.declareClassicalHelper (sym : SymbolIdResult) (init : Option TExpr) :
    Spec S (declareClassicalHelper sym init) (fun s => s = .declareClassical sym init) := by
  unfold Sema.declareClassicalHelper; spec
macro_rules | `(tactic| spec_lemma) => `(tactic| (spec_head Sema.declareClassicalHelper; spec_use (Spec.declareClassicalHelper _ _)))

theorem Spec.paramTypeToType (pt : Ast.ParamType) (isconst : Bool) :
    Spec S (paramTypeToType pt isconst) (fun _ => True) := by
  unfold Sema.paramTypeToType; spec
macro_rules | `(tactic| spec_lemma) => `(tactic| (spec_head Sema.paramTypeToType; spec_use (Spec.paramTypeToType _ _)))

theorem Spec.bindParams (typ : T) (ps : List Ast.Param) : Spec S (bindParams typ ps) (fun _ => True) := by
  induction ps with
  | nil => unfold Sema.bindParams; spec
  | cons p ps ih =>
    unfold Sema.bindParams
    refine Spec.bind (Spec.newBinding _ _ _) (fun r => ?_)
    refine Spec.bind ih (fun rs => ?_)
    exact Spec.pure (fun _ _ => trivial)
macro_rules | `(tactic| spec_lemma) => `(tactic| (spec_head Sema.bindParams; spec_use (Spec.bindParams _ _)))

theorem Spec.bindParameterList (pl : Option Ast.ParamList) (typ : T) :
    Spec S (bindParameterList pl typ) (fun _ => True) := by
  unfold Sema.bindParameterList; spec
macro_rules | `(tactic| spec_lemma) => `(tactic| (spec_head Sema.bindParameterList; spec_use (Spec.bindParameterList _ _)))

/-- inside an induction on the list: the recursive call is an assumption -/
macro_rules | `(tactic| spec_lemma) => `(tactic|
  (spec_head Sema.bindTypedParams; spec_use (‹Spec _ (Sema.bindTypedParams _) _›)))

theorem Spec.bindTypedParams (ps : List Ast.TypedParam) : Spec S (bindTypedParams ps) (fun _ => True) := by
  induction ps with
  | nil => unfold Sema.bindTypedParams; spec
  | cons p ps ih => unfold Sema.bindTypedParams; spec
macro_rules | `(tactic| spec_lemma) => `(tactic| (spec_head Sema.bindTypedParams; spec_use (Spec.bindTypedParams _)))

theorem Spec.bindTypedParameterList (pl : Option Ast.TypedParamList) :
    Spec S (bindTypedParameterList pl) (fun _ => True) := by
  unfold Sema.bindTypedParameterList; spec
macro_rules | `(tactic| spec_lemma) => `(tactic| (spec_head Sema.bindTypedParameterList; spec_use (Spec.bindTypedParameterList _)))

theorem Spec.ioDeclarationStatementToAsgStmt (a : Bool) (st : Option Ast.ScalarType)
    (n : Option Ast.Name) (i : Bool) :
    Spec S (ioDeclarationStatementToAsgStmt a st n i) (WTS S) := by
  unfold Sema.ioDeclarationStatementToAsgStmt; spec
macro_rules | `(tactic| spec_lemma) => `(tactic| (spec_head Sema.ioDeclarationStatementToAsgStmt; spec_use (Spec.ioDeclarationStatementToAsgStmt _ _ _ _)))

theorem Spec.notImpl (node : Ast.Span) : Spec S (notImpl node) (OptWTS S) := by
  unfold Sema.notImpl; spec
macro_rules | `(tactic| spec_lemma) => `(tactic| (spec_head Sema.notImpl; spec_use (Spec.notImpl _)))

open Lean Elab Tactic Meta in
/-- succeeds iff the goal is `Spec S (fail site >>= f) R` -/
elab "spec_bind_is_fail" : tactic => withMainContext do
  match ← specProgram (← getMainGoal) with
  | some p =>
    if p.isAppOfArity ``Bind.bind 6 then
      match (p.getArg! 4).consumeMData.getAppFn.consumeMData with
      | Lean.Expr.const m _ => if m == ``Sema.fail then pure () else throwError "not a fail"
      | _ => throwError "not a fail"
    else throwError "not a bind"
  | none => throwError "not a Spec goal"

/-- a panic followed by anything has no successful run -/
theorem Spec.fail_bind {α β} (site : String) (f : α → M β) (R : β → Prop) :
    Spec S (Sema.fail site >>= f) R := by
  refine ⟨fun c a c' hr => ?_⟩
  obtain ⟨_, _, h1, _⟩ := (M.bind_ok _ _ _ _).mp hr
  simp at h1

macro_rules | `(tactic| spec_lemma) => `(tactic|
  (spec_head Bind.bind; spec_bind_is_fail; exact Spec.fail_bind _ _ _))

-- scoped blocks and binds whose first part is a `match`/`if`: the postcondition is chosen by the
-- result TYPE, before the branches are looked at
set_option hygiene false in
macro_rules | `(tactic| spec_lemma) => `(tactic|
  (spec_head Sema.withScope; with_reducible first
    | apply Spec.withScope (R := BlockWTS S)
    | apply Spec.withScope (R := OptBlockWTS S)
    | apply Spec.withScope (R := ListWTS S)
    | apply Spec.withScope (R := OptListWTS S)
    | apply Spec.withScope (R := fun (r : SymbolIdResult × Block) => BlockWTS S r.2)
    | apply Spec.withScope (R := fun (r : Option (List SymbolIdResult) × Block) => BlockWTS S r.2)
    | apply Spec.withScope
        (R := fun (r : Option (List SymbolIdResult) × List SymbolIdResult × Block) => BlockWTS S r.2.2)))

set_option hygiene false in
macro_rules | `(tactic| spec_lemma) => `(tactic|
  (spec_head Bind.bind; spec_bind_is_split; with_reducible first
    | apply Spec.bind (R1 := IterWT S)
    | apply Spec.bind (R1 := ModWT S)
    | apply Spec.bind (R1 := OptListWT S)
    | apply Spec.bind (R1 := BlockWTS S)
    | apply Spec.bind (R1 := OptWTS S)))

-- the expression functions are done: their specifications at the same fuel stand in for an `ih`
set_option hygiene false in
macro_rules | `(tactic| spec_ih) => `(tactic| first
  | (spec_head Sema.exprToAsgTexpr; spec_use ((allSpec (S := S) fuel).exprToAsgTexpr _))
  | (spec_head Sema.parenExprToAsgTexpr; spec_use ((allSpec (S := S) fuel).parenExprToAsgTexpr _))
  | (spec_head Sema.setExpressionToAsgType; spec_use ((allSpec (S := S) fuel).setExpressionToAsgType _))
  | (spec_head Sema.rangeExpressionToAsgType; spec_use ((allSpec (S := S) fuel).rangeExpressionToAsgType _))
  | (spec_head Sema.callExprToAsgTexpr; spec_use ((allSpec (S := S) fuel).callExprToAsgTexpr _ _ _))
  | (spec_head Sema.gateOperandToAsgTexpr; spec_use ((allSpec (S := S) fuel).gateOperandToAsgTexpr _))
  | (spec_head Sema.indexOperatorToAsgType; spec_use ((allSpec (S := S) fuel).indexOperatorToAsgType _))
  | (spec_head Sema.expressionListToAsgType; spec_use ((allSpec (S := S) fuel).expressionListToAsgType _))
  | (spec_head Sema.expressionListToAsgTexpr; spec_use ((allSpec (S := S) fuel).expressionListToAsgTexpr _))
  | (spec_head Sema.exprsLoop; spec_use ((allSpec (S := S) fuel).exprsLoop _))
  | (spec_head Sema.indexedIdentifierToAsgType; spec_use ((allSpec (S := S) fuel).indexedIdentifierToAsgType _))
  | (spec_head Sema.indexOperatorsLoop; spec_use ((allSpec (S := S) fuel).indexOperatorsLoop _)))

structure AllSpecStmt (S : List Sym) (fuel : Nat) : Prop where
  stmtToAsgStmt : ∀ (st : Ast.Stmt), Spec S (Sema.stmtToAsgStmt fuel st) (OptWTS S)
  caseExprsLoop : ∀ (cs : List Ast.CaseExpr), Spec S (Sema.caseExprsLoop fuel cs) (CasesWTS S)
  exprStmtToAsgStmt : ∀ (e : Option Ast.Expr), Spec S (Sema.exprStmtToAsgStmt fuel e) (OptWTS S)
  modifiersLoop : ∀ (ms : List Ast.Modifier), Spec S (Sema.modifiersLoop fuel ms) (ModsWT S)
  gateCallExprToAsgStmt : ∀ (gc : Ast.GateCallExpr) (mods : List GateModifier), Spec S (Sema.gateCallExprToAsgStmt fuel gc mods) (fun r => ModsWT S mods → OptWTS S r)
  qubitListToAsgTexpr : ∀ (ql : Option Ast.QubitList), Spec S (Sema.qubitListToAsgTexpr fuel ql) (ListWT S)
  gateOperandsLoop : ∀ (gs : List Ast.GateOperand), Spec S (Sema.gateOperandsLoop fuel gs) (ListWT S)
  blockExprToAsgStmtList : ∀ (b : Ast.BlockExpr), Spec S (Sema.blockExprToAsgStmtList fuel b) (ListWTS S)
  stmtsLoop : ∀ (ss : List Ast.Stmt), Spec S (Sema.stmtsLoop fuel ss) (ListWTS S)
  blockExprToAsgType : ∀ (b : Ast.BlockExpr), Spec S (Sema.blockExprToAsgType fuel b) (BlockWTS S)
  blockOrStmtToAsgType : ∀ (b : Ast.BlockOrStmt), Spec S (Sema.blockOrStmtToAsgType fuel b) (BlockWTS S)
  classicalDeclarationStatementToAsgStmt : ∀ (sp : Ast.Span) (arr : Bool) (st : Option Ast.ScalarType) (ct : Bool) (n : Option Ast.Name) (e : Option Ast.Expr), Spec S (Sema.classicalDeclarationStatementToAsgStmt fuel sp arr st ct n e) (WTS S)
  assignmentStmtToAsgStmt : ∀ (sp : Ast.Span) (i : Option Ast.Identifier) (rhs : Option Ast.Expr) (ii : Option Ast.IndexedIdentifier), Spec S (Sema.assignmentStmtToAsgStmt fuel sp i rhs ii) (OptWTS S)

set_option hygiene false in
macro_rules | `(tactic| spec_ih) => `(tactic| first
  | (spec_head Sema.stmtToAsgStmt; spec_use (ih.stmtToAsgStmt _))
  | (spec_head Sema.caseExprsLoop; spec_use (ih.caseExprsLoop _))
  | (spec_head Sema.exprStmtToAsgStmt; spec_use (ih.exprStmtToAsgStmt _))
  | (spec_head Sema.modifiersLoop; spec_use (ih.modifiersLoop _))
  | (spec_head Sema.gateCallExprToAsgStmt; spec_use (ih.gateCallExprToAsgStmt _ _))
  | (spec_head Sema.qubitListToAsgTexpr; spec_use (ih.qubitListToAsgTexpr _))
  | (spec_head Sema.gateOperandsLoop; spec_use (ih.gateOperandsLoop _))
  | (spec_head Sema.blockExprToAsgStmtList; spec_use (ih.blockExprToAsgStmtList _))
  | (spec_head Sema.stmtsLoop; spec_use (ih.stmtsLoop _))
  | (spec_head Sema.blockExprToAsgType; spec_use (ih.blockExprToAsgType _))
  | (spec_head Sema.blockOrStmtToAsgType; spec_use (ih.blockOrStmtToAsgType _))
  | (spec_head Sema.classicalDeclarationStatementToAsgStmt; spec_use (ih.classicalDeclarationStatementToAsgStmt _ _ _ _ _ _))
  | (spec_head Sema.assignmentStmtToAsgStmt; spec_use (ih.assignmentStmtToAsgStmt _ _ _ _)))

theorem stmtToAsgStmt_step (fuel : Nat) (ih : AllSpecStmt S fuel) (st : Ast.Stmt) :
    Spec S (Sema.stmtToAsgStmt (fuel + 1) st) (OptWTS S) := by
  unfold Sema.stmtToAsgStmt; spec

theorem caseExprsLoop_step (fuel : Nat) (ih : AllSpecStmt S fuel) (cs : List Ast.CaseExpr) :
    Spec S (Sema.caseExprsLoop (fuel + 1) cs) (CasesWTS S) := by
  unfold Sema.caseExprsLoop; spec

theorem exprStmtToAsgStmt_step (fuel : Nat) (ih : AllSpecStmt S fuel) (e : Option Ast.Expr) :
    Spec S (Sema.exprStmtToAsgStmt (fuel + 1) e) (OptWTS S) := by
  unfold Sema.exprStmtToAsgStmt; spec

theorem modifiersLoop_step (fuel : Nat) (ih : AllSpecStmt S fuel) (ms : List Ast.Modifier) :
    Spec S (Sema.modifiersLoop (fuel + 1) ms) (ModsWT S) := by
  unfold Sema.modifiersLoop; spec

theorem gateCallExprToAsgStmt_step (fuel : Nat) (ih : AllSpecStmt S fuel) (gc : Ast.GateCallExpr) (mods : List GateModifier) :
    Spec S (Sema.gateCallExprToAsgStmt (fuel + 1) gc mods) (fun r => ModsWT S mods → OptWTS S r) := by
  unfold Sema.gateCallExprToAsgStmt; spec

theorem qubitListToAsgTexpr_step (fuel : Nat) (ih : AllSpecStmt S fuel) (ql : Option Ast.QubitList) :
    Spec S (Sema.qubitListToAsgTexpr (fuel + 1) ql) (ListWT S) := by
  unfold Sema.qubitListToAsgTexpr; spec

theorem gateOperandsLoop_step (fuel : Nat) (ih : AllSpecStmt S fuel) (gs : List Ast.GateOperand) :
    Spec S (Sema.gateOperandsLoop (fuel + 1) gs) (ListWT S) := by
  unfold Sema.gateOperandsLoop; spec

theorem blockExprToAsgStmtList_step (fuel : Nat) (ih : AllSpecStmt S fuel) (b : Ast.BlockExpr) :
    Spec S (Sema.blockExprToAsgStmtList (fuel + 1) b) (ListWTS S) := by
  unfold Sema.blockExprToAsgStmtList; spec

theorem stmtsLoop_step (fuel : Nat) (ih : AllSpecStmt S fuel) (ss : List Ast.Stmt) :
    Spec S (Sema.stmtsLoop (fuel + 1) ss) (ListWTS S) := by
  unfold Sema.stmtsLoop; spec

theorem blockExprToAsgType_step (fuel : Nat) (ih : AllSpecStmt S fuel) (b : Ast.BlockExpr) :
    Spec S (Sema.blockExprToAsgType (fuel + 1) b) (BlockWTS S) := by
  unfold Sema.blockExprToAsgType; spec

theorem blockOrStmtToAsgType_step (fuel : Nat) (ih : AllSpecStmt S fuel) (b : Ast.BlockOrStmt) :
    Spec S (Sema.blockOrStmtToAsgType (fuel + 1) b) (BlockWTS S) := by
  unfold Sema.blockOrStmtToAsgType; spec

theorem classicalDeclarationStatementToAsgStmt_step (fuel : Nat) (_ih : AllSpecStmt S fuel) (sp : Ast.Span) (arr : Bool) (st : Option Ast.ScalarType) (ct : Bool) (n : Option Ast.Name) (e : Option Ast.Expr) :
    Spec S (Sema.classicalDeclarationStatementToAsgStmt (fuel + 1) sp arr st ct n e) (WTS S) := by
  unfold Sema.classicalDeclarationStatementToAsgStmt; spec

theorem assignmentStmtToAsgStmt_step (fuel : Nat) (_ih : AllSpecStmt S fuel) (sp : Ast.Span) (i : Option Ast.Identifier) (rhs : Option Ast.Expr) (ii : Option Ast.IndexedIdentifier) :
    Spec S (Sema.assignmentStmtToAsgStmt (fuel + 1) sp i rhs ii) (OptWTS S) := by
  unfold Sema.assignmentStmtToAsgStmt; spec

theorem allSpecStmt (fuel : Nat) : AllSpecStmt S fuel := by
  induction fuel with
  | zero =>
    constructor
    · intros; unfold Sema.stmtToAsgStmt; exact Spec.throw _ _
    · intros; unfold Sema.caseExprsLoop; exact Spec.throw _ _
    · intros; unfold Sema.exprStmtToAsgStmt; exact Spec.throw _ _
    · intros; unfold Sema.modifiersLoop; exact Spec.throw _ _
    · intros; unfold Sema.gateCallExprToAsgStmt; exact Spec.throw _ _
    · intros; unfold Sema.qubitListToAsgTexpr; exact Spec.throw _ _
    · intros; unfold Sema.gateOperandsLoop; exact Spec.throw _ _
    · intros; unfold Sema.blockExprToAsgStmtList; exact Spec.throw _ _
    · intros; unfold Sema.stmtsLoop; exact Spec.throw _ _
    · intros; unfold Sema.blockExprToAsgType; exact Spec.throw _ _
    · intros; unfold Sema.blockOrStmtToAsgType; exact Spec.throw _ _
    · intros; unfold Sema.classicalDeclarationStatementToAsgStmt; exact Spec.throw _ _
    · intros; unfold Sema.assignmentStmtToAsgStmt; exact Spec.throw _ _
  | succ fuel ih =>
    constructor
    · intros; exact stmtToAsgStmt_step fuel ih _
    · intros; exact caseExprsLoop_step fuel ih _
    · intros; exact exprStmtToAsgStmt_step fuel ih _
    · intros; exact modifiersLoop_step fuel ih _
    · intros; exact gateCallExprToAsgStmt_step fuel ih _ _
    · intros; exact qubitListToAsgTexpr_step fuel ih _
    · intros; exact gateOperandsLoop_step fuel ih _
    · intros; exact blockExprToAsgStmtList_step fuel ih _
    · intros; exact stmtsLoop_step fuel ih _
    · intros; exact blockExprToAsgType_step fuel ih _
    · intros; exact blockOrStmtToAsgType_step fuel ih _
    · intros; exact classicalDeclarationStatementToAsgStmt_step fuel ih _ _ _ _ _ _
    · intros; exact assignmentStmtToAsgStmt_step fuel ih _ _ _ _

structure Keep {α} (x : M α) : Prop where
  run : ∀ c a c', x c = .ok (a, c') → c'.program = c.program

theorem Keep.of_frame {α} {x : M α} (h : C06.Frame x) : Keep x :=
  ⟨fun c a c' hr => (h.run c a c' hr).program⟩

theorem Keep.unwrap {α} (site : String) (o : Option α) : Keep (Sema.unwrap site o) :=
  .of_frame (C06.Frame.unwrap site o)

theorem Keep.enterScope (k : ScopeType) : Keep (Sema.enterScope k) :=
  .of_frame (C06.Frame.bind (C06.symStep_frame _ _) fun _ => C06.Frame.pure _)

theorem Keep.exitScope  : Keep (Sema.exitScope ) :=
  .of_frame (C06.Frame.bind (C06.symStep_frame _ _) fun _ => C06.Frame.pure _)

theorem Spec.standardLibraryGates (node : Ast.Span) :
    Spec S (Sema.standardLibraryGates node) (fun _ => True) :=
  ⟨fun c u c' h => ⟨((C06.standardLibraryGates_frame node).run c u c' h).symbols, fun _ => trivial⟩⟩
macro_rules | `(tactic| spec_lemma) => `(tactic| (spec_head Sema.standardLibraryGates; spec_use (Spec.standardLibraryGates _)))

theorem Keep.standardLibraryGates (node : Ast.Span) : Keep (Sema.standardLibraryGates node) :=
  .of_frame (C06.standardLibraryGates_frame node)

def ProgOK (S : List Sym) (c : Ctx) : Prop := ∀ st, st ∈ c.program → WTS S st

theorem annotationsIsEmpty_ok (c c' : Ctx) (b : Bool) (h : annotationsIsEmpty c = .ok (b, c')) :
    c' = c := by
  simp only [annotationsIsEmpty, M.bind_ok, M.get_ok, M.pure_ok, Prod.mk.injEq, exists2_eq] at h
  exact h.2

theorem insertStmt_ok (s : Stmt) (c c' : Ctx) (u : Unit) (h : insertStmt s c = .ok (u, c')) :
    c' = { c with program := c.program ++ [s] } := by
  simp only [insertStmt, M.modify_ok, Prod.mk.injEq] at h
  exact h.2

theorem takeAnnotations_ok (c c' : Ctx) (a : List String) (h : takeAnnotations c = .ok (a, c')) :
    c'.symbolTable = c.symbolTable ∧ c'.program = c.program := by
  simp only [takeAnnotations, M.get_bind_ok, M.set_bind_ok, M.pure_ok, Prod.mk.injEq] at h
  rw [h.2]; exact ⟨rfl, rfl⟩

def LoopOK (c c' : Ctx) : Prop :=
  Ext c c' ∧ ∀ S, c'.symbolTable.all <+: S → ProgOK S c → ProgOK S c'

theorem LoopOK.refl (c : Ctx) : LoopOK c c := ⟨Ext.refl _, fun _ _ h => h⟩

/-- one more analysed statement, attached, then the rest of the loop -/
theorem LoopOK.step {c c1 c2 c' : Ctx} {r : Option Stmt}
    (e1 : Ext c c1) (hkeep : c1.program = c.program)
    (hr : ∀ S, c1.symbolTable.all <+: S → OptWTS S r)
    (hatt : C06.attachM r c1 = .ok (⟨⟩, c2)) (hrest : LoopOK c2 c') : LoopOK c c' := by
  obtain ⟨e2, h2⟩ := hrest
  cases r with
  | none =>
    cases hatt
    exact ⟨e1.trans e2, fun S hS hc => h2 S hS fun st hst => hc st (hkeep ▸ hst)⟩
  | some t =>
    obtain ⟨-, hc2⟩ := C06.attachM_some.mp hatt
    cases hc2
    refine ⟨e1.trans e2, fun S hS hc => h2 S hS fun st hst => ?_⟩
    rcases List.mem_append.mp hst with hst | hst
    · exact hc st (hkeep ▸ hst)
    · rw [List.mem_singleton] at hst; subst hst
      have ht : WTS S t := hr S (List.IsPrefix.trans e2 hS)
      cases c1.annotations with
      | nil => exact ht
      | cons a as => exact .annotated ht

theorem topStmtM_spec (fuel : Nat) (s : Ast.Stmt) : Spec S (C06.topStmtM fuel s) (OptWTS S) := by
  unfold C06.topStmtM
  split
  · spec
  · exact (allSpecStmt fuel).stmtToAsgStmt _

theorem loop_ok (fuel : Nat) (stmts : List Ast.Stmt) (c c' : Ctx) (u : Unit)
    (h : syntaxToSemanticLoop fuel stmts c = .ok (u, c')) : LoopOK c c' := by
  induction fuel generalizing stmts c with
  | zero => simp [syntaxToSemanticLoop] at h
  | succ fuel ih =>
    cases stmts with
    | nil =>
      simp only [syntaxToSemanticLoop, M.pure_ok, Prod.mk.injEq] at h
      rw [h.2]; exact LoopOK.refl _
    | cons s rest =>
      -- analyse (state `c1`, result `o`), attach (state `c2`), go on
      rw [C06.topLoop_cons_eq, M.bind_ok] at h
      obtain ⟨o, c1, h1, h2⟩ := h
      rw [M.bind_ok] at h2
      obtain ⟨_, c2, h3, h4⟩ := h2
      have hk := ((C06.topStmtM_frame fuel s).run c o c1 h1).program
      exact LoopOK.step ((topStmtM_spec (S := []) fuel s).run c o c1 h1).1 hk
        (fun S hS => ((topStmtM_spec (S := S) fuel s).run c o c1 h1).2 hS) h3 (ih rest c2 h4)

/-- **C08 for whole programs.**  Every statement of an analysed program is well typed — every typed
expression anywhere inside it satisfies `WT` — relative to the final symbol table.  Any fuel, any
program; the hypothesis only says that the analysis returned normally. -/
theorem program_well_typed (fuel : Nat) (p : Ast.Program) (c : Ctx)
    (h : analyzeWith fuel p = .ok c) : ∀ st, st ∈ c.program → WTS c.symbolTable.all st := by
  obtain ⟨-, hloop⟩ := analyzeWith_ok_iff.mp h
  exact (loop_ok fuel p.statements _ _ _ hloop).2 _ (List.prefix_refl _) (fun st hst => by cases hst)

theorem program_well_typed_analyze (p : Ast.Program) (c : Ctx) (h : analyze p = .ok c) :
    ∀ st, st ∈ c.program → WTS c.symbolTable.all st := program_well_typed _ p c h

/-- the value `classical_declaration_statement_to_asg_stmt` hands to `insert_const_value` for a
declaration of type `lhs` whose initializer analysed to `init` — `none` when it records nothing:
* no initializer: nothing;
* **the initializer's type equals the declared type up to const-ness: nothing** (this path returns
  `DeclareClassical` directly, without `declare_classical_helper`);
* otherwise the stored value (`Cast(init, lhs)` when `declCastCond`, else `init`) — if its type is
  const. -/
def recordedValue (lhs : T) (init : Option TExpr) : Option TExpr :=
  match init with
  | none => none
  | some i =>
    if equalUpToConstness lhs i.getType then none
    else
      let v := if declCastCond lhs i then castToTexpr i lhs else i
      if isConst v.getType then some v else none

/-- `HashMap::insert` on the association list -/
def insertCV (cvs : List (Nat × TExpr)) (id : Nat) (v : TExpr) : List (Nat × TExpr) :=
  (id, v) :: cvs.filter (fun p => p.1 != id)

/-- the table after recording `rv` (if any) for `sym` (if bound) -/
def declCV (cvs : List (Nat × TExpr)) (sym : SymbolIdResult) (rv : Option TExpr) :
    List (Nat × TExpr) :=
  match sym, rv with
  | .ok id, some v => insertCV cvs id v
  | _, _ => cvs

/-- `declare_classical_helper` records only values of const type -/
def constOnly : Option TExpr → Option TExpr
  | some i => if isConst i.getType then some i else none
  | none => none

theorem declCV_none (cvs : List (Nat × TExpr)) (sym : SymbolIdResult) : declCV cvs sym none = cvs := by
  cases sym <;> rfl

theorem declareClassicalHelper_constValues (sym : SymbolIdResult) (v : Option TExpr) (c c' : Ctx)
    (s : Stmt) (h : declareClassicalHelper sym v c = .ok (s, c')) :
    c'.constValues = declCV c.constValues sym (constOnly v) := by
  unfold declareClassicalHelper at h
  cases v with
  | none =>
    simp only [M.pure_ok, Prod.mk.injEq] at h
    rw [h.2]; exact (declCV_none _ _).symm
  | some i =>
    simp only at h
    by_cases hc : isConst i.getType = true
    · rw [if_pos hc] at h
      cases sym with
      | error e =>
        simp only [M.pure_ok, Prod.mk.injEq] at h
        rw [h.2]; rfl
      | ok id =>
        simp only [insertConstValue, M.modify_bind_ok, M.pure_ok, Prod.mk.injEq] at h
        rw [h.2]; simp only [constOnly, hc, if_true]; rfl
    · rw [if_neg hc] at h
      simp only [M.pure_ok, Prod.mk.injEq] at h
      rw [h.2]
      simp only [constOnly, hc, Bool.false_eq_true, if_false]
      exact (declCV_none _ _).symm

theorem newBinding_constValues (name : String) (typ : T) (node : Ast.Span) (c c' : Ctx)
    (r : SymbolIdResult) (h : newBinding name typ node c = .ok (r, c')) :
    c'.constValues = c.constValues := by
  simp only [newBinding, M.bind_ok] at h
  obtain ⟨o, c1, h1, h2⟩ := h
  obtain ⟨-, rfl⟩ := symStep_ok _ _ _ _ _ h1
  cases o <;> simp only [M.pure_ok, Prod.mk.injEq, M.fail_ok, M.bind_ok] at h2
  · rw [h2.2]
  · obtain ⟨u, c2, h3, -, rfl⟩ := h2
    rw [insertError_ok _ _ _ _ _ h3]

/-- **exactly what a declaration records.**  After a (non-array) classical declaration, the
const-value table is the table after the binding, plus — iff the symbol was bound and
`recordedValue` is `some v` — the entry `id ↦ v` (`declCV`). -/
theorem const_values_after_declaration (fuel : Nat) (span : Ast.Span) (st : Ast.ScalarType)
    (constToken : Bool) (name : Ast.Name) (expr : Option Ast.Expr) (c c' : Ctx) (stmt : Stmt)
    (h : (classicalDeclarationStatementToAsgStmt (fuel + 1) span false (some st) constToken
      (some name) expr).run c = .ok (stmt, c')) :
    ∃ lhsType c1 init c2 sym c3,
      (scalarTypeToType st constToken).run c = .ok (lhsType, c1) ∧
      (exprToAsgTexpr fuel expr).run c1 = .ok (init, c2) ∧
      (newBinding name.text lhsType span).run c2 = .ok (sym, c3) ∧
      c3.constValues = c2.constValues ∧
      c'.constValues = declCV c3.constValues sym (recordedValue lhsType init) := by
  simp only [StateT.run, classicalDeclarationStatementToAsgStmt, Bool.false_eq_true, if_false,
    unwrap, M.bind_ok, M.pure_ok, Prod.mk.injEq, exists2_eq] at h
  obtain ⟨lhsType, c1, h1, init, c2, h2, sym, c3, h3, h4⟩ := h
  refine ⟨lhsType, c1, init, c2, sym, c3, h1, h2, h3, newBinding_constValues _ _ _ _ _ _ h3, ?_⟩
  have helper : ∀ (v : TExpr) (cX : Ctx), cX.constValues = c3.constValues →
      declareClassicalHelper sym (some v) cX = .ok (stmt, c') →
      c'.constValues = declCV c3.constValues sym (constOnly (some v)) := by
    intro v cX hcX hh
    rw [declareClassicalHelper_constValues _ _ _ _ _ hh, hcX]
  have errHelper : ∀ (v : TExpr), (do insertError .incompatibleTypesError span
                                      declareClassicalHelper sym (some v)) c3 = .ok (stmt, c') →
      c'.constValues = declCV c3.constValues sym (constOnly (some v)) := by
    intro v hh
    rw [M.bind_ok] at hh
    obtain ⟨u, cY, e1, e2⟩ := hh
    exact helper v cY (by rw [insertError_ok _ _ _ _ _ e1]) e2
  cases init with
  | none =>
    simp only at h4
    rw [declareClassicalHelper_constValues _ _ _ _ _ h4]; rfl
  | some i =>
    simp only at h4
    by_cases he : equalUpToConstness lhsType i.getType = true
    · rw [if_pos he] at h4
      simp only [M.pure_ok, Prod.mk.injEq] at h4
      rw [h4.2]
      simp only [recordedValue, he, if_true]
      exact (declCV_none _ _).symm
    · rw [if_neg he] at h4
      have finish : ∀ v, (if declCastCond lhsType i = true then castToTexpr i lhsType else i) = v →
          c'.constValues = declCV c3.constValues sym (constOnly (some v)) →
          c'.constValues = declCV c3.constValues sym (recordedValue lhsType (some i)) := by
        intro v hv hc
        rw [hc]
        simp only [recordedValue, he, Bool.false_eq_true, if_false, hv, constOnly]
      obtain ⟨e, t⟩ := i
      cases e with
      | literal lit =>
        simp only [TExpr.expression] at h4
        by_cases hc : Sema.canCastLiteral lhsType (TExpr.mk (.literal lit) t).getType lit = true
        · rw [if_pos hc] at h4
          exact finish _ (by simp only [declCastCond, TExpr.expression, hc, if_true])
            (helper _ c3 rfl h4)
        · rw [if_neg hc] at h4
          exact finish _ (by simp only [declCastCond, TExpr.expression, hc, Bool.false_eq_true, if_false])
            (errHelper _ h4)
      | _ =>
        simp only [TExpr.expression] at h4
        split at h4
        · rename_i hp
          exact finish _ (by simp only [declCastCond, TExpr.expression, hp, if_true])
            (helper _ c3 rfl h4)
        · rename_i hp
          split at h4
          · exact finish _ (by simp only [declCastCond, TExpr.expression, hp, Bool.false_eq_true, if_false])
              (errHelper _ h4)
          · exact finish _ (by simp only [declCastCond, TExpr.expression, hp, Bool.false_eq_true, if_false])
              (helper _ c3 rfl h4)

/-- `Context::get_const_value` on a table -/
def lookupCV (cvs : List (Nat × TExpr)) (id : Nat) : Option TExpr :=
  (cvs.find? (fun p => p.1 == id)).map (·.2)

theorem lookupCV_insertCV (cvs : List (Nat × TExpr)) (id : Nat) (v : TExpr) :
    lookupCV (insertCV cvs id v) id = some v := by
  simp [lookupCV, insertCV]

/-- For a declaration that bound its symbol (`sym = ok id`, a fresh
id: no entry for it before), `get_const_value(id)` afterwards is `some v` **iff**
`recordedValue lhsType init = some v` — i.e. iff there is an initializer, its type is NOT equal to
the declared type up to const-ness, and the stored value (the cast, or the initializer itself) has
a const type. -/
theorem const_value_recorded_iff (fuel : Nat) (span : Ast.Span) (st : Ast.ScalarType)
    (constToken : Bool) (name : Ast.Name) (expr : Option Ast.Expr) (c c' : Ctx) (stmt : Stmt)
    (h : (classicalDeclarationStatementToAsgStmt (fuel + 1) span false (some st) constToken
      (some name) expr).run c = .ok (stmt, c')) :
    ∃ lhsType c1 init c2 sym c3,
      (scalarTypeToType st constToken).run c = .ok (lhsType, c1) ∧
      (exprToAsgTexpr fuel expr).run c1 = .ok (init, c2) ∧
      (newBinding name.text lhsType span).run c2 = .ok (sym, c3) ∧
      ∀ id, sym = .ok id → lookupCV c2.constValues id = none →
        ∀ v, lookupCV c'.constValues id = some v ↔ recordedValue lhsType init = some v := by
  obtain ⟨lhsType, c1, init, c2, sym, c3, h1, h2, h3, h4, h5⟩ :=
    const_values_after_declaration fuel span st constToken name expr c c' stmt h
  refine ⟨lhsType, c1, init, c2, sym, c3, h1, h2, h3, ?_⟩
  intro id hs hfresh v
  subst hs
  rw [h5, h4]
  cases hr : recordedValue lhsType init with
  | none => simp only [declCV, hfresh]
  | some w => simp only [declCV, lookupCV_insertCV]

/-- the path on which nothing is recorded -/
theorem not_recorded_when_equal_up_to_const (lhs : T) (i : TExpr)
    (h : equalUpToConstness lhs i.getType = true) : recordedValue lhs (some i) = none := by
  simp [recordedValue, h]

/-- `const int[128] n = 3;` (any integer literal): the literal's type IS `const int[128]`, so nothing
is recorded — and `int[n] x;` then panics in `designator_to_asg`
(`C09.witness_const_value_not_recorded`, `C09.designator_identifier_cases`) -/
theorem const_int128_literal_not_recorded (n : Nat) (s c : Bool) :
    recordedValue (.int (some 128) c) (some (intLiteralToTexpr n s)) = none := by
  cases c <;> rfl

/-- a const declared without initializer records nothing (an initializer of its own type:
`not_recorded_when_equal_up_to_const`) -/
theorem no_initializer_not_recorded (lhs : T) : recordedValue lhs none = none := rfl

theorem texprToU32_cast (i : TExpr) (lhs : T) (w : Nat) :
    texprToU32 (castToTexpr i lhs) = some w ↔
      ∃ t, i = .mk (.literal (.int w true)) t ∧ w < 2 ^ 32 := by
  obtain ⟨e, t⟩ := i
  cases e with
  | literal lit =>
    cases lit with
    | int n sgn =>
      cases sgn with
      | true =>
        simp only [texprToU32, castToTexpr, TExpr.expression]
        constructor
        · intro h
          split at h
          · cases h; exact ⟨t, rfl, ‹_›⟩
          · cases h
        · rintro ⟨t', h1, h2⟩
          cases h1
          simp [h2]
      | false => simp [texprToU32, castToTexpr, TExpr.expression]
    | _ => simp [texprToU32, castToTexpr, TExpr.expression]
  | _ => simp [texprToU32, castToTexpr, TExpr.expression]

/-- **which declarations make `int[n]` usable** (`designator_to_asg` needs a recorded value `cv`
with `u32::try_from(&cv) = Ok(w)`, i.e. `cv = Cast(Literal::Int{w, sign: true}, _)`, `w < 2^32`):
exactly those whose initializer's type differs from the declared type up to const-ness and
* either the code inserts a cast, the declared type is const, and the initializer is the positive
  integer literal `w`,
* or the code stores the initializer unchanged (logging `IncompatibleTypesError` or silently), the
  initializer's type is const, and the initializer itself is a written cast of such a literal. -/
theorem designator_usable_iff (lhs : T) (i cv : TExpr) (w : Nat) :
    (recordedValue lhs (some i) = some cv ∧ texprToU32 cv = some w) ↔
    (equalUpToConstness lhs i.getType = false ∧
      ((declCastCond lhs i = true ∧ isConst lhs = true ∧ cv = castToTexpr i lhs ∧
          ∃ t, i = .mk (.literal (.int w true)) t ∧ w < 2 ^ 32) ∨
       (declCastCond lhs i = false ∧ isConst i.getType = true ∧ cv = i ∧
          texprToU32 i = some w))) := by
  unfold recordedValue
  by_cases he : equalUpToConstness lhs i.getType = true
  · simp [he]
  · have he' : equalUpToConstness lhs i.getType = false := by simpa using he
    simp only [he', Bool.false_eq_true, if_false, true_and]
    by_cases hc : declCastCond lhs i = true
    · simp only [hc, if_true, castToTexpr, TExpr.getType, Bool.true_eq_false, false_and, or_false,
        true_and]
      constructor
      · rintro ⟨h1, h2⟩
        split at h1
        · rename_i hcl
          cases h1
          exact ⟨hcl, rfl, (texprToU32_cast i lhs w).mp h2⟩
        · cases h1
      · rintro ⟨hcl, rfl, ht⟩
        exact ⟨by simp [hcl], (texprToU32_cast i lhs w).mpr ht⟩
    · have hc' : declCastCond lhs i = false := by simpa using hc
      simp only [hc', Bool.false_eq_true, if_false, false_and, false_or, true_and]
      constructor
      · rintro ⟨h1, h2⟩
        split at h1
        · rename_i hci
          cases h1
          exact ⟨hci, rfl, h2⟩
        · cases h1
      · rintro ⟨hci, rfl, h2⟩
        simp [hci, h2]

/-- the everyday case: `const T n = <integer literal w>;` with `T` one of `int` (any width but
128, or none), `uint[..]`, `float[..]`, `complex[..]` and `w < 2^32` makes `T'[n]` evaluate to
width `w` -/
theorem const_int_literal_usable (lhs : T) (w : Nat) (hw : w < 2 ^ 32) (hc : isConst lhs = true)
    (hk : (tag lhs = .int ∧ width lhs ≠ some 128) ∨ tag lhs = .uint ∨ tag lhs = .float ∨
      tag lhs = .complex) :
    recordedValue lhs (some (intLiteralToTexpr w true)) =
      some (castToTexpr (intLiteralToTexpr w true) lhs) ∧
    texprToU32 (castToTexpr (intLiteralToTexpr w true) lhs) = some w := by
  have key := (designator_usable_iff lhs (intLiteralToTexpr w true)
    (castToTexpr (intLiteralToTexpr w true) lhs) w).mpr
  apply key
  cases lhs <;> first
    | (simp [tag] at hk; done)
    | (rename_i wd cst
       simp only [isConst] at hc
       subst hc
       refine ⟨?_, .inl ⟨?_, rfl, rfl, _, rfl, hw⟩⟩
       · cases wd <;> simp_all [equalUpToConstness, intLiteralToTexpr, TExpr.getType, tag, width]
       · simp [declCastCond, intLiteralToTexpr, TExpr.expression, Sema.canCastLiteral, tag,
           Types.canCastLiteral, equalBaseType, TExpr.getType])

end Oq3.Props.C08
