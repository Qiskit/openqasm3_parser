/-
C09 — declared symbols carry exactly the declared type: `scalar_type_to_type` returns base kind /
width / const as written, the width being whatever `designator_to_asg` returned.

Designators: a literal width is recorded `mod 2^32` (F17: above `u32` it is truncated silently); a
non-integer literal gives `ConstIntegerError`; a const identifier gives its value if it fits `u32`,
`InvalidDesignatorError` and the SUBSTITUTED WIDTH 0 otherwise, a panic when no value was recorded; a
non-const identifier: the width is silently dropped.
-/
import Oq3.Props.C08Prog

namespace Oq3.Props.C09
open Oq3 Oq3.Types Oq3.Symbols Oq3.Sema Oq3.Props.C08

/-- the `Type` denoted by a written scalar type of kind `kind` with width/length `w` -/
def typeOf (kind : Ast.ScalarTypeKind) (w : Option Nat) (c : Bool) : Option T :=
  match kind with
  | .angle => some (.angle w c)
  | .bit => some (match w with | some w => .bitArray (.d1 w) c | none => .bit c)
  | .bool => some (.boolT c)
  | .complex => some (.complex w c)
  | .duration => some (.duration c)
  | .float => some (.float w c)
  | .int => some (.int w c)
  | .stretch => some (.stretch c)
  | .uint => some (.uint w c)
  | .qubit => some (match w with | some w => .qubitArray (.d1 w) | none => .qubit)
  | .none => none

/-- the designator `scalar_type_to_type` evaluates: for `complex[float[w]]` the inner one -/
def effectiveDesignator : Ast.ScalarType → Option Ast.Designator
  | .mk _ _ d none => d
  | .mk _ _ _ (some (.mk _ _ d _)) => d

def kindOfScalarType : Ast.ScalarType → Ast.ScalarTypeKind
  | .mk _ k _ _ => k

/-- **C09, base kind / width / const exactly as written**: the result of `scalar_type_to_type` is
the type denoted by the written kind, the const flag passed in, and the width returned by
`designator_to_asg` on the (effective) designator — nothing else. -/
theorem scalar_type_exact (st : Ast.ScalarType) (isconst : Bool) (c c' : Ctx) (t : T)
    (h : (scalarTypeToType st isconst).run c = .ok (t, c')) :
    ∃ w, (designatorToAsg (effectiveDesignator st)).run c = .ok (w, c') ∧
      typeOf (kindOfScalarType st) w isconst = some t := by
  obtain ⟨sp, kind, d, inner⟩ := st
  have key : ∀ deff, (do
        let width ← designatorToAsg deff
        match kind with
        | .angle => pure (T.angle width isconst)
        | .bit => pure <| match width with
          | some w => T.bitArray (.d1 w) isconst
          | none => T.bit isconst
        | .bool => pure (T.boolT isconst)
        | .complex => pure (T.complex width isconst)
        | .duration => pure (T.duration isconst)
        | .float => pure (T.float width isconst)
        | .int => pure (T.int width isconst)
        | .stretch => pure (T.stretch isconst)
        | .uint => pure (T.uint width isconst)
        | .qubit => pure <| match width with
          | some w => T.qubitArray (.d1 w)
          | none => T.qubit
        | .none => fail "scalar_type_to_type: ScalarTypeKind::None" : M T) c = .ok (t, c') →
      ∃ w, (designatorToAsg deff).run c = .ok (w, c') ∧ typeOf kind w isconst = some t := by
    intro deff hh
    simp only [Sema.M.bind_ok] at hh
    obtain ⟨w, c1, h1, h2⟩ := hh
    cases kind <;> simp only [M.pure_ok, Prod.mk.injEq, M.fail_ok] at h2 <;>
      (obtain ⟨rfl, rfl⟩ := h2; exact ⟨w, h1, rfl⟩)
  cases inner with
  | none => exact key d h
  | some i =>
    obtain ⟨isp, ik, id, ii⟩ := i
    exact key id h

theorem designator_none (c : Ctx) : (designatorToAsg none).run c = .ok (none, c) := rfl

theorem designator_empty (sp : Ast.Span) (c : Ctx) :
    (designatorToAsg (some (.mk sp none))).run c = .ok (none, c) := rfl

/-- a literal integer designator: the recorded width is the value **mod 2^32** (`value as u32`),
the state is untouched (no diagnostic) -/
theorem designator_literal (sp sp' : Ast.Span) (text : String) (v : Option Nat) (n : Nat)
    (hn : TokenExt.intValueS text = some n) (c : Ctx) :
    (designatorToAsg (some (.mk sp (some (.literal ⟨sp', .intNumber text v⟩))))).run c =
      .ok (some (n % 2 ^ 32), c) := by
  simp only [designatorToAsg, getAstDesignatorExpression, intNumberValue, hn, unwrap]
  rfl

/-- **C09, literal widths that fit are recorded exactly** -/
theorem declared_width_literal_partial (sp sp' : Ast.Span) (text : String) (v : Option Nat) (w : Nat)
    (hn : TokenExt.intValueS text = some w) (hw : w < 2 ^ 32) (c : Ctx) :
    (designatorToAsg (some (.mk sp (some (.literal ⟨sp', .intNumber text v⟩))))).run c =
      .ok (some w, c) := by
  rw [designator_literal sp sp' text v w hn c, Nat.mod_eq_of_lt hw]

/-- **F17**: a literal width that does not fit `u32` is replaced by ANOTHER number, silently -/
theorem width_truncated_silently (sp sp' : Ast.Span) (text : String) (v : Option Nat) (w : Nat)
    (hn : TokenExt.intValueS text = some w) (hw : 2 ^ 32 ≤ w) (c : Ctx) :
    ∃ w', (designatorToAsg (some (.mk sp (some (.literal ⟨sp', .intNumber text v⟩))))).run c =
      .ok (some w', c) ∧ w' ≠ w ∧ w' = w % 2 ^ 32 := by
  refine ⟨_, designator_literal sp sp' text v w hn c, ?_, rfl⟩
  have : w % 2 ^ 32 < 2 ^ 32 := Nat.mod_lt _ (by decide)
  omega

/-- a literal designator that is not an integer: `ConstIntegerError` at the literal, no width -/
theorem designator_nonint_literal (sp : Ast.Span) (lit : Ast.Literal)
    (hk : ∀ text v, lit.kind ≠ .intNumber text v) (c : Ctx) :
    (designatorToAsg (some (.mk sp (some (.literal lit))))).run c =
      .ok (none, { c with semanticErrors :=
        c.semanticErrors ++ [⟨.constIntegerError, lit.span.start, lit.span.stop⟩] }) := by
  obtain ⟨lsp, k⟩ := lit
  cases k <;> first
    | (exact absurd rfl (hk _ _))
    | rfl

/-- **the identifier designator, exactly** (successful runs).  `name` resolves to `(sym, typ)`:
* `typ` not const: NO width and NO diagnostic (the written designator is silently dropped);
* `typ` const (this includes a failed lookup, whose type `Undefined` counts as const — then the
  code panics, so no successful run exists): the recorded initializer `cv` of the symbol exists
  (otherwise panic) and either it is `Cast(Literal::Int{value, sign: true})` with `value < 2^32`
  and the width is `value`, or `InvalidDesignatorError` is logged at the identifier and the width
  **0** is substituted. -/
theorem designator_identifier_cases (sp : Ast.Span) (ident : Ast.Identifier) (c c' : Ctx)
    (w : Option Nat)
    (h : (designatorToAsg (some (.mk sp (some (.identifier ident))))).run c = .ok (w, c')) :
    ∃ sym typ c1, (lookupIdentifier ident).run c = .ok ((sym, typ), c1) ∧
      ((isConst typ = false ∧ w = none ∧ c' = c1) ∨
       (isConst typ = true ∧ ∃ id cv, sym = .ok id ∧
          (c1.constValues.find? (fun p => p.1 == id)).map (·.2) = some cv ∧
          ((∃ width, texprToU32 cv = some width ∧ w = some width ∧ c' = c1) ∨
           (texprToU32 cv = none ∧ w = some 0 ∧
             c' = { c1 with semanticErrors := c1.semanticErrors ++
               [⟨.invalidDesignatorError, ident.span.start, ident.span.stop⟩] })))) := by
  simp only [StateT.run, designatorToAsg, getAstDesignatorExpression, Sema.M.bind_ok] at h
  obtain ⟨⟨sym, typ⟩, c1, h1, h2⟩ := h
  refine ⟨sym, typ, c1, h1, ?_⟩
  simp only at h2
  by_cases hc : isConst typ = true
  · right
    rw [if_pos hc] at h2
    cases sym with
    | error e => simp [Sema.M.bind_ok] at h2
    | ok id =>
      simp only [Sema.M.bind_ok, M.pure_ok, Prod.mk.injEq, exists2_eq] at h2
      obtain ⟨cv?, c2, h3, cv, c3, h4, h5⟩ := h2
      simp only [getConstValue, M.get_bind_ok, M.pure_ok, Prod.mk.injEq] at h3
      obtain ⟨rfl, rfl⟩ := h3
      obtain ⟨h4a, h4b⟩ := (unwrap_ok _ _ _ _).mp h4
      simp only at h4a h4b
      subst h4b
      refine ⟨hc, id, cv, rfl, h4a, ?_⟩
      cases hu : texprToU32 cv with
      | some width =>
        simp only [hu, M.pure_ok, Prod.mk.injEq] at h5
        exact .inl ⟨width, rfl, h5.1, h5.2⟩
      | none =>
        simp only [hu, Sema.M.bind_ok, M.pure_ok, Prod.mk.injEq] at h5
        obtain ⟨u, c4, h6, rfl, rfl⟩ := h5
        exact .inr ⟨rfl, rfl, insertError_ok _ _ _ _ _ h6⟩
  · left
    rw [if_neg hc] at h2
    simp only [M.pure_ok, Prod.mk.injEq] at h2
    exact ⟨by simpa using hc, h2.1, h2.2⟩

/-- what `TryFrom<&TExpr> for u32` accepts: exactly `Cast(Literal::Int{value, sign: true}, _)` with
`value < 2^32` — so a const integer ≥ 2^32, a negative one, and any non-literal constant expression
end in `InvalidDesignatorError` + width 0 -/
theorem texprToU32_some_iff (cv : TExpr) (w : Nat) :
    texprToU32 cv = some w ↔
      ∃ t t', cv.expression = .cast (.mk (.literal (.int w true)) t) t' ∧ w < 2 ^ 32 := by
  unfold texprToU32
  split
  · rename_i iv t t' heq
    constructor
    · intro h
      split at h
      · cases h; exact ⟨t, t', heq, ‹_›⟩
      · cases h
    · rintro ⟨a, b, h1, h2⟩
      rw [heq] at h1
      cases h1
      simp [h2]
  · rename_i hne
    constructor
    · intro h; cases h
    · rintro ⟨a, b, h1, -⟩
      exact absurd h1 (hne _ _ _)

/-- the next symbol id after `c` is bound to `(name, t)` in `c'` -/
def Recorded (c c' : Ctx) (name : String) (t : T) : Prop :=
  c.symbolTable.all ++ [⟨name, t⟩] <+: c'.symbolTable.all

/-- `Context::new_binding`, exactly: either the symbol `(name, typ)` is appended, with id the
counter; or the name was bound in the current scope, nothing is appended, and
`RedeclarationError` is logged -/
theorem newBinding_ok (name : String) (typ : T) (node : Ast.Span) (c c' : Ctx) (r : SymbolIdResult)
    (h : (newBinding name typ node).run c = .ok (r, c')) :
    (r = .ok c.symbolTable.counter ∧ c'.symbolTable.all = c.symbolTable.all ++ [⟨name, typ⟩] ∧
      c'.symbolTable.counter = c.symbolTable.counter + 1 ∧
      c'.semanticErrors = c.semanticErrors) ∨
    (r = .error .alreadyBound ∧ c'.symbolTable = c.symbolTable ∧
      c'.semanticErrors = c.semanticErrors ++ [⟨.redeclarationError, node.start, node.stop⟩]) := by
  simp only [StateT.run, newBinding, Sema.M.bind_ok] at h
  obtain ⟨o, c1, h1, h2⟩ := h
  obtain ⟨ho, rfl⟩ := symStep_ok _ _ _ _ _ h1
  simp only [SymTab.step] at ho h2 ⊢
  cases hst : c.symbolTable.stack with
  | nil => simp only [hst] at ho; subst ho; simp at h2
  | cons s rest =>
    simp only [hst] at ho h2 ⊢
    by_cases hcn : s.containsName name = true
    · simp only [hcn, if_true] at ho h2 ⊢
      subst ho
      simp only [Sema.M.bind_ok, M.pure_ok, Prod.mk.injEq] at h2
      obtain ⟨u, c2, h3, rfl, rfl⟩ := h2
      right
      rw [insertError_ok _ _ _ _ _ h3]
      exact ⟨rfl, rfl, rfl⟩
    · simp only [hcn, Bool.false_eq_true, if_false, SymTab.newBindingNoCheck, hst] at ho h2 ⊢
      subst ho
      simp only [M.pure_ok, Prod.mk.injEq] at h2
      obtain ⟨rfl, rfl⟩ := h2
      left
      exact ⟨rfl, rfl, rfl, rfl⟩

/-- **C09, declarations.**  A (non-array) classical declaration whose written type `st` denotes
`t` binds the name with exactly `t`: the symbol `(name, t)` is the one appended by this
declaration (or the name was already bound in this scope: `err:AlreadyBound`). -/
theorem declared_type_recorded (fuel : Nat) (span : Ast.Span) (st : Ast.ScalarType)
    (constToken : Bool) (name : Ast.Name) (expr : Option Ast.Expr) (c c' : Ctx) (stmt : Stmt)
    (h : (classicalDeclarationStatementToAsgStmt (fuel + 1) span false (some st) constToken
      (some name) expr).run c = .ok (stmt, c')) :
    ∃ t c1 w init c2 sym v,
      (designatorToAsg (effectiveDesignator st)).run c = .ok (w, c1) ∧
      typeOf (kindOfScalarType st) w constToken = some t ∧
      (exprToAsgTexpr fuel expr).run c1 = .ok (init, c2) ∧
      stmt = .declareClassical sym v ∧
      ((sym = .ok c2.symbolTable.counter ∧ Recorded c2 c' name.text t) ∨
        sym = .error .alreadyBound) := by
  simp only [StateT.run, classicalDeclarationStatementToAsgStmt, Bool.false_eq_true, if_false,
    unwrap, Sema.M.bind_ok, M.pure_ok, Prod.mk.injEq, exists2_eq] at h
  obtain ⟨lhsType, c1, h1, init, c2, h2, sym, c3, h3, h4⟩ := h
  obtain ⟨w, hw, ht⟩ := scalar_type_exact st constToken c c1 lhsType h1
  -- the tail only touches diagnostics and the const-value table
  have tail : ∃ v, stmt = .declareClassical sym v ∧ c3.symbolTable.all <+: c'.symbolTable.all := by
    have hs : Spec (S := c'.symbolTable.all) (match init with
        | none => declareClassicalHelper sym none
        | some initializer =>
          if equalUpToConstness lhsType initializer.getType = true then
            pure (Stmt.declareClassical sym (some initializer))
          else
            match initializer.expression with
            | Expr.literal literal =>
              if Sema.canCastLiteral lhsType initializer.getType literal = true then
                declareClassicalHelper sym (some (castToTexpr initializer lhsType))
              else do
                insertError SemanticErrorKind.incompatibleTypesError span
                declareClassicalHelper sym (some initializer)
            | _ =>
              if equalUpToConstness (promoteTypesNotEqual lhsType initializer.getType) lhsType = true then
                declareClassicalHelper sym (some (castToTexpr initializer lhsType))
              else
                if (decide (promoteTypesNotEqual lhsType initializer.getType = T.void) ||
                    decide (promoteTypesNotEqual lhsType initializer.getType = initializer.getType)) = true then do
                  insertError SemanticErrorKind.incompatibleTypesError span
                  declareClassicalHelper sym (some initializer)
                else declareClassicalHelper sym (some initializer))
        (fun s => ∃ v, s = .declareClassical sym v) := by
      have hd : ∀ v, Spec (S := c'.symbolTable.all) (declareClassicalHelper sym v)
          (fun s => ∃ v, s = .declareClassical sym v) :=
        fun v => (Spec.declareClassicalHelper sym v).mono fun _ h => ⟨v, h⟩
      cases init with
      | none => exact hd _
      | some i =>
        simp only
        split
        · exact Spec.pure ⟨_, rfl⟩
        · split
          · split
            · exact hd _
            · exact Spec.bind_unit (Spec.insertError _ _) (hd _)
          · split
            · exact hd _
            · split
              · exact Spec.bind_unit (Spec.insertError _ _) (hd _)
              · exact hd _
    obtain ⟨e, r⟩ := hs.run c3 stmt c' h4
    obtain ⟨v, hv⟩ := r (List.prefix_refl _)
    exact ⟨v, hv, e⟩
  obtain ⟨v, hv, hpre⟩ := tail
  refine ⟨lhsType, c1, w, init, c2, sym, v, hw, ht, h2, hv, ?_⟩
  rcases newBinding_ok _ _ _ _ _ _ h3 with ⟨rfl, hall, -, -⟩ | ⟨rfl, -, -⟩
  · left
    refine ⟨rfl, ?_⟩
    unfold Recorded
    rw [← hall]; exact hpre
  · right; rfl

/-- **C09, declarations with a literal width that fits.**  `T[w] name` with `w < 2^32` binds
`name` with kind `T`, width exactly `w`, const iff `const` was written. -/
theorem declared_type_recorded_partial (fuel : Nat) (span sp1 sp2 sp3 : Ast.Span)
    (kind : Ast.ScalarTypeKind) (text : String) (tv : Option Nat) (w : Nat)
    (hn : TokenExt.intValueS text = some w) (hw : w < 2 ^ 32)
    (constToken : Bool) (name : Ast.Name) (expr : Option Ast.Expr) (c c' : Ctx) (stmt : Stmt)
    (h : (classicalDeclarationStatementToAsgStmt (fuel + 1) span false
      (some (.mk sp1 kind (some (.mk sp2 (some (.literal ⟨sp3, .intNumber text tv⟩)))) none))
      constToken (some name) expr).run c = .ok (stmt, c')) :
    ∃ t init c2 sym v,
      typeOf kind (some w) constToken = some t ∧
      (exprToAsgTexpr fuel expr).run c = .ok (init, c2) ∧
      stmt = .declareClassical sym v ∧
      ((sym = .ok c2.symbolTable.counter ∧ Recorded c2 c' name.text t) ∨
        sym = .error .alreadyBound) := by
  obtain ⟨t, c1, w', init, c2, sym, v, h1, h2, h3, h4, h5⟩ :=
    declared_type_recorded fuel span _ constToken name expr c c' stmt h
  have := declared_width_literal_partial sp2 sp3 text tv w hn hw c
  simp only [effectiveDesignator] at h1
  rw [this] at h1
  simp only [Except.ok.injEq, Prod.mk.injEq] at h1
  obtain ⟨rfl, rfl⟩ := h1
  exact ⟨t, init, c2, sym, v, h2, h3, h4, h5⟩

/-- **C09, qubit registers.**  `qubit[w] name;` binds `name : QubitArray(w)` where `w` is what
`designator_to_asg` returned; `qubit name;` binds `Qubit`. -/
theorem qubit_register_recorded (fuel : Nat) (span : Ast.Span) (name : Ast.Name)
    (hw : Option Ast.HardwareQubit) (qt : Ast.QubitType) (c c' : Ctx) (stmt : Option Stmt)
    (h : (stmtToAsgStmt (fuel + 1)
      (.quantumDeclarationStatement span (some name) hw (some qt))).run c = .ok (stmt, c')) :
    ∃ c1 c2 w sym, (designatorToAsg qt.designator).run c1 = .ok (w, c2) ∧
      stmt = some (.declareQuantum sym) ∧
      ((sym = .ok c2.symbolTable.counter ∧
        Recorded c2 c' name.text (match w with | some w => .qubitArray (.d1 w) | none => .qubit)) ∨
        sym = .error .alreadyBound) := by
  simp only [StateT.run, stmtToAsgStmt, Sema.M.bind_ok, unwrap, M.pure_ok, Prod.mk.injEq, exists2_eq] at h
  obtain ⟨u, c1, -, w, c2, h2, sym, c3, h3, rfl, rfl⟩ := h
  refine ⟨c1, c2, w, sym, h2, rfl, ?_⟩
  rcases newBinding_ok _ _ _ _ _ _ h3 with ⟨rfl, hall, -, -⟩ | ⟨rfl, -, -⟩
  · left
    refine ⟨rfl, ?_⟩
    unfold Recorded
    rw [hall]
    cases w <;> exact List.prefix_refl _
  · right; rfl

/-- symbols appended by a parameter list: each has the given type and the name of a parameter -/
theorem params_bound_with_type (typ : T) (ps : List Ast.Param) (c c' : Ctx)
    (rs : List SymbolIdResult) (h : (bindParams typ ps).run c = .ok (rs, c')) :
    rs.length = ps.length ∧
    ∃ new, c'.symbolTable.all = c.symbolTable.all ++ new ∧
      ∀ s, s ∈ new → s.ty = typ ∧ ∃ p, p ∈ ps ∧ s.name = p.text := by
  induction ps generalizing c rs with
  | nil =>
    simp only [StateT.run, bindParams, M.pure_ok, Prod.mk.injEq] at h
    obtain ⟨rfl, rfl⟩ := h
    exact ⟨rfl, [], by simp, by simp⟩
  | cons p ps ih =>
    simp only [StateT.run, bindParams, Sema.M.bind_ok, M.pure_ok, Prod.mk.injEq] at h
    obtain ⟨r, cA, h1, rs', cB, h2, hrs, hc⟩ := h
    subst hrs hc
    obtain ⟨hl, new, hnew, hall⟩ := ih cA rs' h2
    refine ⟨by simp [hl], ?_⟩
    rcases newBinding_ok _ _ _ _ _ _ h1 with ⟨-, ha, -, -⟩ | ⟨-, ha, -⟩
    · refine ⟨⟨p.text, typ⟩ :: new, by rw [hnew, ha]; simp, ?_⟩
      intro s hs
      cases hs with
      | head => exact ⟨rfl, p, List.mem_cons_self .., rfl⟩
      | tail _ hs =>
        obtain ⟨h3, q, hq, h4⟩ := hall s hs
        exact ⟨h3, q, List.mem_cons_of_mem _ hq, h4⟩
    · refine ⟨new, by rw [hnew, ha], ?_⟩
      intro s hs
      obtain ⟨h3, q, hq, h4⟩ := hall s hs
      exact ⟨h3, q, List.mem_cons_of_mem _ hq, h4⟩

def paramCount : Option Ast.ParamList → Nat
  | some l => l.params.length
  | none => 0

/-- the `num_params` of the Gate and Def arms -/
def optLen {α : Type} : Option (List α) → Nat
  | some l => l.length
  | none => 0

theorem bindParameterList_length (pl : Option Ast.ParamList) (typ : T) (c c' : Ctx)
    (r : Option (List SymbolIdResult)) (h : (bindParameterList pl typ).run c = .ok (r, c')) :
    optLen r = paramCount pl ∧ (r.isSome = pl.isSome) := by
  cases pl with
  | none =>
    simp only [StateT.run, bindParameterList, M.pure_ok, Prod.mk.injEq] at h
    obtain ⟨rfl, rfl⟩ := h
    exact ⟨rfl, rfl⟩
  | some l =>
    simp only [StateT.run, bindParameterList, Sema.M.bind_ok, M.pure_ok, Prod.mk.injEq] at h
    obtain ⟨rs, cA, h1, hr, hc⟩ := h
    subst hr
    exact ⟨(params_bound_with_type typ l.params c cA rs h1).1, rfl⟩

theorem bindTypedParams_cons (p : Ast.TypedParam) (ps : List Ast.TypedParam) (c c' : Ctx)
    (rs : List SymbolIdResult) (h : (bindTypedParams (p :: ps)).run c = .ok (rs, c')) :
    ∃ t c1 nm r c2 rs',
      (match p.paramType with
        | some pt => (paramTypeToType pt false).run c = .ok (t, c1)
        | none => p.oldTypedParam = true ∧ t = .todo ∧ c1 = c) ∧
      p.name = some nm ∧
      (newBinding nm.text t p.span).run c1 = .ok (r, c2) ∧
      (bindTypedParams ps).run c2 = .ok (rs', c') ∧ rs = r :: rs' := by
  have key : ∀ (t : T) (c1 : Ctx), (do
        let name ← unwrap "bind_typed_parameter_list: param.name() is None" p.name
        let r ← newBinding name.text t p.span
        let rs ← bindTypedParams ps
        pure (r :: rs)) c1 = .ok (rs, c') →
      ∃ nm r c2 rs', p.name = some nm ∧ (newBinding nm.text t p.span).run c1 = .ok (r, c2) ∧
        (bindTypedParams ps).run c2 = .ok (rs', c') ∧ rs = r :: rs' := by
    intro t c1 hh
    simp only [Sema.M.bind_ok] at hh
    obtain ⟨nm, c2, h2, r, c3, h3, rs', c4, h4, h5⟩ := hh
    obtain ⟨h2a, h2b⟩ := (unwrap_ok _ _ _ _).mp h2
    simp only at h2a h2b
    subst h2b
    simp only [M.pure_ok, Prod.mk.injEq] at h5
    obtain ⟨h5a, h5b⟩ := h5
    subst h5a h5b
    exact ⟨nm, r, c3, rs', h2a, h3, h4, rfl⟩
  simp only [StateT.run, bindTypedParams] at h
  cases hp : p.paramType with
  | some pt =>
    simp only [hp] at h
    rw [Sema.M.bind_ok] at h
    obtain ⟨t, c1, h1, h2⟩ := h
    obtain ⟨nm, r, c2, rs', a, b, d, e⟩ := key t c1 h2
    exact ⟨t, c1, nm, r, c2, rs', h1, a, b, d, e⟩
  | none =>
    simp only [hp] at h
    by_cases ho : p.oldTypedParam = true
    · rw [if_pos ho, M.pure_bind_ok] at h
      obtain ⟨nm, r, c2, rs', a, b, d, e⟩ := key _ _ h
      exact ⟨.todo, c, nm, r, c2, rs', ⟨ho, rfl, rfl⟩, a, b, d, e⟩
    · rw [if_neg ho] at h
      simp [Sema.M.bind_ok] at h

/-- typed parameters of a `def`: one symbol id result per written parameter -/
theorem typed_params_count (ps : List Ast.TypedParam) (c c' : Ctx) (rs : List SymbolIdResult)
    (h : (bindTypedParams ps).run c = .ok (rs, c')) : rs.length = ps.length := by
  induction ps generalizing c rs with
  | nil =>
    simp only [StateT.run, bindTypedParams, M.pure_ok, Prod.mk.injEq] at h
    rw [h.1]; rfl
  | cons p ps ih =>
    obtain ⟨t, c1, nm, r, c2, rs', -, -, -, h4, rfl⟩ := bindTypedParams_cons p ps c c' rs h
    simp [ih c2 rs' h4]

/-- **C09, gate arity.**  The `Gate` arm binds the gate's name AFTER the body (and after leaving
the gate's scope), with `Gate(np, nq)` where `np` = number of written angle parameters (0 when there
is no parameter list) and `nq` = number of written qubit parameters. -/
theorem gate_arity_recorded (fuel : Nat) (span : Ast.Span) (name : Ast.Name)
    (angleParams : Option Ast.ParamList) (qubitParams : Ast.ParamList) (body : Ast.BlockExpr)
    (c c' : Ctx) (stmt : Option Stmt)
    (h : (stmtToAsgStmt (fuel + 1)
      (.gate span (some name) angleParams (some qubitParams) (some body))).run c = .ok (stmt, c')) :
    ∃ sym params qubits block cIn cMid cQ cBody cExit,
      stmt = some (.gateDefinition sym params qubits block) ∧
      -- the parameters are bound inside the gate's scope: angles as `angle const`, qubits as `Qubit`
      (bindParameterList angleParams (.angle none true)).run cIn = .ok (params, cMid) ∧
      (bindParameterList (some qubitParams) .qubit).run cMid = .ok (some qubits, cQ) ∧
      (exitScope).run cBody = .ok ((), cExit) ∧
      (newBinding name.text (.gate (paramCount angleParams) qubitParams.params.length)
        name.span).run cExit = .ok (sym, c') ∧
      qubits.length = qubitParams.params.length ∧ optLen params = paramCount angleParams := by
  simp only [StateT.run, stmtToAsgStmt, withScope, Sema.M.bind_ok, unwrap, M.pure_ok, Prod.mk.injEq,
    exists2_eq] at h
  obtain ⟨u1, c1, -, r, c2, ⟨u2, c3, -, r2, c4, ⟨params, c5, h5, qs, c6, h6, qubits, c7, h7, block,
    c8, -, rfl, rfl⟩, u3, c9, h9, rfl, rfl⟩, sym, c10, h10, rfl, rfl⟩ := h
  obtain ⟨hq1, hq2⟩ := bindParameterList_length _ _ _ _ _ h6
  obtain ⟨hp1, -⟩ := bindParameterList_length _ _ _ _ _ h5
  cases qs with
  | none => simp at hq2
  | some qs' =>
    simp only [M.pure_ok, Prod.mk.injEq] at h7
    obtain ⟨e1, e2⟩ := h7
    simp only [optLen, paramCount] at hq1
    have hq : qubits.length = qubitParams.params.length := by rw [e1]; exact hq1
    refine ⟨sym, params, qubits, block, c3, c5, c6, c4, c2, rfl, h5, by rw [e1]; exact h6, h9, ?_,
      hq, hp1⟩
    rw [← hp1, ← hq]
    cases params <;> exact h10

/-- the return type of a `def`: the written scalar type evaluated as a CONST type, or `Void` -/
def ReturnTypeOf (rs : Option Ast.ReturnSignature) (c : Ctx) (ret : T) (c' : Ctx) : Prop :=
  match rs with
  | some r =>
    match r.scalarType with
    | some st => (scalarTypeToType st true).run c = .ok (ret, c')
    | none => ret = .void ∧ c' = c
  | none => ret = .void ∧ c' = c

/-- **C09, subroutine signature.**  The `Def` arm binds the name (after the body: `C06.roles_preserved_def`) with
`SubroutineDef(n, ret)` where `n` = number of written parameters and `ret` = the written return
type (evaluated as a CONST type) or `Void`; the statement carries the same return type. -/
theorem def_signature_recorded (fuel : Nat) (span : Ast.Span) (name : Ast.Name)
    (tpl : Ast.TypedParamList) (body : Ast.BlockExpr) (rs : Option Ast.ReturnSignature)
    (c c' : Ctx) (stmt : Option Stmt)
    (h : (stmtToAsgStmt (fuel + 1)
      (.defStmt span (some name) (some tpl) (some body) rs)).run c = .ok (stmt, c')) :
    ∃ sym params block ret cIn cP cExit cRet,
      stmt = some (.defStmt sym params block ret) ∧
      (bindTypedParams tpl.typedParams).run cIn = .ok (params, cP) ∧
      params.length = tpl.typedParams.length ∧
      ReturnTypeOf rs cExit ret cRet ∧
      (newBinding name.text (.subroutine tpl.typedParams.length ret) name.span).run cRet =
        .ok (sym, c') := by
  simp only [StateT.run, stmtToAsgStmt, withScope, Sema.M.bind_ok, unwrap, M.pure_ok, Prod.mk.injEq,
    exists2_eq] at h
  obtain ⟨u1, c1, -, r, c2, ⟨u2, c3, -, r2, c4, ⟨ps, c5, h5, block, c6, -, rfl, rfl⟩, u3, c7, -,
    rfl, rfl⟩, htail⟩ := h
  simp only [bindTypedParameterList, Sema.M.bind_ok, M.pure_ok, Prod.mk.injEq] at h5
  obtain ⟨l, c5', h5a, rfl, rfl⟩ := h5
  have hlen := typed_params_count _ _ _ _ h5a
  simp only at htail
  have tail : ∀ ret cR, (do
        let defNameSymbolId ← newBinding name.text (T.subroutine l.length ret) name.span
        let params ← (pure l : M (List SymbolIdResult))
        pure (some (Stmt.defStmt defNameSymbolId params block ret))) cR = .ok (stmt, c') →
      ∃ sym, stmt = some (.defStmt sym l block ret) ∧
        (newBinding name.text (.subroutine tpl.typedParams.length ret) name.span).run cR =
          .ok (sym, c') := by
    intro ret cR hh
    simp only [Sema.M.bind_ok, M.pure_ok, Prod.mk.injEq, exists2_eq] at hh
    obtain ⟨sym, cX, hx, rfl, rfl⟩ := hh
    exact ⟨sym, rfl, by rw [← hlen]; exact hx⟩
  cases rs with
  | none =>
    simp only [M.pure_bind_ok] at htail
    obtain ⟨sym, hs, hn⟩ := tail _ _ htail
    exact ⟨sym, l, block, .void, c3, _, c2, c2, hs, h5a, hlen,
      by unfold ReturnTypeOf; exact ⟨rfl, rfl⟩, hn⟩
  | some rsig =>
    cases hst : rsig.scalarType with
    | none =>
      simp only [hst, M.pure_bind_ok] at htail
      obtain ⟨sym, hs, hn⟩ := tail _ _ htail
      refine ⟨sym, l, block, .void, c3, _, c2, c2, hs, h5a, hlen, ?_, hn⟩
      simp [ReturnTypeOf, hst]
    | some st =>
      simp only [hst] at htail
      rw [Sema.M.bind_ok] at htail
      obtain ⟨ret, cR, hr, htail⟩ := htail
      obtain ⟨sym, hs, hn⟩ := tail _ _ htail
      refine ⟨sym, l, block, ret, c3, _, c2, cR, hs, h5a, hlen, ?_, hn⟩
      simp only [ReturnTypeOf, hst]; exact hr

/-- **C09, `SymbolTable::gates`.**  The listing contains exactly the symbols of gate type other
than `U`, each with its id and the recorded arities. -/
theorem gates_listing (t : SymTab) (n : Name) (i np nq : Nat) :
    (n, i, np, nq) ∈ t.gates ↔ t.all[i]? = some ⟨n, .gate np nq⟩ ∧ n ≠ "U" := by
  unfold SymTab.gates
  simp only [List.mem_filterMap, Prod.exists]
  constructor
  · rintro ⟨s, j, hmem, hf⟩
    have hj := List.mem_zipIdx_iff_getElem?.mp hmem
    simp only at hj
    obtain ⟨sn, sty⟩ := s
    cases sty <;> simp only [reduceCtorEq] at hf
    rename_i a b
    by_cases hU : (sn == "U") = true
    · simp [hU] at hf
    · simp only [hU, Bool.false_eq_true, if_false, Option.some.injEq, Prod.mk.injEq] at hf
      obtain ⟨rfl, rfl, rfl, rfl⟩ := hf
      exact ⟨hj, by simpa using hU⟩
  · rintro ⟨hget, hU⟩
    refine ⟨⟨n, .gate np nq⟩, i, List.mem_zipIdx_iff_getElem?.mpr hget, ?_⟩
    have : (n == "U") = false := by simpa using hU
    simp [this]

/-- after `standard_library_gates()` on a fresh table the listing is the standard table
(`x … id` (0,1), `p … u1` (1,1), `u2`, `u3`, `cx … CX` (0,2), `cp … cphase` (1,2), `cu` (4,2),
`ccx`, `cswap` (0,3)), in binding order, and nothing is reported as redeclared -/
theorem stdgates_listing :
    ((Symbols.init.standardLibraryGates).1.gates.map fun g => (g.1, g.2.2.1, g.2.2.2)) = stdGates ∧
    (Symbols.init.standardLibraryGates).2 = [] := by
  constructor <;> decide +kernel

/-! Witnesses: closed programs (the I5 dump of the named source), kernel-evaluated. -/

/-- what a witness observes: the user's symbols (ids 7, 8, …) with their types, the gate listing,
the diagnostics — or the panic site -/
inductive Obs
  | ok (syms : List (String × T)) (gates : List (Name × Nat × Nat)) (errs : List SemErr)
  | panic (site : String)
  | other
  deriving DecidableEq

def observe (p : Ast.Program) : Obs :=
  match analyze p with
  | .ok c => .ok ((c.symbolTable.all.drop 7).map (fun s => (s.name, s.ty)))
      (c.symbolTable.gates.map (fun g => (g.1, g.2.2.1, g.2.2.2))) c.semanticErrors
  | .error (.panic site) => .panic site
  | .error _ => .other

/-- `int[4294967297] x;` -/
def progTrunc : Ast.Program :=
  ⟨⟨0, 18⟩, [(.classicalDeclarationStatement ⟨0, 18⟩ false (some (.mk ⟨0, 15⟩ .int (some (.mk ⟨3, 15⟩ (some (.literal ⟨⟨4, 14⟩, .intNumber "4294967297" (some 4294967297)⟩)))) none)) false (some ⟨⟨16, 17⟩, "x"⟩) none)]⟩

/-- `const int n = 4; int[n] x; qubit[n] q; bit[n] b;` -/
def progConstOk : Ast.Program :=
  ⟨⟨0, 48⟩, [(.classicalDeclarationStatement ⟨0, 16⟩ false (some (.mk ⟨6, 9⟩ .int none none)) true (some ⟨⟨10, 11⟩, "n"⟩) (some (.literal ⟨⟨14, 15⟩, .intNumber "4" (some 4)⟩))), (.classicalDeclarationStatement ⟨17, 26⟩ false (some (.mk ⟨17, 23⟩ .int (some (.mk ⟨20, 23⟩ (some (.identifier ⟨⟨21, 22⟩, "n"⟩)))) none)) false (some ⟨⟨24, 25⟩, "x"⟩) none), (.quantumDeclarationStatement ⟨27, 38⟩ (some ⟨⟨36, 37⟩, "q"⟩) none (some ⟨⟨27, 35⟩, (some (.mk ⟨32, 35⟩ (some (.identifier ⟨⟨33, 34⟩, "n"⟩))))⟩)), (.classicalDeclarationStatement ⟨39, 48⟩ false (some (.mk ⟨39, 45⟩ .bit (some (.mk ⟨42, 45⟩ (some (.identifier ⟨⟨43, 44⟩, "n"⟩)))) none)) false (some ⟨⟨46, 47⟩, "b"⟩) none)]⟩

/-- `const int n = 5000000000; int[n] x;` -/
def progConstBig : Ast.Program :=
  ⟨⟨0, 35⟩, [(.classicalDeclarationStatement ⟨0, 25⟩ false (some (.mk ⟨6, 9⟩ .int none none)) true (some ⟨⟨10, 11⟩, "n"⟩) (some (.literal ⟨⟨14, 24⟩, .intNumber "5000000000" (some 5000000000)⟩))), (.classicalDeclarationStatement ⟨26, 35⟩ false (some (.mk ⟨26, 32⟩ .int (some (.mk ⟨29, 32⟩ (some (.identifier ⟨⟨30, 31⟩, "n"⟩)))) none)) false (some ⟨⟨33, 34⟩, "x"⟩) none)]⟩

/-- `const int[128] n = 3; int[n] x;` -/
def progConstNoValue : Ast.Program :=
  ⟨⟨0, 31⟩, [(.classicalDeclarationStatement ⟨0, 21⟩ false (some (.mk ⟨6, 14⟩ .int (some (.mk ⟨9, 14⟩ (some (.literal ⟨⟨10, 13⟩, .intNumber "128" (some 128)⟩)))) none)) true (some ⟨⟨15, 16⟩, "n"⟩) (some (.literal ⟨⟨19, 20⟩, .intNumber "3" (some 3)⟩))), (.classicalDeclarationStatement ⟨22, 31⟩ false (some (.mk ⟨22, 28⟩ .int (some (.mk ⟨25, 28⟩ (some (.identifier ⟨⟨26, 27⟩, "n"⟩)))) none)) false (some ⟨⟨29, 30⟩, "x"⟩) none)]⟩

/-- `int[k] x;` -/
def progUndeclared : Ast.Program :=
  ⟨⟨0, 9⟩, [(.classicalDeclarationStatement ⟨0, 9⟩ false (some (.mk ⟨0, 6⟩ .int (some (.mk ⟨3, 6⟩ (some (.identifier ⟨⟨4, 5⟩, "k"⟩)))) none)) false (some ⟨⟨7, 8⟩, "x"⟩) none)]⟩

/-- `int[pi] x;` -/
def progBuiltin : Ast.Program :=
  ⟨⟨0, 10⟩, [(.classicalDeclarationStatement ⟨0, 10⟩ false (some (.mk ⟨0, 7⟩ .int (some (.mk ⟨3, 7⟩ (some (.identifier ⟨⟨4, 6⟩, "pi"⟩)))) none)) false (some ⟨⟨8, 9⟩, "x"⟩) none)]⟩

/-- `int m; int[m] x;` -/
def progNonConst : Ast.Program :=
  ⟨⟨0, 16⟩, [(.classicalDeclarationStatement ⟨0, 6⟩ false (some (.mk ⟨0, 3⟩ .int none none)) false (some ⟨⟨4, 5⟩, "m"⟩) none), (.classicalDeclarationStatement ⟨7, 16⟩ false (some (.mk ⟨7, 13⟩ .int (some (.mk ⟨10, 13⟩ (some (.identifier ⟨⟨11, 12⟩, "m"⟩)))) none)) false (some ⟨⟨14, 15⟩, "x"⟩) none)]⟩

/-- `const float n = 3; int[n] x;` -/
def progConstFloat : Ast.Program :=
  ⟨⟨0, 28⟩, [(.classicalDeclarationStatement ⟨0, 18⟩ false (some (.mk ⟨6, 11⟩ .float none none)) true (some ⟨⟨12, 13⟩, "n"⟩) (some (.literal ⟨⟨16, 17⟩, .intNumber "3" (some 3)⟩))), (.classicalDeclarationStatement ⟨19, 28⟩ false (some (.mk ⟨19, 25⟩ .int (some (.mk ⟨22, 25⟩ (some (.identifier ⟨⟨23, 24⟩, "n"⟩)))) none)) false (some ⟨⟨26, 27⟩, "x"⟩) none)]⟩

/-- `gate g(a, b) q, r, s { } ` -/
def progGate : Ast.Program :=
  ⟨⟨0, 25⟩, [(.gate ⟨0, 24⟩ (some ⟨⟨5, 6⟩, "g"⟩) (some ⟨⟨6, 12⟩, [⟨⟨7, 8⟩, "a"⟩, ⟨⟨10, 11⟩, "b"⟩]⟩) (some ⟨⟨13, 20⟩, [⟨⟨13, 14⟩, "q"⟩, ⟨⟨16, 17⟩, "r"⟩, ⟨⟨19, 20⟩, "s"⟩]⟩) (some (.mk ⟨21, 24⟩ [])))]⟩

/-- `def f(int[8] a, qubit q) -> float[32] { }` -/
def progDef : Ast.Program :=
  ⟨⟨0, 41⟩, [(.defStmt ⟨0, 41⟩ (some ⟨⟨4, 5⟩, "f"⟩) (some ⟨⟨5, 24⟩, [⟨⟨6, 14⟩, (some (.scalarType (.mk ⟨6, 12⟩ .int (some (.mk ⟨9, 12⟩ (some (.literal ⟨⟨10, 11⟩, .intNumber "8" (some 8)⟩)))) none))), false, (some ⟨⟨13, 14⟩, "a"⟩)⟩, ⟨⟨16, 23⟩, (some (.scalarType (.mk ⟨16, 21⟩ .qubit none none))), false, (some ⟨⟨22, 23⟩, "q"⟩)⟩]⟩) (some (.mk ⟨38, 41⟩ [])) (some ⟨⟨25, 37⟩, (some (.mk ⟨28, 37⟩ .float (some (.mk ⟨33, 37⟩ (some (.literal ⟨⟨34, 36⟩, .intNumber "32" (some 32)⟩)))) none))⟩))]⟩

/-- `include "stdgates.inc";` -/
def progStd : Ast.Program :=
  ⟨⟨0, 23⟩, [(.includeStmt ⟨0, 23⟩ (some ⟨⟨8, 22⟩, (some "stdgates.inc")⟩))]⟩

/-- **F17** `int[4294967297] x;` records `int[1]`, no diagnostic -/
theorem witness_width_truncated :
    observe progTrunc = .ok [("x", .int (some 1) false)] [] [] := by decide +kernel

/-- a const-identifier designator whose value fits: `int[4]`, `QubitArray(4)`, `BitArray(4)` -/
theorem witness_const_designator_ok :
    observe progConstOk = .ok [("n", .int none true), ("x", .int (some 4) false),
      ("q", .qubitArray (.d1 4)), ("b", .bitArray (.d1 4) false)] [] [] := by decide +kernel

/-- `const int n = 5000000000; int[n] x;`: `InvalidDesignatorError` at `n` — and the width **0**
is substituted: `x : int[0]` -/
theorem witness_const_designator_too_big :
    observe progConstBig = .ok [("n", .int none true), ("x", .int (some 0) false)] []
      [⟨.invalidDesignatorError, 30, 31⟩] := by decide +kernel

/-- the side table is not filled when the initializer's type already equals the declared type up
to const-ness: `const int[128] n = 3; int[n] x;` panics (`const_value.unwrap()`) -/
theorem witness_const_value_not_recorded :
    observe progConstNoValue = .panic "designator_to_asg: const_value.unwrap() on None" := by
  decide +kernel

/-- **F14** an undeclared designator identifier panics (`sym.unwrap()` on `Err`); a built-in
constant (`pi`) has no recorded value and panics too -/
theorem witness_designator_panics :
    observe progUndeclared = .panic "designator_to_asg: sym.unwrap() on Err" ∧
    observe progBuiltin = .panic "designator_to_asg: const_value.unwrap() on None" := by
  constructor <;> decide +kernel

/-- a NON-const identifier as designator: the width is dropped silently (`int[m] x` is `int`) -/
theorem witness_nonconst_designator_dropped :
    observe progNonConst = .ok [("m", .int none false), ("x", .int none false)] [] [] := by
  decide +kernel

/-- a const FLOAT as designator is accepted as the width 3 -/
theorem witness_const_float_designator :
    observe progConstFloat = .ok [("n", .float none true), ("x", .int (some 3) false)] [] [] := by
  decide +kernel

/-- `gate g(a, b) q, r, s { }`: parameters first (`angle const` ×2, `qubit` ×3), the gate last,
`Gate(2, 3)`; listed -/
theorem witness_gate :
    observe progGate = .ok [("a", .angle none true), ("b", .angle none true), ("q", .qubit),
      ("r", .qubit), ("s", .qubit), ("g", .gate 2 3)] [("g", 2, 3)] [] := by decide +kernel

/-- `def f(int[8] a, qubit q) -> float[32] { }` -/
theorem witness_def :
    observe progDef = .ok [("a", .int (some 8) false), ("q", .qubit),
      ("f", .subroutine 2 (.float (some 32) true))] [] [] := by decide +kernel

/-- `include "stdgates.inc";`: the listing is the standard table -/
theorem witness_stdgates_included :
    (match observe progStd with
      | .ok syms gates errs => some (syms.map (·.1), gates, errs)
      | _ => none) = some (stdGates.map (·.1), stdGates, []) := by decide +kernel

/-- `if (true) { gate U q {} }` -/
def progGateU : Ast.Program :=
  ⟨⟨0, 25⟩, [(.ifStmt ⟨0, 25⟩ (some (.literal ⟨⟨4, 8⟩, .bool true⟩)) (.ok (.blockExpr (.mk ⟨10, 25⟩ [(.gate ⟨12, 23⟩ (some ⟨⟨17, 18⟩, "U"⟩) none (some ⟨⟨19, 20⟩, [⟨⟨19, 20⟩, "q"⟩]⟩) (some (.mk ⟨21, 23⟩ [])))]))) none)]⟩

/-- `gates()` filters by the NAME `U`: a user gate named `U` (bound in a nested scope, where the
name is free) is a symbol of gate type but is missing from the listing -/
theorem witness_user_gate_named_U_unlisted :
    observe progGateU = .ok [("q", .qubit), ("U", .gate 0 1)] [] [⟨.notInGlobalScopeError, 17, 18⟩] := by
  decide +kernel

end Oq3.Props.C09
