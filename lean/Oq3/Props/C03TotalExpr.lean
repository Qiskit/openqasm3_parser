/-
C03, totality on a syntactic fragment — the fragment below statements (`supp*`, decidable, purely
syntactic), the non-recursive functions on it, and the translation of a fragment expression.

Fragment of expressions: integer / float / bool / bit-string literals whose token the token-level
model can evaluate (`IntNumber::value` is `Some`, i.e. `< 2^128`; the float has a value; the bit
string is well quoted), and identifiers (declared or not).  Operands: identifiers, hardware qubits,
indexed identifiers whose index operators are expression lists of fragment expressions.
Designators: absent or an integer literal.  Types: every scalar type except `complex[float[..]]`
with an inner type node, with such a designator.
-/
import Oq3.Props.C03TotalBase

namespace Oq3.Sema
open Oq3.Types Oq3.Symbols Oq3.Props

def suppLiteral (l : Ast.Literal) : Bool :=
  match l.kind with
  | .bool _ => true
  | .intNumber text _ => (TokenExt.intValueS text).isSome
  | .floatNumber _ fmt => fmt.isSome
  | .bitString text _ => (TokenExt.bitStringStr text).isSome
  | _ => false

def suppExpr : Ast.Expr → Bool
  | .literal l => suppLiteral l
  | .identifier _ => true
  | _ => false

def suppIndexOp : Ast.IndexOperator → Bool
  | .mk _ (some (.expressionList (.mk _ es))) => es.all suppExpr
  | _ => false

def suppOperand : Ast.GateOperand → Bool
  | .identifier _ => true
  | .hardwareQubit _ => true
  | .indexedIdentifier (.mk _ (some _) ixs) => ixs.all suppIndexOp
  | _ => false

def suppDesignator : Option Ast.Designator → Bool
  | none => true
  | some (.mk _ (some (.literal l))) =>
    match l.kind with
    | .intNumber text _ => (TokenExt.intValueS text).isSome
    | _ => false
  | _ => false

def suppScalarType : Ast.ScalarType → Bool
  | .mk _ kind d none => kind != .none && suppDesignator d
  | _ => false

theorem intNumberValue_succ (site text : String) (h : (TokenExt.intValueS text).isSome = true) :
    Succ Any (intNumberValue site text) := by
  unfold intNumberValue
  obtain ⟨v, hv⟩ := Option.isSome_iff_exists.mp h
  rw [hv]
  exact (unwrap_succ _ _).mono (fun _ _ => trivial)

theorem literalToAsgTexpr_succ (l : Ast.Literal) (h : suppLiteral l = true) :
    Succ (fun r => r.isSome = true) (literalToAsgTexpr l) := by
  unfold literalToAsgTexpr
  unfold suppLiteral at h
  cases hk : l.kind <;> simp only [hk] at h ⊢
  case intNumber text v =>
    exact Succ.bind (intNumberValue_succ _ _ h) (fun _ _ => Succ.pure _ rfl)
  case floatNumber text fmt =>
    obtain ⟨v, rfl⟩ := Option.isSome_iff_exists.mp h
    exact Succ.bind (unwrap_succ _ _) (fun _ _ => Succ.pure _ rfl)
  case bitString text str =>
    obtain ⟨v, hv⟩ := Option.isSome_iff_exists.mp h
    simp only [hv]
    exact Succ.pure _ rfl
  case bool b => exact Succ.pure _ rfl
  all_goals simp at h

theorem inGlobalScope_succ : Succ Any inGlobalScope := by
  unfold inGlobalScope
  exact Succ.bind currentScopeType_succ (fun _ _ => Succ.pure _ trivial)

theorem designatorToAsg_succ (d : Option Ast.Designator) (h : suppDesignator d = true) :
    Succ Any (designatorToAsg d) := by
  unfold suppDesignator at h
  split at h
  · unfold designatorToAsg; simp only [getAstDesignatorExpression]; exact Succ.pure _ trivial
  · rename_i l
    unfold designatorToAsg; simp only [getAstDesignatorExpression]
    cases hk : l.kind <;> simp only [hk] at h ⊢
    case intNumber text v =>
      exact Succ.bind (intNumberValue_succ _ _ h) (fun _ _ => Succ.pure _ trivial)
    all_goals simp at h
  · simp at h

theorem scalarTypeToType_succ (st : Ast.ScalarType) (c : Bool) (h : suppScalarType st = true) :
    Succ Any (scalarTypeToType st c) := by
  unfold suppScalarType at h
  split at h
  · rename_i sp kind d
    simp only [Bool.and_eq_true, bne_iff_ne, ne_eq] at h
    unfold scalarTypeToType
    refine Succ.bind (designatorToAsg_succ _ h.2) (fun w _ => ?_)
    cases kind <;> first | exact Succ.pure _ trivial | exact absurd rfl h.1
  · simp at h

def NotAnnS (st : Stmt) : Prop := ∀ s a, st ≠ Stmt.annotatedStmt s a

theorem declareClassicalHelper_succ' (sym : SymbolIdResult) (init : Option TExpr) :
    Succ NotAnnS (declareClassicalHelper sym init) := by
  unfold declareClassicalHelper
  dsimp only
  have hret : Succ NotAnnS (pure (.declareClassical sym init)) := Succ.pure _ (by intro _ _ h; cases h)
  split
  · refine Succ.ite _ ?_ hret
    split
    · exact Succ.bindAny (insertConstValue_succ _ _) (fun _ => hret)
    · exact hret
  · exact hret

theorem declareClassicalHelper_succ (sym : SymbolIdResult) (init : Option TExpr) :
    Succ Any (declareClassicalHelper sym init) :=
  (declareClassicalHelper_succ' sym init).mono (fun _ _ => trivial)

theorem bindParams_succ (typ : T) (ps : List Ast.Param) : Succ Any (bindParams typ ps) := by
  induction ps with
  | nil => unfold bindParams; exact Succ.pure _ trivial
  | cons p ps ih =>
    unfold bindParams
    exact Succ.bind (newBinding_succ _ _ _) (fun _ _ => Succ.bind ih (fun _ _ => Succ.pure _ trivial))

theorem bindParameterList_succ' (pl : Option Ast.ParamList) (typ : T) :
    Succ (fun r => r.isSome = pl.isSome) (bindParameterList pl typ) := by
  unfold bindParameterList
  cases pl with
  | none => exact Succ.pure _ rfl
  | some pl => exact Succ.bindAny (bindParams_succ _ _) (fun _ => Succ.pure _ rfl)

theorem bindParameterList_succ (pl : Option Ast.ParamList) (typ : T) :
    Succ Any (bindParameterList pl typ) :=
  (bindParameterList_succ' pl typ).mono (fun _ _ => trivial)

theorem notGlobalCheck_succ (node : Ast.Span) : Succ Any (notGlobalCheck node) := by
  unfold notGlobalCheck
  refine Succ.bind inGlobalScope_succ (fun b _ => ?_)
  cases b <;> first | exact Succ.pure _ trivial | exact insertError_succ _ _

theorem gateNotGlobalCheck_succ (name : Ast.Name) : Succ Any (gateNotGlobalCheck (some name)) := by
  unfold gateNotGlobalCheck
  refine Succ.bind inGlobalScope_succ (fun b _ => ?_)
  cases b
  · exact Succ.bind (unwrap_succ _ _) (fun _ _ => insertError_succ _ _)
  · exact Succ.pure _ trivial

theorem gateOperandIdentCheck_succ (typ : T) (node : Ast.Span) :
    Succ Any (gateOperandIdentCheck typ node) := by
  unfold gateOperandIdentCheck
  split <;> first | exact Succ.pure _ trivial | exact insertError_succ _ _

theorem gateOperandIndexedCheck_succ (typ : T) (node : Ast.Span) :
    Succ Any (gateOperandIndexedCheck typ node) := by
  unfold gateOperandIndexedCheck
  split <;> first | exact Succ.pure _ trivial | exact insertError_succ _ _

theorem mutateConstCheck_succ (ok : Bool) (ty : T) (node : Ast.Span) :
    Succ Any (mutateConstCheck ok ty node) := by
  unfold mutateConstCheck
  exact Succ.ite _ (insertError_succ _ _) (Succ.pure _ trivial)

/-- the arity block of a gate call: total once the qubit list is present and parameters can only
come from an argument list -/
theorem gateCallCheck_succ (span : Ast.Span) (ql : Ast.QubitList) (argList : Option Ast.ArgList)
    (gateId : Ast.Identifier) (sym : SymbolIdResult) (gateType : T) (numParams numQubits : Nat)
    (ha : numParams ≠ 0 → argList.isSome) :
    Succ Any (gateCallCheck span (some ql) argList gateId sym gateType numParams numQubits) :=
  Succ.of_runs (Pres.closed.gateCallCheck _ _ _ _ _ _ _ _)
    (fun s _ => ⟨(), _, C13.gateCallCheck_run span ql argList gateId sym gateType numParams numQubits s ha,
      trivial⟩)

theorem exprToAsgTexpr_succ (fuel : Nat) (e : Ast.Expr) (h : suppExpr e = true) :
    Succ (fun r => r.isSome = true) (exprToAsgTexpr (fuel + 1) (some e)) := by
  unfold suppExpr at h
  split at h
  · rename_i l
    unfold exprToAsgTexpr
    exact literalToAsgTexpr_succ l h
  · rename_i i
    unfold exprToAsgTexpr
    exact Succ.bind (lookupIdentifier_succ i) (fun _ _ => Succ.pure _ rfl)
  · simp at h

end Oq3.Sema
