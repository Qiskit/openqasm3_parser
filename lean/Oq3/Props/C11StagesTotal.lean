/-
C11 (gates, real stages) — the lex-checked parse RETURNS: with the fuel bound of `Props/C01Term.lean`
/ `Props/C01Work2.lean` (`20 * n + 18` for `n` tokens; the no-progress hook off, as in the unhooked
code, or above `61 * n + 27`; at most 789 473 tokens so that the step limit of `Parser::nth` is never
reached) the grammar returns, hence every stage of `parse_text_check_lex` returns:

* `parseLexed_total`: the parser stages return a tree on every text of that size;
* `checkLexParse_total`: `SourceFile::parse_check_lex` returns `(None, lexer diagnostics)` or
  `(Some tree, parser diagnostics)`, unless `validation::validate` panics on the tree or the root assert
  fails (the two sites of `Model/Validation.lean` / `lib.rs` that no theorem excludes);
* `analyzeText_lex_or_runs`: so for such a text the string entry point either skips the analysis
  because of a lexer error, or gets past the lexical gate with the parser's own diagnostics.

`n` is bounded by the number of characters of the text (`C14.tokenize_length_le`), which is what the
hypotheses mention.
-/
import Oq3.Props.C11Stages
import Oq3.Props.C01Work2

namespace Oq3.Props.C11Stages
open Oq3.Gen Oq3.Lexer Oq3.Lexed Oq3.Parser Oq3.Grammar Oq3.Builder Oq3.Acc Oq3.Stages
open Oq3.Lemmas.Lexer Oq3.Lemmas.Lexed Oq3.Props.C01Term Oq3.Props.C01Work2

/-- **the parser stages return** -/
theorem parseLexed_total (uc : UC) (fuel npl : Nat) (text : List Char)
    (hn : text.length ≤ 789473) (hf : 20 * text.length + 18 ≤ fuel)
    (hnpl : npl = 0 ∨ 61 * text.length + 27 < npl) :
    ∃ t errs, parseLexed fuel npl (lexedOf uc text) = .ok (t, errs) ∧ t.text = text := by
  obtain ⟨inp, hi, hspec⟩ := parseLexed_spec uc fuel npl text
  obtain ⟨inp', hi', hk, -⟩ := Oq3.Props.C14.toInput_kinds uc text
  cases hi.symm.trans hi'
  have hsz : inp.kind.toArray.size ≤ text.length := by
    rw [List.size_toArray, hk]
    exact Nat.le_trans (List.length_filter_le _ _)
      (by rw [List.length_map]; exact Oq3.Props.C14.tokenize_length_le uc text)
  obtain ⟨events, pos, hp, -⟩ := parse_terminates2 fuel inp.kind.toArray inp.joint.toArray npl
    (by simp only [fuelA, fuelB]; omega)
    (by simp only [workRS_eq, workFS_eq]; omega)
    (by rcases hnpl with h | h
        · exact Or.inl h
        · right; simp only [workRE_eq, workFE_eq]; omega)
  rw [hp] at hspec
  exact hspec

/-- **`parse_check_lex` returns** (up to the two sites after the tree is built) -/
theorem checkLexParse_total (uc : UC) (fuel npl : Nat) (text : List Char)
    (hn : text.length ≤ 789473) (hf : 20 * text.length + 18 ≤ fuel)
    (hnpl : npl = 0 ∨ 61 * text.length + 27 < npl) :
    (∃ r, checkLexParse uc fuel npl text = .ok r) ∨
    (∃ site, checkLexParse uc fuel npl text = .error (.validate site)) ∨
    checkLexParse uc fuel npl text = .error .rootKind := by
  cases h : checkLexParse uc fuel npl text with
  | ok r => exact Or.inl ⟨r, rfl⟩
  | error f =>
    right
    obtain ⟨he, hcases⟩ := checkLexParse_fails_only uc fuel npl text f h
    rcases hcases with ⟨o, rfl⟩ | ⟨site, rfl⟩ | rfl
    · exfalso
      obtain ⟨t, errs, hp, -⟩ := parseLexed_total uc fuel npl text hn hf hnpl
      rw [checkLexParse_clean uc fuel npl text he] at h
      rcases parserDiagnostics_cases uc fuel npl text with
        ⟨f', hp', -⟩ | ⟨t', e, -, ⟨site, hd⟩ | hd | ⟨d, hd⟩⟩
      · rw [hp] at hp'; cases hp'
      all_goals rw [hd] at h; cases h
    · exact Or.inl ⟨site, rfl⟩
    · exact Or.inr rfl

/-- for a text of that size: lexer error ⇒ skipped; no lexer error ⇒ the parser stages hand a tree
that spells the text to `validate` -/
theorem analyzeText_lex_or_runs (afuel : Nat) (uc : UC) (fuel npl : Nat) (text : List Char)
    (hn : text.length ≤ 789473) (hf : 20 * text.length + 18 ≤ fuel)
    (hnpl : npl = 0 ∨ 61 * text.length + 27 < npl) :
    ((lexedOf uc text).error ≠ [] ∧ analyzeText afuel uc fuel npl text = .ok none) ∨
    ((lexedOf uc text).error = [] ∧
      ∃ t errs, parseLexed fuel npl (lexedOf uc text) = .ok (t, errs) ∧ t.text = text) := by
  by_cases he : (lexedOf uc text).error = []
  · exact Or.inr ⟨he, parseLexed_total uc fuel npl text hn hf hnpl⟩
  · exact Or.inl ⟨he, analyzeText_lex_error afuel uc fuel npl text he⟩

end Oq3.Props.C11Stages
