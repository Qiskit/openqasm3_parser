/-
C04 — valid OpenQASM 3 programs are accepted with zero syntax diagnostics (parser part).

ACCEPTANCE LEMMAS.  `Accepts x s n E`: from the state `s`, the run of `x` succeeds, consumes
exactly `n` tokens, pushes exactly the event list `E` on top of `s.events` — no `Error` event in
it — and leaves the marker bookkeeping as it found it.  Each `accept_*` lemma is stated for an
ARBITRARY start state `s` (only `Ready s`: hook off, room in the step counter, sane ghost list)
whose next tokens have the kinds of the statement (`Accepts.seq` composes it with whatever
follows); where the grammar probes the token after the statement the lemma carries the `Follow`
condition that the probe needs (`else` after an `if` without `else`; a token that can start a
binary operator after an assignment, see `Props/C16.lean: witness_assign_then_minus`).  A shape that is a statement `st`
of the extended reference language is the instance at `st` of the theorem proved by induction over
that language (`LangEv2.stmt_ok2`, through `accepts_of_ok`): the lemma supplies the
well-formedness of `st`, its tokens and its `Follow` condition, and the kernel evaluates the print,
the events and the fuel of the closed `st`.  Four assignments whose fuel `needS2` in the language
is above the 40 of the lemmas are instances of the assignment lemma with its own bound
(`stmtOK2_assign`).  The six shapes the language does not have (`;`, `duration`, `stretch`, `complex` and
`complex[float[64]]` declarations, `barrier;`) and `x = a[0:1];`, which needs 42 there as well, are symbolic
executions of the model by `sym_eval` (`Oq3/Lemmas/SymTactic.lean`).  The generated section was
written by `tools/gen_c04_accept.py`, which is not trusted.

Since the lemmas hold for every start state they compose (`Accepts.seq`): a sequence of
accepted statements is accepted (`accept_seq2_example`), at every nesting depth reached through
the block-bearing shapes.

REJECTED VALID CONSTRUCTS (witnesses, kernel-evaluated): `witness_assign_binary_rhs` (F06:
`x = a + b;`).

Expression acceptance in general is the subject of `Props/C05.lean` (abstract Pratt round trip).
-/
import Oq3.Lemmas.SymTactic
import Oq3.Lemmas.LangEv2Prog
import Oq3.Props.C16
set_option linter.unusedSimpArgs false
set_option linter.unusedVariables false

namespace Oq3.Props.C04
open Oq3.Gen Oq3.Parser Oq3.Grammar Oq3.SymExec Oq3.PrattEv Oq3.LangEv Oq3.LangEv2

def errorFree : List Ev → Bool
  | [] => true
  | .error _ :: _ => false
  | _ :: es => errorFree es

/-- the run of `x` from `s` succeeds, consumes `n` tokens and pushes exactly the events `E`, none an `Error`; the overlay
says the rest: the step counter of `Parser::nth` is `0` afterwards (`LangEv.Acc` only bounds it by its start value;
`StmtOK2.exact` closes the gap), the count since the last bump is some `sb`, `live` and the ghost list are as before -/
def Accepts (x : G Unit) (s : P) (n : Nat) (E : List Ev) : Prop :=
  errorFree E = true ∧ ∃ sb, x s = .ok ((), s.ov E n 0 sb s.live s.protectedPos)

set_option hygiene false in
/-- symbolic execution from `s` (names `s`, `hr` of the enclosing lemma) -/
macro "accept" "[" hs:Lean.Parser.Tactic.simpLemma,* "]" : tactic => `(tactic| (
  have hnp := hr.hook
  have hst := hr.steps
  have hpr := hr.prot
  refine ⟨by decide, ?sb, of_ov _ _ _ ?h⟩
  case h =>
    sym_eval [filter_base s hpr, contains_base s hpr, $hs,*]
    rfl))

def KindsAt (s : P) : Nat → List SyntaxKind → Prop
  | _, [] => True
  | i, k :: ks => s.kindAt (s.pos + i) = k ∧ KindsAt s (i + 1) ks

theorem KindsAt.toks {s : P} : ∀ {ts : List Tok} {i : Nat}, KindsAt s i (ts.map (·.1)) →
    ts.all (fun t => !t.2) = true → Toks s (s.pos + i) ts
  | [], _, _, _ => trivial
  | (k, j) :: ts, i, h, hj => by
    simp only [List.all_cons, Bool.and_eq_true, Bool.not_eq_true'] at hj
    exact ⟨h.1, fun hj' => absurd (hj.1.symm.trans hj') (by decide), KindsAt.toks (i := i + 1) h.2 hj.2⟩

/-- For a closed `st` the count of tokens and the events reduce to the literals of the `accept_*` lemma, and the last
three hypotheses are evaluated. -/
theorem accepts_of_ok {st : Stmt2} {n : Nat} (h : StmtOK2 st n) {fuel : Nat} {s : P} (hr : Ready s)
    (htk : KindsAt s 0 ((toksS2 st).map (·.1))) (hfol : FollowS2 st s (s.pos + (toksS2 st).length))
    (hj : (toksS2 st).all (fun t => !t.2) = true := by rfl) (hn : n ≤ 40 := by decide)
    (hE : errorFree (evsS2 st) = true := by rfl) :
    Accepts (stmt (fuel + 40)) s (toksS2 st).length (evsS2 st) :=
  ⟨hE, h.exact _ s (Nat.le_trans hn (Nat.le_add_left _ _)) (.of_ready hr) (KindsAt.toks htk hj) hfol⟩

/-- the `Follow` condition of an assignment from that of the lemmas below -/
theorem stopsAt_of_opFirst {s : P} {q : Nat} {k : SyntaxKind} (hk : s.kindAt q = k) (hf : opFirst k = false) :
    StopsAt s q 1 := by
  unfold StopsAt
  rw [opF_nonop _ _ _ (by rw [show s.kinds.getD q .EOF = k from hk]; exact hf)]
  decide

/-- the well-formedness of a closed statement: unfold the conditions, evaluate what is left -/
macro "wf_closed" : tactic => `(tactic|
  simp +decide [WFS2, WFB, WFC, WFL2, WidthOK, CanonX, CanonP, CanonXs, CanonItem, CanonItems, CanonIdx, ItemsFirstOK,
    IdxFirstOK, CanonTarget, CanonQ, CanonQs, CanonMod, CanonMods, CanonIter, CanonCases, iterBodyOK])

/-! ## generated statements (tools/gen_c04_accept.py) -/

/-- `;` -/
theorem accept_empty (fuel : Nat) (s : P) (hr : Ready s)
    (h0 : s.kindAt (s.pos + 0) = .SEMICOLON) :
    Accepts (stmt (fuel + 40)) s 1
      [.token .SEMICOLON 1] := by
  accept [h0]

/-- `break;` -/
theorem accept_break (fuel : Nat) (s : P) (hr : Ready s)
    (h0 : s.kindAt (s.pos + 0) = .BREAK_KW) (h1 : s.kindAt (s.pos + 1) = .SEMICOLON) :
    Accepts (stmt (fuel + 40)) s 2
      [.start .BREAK_STMT none, .token .BREAK_KW 1, .token .SEMICOLON 1, .finish] :=
  accepts_of_ok (stmt_ok2 (.brk) (by wf_closed)) hr
    ⟨h0, h1, trivial⟩ ⟨nofun, nofun, nofun, nofun⟩

/-- `continue;` -/
theorem accept_continue (fuel : Nat) (s : P) (hr : Ready s)
    (h0 : s.kindAt (s.pos + 0) = .CONTINUE_KW) (h1 : s.kindAt (s.pos + 1) = .SEMICOLON) :
    Accepts (stmt (fuel + 40)) s 2
      [.start .CONTINUE_STMT none, .token .CONTINUE_KW 1, .token .SEMICOLON 1, .finish] :=
  accepts_of_ok (stmt_ok2 (.cont) (by wf_closed)) hr
    ⟨h0, h1, trivial⟩ ⟨nofun, nofun, nofun, nofun⟩

/-- `end;` -/
theorem accept_end (fuel : Nat) (s : P) (hr : Ready s)
    (h0 : s.kindAt (s.pos + 0) = .END_KW) (h1 : s.kindAt (s.pos + 1) = .SEMICOLON) :
    Accepts (stmt (fuel + 40)) s 2
      [.start .END_STMT none, .token .END_KW 1, .token .SEMICOLON 1, .finish] :=
  accepts_of_ok (stmt_ok2 (.endS) (by wf_closed)) hr
    ⟨h0, h1, trivial⟩ ⟨nofun, nofun, nofun, nofun⟩

/-- `include "f";` -/
theorem accept_include (fuel : Nat) (s : P) (hr : Ready s)
    (h0 : s.kindAt (s.pos + 0) = .INCLUDE_KW) (h1 : s.kindAt (s.pos + 1) = .STRING) (h2 : s.kindAt (s.pos + 2) = .SEMICOLON) :
    Accepts (stmt (fuel + 40)) s 3
      [.start .INCLUDE none, .token .INCLUDE_KW 1, .start .FILE_PATH none, .token .STRING 1,
       .finish, .token .SEMICOLON 1, .finish] :=
  accepts_of_ok (stmt_ok2 (.incl) (by wf_closed)) hr
    ⟨h0, h1, h2, trivial⟩ ⟨nofun, nofun, nofun, nofun⟩

/-- `pragma …` -/
theorem accept_pragma (fuel : Nat) (s : P) (hr : Ready s)
    (h0 : s.kindAt (s.pos + 0) = .PRAGMA) :
    Accepts (stmt (fuel + 40)) s 1
      [.start .PRAGMA_STATEMENT none, .token .PRAGMA 1, .finish] :=
  accepts_of_ok (stmt_ok2 (.pragma) (by wf_closed)) hr
    ⟨h0, trivial⟩ ⟨nofun, nofun, nofun, nofun⟩

/-- `@ann …` -/
theorem accept_annotation (fuel : Nat) (s : P) (hr : Ready s)
    (h0 : s.kindAt (s.pos + 0) = .ANNOTATION) :
    Accepts (stmt (fuel + 40)) s 1
      [.start .ANNOTATION_STATEMENT none, .token .ANNOTATION 1, .finish] :=
  accepts_of_ok (stmt_ok2 (.annot) (by wf_closed)) hr
    ⟨h0, trivial⟩ ⟨nofun, nofun, nofun, nofun⟩

/-- `qubit q;` -/
theorem accept_qubit (fuel : Nat) (s : P) (hr : Ready s)
    (h0 : s.kindAt (s.pos + 0) = .QUBIT_KW) (h1 : s.kindAt (s.pos + 1) = .IDENT) (h2 : s.kindAt (s.pos + 2) = .SEMICOLON) :
    Accepts (stmt (fuel + 40)) s 3
      [.start .QUANTUM_DECLARATION_STATEMENT none, .start .QUBIT_TYPE none, .token .QUBIT_KW 1,
       .finish, .start .NAME none, .token .IDENT 1, .finish, .token .SEMICOLON 1, .finish] :=
  accepts_of_ok (stmt_ok2 (.qubit none) (by wf_closed)) hr
    ⟨h0, h1, h2, trivial⟩ ⟨nofun, nofun, nofun, nofun⟩

/-- `qubit[n] q;` (`n` an integer literal) -/
theorem accept_qubit_width (fuel : Nat) (s : P) (hr : Ready s)
    (h0 : s.kindAt (s.pos + 0) = .QUBIT_KW) (h1 : s.kindAt (s.pos + 1) = .L_BRACK) (h2 : s.kindAt (s.pos + 2) = .INT_NUMBER) (h3 : s.kindAt (s.pos + 3) = .R_BRACK) (h4 : s.kindAt (s.pos + 4) = .IDENT) (h5 : s.kindAt (s.pos + 5) = .SEMICOLON) :
    Accepts (stmt (fuel + 40)) s 6
      [.start .QUANTUM_DECLARATION_STATEMENT none, .start .QUBIT_TYPE none, .token .QUBIT_KW 1,
       .start .DESIGNATOR none, .token .L_BRACK 1, .start .TOMBSTONE (some 1),
       .start .LITERAL none, .token .INT_NUMBER 1, .finish, .token .R_BRACK 1, .finish, .finish,
       .start .NAME none, .token .IDENT 1, .finish, .token .SEMICOLON 1, .finish] :=
  accepts_of_ok (stmt_ok2 (.qubit (some (.prim (.lit .int)))) (by wf_closed)) hr
    ⟨h0, h1, h2, h3, h4, h5, trivial⟩ ⟨nofun, nofun, nofun, nofun⟩

/-- `qubit[n] q;` (`n` an identifier) -/
theorem accept_qubit_width_ident (fuel : Nat) (s : P) (hr : Ready s)
    (h0 : s.kindAt (s.pos + 0) = .QUBIT_KW) (h1 : s.kindAt (s.pos + 1) = .L_BRACK) (h2 : s.kindAt (s.pos + 2) = .IDENT) (h3 : s.kindAt (s.pos + 3) = .R_BRACK) (h4 : s.kindAt (s.pos + 4) = .IDENT) (h5 : s.kindAt (s.pos + 5) = .SEMICOLON) :
    Accepts (stmt (fuel + 40)) s 6
      [.start .QUANTUM_DECLARATION_STATEMENT none, .start .QUBIT_TYPE none, .token .QUBIT_KW 1,
       .start .DESIGNATOR none, .token .L_BRACK 1, .start .TOMBSTONE (some 1),
       .start .IDENTIFIER none, .token .IDENT 1, .finish, .token .R_BRACK 1, .finish, .finish,
       .start .NAME none, .token .IDENT 1, .finish, .token .SEMICOLON 1, .finish] :=
  accepts_of_ok (stmt_ok2 (.qubit (some (.prim .id))) (by wf_closed)) hr
    ⟨h0, h1, h2, h3, h4, h5, trivial⟩ ⟨nofun, nofun, nofun, nofun⟩

/-- `qreg q[n];` -/
theorem accept_qreg (fuel : Nat) (s : P) (hr : Ready s)
    (h0 : s.kindAt (s.pos + 0) = .QREG_KW) (h1 : s.kindAt (s.pos + 1) = .IDENT) (h2 : s.kindAt (s.pos + 2) = .L_BRACK) (h3 : s.kindAt (s.pos + 3) = .INT_NUMBER) (h4 : s.kindAt (s.pos + 4) = .R_BRACK) (h5 : s.kindAt (s.pos + 5) = .SEMICOLON) :
    Accepts (stmt (fuel + 40)) s 6
      [.start .OLD_STYLE_DECLARATION_STATEMENT none, .start .OLD_TYPED_PARAM none,
       .token .QREG_KW 1, .token .IDENT 1, .start .INDEX_OPERATOR none, .token .L_BRACK 1,
       .start .EXPRESSION_LIST none, .start .TOMBSTONE none, .start .TOMBSTONE (some 1),
       .start .LITERAL none, .token .INT_NUMBER 1, .finish, .finish, .token .R_BRACK 1, .finish,
       .finish, .token .SEMICOLON 1, .finish] :=
  accepts_of_ok (stmt_ok2 (.oldReg false (.one (.ex (.prim (.lit .int))))) (by wf_closed)) hr
    ⟨h0, h1, h2, h3, h4, h5, trivial⟩ ⟨nofun, nofun, nofun, nofun⟩

/-- `creg c[n];` -/
theorem accept_creg (fuel : Nat) (s : P) (hr : Ready s)
    (h0 : s.kindAt (s.pos + 0) = .CREG_KW) (h1 : s.kindAt (s.pos + 1) = .IDENT) (h2 : s.kindAt (s.pos + 2) = .L_BRACK) (h3 : s.kindAt (s.pos + 3) = .INT_NUMBER) (h4 : s.kindAt (s.pos + 4) = .R_BRACK) (h5 : s.kindAt (s.pos + 5) = .SEMICOLON) :
    Accepts (stmt (fuel + 40)) s 6
      [.start .OLD_STYLE_DECLARATION_STATEMENT none, .start .OLD_TYPED_PARAM none,
       .token .CREG_KW 1, .token .IDENT 1, .start .INDEX_OPERATOR none, .token .L_BRACK 1,
       .start .EXPRESSION_LIST none, .start .TOMBSTONE none, .start .TOMBSTONE (some 1),
       .start .LITERAL none, .token .INT_NUMBER 1, .finish, .finish, .token .R_BRACK 1, .finish,
       .finish, .token .SEMICOLON 1, .finish] :=
  accepts_of_ok (stmt_ok2 (.oldReg true (.one (.ex (.prim (.lit .int))))) (by wf_closed)) hr
    ⟨h0, h1, h2, h3, h4, h5, trivial⟩ ⟨nofun, nofun, nofun, nofun⟩

/-- `int x;` -/
theorem accept_decl_int (fuel : Nat) (s : P) (hr : Ready s)
    (h0 : s.kindAt (s.pos + 0) = .INT_TY) (h1 : s.kindAt (s.pos + 1) = .IDENT) (h2 : s.kindAt (s.pos + 2) = .SEMICOLON) :
    Accepts (stmt (fuel + 40)) s 3
      [.start .CLASSICAL_DECLARATION_STATEMENT none, .start .TOMBSTONE none,
       .start .SCALAR_TYPE none, .token .INT_TY 1, .finish, .start .NAME none, .token .IDENT 1,
       .finish, .token .SEMICOLON 1, .finish] :=
  accepts_of_ok (stmt_ok2 (.decl false .int none none) (by wf_closed)) hr
    ⟨h0, h1, h2, trivial⟩ ⟨nofun, nofun, nofun, nofun⟩

/-- `uint x;` -/
theorem accept_decl_uint (fuel : Nat) (s : P) (hr : Ready s)
    (h0 : s.kindAt (s.pos + 0) = .UINT_TY) (h1 : s.kindAt (s.pos + 1) = .IDENT) (h2 : s.kindAt (s.pos + 2) = .SEMICOLON) :
    Accepts (stmt (fuel + 40)) s 3
      [.start .CLASSICAL_DECLARATION_STATEMENT none, .start .TOMBSTONE none,
       .start .SCALAR_TYPE none, .token .UINT_TY 1, .finish, .start .NAME none, .token .IDENT 1,
       .finish, .token .SEMICOLON 1, .finish] :=
  accepts_of_ok (stmt_ok2 (.decl false .uint none none) (by wf_closed)) hr
    ⟨h0, h1, h2, trivial⟩ ⟨nofun, nofun, nofun, nofun⟩

/-- `float x;` -/
theorem accept_decl_float (fuel : Nat) (s : P) (hr : Ready s)
    (h0 : s.kindAt (s.pos + 0) = .FLOAT_TY) (h1 : s.kindAt (s.pos + 1) = .IDENT) (h2 : s.kindAt (s.pos + 2) = .SEMICOLON) :
    Accepts (stmt (fuel + 40)) s 3
      [.start .CLASSICAL_DECLARATION_STATEMENT none, .start .TOMBSTONE none,
       .start .SCALAR_TYPE none, .token .FLOAT_TY 1, .finish, .start .NAME none, .token .IDENT 1,
       .finish, .token .SEMICOLON 1, .finish] :=
  accepts_of_ok (stmt_ok2 (.decl false .float none none) (by wf_closed)) hr
    ⟨h0, h1, h2, trivial⟩ ⟨nofun, nofun, nofun, nofun⟩

/-- `angle x;` -/
theorem accept_decl_angle (fuel : Nat) (s : P) (hr : Ready s)
    (h0 : s.kindAt (s.pos + 0) = .ANGLE_TY) (h1 : s.kindAt (s.pos + 1) = .IDENT) (h2 : s.kindAt (s.pos + 2) = .SEMICOLON) :
    Accepts (stmt (fuel + 40)) s 3
      [.start .CLASSICAL_DECLARATION_STATEMENT none, .start .TOMBSTONE none,
       .start .SCALAR_TYPE none, .token .ANGLE_TY 1, .finish, .start .NAME none, .token .IDENT 1,
       .finish, .token .SEMICOLON 1, .finish] :=
  accepts_of_ok (stmt_ok2 (.decl false .angle none none) (by wf_closed)) hr
    ⟨h0, h1, h2, trivial⟩ ⟨nofun, nofun, nofun, nofun⟩

/-- `bit x;` -/
theorem accept_decl_bit (fuel : Nat) (s : P) (hr : Ready s)
    (h0 : s.kindAt (s.pos + 0) = .BIT_TY) (h1 : s.kindAt (s.pos + 1) = .IDENT) (h2 : s.kindAt (s.pos + 2) = .SEMICOLON) :
    Accepts (stmt (fuel + 40)) s 3
      [.start .CLASSICAL_DECLARATION_STATEMENT none, .start .TOMBSTONE none,
       .start .SCALAR_TYPE none, .token .BIT_TY 1, .finish, .start .NAME none, .token .IDENT 1,
       .finish, .token .SEMICOLON 1, .finish] :=
  accepts_of_ok (stmt_ok2 (.decl false .bit none none) (by wf_closed)) hr
    ⟨h0, h1, h2, trivial⟩ ⟨nofun, nofun, nofun, nofun⟩

/-- `bool x;` -/
theorem accept_decl_bool (fuel : Nat) (s : P) (hr : Ready s)
    (h0 : s.kindAt (s.pos + 0) = .BOOL_TY) (h1 : s.kindAt (s.pos + 1) = .IDENT) (h2 : s.kindAt (s.pos + 2) = .SEMICOLON) :
    Accepts (stmt (fuel + 40)) s 3
      [.start .CLASSICAL_DECLARATION_STATEMENT none, .start .TOMBSTONE none,
       .start .SCALAR_TYPE none, .token .BOOL_TY 1, .finish, .start .NAME none, .token .IDENT 1,
       .finish, .token .SEMICOLON 1, .finish] :=
  accepts_of_ok (stmt_ok2 (.decl false .bool none none) (by wf_closed)) hr
    ⟨h0, h1, h2, trivial⟩ ⟨nofun, nofun, nofun, nofun⟩

/-- `duration x;` -/
theorem accept_decl_duration (fuel : Nat) (s : P) (hr : Ready s)
    (h0 : s.kindAt (s.pos + 0) = .DURATION_TY) (h1 : s.kindAt (s.pos + 1) = .IDENT) (h2 : s.kindAt (s.pos + 2) = .SEMICOLON) :
    Accepts (stmt (fuel + 40)) s 3
      [.start .CLASSICAL_DECLARATION_STATEMENT none, .start .TOMBSTONE none,
       .start .SCALAR_TYPE none, .token .DURATION_TY 1, .finish, .start .NAME none,
       .token .IDENT 1, .finish, .token .SEMICOLON 1, .finish] := by
  accept [h0, h1, h2]

/-- `stretch x;` -/
theorem accept_decl_stretch (fuel : Nat) (s : P) (hr : Ready s)
    (h0 : s.kindAt (s.pos + 0) = .STRETCH_TY) (h1 : s.kindAt (s.pos + 1) = .IDENT) (h2 : s.kindAt (s.pos + 2) = .SEMICOLON) :
    Accepts (stmt (fuel + 40)) s 3
      [.start .CLASSICAL_DECLARATION_STATEMENT none, .start .TOMBSTONE none,
       .start .SCALAR_TYPE none, .token .STRETCH_TY 1, .finish, .start .NAME none, .token .IDENT 1,
       .finish, .token .SEMICOLON 1, .finish] := by
  accept [h0, h1, h2]

/-- `complex z;` -/
theorem accept_decl_complex (fuel : Nat) (s : P) (hr : Ready s)
    (h0 : s.kindAt (s.pos + 0) = .COMPLEX_TY) (h1 : s.kindAt (s.pos + 1) = .IDENT) (h2 : s.kindAt (s.pos + 2) = .SEMICOLON) :
    Accepts (stmt (fuel + 40)) s 3
      [.start .CLASSICAL_DECLARATION_STATEMENT none, .start .TOMBSTONE none,
       .start .SCALAR_TYPE none, .token .COMPLEX_TY 1, .finish, .start .NAME none, .token .IDENT 1,
       .finish, .token .SEMICOLON 1, .finish] := by
  accept [h0, h1, h2]

/-- `complex[float[n]] z;` -/
theorem accept_decl_complex_float (fuel : Nat) (s : P) (hr : Ready s)
    (h0 : s.kindAt (s.pos + 0) = .COMPLEX_TY) (h1 : s.kindAt (s.pos + 1) = .L_BRACK) (h2 : s.kindAt (s.pos + 2) = .FLOAT_TY) (h3 : s.kindAt (s.pos + 3) = .L_BRACK) (h4 : s.kindAt (s.pos + 4) = .INT_NUMBER) (h5 : s.kindAt (s.pos + 5) = .R_BRACK) (h6 : s.kindAt (s.pos + 6) = .R_BRACK) (h7 : s.kindAt (s.pos + 7) = .IDENT) (h8 : s.kindAt (s.pos + 8) = .SEMICOLON) :
    Accepts (stmt (fuel + 40)) s 9
      [.start .CLASSICAL_DECLARATION_STATEMENT none, .start .TOMBSTONE none,
       .start .SCALAR_TYPE none, .token .COMPLEX_TY 1, .token .L_BRACK 1, .start .SCALAR_TYPE none,
       .token .FLOAT_TY 1, .start .DESIGNATOR none, .token .L_BRACK 1, .start .TOMBSTONE (some 1),
       .start .LITERAL none, .token .INT_NUMBER 1, .finish, .token .R_BRACK 1, .finish, .finish,
       .token .R_BRACK 1, .finish, .start .NAME none, .token .IDENT 1, .finish,
       .token .SEMICOLON 1, .finish] := by
  accept [h0, h1, h2, h3, h4, h5, h6, h7, h8]

/-- `int[n] x;` -/
theorem accept_decl_int_width (fuel : Nat) (s : P) (hr : Ready s)
    (h0 : s.kindAt (s.pos + 0) = .INT_TY) (h1 : s.kindAt (s.pos + 1) = .L_BRACK) (h2 : s.kindAt (s.pos + 2) = .INT_NUMBER) (h3 : s.kindAt (s.pos + 3) = .R_BRACK) (h4 : s.kindAt (s.pos + 4) = .IDENT) (h5 : s.kindAt (s.pos + 5) = .SEMICOLON) :
    Accepts (stmt (fuel + 40)) s 6
      [.start .CLASSICAL_DECLARATION_STATEMENT none, .start .TOMBSTONE none,
       .start .SCALAR_TYPE none, .token .INT_TY 1, .start .DESIGNATOR none, .token .L_BRACK 1,
       .start .TOMBSTONE (some 1), .start .LITERAL none, .token .INT_NUMBER 1, .finish,
       .token .R_BRACK 1, .finish, .finish, .start .NAME none, .token .IDENT 1, .finish,
       .token .SEMICOLON 1, .finish] :=
  accepts_of_ok (stmt_ok2 (.decl false .int (some (.prim (.lit .int))) none) (by wf_closed)) hr
    ⟨h0, h1, h2, h3, h4, h5, trivial⟩ ⟨nofun, nofun, nofun, nofun⟩

/-- `int x = y;` -/
theorem accept_decl_int_init_ident (fuel : Nat) (s : P) (hr : Ready s)
    (h0 : s.kindAt (s.pos + 0) = .INT_TY) (h1 : s.kindAt (s.pos + 1) = .IDENT) (h2 : s.kindAt (s.pos + 2) = .EQ) (h3 : s.kindAt (s.pos + 3) = .IDENT) (h4 : s.kindAt (s.pos + 4) = .SEMICOLON) :
    Accepts (stmt (fuel + 40)) s 5
      [.start .CLASSICAL_DECLARATION_STATEMENT none, .start .TOMBSTONE none,
       .start .SCALAR_TYPE none, .token .INT_TY 1, .finish, .start .NAME none, .token .IDENT 1,
       .finish, .token .EQ 1, .start .TOMBSTONE (some 1), .start .IDENTIFIER none, .token .IDENT 1,
       .finish, .token .SEMICOLON 1, .finish] :=
  accepts_of_ok (stmt_ok2 (.decl false .int none (some (.prim .id))) (by wf_closed)) hr
    ⟨h0, h1, h2, h3, h4, trivial⟩ ⟨nofun, nofun, nofun, nofun⟩

/-- `int x = 3;` -/
theorem accept_decl_int_init_lit (fuel : Nat) (s : P) (hr : Ready s)
    (h0 : s.kindAt (s.pos + 0) = .INT_TY) (h1 : s.kindAt (s.pos + 1) = .IDENT) (h2 : s.kindAt (s.pos + 2) = .EQ) (h3 : s.kindAt (s.pos + 3) = .INT_NUMBER) (h4 : s.kindAt (s.pos + 4) = .SEMICOLON) :
    Accepts (stmt (fuel + 40)) s 5
      [.start .CLASSICAL_DECLARATION_STATEMENT none, .start .TOMBSTONE none,
       .start .SCALAR_TYPE none, .token .INT_TY 1, .finish, .start .NAME none, .token .IDENT 1,
       .finish, .token .EQ 1, .start .TOMBSTONE (some 1), .start .LITERAL none,
       .token .INT_NUMBER 1, .finish, .token .SEMICOLON 1, .finish] :=
  accepts_of_ok (stmt_ok2 (.decl false .int none (some (.prim (.lit .int)))) (by wf_closed)) hr
    ⟨h0, h1, h2, h3, h4, trivial⟩ ⟨nofun, nofun, nofun, nofun⟩

/-- `int[n] x = 3;` -/
theorem accept_decl_int_width_init (fuel : Nat) (s : P) (hr : Ready s)
    (h0 : s.kindAt (s.pos + 0) = .INT_TY) (h1 : s.kindAt (s.pos + 1) = .L_BRACK) (h2 : s.kindAt (s.pos + 2) = .INT_NUMBER) (h3 : s.kindAt (s.pos + 3) = .R_BRACK) (h4 : s.kindAt (s.pos + 4) = .IDENT) (h5 : s.kindAt (s.pos + 5) = .EQ) (h6 : s.kindAt (s.pos + 6) = .INT_NUMBER) (h7 : s.kindAt (s.pos + 7) = .SEMICOLON) :
    Accepts (stmt (fuel + 40)) s 8
      [.start .CLASSICAL_DECLARATION_STATEMENT none, .start .TOMBSTONE none,
       .start .SCALAR_TYPE none, .token .INT_TY 1, .start .DESIGNATOR none, .token .L_BRACK 1,
       .start .TOMBSTONE (some 1), .start .LITERAL none, .token .INT_NUMBER 1, .finish,
       .token .R_BRACK 1, .finish, .finish, .start .NAME none, .token .IDENT 1, .finish,
       .token .EQ 1, .start .TOMBSTONE (some 1), .start .LITERAL none, .token .INT_NUMBER 1,
       .finish, .token .SEMICOLON 1, .finish] :=
  accepts_of_ok (stmt_ok2 (.decl false .int (some (.prim (.lit .int))) (some (.prim (.lit .int)))) (by wf_closed)) hr
    ⟨h0, h1, h2, h3, h4, h5, h6, h7, trivial⟩ ⟨nofun, nofun, nofun, nofun⟩

/-- `float x = 2.5;` -/
theorem accept_decl_float_init (fuel : Nat) (s : P) (hr : Ready s)
    (h0 : s.kindAt (s.pos + 0) = .FLOAT_TY) (h1 : s.kindAt (s.pos + 1) = .IDENT) (h2 : s.kindAt (s.pos + 2) = .EQ) (h3 : s.kindAt (s.pos + 3) = .FLOAT_NUMBER) (h4 : s.kindAt (s.pos + 4) = .SEMICOLON) :
    Accepts (stmt (fuel + 40)) s 5
      [.start .CLASSICAL_DECLARATION_STATEMENT none, .start .TOMBSTONE none,
       .start .SCALAR_TYPE none, .token .FLOAT_TY 1, .finish, .start .NAME none, .token .IDENT 1,
       .finish, .token .EQ 1, .start .TOMBSTONE (some 1), .start .LITERAL none,
       .token .FLOAT_NUMBER 1, .finish, .token .SEMICOLON 1, .finish] :=
  accepts_of_ok (stmt_ok2 (.decl false .float none (some (.prim (.lit .float)))) (by wf_closed)) hr
    ⟨h0, h1, h2, h3, h4, trivial⟩ ⟨nofun, nofun, nofun, nofun⟩

/-- `bit c = measure q;` -/
theorem accept_decl_bit_init_measure (fuel : Nat) (s : P) (hr : Ready s)
    (h0 : s.kindAt (s.pos + 0) = .BIT_TY) (h1 : s.kindAt (s.pos + 1) = .IDENT) (h2 : s.kindAt (s.pos + 2) = .EQ) (h3 : s.kindAt (s.pos + 3) = .MEASURE_KW) (h4 : s.kindAt (s.pos + 4) = .IDENT) (h5 : s.kindAt (s.pos + 5) = .SEMICOLON) :
    Accepts (stmt (fuel + 40)) s 6
      [.start .CLASSICAL_DECLARATION_STATEMENT none, .start .TOMBSTONE none,
       .start .SCALAR_TYPE none, .token .BIT_TY 1, .finish, .start .NAME none, .token .IDENT 1,
       .finish, .token .EQ 1, .start .TOMBSTONE (some 1), .start .MEASURE_EXPRESSION none,
       .token .MEASURE_KW 1, .start .IDENTIFIER none, .token .IDENT 1, .finish, .finish,
       .token .SEMICOLON 1, .finish] :=
  accepts_of_ok (stmt_ok2 (.decl false .bit none (some (.prim .measureE))) (by wf_closed)) hr
    ⟨h0, h1, h2, h3, h4, h5, trivial⟩ ⟨nofun, nofun, nofun, nofun⟩

/-- `bool b = true;` -/
theorem accept_decl_bool_init_true (fuel : Nat) (s : P) (hr : Ready s)
    (h0 : s.kindAt (s.pos + 0) = .BOOL_TY) (h1 : s.kindAt (s.pos + 1) = .IDENT) (h2 : s.kindAt (s.pos + 2) = .EQ) (h3 : s.kindAt (s.pos + 3) = .TRUE_KW) (h4 : s.kindAt (s.pos + 4) = .SEMICOLON) :
    Accepts (stmt (fuel + 40)) s 5
      [.start .CLASSICAL_DECLARATION_STATEMENT none, .start .TOMBSTONE none,
       .start .SCALAR_TYPE none, .token .BOOL_TY 1, .finish, .start .NAME none, .token .IDENT 1,
       .finish, .token .EQ 1, .start .TOMBSTONE (some 1), .start .LITERAL none, .token .TRUE_KW 1,
       .finish, .token .SEMICOLON 1, .finish] :=
  accepts_of_ok (stmt_ok2 (.decl false .bool none (some (.prim (.lit .tru)))) (by wf_closed)) hr
    ⟨h0, h1, h2, h3, h4, trivial⟩ ⟨nofun, nofun, nofun, nofun⟩

/-- `const int n = 3;` -/
theorem accept_const_int (fuel : Nat) (s : P) (hr : Ready s)
    (h0 : s.kindAt (s.pos + 0) = .CONST_KW) (h1 : s.kindAt (s.pos + 1) = .INT_TY) (h2 : s.kindAt (s.pos + 2) = .IDENT) (h3 : s.kindAt (s.pos + 3) = .EQ) (h4 : s.kindAt (s.pos + 4) = .INT_NUMBER) (h5 : s.kindAt (s.pos + 5) = .SEMICOLON) :
    Accepts (stmt (fuel + 40)) s 6
      [.start .CLASSICAL_DECLARATION_STATEMENT none, .token .CONST_KW 1, .start .TOMBSTONE none,
       .start .SCALAR_TYPE none, .token .INT_TY 1, .finish, .start .NAME none, .token .IDENT 1,
       .finish, .token .EQ 1, .start .TOMBSTONE (some 1), .start .LITERAL none,
       .token .INT_NUMBER 1, .finish, .token .SEMICOLON 1, .finish] :=
  accepts_of_ok (stmt_ok2 (.decl true .int none (some (.prim (.lit .int)))) (by wf_closed)) hr
    ⟨h0, h1, h2, h3, h4, h5, trivial⟩ ⟨nofun, nofun, nofun, nofun⟩

/-- `const int[n] m = 3;` -/
theorem accept_const_int_width (fuel : Nat) (s : P) (hr : Ready s)
    (h0 : s.kindAt (s.pos + 0) = .CONST_KW) (h1 : s.kindAt (s.pos + 1) = .INT_TY) (h2 : s.kindAt (s.pos + 2) = .L_BRACK) (h3 : s.kindAt (s.pos + 3) = .INT_NUMBER) (h4 : s.kindAt (s.pos + 4) = .R_BRACK) (h5 : s.kindAt (s.pos + 5) = .IDENT) (h6 : s.kindAt (s.pos + 6) = .EQ) (h7 : s.kindAt (s.pos + 7) = .INT_NUMBER) (h8 : s.kindAt (s.pos + 8) = .SEMICOLON) :
    Accepts (stmt (fuel + 40)) s 9
      [.start .CLASSICAL_DECLARATION_STATEMENT none, .token .CONST_KW 1, .start .TOMBSTONE none,
       .start .SCALAR_TYPE none, .token .INT_TY 1, .start .DESIGNATOR none, .token .L_BRACK 1,
       .start .TOMBSTONE (some 1), .start .LITERAL none, .token .INT_NUMBER 1, .finish,
       .token .R_BRACK 1, .finish, .finish, .start .NAME none, .token .IDENT 1, .finish,
       .token .EQ 1, .start .TOMBSTONE (some 1), .start .LITERAL none, .token .INT_NUMBER 1,
       .finish, .token .SEMICOLON 1, .finish] :=
  accepts_of_ok (stmt_ok2 (.decl true .int (some (.prim (.lit .int))) (some (.prim (.lit .int)))) (by wf_closed)) hr
    ⟨h0, h1, h2, h3, h4, h5, h6, h7, h8, trivial⟩ ⟨nofun, nofun, nofun, nofun⟩

/-- `int x = a + b;` (a binary initializer IS accepted in a declaration) -/
theorem accept_decl_int_init_sum (fuel : Nat) (s : P) (hr : Ready s)
    (h0 : s.kindAt (s.pos + 0) = .INT_TY) (h1 : s.kindAt (s.pos + 1) = .IDENT) (h2 : s.kindAt (s.pos + 2) = .EQ) (h3 : s.kindAt (s.pos + 3) = .IDENT) (h4 : s.kindAt (s.pos + 4) = .PLUS) (h5 : s.kindAt (s.pos + 5) = .IDENT) (h6 : s.kindAt (s.pos + 6) = .SEMICOLON) :
    Accepts (stmt (fuel + 40)) s 7
      [.start .CLASSICAL_DECLARATION_STATEMENT none, .start .TOMBSTONE none,
       .start .SCALAR_TYPE none, .token .INT_TY 1, .finish, .start .NAME none, .token .IDENT 1,
       .finish, .token .EQ 1, .start .TOMBSTONE (some 1), .start .IDENTIFIER (some 3),
       .token .IDENT 1, .finish, .start .BIN_EXPR none, .token .PLUS 1, .start .TOMBSTONE (some 1),
       .start .IDENTIFIER none, .token .IDENT 1, .finish, .finish, .token .SEMICOLON 1, .finish] :=
  accepts_of_ok (stmt_ok2 (.decl false .int none (some (.bin .plus (.prim .id) (.prim .id)))) (by wf_closed)) hr
    ⟨h0, h1, h2, h3, h4, h5, h6, trivial⟩ ⟨nofun, nofun, nofun, nofun⟩

/-- `input int x;` -/
theorem accept_input (fuel : Nat) (s : P) (hr : Ready s)
    (h0 : s.kindAt (s.pos + 0) = .INPUT_KW) (h1 : s.kindAt (s.pos + 1) = .INT_TY) (h2 : s.kindAt (s.pos + 2) = .IDENT) (h3 : s.kindAt (s.pos + 3) = .SEMICOLON) :
    Accepts (stmt (fuel + 40)) s 4
      [.start .I_O_DECLARATION_STATEMENT none, .token .INPUT_KW 1, .start .SCALAR_TYPE none,
       .token .INT_TY 1, .finish, .start .NAME none, .token .IDENT 1, .finish, .token .SEMICOLON 1,
       .finish] :=
  accepts_of_ok (stmt_ok2 (.io false .int none) (by wf_closed)) hr
    ⟨h0, h1, h2, h3, trivial⟩ ⟨nofun, nofun, nofun, nofun⟩

/-- `output bit c;` -/
theorem accept_output (fuel : Nat) (s : P) (hr : Ready s)
    (h0 : s.kindAt (s.pos + 0) = .OUTPUT_KW) (h1 : s.kindAt (s.pos + 1) = .BIT_TY) (h2 : s.kindAt (s.pos + 2) = .IDENT) (h3 : s.kindAt (s.pos + 3) = .SEMICOLON) :
    Accepts (stmt (fuel + 40)) s 4
      [.start .I_O_DECLARATION_STATEMENT none, .token .OUTPUT_KW 1, .start .SCALAR_TYPE none,
       .token .BIT_TY 1, .finish, .start .NAME none, .token .IDENT 1, .finish, .token .SEMICOLON 1,
       .finish] :=
  accepts_of_ok (stmt_ok2 (.io true .bit none) (by wf_closed)) hr
    ⟨h0, h1, h2, h3, trivial⟩ ⟨nofun, nofun, nofun, nofun⟩

/-- `reset q;` -/
theorem accept_reset (fuel : Nat) (s : P) (hr : Ready s)
    (h0 : s.kindAt (s.pos + 0) = .RESET_KW) (h1 : s.kindAt (s.pos + 1) = .IDENT) (h2 : s.kindAt (s.pos + 2) = .SEMICOLON) :
    Accepts (stmt (fuel + 40)) s 3
      [.start .RESET none, .token .RESET_KW 1, .start .IDENTIFIER none, .token .IDENT 1, .finish,
       .token .SEMICOLON 1, .finish] :=
  accepts_of_ok (stmt_ok2 (.reset .id) (by wf_closed)) hr
    ⟨h0, h1, h2, trivial⟩ ⟨nofun, nofun, nofun, nofun⟩

/-- `reset q[0];` -/
theorem accept_reset_indexed (fuel : Nat) (s : P) (hr : Ready s)
    (h0 : s.kindAt (s.pos + 0) = .RESET_KW) (h1 : s.kindAt (s.pos + 1) = .IDENT) (h2 : s.kindAt (s.pos + 2) = .L_BRACK) (h3 : s.kindAt (s.pos + 3) = .INT_NUMBER) (h4 : s.kindAt (s.pos + 4) = .R_BRACK) (h5 : s.kindAt (s.pos + 5) = .SEMICOLON) :
    Accepts (stmt (fuel + 40)) s 6
      [.start .RESET none, .token .RESET_KW 1, .start .IDENTIFIER (some 3), .token .IDENT 1,
       .finish, .start .INDEXED_IDENTIFIER none, .start .INDEX_OPERATOR none, .token .L_BRACK 1,
       .start .EXPRESSION_LIST none, .start .TOMBSTONE none, .start .TOMBSTONE (some 1),
       .start .LITERAL none, .token .INT_NUMBER 1, .finish, .finish, .token .R_BRACK 1, .finish,
       .finish, .token .SEMICOLON 1, .finish] :=
  accepts_of_ok (stmt_ok2 (.reset (.idx (.one (.one (.ex (.prim (.lit .int))))))) (by wf_closed)) hr
    ⟨h0, h1, h2, h3, h4, h5, trivial⟩ ⟨nofun, nofun, nofun, nofun⟩

/-- `reset $0;` -/
theorem accept_reset_hw (fuel : Nat) (s : P) (hr : Ready s)
    (h0 : s.kindAt (s.pos + 0) = .RESET_KW) (h1 : s.kindAt (s.pos + 1) = .HARDWAREIDENT) (h2 : s.kindAt (s.pos + 2) = .SEMICOLON) :
    Accepts (stmt (fuel + 40)) s 3
      [.start .RESET none, .token .RESET_KW 1, .start .HARDWARE_QUBIT none, .token .HARDWAREIDENT 1,
       .finish, .token .SEMICOLON 1, .finish] :=
  accepts_of_ok (stmt_ok2 (.reset .hw) (by wf_closed)) hr
    ⟨h0, h1, h2, trivial⟩ ⟨nofun, nofun, nofun, nofun⟩

/-- `barrier q;` -/
theorem accept_barrier (fuel : Nat) (s : P) (hr : Ready s)
    (h0 : s.kindAt (s.pos + 0) = .BARRIER_KW) (h1 : s.kindAt (s.pos + 1) = .IDENT) (h2 : s.kindAt (s.pos + 2) = .SEMICOLON) :
    Accepts (stmt (fuel + 40)) s 3
      [.start .BARRIER none, .token .BARRIER_KW 1, .start .QUBIT_LIST none, .start .IDENTIFIER none,
       .token .IDENT 1, .finish, .finish, .token .SEMICOLON 1, .finish] :=
  accepts_of_ok (stmt_ok2 (.barrier (.one .id)) (by wf_closed)) hr
    ⟨h0, h1, h2, trivial⟩ ⟨nofun, nofun, nofun, nofun⟩

/-- `barrier q, r;` -/
theorem accept_barrier_two (fuel : Nat) (s : P) (hr : Ready s)
    (h0 : s.kindAt (s.pos + 0) = .BARRIER_KW) (h1 : s.kindAt (s.pos + 1) = .IDENT) (h2 : s.kindAt (s.pos + 2) = .COMMA) (h3 : s.kindAt (s.pos + 3) = .IDENT) (h4 : s.kindAt (s.pos + 4) = .SEMICOLON) :
    Accepts (stmt (fuel + 40)) s 5
      [.start .BARRIER none, .token .BARRIER_KW 1, .start .QUBIT_LIST none, .start .IDENTIFIER none,
       .token .IDENT 1, .finish, .token .COMMA 1, .start .IDENTIFIER none, .token .IDENT 1,
       .finish, .finish, .token .SEMICOLON 1, .finish] :=
  accepts_of_ok (stmt_ok2 (.barrier (.cons .id (.one .id))) (by wf_closed)) hr
    ⟨h0, h1, h2, h3, h4, trivial⟩ ⟨nofun, nofun, nofun, nofun⟩

/-- `barrier;` -/
theorem accept_barrier_none (fuel : Nat) (s : P) (hr : Ready s)
    (h0 : s.kindAt (s.pos + 0) = .BARRIER_KW) (h1 : s.kindAt (s.pos + 1) = .SEMICOLON) :
    Accepts (stmt (fuel + 40)) s 2
      [.start .BARRIER none, .token .BARRIER_KW 1, .token .SEMICOLON 1, .finish] := by
  accept [h0, h1]

/-- `delay[n] q;` -/
theorem accept_delay (fuel : Nat) (s : P) (hr : Ready s)
    (h0 : s.kindAt (s.pos + 0) = .DELAY_KW) (h1 : s.kindAt (s.pos + 1) = .L_BRACK) (h2 : s.kindAt (s.pos + 2) = .INT_NUMBER) (h3 : s.kindAt (s.pos + 3) = .R_BRACK) (h4 : s.kindAt (s.pos + 4) = .IDENT) (h5 : s.kindAt (s.pos + 5) = .SEMICOLON) :
    Accepts (stmt (fuel + 40)) s 6
      [.start .DELAY_STMT none, .token .DELAY_KW 1, .start .DESIGNATOR none, .token .L_BRACK 1,
       .start .TOMBSTONE (some 1), .start .LITERAL none, .token .INT_NUMBER 1, .finish,
       .token .R_BRACK 1, .finish, .start .QUBIT_LIST none, .start .IDENTIFIER none,
       .token .IDENT 1, .finish, .finish, .token .SEMICOLON 1, .finish] :=
  accepts_of_ok (stmt_ok2 (.delay (.prim (.lit .int)) (.one .id)) (by wf_closed)) hr
    ⟨h0, h1, h2, h3, h4, h5, trivial⟩ ⟨nofun, nofun, nofun, nofun⟩

/-- `delay[10ns] q;` (timing literal = number + identifier) -/
theorem accept_delay_timing (fuel : Nat) (s : P) (hr : Ready s)
    (h0 : s.kindAt (s.pos + 0) = .DELAY_KW) (h1 : s.kindAt (s.pos + 1) = .L_BRACK) (h2 : s.kindAt (s.pos + 2) = .INT_NUMBER) (h3 : s.kindAt (s.pos + 3) = .IDENT) (h4 : s.kindAt (s.pos + 4) = .R_BRACK) (h5 : s.kindAt (s.pos + 5) = .IDENT) (h6 : s.kindAt (s.pos + 6) = .SEMICOLON) :
    Accepts (stmt (fuel + 40)) s 7
      [.start .DELAY_STMT none, .token .DELAY_KW 1, .start .DESIGNATOR none, .token .L_BRACK 1,
       .start .TOMBSTONE (some 1), .start .TIMING_LITERAL none, .start .LITERAL none,
       .token .INT_NUMBER 1, .finish, .start .IDENTIFIER none, .token .IDENT 1, .finish, .finish,
       .token .R_BRACK 1, .finish, .start .QUBIT_LIST none, .start .IDENTIFIER none,
       .token .IDENT 1, .finish, .finish, .token .SEMICOLON 1, .finish] :=
  accepts_of_ok (stmt_ok2 (.delay (.prim (.timing .int)) (.one .id)) (by wf_closed)) hr
    ⟨h0, h1, h2, h3, h4, h5, h6, trivial⟩ ⟨nofun, nofun, nofun, nofun⟩

/-- `measure q;` -/
theorem accept_measure (fuel : Nat) (s : P) (hr : Ready s)
    (h0 : s.kindAt (s.pos + 0) = .MEASURE_KW) (h1 : s.kindAt (s.pos + 1) = .IDENT) (h2 : s.kindAt (s.pos + 2) = .SEMICOLON) :
    Accepts (stmt (fuel + 40)) s 3
      [.start .TOMBSTONE (some 1), .start .MEASURE_EXPRESSION (some 6), .token .MEASURE_KW 1,
       .start .IDENTIFIER none, .token .IDENT 1, .finish, .finish, .start .EXPR_STMT none,
       .token .SEMICOLON 1, .finish] :=
  accepts_of_ok (stmt_ok2 (.exprS (.prim .measureE)) (by wf_closed)) hr
    ⟨h0, h1, h2, trivial⟩ ⟨nofun, nofun, nofun, nofun⟩

/-- `c = measure q;` -/
theorem accept_measure_assign (fuel : Nat) (s : P) (hr : Ready s)
    (h0 : s.kindAt (s.pos + 0) = .IDENT) (h1 : s.kindAt (s.pos + 1) = .EQ) (h2 : s.kindAt (s.pos + 2) = .MEASURE_KW) (h3 : s.kindAt (s.pos + 3) = .IDENT) (h4 : s.kindAt (s.pos + 4) = .SEMICOLON) (k : SyntaxKind) (hk : s.kindAt (s.pos + 5) = k) (hf : opFirst k = false) :
    Accepts (stmt (fuel + 40)) s 5
      [.start .TOMBSTONE (some 1), .start .IDENTIFIER (some 3), .token .IDENT 1, .finish,
       .start .ASSIGNMENT_STMT none, .token .EQ 1, .start .TOMBSTONE (some 1),
       .start .MEASURE_EXPRESSION none, .token .MEASURE_KW 1, .start .IDENTIFIER none,
       .token .IDENT 1, .finish, .finish, .token .SEMICOLON 1, .finish] :=
  accepts_of_ok (stmt_ok2 (.assign none (.prim .measureE)) (by wf_closed)) hr
    ⟨h0, h1, h2, h3, h4, trivial⟩ ⟨fun _ => stopsAt_of_opFirst hk hf, nofun, nofun, nofun⟩

/-- `g q;` -/
theorem accept_gate_call (fuel : Nat) (s : P) (hr : Ready s)
    (h0 : s.kindAt (s.pos + 0) = .IDENT) (h1 : s.kindAt (s.pos + 1) = .IDENT) (h2 : s.kindAt (s.pos + 2) = .SEMICOLON) :
    Accepts (stmt (fuel + 40)) s 3
      [.start .TOMBSTONE (some 1), .start .GATE_CALL_EXPR (some 10), .start .IDENTIFIER none,
       .token .IDENT 1, .finish, .start .QUBIT_LIST none, .start .IDENTIFIER none, .token .IDENT 1,
       .finish, .finish, .finish, .start .EXPR_STMT none, .token .SEMICOLON 1, .finish] :=
  accepts_of_ok (stmt_ok2 (.gate .nil (.one .id)) (by wf_closed)) hr
    ⟨h0, h1, h2, trivial⟩ ⟨nofun, nofun, nofun, nofun⟩

/-- `cx q, r;` -/
theorem accept_gate_call_two (fuel : Nat) (s : P) (hr : Ready s)
    (h0 : s.kindAt (s.pos + 0) = .IDENT) (h1 : s.kindAt (s.pos + 1) = .IDENT) (h2 : s.kindAt (s.pos + 2) = .COMMA) (h3 : s.kindAt (s.pos + 3) = .IDENT) (h4 : s.kindAt (s.pos + 4) = .SEMICOLON) :
    Accepts (stmt (fuel + 40)) s 5
      [.start .TOMBSTONE (some 1), .start .GATE_CALL_EXPR (some 14), .start .IDENTIFIER none,
       .token .IDENT 1, .finish, .start .QUBIT_LIST none, .start .IDENTIFIER none, .token .IDENT 1,
       .finish, .token .COMMA 1, .start .IDENTIFIER none, .token .IDENT 1, .finish, .finish,
       .finish, .start .EXPR_STMT none, .token .SEMICOLON 1, .finish] :=
  accepts_of_ok (stmt_ok2 (.gate .nil (.cons .id (.one .id))) (by wf_closed)) hr
    ⟨h0, h1, h2, h3, h4, trivial⟩ ⟨nofun, nofun, nofun, nofun⟩

/-- `h q[0];` -/
theorem accept_gate_call_indexed (fuel : Nat) (s : P) (hr : Ready s)
    (h0 : s.kindAt (s.pos + 0) = .IDENT) (h1 : s.kindAt (s.pos + 1) = .IDENT) (h2 : s.kindAt (s.pos + 2) = .L_BRACK) (h3 : s.kindAt (s.pos + 3) = .INT_NUMBER) (h4 : s.kindAt (s.pos + 4) = .R_BRACK) (h5 : s.kindAt (s.pos + 5) = .SEMICOLON) :
    Accepts (stmt (fuel + 40)) s 6
      [.start .TOMBSTONE (some 1), .start .GATE_CALL_EXPR (some 23), .start .IDENTIFIER none,
       .token .IDENT 1, .finish, .start .QUBIT_LIST none, .start .IDENTIFIER (some 3),
       .token .IDENT 1, .finish, .start .INDEXED_IDENTIFIER none, .start .INDEX_OPERATOR none,
       .token .L_BRACK 1, .start .EXPRESSION_LIST none, .start .TOMBSTONE none,
       .start .TOMBSTONE (some 1), .start .LITERAL none, .token .INT_NUMBER 1, .finish, .finish,
       .token .R_BRACK 1, .finish, .finish, .finish, .finish, .start .EXPR_STMT none,
       .token .SEMICOLON 1, .finish] :=
  accepts_of_ok (stmt_ok2 (.gate .nil (.one (.idx (.one (.one (.ex (.prim (.lit .int)))))))) (by wf_closed)) hr
    ⟨h0, h1, h2, h3, h4, h5, trivial⟩ ⟨nofun, nofun, nofun, nofun⟩

/-- `h $0;` -/
theorem accept_gate_call_hw (fuel : Nat) (s : P) (hr : Ready s)
    (h0 : s.kindAt (s.pos + 0) = .IDENT) (h1 : s.kindAt (s.pos + 1) = .HARDWAREIDENT) (h2 : s.kindAt (s.pos + 2) = .SEMICOLON) :
    Accepts (stmt (fuel + 40)) s 3
      [.start .TOMBSTONE (some 1), .start .GATE_CALL_EXPR (some 10), .start .IDENTIFIER none,
       .token .IDENT 1, .finish, .start .QUBIT_LIST none, .start .HARDWARE_QUBIT none,
       .token .HARDWAREIDENT 1, .finish, .finish, .finish, .start .EXPR_STMT none,
       .token .SEMICOLON 1, .finish] :=
  accepts_of_ok (stmt_ok2 (.gate .nil (.one .hw)) (by wf_closed)) hr
    ⟨h0, h1, h2, trivial⟩ ⟨nofun, nofun, nofun, nofun⟩

/-- `g(a) q;` -/
theorem accept_gate_call_param (fuel : Nat) (s : P) (hr : Ready s)
    (h0 : s.kindAt (s.pos + 0) = .IDENT) (h1 : s.kindAt (s.pos + 1) = .L_PAREN) (h2 : s.kindAt (s.pos + 2) = .IDENT) (h3 : s.kindAt (s.pos + 3) = .R_PAREN) (h4 : s.kindAt (s.pos + 4) = .IDENT) (h5 : s.kindAt (s.pos + 5) = .SEMICOLON) :
    Accepts (stmt (fuel + 40)) s 6
      [.start .TOMBSTONE (some 4), .start .IDENTIFIER (some 3), .token .IDENT 1, .finish,
       .start .GATE_CALL_EXPR (some 17), .start .ARG_LIST none, .start .EXPRESSION_LIST none,
       .token .L_PAREN 1, .start .TOMBSTONE (some 1), .start .IDENTIFIER none, .token .IDENT 1,
       .finish, .token .R_PAREN 1, .finish, .finish, .start .QUBIT_LIST none,
       .start .IDENTIFIER none, .token .IDENT 1, .finish, .finish, .finish, .start .EXPR_STMT none,
       .token .SEMICOLON 1, .finish] :=
  accepts_of_ok (stmt_ok2 (.gate (.cons (.prim .id) .nil) (.one .id)) (by wf_closed)) hr
    ⟨h0, h1, h2, h3, h4, h5, trivial⟩ ⟨nofun, nofun, nofun, nofun⟩

/-- `rx(1.5) q;` -/
theorem accept_gate_call_param_lit (fuel : Nat) (s : P) (hr : Ready s)
    (h0 : s.kindAt (s.pos + 0) = .IDENT) (h1 : s.kindAt (s.pos + 1) = .L_PAREN) (h2 : s.kindAt (s.pos + 2) = .FLOAT_NUMBER) (h3 : s.kindAt (s.pos + 3) = .R_PAREN) (h4 : s.kindAt (s.pos + 4) = .IDENT) (h5 : s.kindAt (s.pos + 5) = .SEMICOLON) :
    Accepts (stmt (fuel + 40)) s 6
      [.start .TOMBSTONE (some 4), .start .IDENTIFIER (some 3), .token .IDENT 1, .finish,
       .start .GATE_CALL_EXPR (some 17), .start .ARG_LIST none, .start .EXPRESSION_LIST none,
       .token .L_PAREN 1, .start .TOMBSTONE (some 1), .start .LITERAL none, .token .FLOAT_NUMBER 1,
       .finish, .token .R_PAREN 1, .finish, .finish, .start .QUBIT_LIST none,
       .start .IDENTIFIER none, .token .IDENT 1, .finish, .finish, .finish, .start .EXPR_STMT none,
       .token .SEMICOLON 1, .finish] :=
  accepts_of_ok (stmt_ok2 (.gate (.cons (.prim (.lit .float)) .nil) (.one .id)) (by wf_closed)) hr
    ⟨h0, h1, h2, h3, h4, h5, trivial⟩ ⟨nofun, nofun, nofun, nofun⟩

/-- `inv @ g q;` -/
theorem accept_gate_call_inv (fuel : Nat) (s : P) (hr : Ready s)
    (h0 : s.kindAt (s.pos + 0) = .INV_KW) (h1 : s.kindAt (s.pos + 1) = .AT) (h2 : s.kindAt (s.pos + 2) = .IDENT) (h3 : s.kindAt (s.pos + 3) = .IDENT) (h4 : s.kindAt (s.pos + 4) = .SEMICOLON) :
    Accepts (stmt (fuel + 40)) s 5
      [.start .TOMBSTONE (some 1), .start .MODIFIED_GATE_CALL_EXPR (some 16),
       .start .INV_MODIFIER none, .token .INV_KW 1, .token .AT 1, .finish,
       .start .GATE_CALL_EXPR none, .start .IDENTIFIER none, .token .IDENT 1, .finish,
       .start .QUBIT_LIST none, .start .IDENTIFIER none, .token .IDENT 1, .finish, .finish,
       .finish, .finish, .start .EXPR_STMT none, .token .SEMICOLON 1, .finish] :=
  accepts_of_ok (stmt_ok2 (.modGate .inv [] .nil (.one .id)) (by wf_closed)) hr
    ⟨h0, h1, h2, h3, h4, trivial⟩ ⟨nofun, nofun, nofun, nofun⟩

/-- `ctrl @ g q, r;` -/
theorem accept_gate_call_ctrl (fuel : Nat) (s : P) (hr : Ready s)
    (h0 : s.kindAt (s.pos + 0) = .CTRL_KW) (h1 : s.kindAt (s.pos + 1) = .AT) (h2 : s.kindAt (s.pos + 2) = .IDENT) (h3 : s.kindAt (s.pos + 3) = .IDENT) (h4 : s.kindAt (s.pos + 4) = .COMMA) (h5 : s.kindAt (s.pos + 5) = .IDENT) (h6 : s.kindAt (s.pos + 6) = .SEMICOLON) :
    Accepts (stmt (fuel + 40)) s 7
      [.start .TOMBSTONE (some 1), .start .MODIFIED_GATE_CALL_EXPR (some 20),
       .start .CTRL_MODIFIER none, .token .CTRL_KW 1, .token .AT 1, .finish,
       .start .GATE_CALL_EXPR none, .start .IDENTIFIER none, .token .IDENT 1, .finish,
       .start .QUBIT_LIST none, .start .IDENTIFIER none, .token .IDENT 1, .finish, .token .COMMA 1,
       .start .IDENTIFIER none, .token .IDENT 1, .finish, .finish, .finish, .finish,
       .start .EXPR_STMT none, .token .SEMICOLON 1, .finish] :=
  accepts_of_ok (stmt_ok2 (.modGate (.ctrl none) [] .nil (.cons .id (.one .id))) (by wf_closed)) hr
    ⟨h0, h1, h2, h3, h4, h5, h6, trivial⟩ ⟨nofun, nofun, nofun, nofun⟩

/-- `negctrl(2) @ g q, r;` -/
theorem accept_gate_call_negctrl_n (fuel : Nat) (s : P) (hr : Ready s)
    (h0 : s.kindAt (s.pos + 0) = .NEGCTRL_KW) (h1 : s.kindAt (s.pos + 1) = .L_PAREN) (h2 : s.kindAt (s.pos + 2) = .INT_NUMBER) (h3 : s.kindAt (s.pos + 3) = .R_PAREN) (h4 : s.kindAt (s.pos + 4) = .AT) (h5 : s.kindAt (s.pos + 5) = .IDENT) (h6 : s.kindAt (s.pos + 6) = .IDENT) (h7 : s.kindAt (s.pos + 7) = .COMMA) (h8 : s.kindAt (s.pos + 8) = .IDENT) (h9 : s.kindAt (s.pos + 9) = .SEMICOLON) :
    Accepts (stmt (fuel + 40)) s 10
      [.start .TOMBSTONE (some 1), .start .MODIFIED_GATE_CALL_EXPR (some 28),
       .start .NEG_CTRL_MODIFIER none, .token .NEGCTRL_KW 1, .start .PAREN_EXPR none,
       .token .L_PAREN 1, .start .TOMBSTONE (some 1), .start .LITERAL none, .token .INT_NUMBER 1,
       .finish, .token .R_PAREN 1, .finish, .token .AT 1, .finish, .start .GATE_CALL_EXPR none,
       .start .IDENTIFIER none, .token .IDENT 1, .finish, .start .QUBIT_LIST none,
       .start .IDENTIFIER none, .token .IDENT 1, .finish, .token .COMMA 1, .start .IDENTIFIER none,
       .token .IDENT 1, .finish, .finish, .finish, .finish, .start .EXPR_STMT none,
       .token .SEMICOLON 1, .finish] :=
  accepts_of_ok (stmt_ok2 (.modGate (.negctrl (some (.prim (.lit .int)))) [] .nil (.cons .id (.one .id))) (by wf_closed)) hr
    ⟨h0, h1, h2, h3, h4, h5, h6, h7, h8, h9, trivial⟩ ⟨nofun, nofun, nofun, nofun⟩

/-- `pow(2) @ g q;` -/
theorem accept_gate_call_pow (fuel : Nat) (s : P) (hr : Ready s)
    (h0 : s.kindAt (s.pos + 0) = .POW_KW) (h1 : s.kindAt (s.pos + 1) = .L_PAREN) (h2 : s.kindAt (s.pos + 2) = .INT_NUMBER) (h3 : s.kindAt (s.pos + 3) = .R_PAREN) (h4 : s.kindAt (s.pos + 4) = .AT) (h5 : s.kindAt (s.pos + 5) = .IDENT) (h6 : s.kindAt (s.pos + 6) = .IDENT) (h7 : s.kindAt (s.pos + 7) = .SEMICOLON) :
    Accepts (stmt (fuel + 40)) s 8
      [.start .TOMBSTONE (some 1), .start .MODIFIED_GATE_CALL_EXPR (some 24),
       .start .POW_MODIFIER none, .token .POW_KW 1, .start .PAREN_EXPR none, .token .L_PAREN 1,
       .start .TOMBSTONE (some 1), .start .LITERAL none, .token .INT_NUMBER 1, .finish,
       .token .R_PAREN 1, .finish, .token .AT 1, .finish, .start .GATE_CALL_EXPR none,
       .start .IDENTIFIER none, .token .IDENT 1, .finish, .start .QUBIT_LIST none,
       .start .IDENTIFIER none, .token .IDENT 1, .finish, .finish, .finish, .finish,
       .start .EXPR_STMT none, .token .SEMICOLON 1, .finish] :=
  accepts_of_ok (stmt_ok2 (.modGate (.pow (.prim (.lit .int))) [] .nil (.one .id)) (by wf_closed)) hr
    ⟨h0, h1, h2, h3, h4, h5, h6, h7, trivial⟩ ⟨nofun, nofun, nofun, nofun⟩

/-- `gphase(a);` -/
theorem accept_gphase (fuel : Nat) (s : P) (hr : Ready s)
    (h0 : s.kindAt (s.pos + 0) = .GPHASE_KW) (h1 : s.kindAt (s.pos + 1) = .L_PAREN) (h2 : s.kindAt (s.pos + 2) = .IDENT) (h3 : s.kindAt (s.pos + 3) = .R_PAREN) (h4 : s.kindAt (s.pos + 4) = .SEMICOLON) :
    Accepts (stmt (fuel + 40)) s 5
      [.start .TOMBSTONE (some 1), .start .G_PHASE_CALL_EXPR (some 12), .token .GPHASE_KW 1,
       .start .TOMBSTONE (some 1), .start .PAREN_EXPR none, .token .L_PAREN 1,
       .start .TOMBSTONE (some 1), .start .IDENTIFIER none, .token .IDENT 1, .finish,
       .token .R_PAREN 1, .finish, .finish, .start .EXPR_STMT none, .token .SEMICOLON 1, .finish] :=
  accepts_of_ok (stmt_ok2 (.gphase (.prim (.paren (.prim .id)))) (by wf_closed)) hr
    ⟨h0, h1, h2, h3, h4, trivial⟩ ⟨nofun, nofun, nofun, nofun⟩

/-- `f(a);` -/
theorem accept_call (fuel : Nat) (s : P) (hr : Ready s)
    (h0 : s.kindAt (s.pos + 0) = .IDENT) (h1 : s.kindAt (s.pos + 1) = .L_PAREN) (h2 : s.kindAt (s.pos + 2) = .IDENT) (h3 : s.kindAt (s.pos + 3) = .R_PAREN) (h4 : s.kindAt (s.pos + 4) = .SEMICOLON) :
    Accepts (stmt (fuel + 40)) s 5
      [.start .TOMBSTONE (some 4), .start .IDENTIFIER (some 3), .token .IDENT 1, .finish,
       .start .CALL_EXPR (some 12), .start .ARG_LIST none, .start .EXPRESSION_LIST none,
       .token .L_PAREN 1, .start .TOMBSTONE (some 1), .start .IDENTIFIER none, .token .IDENT 1,
       .finish, .token .R_PAREN 1, .finish, .finish, .finish, .start .EXPR_STMT none,
       .token .SEMICOLON 1, .finish] :=
  accepts_of_ok (stmt_ok2 (.exprS (.prim (.call .id (.cons (.prim .id) .nil)))) (by wf_closed)) hr
    ⟨h0, h1, h2, h3, h4, trivial⟩ ⟨nofun, nofun, nofun, nofun⟩

/-- `f();` -/
theorem accept_call_none (fuel : Nat) (s : P) (hr : Ready s)
    (h0 : s.kindAt (s.pos + 0) = .IDENT) (h1 : s.kindAt (s.pos + 1) = .L_PAREN) (h2 : s.kindAt (s.pos + 2) = .R_PAREN) (h3 : s.kindAt (s.pos + 3) = .SEMICOLON) :
    Accepts (stmt (fuel + 40)) s 4
      [.start .TOMBSTONE (some 4), .start .IDENTIFIER (some 3), .token .IDENT 1, .finish,
       .start .CALL_EXPR (some 8), .start .ARG_LIST none, .start .EXPRESSION_LIST none,
       .token .L_PAREN 1, .token .R_PAREN 1, .finish, .finish, .finish, .start .EXPR_STMT none,
       .token .SEMICOLON 1, .finish] :=
  accepts_of_ok (stmt_ok2 (.exprS (.prim (.call .id .nil))) (by wf_closed)) hr
    ⟨h0, h1, h2, h3, trivial⟩ ⟨nofun, nofun, nofun, nofun⟩

/-- `x = y;` -/
theorem accept_assign_ident (fuel : Nat) (s : P) (hr : Ready s)
    (h0 : s.kindAt (s.pos + 0) = .IDENT) (h1 : s.kindAt (s.pos + 1) = .EQ) (h2 : s.kindAt (s.pos + 2) = .IDENT) (h3 : s.kindAt (s.pos + 3) = .SEMICOLON) (k : SyntaxKind) (hk : s.kindAt (s.pos + 4) = k) (hf : opFirst k = false) :
    Accepts (stmt (fuel + 40)) s 4
      [.start .TOMBSTONE (some 1), .start .IDENTIFIER (some 3), .token .IDENT 1, .finish,
       .start .ASSIGNMENT_STMT none, .token .EQ 1, .start .TOMBSTONE (some 1),
       .start .IDENTIFIER none, .token .IDENT 1, .finish, .token .SEMICOLON 1, .finish] :=
  accepts_of_ok (stmt_ok2 (.assign none (.prim .id)) (by wf_closed)) hr
    ⟨h0, h1, h2, h3, trivial⟩ ⟨fun _ => stopsAt_of_opFirst hk hf, nofun, nofun, nofun⟩

/-- `x = 3;` -/
theorem accept_assign_lit (fuel : Nat) (s : P) (hr : Ready s)
    (h0 : s.kindAt (s.pos + 0) = .IDENT) (h1 : s.kindAt (s.pos + 1) = .EQ) (h2 : s.kindAt (s.pos + 2) = .INT_NUMBER) (h3 : s.kindAt (s.pos + 3) = .SEMICOLON) (k : SyntaxKind) (hk : s.kindAt (s.pos + 4) = k) (hf : opFirst k = false) :
    Accepts (stmt (fuel + 40)) s 4
      [.start .TOMBSTONE (some 1), .start .IDENTIFIER (some 3), .token .IDENT 1, .finish,
       .start .ASSIGNMENT_STMT none, .token .EQ 1, .start .TOMBSTONE (some 1),
       .start .LITERAL none, .token .INT_NUMBER 1, .finish, .token .SEMICOLON 1, .finish] :=
  accepts_of_ok (stmt_ok2 (.assign none (.prim (.lit .int))) (by wf_closed)) hr
    ⟨h0, h1, h2, h3, trivial⟩ ⟨fun _ => stopsAt_of_opFirst hk hf, nofun, nofun, nofun⟩

/-- `x = (a + b);` -/
theorem accept_assign_paren_sum (fuel : Nat) (s : P) (hr : Ready s)
    (h0 : s.kindAt (s.pos + 0) = .IDENT) (h1 : s.kindAt (s.pos + 1) = .EQ) (h2 : s.kindAt (s.pos + 2) = .L_PAREN) (h3 : s.kindAt (s.pos + 3) = .IDENT) (h4 : s.kindAt (s.pos + 4) = .PLUS) (h5 : s.kindAt (s.pos + 5) = .IDENT) (h6 : s.kindAt (s.pos + 6) = .R_PAREN) (h7 : s.kindAt (s.pos + 7) = .SEMICOLON) (k : SyntaxKind) (hk : s.kindAt (s.pos + 8) = k) (hf : opFirst k = false) :
    Accepts (stmt (fuel + 40)) s 8
      [.start .TOMBSTONE (some 1), .start .IDENTIFIER (some 3), .token .IDENT 1, .finish,
       .start .ASSIGNMENT_STMT none, .token .EQ 1, .start .TOMBSTONE (some 1),
       .start .PAREN_EXPR none, .token .L_PAREN 1, .start .TOMBSTONE (some 1),
       .start .IDENTIFIER (some 3), .token .IDENT 1, .finish, .start .BIN_EXPR none,
       .token .PLUS 1, .start .TOMBSTONE (some 1), .start .IDENTIFIER none, .token .IDENT 1,
       .finish, .finish, .token .R_PAREN 1, .finish, .token .SEMICOLON 1, .finish] :=
  accepts_of_ok (stmtOK2_assign none (.prim (.paren (.bin .plus (.prim .id) (.prim .id)))) (by wf_closed) (by wf_closed)) hr
    ⟨h0, h1, h2, h3, h4, h5, h6, h7, trivial⟩ ⟨fun _ => stopsAt_of_opFirst hk hf, nofun, nofun, nofun⟩

/-- `x[0] = y;` -/
theorem accept_assign_indexed (fuel : Nat) (s : P) (hr : Ready s)
    (h0 : s.kindAt (s.pos + 0) = .IDENT) (h1 : s.kindAt (s.pos + 1) = .L_BRACK) (h2 : s.kindAt (s.pos + 2) = .INT_NUMBER) (h3 : s.kindAt (s.pos + 3) = .R_BRACK) (h4 : s.kindAt (s.pos + 4) = .EQ) (h5 : s.kindAt (s.pos + 5) = .IDENT) (h6 : s.kindAt (s.pos + 6) = .SEMICOLON) (k : SyntaxKind) (hk : s.kindAt (s.pos + 7) = k) (hf : opFirst k = false) :
    Accepts (stmt (fuel + 40)) s 7
      [.start .TOMBSTONE (some 4), .start .IDENTIFIER (some 3), .token .IDENT 1, .finish,
       .start .INDEXED_IDENTIFIER (some 13), .start .INDEX_OPERATOR none, .token .L_BRACK 1,
       .start .EXPRESSION_LIST none, .start .TOMBSTONE none, .start .TOMBSTONE (some 1),
       .start .LITERAL none, .token .INT_NUMBER 1, .finish, .finish, .token .R_BRACK 1, .finish,
       .finish, .start .ASSIGNMENT_STMT none, .token .EQ 1, .start .TOMBSTONE (some 1),
       .start .IDENTIFIER none, .token .IDENT 1, .finish, .token .SEMICOLON 1, .finish] :=
  accepts_of_ok (stmtOK2_assign (some (.one (.one (.ex (.prim (.lit .int)))))) (.prim .id) (by wf_closed) (by wf_closed)) hr
    ⟨h0, h1, h2, h3, h4, h5, h6, trivial⟩ ⟨fun _ => stopsAt_of_opFirst hk hf, nofun, nofun, nofun⟩

/-- `x = int(y);` -/
theorem accept_assign_cast (fuel : Nat) (s : P) (hr : Ready s)
    (h0 : s.kindAt (s.pos + 0) = .IDENT) (h1 : s.kindAt (s.pos + 1) = .EQ) (h2 : s.kindAt (s.pos + 2) = .INT_TY) (h3 : s.kindAt (s.pos + 3) = .L_PAREN) (h4 : s.kindAt (s.pos + 4) = .IDENT) (h5 : s.kindAt (s.pos + 5) = .R_PAREN) (h6 : s.kindAt (s.pos + 6) = .SEMICOLON) (k : SyntaxKind) (hk : s.kindAt (s.pos + 7) = k) (hf : opFirst k = false) :
    Accepts (stmt (fuel + 40)) s 7
      [.start .TOMBSTONE (some 1), .start .IDENTIFIER (some 3), .token .IDENT 1, .finish,
       .start .ASSIGNMENT_STMT none, .token .EQ 1, .start .TOMBSTONE (some 1),
       .start .CAST_EXPRESSION none, .start .SCALAR_TYPE none, .token .INT_TY 1, .finish,
       .token .L_PAREN 1, .start .TOMBSTONE (some 1), .start .IDENTIFIER none, .token .IDENT 1,
       .finish, .token .R_PAREN 1, .finish, .token .SEMICOLON 1, .finish] :=
  accepts_of_ok (stmt_ok2 (.assign none (.prim (.cast0 .int (.prim .id)))) (by wf_closed)) hr
    ⟨h0, h1, h2, h3, h4, h5, h6, trivial⟩ ⟨fun _ => stopsAt_of_opFirst hk hf, nofun, nofun, nofun⟩

/-- `x = f(y);` -/
theorem accept_assign_call (fuel : Nat) (s : P) (hr : Ready s)
    (h0 : s.kindAt (s.pos + 0) = .IDENT) (h1 : s.kindAt (s.pos + 1) = .EQ) (h2 : s.kindAt (s.pos + 2) = .IDENT) (h3 : s.kindAt (s.pos + 3) = .L_PAREN) (h4 : s.kindAt (s.pos + 4) = .IDENT) (h5 : s.kindAt (s.pos + 5) = .R_PAREN) (h6 : s.kindAt (s.pos + 6) = .SEMICOLON) (k : SyntaxKind) (hk : s.kindAt (s.pos + 7) = k) (hf : opFirst k = false) :
    Accepts (stmt (fuel + 40)) s 7
      [.start .TOMBSTONE (some 1), .start .IDENTIFIER (some 3), .token .IDENT 1, .finish,
       .start .ASSIGNMENT_STMT none, .token .EQ 1, .start .TOMBSTONE (some 4),
       .start .IDENTIFIER (some 3), .token .IDENT 1, .finish, .start .CALL_EXPR none,
       .start .ARG_LIST none, .start .EXPRESSION_LIST none, .token .L_PAREN 1,
       .start .TOMBSTONE (some 1), .start .IDENTIFIER none, .token .IDENT 1, .finish,
       .token .R_PAREN 1, .finish, .finish, .finish, .token .SEMICOLON 1, .finish] :=
  accepts_of_ok (stmtOK2_assign none (.prim (.call .id (.cons (.prim .id) .nil))) (by wf_closed) (by wf_closed)) hr
    ⟨h0, h1, h2, h3, h4, h5, h6, trivial⟩ ⟨fun _ => stopsAt_of_opFirst hk hf, nofun, nofun, nofun⟩

/-- `x = -y;` -/
theorem accept_assign_neg (fuel : Nat) (s : P) (hr : Ready s)
    (h0 : s.kindAt (s.pos + 0) = .IDENT) (h1 : s.kindAt (s.pos + 1) = .EQ) (h2 : s.kindAt (s.pos + 2) = .MINUS) (h3 : s.kindAt (s.pos + 3) = .IDENT) (h4 : s.kindAt (s.pos + 4) = .SEMICOLON) (k : SyntaxKind) (hk : s.kindAt (s.pos + 5) = k) (hf : opFirst k = false) :
    Accepts (stmt (fuel + 40)) s 5
      [.start .TOMBSTONE (some 1), .start .IDENTIFIER (some 3), .token .IDENT 1, .finish,
       .start .ASSIGNMENT_STMT none, .token .EQ 1, .start .TOMBSTONE (some 1),
       .start .PREFIX_EXPR none, .token .MINUS 1, .start .TOMBSTONE (some 1),
       .start .IDENTIFIER none, .token .IDENT 1, .finish, .finish, .token .SEMICOLON 1, .finish] :=
  accepts_of_ok (stmt_ok2 (.assign none (.pre .minus (.prim .id))) (by wf_closed)) hr
    ⟨h0, h1, h2, h3, h4, trivial⟩ ⟨fun _ => stopsAt_of_opFirst hk hf, nofun, nofun, nofun⟩

/-- `x = !y;` -/
theorem accept_assign_not (fuel : Nat) (s : P) (hr : Ready s)
    (h0 : s.kindAt (s.pos + 0) = .IDENT) (h1 : s.kindAt (s.pos + 1) = .EQ) (h2 : s.kindAt (s.pos + 2) = .BANG) (h3 : s.kindAt (s.pos + 3) = .IDENT) (h4 : s.kindAt (s.pos + 4) = .SEMICOLON) (k : SyntaxKind) (hk : s.kindAt (s.pos + 5) = k) (hf : opFirst k = false) :
    Accepts (stmt (fuel + 40)) s 5
      [.start .TOMBSTONE (some 1), .start .IDENTIFIER (some 3), .token .IDENT 1, .finish,
       .start .ASSIGNMENT_STMT none, .token .EQ 1, .start .TOMBSTONE (some 1),
       .start .PREFIX_EXPR none, .token .BANG 1, .start .TOMBSTONE (some 1),
       .start .IDENTIFIER none, .token .IDENT 1, .finish, .finish, .token .SEMICOLON 1, .finish] :=
  accepts_of_ok (stmt_ok2 (.assign none (.pre .bang (.prim .id))) (by wf_closed)) hr
    ⟨h0, h1, h2, h3, h4, trivial⟩ ⟨fun _ => stopsAt_of_opFirst hk hf, nofun, nofun, nofun⟩

/-- `x = ~y;` -/
theorem accept_assign_tilde (fuel : Nat) (s : P) (hr : Ready s)
    (h0 : s.kindAt (s.pos + 0) = .IDENT) (h1 : s.kindAt (s.pos + 1) = .EQ) (h2 : s.kindAt (s.pos + 2) = .TILDE) (h3 : s.kindAt (s.pos + 3) = .IDENT) (h4 : s.kindAt (s.pos + 4) = .SEMICOLON) (k : SyntaxKind) (hk : s.kindAt (s.pos + 5) = k) (hf : opFirst k = false) :
    Accepts (stmt (fuel + 40)) s 5
      [.start .TOMBSTONE (some 1), .start .IDENTIFIER (some 3), .token .IDENT 1, .finish,
       .start .ASSIGNMENT_STMT none, .token .EQ 1, .start .TOMBSTONE (some 1),
       .start .PREFIX_EXPR none, .token .TILDE 1, .start .TOMBSTONE (some 1),
       .start .IDENTIFIER none, .token .IDENT 1, .finish, .finish, .token .SEMICOLON 1, .finish] :=
  accepts_of_ok (stmt_ok2 (.assign none (.pre .tilde (.prim .id))) (by wf_closed)) hr
    ⟨h0, h1, h2, h3, h4, trivial⟩ ⟨fun _ => stopsAt_of_opFirst hk hf, nofun, nofun, nofun⟩

/-- `x = a[0];` -/
theorem accept_assign_index_rhs (fuel : Nat) (s : P) (hr : Ready s)
    (h0 : s.kindAt (s.pos + 0) = .IDENT) (h1 : s.kindAt (s.pos + 1) = .EQ) (h2 : s.kindAt (s.pos + 2) = .IDENT) (h3 : s.kindAt (s.pos + 3) = .L_BRACK) (h4 : s.kindAt (s.pos + 4) = .INT_NUMBER) (h5 : s.kindAt (s.pos + 5) = .R_BRACK) (h6 : s.kindAt (s.pos + 6) = .SEMICOLON) (k : SyntaxKind) (hk : s.kindAt (s.pos + 7) = k) (hf : opFirst k = false) :
    Accepts (stmt (fuel + 40)) s 7
      [.start .TOMBSTONE (some 1), .start .IDENTIFIER (some 3), .token .IDENT 1, .finish,
       .start .ASSIGNMENT_STMT none, .token .EQ 1, .start .TOMBSTONE (some 4),
       .start .IDENTIFIER (some 3), .token .IDENT 1, .finish, .start .INDEXED_IDENTIFIER none,
       .start .INDEX_OPERATOR none, .token .L_BRACK 1, .start .EXPRESSION_LIST none,
       .start .TOMBSTONE none, .start .TOMBSTONE (some 1), .start .LITERAL none,
       .token .INT_NUMBER 1, .finish, .finish, .token .R_BRACK 1, .finish, .finish,
       .token .SEMICOLON 1, .finish] :=
  accepts_of_ok (stmtOK2_assign none (.prim (.idIdx (.one (.one (.ex (.prim (.lit .int))))))) (by wf_closed) (by wf_closed)) hr
    ⟨h0, h1, h2, h3, h4, h5, h6, trivial⟩ ⟨fun _ => stopsAt_of_opFirst hk hf, nofun, nofun, nofun⟩

/-- `x = a[0:1];` -/
theorem accept_assign_range_rhs (fuel : Nat) (s : P) (hr : Ready s)
    (h0 : s.kindAt (s.pos + 0) = .IDENT) (h1 : s.kindAt (s.pos + 1) = .EQ) (h2 : s.kindAt (s.pos + 2) = .IDENT) (h3 : s.kindAt (s.pos + 3) = .L_BRACK) (h4 : s.kindAt (s.pos + 4) = .INT_NUMBER) (h5 : s.kindAt (s.pos + 5) = .COLON) (h6 : s.kindAt (s.pos + 6) = .INT_NUMBER) (h7 : s.kindAt (s.pos + 7) = .R_BRACK) (h8 : s.kindAt (s.pos + 8) = .SEMICOLON) (k : SyntaxKind) (hk : s.kindAt (s.pos + 9) = k) (hf : opFirst k = false) :
    Accepts (stmt (fuel + 40)) s 9
      [.start .TOMBSTONE (some 1), .start .IDENTIFIER (some 3), .token .IDENT 1, .finish,
       .start .ASSIGNMENT_STMT none, .token .EQ 1, .start .TOMBSTONE (some 4),
       .start .IDENTIFIER (some 3), .token .IDENT 1, .finish, .start .INDEXED_IDENTIFIER none,
       .start .INDEX_OPERATOR none, .token .L_BRACK 1, .start .EXPRESSION_LIST none,
       .start .RANGE_EXPR none, .start .TOMBSTONE (some 1), .start .LITERAL none,
       .token .INT_NUMBER 1, .finish, .token .COLON 1, .start .TOMBSTONE (some 1),
       .start .LITERAL none, .token .INT_NUMBER 1, .finish, .finish, .finish, .token .R_BRACK 1,
       .finish, .finish, .token .SEMICOLON 1, .finish] := by
  accept [h0, h1, h2, h3, h4, h5, h6, h7, h8, currentOp_follow s k 9 hk hf]

/-- `a + b;` -/
theorem accept_expr_stmt_sum (fuel : Nat) (s : P) (hr : Ready s)
    (h0 : s.kindAt (s.pos + 0) = .IDENT) (h1 : s.kindAt (s.pos + 1) = .PLUS) (h2 : s.kindAt (s.pos + 2) = .IDENT) (h3 : s.kindAt (s.pos + 3) = .SEMICOLON) :
    Accepts (stmt (fuel + 40)) s 4
      [.start .TOMBSTONE (some 1), .start .IDENTIFIER (some 3), .token .IDENT 1, .finish,
       .start .BIN_EXPR (some 7), .token .PLUS 1, .start .TOMBSTONE (some 1),
       .start .IDENTIFIER none, .token .IDENT 1, .finish, .finish, .start .EXPR_STMT none,
       .token .SEMICOLON 1, .finish] :=
  accepts_of_ok (stmt_ok2 (.exprS (.bin .plus (.prim .id) (.prim .id))) (by wf_closed)) hr
    ⟨h0, h1, h2, h3, trivial⟩ ⟨nofun, nofun, nofun, nofun⟩

/-- `a * b + c;` -/
theorem accept_expr_stmt_prod_sum (fuel : Nat) (s : P) (hr : Ready s)
    (h0 : s.kindAt (s.pos + 0) = .IDENT) (h1 : s.kindAt (s.pos + 1) = .STAR) (h2 : s.kindAt (s.pos + 2) = .IDENT) (h3 : s.kindAt (s.pos + 3) = .PLUS) (h4 : s.kindAt (s.pos + 4) = .IDENT) (h5 : s.kindAt (s.pos + 5) = .SEMICOLON) :
    Accepts (stmt (fuel + 40)) s 6
      [.start .TOMBSTONE (some 1), .start .IDENTIFIER (some 3), .token .IDENT 1, .finish,
       .start .BIN_EXPR (some 7), .token .STAR 1, .start .TOMBSTONE (some 1),
       .start .IDENTIFIER none, .token .IDENT 1, .finish, .finish, .start .BIN_EXPR (some 7),
       .token .PLUS 1, .start .TOMBSTONE (some 1), .start .IDENTIFIER none, .token .IDENT 1,
       .finish, .finish, .start .EXPR_STMT none, .token .SEMICOLON 1, .finish] :=
  accepts_of_ok (stmt_ok2 (.exprS (.bin .plus (.bin .star (.prim .id) (.prim .id)) (.prim .id))) (by wf_closed)) hr
    ⟨h0, h1, h2, h3, h4, h5, trivial⟩ ⟨nofun, nofun, nofun, nofun⟩

/-- `let a = q;` (as parsed by `stmt`: LET_STMT) -/
theorem accept_let (fuel : Nat) (s : P) (hr : Ready s)
    (h0 : s.kindAt (s.pos + 0) = .LET_KW) (h1 : s.kindAt (s.pos + 1) = .IDENT) (h2 : s.kindAt (s.pos + 2) = .EQ) (h3 : s.kindAt (s.pos + 3) = .IDENT) (h4 : s.kindAt (s.pos + 4) = .SEMICOLON) :
    Accepts (stmt (fuel + 40)) s 5
      [.start .LET_STMT none, .token .LET_KW 1, .token .IDENT 1, .token .EQ 1,
       .start .TOMBSTONE (some 1), .start .IDENTIFIER none, .token .IDENT 1, .finish,
       .token .SEMICOLON 1, .finish] :=
  accepts_of_ok (stmt_ok2 (.letS (.prim .id)) (by wf_closed)) hr
    ⟨h0, h1, h2, h3, h4, trivial⟩ ⟨nofun, nofun, nofun, nofun⟩

/-- `return x;` -/
theorem accept_return (fuel : Nat) (s : P) (hr : Ready s)
    (h0 : s.kindAt (s.pos + 0) = .RETURN_KW) (h1 : s.kindAt (s.pos + 1) = .IDENT) (h2 : s.kindAt (s.pos + 2) = .SEMICOLON) :
    Accepts (stmt (fuel + 40)) s 3
      [.start .TOMBSTONE (some 1), .start .RETURN_EXPR (some 7), .token .RETURN_KW 1,
       .start .TOMBSTONE (some 1), .start .IDENTIFIER none, .token .IDENT 1, .finish, .finish,
       .start .EXPR_STMT none, .token .SEMICOLON 1, .finish] :=
  accepts_of_ok (stmt_ok2 (.ret (some (.prim .id))) (by wf_closed)) hr
    ⟨h0, h1, h2, trivial⟩ ⟨nofun, nofun, nofun, nofun⟩

/-- `return;` -/
theorem accept_return_none (fuel : Nat) (s : P) (hr : Ready s)
    (h0 : s.kindAt (s.pos + 0) = .RETURN_KW) (h1 : s.kindAt (s.pos + 1) = .SEMICOLON) :
    Accepts (stmt (fuel + 40)) s 2
      [.start .TOMBSTONE (some 1), .start .RETURN_EXPR (some 3), .token .RETURN_KW 1, .finish,
       .start .EXPR_STMT none, .token .SEMICOLON 1, .finish] :=
  accepts_of_ok (stmt_ok2 (.ret none) (by wf_closed)) hr
    ⟨h0, h1, trivial⟩ ⟨nofun, nofun, nofun, nofun⟩

/-- `if (c) { }` -/
theorem accept_if_block (fuel : Nat) (s : P) (hr : Ready s)
    (h0 : s.kindAt (s.pos + 0) = .IF_KW) (h1 : s.kindAt (s.pos + 1) = .L_PAREN) (h2 : s.kindAt (s.pos + 2) = .IDENT) (h3 : s.kindAt (s.pos + 3) = .R_PAREN) (h4 : s.kindAt (s.pos + 4) = .L_CURLY) (h5 : s.kindAt (s.pos + 5) = .R_CURLY) (k : SyntaxKind) (hk : s.kindAt (s.pos + 6) = k) (hf : (k == .ELSE_KW) = false) :
    Accepts (stmt (fuel + 40)) s 6
      [.start .IF_STMT none, .token .IF_KW 1, .token .L_PAREN 1, .start .TOMBSTONE (some 1),
       .start .IDENTIFIER none, .token .IDENT 1, .finish, .token .R_PAREN 1,
       .start .BLOCK_EXPR none, .token .L_CURLY 1, .token .R_CURLY 1, .finish, .finish] :=
  accepts_of_ok (stmt_ok2 (.ifS (.prim .id) (.blk .nil)) (by wf_closed)) hr
    ⟨h0, h1, h2, h3, h4, h5, trivial⟩ ⟨nofun, fun _ => hk ▸ ne_of_beq_false hf, nofun, nofun⟩

/-- `if (c) x = y;` -/
theorem accept_if_stmt (fuel : Nat) (s : P) (hr : Ready s)
    (h0 : s.kindAt (s.pos + 0) = .IF_KW) (h1 : s.kindAt (s.pos + 1) = .L_PAREN) (h2 : s.kindAt (s.pos + 2) = .IDENT) (h3 : s.kindAt (s.pos + 3) = .R_PAREN) (h4 : s.kindAt (s.pos + 4) = .IDENT) (h5 : s.kindAt (s.pos + 5) = .EQ) (h6 : s.kindAt (s.pos + 6) = .IDENT) (h7 : s.kindAt (s.pos + 7) = .SEMICOLON) (k : SyntaxKind) (hk : s.kindAt (s.pos + 8) = k) (hf : (k == .ELSE_KW) = false) (hf2 : opFirst k = false) :
    Accepts (stmt (fuel + 40)) s 8
      [.start .IF_STMT none, .token .IF_KW 1, .token .L_PAREN 1, .start .TOMBSTONE (some 1),
       .start .IDENTIFIER none, .token .IDENT 1, .finish, .token .R_PAREN 1,
       .start .TOMBSTONE (some 1), .start .IDENTIFIER (some 3), .token .IDENT 1, .finish,
       .start .ASSIGNMENT_STMT none, .token .EQ 1, .start .TOMBSTONE (some 1),
       .start .IDENTIFIER none, .token .IDENT 1, .finish, .token .SEMICOLON 1, .finish, .finish] :=
  accepts_of_ok (stmt_ok2 (.ifS (.prim .id) (.one (.assign none (.prim .id)))) (by wf_closed)) hr
    ⟨h0, h1, h2, h3, h4, h5, h6, h7, trivial⟩ ⟨fun _ => stopsAt_of_opFirst hk hf2, fun _ => hk ▸ ne_of_beq_false hf, nofun, nofun⟩

/-- `if (c) { } else { }` -/
theorem accept_if_else_block (fuel : Nat) (s : P) (hr : Ready s)
    (h0 : s.kindAt (s.pos + 0) = .IF_KW) (h1 : s.kindAt (s.pos + 1) = .L_PAREN) (h2 : s.kindAt (s.pos + 2) = .IDENT) (h3 : s.kindAt (s.pos + 3) = .R_PAREN) (h4 : s.kindAt (s.pos + 4) = .L_CURLY) (h5 : s.kindAt (s.pos + 5) = .R_CURLY) (h6 : s.kindAt (s.pos + 6) = .ELSE_KW) (h7 : s.kindAt (s.pos + 7) = .L_CURLY) (h8 : s.kindAt (s.pos + 8) = .R_CURLY) :
    Accepts (stmt (fuel + 40)) s 9
      [.start .IF_STMT none, .token .IF_KW 1, .token .L_PAREN 1, .start .TOMBSTONE (some 1),
       .start .IDENTIFIER none, .token .IDENT 1, .finish, .token .R_PAREN 1,
       .start .BLOCK_EXPR none, .token .L_CURLY 1, .token .R_CURLY 1, .finish, .token .ELSE_KW 1,
       .start .BLOCK_EXPR none, .token .L_CURLY 1, .token .R_CURLY 1, .finish, .finish] :=
  accepts_of_ok (stmt_ok2 (.ifElse (.prim .id) (.blk .nil) (.blk .nil)) (by wf_closed)) hr
    ⟨h0, h1, h2, h3, h4, h5, h6, h7, h8, trivial⟩ ⟨nofun, nofun, nofun, nofun⟩

/-- `if (c) h q;` -/
theorem accept_if_gate (fuel : Nat) (s : P) (hr : Ready s)
    (h0 : s.kindAt (s.pos + 0) = .IF_KW) (h1 : s.kindAt (s.pos + 1) = .L_PAREN) (h2 : s.kindAt (s.pos + 2) = .IDENT) (h3 : s.kindAt (s.pos + 3) = .R_PAREN) (h4 : s.kindAt (s.pos + 4) = .IDENT) (h5 : s.kindAt (s.pos + 5) = .IDENT) (h6 : s.kindAt (s.pos + 6) = .SEMICOLON) (k : SyntaxKind) (hk : s.kindAt (s.pos + 7) = k) (hf : (k == .ELSE_KW) = false) :
    Accepts (stmt (fuel + 40)) s 7
      [.start .IF_STMT none, .token .IF_KW 1, .token .L_PAREN 1, .start .TOMBSTONE (some 1),
       .start .IDENTIFIER none, .token .IDENT 1, .finish, .token .R_PAREN 1,
       .start .TOMBSTONE (some 1), .start .GATE_CALL_EXPR (some 10), .start .IDENTIFIER none,
       .token .IDENT 1, .finish, .start .QUBIT_LIST none, .start .IDENTIFIER none, .token .IDENT 1,
       .finish, .finish, .finish, .start .EXPR_STMT none, .token .SEMICOLON 1, .finish, .finish] :=
  accepts_of_ok (stmt_ok2 (.ifS (.prim .id) (.one (.gate .nil (.one .id)))) (by wf_closed)) hr
    ⟨h0, h1, h2, h3, h4, h5, h6, trivial⟩ ⟨nofun, fun _ => hk ▸ ne_of_beq_false hf, nofun, nofun⟩

/-- `if (c) h q; else x q;` -/
theorem accept_if_else_gate (fuel : Nat) (s : P) (hr : Ready s)
    (h0 : s.kindAt (s.pos + 0) = .IF_KW) (h1 : s.kindAt (s.pos + 1) = .L_PAREN) (h2 : s.kindAt (s.pos + 2) = .IDENT) (h3 : s.kindAt (s.pos + 3) = .R_PAREN) (h4 : s.kindAt (s.pos + 4) = .IDENT) (h5 : s.kindAt (s.pos + 5) = .IDENT) (h6 : s.kindAt (s.pos + 6) = .SEMICOLON) (h7 : s.kindAt (s.pos + 7) = .ELSE_KW) (h8 : s.kindAt (s.pos + 8) = .IDENT) (h9 : s.kindAt (s.pos + 9) = .IDENT) (h10 : s.kindAt (s.pos + 10) = .SEMICOLON) :
    Accepts (stmt (fuel + 40)) s 11
      [.start .IF_STMT none, .token .IF_KW 1, .token .L_PAREN 1, .start .TOMBSTONE (some 1),
       .start .IDENTIFIER none, .token .IDENT 1, .finish, .token .R_PAREN 1,
       .start .TOMBSTONE (some 1), .start .GATE_CALL_EXPR (some 10), .start .IDENTIFIER none,
       .token .IDENT 1, .finish, .start .QUBIT_LIST none, .start .IDENTIFIER none, .token .IDENT 1,
       .finish, .finish, .finish, .start .EXPR_STMT none, .token .SEMICOLON 1, .finish,
       .token .ELSE_KW 1, .start .TOMBSTONE (some 1), .start .GATE_CALL_EXPR (some 10),
       .start .IDENTIFIER none, .token .IDENT 1, .finish, .start .QUBIT_LIST none,
       .start .IDENTIFIER none, .token .IDENT 1, .finish, .finish, .finish, .start .EXPR_STMT none,
       .token .SEMICOLON 1, .finish, .finish] :=
  accepts_of_ok (stmt_ok2 (.ifElse (.prim .id) (.one (.gate .nil (.one .id))) (.one (.gate .nil (.one .id)))) (by wf_closed)) hr
    ⟨h0, h1, h2, h3, h4, h5, h6, h7, h8, h9, h10, trivial⟩ ⟨nofun, nofun, nofun, nofun⟩

/-- `while (c) { }` -/
theorem accept_while_block (fuel : Nat) (s : P) (hr : Ready s)
    (h0 : s.kindAt (s.pos + 0) = .WHILE_KW) (h1 : s.kindAt (s.pos + 1) = .L_PAREN) (h2 : s.kindAt (s.pos + 2) = .IDENT) (h3 : s.kindAt (s.pos + 3) = .R_PAREN) (h4 : s.kindAt (s.pos + 4) = .L_CURLY) (h5 : s.kindAt (s.pos + 5) = .R_CURLY) :
    Accepts (stmt (fuel + 40)) s 6
      [.start .WHILE_STMT none, .token .WHILE_KW 1, .token .L_PAREN 1, .start .TOMBSTONE (some 1),
       .start .IDENTIFIER none, .token .IDENT 1, .finish, .token .R_PAREN 1,
       .start .BLOCK_EXPR none, .token .L_CURLY 1, .token .R_CURLY 1, .finish, .finish] :=
  accepts_of_ok (stmt_ok2 (.whileS (.prim .id) (.blk .nil)) (by wf_closed)) hr
    ⟨h0, h1, h2, h3, h4, h5, trivial⟩ ⟨nofun, nofun, nofun, nofun⟩

/-- `while (c) break;` -/
theorem accept_while_break (fuel : Nat) (s : P) (hr : Ready s)
    (h0 : s.kindAt (s.pos + 0) = .WHILE_KW) (h1 : s.kindAt (s.pos + 1) = .L_PAREN) (h2 : s.kindAt (s.pos + 2) = .IDENT) (h3 : s.kindAt (s.pos + 3) = .R_PAREN) (h4 : s.kindAt (s.pos + 4) = .BREAK_KW) (h5 : s.kindAt (s.pos + 5) = .SEMICOLON) :
    Accepts (stmt (fuel + 40)) s 6
      [.start .WHILE_STMT none, .token .WHILE_KW 1, .token .L_PAREN 1, .start .TOMBSTONE (some 1),
       .start .IDENTIFIER none, .token .IDENT 1, .finish, .token .R_PAREN 1,
       .start .BREAK_STMT none, .token .BREAK_KW 1, .token .SEMICOLON 1, .finish, .finish] :=
  accepts_of_ok (stmt_ok2 (.whileS (.prim .id) (.one .brk)) (by wf_closed)) hr
    ⟨h0, h1, h2, h3, h4, h5, trivial⟩ ⟨nofun, nofun, nofun, nofun⟩

/-- `while (c) { x = y; }` -/
theorem accept_while_body (fuel : Nat) (s : P) (hr : Ready s)
    (h0 : s.kindAt (s.pos + 0) = .WHILE_KW) (h1 : s.kindAt (s.pos + 1) = .L_PAREN) (h2 : s.kindAt (s.pos + 2) = .IDENT) (h3 : s.kindAt (s.pos + 3) = .R_PAREN) (h4 : s.kindAt (s.pos + 4) = .L_CURLY) (h5 : s.kindAt (s.pos + 5) = .IDENT) (h6 : s.kindAt (s.pos + 6) = .EQ) (h7 : s.kindAt (s.pos + 7) = .IDENT) (h8 : s.kindAt (s.pos + 8) = .SEMICOLON) (h9 : s.kindAt (s.pos + 9) = .R_CURLY) :
    Accepts (stmt (fuel + 40)) s 10
      [.start .WHILE_STMT none, .token .WHILE_KW 1, .token .L_PAREN 1, .start .TOMBSTONE (some 1),
       .start .IDENTIFIER none, .token .IDENT 1, .finish, .token .R_PAREN 1,
       .start .BLOCK_EXPR none, .token .L_CURLY 1, .start .TOMBSTONE (some 1),
       .start .IDENTIFIER (some 3), .token .IDENT 1, .finish, .start .ASSIGNMENT_STMT none,
       .token .EQ 1, .start .TOMBSTONE (some 1), .start .IDENTIFIER none, .token .IDENT 1, .finish,
       .token .SEMICOLON 1, .finish, .token .R_CURLY 1, .finish, .finish] :=
  accepts_of_ok (stmt_ok2 (.whileS (.prim .id) (.blk (.cons (.assign none (.prim .id)) .nil))) (by wf_closed)) hr
    ⟨h0, h1, h2, h3, h4, h5, h6, h7, h8, h9, trivial⟩ ⟨nofun, nofun, nofun, nofun⟩

/-- `for int i in [0:3] { }` -/
theorem accept_for_range (fuel : Nat) (s : P) (hr : Ready s)
    (h0 : s.kindAt (s.pos + 0) = .FOR_KW) (h1 : s.kindAt (s.pos + 1) = .INT_TY) (h2 : s.kindAt (s.pos + 2) = .IDENT) (h3 : s.kindAt (s.pos + 3) = .IN_KW) (h4 : s.kindAt (s.pos + 4) = .L_BRACK) (h5 : s.kindAt (s.pos + 5) = .INT_NUMBER) (h6 : s.kindAt (s.pos + 6) = .COLON) (h7 : s.kindAt (s.pos + 7) = .INT_NUMBER) (h8 : s.kindAt (s.pos + 8) = .R_BRACK) (h9 : s.kindAt (s.pos + 9) = .L_CURLY) (h10 : s.kindAt (s.pos + 10) = .R_CURLY) :
    Accepts (stmt (fuel + 40)) s 11
      [.start .FOR_STMT none, .token .FOR_KW 1, .start .SCALAR_TYPE none, .token .INT_TY 1, .finish,
       .start .NAME none, .token .IDENT 1, .finish, .token .IN_KW 1, .start .FOR_ITERABLE none,
       .start .RANGE_EXPR none, .token .L_BRACK 1, .start .TOMBSTONE (some 1),
       .start .LITERAL none, .token .INT_NUMBER 1, .finish, .token .COLON 1,
       .start .TOMBSTONE (some 1), .start .LITERAL none, .token .INT_NUMBER 1, .finish,
       .token .R_BRACK 1, .finish, .finish, .start .BLOCK_EXPR none, .token .L_CURLY 1,
       .token .R_CURLY 1, .finish, .finish] :=
  accepts_of_ok (stmt_ok2 (.forS .int none (.range2 (.prim (.lit .int)) (.prim (.lit .int))) (.blk .nil)) (by wf_closed)) hr
    ⟨h0, h1, h2, h3, h4, h5, h6, h7, h8, h9, h10, trivial⟩ ⟨nofun, nofun, nofun, nofun⟩

/-- `for int i in {1, 2} { }` -/
theorem accept_for_set (fuel : Nat) (s : P) (hr : Ready s)
    (h0 : s.kindAt (s.pos + 0) = .FOR_KW) (h1 : s.kindAt (s.pos + 1) = .INT_TY) (h2 : s.kindAt (s.pos + 2) = .IDENT) (h3 : s.kindAt (s.pos + 3) = .IN_KW) (h4 : s.kindAt (s.pos + 4) = .L_CURLY) (h5 : s.kindAt (s.pos + 5) = .INT_NUMBER) (h6 : s.kindAt (s.pos + 6) = .COMMA) (h7 : s.kindAt (s.pos + 7) = .INT_NUMBER) (h8 : s.kindAt (s.pos + 8) = .R_CURLY) (h9 : s.kindAt (s.pos + 9) = .L_CURLY) (h10 : s.kindAt (s.pos + 10) = .R_CURLY) :
    Accepts (stmt (fuel + 40)) s 11
      [.start .FOR_STMT none, .token .FOR_KW 1, .start .SCALAR_TYPE none, .token .INT_TY 1, .finish,
       .start .NAME none, .token .IDENT 1, .finish, .token .IN_KW 1, .start .FOR_ITERABLE none,
       .start .SET_EXPRESSION none, .token .L_CURLY 1, .start .EXPRESSION_LIST none,
       .start .TOMBSTONE none, .start .TOMBSTONE (some 1), .start .LITERAL none,
       .token .INT_NUMBER 1, .finish, .token .COMMA 1, .start .TOMBSTONE none,
       .start .TOMBSTONE (some 1), .start .LITERAL none, .token .INT_NUMBER 1, .finish, .finish,
       .token .R_CURLY 1, .finish, .finish, .start .BLOCK_EXPR none, .token .L_CURLY 1,
       .token .R_CURLY 1, .finish, .finish] :=
  accepts_of_ok (stmt_ok2 (.forS .int none (.set (.cons (.ex (.prim (.lit .int))) (.one (.ex (.prim (.lit .int)))))) (.blk .nil)) (by wf_closed)) hr
    ⟨h0, h1, h2, h3, h4, h5, h6, h7, h8, h9, h10, trivial⟩ ⟨nofun, nofun, nofun, nofun⟩

/-- `for int i in a { }` -/
theorem accept_for_ident (fuel : Nat) (s : P) (hr : Ready s)
    (h0 : s.kindAt (s.pos + 0) = .FOR_KW) (h1 : s.kindAt (s.pos + 1) = .INT_TY) (h2 : s.kindAt (s.pos + 2) = .IDENT) (h3 : s.kindAt (s.pos + 3) = .IN_KW) (h4 : s.kindAt (s.pos + 4) = .IDENT) (h5 : s.kindAt (s.pos + 5) = .L_CURLY) (h6 : s.kindAt (s.pos + 6) = .R_CURLY) :
    Accepts (stmt (fuel + 40)) s 7
      [.start .FOR_STMT none, .token .FOR_KW 1, .start .SCALAR_TYPE none, .token .INT_TY 1, .finish,
       .start .NAME none, .token .IDENT 1, .finish, .token .IN_KW 1, .start .FOR_ITERABLE none,
       .start .TOMBSTONE (some 1), .start .IDENTIFIER none, .token .IDENT 1, .finish, .finish,
       .start .BLOCK_EXPR none, .token .L_CURLY 1, .token .R_CURLY 1, .finish, .finish] :=
  accepts_of_ok (stmt_ok2 (.forS .int none (.ex (.prim .id)) (.blk .nil)) (by wf_closed)) hr
    ⟨h0, h1, h2, h3, h4, h5, h6, trivial⟩ ⟨nofun, nofun, nofun, nofun⟩

/-- `switch (x) { case 1 { } default { } }` -/
theorem accept_switch (fuel : Nat) (s : P) (hr : Ready s)
    (h0 : s.kindAt (s.pos + 0) = .SWITCH_KW) (h1 : s.kindAt (s.pos + 1) = .L_PAREN) (h2 : s.kindAt (s.pos + 2) = .IDENT) (h3 : s.kindAt (s.pos + 3) = .R_PAREN) (h4 : s.kindAt (s.pos + 4) = .L_CURLY) (h5 : s.kindAt (s.pos + 5) = .CASE_KW) (h6 : s.kindAt (s.pos + 6) = .INT_NUMBER) (h7 : s.kindAt (s.pos + 7) = .L_CURLY) (h8 : s.kindAt (s.pos + 8) = .R_CURLY) (h9 : s.kindAt (s.pos + 9) = .DEFAULT_KW) (h10 : s.kindAt (s.pos + 10) = .L_CURLY) (h11 : s.kindAt (s.pos + 11) = .R_CURLY) (h12 : s.kindAt (s.pos + 12) = .R_CURLY) :
    Accepts (stmt (fuel + 40)) s 13
      [.start .SWITCH_CASE_STMT none, .token .SWITCH_KW 1, .token .L_PAREN 1,
       .start .TOMBSTONE (some 1), .start .IDENTIFIER none, .token .IDENT 1, .finish,
       .token .R_PAREN 1, .token .L_CURLY 1, .start .CASE_EXPR none, .token .CASE_KW 1,
       .start .EXPRESSION_LIST none, .start .TOMBSTONE none, .start .TOMBSTONE (some 1),
       .start .LITERAL none, .token .INT_NUMBER 1, .finish, .finish, .start .BLOCK_EXPR none,
       .token .L_CURLY 1, .token .R_CURLY 1, .finish, .finish, .token .DEFAULT_KW 1,
       .start .BLOCK_EXPR none, .token .L_CURLY 1, .token .R_CURLY 1, .finish, .token .R_CURLY 1,
       .finish] :=
  accepts_of_ok (stmt_ok2 (.switchS (.prim .id) (.cons (.one (.ex (.prim (.lit .int)))) .nil (.dflt .nil))) (by wf_closed)) hr
    ⟨h0, h1, h2, h3, h4, h5, h6, h7, h8, h9, h10, h11, h12, trivial⟩ ⟨nofun, nofun, nofun, nofun⟩

/-- `gate g q { }` -/
theorem accept_gate_def (fuel : Nat) (s : P) (hr : Ready s)
    (h0 : s.kindAt (s.pos + 0) = .GATE_KW) (h1 : s.kindAt (s.pos + 1) = .IDENT) (h2 : s.kindAt (s.pos + 2) = .IDENT) (h3 : s.kindAt (s.pos + 3) = .L_CURLY) (h4 : s.kindAt (s.pos + 4) = .R_CURLY) :
    Accepts (stmt (fuel + 40)) s 5
      [.start .GATE none, .token .GATE_KW 1, .start .NAME none, .token .IDENT 1, .finish,
       .start .PARAM_LIST none, .start .PARAM none, .token .IDENT 1, .finish, .finish,
       .start .BLOCK_EXPR none, .token .L_CURLY 1, .token .R_CURLY 1, .finish, .finish] :=
  accepts_of_ok (stmt_ok2 (.gateDef none 0 .nil) (by wf_closed)) hr
    ⟨h0, h1, h2, h3, h4, trivial⟩ ⟨nofun, nofun, nofun, nofun⟩

/-- `gate g(a) q, r { }` -/
theorem accept_gate_def_params (fuel : Nat) (s : P) (hr : Ready s)
    (h0 : s.kindAt (s.pos + 0) = .GATE_KW) (h1 : s.kindAt (s.pos + 1) = .IDENT) (h2 : s.kindAt (s.pos + 2) = .L_PAREN) (h3 : s.kindAt (s.pos + 3) = .IDENT) (h4 : s.kindAt (s.pos + 4) = .R_PAREN) (h5 : s.kindAt (s.pos + 5) = .IDENT) (h6 : s.kindAt (s.pos + 6) = .COMMA) (h7 : s.kindAt (s.pos + 7) = .IDENT) (h8 : s.kindAt (s.pos + 8) = .L_CURLY) (h9 : s.kindAt (s.pos + 9) = .R_CURLY) :
    Accepts (stmt (fuel + 40)) s 10
      [.start .GATE none, .token .GATE_KW 1, .start .NAME none, .token .IDENT 1, .finish,
       .start .PARAM_LIST none, .token .L_PAREN 1, .start .PARAM none, .token .IDENT 1, .finish,
       .token .R_PAREN 1, .finish, .start .PARAM_LIST none, .start .PARAM none, .token .IDENT 1,
       .finish, .token .COMMA 1, .start .PARAM none, .token .IDENT 1, .finish, .finish,
       .start .BLOCK_EXPR none, .token .L_CURLY 1, .token .R_CURLY 1, .finish, .finish] :=
  accepts_of_ok (stmt_ok2 (.gateDef (some 0) 1 .nil) (by wf_closed)) hr
    ⟨h0, h1, h2, h3, h4, h5, h6, h7, h8, h9, trivial⟩ ⟨nofun, nofun, nofun, nofun⟩

/-- `gate g q { h q; }` -/
theorem accept_gate_def_body (fuel : Nat) (s : P) (hr : Ready s)
    (h0 : s.kindAt (s.pos + 0) = .GATE_KW) (h1 : s.kindAt (s.pos + 1) = .IDENT) (h2 : s.kindAt (s.pos + 2) = .IDENT) (h3 : s.kindAt (s.pos + 3) = .L_CURLY) (h4 : s.kindAt (s.pos + 4) = .IDENT) (h5 : s.kindAt (s.pos + 5) = .IDENT) (h6 : s.kindAt (s.pos + 6) = .SEMICOLON) (h7 : s.kindAt (s.pos + 7) = .R_CURLY) :
    Accepts (stmt (fuel + 40)) s 8
      [.start .GATE none, .token .GATE_KW 1, .start .NAME none, .token .IDENT 1, .finish,
       .start .PARAM_LIST none, .start .PARAM none, .token .IDENT 1, .finish, .finish,
       .start .BLOCK_EXPR none, .token .L_CURLY 1, .start .TOMBSTONE (some 1),
       .start .GATE_CALL_EXPR (some 10), .start .IDENTIFIER none, .token .IDENT 1, .finish,
       .start .QUBIT_LIST none, .start .IDENTIFIER none, .token .IDENT 1, .finish, .finish,
       .finish, .start .EXPR_STMT none, .token .SEMICOLON 1, .finish, .token .R_CURLY 1, .finish,
       .finish] :=
  accepts_of_ok (stmt_ok2 (.gateDef none 0 (.cons (.gate .nil (.one .id)) .nil)) (by wf_closed)) hr
    ⟨h0, h1, h2, h3, h4, h5, h6, h7, trivial⟩ ⟨nofun, nofun, nofun, nofun⟩

/-- `def f() { }` -/
theorem accept_def_empty (fuel : Nat) (s : P) (hr : Ready s)
    (h0 : s.kindAt (s.pos + 0) = .DEF_KW) (h1 : s.kindAt (s.pos + 1) = .IDENT) (h2 : s.kindAt (s.pos + 2) = .L_PAREN) (h3 : s.kindAt (s.pos + 3) = .R_PAREN) (h4 : s.kindAt (s.pos + 4) = .L_CURLY) (h5 : s.kindAt (s.pos + 5) = .R_CURLY) :
    Accepts (stmt (fuel + 40)) s 6
      [.start .DEF none, .token .DEF_KW 1, .start .NAME none, .token .IDENT 1, .finish,
       .start .TYPED_PARAM_LIST none, .token .L_PAREN 1, .token .R_PAREN 1, .finish,
       .start .BLOCK_EXPR none, .token .L_CURLY 1, .token .R_CURLY 1, .finish, .finish] :=
  accepts_of_ok (stmt_ok2 (.defS [] none .nil) (by wf_closed)) hr
    ⟨h0, h1, h2, h3, h4, h5, trivial⟩ ⟨nofun, nofun, nofun, nofun⟩

/-- `def f(int x) { }` -/
theorem accept_def_param (fuel : Nat) (s : P) (hr : Ready s)
    (h0 : s.kindAt (s.pos + 0) = .DEF_KW) (h1 : s.kindAt (s.pos + 1) = .IDENT) (h2 : s.kindAt (s.pos + 2) = .L_PAREN) (h3 : s.kindAt (s.pos + 3) = .INT_TY) (h4 : s.kindAt (s.pos + 4) = .IDENT) (h5 : s.kindAt (s.pos + 5) = .R_PAREN) (h6 : s.kindAt (s.pos + 6) = .L_CURLY) (h7 : s.kindAt (s.pos + 7) = .R_CURLY) :
    Accepts (stmt (fuel + 40)) s 8
      [.start .DEF none, .token .DEF_KW 1, .start .NAME none, .token .IDENT 1, .finish,
       .start .TYPED_PARAM_LIST none, .token .L_PAREN 1, .start .TYPED_PARAM none,
       .start .SCALAR_TYPE none, .token .INT_TY 1, .finish, .start .NAME none, .token .IDENT 1,
       .finish, .finish, .token .R_PAREN 1, .finish, .start .BLOCK_EXPR none, .token .L_CURLY 1,
       .token .R_CURLY 1, .finish, .finish] :=
  accepts_of_ok (stmt_ok2 (.defS [.cls .int] none .nil) (by wf_closed)) hr
    ⟨h0, h1, h2, h3, h4, h5, h6, h7, trivial⟩ ⟨nofun, nofun, nofun, nofun⟩

/-- `def f(qubit q) { }` -/
theorem accept_def_qubit_param (fuel : Nat) (s : P) (hr : Ready s)
    (h0 : s.kindAt (s.pos + 0) = .DEF_KW) (h1 : s.kindAt (s.pos + 1) = .IDENT) (h2 : s.kindAt (s.pos + 2) = .L_PAREN) (h3 : s.kindAt (s.pos + 3) = .QUBIT_KW) (h4 : s.kindAt (s.pos + 4) = .IDENT) (h5 : s.kindAt (s.pos + 5) = .R_PAREN) (h6 : s.kindAt (s.pos + 6) = .L_CURLY) (h7 : s.kindAt (s.pos + 7) = .R_CURLY) :
    Accepts (stmt (fuel + 40)) s 8
      [.start .DEF none, .token .DEF_KW 1, .start .NAME none, .token .IDENT 1, .finish,
       .start .TYPED_PARAM_LIST none, .token .L_PAREN 1, .start .TYPED_PARAM none,
       .start .SCALAR_TYPE none, .token .QUBIT_KW 1, .finish, .start .NAME none, .token .IDENT 1,
       .finish, .finish, .token .R_PAREN 1, .finish, .start .BLOCK_EXPR none, .token .L_CURLY 1,
       .token .R_CURLY 1, .finish, .finish] :=
  accepts_of_ok (stmt_ok2 (.defS [.qubit] none .nil) (by wf_closed)) hr
    ⟨h0, h1, h2, h3, h4, h5, h6, h7, trivial⟩ ⟨nofun, nofun, nofun, nofun⟩

/-- `{ }` -/
theorem accept_block (fuel : Nat) (s : P) (hr : Ready s)
    (h0 : s.kindAt (s.pos + 0) = .L_CURLY) (h1 : s.kindAt (s.pos + 1) = .R_CURLY) (k : SyntaxKind) (hk : s.kindAt (s.pos + 2) = k) (hf : (k == .R_CURLY) = false) (hf2 : k ≠ .SEMICOLON) :
    Accepts (stmt (fuel + 40)) s 2
      [.start .TOMBSTONE (some 1), .start .BLOCK_EXPR (some 4), .token .L_CURLY 1,
       .token .R_CURLY 1, .finish, .start .EXPR_STMT none, .finish] :=
  accepts_of_ok (stmt_ok2 (.block .nil) (by wf_closed)) hr
    ⟨h0, h1, trivial⟩ ⟨nofun, nofun, fun _ => hk ▸ ne_of_beq_false hf, fun _ => hk ▸ hf2⟩


/-! ## composition -/

theorem Ready.ov {s : P} (hr : Ready s) (E : List Ev) (n sb : Nat) :
    Ready (s.ov E n 0 sb s.live s.protectedPos) := by
  refine ⟨hr.hook, ?_, ?_⟩
  · show 0 + 8 ≤ s.stepLimit
    have := hr.steps; omega
  · intro p hp
    have := hr.prot p hp
    show p < (s.events ++ E.toArray).size
    simp; omega

theorem kindAt_ov_shift (s : P) (E : List Ev) (n st sb lv : Nat) (pr : List Nat) (i j : Nat)
    (h : n + i = j) :
    (s.ov E n st sb lv pr).kindAt ((s.ov E n st sb lv pr).pos + i) = s.kindAt (s.pos + j) := by
  subst h
  show s.kindAt (s.pos + n + i) = _
  rw [Nat.add_assoc]

theorem errorFree_append (E1 E2 : List Ev) (h1 : errorFree E1 = true) (h2 : errorFree E2 = true) :
    errorFree (E1 ++ E2) = true := by
  induction E1 with
  | nil => exact h2
  | cons e es ih => cases e <;> simp_all [errorFree]

/-- **Accepted statements compose**: because every acceptance lemma holds for an arbitrary start
state and continuation, the second statement is accepted from the state the first one leaves. -/
theorem Accepts.seq {x y : G Unit} {s : P} {n1 n2 : Nat} {E1 E2 : List Ev} (h1 : Accepts x s n1 E1)
    (h2 : ∀ sb, Accepts y (s.ov E1 n1 0 sb s.live s.protectedPos) n2 E2) :
    Accepts (x >>= fun _ => y) s (n1 + n2) (E1 ++ E2) := by
  obtain ⟨e1, sb1, hx⟩ := h1
  obtain ⟨e2, sb2, hy⟩ := h2 sb1
  refine ⟨errorFree_append _ _ e1 e2, sb2, ?_⟩
  rw [G.bind_apply, hx]
  simp only
  rw [hy, ov_ov]
  rfl

/-- example: `qubit q; h q;` through two runs of `stmt`, from any ready state, before any
continuation -/
theorem accept_seq2_example (fuel : Nat) (s : P) (hr : Ready s)
    (h0 : s.kindAt (s.pos + 0) = .QUBIT_KW) (h1 : s.kindAt (s.pos + 1) = .IDENT)
    (h2 : s.kindAt (s.pos + 2) = .SEMICOLON) (h3 : s.kindAt (s.pos + 3) = .IDENT)
    (h4 : s.kindAt (s.pos + 4) = .IDENT) (h5 : s.kindAt (s.pos + 5) = .SEMICOLON) :
    Accepts (stmt (fuel + 40) >>= fun _ => stmt (fuel + 40)) s (3 + 3)
      ([.start .QUANTUM_DECLARATION_STATEMENT none, .start .QUBIT_TYPE none, .token .QUBIT_KW 1, .finish, .start .NAME none, .token .IDENT 1, .finish, .token .SEMICOLON 1, .finish] ++
       [.start .TOMBSTONE (some 1), .start .GATE_CALL_EXPR (some 10), .start .IDENTIFIER none, .token .IDENT 1, .finish, .start .QUBIT_LIST none, .start .IDENTIFIER none, .token .IDENT 1, .finish, .finish, .finish, .start .EXPR_STMT none, .token .SEMICOLON 1, .finish]) :=
  Accepts.seq (accept_qubit fuel s hr h0 h1 h2) (fun sb =>
    accept_gate_call fuel _ (Ready.ov hr _ _ _)
      ((kindAt_ov_shift s _ 3 _ _ _ _ 0 3 rfl).trans h3) ((kindAt_ov_shift s _ 3 _ _ _ _ 1 4 rfl).trans h4)
      ((kindAt_ov_shift s _ 3 _ _ _ _ 2 5 rfl).trans h5))

/-! ## top level: `item` on item-first statements -/

/-- an item-first statement other than `let` that `stmt` accepts is accepted by the top-level
dispatcher `item` as well, provided the next token is not `;` (the `Follow` condition of `item`,
`Props/C16.lean` (D2)) -/
theorem accepts_item_of_stmt (fuel : Nat) (s : P) (n : Nat) (E : List Ev)
    (h : Accepts (stmt (fuel + 1)) s n E)
    (hk : C16.itemFirst (s.kindAt s.pos) (s.kindAt (s.pos + 1)) = true)
    (hlet : s.kindAt s.pos ≠ .LET_KW) (hsemi : s.kindAt (s.pos + n) ≠ .SEMICOLON) :
    Accepts (item (fuel + 1) false) s n E := by
  obtain ⟨e1, sb, hx⟩ := h
  refine ⟨e1, sb, ?_⟩
  rw [C16.dispatch_equiv_partial fuel s hk hlet, G.bind_apply, hx]
  simp only
  unfold C16.semiCheck
  rw [G.bind_apply, at_ov _ _ _ _ _ _ _ .SEMICOLON (by decide)]
  have : (s.kindAt (s.pos + n) == SyntaxKind.SEMICOLON) = false := by simpa using hsemi
  simp only [this, Bool.false_eq_true, if_false]
  rfl

/-! ## valid constructs that the unchanged grammar rejects (witnesses) -/

/-- error messages of the model's parse of a token-kind sequence (no joint bits) -/
def errorsOf (ks : List SyntaxKind) : Option (List String) :=
  match parseSourceFile 200 ks.toArray (ks.map fun _ => false).toArray with
  | .ok (ev, _) => some (ev.toList.filterMap fun | .error m => some m | _ => none)
  | .error _ => none

/-- F06: `x = a + b;` — `=` has binding power 12, the right-hand side of the assignment stops at
`a`; the assignment then demands its `;` and `+ b` is attached to the assignment statement -/
theorem witness_assign_binary_rhs :
    errorsOf [.IDENT, .EQ, .IDENT, .PLUS, .IDENT, .SEMICOLON] = some ["expected SEMICOLON"] := by
  decide +kernel

/-- … while the same right-hand side is accepted in a declaration (`accept_decl_int_init_sum`)
and in parentheses (`accept_assign_paren_sum`) -/
theorem witness_assign_binary_rhs_contrast :
    errorsOf [.INT_TY, .IDENT, .EQ, .IDENT, .PLUS, .IDENT, .SEMICOLON] = some [] ∧
    errorsOf [.IDENT, .EQ, .L_PAREN, .IDENT, .PLUS, .IDENT, .R_PAREN, .SEMICOLON] = some [] := by
  decide +kernel

end Oq3.Props.C04
