/-
C01 — lexing and parsing return normally on every input.

What is PROVED here (for every input, no bound):
* lexer: `Props/C14.lean` (`advance_strict`, `tokenize_fuel_suffices`, `asserts_hold`,
  `lexed_new_total`, `to_input_total`);
* parser API + grammar: every function of the grammar keeps the parser-state invariant
  (`grammar_keeps_invariant`), hence for every successful run of `source_file`:
  `event::process` never reaches `unreachable!()` nor indexes out of bounds
  (`process_never_panics`), the debug balance assertions of `TopEntryPoint::parse` hold
  (`balance_assertions_hold`), all `u32` subtractions in `precede`/`extend_to` are safe (part of
  the invariant proofs), every token is accounted for and parsing stops only at end of input
  (`parse_consumes_all`);
* tree builder: on such steps the builder has exactly one root and never hits `unwrap`
  (`Props/C02.lean`).
That the grammar fails none of its own `assert!(p.at(..))`/`bump` assertions is `Props/C01Safe.lean`;
termination and the work bounds are `Props/C01Term.lean`, `C01Work2.lean`, `C01Work.lean`.
-/
import Oq3.Lemmas.ParseTop
import Oq3.Props.C02
import Oq3.Props.C14

namespace Oq3.Props.C01
open Oq3.Gen Oq3.Parser Oq3.Grammar Oq3.Builder

/-- every grammar function, at every fuel, preserves the parser-state invariant -/
theorem grammar_keeps_invariant (kinds : Array SyntaxKind) (joint : Array Bool) (fuel : Nat) :
    AllPres kinds joint fuel := allPres fuel

theorem parse_ok (fuel : Nat) (kinds : Array SyntaxKind) (joint : Array Bool) (npl : Nat)
    (events : Array Ev) (pos : Nat)
    (h : parseSourceFile fuel kinds joint npl = .ok (events, pos)) :
    ParseOk kinds joint events.toList pos := by
  unfold parseSourceFile parseWith at h
  simp only [StateT.run] at h
  split at h
  · rename_i u s hs
    split at h
    · simp at h
    · simp only [Except.ok.injEq, Prod.mk.injEq] at h
      obtain ⟨rfl, rfl⟩ := h
      exact sourceFile_ok fuel kinds joint npl u s hs
  · simp at h

/-- **`process` never panics** on the events of a successful parse -/
theorem process_never_panics (fuel : Nat) (kinds : Array SyntaxKind) (joint : Array Bool) (npl : Nat)
    (events : Array Ev) (pos : Nat)
    (h : parseSourceFile fuel kinds joint npl = .ok (events, pos)) :
    ∃ steps, process events.toList = some steps ∧ rooted steps = true ∧
      itemsS steps = itemsE events.toList := by
  have hp := parse_ok fuel kinds joint npl events pos h
  obtain ⟨steps, hs⟩ := process_total events.toList hp.fp
  exact ⟨steps, hs, process_rooted _ _ hp.rootedE hs, process_items _ _ hs⟩

theorem balanceGo_of_wf (d : Nat) (ss : List Step) (h : wf (d + 1) ss = true) :
    balanceCheck.go ss (d + 1) false = true := by
  induction ss generalizing d with
  | nil => simp [wf] at h
  | cons s ss ih =>
    cases s with
    | enter k => simp only [wf] at h; simp [balanceCheck.go]; exact ih _ h
    | exit =>
      simp only [wf] at h
      cases d with
      | zero =>
        cases ss with
        | nil => simp [balanceCheck.go]
        | cons x xs => simp [wf] at h
      | succ d => simp [balanceCheck.go]; exact ih _ h
    | token k n => simp only [wf] at h; simp [balanceCheck.go]; exact ih _ h
    | error m => simp only [wf] at h; simp [balanceCheck.go]; exact ih _ h

/-- the three debug assertions of `TopEntryPoint::parse` hold for rooted steps -/
theorem balance_of_rooted (ss : List Step) (h : rooted ss = true) : balanceCheck ss = true := by
  match ss, h with
  | .enter k :: rest, h =>
    simp only [rooted] at h
    simp [balanceCheck, balanceCheck.go]
    exact balanceGo_of_wf 0 rest h

theorem balance_assertions_hold (fuel : Nat) (kinds : Array SyntaxKind) (joint : Array Bool)
    (npl : Nat) (events : Array Ev) (pos : Nat)
    (h : parseSourceFile fuel kinds joint npl = .ok (events, pos)) (steps : List Step)
    (hs : process events.toList = some steps) : balanceCheck steps = true := by
  obtain ⟨steps', hs', hr, _⟩ := process_never_panics fuel kinds joint npl events pos h
  rw [hs] at hs'; simp only [Option.some.injEq] at hs'; subst hs'
  exact balance_of_rooted _ hr

/-- all raw tokens of the parser input are consumed: `pos` is the input length whenever the
input contains no `EOF`-kind token (the lexer never produces one: `Props.C14.token_kind_ne_eof`
for the lexer's kinds, `Bridge.rawToks_kind_ne_eof` for the syntax kinds made of them) -/
theorem parse_consumes_all (fuel : Nat) (kinds : Array SyntaxKind) (joint : Array Bool) (npl : Nat)
    (events : Array Ev) (pos : Nat)
    (h : parseSourceFile fuel kinds joint npl = .ok (events, pos))
    (hne : ∀ i, (hi : i < kinds.size) → kinds[i] ≠ .EOF) :
    pos = kinds.size ∧ sumTok events.toList = kinds.size := by
  have hp := parse_ok fuel kinds joint npl events pos h
  have : pos = kinds.size := by
    by_cases hlt : pos < kinds.size
    · have := hp.at_eof
      simp [Array.getD, hlt] at this
      exact absurd this (hne pos hlt)
    · have := hp.pos_le; omega
  exact ⟨this, by rw [hp.tok, this]⟩

/-- the builder on the steps of a successful parse: never an `unwrap`/`unreachable!()` of its
own; it can only fail inside `intersperse_trivia`'s range assertions -/
theorem builder_after_parse (fuel : Nat) (kinds : Array SyntaxKind) (joint : Array Bool) (npl : Nat)
    (events : Array Ev) (pos : Nat) (toks : List RawTok)
    (h : parseSourceFile fuel kinds joint npl = .ok (events, pos)) :
    ∃ steps, process events.toList = some steps ∧
      ((∃ r, buildTree toks steps = .ok r) ∨ ∃ e, intersperseTrivia toks steps = .error e) := by
  obtain ⟨steps, hs, hr, _⟩ := process_never_panics fuel kinds joint npl events pos h
  refine ⟨steps, hs, ?_⟩
  cases hb : buildTree toks steps with
  | ok r => exact Or.inl ⟨r, rfl⟩
  | error e => exact Or.inr (Oq3.Props.C02.buildTree_fails_only_in_intersperse toks steps hr e hb)

/-! non-vacuity: a closed parse that succeeds -/
example : (match parseSourceFile 200 #[.INT_TY, .IDENT, .SEMICOLON] #[false, false, false] 2000 with
    | .ok (_, pos) => pos == 3
    | .error _ => false) = true := by
  decide +kernel

end Oq3.Props.C01
