/-
C12 (escape-sequence diagnostics of string literals) -- theorems about `Oq3.Unescape`
(Model/Unescape.lean: `unescape_literal` of oq3_lexer/src/unescape.rs and the escape part of
`validate_literal` of oq3_syntax/src/validation.rs), tied to the code by `vf/unescape_corr.py`.

For ALL literal contents `src`, both modes in use, all token texts and start offsets: the loop of
`unescape_str_common` terminates (the fuel `src.length` the model passes always suffices); every
callback range is ordered, within `src` and on character boundaries (`callback_ranges`), and the
callbacks come in increasing order, only the two warnings overlapping what follows them
(`callbacks_ordered`); `validate_literal` reports exactly the fatal callbacks, in callback order, as
EMPTY ranges at `tokStart + 1 + start` (`validateLiteral_shift`), strictly inside the token, on
character boundaries of the file and strictly increasing (`validateLiteral_ranges`, `_in_file`,
`_strictly_increasing`); contents made of `0`, `1`, `_` (all a lexed BIT_STRING token can contain
between its quotes) never produce a callback error (`bitString_contents_no_errors`).

No defect found: the theorems hold without an excluded case (no `_partial`), the model agrees
with the real code on every compared case (vf/unescape_corr.py: diagnostics through `oq3-run tree`,
all callbacks incl. range ends and warnings through `oq3-unescape`), and the harness's range oracle
never failed.  Modelling assumption (tested, not proved): `skip_ascii_whitespace` works on BYTES;
the model works on characters, justified by UTF-8 (a byte with an ASCII value is a whole character).
Non-vacuity: closed examples with multi-byte characters next to bad escapes at the end.
-/
import Oq3.Model.Unescape
import Oq3.Lemmas.Lexed

namespace Oq3.Props.C12Escape
open Oq3.Unescape Oq3.Lexer Oq3.Lemmas.Lexer
open Oq3.Lexed (dropBytes takeBytes sliceBytes)

/-- `n` is a character boundary of `s` (`str::is_char_boundary`): it is the UTF-8 length of a
prefix of `s` -/
def IsBoundary (s : List Char) (n : Nat) : Prop := ∃ p, p <+: s ∧ utf8Len p = n

def boundaryB : List Char → Nat → Bool
  | _, 0 => true
  | [], _ + 1 => false
  | c :: cs, n + 1 => decide (c.utf8Size ≤ n + 1) && boundaryB cs (n + 1 - c.utf8Size)

theorem boundaryB_iff (s : List Char) (n : Nat) : boundaryB s n = true ↔ IsBoundary s n := by
  induction s generalizing n with
  | nil =>
    cases n with
    | zero => simp only [boundaryB, true_iff]; exact ⟨[], List.nil_prefix, rfl⟩
    | succ n =>
      simp only [boundaryB, Bool.false_eq_true, false_iff]
      rintro ⟨p, hp, hl⟩
      have : p = [] := List.prefix_nil.mp hp
      subst this; simp [utf8Len] at hl
  | cons c cs ih =>
    have hc := Char.utf8Size_pos c
    cases n with
    | zero => simp only [boundaryB, true_iff]; exact ⟨[], List.nil_prefix, rfl⟩
    | succ n =>
      simp only [boundaryB, Bool.and_eq_true, decide_eq_true_eq, ih]
      constructor
      · rintro ⟨hle, p, hp, hl⟩
        refine ⟨c :: p, ?_, ?_⟩
        · obtain ⟨t, rfl⟩ := hp; exact ⟨t, rfl⟩
        · simp only [utf8Len]; omega
      · rintro ⟨p, hp, hl⟩
        cases p with
        | nil => simp [utf8Len] at hl
        | cons d p =>
          obtain ⟨t, ht⟩ := hp
          simp only [List.cons_append, List.cons.injEq] at ht
          obtain ⟨rfl, rfl⟩ := ht
          simp only [utf8Len] at hl
          exact ⟨by omega, p, ⟨t, rfl⟩, by omega⟩

instance (s : List Char) (n : Nat) : Decidable (IsBoundary s n) :=
  decidable_of_iff _ (boundaryB_iff s n)

theorem boundary_of_suffix {t s : List Char} (h : t <:+ s) :
    IsBoundary s (utf8Len s - utf8Len t) := by
  obtain ⟨p, rfl⟩ := h
  exact ⟨p, ⟨t, rfl⟩, by rw [utf8Len_append]; omega⟩

theorem IsBoundary.le {s : List Char} {n : Nat} (h : IsBoundary s n) : n ≤ utf8Len s := by
  obtain ⟨p, ⟨t, rfl⟩, rfl⟩ := h
  rw [utf8Len_append]; omega

theorem IsBoundary.shift {w : List Char} {n : Nat} (h : IsBoundary w n) (pre post : List Char) :
    IsBoundary (pre ++ w ++ post) (utf8Len pre + n) := by
  obtain ⟨p, ⟨t, rfl⟩, rfl⟩ := h
  exact ⟨pre ++ p, ⟨t ++ post, by simp⟩, by rw [utf8Len_append]⟩

theorem scanUnicodeLoop_suffix (d : Bool) (cs : List Char) :
    ∀ n v, (scanUnicodeLoop d n v cs).2 <:+ cs := by
  induction cs with
  | nil => intro n v; simp [scanUnicodeLoop]
  | cons c cs ih =>
    intro n v
    have hs : cs <:+ c :: cs := List.suffix_cons c cs
    simp only [scanUnicodeLoop]
    split
    · exact (ih _ _).trans hs
    · split
      · split
        · exact hs
        · split <;> exact hs
      · split
        · exact hs
        · split <;> exact (ih _ _).trans hs

theorem scanUnicode_suffix (d : Bool) (cs : List Char) : (scanUnicode d cs).2 <:+ cs := by
  unfold scanUnicode
  split
  · exact List.suffix_refl _
  · rename_i c cs
    have hs : cs <:+ c :: cs := List.suffix_cons c cs
    split
    · exact hs
    · split
      · exact List.nil_suffix
      · rename_i e ds
        have hd : ds <:+ c :: e :: ds := (List.suffix_cons e ds).trans (List.suffix_cons c _)
        split
        · exact hd
        · split
          · exact hd
          · split
            · exact hd
            · exact (scanUnicodeLoop_suffix _ _ _ _).trans hd

theorem scanEscape_suffix (m : Mode) (cs : List Char) : (scanEscape m cs).2 <:+ cs := by
  unfold scanEscape
  split
  · exact List.suffix_refl _
  · rename_i c cs
    have hs : cs <:+ c :: cs := List.suffix_cons c cs
    split
    · exact hs
    · split
      · split
        · exact List.nil_suffix
        · rename_i hi cs1
          have h1 : cs1 <:+ c :: hi :: cs1 := (List.suffix_cons hi cs1).trans (List.suffix_cons c _)
          split
          · exact h1
          · split
            · exact List.nil_suffix
            · rename_i lo cs2
              have h2 : cs2 <:+ c :: hi :: lo :: cs2 := (List.suffix_cons lo cs2).trans h1
              split <;> exact h2
      · split
        · exact (scanUnicode_suffix _ _).trans hs
        · exact hs

theorem skip_suffix (tail : List Char) (start : Nat) :
    (skipAsciiWhitespace tail start).2 <:+ tail := by
  simp only [skipAsciiWhitespace]
  exact List.drop_suffix _ _

theorem skip_length_lt (cs : List Char) (start : Nat) (h : cs.head? = some '\n') :
    (skipAsciiWhitespace cs start).2.length < cs.length := by
  cases cs with
  | nil => simp at h
  | cons c cs =>
    simp only [List.head?_cons, Option.some.injEq] at h
    subst h
    simp only [skipAsciiWhitespace, List.length_drop]
    have : isSkipWs '\n' = true := by decide
    simp only [List.takeWhile_cons, this, ↓reduceIte, List.length_cons]
    omega

theorem strLoop_total (mode : Mode) (L : Nat) :
    ∀ (fuel : Nat) (rest : List Char), rest.length ≤ fuel →
      ∃ out, strLoop mode L fuel rest = some out := by
  intro fuel
  induction fuel with
  | zero =>
    intro rest h
    have : rest = [] := List.eq_nil_of_length_eq_zero (by omega)
    subst this; exact ⟨[], by simp [strLoop]⟩
  | succ fuel ih =>
    intro rest h
    cases rest with
    | nil => exact ⟨[], by simp [strLoop]⟩
    | cons c cs =>
      simp only [List.length_cons] at h
      simp only [strLoop]
      split
      · split
        · obtain ⟨o, ho⟩ := ih (skipAsciiWhitespace cs (L - utf8Len cs - c.utf8Size)).2
            (by have := (skip_suffix cs (L - utf8Len cs - c.utf8Size)).length_le; omega)
          exact ⟨_, by rw [ho]; rfl⟩
        · obtain ⟨o, ho⟩ := ih (scanEscape mode cs).2
            (by have := (scanEscape_suffix mode cs).length_le; omega)
          exact ⟨_, by rw [ho]; rfl⟩
      · obtain ⟨o, ho⟩ := ih cs (by omega)
        exact ⟨_, by rw [ho]; rfl⟩

theorem strLoop_fuel_mono (mode : Mode) (L : Nat) :
    ∀ (fuel : Nat) (rest : List Char) (out : List Callback),
      strLoop mode L fuel rest = some out →
      ∀ fuel', fuel ≤ fuel' → strLoop mode L fuel' rest = some out := by
  intro fuel
  induction fuel with
  | zero =>
    intro rest out h fuel' _
    cases rest with
    | nil => cases fuel' <;> simpa [strLoop] using h
    | cons c cs => simp [strLoop] at h
  | succ fuel ih =>
    intro rest out h fuel' hle
    cases rest with
    | nil => cases fuel' <;> simpa [strLoop] using h
    | cons c cs =>
      obtain ⟨f', rfl⟩ : ∃ f', fuel' = f' + 1 := ⟨fuel' - 1, by omega⟩
      have hle' : fuel ≤ f' := by omega
      -- every branch maps over a recursive call on some remaining text
      have step {r : List Char} {g : List Callback → List Callback}
          (h : (strLoop mode L fuel r).map g = some out) : (strLoop mode L f' r).map g = some out := by
        simp only [Option.map_eq_some_iff] at h ⊢
        obtain ⟨o, ho, rfl⟩ := h
        exact ⟨o, ih _ _ ho _ hle', rfl⟩
      simp only [strLoop] at h ⊢
      split
      · rename_i hc
        rw [if_pos hc] at h
        split
        · rename_i hn; rw [if_pos hn] at h; exact step h
        · rename_i hn; rw [if_neg hn] at h; exact step h
      · rename_i hc; rw [if_neg hc] at h; exact step h

/-- **Termination.**  With any fuel `≥ src.length` the loop returns, and returns the callbacks
of `unescapeStrCommon`: the `getD []` of the model never sees `none`. -/
theorem unescapeStrCommon_eq (src : List Char) (mode : Mode) (fuel : Nat)
    (h : src.length ≤ fuel) :
    strLoop mode (utf8Len src) fuel src = some (unescapeStrCommon src mode) := by
  obtain ⟨o, ho⟩ := strLoop_total mode (utf8Len src) src.length src (Nat.le_refl _)
  have : unescapeStrCommon src mode = o := by simp [unescapeStrCommon, ho]
  rw [this]
  exact strLoop_fuel_mono mode _ _ _ _ ho _ h

/-- the callback carries one of the two warnings (`!is_fatal`) -/
def isWarning (cb : Callback) : Bool :=
  match cb.err with
  | some e => !e.isFatal
  | none => false

/-- the callback carries an error that `validate_literal` reports -/
def isFatalErr (cb : Callback) : Bool :=
  match cb.err with
  | some e => e.isFatal
  | none => false

/-- Both ends of a callback range made while the loop stands at the cursor `rest` are positions
of cursors: `start` is where a suffix `t1` of `rest` begins, `stop` where a suffix `t2` of `t1`
begins (`L = src.len()`); for everything but the warnings `t2` is a proper suffix. -/
def Good (L : Nat) (rest : List Char) (cb : Callback) : Prop :=
  ∃ t1 t2, t1 <:+ rest ∧ t2 <:+ t1 ∧ cb.start = L - utf8Len t1 ∧ cb.stop = L - utf8Len t2 ∧
    (isWarning cb = false → utf8Len t2 < utf8Len t1)

/-- the order in which callbacks are made -/
def Before (a b : Callback) : Prop :=
  a.start ≤ b.start ∧ (isWarning a = false → a.stop ≤ b.start)

theorem Good.mono {L : Nat} {r r' : List Char} {cb : Callback} (h : Good L r' cb)
    (hs : r' <:+ r) : Good L r cb := by
  obtain ⟨t1, t2, h1, h2, h3⟩ := h
  exact ⟨t1, t2, h1.trans hs, h2, h3⟩

theorem Good.start_ge {L : Nat} {r : List Char} {cb : Callback} (h : Good L r cb) :
    L - utf8Len r ≤ cb.start := by
  obtain ⟨t1, t2, h1, _, h3, _⟩ := h
  have := utf8Len_suffix h1
  omega

theorem isSkipWs_size {c : Char} (h : isSkipWs c = true) : c.utf8Size = 1 := by
  simp only [isSkipWs, Bool.or_eq_true, beq_iff_eq] at h
  rcases h with ((h | h) | h) | h <;> subst h <;> decide

theorem skip_len (cs : List Char) :
    utf8Len cs = (cs.takeWhile isSkipWs).length +
      utf8Len (cs.drop (cs.takeWhile isSkipWs).length) := by
  induction cs with
  | nil => simp [utf8Len]
  | cons c cs ih =>
    by_cases hc : isSkipWs c = true
    · have := isSkipWs_size hc
      simp only [List.takeWhile_cons, hc, ↓reduceIte, List.length_cons, List.drop_succ_cons, utf8Len]
      omega
    · simp [hc, utf8Len]

theorem skip_spec (L : Nat) (c : Char) (cs : List Char) (hc : c.utf8Size = 1)
    (hL : utf8Len (c :: cs) ≤ L) :
    ∀ a ∈ (skipAsciiWhitespace cs (L - utf8Len cs - c.utf8Size)).1,
      a.start = L - utf8Len (c :: cs) ∧ isWarning a = true ∧ Good L (c :: cs) a := by
  intro a ha
  have hlen := skip_len cs
  simp only [utf8Len] at hL
  have hst : L - utf8Len cs - c.utf8Size = L - utf8Len (c :: cs) := by
    simp only [utf8Len]; omega
  have hdrop : cs.drop (cs.takeWhile isSkipWs).length <:+ c :: cs :=
    (List.drop_suffix _ _).trans (List.suffix_cons c cs)
  simp only [skipAsciiWhitespace, List.mem_append] at ha
  rcases ha with ha | ha
  · split at ha
    · simp only [List.mem_singleton] at ha
      subst ha
      refine ⟨hst, rfl, c :: cs, cs.drop (cs.takeWhile isSkipWs).length, List.suffix_refl _,
        hdrop, hst, ?_, by intro h; cases h⟩
      dsimp only; omega
    · simp at ha
  · split at ha
    · rename_i d r hd
      split at ha
      · simp only [List.mem_singleton] at ha
        subst ha
        have hr : r <:+ c :: cs := by
          have : r <:+ d :: r := List.suffix_cons d r
          rw [← hd] at this
          exact this.trans hdrop
        refine ⟨hst, rfl, c :: cs, r, List.suffix_refl _, hr, hst, ?_, by intro h; cases h⟩
        rw [hd] at hlen
        simp only [utf8Len] at hlen ⊢
        omega
      · simp at ha
    · simp at ha

/-- **Main invariant of the loop of `unescape_str_common`.** -/
theorem strLoop_spec (mode : Mode) (src : List Char) :
    ∀ (fuel : Nat) (rest : List Char) (out : List Callback), rest <:+ src →
      strLoop mode (utf8Len src) fuel rest = some out →
      (∀ cb ∈ out, Good (utf8Len src) rest cb) ∧ out.Pairwise Before := by
  intro fuel
  induction fuel with
  | zero =>
    intro rest out _ h
    cases rest with
    | nil => simp only [strLoop, Option.some.injEq] at h; subst h; simp
    | cons c cs => simp [strLoop] at h
  | succ fuel ih =>
    intro rest out hsuf h
    cases rest with
    | nil => simp only [strLoop, Option.some.injEq] at h; subst h; simp
    | cons c cs =>
      have hcs : cs <:+ src := (List.suffix_cons c cs).trans hsuf
      have hL : utf8Len (c :: cs) ≤ utf8Len src := utf8Len_suffix hsuf
      have hcpos := Char.utf8Size_pos c
      have hst : utf8Len src - utf8Len cs - c.utf8Size = utf8Len src - utf8Len (c :: cs) := by
        simp only [utf8Len]; omega
      -- one ordinary callback `⟨start, L - |r|, e⟩` followed by the callbacks made from `r`
      have step : ∀ (r : List Char) (e : Option EscapeError) (o : List Callback), r <:+ cs →
          strLoop mode (utf8Len src) fuel r = some o →
          (∀ cb ∈ (⟨utf8Len src - utf8Len cs - c.utf8Size, utf8Len src - utf8Len r, e⟩ :: o),
              Good (utf8Len src) (c :: cs) cb) ∧
            (⟨utf8Len src - utf8Len cs - c.utf8Size, utf8Len src - utf8Len r, e⟩ :: o : List Callback).Pairwise Before := by
        intro r e o hr ho
        obtain ⟨hg, hp⟩ := ih r o (hr.trans hcs) ho
        have hrl := utf8Len_suffix hr
        have hr' : r <:+ c :: cs := hr.trans (List.suffix_cons c cs)
        constructor
        · intro cb hcb
          simp only [List.mem_cons] at hcb
          rcases hcb with rfl | hcb
          · exact ⟨c :: cs, r, List.suffix_refl _, hr', hst, rfl,
              by intro _; simp only [utf8Len]; omega⟩
          · exact (hg cb hcb).mono hr'
        · refine List.pairwise_cons.mpr ⟨?_, hp⟩
          intro b hb
          have := (hg b hb).start_ge
          simp only [utf8Len] at hL
          constructor
          · show utf8Len src - utf8Len cs - c.utf8Size ≤ b.start
            omega
          · intro _
            show utf8Len src - utf8Len r ≤ b.start
            exact this
      simp only [strLoop] at h
      split at h
      · rename_i hc
        have hc1 : c.utf8Size = 1 := by
          simp only [beq_iff_eq] at hc; subst hc; decide
        split at h
        · -- line continuation
          simp only [Option.map_eq_some_iff] at h
          obtain ⟨o, ho, rfl⟩ := h
          have hr := skip_suffix cs (utf8Len src - utf8Len cs - c.utf8Size)
          obtain ⟨hg, hp⟩ := ih _ o (hr.trans hcs) ho
          have hw := skip_spec (utf8Len src) c cs hc1 hL
          have hr' := hr.trans (List.suffix_cons c cs)
          constructor
          · intro cb hcb
            simp only [List.mem_append] at hcb
            rcases hcb with hcb | hcb
            · exact (hw cb hcb).2.2
            · exact (hg cb hcb).mono hr'
          · refine List.pairwise_append.mpr ⟨?_, hp, ?_⟩
            · -- the (at most two) warnings start at the same place
              apply List.Pairwise.imp_of_mem (R := fun _ _ => True)
              · intro a b ha hb _
                refine ⟨by rw [(hw a ha).1, (hw b hb).1]; exact Nat.le_refl _, ?_⟩
                intro hn; rw [(hw a ha).2.1] at hn; cases hn
              · exact List.pairwise_of_forall (fun _ _ => trivial)
            · intro a ha b hb
              have h1 := (hg b hb).start_ge
              have h2 := utf8Len_suffix hr'
              refine ⟨by rw [(hw a ha).1]; omega, ?_⟩
              intro hn; rw [(hw a ha).2.1] at hn; cases hn
        · simp only [Option.map_eq_some_iff] at h
          obtain ⟨o, ho, rfl⟩ := h
          exact step _ _ o (scanEscape_suffix mode cs) ho
      · simp only [Option.map_eq_some_iff] at h
        obtain ⟨o, ho, rfl⟩ := h
        exact step cs _ o (List.suffix_refl _) ho

theorem unescapeLiteral_eq (src : List Char) (mode : Mode) :
    unescapeLiteral src mode = unescapeStrCommon src mode := by
  cases mode <;> rfl

theorem unescapeLiteral_good (src : List Char) (mode : Mode) :
    (∀ cb ∈ unescapeLiteral src mode, Good (utf8Len src) src cb) ∧
      (unescapeLiteral src mode).Pairwise Before := by
  rw [unescapeLiteral_eq]
  exact strLoop_spec mode src src.length src _ (List.suffix_refl _)
    (unescapeStrCommon_eq src mode _ (Nat.le_refl _))

/-- **Callback ranges (all contents, both modes).**  Every range passed to the callback of
`unescape_literal` -- for `Ok`s, errors and warnings -- is ordered, within the contents, and has
both ends on character boundaries of the contents; `Ok`s and fatal errors are non-empty. -/
theorem callback_ranges (src : List Char) (mode : Mode) :
    ∀ cb ∈ unescapeLiteral src mode,
      cb.start ≤ cb.stop ∧ cb.stop ≤ utf8Len src ∧
      IsBoundary src cb.start ∧ IsBoundary src cb.stop ∧
      (isWarning cb = false → cb.start < cb.stop) := by
  intro cb hcb
  obtain ⟨t1, t2, h1, h2, hs, he, hw⟩ := (unescapeLiteral_good src mode).1 cb hcb
  have l1 := utf8Len_suffix h1
  have l2 := utf8Len_suffix h2
  refine ⟨by omega, by omega, ?_, ?_, ?_⟩
  · rw [hs]; exact boundary_of_suffix h1
  · rw [he]; exact boundary_of_suffix (h2.trans h1)
  · intro h; have := hw h; omega

/-- **Callbacks come in increasing order.**  Starts never decrease; an `Ok` or fatal-error
callback ends where (or before) every later callback starts. -/
theorem callbacks_ordered (src : List Char) (mode : Mode) :
    (unescapeLiteral src mode).Pairwise Before :=
  (unescapeLiteral_good src mode).2

theorem dropBytes_some : ∀ (s : List Char) (n : Nat) (r : List Char), dropBytes s n = some r →
    ∃ p, s = p ++ r ∧ utf8Len p = n := by
  intro s
  induction s with
  | nil =>
    intro n r h
    simp only [dropBytes] at h
    split at h
    · simp only [Option.some.injEq] at h; subst h; exact ⟨[], rfl, by simp [utf8Len, *]⟩
    · simp at h
  | cons c cs ih =>
    intro n r h
    simp only [dropBytes] at h
    split at h
    · simp only [Option.some.injEq] at h; subst h; exact ⟨[], rfl, by simp [utf8Len, *]⟩
    · split at h
      · obtain ⟨p, hp, hl⟩ := ih _ _ h
        exact ⟨c :: p, by rw [hp]; rfl, by simp only [utf8Len]; omega⟩
      · simp at h

theorem takeBytes_some : ∀ (s : List Char) (n : Nat) (w : List Char), takeBytes s n = some w →
    ∃ post, s = w ++ post ∧ utf8Len w = n := by
  intro s
  induction s with
  | nil =>
    intro n w h
    simp only [takeBytes] at h
    split at h
    · simp only [Option.some.injEq] at h; subst h; exact ⟨[], rfl, by simp [utf8Len, *]⟩
    · simp at h
  | cons c cs ih =>
    intro n w h
    simp only [takeBytes] at h
    split at h
    · simp only [Option.some.injEq] at h; subst h; exact ⟨c :: cs, rfl, by simp [utf8Len, *]⟩
    · split at h
      · simp only [Option.map_eq_some_iff] at h
        obtain ⟨w', hw', rfl⟩ := h
        obtain ⟨post, hp, hl⟩ := ih _ _ hw'
        exact ⟨post, by rw [hp]; rfl, by simp only [utf8Len]; omega⟩
      · simp at h

/-- `str::get(lo..hi) = Some(w)`: `w` is the piece between the boundaries `lo` and `hi` -/
theorem sliceBytes_some (s : List Char) (lo hi : Nat) (w : List Char)
    (h : sliceBytes s lo hi = some w) :
    ∃ pre post, s = pre ++ w ++ post ∧ utf8Len pre = lo ∧ lo + utf8Len w = hi := by
  unfold sliceBytes at h
  split at h
  · simp only [Option.bind_eq_some_iff] at h
    obtain ⟨r, hr, hw⟩ := h
    obtain ⟨pre, hp, hl⟩ := dropBytes_some _ _ _ hr
    obtain ⟨post, hq, hm⟩ := takeBytes_some _ _ _ hw
    exact ⟨pre, post, by rw [hp, hq, List.append_assoc], hl, by omega⟩
  · simp at h

theorem rfind_lt (q : Char) : ∀ (s : List Char) (e : Nat), rfind q s = some e → e < utf8Len s := by
  intro s
  induction s with
  | nil => intro e h; simp [rfind] at h
  | cons c cs ih =>
    intro e h
    have := Char.utf8Size_pos c
    simp only [rfind] at h
    split at h
    · rename_i k hk
      simp only [Option.some.injEq] at h
      have := ih k hk
      simp only [utf8Len]; omega
    · split at h
      · simp only [Option.some.injEq] at h; simp only [utf8Len]; omega
      · simp at h

/-- **`unquote(text, 1, '"')`.**  The contents handed to `unescape_literal` is the piece of the
token text that starts after exactly one byte and ends before the end of the text (at the last
`"`). -/
theorem unquote_spec (text w : List Char) (q : Char) (h : unquote text 1 q = some w) :
    ∃ pre post, text = pre ++ w ++ post ∧ utf8Len pre = 1 ∧ 1 + utf8Len w < utf8Len text := by
  simp only [unquote, Option.bind_eq_some_iff] at h
  obtain ⟨e, he, hs⟩ := h
  obtain ⟨pre, post, ht, hp, hw⟩ := sliceBytes_some _ _ _ _ hs
  exact ⟨pre, post, ht, hp, by have := rfind_lt q text e he; omega⟩

/-- the `Mode` `validate_literal` uses for a literal kind -/
def modeOf : LitKind → Option Mode
  | .string => some .str
  | .bitString => some .bitStr
  | .other => none

theorem validateLiteral_eq (kind : LitKind) (text : List Char) (tokStart : Nat) :
    validateLiteral kind text tokStart =
      match modeOf kind, unquote text 1 '"' with
      | some m, some w => pushErrs 1 tokStart (unescapeLiteral w m)
      | _, _ => [] := by
  cases kind <;> simp only [validateLiteral, modeOf] <;> split <;> simp_all

/-- the diagnostic `push_err` makes of a fatal callback -/
def errOf (prefixLen tokStart : Nat) (cb : Callback) : VErr :=
  ⟨tokStart + (cb.start + prefixLen), tokStart + (cb.start + prefixLen),
    match cb.err with
    | some e => e.message
    | none => ""⟩

theorem pushErrs_eq (prefixLen tokStart : Nat) (cbs : List Callback) :
    pushErrs prefixLen tokStart cbs = (cbs.filter isFatalErr).map (errOf prefixLen tokStart) := by
  induction cbs with
  | nil => rfl
  | cons cb cbs ih =>
    unfold pushErrs at ih ⊢
    rw [List.filterMap_cons, List.filter_cons]
    rcases cb with ⟨s, t, err⟩
    cases err with
    | none => simpa [isFatalErr] using ih
    | some e =>
      cases hf : e.isFatal
      · simpa [isFatalErr, hf] using ih
      · simp only [isFatalErr, hf, ↓reduceIte, List.map_cons, errOf]
        exact congrArg _ ih

/-- **`validate_literal` shifts by exactly the opening quote.**  The diagnostics are, in callback
order, the fatal callbacks of `unescape_literal` on the unquoted contents, each reported as the
EMPTY range at `token start + 1 + range.start` with the callback's message; nothing else. -/
theorem validateLiteral_shift (kind : LitKind) (m : Mode) (text w : List Char) (tokStart : Nat)
    (hk : modeOf kind = some m) (hw : unquote text 1 '"' = some w) :
    validateLiteral kind text tokStart =
      ((unescapeLiteral w m).filter isFatalErr).map (errOf 1 tokStart) := by
  rw [validateLiteral_eq, hk, hw]
  exact pushErrs_eq _ _ _

/-- without a mode (numbers, Booleans) or without contents (no `"` after the first byte:
unterminated or single-quoted literal) nothing is reported -/
theorem validateLiteral_none (kind : LitKind) (text : List Char) (tokStart : Nat)
    (h : modeOf kind = none ∨ unquote text 1 '"' = none) :
    validateLiteral kind text tokStart = [] := by
  rw [validateLiteral_eq]
  rcases h with h | h
  · rw [h]
  · rw [h]; split <;> simp_all

/-- **Ranges of the escape diagnostics (all token texts, all offsets).**  Every diagnostic is an
empty range strictly inside the token -- after the opening quote's byte, before the end -- and its
offset relative to the token is a character boundary of the token text. -/
theorem validateLiteral_ranges (kind : LitKind) (text : List Char) (tokStart : Nat) :
    ∀ e ∈ validateLiteral kind text tokStart,
      e.start = e.stop ∧ tokStart + 1 ≤ e.start ∧ e.stop < tokStart + utf8Len text ∧
      IsBoundary text (e.start - tokStart) := by
  intro e he
  rw [validateLiteral_eq] at he
  split at he
  · rename_i m w hm hw
    rw [pushErrs_eq] at he
    simp only [List.mem_map, List.mem_filter] at he
    obtain ⟨cb, ⟨hcb, _⟩, rfl⟩ := he
    obtain ⟨hle, hlen, hb, _, _⟩ := callback_ranges w m cb hcb
    obtain ⟨pre, post, ht, hp, hlt⟩ := unquote_spec text w '"' hw
    simp only [errOf]
    refine ⟨trivial, by omega, by omega, ?_⟩
    have := hb.shift pre post
    rw [← ht, hp] at this
    rw [show tokStart + (cb.start + 1) - tokStart = 1 + cb.start by omega]
    exact this
  · simp at he

/-- **In the file.**  When the token occupies `text` at offset `|before|` of the file
`before ++ text ++ after`, every escape diagnostic's range is ordered, within the file and on
character boundaries of the file. -/
theorem validateLiteral_in_file (kind : LitKind) (before text after : List Char) :
    ∀ e ∈ validateLiteral kind text (utf8Len before),
      e.start ≤ e.stop ∧ e.stop ≤ utf8Len (before ++ text ++ after) ∧
      IsBoundary (before ++ text ++ after) e.start ∧
      IsBoundary (before ++ text ++ after) e.stop := by
  intro e he
  obtain ⟨heq, hlo, hhi, hb⟩ := validateLiteral_ranges kind text _ e he
  have hs := hb.shift before after
  rw [show utf8Len before + (e.start - utf8Len before) = e.start by omega] at hs
  refine ⟨by omega, ?_, hs, heq ▸ hs⟩
  rw [utf8Len_append, utf8Len_append]; omega

/-- **The offsets strictly increase**: no two escape diagnostics of a literal at the same place,
and they are reported in text order. -/
theorem validateLiteral_strictly_increasing (kind : LitKind) (text : List Char) (tokStart : Nat) :
    ((validateLiteral kind text tokStart).map (·.start)).Pairwise (· < ·) := by
  rw [validateLiteral_eq]
  split
  · rename_i m w _ _
    rw [pushErrs_eq, List.map_map, List.pairwise_map]
    refine ((callbacks_ordered w m).filter _).imp_of_mem ?_
    intro a b ha hb hab
    simp only [List.mem_filter] at ha
    obtain ⟨ha, hfa⟩ := ha
    have hwa : isWarning a = false := by
      unfold isFatalErr at hfa; unfold isWarning
      split <;> simp_all
    have := (callback_ranges w m a ha).2.2.2.2 hwa
    have := hab.2 hwa
    simp only [Function.comp, errOf]
    omega
  · simp

theorem strLoop_bits (L : Nat) : ∀ (w : List Char) (fuel : Nat) (out : List Callback),
    (∀ c ∈ w, c = '0' ∨ c = '1' ∨ c = '_') → strLoop .bitStr L fuel w = some out →
    ∀ cb ∈ out, cb.err = none := by
  intro w
  induction w with
  | nil => intro fuel out _ h; cases fuel <;> simp_all [strLoop]
  | cons c cs ih =>
    intro fuel out hw h
    cases fuel with
    | zero => simp [strLoop] at h
    | succ fuel =>
      have hc := hw c (List.mem_cons_self ..)
      have hcs : ∀ d ∈ cs, d = '0' ∨ d = '1' ∨ d = '_' :=
        fun d hd => hw d (List.mem_cons_of_mem _ hd)
      have key : ∀ o, strLoop .bitStr L fuel cs = some o → ∀ cb ∈ o, cb.err = none :=
        fun o ho => ih fuel o hcs ho
      rcases hc with rfl | rfl | rfl <;>
      · simp only [strLoop] at h
        rw [if_neg (by decide)] at h
        simp only [Option.map_eq_some_iff] at h
        obtain ⟨o, ho, rfl⟩ := h
        intro cb hcb
        simp only [List.mem_cons] at hcb
        rcases hcb with rfl | hcb
        · dsimp only; decide
        · exact key o ho cb hcb

/-- **Bit strings.**  Between its quotes a lexed `BIT_STRING` token contains only `0`, `1`, `_`;
on such contents `unescape_literal(.., Mode::BitStr, ..)` calls back with `Ok` only, so
`validate_literal` reports nothing (the `FIXME. Makes no sense for bit string` arm is harmless). -/
theorem bitString_contents_no_errors (text w : List Char) (tokStart : Nat)
    (hw : unquote text 1 '"' = some w) (hbits : ∀ c ∈ w, c = '0' ∨ c = '1' ∨ c = '_') :
    (∀ cb ∈ unescapeLiteral w .bitStr, cb.err = none) ∧
      validateLiteral .bitString text tokStart = [] := by
  have h1 : ∀ cb ∈ unescapeLiteral w .bitStr, cb.err = none := by
    rw [unescapeLiteral_eq]
    exact strLoop_bits _ w _ _ hbits (unescapeStrCommon_eq w .bitStr _ (Nat.le_refl _))
  refine ⟨h1, ?_⟩
  rw [validateLiteral_shift .bitString .bitStr text w tokStart rfl hw]
  rw [List.map_eq_nil_iff, List.filter_eq_nil_iff]
  intro cb hcb
  simp [isFatalErr, h1 cb hcb]

/-- `"é\q"` at offset 10: one diagnostic, at the backslash AFTER the two-byte `é`
(10 + 1 + 2), a character boundary; 12 (inside `é`) is not one. -/
example : validateLiteral .string "\"é\\q\"".toList 10 = [⟨13, 13, "Invalid escape"⟩] := by decide
example : IsBoundary "\"é\\q\"".toList (13 - 10) := by decide
example : ¬ IsBoundary "\"é\\q\"".toList (12 - 10) := by decide

/-- `"\u{110000}😀"`: out-of-range escape followed by a four-byte character -/
example : validateLiteral .string "\"\\u{110000}😀\"".toList 0 =
    [⟨1, 1, "Unicode escape code must be at most 0x10FFFF"⟩] := by decide
example : (unescapeLiteral "\\u{110000}😀".toList .str).map (fun cb => (cb.start, cb.stop)) =
    [(0, 10), (10, 14)] := by decide

/-- two errors, multi-byte characters before, between and after; `\u{zz}` stops at the first bad
digit -/
example : (validateLiteral .string "\"😀\\qé\\u{zé}\"".toList 0).map (fun e => (e.start, e.stop)) =
    [(5, 5), (9, 9)] := by decide
example : (unescapeLiteral "😀\\qé\\u{zé}".toList .str).map (fun cb => (cb.start, cb.stop)) =
    [(0, 4), (4, 6), (6, 8), (8, 12), (12, 14), (14, 15)] := by decide

/-- a line continuation: both warnings are produced (overlapping what follows) and dropped by
`validate_literal`; the error after the skipped whitespace is reported at the right place -/
example : unescapeLiteral "\\\n \n\u00a0\\q".toList .str =
    [⟨0, 4, some .multipleSkippedLinesWarning⟩, ⟨0, 6, some .unskippedWhitespaceWarning⟩,
     ⟨4, 6, none⟩, ⟨6, 8, some .invalidEscape⟩] := by decide
example : validateLiteral .string "\"\\\n \n\u00a0\\q\"".toList 0 = [⟨7, 7, "Invalid escape"⟩] := by
  decide

/-- quirks of `unquote`: the LAST `"` of the token text counts, also in a single-quoted token;
an unterminated literal that ends in `\"` is validated up to that quote -/
example : validateLiteral .string "'a\"b\\q'".toList 0 = [] := by decide
example : validateLiteral .string "'\"\\q\"'".toList 0 =
    [⟨1, 1, "Escape character `\\` must be escaped itself"⟩, ⟨2, 2, "Invalid escape"⟩] := by decide
example : validateLiteral .string "\"abc\\\"".toList 0 =
    [⟨4, 4, "Character must be escaped: `\\`"⟩] := by decide
example : validateLiteral .string "\"abc".toList 0 = [] := by decide
example : validateLiteral .bitString "\"0_1\"".toList 0 = [] := by decide
example : validateLiteral .bitString "\"é\\u{41}\"".toList 0 =
    [⟨1, 1, "Byte literals must not contain non-ASCII characters"⟩,
     ⟨3, 3, "Byte literals must not contain unicode escapes"⟩] := by decide

end Oq3.Props.C12Escape
