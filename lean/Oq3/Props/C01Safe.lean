/-
C01 (strengthening) — the grammar model never hits an assertion.

For every input (kinds, joint bits), every fuel and every setting of the no-progress hook, a run of
`source_file` (and of the `expr` entry point) that does not return normally fails with one of
exactly three outcomes: the fuel of the MODEL ran out, or one of the two HANG DETECTORS fired —
`Parser::nth`'s step limit ("the parser seems stuck") or the `oq3_verif` hook ("no progress").
In particular none of the following is reachable:

* the 27 `assert!(p.at(..))` of the grammar functions, the `unreachable!()` of `at_list_end_token`,
  `Parser::bump`'s assertion, `nth(n)` with `n > 3`, an out-of-range `Input::is_joint` (it is only
  evaluated when the next token exists: `at_total`), `eat(EOF)`, a composite kind without 2 or 3
  pieces                                                                     (`tokSites`);
* `Marker::complete` / `abandon` / `CompletedMarker::precede` / `extend_to` hitting
  `unreachable!()` or a `u32` underflow, and the four `modelError`s that stand for Rust's move
  discipline (complete twice, complete with TOMBSTONE, abandon of a forward-parent marker,
  extend_to of an uncompleted marker)                                        (`markSites`);
* the `DropBomb` of a marker that is neither completed nor abandoned (`live` returns to 0).

Method: two weakest-precondition specifications of all 85 functions of the mutual block and of the leaf
functions (18 resp. 17 lemmas), generated by `tools/gen_grammar_safe.py` and checked by Lean:
`Lemmas/GrammarSafeTok.lean` (per-function token preconditions: a function that starts with
`assert!(p.at(K))` or `bump(K)` requires the current token to be `K`, and every call site
discharges it from the branch it sits in; `current_op` hands `bump` an operator that is there; each body
is walked once with the judgement `TW` of `Lemmas/SafeTok.lean`) and
`Lemmas/GrammarSafeMark*.lean` (the clauses of `AllMark`: liveness of marker arguments, frame
conditions, completed results, `live` accounting; each body is walked once with the judgement `MW`
of `Lemmas/SafeMark.lean`).  The tolerated-failure set of the first proof is a POSITIVE list, so the
two proofs together also show that no other failure exists.

Excluded: nothing.
-/
import Oq3.Lemmas.GrammarSafeTok
import Oq3.Lemmas.GrammarSafeMark
import Oq3.Props.C01

namespace Oq3.Props.C01Safe
open Oq3.Gen Oq3.Parser Oq3.Grammar

/-- fuel exhaustion of the model, or one of the two hang detectors -/
def Hang (o : Outcome) : Prop := o ∈ hangSites

theorem hang_of_both {o : Outcome} (h1 : A1 o) (h2 : A2 o) : Hang o := by
  unfold A1 at h1; unfold A2 at h2
  rcases List.mem_append.mp h1 with h | h
  · exact h
  · exact absurd h h2

theorem error_of_wp {α} {A : Outcome → Prop} {x : G α} {Q : α → P → Prop} {s : P} {o : Outcome}
    (h : wp A x Q s) (he : x s = .error o) : A o := by
  unfold wp post at h; rw [he] at h; exact h

theorem ok_of_wp {α} {A : Outcome → Prop} {x : G α} {Q : α → P → Prop} {s : P} {a : α} {s' : P}
    (h : wp A x Q s) (he : x s = .ok (a, s')) : Q a s' := by
  unfold wp post at h; rw [he] at h; exact h

theorem sourceFile_mark (fuel : Nat) (s : P) (hpre : MG s) :
    wp A2 (sourceFile fuel) (fun _ s' => MG s' ∧ s'.live = s.live) s := by
  have ih := allMark fuel
  refine wp_conseq (MW.field0' (fun a => ?_) s hpre) fun _ _ h => ⟨h.1, h.2.2⟩
  unfold sourceFile; mw [sourceFileContents (MW.call0 (ih.sourceFileContents _))]

theorem entryExpr_mark (fuel : Nat) (s : P) (hpre : MG s) :
    wp A2 (entryExpr fuel) (fun _ s' => MG s' ∧ s'.live = s.live) s := by
  have ih := allMark fuel
  have hb : ∀ n (t : P), MG t → wp A2 (bumpUntilEof n) (fun _ t' => St0 t t') t := by
    intro n
    induction n with
    | zero => exact MW.field0' fun a => by unfold bumpUntilEof; mw []
    | succ n ihn => exact MW.field0' fun a => by unfold bumpUntilEof; mw [bumpUntilEof (MW.call0 ihn)]
  refine wp_conseq (MW.field0' (fun a => ?_) s hpre) fun _ _ h => ⟨h.1, h.2.2⟩
  unfold entryExpr; mw [expr (MW.call0 ih.expr), bumpUntilEof (MW.call0 (hb fuel))]

def init (kinds : Array SyntaxKind) (joint : Array Bool) (npl : Nat) : P :=
  { kinds := kinds, joint := joint, noProgressLimit := npl }

theorem init_MG (kinds : Array SyntaxKind) (joint : Array Bool) (npl : Nat) : MG (init kinds joint npl) := by
  intro p hp; cases hp

/-- **The grammar never asserts** (`source_file`): a failing run fails with fuel exhaustion of the
model or with one of the two hang detectors — no `assert!`, no `bump` assertion, no marker-API
failure, no `modelError`. -/
theorem grammar_never_asserts (fuel : Nat) (kinds : Array SyntaxKind) (joint : Array Bool) (npl : Nat)
    (o : Outcome) (h : sourceFile fuel (init kinds joint npl) = .error o) : Hang o :=
  hang_of_both (error_of_wp (sourceFile_tok fuel _) h)
    (error_of_wp (sourceFile_mark fuel _ (init_MG kinds joint npl)) h)

theorem grammar_never_asserts_expr (fuel : Nat) (kinds : Array SyntaxKind) (joint : Array Bool) (npl : Nat)
    (o : Outcome) (h : entryExpr fuel (init kinds joint npl) = .error o) : Hang o :=
  hang_of_both (error_of_wp (entryExpr_tok fuel _) h)
    (error_of_wp (entryExpr_mark fuel _ (init_MG kinds joint npl)) h)

/-- from ANY state whose ghost list of protected positions is sane -/
theorem sourceFile_never_asserts_from (fuel : Nat) (s : P) (hs : MG s) (o : Outcome)
    (h : sourceFile fuel s = .error o) : Hang o :=
  hang_of_both (error_of_wp (sourceFile_tok fuel s) h) (error_of_wp (sourceFile_mark fuel s hs) h)

/-- every marker is consumed: no `DropBomb` -/
theorem no_drop_bomb (fuel : Nat) (kinds : Array SyntaxKind) (joint : Array Bool) (npl : Nat)
    (u : Unit) (s' : P) (h : sourceFile fuel (init kinds joint npl) = .ok (u, s')) : s'.live = 0 :=
  (ok_of_wp (sourceFile_mark fuel _ (init_MG kinds joint npl)) h).2

theorem parseWith_hang {x : G Unit} {kinds : Array SyntaxKind} {joint : Array Bool} {npl : Nat}
    (herr : ∀ o, x (init kinds joint npl) = .error o → Hang o)
    (hlive : ∀ u s', x (init kinds joint npl) = .ok (u, s') → s'.live = 0)
    (o : Outcome) (h : parseWith x kinds joint npl = .error o) : Hang o := by
  unfold parseWith at h
  simp only [StateT.run] at h
  split at h
  · rename_i u s hs
    have := hlive u s hs
    simp [this] at h
  · rename_i e he
    simp only [Except.error.injEq] at h
    subst h
    exact herr _ he

/-- a failure of `parse` other than the `DropBomb` is a failure of the grammar -/
theorem parseSourceFile_error (fuel : Nat) (kinds : Array SyntaxKind) (joint : Array Bool) (npl : Nat) (o : Outcome)
    (h : parseSourceFile fuel kinds joint npl = .error o) (ho : o ≠ .panic "Marker dropped (DropBomb)") :
    sourceFile fuel (init kinds joint npl) = .error o := by
  unfold parseSourceFile parseWith at h
  simp only [StateT.run] at h
  split at h
  · split at h
    · injection h with h; exact absurd h.symm ho
    · cases h
  · rename_i e he
    injection h with h
    subst h
    exact he

/-- a successful `parse` is a successful run of the grammar -/
theorem parseSourceFile_ok (fuel : Nat) (kinds : Array SyntaxKind) (joint : Array Bool) (npl : Nat)
    (events : Array Ev) (pos : Nat) (h : parseSourceFile fuel kinds joint npl = .ok (events, pos)) :
    ∃ u s', sourceFile fuel (init kinds joint npl) = .ok (u, s') ∧ s'.events = events ∧ s'.pos = pos := by
  unfold parseSourceFile parseWith at h
  simp only [StateT.run] at h
  split at h
  · rename_i u s' he
    split at h
    · cases h
    · injection h with h
      injection h with h1 h2
      exact ⟨u, s', he, h1, h2⟩
  · cases h

/-- **`parse` panics only on a hang**: if the model's `TopEntryPoint::SourceFile.parse` reports a
panic, it is the step limit of `Parser::nth` or the no-progress hook -/
theorem parse_panics_only_on_hang (fuel : Nat) (kinds : Array SyntaxKind) (joint : Array Bool) (npl : Nat)
    (site : String) (h : parseSourceFile fuel kinds joint npl = .error (.panic site)) :
    site = "Parser::nth the parser seems stuck" ∨ site = "oq3_verif: no progress" := by
  have hh : Hang (.panic site) :=
    parseWith_hang (grammar_never_asserts fuel kinds joint npl) (no_drop_bomb fuel kinds joint npl) _ h
  simp only [Hang, hangSites, List.mem_cons, Outcome.panic.injEq, List.mem_nil_iff, or_false,
    reduceCtorEq, false_or] at hh
  exact hh

/-- … and it never reports a `modelError`: the model uses the marker API as Rust's move semantics
require -/
theorem parse_no_modelError (fuel : Nat) (kinds : Array SyntaxKind) (joint : Array Bool) (npl : Nat)
    (msg : String) : parseSourceFile fuel kinds joint npl ≠ .error (.modelError msg) := by
  intro h
  have hh : Hang (.modelError msg) :=
    parseWith_hang (grammar_never_asserts fuel kinds joint npl) (no_drop_bomb fuel kinds joint npl) _ h
  simp [Hang, hangSites] at hh

theorem parseExpr_panics_only_on_hang (fuel : Nat) (kinds : Array SyntaxKind) (joint : Array Bool)
    (npl : Nat) (site : String) (h : parseExpr fuel kinds joint npl = .error (.panic site)) :
    site = "Parser::nth the parser seems stuck" ∨ site = "oq3_verif: no progress" := by
  have hl : ∀ u s', entryExpr fuel (init kinds joint npl) = .ok (u, s') → s'.live = 0 :=
    fun u s' h => (ok_of_wp (entryExpr_mark fuel _ (init_MG kinds joint npl)) h).2
  have hh : Hang (.panic site) :=
    parseWith_hang (grammar_never_asserts_expr fuel kinds joint npl) hl _ h
  simp only [Hang, hangSites, List.mem_cons, Outcome.panic.injEq, List.mem_nil_iff, or_false,
    reduceCtorEq, false_or] at hh
  exact hh

/-- **C01, parser part, in one statement**: the model's parse of any input either returns —
and then the event list is one rooted balanced tree with sound forward-parent links that accounts
for every token and stops at end of input (`ParseOk`, from `Props/C01.lean`) — or runs out of
model fuel, or is stopped by one of the two hang detectors.  With the hook off (`npl = 0`) and
unbounded fuel the last two can only mean non-termination of the real parser. -/
theorem parse_returns_or_hangs (fuel : Nat) (kinds : Array SyntaxKind) (joint : Array Bool) (npl : Nat) :
    (∃ events pos, parseSourceFile fuel kinds joint npl = .ok (events, pos) ∧
        ParseOk kinds joint events.toList pos) ∨
    parseSourceFile fuel kinds joint npl = .error .fuel ∨
    parseSourceFile fuel kinds joint npl = .error (.panic "Parser::nth the parser seems stuck") ∨
    parseSourceFile fuel kinds joint npl = .error (.panic "oq3_verif: no progress") := by
  cases hr : parseSourceFile fuel kinds joint npl with
  | ok p =>
    obtain ⟨events, pos⟩ := p
    exact Or.inl ⟨events, pos, rfl, C01.parse_ok fuel kinds joint npl events pos hr⟩
  | error o =>
    right
    have hh : Hang o :=
      parseWith_hang (grammar_never_asserts fuel kinds joint npl) (no_drop_bomb fuel kinds joint npl) _ hr
    simp only [Hang, hangSites, List.mem_cons, List.mem_nil_iff, or_false] at hh
    rcases hh with rfl | rfl | rfl
    · exact Or.inl rfl
    · exact Or.inr (Or.inl rfl)
    · exact Or.inr (Or.inr rfl)

end Oq3.Props.C01Safe
