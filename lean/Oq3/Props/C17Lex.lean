/-
C17 (layout invariance) — the lexer / bridge / parser half, and the end-to-end statement.

Two LAYOUTS of the same lexeme list in the sense of C15 (`Oq3/Ref/Lexeme.lean`,
`Props/C15.lean`): `(lead, items)` with `items : List (Lexeme × Sep)` — a leading separator and,
after every lexeme, a separator (a list of whitespace / comment trivia, possibly empty), admissible
(`sepOK`, `itemsOK`).  Side condition on the lexeme level, `glueGapsAgree items₁ items₂`:

    wherever lexemes i and i+1 are adjacent pieces of a composite operator (`gluePair`: `>` `>`,
    `>` `=`, `-` `>`, `=` `=`, `&` `&`, …), the two layouts both put nothing between them or both
    put something between them

(formally: bit i of `jointOf` agrees, where `jointOf items` bit i = the separator after lexeme i is
empty and i is not the last lexeme, or lexeme i is a `FLOAT_NUMBER` whose text does not end with
`.`).  This is what
decides whether `> > =` is `>>=`: composite operators are glued in both layouts or in neither.
Everywhere else whitespace and comments may be inserted or removed freely (as far as the lexemes
stay the same lexemes: `itemsOK`).  `sameGaps` / `jointOf` equal are stronger conditions.

(a) `layout_input`: `to_input` of an admissible layout is exactly
    `⟨kinds of the lexemes, jointOf items⟩`; hence two layouts with `jointOf` equal give the parser
    the same input (`layout_same_input`), and their raw tokens have the same non-trivia part
    (`layout_nt`).
(b) `parse_jagree` (parser lemma `JI`, `Lemmas/JointInsens.lean` + generated
    `Lemmas/GrammarJI.lean`): the parser reads a joint bit only between adjacent pieces of a
    composite; hence `layout_same_events`: `parseSourceFile` gives the same events on the two
    layouts, and `process` the same steps.
(c) `builder_ready`: for the builder's token table of either layout and those steps, `glueOk`
    holds (`glueOk_of_fits` after `C02.parse_fits`: the parser invariant's `glue`/`gluek` and
    `Bridge.joint_exact`, through `fits_of_adj`); no step is a token of a trivia kind
    (`parse_tokNT`: parser invariant `TokNT`, `Lemmas/TokKinds.lean` + generated
    `Lemmas/GrammarTokKinds.lean`); and `build_tree` succeeds on both.
So `layout_invariant_tokens_to_ast` of `Props/C17Layout.lean` applies without extra hypotheses,
and `C17.span_irrelevant` after it: `layout_invariant_text_ast`, `layout_invariant_text`.
-/
import Oq3.Lemmas.GrammarTokKinds
import Oq3.Lemmas.GrammarJI
import Oq3.Props.C15
import Oq3.Props.C02Full
import Oq3.Props.C17Layout

namespace Oq3.C17Lex
open Oq3.Gen Oq3.Lexer Oq3.Lexed Oq3.Ref Oq3.Parser Oq3.Grammar Oq3.Builder Oq3.Bridge
open Oq3.Lemmas.Lexer Oq3.Lemmas.Lexed Oq3.Lemmas.LexLocal Oq3.Props.C15 Oq3.BuilderLayout

variable {uc : UC}

/-- `to_input` marks a `FLOAT_NUMBER` whose text does not end with `.` joint, whatever follows -/
def floatJoint (l : Lexeme) : Bool := l.kind == .FLOAT_NUMBER && !endsWithDot l.text

def jointOf : List (Lexeme × Sep) → List Bool
  | [] => []
  | (l, s) :: r => ((s.isEmpty && !r.isEmpty) || floatJoint l) :: jointOf r

def sameGaps (items₁ items₂ : List (Lexeme × Sep)) : Prop :=
  items₁.map (fun p => p.2.isEmpty) = items₂.map (fun p => p.2.isEmpty)

theorem jointOf_of_sameGaps {items₁ items₂ : List (Lexeme × Sep)}
    (hsame : items₁.map (·.1) = items₂.map (·.1)) (hg : sameGaps items₁ items₂) :
    jointOf items₁ = jointOf items₂ := by
  induction items₁ generalizing items₂ with
  | nil =>
    cases items₂ with
    | nil => rfl
    | cons q r => simp at hsame
  | cons p r ih =>
    cases items₂ with
    | nil => simp at hsame
    | cons q r' =>
      obtain ⟨l, s⟩ := p
      obtain ⟨l', s'⟩ := q
      simp only [List.map_cons, List.cons.injEq, sameGaps] at hsame hg
      obtain ⟨hl, hr⟩ := hsame
      obtain ⟨hs, hgr⟩ := hg
      subst hl
      have hlen : r.isEmpty = r'.isEmpty := by
        have := congrArg List.length hr
        simp only [List.length_map] at this
        cases r <;> cases r' <;> simp_all
      simp only [jointOf, hs, hlen, ih hr hgr]

theorem rawOf_lexTok (l : Lexeme) (hwf : l.WF uc = true) : rawOf (lexTok l) = ⟨l.kind, l.text⟩ := by
  simp only [rawOf, (lexTok_entry l hwf).1]; rfl

theorem rawOf_triviaTok_trivia (t : Trivia) : (rawOf (triviaTok t)).kind.isTrivia = true :=
  (triviaTok_entry t).1

def sepRaw (s : Sep) : List RawTok := s.map fun t => rawOf (triviaTok t)

def itemsRaw : List (Lexeme × Sep) → List RawTok
  | [] => []
  | (l, s) :: r => ⟨l.kind, l.text⟩ :: (sepRaw s ++ itemsRaw r)

theorem sepRaw_trivia (s : Sep) : ∀ t ∈ sepRaw s, t.kind.isTrivia = true := by
  intro t ht
  obtain ⟨x, _, rfl⟩ := List.mem_map.mp ht
  exact rawOf_triviaTok_trivia x

theorem layoutToks_raw (lead : Sep) (items : List (Lexeme × Sep))
    (hwf : ∀ p ∈ items, p.1.WF uc = true) :
    (layoutToks lead items).map rawOf = sepRaw lead ++ itemsRaw items := by
  simp only [layoutToks, List.map_append, List.map_map, sepRaw]
  congr 1
  induction items with
  | nil => rfl
  | cons p r ih =>
    obtain ⟨l, s⟩ := p
    simp only [List.map_cons, List.flatten_cons, List.map_append, itemsRaw, List.cons_append,
      rawOf_lexTok l (hwf (l, s) (by simp)), List.map_map, sepRaw]
    rw [ih (fun q hq => hwf q (by simp [hq]))]
    rfl

theorem append_trivia {β : Type} (f : List RawTok → β)
    (hf : ∀ t r, t.kind.isTrivia = true → f (t :: r) = f r) (a b : List RawTok)
    (h : ∀ t ∈ a, t.kind.isTrivia = true) : f (a ++ b) = f b := by
  induction a with
  | nil => rfl
  | cons t r ih =>
    rw [List.cons_append, hf t _ (h t (by simp))]
    exact ih (fun x hx => h x (by simp [hx]))

theorem ntKinds_append_trivia (a b : List RawTok) (h : ∀ t ∈ a, t.kind.isTrivia = true) :
    ntKinds (a ++ b) = ntKinds b :=
  append_trivia ntKinds (fun t r ht => by simp [ntKinds, ht]) a b h

theorem jointSpec_append_trivia (a b : List RawTok) (h : ∀ t ∈ a, t.kind.isTrivia = true) :
    jointSpec (a ++ b) = jointSpec b :=
  append_trivia jointSpec (fun t r ht => by simp [jointSpec, ht]) a b h

theorem nt_append_trivia (a b : List RawTok) (h : ∀ t ∈ a, t.kind.isTrivia = true) :
    nt (a ++ b) = nt b :=
  append_trivia nt (fun _ _ ht => nt_cons_trivia ht) a b h

theorem headNonTrivia_sep_items (s : Sep) (r : List (Lexeme × Sep))
    (hwf : ∀ p ∈ r, p.1.WF uc = true) :
    headNonTrivia (sepRaw s ++ itemsRaw r) = (s.isEmpty && !r.isEmpty) := by
  cases s with
  | cons t ts =>
    simp only [sepRaw, List.map_cons, List.cons_append, headNonTrivia, rawOf_triviaTok_trivia,
      Bool.not_true, List.isEmpty_cons, Bool.false_and]
  | nil =>
    cases r with
    | nil => rfl
    | cons p r' =>
      obtain ⟨l, s'⟩ := p
      have := lexeme_kind_not_trivia l (hwf (l, s') (by simp))
      simp [sepRaw, itemsRaw, headNonTrivia, this]

theorem itemsRaw_spec (items : List (Lexeme × Sep)) (hwf : ∀ p ∈ items, p.1.WF uc = true) :
    ntKinds (itemsRaw items) = items.map (·.1.kind) ∧ jointSpec (itemsRaw items) = jointOf items ∧
    nt (itemsRaw items) = items.map (fun p => ⟨p.1.kind, p.1.text⟩) := by
  induction items with
  | nil => exact ⟨rfl, rfl, rfl⟩
  | cons p r ih =>
    obtain ⟨l, s⟩ := p
    have hl := lexeme_kind_not_trivia l (hwf (l, s) (by simp))
    have hr : ∀ q ∈ r, q.1.WF uc = true := fun q hq => hwf q (by simp [hq])
    obtain ⟨i1, i2, i3⟩ := ih hr
    refine ⟨?_, ?_, ?_⟩
    · simp only [itemsRaw, ntKinds, List.filter_cons, hl, Bool.not_false, if_true, List.map_cons]
      have := ntKinds_append_trivia (sepRaw s) (itemsRaw r) (sepRaw_trivia s)
      simp only [ntKinds] at this i1
      rw [this, i1]
    · simp only [itemsRaw, jointSpec, hl, Bool.false_eq_true, if_false, jointOf, floatJoint]
      rw [jointSpec_append_trivia _ _ (sepRaw_trivia s), i2, headNonTrivia_sep_items s r hr]
    · simp only [itemsRaw, List.map_cons]
      rw [nt_cons_non hl, nt_append_trivia _ _ (sepRaw_trivia s), i3]

theorem layout_rawToks (hu : AsciiUC uc) (lead : Sep) (items : List (Lexeme × Sep))
    (hlead : sepOK lead (itemsText items) = true) (hitems : itemsOK uc items = true) :
    rawToksOf (lexedOf uc (sepText lead ++ itemsText items)) = sepRaw lead ++ itemsRaw items := by
  rw [rawToksOf_lexedOf, lexemes_raw_tokens hu lead items hlead hitems,
    layoutToks_raw lead items (itemsOK_wf hitems)]

theorem layout_input (hu : AsciiUC uc) (lead : Sep) (items : List (Lexeme × Sep))
    (hlead : sepOK lead (itemsText items) = true) (hitems : itemsOK uc items = true) :
    (lexedOf uc (sepText lead ++ itemsText items)).toInput =
      some ⟨items.map (·.1.kind), jointOf items⟩ := by
  rw [toInput_exact, layout_rawToks hu lead items hlead hitems,
    ntKinds_append_trivia _ _ (sepRaw_trivia lead), jointSpec_append_trivia _ _ (sepRaw_trivia lead),
    (itemsRaw_spec items (itemsOK_wf hitems)).1, (itemsRaw_spec items (itemsOK_wf hitems)).2.1]

theorem layout_nt_eq (hu : AsciiUC uc) (lead : Sep) (items : List (Lexeme × Sep))
    (hlead : sepOK lead (itemsText items) = true) (hitems : itemsOK uc items = true) :
    nt (rawToksOf (lexedOf uc (sepText lead ++ itemsText items))) =
      items.map (fun p => ⟨p.1.kind, p.1.text⟩) := by
  rw [layout_rawToks hu lead items hlead hitems, nt_append_trivia _ _ (sepRaw_trivia lead),
    (itemsRaw_spec items (itemsOK_wf hitems)).2.2]

theorem kinds_of_same {items₁ items₂ : List (Lexeme × Sep)}
    (hsame : items₁.map (·.1) = items₂.map (·.1)) :
    items₁.map (·.1.kind) = items₂.map (·.1.kind) := by
  have := congrArg (List.map Lexeme.kind) hsame
  simp only [List.map_map] at this
  exact this

section TwoLayouts
variable (hu : AsciiUC uc) (lead₁ lead₂ : Sep) (items₁ items₂ : List (Lexeme × Sep))
  (hsame : items₁.map (·.1) = items₂.map (·.1))
  (h1 : sepOK lead₁ (itemsText items₁) = true) (h1' : itemsOK uc items₁ = true)
  (h2 : sepOK lead₂ (itemsText items₂) = true) (h2' : itemsOK uc items₂ = true)
include hu hsame h1 h1' h2 h2'

theorem layout_nt :
    nt (rawToksOf (lexedOf uc (sepText lead₁ ++ itemsText items₁))) =
      nt (rawToksOf (lexedOf uc (sepText lead₂ ++ itemsText items₂))) := by
  rw [layout_nt_eq hu lead₁ items₁ h1 h1', layout_nt_eq hu lead₂ items₂ h2 h2']
  have : ∀ items : List (Lexeme × Sep),
      items.map (fun p => (⟨p.1.kind, p.1.text⟩ : RawTok)) =
        (items.map (·.1)).map (fun l => (⟨l.kind, l.text⟩ : RawTok)) := by
    intro items; simp [List.map_map]
  rw [this, this, hsame]

theorem layout_same_input (hj : jointOf items₁ = jointOf items₂) :
    (lexedOf uc (sepText lead₁ ++ itemsText items₁)).toInput =
      (lexedOf uc (sepText lead₂ ++ itemsText items₂)).toInput := by
  rw [layout_input hu lead₁ items₁ h1 h1', layout_input hu lead₂ items₂ h2 h2', hj,
    kinds_of_same hsame]

end TwoLayouts

theorem takeN_all {r r' : List RawTok} {n : Nat} (h : takeN r n = some r') :
    (r.take n).all (fun t => !t.kind.isTrivia) = true := by
  induction n generalizing r with
  | zero => simp
  | succ n ih =>
    cases r with
    | nil => simp [takeN] at h
    | cons t r0 =>
      simp only [takeN] at h
      split at h
      · simp at h
      · rename_i ht
        simp only [List.take_succ_cons, List.all_cons, Bool.and_eq_true]
        exact ⟨by simpa using ht, ih h⟩

/-- fit ⇒ glue: a token step that finds, after the leading trivia, its `n` consecutive non-trivia
raw tokens swallows no trivia token -/
theorem glueOkFrom_of_fits (toks : List RawTok) (ss : List Step) (b : B) (hst : b.state ≠ .pendingEnter)
    (hfit : fitsGo (toks.drop b.pos) (itemsS ss) = true) : glueOkFrom toks ss b = true := by
  induction ss generalizing b with
  | nil => rfl
  | cons s ss ih =>
    obtain ⟨b', hb', hs', hf'⟩ := step_fit toks b s ss hst hfit
    simp only [glueOkFrom, hb', Bool.and_eq_true]
    refine ⟨?_, ih b' hs' hf'⟩
    cases s with
    | token k n =>
      simp only [stepGlue, tokenGlue]
      simp only [itemsS, fitsGo] at hfit
      split at hfit
      · simp at hfit
      · rw [(eatTrivias_drop toks b).1]
        split at hfit
        · rename_i r' hr'; exact takeN_all hr'
        · simp at hfit
    | enter k => rfl
    | exit => rfl
    | error m => rfl

theorem glueOk_of_fits (toks : List RawTok) (ss : List Step) (hr : rooted ss = true)
    (hfit : fitsGo toks (itemsS ss) = true) : glueOk toks ss = true := by
  match ss, hr with
  | .enter k :: rest, hr =>
    simp only [itemsS] at hfit
    simp only [glueOk, glueOkFrom, step, stepGlue, Bool.true_and]
    exact glueOkFrom_of_fits toks rest _ (by simp [emit]) (by simpa [emit] using hfit)

def itemNT : Item → Bool
  | .token k _ => !k.isTrivia
  | .error _ => true

theorem tokenKindsOk_items (ss : List Step) : Oq3.BuilderLayout.tokenKindsOk ss = (itemsS ss).all itemNT := by
  induction ss with
  | nil => rfl
  | cons s ss ih =>
    simp only [Oq3.BuilderLayout.tokenKindsOk, List.all_cons] at ih ⊢
    cases s <;> simp [itemsS, itemNT, ih]

theorem itemsE_all (evs : List Ev) (h : evs.all evNT = true) : (itemsE evs).all itemNT = true := by
  induction evs with
  | nil => rfl
  | cons e es ih =>
    simp only [List.all_cons, Bool.and_eq_true] at h
    cases e <;> simp_all [itemsE, itemNT, evNT]

theorem parse_tokNT (fuel : Nat) (kinds : Array SyntaxKind) (joint : Array Bool) (npl : Nat)
    (events : Array Ev) (pos : Nat) (hk : ∀ k ∈ kinds.toList, k.isTrivia = false)
    (h : parseSourceFile fuel kinds joint npl = .ok (events, pos)) : events.toList.all evNT = true := by
  unfold parseSourceFile parseWith at h
  simp only [StateT.run] at h
  split at h
  · rename_i u s hs
    split at h
    · cases h
    · injection h with h
      injection h with h1 _
      subst h1
      have h0 : TokNT { kinds := kinds, joint := joint, noProgressLimit := npl } := by
        refine ⟨fun i => ?_, rfl⟩
        show (kinds.getD i .EOF).isTrivia = false
        by_cases hi : i < kinds.size
        · have : kinds.getD i .EOF = kinds[i] := by simp [Array.getD, hi]
          rw [this]; exact hk _ (by simp)
        · have : kinds.getD i .EOF = .EOF := by simp [Array.getD, hi]
          rw [this]; rfl
      exact ((sourceFile_tkp fuel).run _ _ h0 hs).2
  · cases h

theorem builder_ready (uc : UC) (s : List Char) (inp : Input) (fuel npl : Nat) (events : Array Ev)
    (pos : Nat) (steps : List Step) (hi : (lexedOf uc s).toInput = some inp)
    (hp : parseSourceFile fuel inp.kind.toArray inp.joint.toArray npl = .ok (events, pos))
    (hs : process events.toList = some steps) :
    glueOk (rawToksOf (lexedOf uc s)) steps = true ∧ Oq3.BuilderLayout.tokenKindsOk steps = true ∧
    ∃ tree errs, buildTree (rawToksOf (lexedOf uc s)) steps = .ok (tree, errs, true) := by
  obtain ⟨hrooted, hfit⟩ := Oq3.Props.C02.parse_fits uc s inp fuel npl events pos steps hi hp hs
  have hinp := toInput_exact uc s
  rw [hi] at hinp
  simp only [Option.some.injEq] at hinp
  subst hinp
  refine ⟨glueOk_of_fits _ _ hrooted hfit, ?_, ?_⟩
  · rw [tokenKindsOk_items, process_items _ _ hs]
    apply itemsE_all
    apply parse_tokNT fuel _ _ npl events pos _ hp
    intro k hk
    simp only [ntKinds, List.mem_map, List.mem_filter] at hk
    obtain ⟨t, ⟨_, ht⟩, rfl⟩ := hk
    simpa using ht
  · obtain ⟨out, hout⟩ := intersperse_fits _ steps hrooted hfit
    obtain ⟨k, cs, n, hbt, _⟩ := Oq3.Props.C02.buildTree_spec _ steps hrooted out true hout
    exact ⟨.node k cs, errorsOf out, hbt⟩

theorem option_map_trans {α β γ : Type} {x y : Option α} {f g : α → β} {f' g' : α → γ}
    (h : x.map f = y.map g) (hfg : ∀ a b, f a = g b → f' a = g' b) : x.map f' = y.map g' := by
  cases x <;> cases y
  · rfl
  · cases h
  · cases h
  · exact congrArg some (hfg _ _ (Option.some.inj h))

open Oq3.Acc in
theorem toOption_map_congr {γ : Type} {x y : BM Ast.Program} {f g : Ast.Program → γ}
    (h : x.map f = y.map g) :
    (match x with | .ok p => some p | .error _ => none).map f =
      (match y with | .ok p => some p | .error _ => none).map g := by
  cases x <;> cases y
  · rfl
  · cases h
  · cases h
  · exact congrArg some (Except.ok.inj h)

open Oq3.Acc Oq3.C17 Oq3.Sema in
/-- text ↦ typed AST: lexer, `to_input`, parser, `process`, `build_tree`, typed accessors.
`none`: some stage did not return normally (parser panic / out of fuel / hang detector, or a
typed accessor that panics: `BAD-AST`) -/
def frontEnd (uc : UC) (fuel npl : Nat) (s : List Char) : Option Ast.Program :=
  match LexedStr.new uc s with
  | none => none
  | some l =>
    match l.toInput with
    | none => none
    | some inp =>
      match parseSourceFile fuel inp.kind.toArray inp.joint.toArray npl with
      | .error _ => none
      | .ok (events, _) =>
        match process events.toList with
        | none => none
        | some steps =>
          match buildTree (rawToksOf l) steps with
          | .error _ => none
          | .ok (t, _, _) =>
            match Build.program (cnodeOf t) with
            | .ok p => some p
            | .error _ => none

theorem parse_jagree (fuel : Nat) (kinds : Array SyntaxKind) (joint joint' : Array Bool) (npl : Nat)
    (events : Array Ev) (pos : Nat) (hJ : JAgree kinds joint joint')
    (h : parseSourceFile fuel kinds joint npl = .ok (events, pos)) :
    parseSourceFile fuel kinds joint' npl = .ok (events, pos) := by
  unfold parseSourceFile parseWith at h ⊢
  simp only [StateT.run] at h ⊢
  split at h
  · rename_i u s hs
    have hA : JEq { kinds := kinds, joint := joint, noProgressLimit := npl }
        { kinds := kinds, joint := joint', noProgressLimit := npl } := ⟨joint', rfl, hJ⟩
    obtain ⟨t', ht', J', hte, _⟩ := (sourceFile_ji fuel).run _ _ (u, s) hA hs
    rw [ht']
    simp only
    subst hte
    exact h
  · cases h

/-- the lexeme-level side condition: at every `gluePair` position the two layouts either both
put nothing between the lexemes or both put something -/
def glueGapsAgree (items₁ items₂ : List (Lexeme × Sep)) : Prop :=
  ∀ i, gluePair ((items₁.map (·.1.kind)).getD i .EOF) ((items₁.map (·.1.kind)).getD (i + 1) .EOF) = true →
    (jointOf items₁).getD i false = (jointOf items₂).getD i false

theorem glueGapsAgree_of_jointOf {items₁ items₂ : List (Lexeme × Sep)}
    (h : jointOf items₁ = jointOf items₂) : glueGapsAgree items₁ items₂ := fun i _ => by rw [h]

theorem glueGapsAgree_of_sameGaps {items₁ items₂ : List (Lexeme × Sep)}
    (hsame : items₁.map (·.1) = items₂.map (·.1)) (hg : sameGaps items₁ items₂) :
    glueGapsAgree items₁ items₂ := glueGapsAgree_of_jointOf (jointOf_of_sameGaps hsame hg)

section EndToEnd
open Oq3.Acc Oq3.C17 Oq3.Sema
variable (hu : AsciiUC uc) (lead₁ lead₂ : Sep) (items₁ items₂ : List (Lexeme × Sep))
  (hsame : items₁.map (·.1) = items₂.map (·.1))
  (h1 : sepOK lead₁ (itemsText items₁) = true) (h1' : itemsOK uc items₁ = true)
  (h2 : sepOK lead₂ (itemsText items₂) = true) (h2' : itemsOK uc items₂ = true)
  (hj : glueGapsAgree items₁ items₂)
include hu hsame h1 h1' h2 h2' hj

theorem layout_same_events (fuel npl : Nat) (events : Array Ev) (pos : Nat)
    (h : parseSourceFile fuel (items₁.map (·.1.kind)).toArray (jointOf items₁).toArray npl = .ok (events, pos)) :
    parseSourceFile fuel (items₂.map (·.1.kind)).toArray (jointOf items₂).toArray npl = .ok (events, pos) := by
  rw [← kinds_of_same hsame]
  apply parse_jagree fuel _ _ _ npl events pos _ h
  intro i hi
  have := hj i (by simpa using hi)
  simpa using this

/-- **Layout invariance, text to typed AST.**  Two admissible layouts of one lexeme list that
agree on the gaps inside composite operators: the front end succeeds on both or on neither, and
the typed ASTs agree modulo spans. -/
theorem layout_invariant_text_ast (fuel npl : Nat) :
    (frontEnd uc fuel npl (sepText lead₁ ++ itemsText items₁)).map eraseSpans =
      (frontEnd uc fuel npl (sepText lead₂ ++ itemsText items₂)).map eraseSpans := by
  have hnt := layout_nt hu lead₁ lead₂ items₁ items₂ hsame h1 h1' h2 h2'
  have hi1 := layout_input hu lead₁ items₁ h1 h1'
  have hi2 := layout_input hu lead₂ items₂ h2 h2'
  have hj' : glueGapsAgree items₂ items₁ := by
    intro i hi
    rw [← kinds_of_same hsame] at hi
    exact (hj i hi).symm
  simp only [frontEnd, new_eq, hi1, hi2]
  cases hp : parseSourceFile fuel (items₁.map (·.1.kind)).toArray (jointOf items₁).toArray npl with
  | error e =>
    cases hp2 : parseSourceFile fuel (items₂.map (·.1.kind)).toArray (jointOf items₂).toArray npl with
    | error e2 => rfl
    | ok r =>
      obtain ⟨events, pos⟩ := r
      have := layout_same_events hu lead₂ lead₁ items₂ items₁ hsame.symm h2 h2' h1 h1' hj' fuel npl events pos hp2
      rw [hp] at this; cases this
  | ok r =>
    obtain ⟨events, pos⟩ := r
    have hp2 := layout_same_events hu lead₁ lead₂ items₁ items₂ hsame h1 h1' h2 h2' hj fuel npl events pos hp
    rw [hp2]
    simp only
    cases hs : process events.toList with
    | none => rfl
    | some steps =>
      simp only
      obtain ⟨g1, hk, t1, e1, hb1⟩ := builder_ready uc _ _ fuel npl events pos steps hi1 hp hs
      obtain ⟨g2, _, t2, e2, hb2⟩ := builder_ready uc _ _ fuel npl events pos steps hi2 hp2 hs
      rw [hb1, hb2]
      simp only
      have key := Oq3.C17Layout.layout_invariant_tokens_to_ast hnt hk g1 g2 hb1 hb2
      exact toOption_map_congr key

/-- **Layout invariance, text to analysis.**  Two admissible layouts of one lexeme list that
agree on the gaps inside composite operators are analysed to the same outcome: the front end
fails on both or on neither, and the semantic pass gives the same panic / fuel-out, or the same
context (graph, symbol table, diagnostics) modulo the positions stored in the diagnostics
(`erCtx`). -/
theorem layout_invariant_text (fuel npl afuel : Nat) :
    (frontEnd uc fuel npl (sepText lead₁ ++ itemsText items₁)).map (fun p => (analyzeWith afuel p).map erCtx) =
      (frontEnd uc fuel npl (sepText lead₂ ++ itemsText items₂)).map (fun p => (analyzeWith afuel p).map erCtx) := by
  have h := layout_invariant_text_ast hu lead₁ lead₂ items₁ items₂ hsame h1 h1' h2 h2' hj fuel npl
  exact option_map_trans h (fun _ _ he => span_irrelevant afuel he)

end EndToEnd

/-- the gap condition is about punctuation only -/
theorem glueGapsAgree_of_no_pairs {items₁ items₂ : List (Lexeme × Sep)}
    (h : ∀ i, gluePair ((items₁.map (·.1.kind)).getD i .EOF) ((items₁.map (·.1.kind)).getD (i + 1) .EOF) = false) :
    glueGapsAgree items₁ items₂ := fun i hi => by rw [h i] at hi; cases hi

theorem gluePair_examples :
    gluePair .R_ANGLE .R_ANGLE = true ∧ gluePair .R_ANGLE .EQ = true ∧ gluePair .MINUS .R_ANGLE = true ∧
    gluePair .EQ .EQ = true ∧ gluePair .IDENT .R_ANGLE = false ∧ gluePair .R_ANGLE .IDENT = false ∧
    gluePair .IDENT .IDENT = false ∧ gluePair .L_PAREN .R_PAREN = false := by decide

def glueGapsB (items₁ items₂ : List (Lexeme × Sep)) : Bool :=
  (List.range items₁.length).all fun i =>
    !gluePair ((items₁.map (·.1.kind)).getD i .EOF) ((items₁.map (·.1.kind)).getD (i + 1) .EOF) ||
      ((jointOf items₁).getD i false == (jointOf items₂).getD i false)

theorem gluePair_eof_left (b : SyntaxKind) : gluePair .EOF b = false := by
  have h : (SyntaxKind.all.all fun b => !gluePair .EOF b) = true := by decide
  have := (List.all_eq_true.mp h) b (mem_all b)
  simpa using this

theorem glueGapsAgree_of_check {items₁ items₂ : List (Lexeme × Sep)} (h : glueGapsB items₁ items₂ = true) :
    glueGapsAgree items₁ items₂ := by
  intro i hi
  by_cases hlt : i < items₁.length
  · have := (List.all_eq_true.mp h) i (List.mem_range.mpr hlt)
    rw [hi] at this
    simpa using this
  · have : (items₁.map (·.1.kind)).getD i .EOF = .EOF := by
      rw [List.getD_eq_getElem?_getD, List.getElem?_eq_none (by simp; omega)]; rfl
    rw [this, gluePair_eof_left] at hi
    cases hi

section Witness
open Oq3.Props.C14

/-- `a>>=b;` -/
def layA : List (Lexeme × Sep) :=
  [(.word ['a'], []), (.punct '>', []), (.punct '>', []), (.punct '=', []), (.word ['b'], []), (.punct ';', [])]

/-- ` a >>= /* c */ b ;⏎` — spaces and a comment inserted, `>>=` kept together -/
def layB : List (Lexeme × Sep) :=
  [(.word ['a'], [.ws [' ']]), (.punct '>', []), (.punct '>', []),
   (.punct '=', [.ws [' '], .block [' ', 'c', ' ', '*', '/'], .ws [' ']]),
   (.word ['b'], [.ws [' ']]), (.punct ';', [.ws ['\n']])]

/-- `a> >=b;` — the same lexemes, `>>=` torn apart: NOT equivalent (the side condition fails) -/
def layC : List (Lexeme × Sep) :=
  [(.word ['a'], []), (.punct '>', [.ws [' ']]), (.punct '>', []), (.punct '=', []),
   (.word ['b'], []), (.punct ';', [])]

theorem wit_same : layA.map (·.1) = layB.map (·.1) ∧ layA.map (·.1) = layC.map (·.1) := ⟨rfl, rfl⟩
theorem wit_gaps : glueGapsB layA layB = true ∧ glueGapsB layA layC = false := by decide +kernel

theorem wit_ok : itemsOK ucAscii layA = true ∧ itemsOK ucAscii layB = true ∧
    sepOK [] (itemsText layA) = true ∧ sepOK [.ws [' ']] (itemsText layB) = true := by decide +kernel

theorem wit_instance (fuel npl afuel : Nat) :
    (frontEnd ucAscii fuel npl (sepText [] ++ itemsText layA)).map
        (fun p => (Oq3.Sema.analyzeWith afuel p).map Oq3.C17.erCtx) =
      (frontEnd ucAscii fuel npl (sepText [.ws [' ']] ++ itemsText layB)).map
        (fun p => (Oq3.Sema.analyzeWith afuel p).map Oq3.C17.erCtx) :=
  layout_invariant_text Oq3.Props.C15.ucAscii_ok [] [.ws [' ']] layA layB wit_same.1 wit_ok.2.2.1 wit_ok.1
    wit_ok.2.2.2 wit_ok.2.1 (glueGapsAgree_of_check wit_gaps.1) fuel npl afuel
theorem wit_not_sameGaps : ¬ sameGaps layA layB := by simp [sameGaps, layA, layB]

end Witness

end Oq3.C17Lex
