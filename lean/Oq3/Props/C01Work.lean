/-
C01, termination clause: the LINEAR WORK BOUND and TERMINATION of the grammar model, read in one counter.

`Lemmas/GrammarCost.lean` states for every function `f` of `Oq3/Model/Grammar.lean`, with the work counter
`w = events + events since the last bump + nth-steps since the last bump` (`P.w`):

  if   the fuel suffices (`Props/C01Term.lean`), the position is inside the input, the budget `B` is below the
       two hang limits (`Lim B s`) and   w + A_f + workE * (tokens left) ≤ B,
  then `f` fails neither with `fuel`, nor with `Parser::nth the parser seems stuck`, nor with
       `oq3_verif: no progress` (`A5`), and afterwards
       w' + workE * (tokens left') ≤ w + workE * (tokens left) + A_f      (`AllCost`).

The constants are an over-approximation computed from the text of the model (every call site counts on
whatever path it lies; a consumed token also pays for the frames above the consumer): measured work is about
15 per token (6 events), `workE = 18777`.  Each clause is a weakening of the separate bounds on the three
counters (`Props/C01Work2.lean`, `allWork`), and so are the consequences proved here
(n = number of tokens, `workE * n + workF` is the budget):

* `parse_terminates`: if `workE * n + workF ≤ 15000000` (the step limit of `Parser::nth`) and the
  no-progress hook is off or its limit exceeds the budget, then with fuel `20 * n + 18` the parse
  RETURNS a well-formed event stream with at most `workE * n + workF` events.
* `parse_no_hang`: under the same conditions none of the three failures occurs (any fuel ≥ `20 * n + 18`).
* Both limits must grow with the input, no constant works:
  - hook: `C01Term.hook_fires_on_terminating_parse` (3k+4 events without a bump while k unclosed
    `(` are unwound at end of input);
  - step limit: `steps_grow_with_nesting` — unwinding k nested `if ({` at end of input calls
    `opt_item`'s `nth(1)` once per level and never bumps, so `steps` reaches k.  (With the real
    limit 15 000 000 this needs 45 million tokens and a stack of that depth; not observable on the
    Rust parser.)
-/
import Oq3.Lemmas.GrammarCost
import Oq3.Props.C01Work2

namespace Oq3.Props.C01Work
open Oq3.Gen Oq3.Parser Oq3.Grammar Oq3.Props.C01Safe Oq3.Props.C01Term Oq3.Props.C01Work2

/-- work per token -/
def workE : Nat := costRR
/-- work independent of the input -/
def workF : Nat := costF

theorem workE_eq : workE = 18777 := rfl
theorem workF_eq : workF = 7006 := rfl

theorem sourceFile_cost (fuel B : Nat) (s : P)
    (hpre : 18 + 20 * s.kinds.size ≤ fuel + 20 * s.pos ∧ s.pos ≤ s.kinds.size ∧ Lim B s ∧
      s.w + 7006 + 18777 * s.kinds.size ≤ B + 18777 * s.pos) :
    wp A5 (sourceFile fuel)
      (fun _ s' => Adv s s' ∧ Lim B s' ∧ s'.w + 18777 * s.pos ≤ s.w + 18777 * s'.pos + 7006) s :=
  wp_conseq (wp_cost_of_work (D := 0) (by decide) (fun M => sourceFile_spec M fuel) hpre.2.1 hpre.2.2.1 hpre.2.2.2 hpre.1)
    fun _ _ ⟨h1, h2, h3, _⟩ => ⟨h1, h2, h3⟩

theorem init_w (kinds : Array SyntaxKind) (joint : Array Bool) (npl : Nat) : (init kinds joint npl).w = 0 := rfl

theorem parse_error (fuel : Nat) (kinds : Array SyntaxKind) (joint : Array Bool) (npl : Nat) (o : Outcome)
    (h : parseSourceFile fuel kinds joint npl = .error o) (ho : o ≠ .panic "Marker dropped (DropBomb)") :
    sourceFile fuel (init kinds joint npl) = .error o :=
  parseSourceFile_error fuel kinds joint npl o h ho

theorem parse_ok (fuel : Nat) (kinds : Array SyntaxKind) (joint : Array Bool) (npl : Nat)
    (events : Array Ev) (pos : Nat) (h : parseSourceFile fuel kinds joint npl = .ok (events, pos)) :
    ∃ u s', sourceFile fuel (init kinds joint npl) = .ok (u, s') ∧ s'.events = events ∧ s'.pos = pos :=
  parseSourceFile_ok fuel kinds joint npl events pos h

/-- **No hang, no fuel exhaustion** within the budget -/
theorem parse_no_hang (fuel : Nat) (kinds : Array SyntaxKind) (joint : Array Bool) (npl : Nat)
    (hf : fuelA * kinds.size + fuelB ≤ fuel)
    (hs : workE * kinds.size + workF ≤ 15000000)
    (hn : npl = 0 ∨ workE * kinds.size + workF < npl) :
    parseSourceFile fuel kinds joint npl ≠ .error .fuel ∧
    parseSourceFile fuel kinds joint npl ≠ .error (.panic "Parser::nth the parser seems stuck") ∧
    parseSourceFile fuel kinds joint npl ≠ .error (.panic "oq3_verif: no progress") := by
  simp only [workE_eq, workF_eq] at hs hn
  exact parse_no_hang2 fuel kinds joint npl hf (by simp only [workRS_eq, workFS_eq]; omega)
    (by simp only [workRE_eq, workFE_eq]; omega)

/-- **Termination with a linear work bound.**  For an input of `n` tokens whose budget
`workE * n + workF` is below the step limit of `Parser::nth` (15 000 000) and below the limit of
the no-progress hook (or the hook is off), the parse with fuel `20 * n + 18` returns; the result is
a well-formed event stream (`ParseOk`) of at most `workE * n + workF` events. -/
theorem parse_terminates (fuel : Nat) (kinds : Array SyntaxKind) (joint : Array Bool) (npl : Nat)
    (hf : fuelA * kinds.size + fuelB ≤ fuel)
    (hs : workE * kinds.size + workF ≤ 15000000)
    (hn : npl = 0 ∨ workE * kinds.size + workF < npl) :
    ∃ events pos, parseSourceFile fuel kinds joint npl = .ok (events, pos) ∧
      ParseOk kinds joint events.toList pos ∧ events.size ≤ workE * kinds.size + workF ∧ pos ≤ kinds.size := by
  simp only [workE_eq, workF_eq] at hs hn ⊢
  obtain ⟨events, pos, he, hok, hsz, hp⟩ := parse_terminates2 fuel kinds joint npl hf
    (by simp only [workRS_eq, workFS_eq]; omega) (by simp only [workRE_eq, workFE_eq]; omega)
  simp only [workRE_eq, workFE_eq] at hsz
  exact ⟨events, pos, he, hok, by omega, hp⟩

/-! ### the step limit must grow with the nesting depth -/

/-- `k` times `if ( {` -/
def nest (k : Nat) : Array SyntaxKind :=
  ((List.replicate k [SyntaxKind.IF_KW, .L_PAREN, .L_CURLY]).flatten).toArray

/-- the result of `source_file` on `nest 8` with a given step limit: the failure site, or the final `steps` -/
def nestRun (limit : Nat) : Option String × Nat :=
  match (sourceFile 498).run { kinds := nest 8, joint := Array.replicate 24 false, stepLimit := limit } with
  | .ok (_, s) => (none, s.steps)
  | .error (.panic site) => (some site, 0)
  | .error _ => (some "other", 0)

/-- eight nested `if ({` at end of input: while the frames are unwound `nth` is called once per
level and no token is bumped — `steps` ends at 8, and a step limit of 6 reports "stuck" on this
terminating parse -/
theorem steps_grow_with_nesting :
    nestRun 1000 = (none, 8) ∧ nestRun 7 = (none, 8) ∧
    nestRun 6 = (some "Parser::nth the parser seems stuck", 0) := by decide +kernel

end Oq3.Props.C01Work
