/-
C17 — renaming invariance THROUGH the lexer and the parser (end to end over texts).

Two texts given as layouts of lexeme lists (C15; `Props/C17Lex.lean`) with the SAME leading
separator and the same separators, whose lexemes differ only in the TEXT of identifier lexemes:
`renItems ρ items₁ items₂` (a Boolean check, `Lemmas/RenameTextLex.lean`) — position by position
the same separator, the same lexeme kind, and the text `phi ρ kind text`: `ρ` applied to the text of
an `IDENT` lexeme, every other text unchanged.  Both layouts are admissible (`sepOK`, `itemsOK`:
in particular the renamed identifier texts are identifiers that do not fuse with their neighbours —
`itemsOK` of the second layout — and, by `renItems`, they have kind `IDENT`: not keywords, type
names, `_`).  `ρ : Ren` (`Props/C17RenameSym.lean`) is a function on names, injective, fixing the
built-in constants, `U` and the standard gate names.

Proved, for every fuel:

(a) `rename_same_input`: `to_input` of the two texts is the SAME parser input (kinds and joint
    bits), hence (`rename_same_events`) the same events, the same `process` steps and the same
    tree shape; `rename_rawToks`: the token table of the second text is the token table of the
    first with the `IDENT` texts renamed; `rename_tree`: the builder succeeds on both and the
    second tree is `mapTree (phi ρ)` of the first — same shape, same kinds, `IDENT` leaves renamed
    (parser invariant `tokIdE`, `Lemmas/RenameTextDefs.lean` / `RenameTextInv.lean` + generated
    `Lemmas/RenameTextGrammar.lean`: a one-token event has the kind of its raw token, a composite
    token is not an `IDENT` and glues none; builder naturality `Lemmas/RenameTextBuilder.lean`).
(b) `program_rename` (`Lemmas/RenameTextBuild.lean`): the typed accessors commute with the
    renaming, for every tree satisfying `renOk ρ`; `rename_invariant_text_ast_partial`: the typed
    ASTs of the two texts are related by `renameAst ρ`, modulo spans (name lengths change).
(c) `rename_invariant_text_partial`: composing with `C17Rename.rename_equivariant` and
    `C17.analyze_eraseSpans` — the front end fails on both texts or on neither, and the analysis of
    the second text is `renameCtx ρ` of the analysis of the first, modulo the positions stored in
    the diagnostics: same outcome (normal return or the same panic), same graph, same ids and
    types in the symbol table with the names renamed, same diagnostic kinds in the same order
    (`rename_invariant_text_ok_partial` spells the fields out); `rename_relayout_text_partial`: the
    same with an arbitrary change of layout on top (composition with `layout_invariant_text`).

WHY `_partial` — the one hypothesis that is not about the input texts:

    hok : ∀ c, frontTree uc fuel npl text₁ = some c → renTreeOk ρ c = true

`frontTree` is the front end up to the syntax tree; `renTreeOk ρ c` (decidable, computable by
running the model: `hokB`, `hok_of_check`) says of the tree of the FIRST text, trivia dropped, below the root
(`Lemmas/RenameTextAcc.lean: renOk`):
  1. a `NAME`/`IDENTIFIER`/`PARAM` node whose first child is a token has an `IDENT` there (or a
     text fixed by `ρ`); a `HARDWARE_QUBIT`/`PRAGMA_STATEMENT`/`ANNOTATION_STATEMENT` node does not
     start with an `IDENT` token (or `ρ` fixes it).  This is a property of the GRAMMAR (the sites
     that complete these kinds — `name_r`, `var_name`, `identifier`, `hardware_qubit`,
     `param_untyped`, `param_untyped_or_hardware_qubit`, `arg_gate_call_qubit`, the pragma and
     annotation arms of `stmt` — wrap exactly one `IDENT` / `HARDWAREIDENT` / `PRAGMA` / `ANNOTATION`
     token, or nothing).  It is NOT proved here, and it is what is MISSING for the full statement:
     it is not a state invariant in the `Pres` style of the generated grammar proofs.  It needs
     (i) Hoare triples with a "fresh marker" precondition for the functions that complete a marker
     handed in by the caller (`param_untyped…`, `arg_gate_call_qubit`, `stmt` after `opt_item`
     gave the marker back), and (ii) the forward-parent structure: `expr_bp` EXTENDS an
     `IDENTIFIER` node backwards to a marker started by its caller (`lhs.extend_to(m)`), so "what
     follows the `Start IDENTIFIER` event" is not "what the node contains" — `process` has to be
     followed through the link, with the knowledge that nothing was pushed between the two markers.
  2. the identifier of a `TIMING_LITERAL` (the time unit `ns`, `us`, `dt`, … or whatever
     identifier follows the number) is fixed by `ρ`.  This one is a genuine side condition:
     `renameAst` does not rename time units, so a renaming that moves `ns` (or a user name used
     right after a numeric literal) is not an admissible renaming of that program.

Witnesses (`Props/C17RenameTextWit.lean`), under `underscoreRen` (`x ↦ _x` on user names; name
lengths change, so every span after the first name moves), all hypotheses — `hok` included —
discharged by evaluation: `wit_instance` (`qubit a;reset a;` / `qubit _a;reset _a;`) and
`wit2_instance` (`gate g(w) q{U(w,0,0) q;}qubit a;g(pi) a;` and its renaming, with the fixed names
`U`, `pi`; the two analyses evaluated: symbols `w q g a` become `_w _q _g _a`).
-/
import Oq3.Lemmas.RenameTextLex
import Oq3.Lemmas.RenameTextBuilder
import Oq3.Lemmas.RenameTextBuild

namespace Oq3.C17RenameText
open Oq3.Gen Oq3.Lexer Oq3.Lexed Oq3.Ref Oq3.Parser Oq3.Grammar Oq3.Builder Oq3.Bridge
open Oq3.Lemmas.Lexer Oq3.Lemmas.Lexed Oq3.Lemmas.LexLocal Oq3.Props.C15 Oq3.BuilderLayout
open Oq3.C17Lex Oq3.C17Rename Oq3.RenameText Oq3.Acc Oq3.C17 Oq3.Sema

variable {uc : UC}

/-- text ↦ syntax tree (I4): lexer, `to_input`, parser, `process`, `build_tree` -/
def frontTree (uc : UC) (fuel npl : Nat) (s : List Char) : Option CNode :=
  match LexedStr.new uc s with
  | none => none
  | some l =>
    match l.toInput with
    | none => none
    | some inp =>
      match parseSourceFile fuel inp.kind.toArray inp.joint.toArray npl with
      | .error _ => none
      | .ok (events, _) =>
        match process events.toList with
        | none => none
        | some steps =>
          match buildTree (rawToksOf l) steps with
          | .error _ => none
          | .ok (t, _, _) => some (cnodeOf t)

theorem frontEnd_eq (uc : UC) (fuel npl : Nat) (s : List Char) :
    frontEnd uc fuel npl s =
      (frontTree uc fuel npl s).bind fun c =>
        match Build.program c with
        | .ok p => some p
        | .error _ => none := by
  unfold frontEnd frontTree
  cases LexedStr.new uc s with
  | none => rfl
  | some l =>
    simp only
    cases l.toInput with
    | none => rfl
    | some inp =>
      simp only
      cases parseSourceFile fuel inp.kind.toArray inp.joint.toArray npl with
      | error e => rfl
      | ok r =>
        obtain ⟨events, pos⟩ := r
        simp only
        cases process events.toList with
        | none => rfl
        | some steps =>
          simp only
          cases buildTree (rawToksOf l) steps with
          | error e => rfl
          | ok r => obtain ⟨t, e, b⟩ := r; rfl

/-- the side condition of the accessor layer, on the tree without trivia, below the root -/
def renTreeOk (ρ : Ren) (c : CNode) : Bool := rootRenOk ρ (eraseTrivia c)


/-- the hypothesis `hok` as a Boolean check (run the model front end on the first text) -/
def hokB (uc : UC) (fuel npl : Nat) (ρ : Ren) (s : List Char) : Bool :=
  (frontTree uc fuel npl s).all (renTreeOk ρ)

theorem hok_of_check {uc : UC} {fuel npl : Nat} {ρ : Ren} {s : List Char}
    (h : hokB uc fuel npl ρ s = true) : ∀ c, frontTree uc fuel npl s = some c → renTreeOk ρ c = true := by
  intro c hc
  unfold hokB at h
  rw [hc] at h
  exact h

theorem analyze_rename_erased (ρ : Ren) (afuel : Nat) {p1 p2 : Ast.Program}
    (h : eraseSpans p2 = renameAst ρ (eraseSpans p1)) :
    (analyzeWith afuel p2).map erCtx =
      (analyzeWith afuel p1).map (fun c => renameCtx ρ (erCtx c)) := by
  rw [← analyze_eraseSpans, h, rename_equivariant, analyze_eraseSpans]
  cases analyzeWith afuel p1 <;> rfl

section TwoTexts
variable (hu : AsciiUC uc) (ρ : Ren) (lead : Sep) (items₁ items₂ : List (Lexeme × Sep))
  (hren : renItems ρ items₁ items₂ = true)
  (h1 : sepOK lead (itemsText items₁) = true) (h1' : itemsOK uc items₁ = true)
  (h2 : sepOK lead (itemsText items₂) = true) (h2' : itemsOK uc items₂ = true)
include hu hren h1 h1' h2 h2'

/-- **(a) the parser input is the same**: kinds and joint bits -/
theorem rename_same_input :
    (lexedOf uc (sepText lead ++ itemsText items₂)).toInput =
      (lexedOf uc (sepText lead ++ itemsText items₁)).toInput ∧
    (lexedOf uc (sepText lead ++ itemsText items₁)).toInput =
      some ⟨items₁.map (·.1.kind), jointOf items₁⟩ := by
  rw [layout_input hu lead items₁ h1 h1', layout_input hu lead items₂ h2 h2',
    renItems_kinds hren, renItems_joint hren]
  exact ⟨rfl, rfl⟩

/-- **(a) the parser returns the same events (hence the same steps) on the two texts** — it is run
on the same input -/
theorem rename_same_events (fuel npl : Nat) :
    parseSourceFile fuel (items₂.map (·.1.kind)).toArray (jointOf items₂).toArray npl =
      parseSourceFile fuel (items₁.map (·.1.kind)).toArray (jointOf items₁).toArray npl := by
  rw [renItems_kinds hren, renItems_joint hren]

/-- **(a) the trees**: when the parser and `process` succeed on the (common) input, the builder
succeeds on both token tables and the tree of the second text is the tree of the first with the
`IDENT` leaves renamed: same shape, same kinds -/
theorem rename_tree (fuel npl : Nat) (events : Array Ev) (pos : Nat) (steps : List Step)
    (hp : parseSourceFile fuel (items₁.map (·.1.kind)).toArray (jointOf items₁).toArray npl =
      .ok (events, pos))
    (hs : process events.toList = some steps) :
    ∃ t e e', buildTree (rawToksOf (lexedOf uc (sepText lead ++ itemsText items₁))) steps = .ok (t, e, true) ∧
      buildTree (rawToksOf (lexedOf uc (sepText lead ++ itemsText items₂))) steps =
        .ok (mapTree (phi ρ) t, e', true) ∧
      Oq3.BuilderLayout.tokenKindsOk steps = true := by
  have hi1 := (rename_same_input hu ρ lead items₁ items₂ hren h1 h1' h2 h2').2
  obtain ⟨_, hk, t, e, hb⟩ := builder_ready uc _ _ fuel npl events pos steps hi1 hp hs
  obtain ⟨hr, hfit, hid⟩ := parse_fits uc _ _ fuel npl events pos steps hi1 hp hs
  obtain ⟨e', hb'⟩ := buildTree_rename (phi ρ) (fun k t h => phi_ne ρ t h) _ steps hr hfit hid hb
  refine ⟨t, e, e', hb, ?_, hk⟩
  rw [rename_rawToks hu lead items₁ items₂ hren h1 h1' h2 h2']
  exact hb'

/-- **Renaming invariance, text to typed AST** (see the file header for `hok`): the front end
succeeds on both texts or on neither, and the typed AST of the second text is `renameAst ρ` of the
typed AST of the first, modulo spans. -/
theorem rename_invariant_text_ast_partial (fuel npl : Nat)
    (hok : ∀ c, frontTree uc fuel npl (sepText lead ++ itemsText items₁) = some c → renTreeOk ρ c = true) :
    (frontEnd uc fuel npl (sepText lead ++ itemsText items₂)).map eraseSpans =
      (frontEnd uc fuel npl (sepText lead ++ itemsText items₁)).map (fun p => renameAst ρ (eraseSpans p)) := by
  obtain ⟨hi21, hi1⟩ := rename_same_input hu ρ lead items₁ items₂ hren h1 h1' h2 h2'
  have hi2 := hi21.trans hi1
  simp only [frontTree, new_eq, hi1] at hok
  simp only [frontEnd, new_eq, hi1, hi2]
  cases hp : parseSourceFile fuel (items₁.map (·.1.kind)).toArray (jointOf items₁).toArray npl with
  | error e => rfl
  | ok r =>
    obtain ⟨events, pos⟩ := r
    simp only [hp] at hok ⊢
    cases hs : process events.toList with
    | none => rfl
    | some steps =>
      simp only [hs] at hok ⊢
      obtain ⟨t, e, e', hb1, hb2, hk⟩ :=
        rename_tree hu ρ lead items₁ items₂ hren h1 h1' h2 h2' fuel npl events pos steps hp hs
      simp only [hb1] at hok
      rw [hb1, hb2]
      simp only
      have hroot := hok _ rfl
      have k1 := Oq3.C17Layout.builder_headOk hk hb1
      have k2 := Oq3.C17Layout.builder_headOk hk hb2
      have key : (Build.program (cnodeOf (mapTree (phi ρ) t))).map eraseSpans =
          ((Build.program (cnodeOf t)).map eraseSpans).map (renameAst ρ) := by
        rw [← Oq3.C17Layout.accessors_blind _ k2, ← Oq3.C17Layout.accessors_blind _ k1,
          eraseTrivia_cnodeOf_mapTree, program_rename _ hroot]
      exact toOption_map_congr (key.trans (by cases Build.program (cnodeOf t) <;> rfl))

/-- **Renaming invariance, text to analysis** (see the file header for `hok`).  The front end fails
on both texts or on neither; the semantic pass gives the same panic / fuel-out on both, or contexts
related by the renaming: the context of the second text, with the positions in its diagnostics
erased (`erCtx`), is `renameCtx ρ` of the context of the first text with the positions erased — same
graph, same symbol ids and types with the names renamed, same diagnostic kinds in the same order. -/
theorem rename_invariant_text_partial (fuel npl afuel : Nat)
    (hok : ∀ c, frontTree uc fuel npl (sepText lead ++ itemsText items₁) = some c → renTreeOk ρ c = true) :
    (frontEnd uc fuel npl (sepText lead ++ itemsText items₂)).map
        (fun p => (analyzeWith afuel p).map erCtx) =
      (frontEnd uc fuel npl (sepText lead ++ itemsText items₁)).map
        (fun p => (analyzeWith afuel p).map (fun c => renameCtx ρ (erCtx c))) := by
  have h := rename_invariant_text_ast_partial hu ρ lead items₁ items₂ hren h1 h1' h2 h2' fuel npl hok
  exact option_map_trans h (fun _ _ he => analyze_rename_erased ρ afuel he)

/-- field by field: if the first text is analysed to `c`, the second is analysed to some `c'` with
the same graph, the same constant values, the symbol table of `c` with every name renamed (same
ids, types, order and counter) and the same diagnostic kinds in the same order -/
theorem rename_invariant_text_ok_partial (fuel npl afuel : Nat)
    (hok : ∀ c, frontTree uc fuel npl (sepText lead ++ itemsText items₁) = some c → renTreeOk ρ c = true)
    {p1 : Ast.Program} (hf : frontEnd uc fuel npl (sepText lead ++ itemsText items₁) = some p1)
    {c : Ctx} (hc : analyzeWith afuel p1 = .ok c) :
    ∃ p2 c', frontEnd uc fuel npl (sepText lead ++ itemsText items₂) = some p2 ∧
      analyzeWith afuel p2 = .ok c' ∧ c'.program = c.program ∧ c'.constValues = c.constValues ∧
      c'.symbolTable.all = c.symbolTable.all.map (fun s => { s with name := ρ.f s.name }) ∧
      c'.symbolTable.counter = c.symbolTable.counter ∧
      c'.semanticErrors.map (·.kind) = c.semanticErrors.map (·.kind) := by
  have h := rename_invariant_text_partial hu ρ lead items₁ items₂ hren h1 h1' h2 h2' fuel npl afuel hok
  rw [hf] at h
  cases hf2 : frontEnd uc fuel npl (sepText lead ++ itemsText items₂) with
  | none => rw [hf2] at h; cases h
  | some p2 =>
    rw [hf2] at h
    simp only [Option.map_some, Option.some.injEq] at h
    rw [hc] at h
    cases hc2 : analyzeWith afuel p2 with
    | error e => rw [hc2] at h; cases h
    | ok c' =>
      rw [hc2] at h
      simp only [Except.map, Except.ok.injEq] at h
      have e1 := congrArg Ctx.program h
      have e2 := congrArg Ctx.constValues h
      have e3 := congrArg Ctx.symbolTable h
      have e4 := congrArg (fun x => x.semanticErrors.map (·.kind)) h
      refine ⟨p2, c', rfl, hc2, e1, e2, ?_, ?_, ?_⟩
      · have := congrArg Oq3.Symbols.SymTab.all e3; exact this
      · have := congrArg Oq3.Symbols.SymTab.counter e3; exact this
      · simpa [erCtx, renameCtx, rnCtx, erErr, List.map_map, Function.comp_def] using e4

end TwoTexts

/-- **Renaming composed with a change of layout** (`C17Lex.layout_invariant_text`): `itemsM` is the
renamed first layout (same separators), `items₂` any admissible layout of the same lexemes that
agrees with it on the gaps inside composite operators; leading separators arbitrary. -/
theorem rename_relayout_text_partial (hu : AsciiUC uc) (ρ : Ren) (lead₁ lead₂ : Sep)
    (items₁ itemsM items₂ : List (Lexeme × Sep))
    (hren : renItems ρ items₁ itemsM = true)
    (h1 : sepOK lead₁ (itemsText items₁) = true) (h1' : itemsOK uc items₁ = true)
    (hM : sepOK lead₁ (itemsText itemsM) = true) (hM' : itemsOK uc itemsM = true)
    (hsame : itemsM.map (·.1) = items₂.map (·.1))
    (h2 : sepOK lead₂ (itemsText items₂) = true) (h2' : itemsOK uc items₂ = true)
    (hj : glueGapsAgree itemsM items₂) (fuel npl afuel : Nat)
    (hok : ∀ c, frontTree uc fuel npl (sepText lead₁ ++ itemsText items₁) = some c → renTreeOk ρ c = true) :
    (frontEnd uc fuel npl (sepText lead₂ ++ itemsText items₂)).map
        (fun p => (analyzeWith afuel p).map erCtx) =
      (frontEnd uc fuel npl (sepText lead₁ ++ itemsText items₁)).map
        (fun p => (analyzeWith afuel p).map (fun c => renameCtx ρ (erCtx c))) :=
  (layout_invariant_text hu lead₁ lead₂ itemsM items₂ hsame hM hM' h2 h2' hj fuel npl afuel).symm.trans
    (rename_invariant_text_partial hu ρ lead₁ items₁ itemsM hren h1 h1' hM hM' fuel npl afuel hok)

end Oq3.C17RenameText
