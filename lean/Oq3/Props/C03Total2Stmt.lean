/-
C03 — totality on the ENLARGED fragment, part 2: the statement-level functions that do not recurse
into statements (gate calls with modifiers, `gphase`, expression statements, indexed assignments,
io declarations, typed parameter lists, the delay check, the standard-gates include), on top of
`T2.allE`.
-/
import Oq3.Props.C03Total2Expr

namespace Oq3.Sema.T2
open Oq3 Oq3.Sema Oq3.Types Oq3.Symbols Oq3.Props

def suppArgs : Option Ast.ArgList → Bool
  | none => true
  | some (.mk _ (some el)) => suppEL el
  | _ => false

def suppOps : List Ast.GateOperand → Bool
  | [] => true
  | o :: r => suppOp o && suppOps r

def suppGateCall : Ast.GateCallExpr → Bool
  | .mk _ (some (.mk _ ops)) al (some _) => suppOps ops && suppArgs al
  | _ => false

def suppMod : Ast.Modifier → Bool
  | .invModifier _ => true
  | .powModifier _ (some p) => suppParen p
  | .ctrlModifier _ none => true
  | .ctrlModifier _ (some p) => suppParen p
  | .negCtrlModifier _ none => true
  | .negCtrlModifier _ (some p) => suppParen p
  | _ => false

def suppMods : List Ast.Modifier → Bool
  | [] => true
  | m :: r => suppMod m && suppMods r

/-- an expression statement: gate call (possibly modified), `gphase`, or any fragment expression
(`measure q;`, `return e;`, `a + b;` …) -/
def suppExprStmt : Option Ast.Expr → Bool
  | some (.gateCallExpr gc) => suppGateCall gc
  | some (.modifiedGateCallExpr _ ms (some gc) _) => suppMods ms && suppGateCall gc
  | some (.modifiedGateCallExpr _ ms none (some (.mk _ arg))) => suppMods ms && suppOptE arg
  | some (.gPhaseCallExpr (.mk _ arg)) => suppOptE arg
  | some e => suppE e
  | none => false

def suppTypedParam (p : Ast.TypedParam) : Bool :=
  p.name.isSome &&
    (match p.paramType with
     | some (.scalarType st) => suppScalarType st
     | some (.arrayRefType _) => true
     | none => p.oldTypedParam)

def suppTypedParams : List Ast.TypedParam → Bool
  | [] => true
  | p :: r => suppTypedParam p && suppTypedParams r

def suppRetSig : Option Ast.ReturnSignature → Bool
  | none => true
  | some rs => match rs.scalarType with
    | none => true
    | some st => suppScalarType st

theorem gateOperandsLoop_succ (ops : List Ast.GateOperand) (hs : suppOps ops = true) (fuel : Nat)
    (hf : 2 * Ast.gateOperandsSize ops + 1 ≤ fuel) : Succ Any (gateOperandsLoop fuel ops) := by
  induction ops generalizing fuel with
  | nil =>
    obtain ⟨f, rfl⟩ : ∃ f, fuel = f + 1 := ⟨fuel - 1, by omega⟩
    unfold gateOperandsLoop; exact Succ.pure _ trivial
  | cons o rest ih =>
    obtain ⟨f, rfl⟩ : ∃ f, fuel = f + 1 := ⟨fuel - 1, by omega⟩
    simp only [suppOps, Bool.and_eq_true] at hs
    exact gateOperandsLoop_cons ((allE f).op o hs.1 (by fuel_ok)) (ih hs.2 f (by fuel_ok))

theorem qubitList_succ (sp : Ast.Span) (ops : List Ast.GateOperand) (hs : suppOps ops = true)
    (fuel : Nat) (hf : 2 * Ast.optQubitListSize (some (.mk sp ops)) + 1 ≤ fuel) :
    Succ Any (qubitListToAsgTexpr fuel (some (.mk sp ops))) := by
  obtain ⟨f, rfl⟩ : ∃ f, fuel = f + 1 := ⟨fuel - 1, by omega⟩
  exact qubitList_step (gateOperandsLoop_succ ops hs f (by fuel_ok))

theorem modifiersLoop_succ (ms : List Ast.Modifier) (hs : suppMods ms = true) (fuel : Nat)
    (hf : 2 * Ast.modifiersSize ms + 1 ≤ fuel) : Succ Any (modifiersLoop fuel ms) := by
  induction ms generalizing fuel with
  | nil =>
    obtain ⟨f, rfl⟩ : ∃ f, fuel = f + 1 := ⟨fuel - 1, by omega⟩
    unfold modifiersLoop; exact Succ.pure _ trivial
  | cons m rest ih =>
    obtain ⟨f, rfl⟩ : ∃ f, fuel = f + 1 := ⟨fuel - 1, by omega⟩
    simp only [suppMods, Bool.and_eq_true] at hs
    obtain ⟨hm, hrest⟩ := hs
    have hjp : ∀ gm, Succ Any (do let gms ← modifiersLoop f rest; pure (gm :: gms)) :=
      fun _ => Succ.bindAny (ih hrest f (by fuel_ok)) (fun _ => Succ.pure _ trivial)
    unfold modifiersLoop
    unfold suppMod at hm
    split at hm
    · exact Succ.pure_bind _ (hjp _)
    · dsimp only
      refine Succ.unwrap_bind ?_
      refine Succ.bindSome ((allE f).paren _ hm (by fuel_ok)) (fun t => ?_)
      exact Succ.unwrap_bind (Succ.pure_bind _ (hjp _))
    · exact Succ.pure_bind _ (hjp _)
    · exact Succ.bind ((allE f).paren _ hm (by fuel_ok)) (fun _ _ => Succ.pure_bind _ (hjp _))
    · exact Succ.pure_bind _ (hjp _)
    · exact Succ.bind ((allE f).paren _ hm (by fuel_ok)) (fun _ _ => Succ.pure_bind _ (hjp _))
    · simp at hm

theorem gateCall_some (gc : Ast.GateCallExpr) (mods : List GateModifier) (hs : suppGateCall gc = true)
    (fuel : Nat) (hf : 2 * gc.size + 1 ≤ fuel) :
    Succ SomeNotAnn (gateCallExprToAsgStmt fuel gc mods) := by
  unfold suppGateCall at hs
  split at hs
  · rename_i sp sq ops al id
    simp only [Bool.and_eq_true] at hs
    obtain ⟨hops, hal⟩ := hs
    obtain ⟨f, rfl⟩ : ∃ f, fuel = f + 1 := ⟨fuel - 1, by omega⟩
    refine gateCall_step (qubitList_succ sq ops hops f (by fuel_ok)) ?_
    unfold suppArgs at hal
    split at hal
    · exact .inl rfl
    · exact .inr ⟨_, _, rfl, (allE f).elT _ hal (by fuel_ok)⟩
    · simp at hal
  · simp at hs

theorem gateCall_succ (gc : Ast.GateCallExpr) (mods : List GateModifier) (hs : suppGateCall gc = true)
    (fuel : Nat) (hf : 2 * gc.size + 1 ≤ fuel) : Succ NotAnn (gateCallExprToAsgStmt fuel gc mods) :=
  (gateCall_some gc mods hs fuel hf).notAnn

theorem suppE_not_call {e : Ast.Expr} (h : suppE e = true) :
    (∀ gc, e ≠ .gateCallExpr gc) ∧ (∀ sp ms gc gp, e ≠ .modifiedGateCallExpr sp ms gc gp) ∧
      ∀ sp a, e ≠ .gPhaseCallExpr (.mk sp a) := by
  refine ⟨?_, ?_, ?_⟩ <;> (intros; rintro rfl; simp [suppE] at h)

theorem exprStmt_succ (o : Option Ast.Expr) (hs : suppExprStmt o = true) (fuel : Nat)
    (hf : 2 * Ast.optExprSize o + 2 ≤ fuel) : Succ SomeNotAnn (exprStmtToAsgStmt fuel o) := by
  obtain ⟨f, rfl⟩ : ∃ f, fuel = f + 1 := ⟨fuel - 1, by omega⟩
  unfold suppExprStmt at hs
  split at hs
  · -- gate call
    rename_i gc
    unfold exprStmtToAsgStmt
    dsimp only
    exact gateCall_some gc [] hs f (by fuel_ok)
  · -- modified gate call
    rename_i sp ms gc gp
    simp only [Bool.and_eq_true] at hs
    unfold exprStmtToAsgStmt
    dsimp only
    refine Succ.bindAny (modifiersLoop_succ ms hs.1 f (by fuel_ok)) (fun mods => ?_)
    exact gateCall_some gc mods hs.2 f (by fuel_ok)
  · -- modified gphase
    rename_i sp ms sg arg
    simp only [Bool.and_eq_true] at hs
    unfold exprStmtToAsgStmt
    dsimp only
    refine Succ.bindAny (modifiersLoop_succ ms hs.1 f (by fuel_ok)) (fun mods => ?_)
    refine Succ.unwrap_bind ?_
    dsimp only
    refine Succ.bindSome ((allE f).optE arg hs.2 (by fuel_ok)) (fun t => ?_)
    refine Succ.unwrap_bind ?_
    exact Succ.pure _ (by some_not_ann)
  · -- gphase
    rename_i sg arg
    unfold exprStmtToAsgStmt
    dsimp only
    refine Succ.bindSome ((allE f).optE arg hs (by fuel_ok)) (fun t => ?_)
    refine Succ.unwrap_bind ?_
    exact Succ.pure _ (by some_not_ann)
  · -- any other fragment expression
    rename_i e _ _ _ _
    obtain ⟨h1, h2, h3⟩ := suppE_not_call hs
    exact exprStmt_expr ((allE f).expr e hs (by fuel_ok)) h1 h2 h3
  · simp at hs


/-- `x[i] = e;` -/
theorem assignIndexed_succ (span : Ast.Span) (rhs : Option Ast.Expr) (ii : Ast.IndexedIdentifier)
    (hii : suppII ii = true) (he : suppOptE rhs = true) (fuel : Nat)
    (hf : 2 * (Ast.optExprSize rhs + ii.size) + 2 ≤ fuel) :
    Succ SomeNotAnn (assignmentStmtToAsgStmt fuel span none rhs (some ii)) := by
  obtain ⟨f, rfl⟩ : ∃ f, fuel = f + 1 := ⟨fuel - 1, by omega⟩
  unfold assignmentStmtToAsgStmt
  dsimp only
  refine Succ.unwrap_bind ?_
  refine Succ.bindAny ((allE f).ii _ hii (by omega)) (fun r => ?_)
  obtain ⟨ii', typ⟩ := r
  dsimp only
  have hrest : Succ SomeNotAnn (do
      let expr ← exprToAsgTexpr f rhs
      let expr ← unwrap "assignment_stmt_to_asg_stmt: rhs unwrap() on None" expr
      pure (some (Stmt.assignment (LValue.indexedIdentifier ii') expr))) := by
    refine Succ.bindSome ((allE f).optE rhs he (by omega)) (fun t => ?_)
    refine Succ.unwrap_bind ?_
    exact Succ.pure _ (by some_not_ann)
  split
  · exact Succ.ite _ (Succ.bindAny (insertError_succ _ _) (fun _ => hrest)) hrest
  · exact hrest

theorem ioDecl_succ (st : Ast.ScalarType) (name : Ast.Name) (inp : Bool)
    (hst : suppScalarType st = true) :
    Succ NotAnnS (ioDeclarationStatementToAsgStmt false (some st) (some name) inp) := by
  unfold ioDeclarationStatementToAsgStmt
  simp only [Bool.false_eq_true, if_false]
  refine Succ.pure_bind _ ?_
  refine Succ.bindAny (scalarTypeToType_succ _ false hst) (fun typ => ?_)
  refine Succ.unwrap_bind ?_
  refine Succ.bindAny (newBinding_succ _ _ _) (fun sym => ?_)
  cases inp <;> exact Succ.pure _ (by intro _ _ h; cases h)

theorem bindTypedParams_succ (ps : List Ast.TypedParam) (hs : suppTypedParams ps = true) :
    Succ Any (bindTypedParams ps) := by
  induction ps with
  | nil => unfold bindTypedParams; exact Succ.pure _ trivial
  | cons p rest ih =>
    simp only [suppTypedParams, Bool.and_eq_true] at hs
    obtain ⟨hp, hrest⟩ := hs
    unfold suppTypedParam at hp
    simp only [Bool.and_eq_true] at hp
    obtain ⟨hname, hty⟩ := hp
    obtain ⟨nm, hnm⟩ := Option.isSome_iff_exists.mp hname
    have hjp : ∀ typ : T, Succ Any (do
        let name ← unwrap "bind_typed_parameter_list: param.name() is None" p.name
        let r ← newBinding name.text typ p.span
        let rs ← bindTypedParams rest
        pure (r :: rs)) := by
      intro typ
      rw [hnm]
      refine Succ.unwrap_bind ?_
      refine Succ.bindAny (newBinding_succ _ _ _) (fun r => ?_)
      exact Succ.bindAny (ih hrest) (fun _ => Succ.pure _ trivial)
    unfold bindTypedParams
    dsimp only
    cases hpt : p.paramType with
    | none =>
      simp only [hpt] at hty
      simp only [hty, if_true]
      exact Succ.pure_bind _ (hjp _)
    | some pt =>
      simp only [hpt] at hty
      dsimp only
      cases pt with
      | scalarType st =>
        unfold paramTypeToType
        exact Succ.bindAny (scalarTypeToType_succ st false hty) (fun t => hjp t)
      | arrayRefType sp =>
        unfold paramTypeToType
        exact Succ.pure_bind _ (hjp _)

theorem bindTypedParameterList_succ (tpl : Ast.TypedParamList) (hs : suppTypedParams tpl.typedParams = true) :
    Succ IsSome (bindTypedParameterList (some tpl)) := by
  unfold bindTypedParameterList
  exact Succ.bindAny (bindTypedParams_succ _ hs) (fun _ => Succ.pure _ rfl)

theorem delayDurationCheck_succ (d : TExpr) (node : Ast.Span) : Succ Any (delayDurationCheck d node) :=
  Succ.of_runs (Pres.closed.delayDurationCheck _ _) (fun s _ => ⟨(), _, C13.delayDurationCheck_run d node s, trivial⟩)

attribute [local irreducible] SymTab.standardLibraryGates in
theorem standardLibraryGates_succ (node : Ast.Span) : Succ Any (standardLibraryGates node) := by
  refine Succ.of_runs (standardLibraryGates_pres node) (fun s _ => ?_)
  cases h : standardLibraryGates node s with
  | ok r => exact ⟨r.1, r.2, rfl, trivial⟩
  | error e => exact (standardLibraryGates_total node s e h).elim

end Oq3.Sema.T2
