/-
C18, auxiliary — fuel monotonicity of the semantic pass, outcomes included.

`Le2 x y`: every run of `x` that ends otherwise than by running out of fuel — normally, or with a
panic (or `unsupportedInclude`) — is a run of `y` with the same outcome.  For each of the twenty-five
functions `f` of the mutual block of `Sema.lean`: `Le2 (f fuel a) (f (fuel + 1) a)` (`allMono2`, one
`_mono2` lemma per function by a proof script that walks the two bodies — which differ only in the
fuel passed to the recursive calls — in lock step, then induction on fuel), hence the same for any
larger fuel; in particular a panic does not depend on the fuel.  `Props/C18Mono.lean` has the part
about successful runs (`Le`).

GENERATED by /verif/tools/gen_c18_mono_err.py (list of functions and binders only; the proofs are
checked by Lean).
-/
import Lean
import Oq3.Props.C18Frame

namespace Oq3.C18E
open Oq3 Oq3.Types Oq3.Symbols Oq3.Sema

/-- every run of `x` that does not end with `Outcome.fuel` is a run of `y`, same outcome -/
structure Le2 {α} (x y : M α) : Prop where
  ok : ∀ c r, x c = .ok r → y c = .ok r
  err : ∀ c o, x c = .error o → o ≠ Outcome.fuel → y c = .error o

theorem Le2.refl {α} (x : M α) : Le2 x x := ⟨fun _ _ h => h, fun _ _ h _ => h⟩

theorem Le2.trans {α} {x y z : M α} (h1 : Le2 x y) (h2 : Le2 y z) : Le2 x z :=
  ⟨fun c r h => h2.ok c r (h1.ok c r h), fun c o h ho => h2.err c o (h1.err c o h ho) ho⟩

theorem Le2.bind {α β} {x y : M α} {f g : α → M β} (hx : Le2 x y) (hf : ∀ a, Le2 (f a) (g a)) :
    Le2 (x >>= f) (y >>= g) := by
  constructor
  · intro c r h
    rw [bind_run] at h ⊢
    cases hxc : x c with
    | error e => rw [hxc] at h; cases h
    | ok p =>
      obtain ⟨a, c1⟩ := p
      rw [hxc] at h
      rw [hx.ok c _ hxc]
      exact (hf a).ok c1 r h
  · intro c o h ho
    rw [bind_run] at h ⊢
    cases hxc : x c with
    | error e =>
      rw [hxc] at h
      simp only [bindRes, Except.error.injEq] at h
      subst h
      rw [hx.err c _ hxc ho]; rfl
    | ok p =>
      obtain ⟨a, c1⟩ := p
      rw [hxc] at h
      rw [hx.ok c _ hxc]
      exact (hf a).err c1 o h ho

theorem Le2.throw_fuel_left {α} (y : M α) : Le2 (throw Outcome.fuel : M α) y := by
  constructor
  · intro c r h; cases h
  · intro c o h ho
    simp only [throw_run, Except.error.injEq] at h
    exact absurd h.symm ho

theorem Le2.withScope {α} (k : ScopeType) {b1 b2 : M α} (h : Le2 b1 b2) :
    Le2 (Sema.withScope k b1) (Sema.withScope k b2) := by
  unfold Sema.withScope
  exact Le2.bind (Le2.refl _) (fun _ => Le2.bind h (fun _ => Le2.refl _))

open Lean Elab Tactic Meta in
/-- the two programs of a goal `Le2 x y` -/
def le2Progs (g : MVarId) : MetaM (Option (Lean.Expr × Lean.Expr)) := do
  let t ← instantiateMVars (← g.getType)
  let t := t.consumeMData
  if t.isAppOfArity ``Le2 3 then
    return some ((t.getArg! 1).consumeMData, (t.getArg! 2).consumeMData)
  else return none

open Lean Elab Tactic Meta in
/-- the two programs are syntactically the same (no recursive call inside) -/
elab "le2_same" : tactic => withMainContext do
  match ← le2Progs (← getMainGoal) with
  | some (x, y) => if x == y then pure () else throwError "different"
  | none => throwError "not a Le goal"

open Lean Elab Tactic Meta in
elab "le2_head " id:ident : tactic => withMainContext do
  let n ← realizeGlobalConstNoOverloadWithInfo id
  match ← le2Progs (← getMainGoal) with
  | some (x, _) =>
    match x.getAppFn.consumeMData with
    | Lean.Expr.const m _ => if m == n then pure () else throwError "head"
    | _ => throwError "head"
  | none => throwError "not a Le goal"

open Lean Elab Tactic Meta in
def isSplitHead2 (x : Lean.Expr) : MetaM Bool := do
  match x.getAppFn.consumeMData with
  | Lean.Expr.const m _ =>
    if m == ``ite || m == ``dite then return true
    else return (← isMatcher m)
  | _ => return false

open Lean Elab Tactic Meta in
elab "le2_is_split" : tactic => withMainContext do
  match ← le2Progs (← getMainGoal) with
  | some (x, _) => if ← isSplitHead2 x then pure () else throwError "not a split"
  | none => throwError "not a Le goal"

open Lean Elab Tactic Meta in
elab "le2_is_split_right" : tactic => withMainContext do
  match ← le2Progs (← getMainGoal) with
  | some (_, y) => if ← isSplitHead2 y then pure () else throwError "not a split"
  | none => throwError "not a Le goal"

open Lean Elab Tactic Meta in
/-- close the goal from a hypothesis `∀ xs, a = b → False` whose equation holds by `rfl`
(a branch of a `match` excluded by an earlier pattern) -/
elab "le2_absurd" : tactic => withMainContext do
  let g ← getMainGoal
  for ldecl in ← getLCtx do
    if ldecl.isImplementationDetail then continue
    let t ← instantiateMVars ldecl.type
    if !t.isForall then continue
    let ok ← commitWhen do
      let (args, _, body) ← forallMetaTelescopeReducing t
      if !(body.isConstOf ``False) || args.size == 0 then return false
      let last := args.back!
      let lt ← instantiateMVars (← inferType last)
      match lt.eq? with
      | some (_, a, b) =>
        if ← isDefEq a b then
          last.mvarId!.assign (← mkEqRefl a)
          let prf := mkAppN ldecl.toExpr args
          let prf ← instantiateMVars prf
          if prf.hasExprMVar then return false
          g.assign (← mkFalseElim (← g.getType) prf)
          return true
        else return false
      | none => return false
    if ok then
      replaceMainGoal []
      return
  throwError "no absurd hypothesis"

syntax "le2_lemma" : tactic
macro_rules | `(tactic| le2_lemma) => `(tactic| fail "no lemma")
syntax "le2_ih" : tactic
macro_rules | `(tactic| le2_ih) => `(tactic| fail "no ih")

macro "le2_step" : tactic => `(tactic| first
  | (cases ‹_ + 1 = Nat.succ _›)
  | (exact absurd ‹_ + 1 = 0› (Nat.succ_ne_zero _))
  | le2_absurd
  | (le2_same; exact Le2.refl _)
  | (le2_head throw; exact Le2.throw_fuel_left _)
  | (le2_head Sema.withScope; with_reducible apply Le2.withScope)
  | le2_lemma
  | le2_ih
  | (le2_head Bind.bind; with_reducible apply Le2.bind)
  | intro _
  | dsimp only
  | (le2_is_split; split)
  | (le2_is_split_right; split))

macro "le2" : tactic => `(tactic| repeat' le2_step)

/-- all twenty-five functions of the mutual block: one more unit of fuel changes nothing -/
structure AllMono2 (fuel : Nat) : Prop where
  stmtToAsgStmt : ∀ (st : Ast.Stmt), Le2 (Sema.stmtToAsgStmt fuel st) (Sema.stmtToAsgStmt (fuel + 1) st)
  caseExprsLoop : ∀ (cs : List Ast.CaseExpr), Le2 (Sema.caseExprsLoop fuel cs) (Sema.caseExprsLoop (fuel + 1) cs)
  exprStmtToAsgStmt : ∀ (e : Option Ast.Expr), Le2 (Sema.exprStmtToAsgStmt fuel e) (Sema.exprStmtToAsgStmt (fuel + 1) e)
  modifiersLoop : ∀ (ms : List Ast.Modifier), Le2 (Sema.modifiersLoop fuel ms) (Sema.modifiersLoop (fuel + 1) ms)
  parenExprToAsgTexpr : ∀ (p : Ast.ParenExpr), Le2 (Sema.parenExprToAsgTexpr fuel p) (Sema.parenExprToAsgTexpr (fuel + 1) p)
  exprToAsgTexpr : ∀ (e : Option Ast.Expr), Le2 (Sema.exprToAsgTexpr fuel e) (Sema.exprToAsgTexpr (fuel + 1) e)
  setExpressionToAsgType : ∀ (se : Ast.SetExpression), Le2 (Sema.setExpressionToAsgType fuel se) (Sema.setExpressionToAsgType (fuel + 1) se)
  rangeExpressionToAsgType : ∀ (r : Ast.RangeExpr), Le2 (Sema.rangeExpressionToAsgType fuel r) (Sema.rangeExpressionToAsgType (fuel + 1) r)
  gateCallExprToAsgStmt : ∀ (gc : Ast.GateCallExpr) (mods : List GateModifier), Le2 (Sema.gateCallExprToAsgStmt fuel gc mods) (Sema.gateCallExprToAsgStmt (fuel + 1) gc mods)
  callExprToAsgTexpr : ∀ (sp : Ast.Span) (al : Option Ast.ArgList) (i : Option Ast.Identifier), Le2 (Sema.callExprToAsgTexpr fuel sp al i) (Sema.callExprToAsgTexpr (fuel + 1) sp al i)
  gateOperandToAsgTexpr : ∀ (g : Ast.GateOperand), Le2 (Sema.gateOperandToAsgTexpr fuel g) (Sema.gateOperandToAsgTexpr (fuel + 1) g)
  indexOperatorToAsgType : ∀ (ix : Ast.IndexOperator), Le2 (Sema.indexOperatorToAsgType fuel ix) (Sema.indexOperatorToAsgType (fuel + 1) ix)
  expressionListToAsgType : ∀ (el : Ast.ExpressionList), Le2 (Sema.expressionListToAsgType fuel el) (Sema.expressionListToAsgType (fuel + 1) el)
  qubitListToAsgTexpr : ∀ (ql : Option Ast.QubitList), Le2 (Sema.qubitListToAsgTexpr fuel ql) (Sema.qubitListToAsgTexpr (fuel + 1) ql)
  gateOperandsLoop : ∀ (gs : List Ast.GateOperand), Le2 (Sema.gateOperandsLoop fuel gs) (Sema.gateOperandsLoop (fuel + 1) gs)
  expressionListToAsgTexpr : ∀ (el : Ast.ExpressionList), Le2 (Sema.expressionListToAsgTexpr fuel el) (Sema.expressionListToAsgTexpr (fuel + 1) el)
  exprsLoop : ∀ (es : List Ast.Expr), Le2 (Sema.exprsLoop fuel es) (Sema.exprsLoop (fuel + 1) es)
  blockExprToAsgStmtList : ∀ (b : Ast.BlockExpr), Le2 (Sema.blockExprToAsgStmtList fuel b) (Sema.blockExprToAsgStmtList (fuel + 1) b)
  stmtsLoop : ∀ (ss : List Ast.Stmt), Le2 (Sema.stmtsLoop fuel ss) (Sema.stmtsLoop (fuel + 1) ss)
  blockExprToAsgType : ∀ (b : Ast.BlockExpr), Le2 (Sema.blockExprToAsgType fuel b) (Sema.blockExprToAsgType (fuel + 1) b)
  blockOrStmtToAsgType : ∀ (b : Ast.BlockOrStmt), Le2 (Sema.blockOrStmtToAsgType fuel b) (Sema.blockOrStmtToAsgType (fuel + 1) b)
  classicalDeclarationStatementToAsgStmt : ∀ (sp : Ast.Span) (arr : Bool) (st : Option Ast.ScalarType) (ct : Bool) (n : Option Ast.Name) (e : Option Ast.Expr), Le2 (Sema.classicalDeclarationStatementToAsgStmt fuel sp arr st ct n e) (Sema.classicalDeclarationStatementToAsgStmt (fuel + 1) sp arr st ct n e)
  assignmentStmtToAsgStmt : ∀ (sp : Ast.Span) (i : Option Ast.Identifier) (rhs : Option Ast.Expr) (ii : Option Ast.IndexedIdentifier), Le2 (Sema.assignmentStmtToAsgStmt fuel sp i rhs ii) (Sema.assignmentStmtToAsgStmt (fuel + 1) sp i rhs ii)
  indexedIdentifierToAsgType : ∀ (ii : Ast.IndexedIdentifier), Le2 (Sema.indexedIdentifierToAsgType fuel ii) (Sema.indexedIdentifierToAsgType (fuel + 1) ii)
  indexOperatorsLoop : ∀ (ixs : List Ast.IndexOperator), Le2 (Sema.indexOperatorsLoop fuel ixs) (Sema.indexOperatorsLoop (fuel + 1) ixs)

set_option hygiene false in
macro_rules | `(tactic| le2_ih) => `(tactic| first
  | (le2_head Sema.stmtToAsgStmt; exact ih.stmtToAsgStmt _)
  | (le2_head Sema.caseExprsLoop; exact ih.caseExprsLoop _)
  | (le2_head Sema.exprStmtToAsgStmt; exact ih.exprStmtToAsgStmt _)
  | (le2_head Sema.modifiersLoop; exact ih.modifiersLoop _)
  | (le2_head Sema.parenExprToAsgTexpr; exact ih.parenExprToAsgTexpr _)
  | (le2_head Sema.exprToAsgTexpr; exact ih.exprToAsgTexpr _)
  | (le2_head Sema.setExpressionToAsgType; exact ih.setExpressionToAsgType _)
  | (le2_head Sema.rangeExpressionToAsgType; exact ih.rangeExpressionToAsgType _)
  | (le2_head Sema.gateCallExprToAsgStmt; exact ih.gateCallExprToAsgStmt _ _)
  | (le2_head Sema.callExprToAsgTexpr; exact ih.callExprToAsgTexpr _ _ _)
  | (le2_head Sema.gateOperandToAsgTexpr; exact ih.gateOperandToAsgTexpr _)
  | (le2_head Sema.indexOperatorToAsgType; exact ih.indexOperatorToAsgType _)
  | (le2_head Sema.expressionListToAsgType; exact ih.expressionListToAsgType _)
  | (le2_head Sema.qubitListToAsgTexpr; exact ih.qubitListToAsgTexpr _)
  | (le2_head Sema.gateOperandsLoop; exact ih.gateOperandsLoop _)
  | (le2_head Sema.expressionListToAsgTexpr; exact ih.expressionListToAsgTexpr _)
  | (le2_head Sema.exprsLoop; exact ih.exprsLoop _)
  | (le2_head Sema.blockExprToAsgStmtList; exact ih.blockExprToAsgStmtList _)
  | (le2_head Sema.stmtsLoop; exact ih.stmtsLoop _)
  | (le2_head Sema.blockExprToAsgType; exact ih.blockExprToAsgType _)
  | (le2_head Sema.blockOrStmtToAsgType; exact ih.blockOrStmtToAsgType _)
  | (le2_head Sema.classicalDeclarationStatementToAsgStmt; exact ih.classicalDeclarationStatementToAsgStmt _ _ _ _ _ _)
  | (le2_head Sema.assignmentStmtToAsgStmt; exact ih.assignmentStmtToAsgStmt _ _ _ _)
  | (le2_head Sema.indexedIdentifierToAsgType; exact ih.indexedIdentifierToAsgType _)
  | (le2_head Sema.indexOperatorsLoop; exact ih.indexOperatorsLoop _))

theorem stmtToAsgStmt_mono2 (fuel : Nat) (ih : AllMono2 fuel) (st : Ast.Stmt) :
    Le2 (Sema.stmtToAsgStmt (fuel + 1) st) (Sema.stmtToAsgStmt (fuel + 1 + 1) st) := by
  unfold Sema.stmtToAsgStmt; le2

theorem caseExprsLoop_mono2 (fuel : Nat) (ih : AllMono2 fuel) (cs : List Ast.CaseExpr) :
    Le2 (Sema.caseExprsLoop (fuel + 1) cs) (Sema.caseExprsLoop (fuel + 1 + 1) cs) := by
  unfold Sema.caseExprsLoop; le2

theorem exprStmtToAsgStmt_mono2 (fuel : Nat) (ih : AllMono2 fuel) (e : Option Ast.Expr) :
    Le2 (Sema.exprStmtToAsgStmt (fuel + 1) e) (Sema.exprStmtToAsgStmt (fuel + 1 + 1) e) := by
  unfold Sema.exprStmtToAsgStmt; le2

theorem modifiersLoop_mono2 (fuel : Nat) (ih : AllMono2 fuel) (ms : List Ast.Modifier) :
    Le2 (Sema.modifiersLoop (fuel + 1) ms) (Sema.modifiersLoop (fuel + 1 + 1) ms) := by
  unfold Sema.modifiersLoop; le2

theorem parenExprToAsgTexpr_mono2 (fuel : Nat) (ih : AllMono2 fuel) (p : Ast.ParenExpr) :
    Le2 (Sema.parenExprToAsgTexpr (fuel + 1) p) (Sema.parenExprToAsgTexpr (fuel + 1 + 1) p) := by
  unfold Sema.parenExprToAsgTexpr; le2

theorem exprToAsgTexpr_mono2 (fuel : Nat) (ih : AllMono2 fuel) (e : Option Ast.Expr) :
    Le2 (Sema.exprToAsgTexpr (fuel + 1) e) (Sema.exprToAsgTexpr (fuel + 1 + 1) e) := by
  unfold Sema.exprToAsgTexpr; le2

theorem setExpressionToAsgType_mono2 (fuel : Nat) (ih : AllMono2 fuel) (se : Ast.SetExpression) :
    Le2 (Sema.setExpressionToAsgType (fuel + 1) se) (Sema.setExpressionToAsgType (fuel + 1 + 1) se) := by
  unfold Sema.setExpressionToAsgType; le2

theorem rangeExpressionToAsgType_mono2 (fuel : Nat) (ih : AllMono2 fuel) (r : Ast.RangeExpr) :
    Le2 (Sema.rangeExpressionToAsgType (fuel + 1) r) (Sema.rangeExpressionToAsgType (fuel + 1 + 1) r) := by
  unfold Sema.rangeExpressionToAsgType; le2

theorem gateCallExprToAsgStmt_mono2 (fuel : Nat) (ih : AllMono2 fuel) (gc : Ast.GateCallExpr) (mods : List GateModifier) :
    Le2 (Sema.gateCallExprToAsgStmt (fuel + 1) gc mods) (Sema.gateCallExprToAsgStmt (fuel + 1 + 1) gc mods) := by
  unfold Sema.gateCallExprToAsgStmt; le2

theorem callExprToAsgTexpr_mono2 (fuel : Nat) (ih : AllMono2 fuel) (sp : Ast.Span) (al : Option Ast.ArgList) (i : Option Ast.Identifier) :
    Le2 (Sema.callExprToAsgTexpr (fuel + 1) sp al i) (Sema.callExprToAsgTexpr (fuel + 1 + 1) sp al i) := by
  unfold Sema.callExprToAsgTexpr; le2

theorem gateOperandToAsgTexpr_mono2 (fuel : Nat) (ih : AllMono2 fuel) (g : Ast.GateOperand) :
    Le2 (Sema.gateOperandToAsgTexpr (fuel + 1) g) (Sema.gateOperandToAsgTexpr (fuel + 1 + 1) g) := by
  unfold Sema.gateOperandToAsgTexpr; le2

theorem indexOperatorToAsgType_mono2 (fuel : Nat) (ih : AllMono2 fuel) (ix : Ast.IndexOperator) :
    Le2 (Sema.indexOperatorToAsgType (fuel + 1) ix) (Sema.indexOperatorToAsgType (fuel + 1 + 1) ix) := by
  unfold Sema.indexOperatorToAsgType; le2

theorem expressionListToAsgType_mono2 (fuel : Nat) (ih : AllMono2 fuel) (el : Ast.ExpressionList) :
    Le2 (Sema.expressionListToAsgType (fuel + 1) el) (Sema.expressionListToAsgType (fuel + 1 + 1) el) := by
  unfold Sema.expressionListToAsgType; le2

theorem qubitListToAsgTexpr_mono2 (fuel : Nat) (ih : AllMono2 fuel) (ql : Option Ast.QubitList) :
    Le2 (Sema.qubitListToAsgTexpr (fuel + 1) ql) (Sema.qubitListToAsgTexpr (fuel + 1 + 1) ql) := by
  unfold Sema.qubitListToAsgTexpr; le2

theorem gateOperandsLoop_mono2 (fuel : Nat) (ih : AllMono2 fuel) (gs : List Ast.GateOperand) :
    Le2 (Sema.gateOperandsLoop (fuel + 1) gs) (Sema.gateOperandsLoop (fuel + 1 + 1) gs) := by
  unfold Sema.gateOperandsLoop; le2

theorem expressionListToAsgTexpr_mono2 (fuel : Nat) (ih : AllMono2 fuel) (el : Ast.ExpressionList) :
    Le2 (Sema.expressionListToAsgTexpr (fuel + 1) el) (Sema.expressionListToAsgTexpr (fuel + 1 + 1) el) := by
  unfold Sema.expressionListToAsgTexpr; le2

theorem exprsLoop_mono2 (fuel : Nat) (ih : AllMono2 fuel) (es : List Ast.Expr) :
    Le2 (Sema.exprsLoop (fuel + 1) es) (Sema.exprsLoop (fuel + 1 + 1) es) := by
  unfold Sema.exprsLoop; le2

theorem blockExprToAsgStmtList_mono2 (fuel : Nat) (ih : AllMono2 fuel) (b : Ast.BlockExpr) :
    Le2 (Sema.blockExprToAsgStmtList (fuel + 1) b) (Sema.blockExprToAsgStmtList (fuel + 1 + 1) b) := by
  unfold Sema.blockExprToAsgStmtList; le2

theorem stmtsLoop_mono2 (fuel : Nat) (ih : AllMono2 fuel) (ss : List Ast.Stmt) :
    Le2 (Sema.stmtsLoop (fuel + 1) ss) (Sema.stmtsLoop (fuel + 1 + 1) ss) := by
  unfold Sema.stmtsLoop; le2

theorem blockExprToAsgType_mono2 (fuel : Nat) (ih : AllMono2 fuel) (b : Ast.BlockExpr) :
    Le2 (Sema.blockExprToAsgType (fuel + 1) b) (Sema.blockExprToAsgType (fuel + 1 + 1) b) := by
  unfold Sema.blockExprToAsgType; le2

theorem blockOrStmtToAsgType_mono2 (fuel : Nat) (ih : AllMono2 fuel) (b : Ast.BlockOrStmt) :
    Le2 (Sema.blockOrStmtToAsgType (fuel + 1) b) (Sema.blockOrStmtToAsgType (fuel + 1 + 1) b) := by
  unfold Sema.blockOrStmtToAsgType; le2

theorem classicalDeclarationStatementToAsgStmt_mono2 (fuel : Nat) (ih : AllMono2 fuel) (sp : Ast.Span) (arr : Bool) (st : Option Ast.ScalarType) (ct : Bool) (n : Option Ast.Name) (e : Option Ast.Expr) :
    Le2 (Sema.classicalDeclarationStatementToAsgStmt (fuel + 1) sp arr st ct n e) (Sema.classicalDeclarationStatementToAsgStmt (fuel + 1 + 1) sp arr st ct n e) := by
  unfold Sema.classicalDeclarationStatementToAsgStmt; le2

theorem assignmentStmtToAsgStmt_mono2 (fuel : Nat) (ih : AllMono2 fuel) (sp : Ast.Span) (i : Option Ast.Identifier) (rhs : Option Ast.Expr) (ii : Option Ast.IndexedIdentifier) :
    Le2 (Sema.assignmentStmtToAsgStmt (fuel + 1) sp i rhs ii) (Sema.assignmentStmtToAsgStmt (fuel + 1 + 1) sp i rhs ii) := by
  unfold Sema.assignmentStmtToAsgStmt; le2

theorem indexedIdentifierToAsgType_mono2 (fuel : Nat) (ih : AllMono2 fuel) (ii : Ast.IndexedIdentifier) :
    Le2 (Sema.indexedIdentifierToAsgType (fuel + 1) ii) (Sema.indexedIdentifierToAsgType (fuel + 1 + 1) ii) := by
  unfold Sema.indexedIdentifierToAsgType; le2

theorem indexOperatorsLoop_mono2 (fuel : Nat) (ih : AllMono2 fuel) (ixs : List Ast.IndexOperator) :
    Le2 (Sema.indexOperatorsLoop (fuel + 1) ixs) (Sema.indexOperatorsLoop (fuel + 1 + 1) ixs) := by
  unfold Sema.indexOperatorsLoop; le2

theorem allMono2 (fuel : Nat) : AllMono2 fuel := by
  induction fuel with
  | zero =>
    constructor
    · intros; conv => lhs; unfold Sema.stmtToAsgStmt
      exact Le2.throw_fuel_left _
    · intros; conv => lhs; unfold Sema.caseExprsLoop
      exact Le2.throw_fuel_left _
    · intros; conv => lhs; unfold Sema.exprStmtToAsgStmt
      exact Le2.throw_fuel_left _
    · intros; conv => lhs; unfold Sema.modifiersLoop
      exact Le2.throw_fuel_left _
    · intros; conv => lhs; unfold Sema.parenExprToAsgTexpr
      exact Le2.throw_fuel_left _
    · intros; conv => lhs; unfold Sema.exprToAsgTexpr
      exact Le2.throw_fuel_left _
    · intros; conv => lhs; unfold Sema.setExpressionToAsgType
      exact Le2.throw_fuel_left _
    · intros; conv => lhs; unfold Sema.rangeExpressionToAsgType
      exact Le2.throw_fuel_left _
    · intros; conv => lhs; unfold Sema.gateCallExprToAsgStmt
      exact Le2.throw_fuel_left _
    · intros; conv => lhs; unfold Sema.callExprToAsgTexpr
      exact Le2.throw_fuel_left _
    · intros; conv => lhs; unfold Sema.gateOperandToAsgTexpr
      exact Le2.throw_fuel_left _
    · intros; conv => lhs; unfold Sema.indexOperatorToAsgType
      exact Le2.throw_fuel_left _
    · intros; conv => lhs; unfold Sema.expressionListToAsgType
      exact Le2.throw_fuel_left _
    · intros; conv => lhs; unfold Sema.qubitListToAsgTexpr
      exact Le2.throw_fuel_left _
    · intros; conv => lhs; unfold Sema.gateOperandsLoop
      exact Le2.throw_fuel_left _
    · intros; conv => lhs; unfold Sema.expressionListToAsgTexpr
      exact Le2.throw_fuel_left _
    · intros; conv => lhs; unfold Sema.exprsLoop
      exact Le2.throw_fuel_left _
    · intros; conv => lhs; unfold Sema.blockExprToAsgStmtList
      exact Le2.throw_fuel_left _
    · intros; conv => lhs; unfold Sema.stmtsLoop
      exact Le2.throw_fuel_left _
    · intros; conv => lhs; unfold Sema.blockExprToAsgType
      exact Le2.throw_fuel_left _
    · intros; conv => lhs; unfold Sema.blockOrStmtToAsgType
      exact Le2.throw_fuel_left _
    · intros; conv => lhs; unfold Sema.classicalDeclarationStatementToAsgStmt
      exact Le2.throw_fuel_left _
    · intros; conv => lhs; unfold Sema.assignmentStmtToAsgStmt
      exact Le2.throw_fuel_left _
    · intros; conv => lhs; unfold Sema.indexedIdentifierToAsgType
      exact Le2.throw_fuel_left _
    · intros; conv => lhs; unfold Sema.indexOperatorsLoop
      exact Le2.throw_fuel_left _
  | succ fuel ih =>
    constructor
    · intros; exact stmtToAsgStmt_mono2 fuel ih _
    · intros; exact caseExprsLoop_mono2 fuel ih _
    · intros; exact exprStmtToAsgStmt_mono2 fuel ih _
    · intros; exact modifiersLoop_mono2 fuel ih _
    · intros; exact parenExprToAsgTexpr_mono2 fuel ih _
    · intros; exact exprToAsgTexpr_mono2 fuel ih _
    · intros; exact setExpressionToAsgType_mono2 fuel ih _
    · intros; exact rangeExpressionToAsgType_mono2 fuel ih _
    · intros; exact gateCallExprToAsgStmt_mono2 fuel ih _ _
    · intros; exact callExprToAsgTexpr_mono2 fuel ih _ _ _
    · intros; exact gateOperandToAsgTexpr_mono2 fuel ih _
    · intros; exact indexOperatorToAsgType_mono2 fuel ih _
    · intros; exact expressionListToAsgType_mono2 fuel ih _
    · intros; exact qubitListToAsgTexpr_mono2 fuel ih _
    · intros; exact gateOperandsLoop_mono2 fuel ih _
    · intros; exact expressionListToAsgTexpr_mono2 fuel ih _
    · intros; exact exprsLoop_mono2 fuel ih _
    · intros; exact blockExprToAsgStmtList_mono2 fuel ih _
    · intros; exact stmtsLoop_mono2 fuel ih _
    · intros; exact blockExprToAsgType_mono2 fuel ih _
    · intros; exact blockOrStmtToAsgType_mono2 fuel ih _
    · intros; exact classicalDeclarationStatementToAsgStmt_mono2 fuel ih _ _ _ _ _ _
    · intros; exact assignmentStmtToAsgStmt_mono2 fuel ih _ _ _ _
    · intros; exact indexedIdentifierToAsgType_mono2 fuel ih _
    · intros; exact indexOperatorsLoop_mono2 fuel ih _

/-- more fuel changes neither a successful run nor a panic (statement function) -/
theorem stmtToAsgStmt_mono2_le {fuel fuel' : Nat} (h : fuel ≤ fuel') (st : Ast.Stmt) :
    Le2 (Sema.stmtToAsgStmt fuel st) (Sema.stmtToAsgStmt fuel' st) := by
  induction h with
  | refl => exact Le2.refl _
  | step _ ih => exact ih.trans ((allMono2 _).stmtToAsgStmt st)

theorem syntaxToSemanticLoop_mono2_step (fuel : Nat) (ss : List Ast.Stmt) :
    Le2 (Sema.syntaxToSemanticLoop fuel ss) (Sema.syntaxToSemanticLoop (fuel + 1) ss) := by
  induction fuel generalizing ss with
  | zero => conv => lhs; unfold Sema.syntaxToSemanticLoop
            exact Le2.throw_fuel_left _
  | succ fuel ih =>
    have m_stmt := (allMono2 fuel).stmtToAsgStmt
    unfold Sema.syntaxToSemanticLoop
    repeat' first
      | (le2_head Sema.stmtToAsgStmt; exact m_stmt _)
      | (le2_head Sema.syntaxToSemanticLoop; exact ih _)
      | le2_step

/-- the top-level loop: more fuel changes neither a successful run nor a panic -/
theorem syntaxToSemanticLoop_mono2 {fuel fuel' : Nat} (h : fuel ≤ fuel') (ss : List Ast.Stmt) :
    Le2 (Sema.syntaxToSemanticLoop fuel ss) (Sema.syntaxToSemanticLoop fuel' ss) := by
  induction h with
  | refl => exact Le2.refl _
  | step _ ih => exact ih.trans (syntaxToSemanticLoop_mono2_step _ ss)

end Oq3.C18E
