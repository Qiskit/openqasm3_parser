/-
C03, totality on a syntactic fragment — base: the success predicate and the primitives.

`Succ Q x`: from every context whose symbol table satisfies the C19 invariant, `x` returns normally,
the final context is related to the initial one by `Ext` (hence satisfies the invariant again), and
the returned value satisfies `Q`.  `Succ` composes along `>>=` (`Succ.bind`), so a function built
from succeeding pieces succeeds.  One lemma per primitive / non-recursive function of
`Model/SemaCtx.lean` that the fragment uses.
-/
import Oq3.Props.C13

namespace Oq3.Sema
open Oq3.Types Oq3.Symbols Oq3.Props

def Succ {α} (Q : α → Prop) (x : M α) : Prop :=
  ∀ s, C19.Inv s.symbolTable → ∃ a s', x s = .ok (a, s') ∧ Ext s s' ∧ Q a

theorem Succ.of_runs {α} {Q : α → Prop} {x : M α} (hp : Pres x)
    (h : ∀ s, C19.Inv s.symbolTable → ∃ a s', x s = .ok (a, s') ∧ Q a) : Succ Q x := by
  intro s hi
  obtain ⟨a, s', hr, hq⟩ := h s hi
  exact ⟨a, s', hr, hp.run s (a, s') hr, hq⟩

theorem Succ.pure {α} {Q : α → Prop} (a : α) (h : Q a) : Succ Q (pure a : M α) :=
  fun s _ => ⟨a, s, rfl, Ext.refl s, h⟩

theorem Succ.bind {α β} {Q : α → Prop} {R : β → Prop} {x : M α} {f : α → M β}
    (hx : Succ Q x) (hf : ∀ a, Q a → Succ R (f a)) : Succ R (x >>= f) := by
  intro s hi
  obtain ⟨a, s1, h1, e1, q1⟩ := hx s hi
  obtain ⟨b, s2, h2, e2, q2⟩ := hf a q1 s1 (e1.sym.inv hi)
  exact ⟨b, s2, by rw [bind_eq_of_ok h1]; exact h2, e1.trans e2, q2⟩

theorem Succ.bindAny {α β} {R : β → Prop} {x : M α} {f : α → M β}
    (hx : Succ (fun _ => True) x) (hf : ∀ a, Succ R (f a)) : Succ R (x >>= f) :=
  Succ.bind hx (fun a _ => hf a)

theorem Succ.pure_bind {α β} {R : β → Prop} (a : α) {f : α → M β} (h : Succ R (f a)) :
    Succ R ((Pure.pure a : M α) >>= f) := by
  intro s hi
  rw [C13.run_bind_pure]
  exact h s hi

theorem Succ.mono {α} {Q R : α → Prop} {x : M α} (h : Succ Q x) (hq : ∀ a, Q a → R a) : Succ R x :=
  fun s hi => let ⟨a, s', hr, he, q⟩ := h s hi; ⟨a, s', hr, he, hq a q⟩

theorem Succ.ite {α} {Q : α → Prop} (c : Prop) [Decidable c] {x y : M α} (hx : Succ Q x)
    (hy : Succ Q y) : Succ Q (if c then x else y) := by
  split <;> assumption

abbrev Any {α} : α → Prop := fun _ => True

abbrev IsSome {α} : Option α → Prop := fun r => r.isSome = true

theorem Succ.bindSome {α β} {R : β → Prop} {x : M (Option α)} {f : Option α → M β}
    (hx : Succ IsSome x) (hf : ∀ a, Succ R (f (some a))) : Succ R (x >>= f) :=
  Succ.bind hx (fun r hr => by obtain ⟨a, rfl⟩ := Option.isSome_iff_exists.mp hr; exact hf a)

theorem stack_nonempty {t : SymTab} (h : C19.Inv t) : ∃ top rest, t.stack = top :: rest := by
  cases hst : t.stack with
  | nil => exact absurd hst (C19.globalBottom_ne_nil h.global_bottom)
  | cons a b => exact ⟨a, b, rfl⟩

theorem unwrap_succ {α} (site : String) (a : α) : Succ (· = a) (unwrap site (some a)) :=
  fun s _ => ⟨a, s, rfl, Ext.refl s, rfl⟩

theorem Succ.unwrap_bind {α β} {R : β → Prop} {site : String} {a : α} {f : α → M β}
    (h : Succ R (f a)) : Succ R (unwrap site (some a) >>= f) :=
  Succ.pure_bind a h

theorem insertError_succ (k : SemanticErrorKind) (node : Ast.Span) : Succ Any (insertError k node) :=
  Succ.of_runs (insertError_pres k node) (fun s _ => ⟨(), _, C13.run_insertError k node s, trivial⟩)

theorem newBinding_succ (name : String) (typ : T) (node : Ast.Span) :
    Succ Any (newBinding name typ node) := by
  refine Succ.of_runs (newBinding_pres name typ node) (fun s hi => ?_)
  obtain ⟨top, rest, hst⟩ := stack_nonempty hi
  cases hg : top.get name with
  | none =>
    obtain ⟨s', h, _⟩ := C07.ids_name_correct_newBinding name typ node s hi top rest hst hg
    exact ⟨_, s', h, trivial⟩
  | some v =>
    exact ⟨_, _, C07.redeclaration_marked name typ node s top rest hst (by rw [hg]; simp), trivial⟩

theorem lookupSymbol_succ (name : String) (node : Ast.Span) : Succ Any (lookupSymbol name node) := by
  refine Succ.of_runs (Pres.closed.lookupSymbol name node) (fun s hi => ?_)
  cases hl : s.symbolTable.lookupId name with
  | none => exact ⟨_, _, C07.undeclared_logs_once name node s hi hl, trivial⟩
  | some id =>
    obtain ⟨ty, h, _⟩ := C07.declared_logs_nothing name node s hi id hl
    exact ⟨_, _, h, trivial⟩

theorem lookupGateSymbol_succ (name : String) (node : Ast.Span) :
    Succ Any (lookupGateSymbol name node) := by
  refine Succ.of_runs (Pres.closed.lookupGateSymbol name node) (fun s hi => ?_)
  rcases C07.tableLookup_spec name s hi with ⟨hl, _⟩ | ⟨id, ty, _, _, hf⟩
  · exact ⟨_, _, C07.undeclared_gate_logs_once name node s hi hl, trivial⟩
  · refine ⟨((.ok id, ty) : SymbolIdResult × T), s, ?_, trivial⟩
    unfold lookupGateSymbol
    rw [bind_eq_of_ok hf]
    simp [SymbolIdResult.isOk]

theorem lookupIdentifier_succ (i : Ast.Identifier) : Succ Any (lookupIdentifier i) := by
  unfold lookupIdentifier; exact lookupSymbol_succ _ _

theorem currentScopeType_succ : Succ Any currentScopeType := by
  refine Succ.of_runs currentScopeType_readOnly.pres (fun s hi => ?_)
  obtain ⟨top, rest, hst⟩ := stack_nonempty hi
  exact ⟨_, _, C13.run_currentScopeType s top rest hst, trivial⟩

theorem insertConstValue_succ (id : Nat) (v : TExpr) : Succ Any (insertConstValue id v) :=
  Succ.of_runs (insertConstValue_pres id v) (fun _ _ => ⟨(), _, rfl, trivial⟩)

theorem pushAnnotation_succ (a : String) : Succ Any (pushAnnotation a) :=
  Succ.of_runs (pushAnnotation_pres a) (fun _ _ => ⟨(), _, rfl, trivial⟩)

theorem annotationsIsEmpty_succ : Succ Any annotationsIsEmpty :=
  Succ.of_runs annotationsIsEmpty_readOnly.pres (fun _ _ => ⟨_, _, rfl, trivial⟩)

theorem takeAnnotations_succ : Succ Any takeAnnotations :=
  Succ.of_runs takeAnnotations_pres (fun _ _ => ⟨_, _, rfl, trivial⟩)

theorem insertStmt_succ (st : Stmt) : Succ Any (insertStmt st) :=
  Succ.of_runs (insertStmt_pres st) (fun _ _ => ⟨(), _, rfl, trivial⟩)

theorem withScope_succ {α} {Q : α → Prop} (k : ScopeType) (body : M α) (hk : k ≠ .global)
    (hb : Succ Q body) : Succ Q (withScope k body) := by
  intro s hi
  have henter : enterScope k s = .ok ((), { s with symbolTable := (s.symbolTable.step (.enter k)).1 }) := by
    unfold enterScope
    have h1 : symStep "enter_scope: the unique global scope must be the first scope" (.enter k) s =
        .ok ((s.symbolTable.step (.enter k)).2,
          { s with symbolTable := (s.symbolTable.step (.enter k)).1 }) := by
      rw [symStep_ok]
      refine ⟨?_, rfl⟩
      simp [SymTab.step, hk]
    rw [bind_eq_of_ok h1]; rfl
  have hstack1 : (s.symbolTable.step (.enter k)).1.stack = ⟨[], k⟩ :: s.symbolTable.stack :=
    C19.step_enter_stack _ k hk
  have hi1 : C19.Inv (s.symbolTable.step (.enter k)).1 := C19.inv_step _ _ hi
  obtain ⟨a, s2, h2, e2, q2⟩ := hb { s with symbolTable := (s.symbolTable.step (.enter k)).1 } hi1
  have hlen2 : s2.symbolTable.stack.length > 1 := by
    obtain ⟨top, rest, hst⟩ := stack_nonempty hi
    have := e2.sym.len
    simp only [hstack1, hst, List.length_cons] at this
    omega
  have hexit : exitScope s2 = .ok ((), { s2 with symbolTable := (s2.symbolTable.step .exit).1 }) := by
    unfold exitScope
    have h1 : symStep "exit_scope: assertion failed (exiting the global scope)" .exit s2 =
        .ok ((s2.symbolTable.step .exit).2, { s2 with symbolTable := (s2.symbolTable.step .exit).1 }) := by
      rw [symStep_ok]
      refine ⟨?_, rfl⟩
      simp [SymTab.step, hlen2]
    rw [bind_eq_of_ok h1]; rfl
  have hrun : withScope k body s = .ok (a, { s2 with symbolTable := (s2.symbolTable.step .exit).1 }) := by
    unfold withScope
    rw [bind_eq_of_ok henter, bind_eq_of_ok h2, bind_eq_of_ok hexit]; rfl
  have hstack3 : (s2.symbolTable.step .exit).1.stack = s.symbolTable.stack := by
    rw [C19.step_exit_stack _ hlen2, e2.sym.tail]
    show ((s.symbolTable.step (.enter k)).1).stack.tail = _
    rw [hstack1]; rfl
  have hall1 : (s.symbolTable.step (.enter k)).1.all = s.symbolTable.all := by
    simp only [SymTab.step]; split <;> rfl
  have hall3 : (s2.symbolTable.step .exit).1.all = s2.symbolTable.all := by
    simp only [SymTab.step]; split <;> rfl
  refine ⟨a, _, hrun, ⟨SymExt.of_stack_eq hstack3 ?_ ?_, e2.errs⟩, q2⟩
  · show s.symbolTable.all <+: (s2.symbolTable.step .exit).1.all
    rw [hall3, ← hall1]; exact e2.sym.all
  · intro _; exact C19.inv_step _ _ (e2.sym.inv hi1)

end Oq3.Sema
