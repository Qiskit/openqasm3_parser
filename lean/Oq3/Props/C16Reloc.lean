/-
C16 — the RELOCATION half of compositionality.

`Lemmas/Reloc.lean` + the generated `Lemmas/GrammarReloc.lean` (tools/gen_grammar_reloc.py) prove,
for EVERY function of the grammar model and every fuel (`Oq3.Grammar.allRL`):

  a successful run from a state `s0` (input `K0`, position `q`, events `X`) is reproduced from every
  state `lift c s0` — input with `K0` as the suffix from `c.p` on, position `c.p + q`, events
  `c.E0 ++ X` —: it returns the same value with marker positions shifted by `|c.E0|`, and ends in
  `lift c t0` where `t0` is the end state of the original run.

So the NEW events a function pushes are a function of the input suffix alone (forward-parent links
are relative offsets; `protectedPos`, the only absolute datum, is shifted along), and so is the
number of tokens it consumes.  The counters `steps`, `sinceBump`, `live` and the two hang limits are
carried along unchanged (they only matter for the hang detectors).

Stated here for the statement level:

* `rebase s` — the state seen from its own position: the input suffix from `s.pos` on, position 0,
  no events; `relocates`: a run from `rebase s` is the run from `s` with `s.events` in front.
* `block_statements_cons` / `file_items_cons` (**sequence compositionality**): the events of a
  statement sequence are the events of its first statement followed by the events of the REST OF
  THE SEQUENCE PARSED ON ITS OWN (from the empty event list, on the remaining input); by
  iteration, the concatenation of the events of the statements parsed on their own inputs.
  Side condition: none — except that "the first statement" means what `stmt` (resp. `item`)
  consumes on the actual input.  Whether that is the statement the author had in mind is the
  question of the `Follow` conditions: for the statement shapes of `Props/C04.lean` the `accept_*`
  lemmas say exactly which tokens are consumed, under conditions on the next token stated with
  `opFirst` (an assignment statement keeps looking for a binary operator after its `;`) —
  `assign_then_rest` is the instance for `x = y;` followed by anything that starts no operator.
  The recorded exceptions are exactly the cases where `stmt`/`item` consumes something else than
  the intended statement, or dispatches differently at top level:
    F09a `int x;;` (`item`: the empty statement after an item is an error, `C16.witness_semicolon_first`),
    F09b `y; let a = q;` (`item` vs `stmt` on `let`, `C16.witness_let_after_stmt`),
    F09c `float[8](x);` at statement start (declaration path), F09d `{ … };` (a block-like
    statement eats a following `;`), F09e `x = 1; -y;` (`opFirst MINUS = true`:
    `C16.witness_assign_then_minus`), F09f (a scope ending a block is a bare BLOCK_EXPR).
  They do not contradict the theorems here (which hold for ALL inputs); they are what the
  hypotheses `stmt … = ok t` / `item … = ok t` hide.
-/
import Oq3.Lemmas.GrammarReloc
import Oq3.Lemmas.GrammarProt
import Oq3.Lemmas.ParseTop
import Oq3.Props.C04
import Oq3.Props.C16

namespace Oq3.Props.C16
open Oq3.Gen Oq3.Parser Oq3.Grammar

/-- the state seen from its own position: the input suffix, no events -/
def rebase (s : P) : P :=
  { s with kinds := s.kinds.extract s.pos s.kinds.size, joint := s.joint.extract s.pos s.joint.size,
           pos := 0, events := #[], protectedPos := [] }

/-- the context of a state: everything `rebase` forgets -/
def ctxOf (s : P) : Ctx := ⟨s.kinds, s.joint, s.pos, s.events, s.protectedPos⟩

theorem lift_rebase (s : P) : lift (ctxOf s) (rebase s) = s := by
  simp [lift, rebase, ctxOf]

theorem getD_extract {α} (a : Array α) (p i : Nat) (d : α) :
    (a.extract p a.size).getD i d = a.getD (p + i) d := by
  simp only [Array.getD_eq_getD_getElem?, Array.getElem?_extract]
  by_cases h : i < a.size - p
  · simp only [Nat.min_self, h, if_true]
  · simp only [Nat.min_self, h, if_false]
    rw [Array.getElem?_eq_none (by omega)]

theorem fits_rebase (s : P) (hp : ∀ q ∈ s.protectedPos, q < s.events.size) : Fits (ctxOf s) (rebase s) :=
  ⟨fun i => (getD_extract s.kinds s.pos i .EOF).symm, fun i => (getD_extract s.joint s.pos i false).symm, hp⟩

@[simp] theorem lift_ctxOf_events (s t0 : P) : (lift (ctxOf s) t0).events = s.events ++ t0.events := rfl
@[simp] theorem lift_ctxOf_pos (s t0 : P) : (lift (ctxOf s) t0).pos = s.pos + t0.pos := rfl
@[simp] theorem lift_ctxOf_kinds (s t0 : P) : (lift (ctxOf s) t0).kinds = s.kinds := rfl

/-- **Relocation, general form**: a run from `rebase s` is the run from `s`, with `s.events` in
front, `s.pos` added, and marker positions in the result shifted -/
theorem relocates {α} [Sh α] {x0 x : G α} (s : P) (h : RL s.events.size x0 x)
    (hp : ∀ q ∈ s.protectedPos, q < s.events.size) (r0 : α × P) (hr : x0 (rebase s) = .ok r0) :
    x s = .ok (Sh.sh s.events.size r0.1, lift (ctxOf s) r0.2) := by
  have := (h.run (ctxOf s) (rebase s) r0 rfl (fits_rebase s hp) hr).1
  rwa [lift_rebase] at this

theorem stmt_relocates (fuel : Nat) (s : P) (hp : ∀ q ∈ s.protectedPos, q < s.events.size) (t0 : P)
    (h : stmt fuel (rebase s) = .ok ((), t0)) : stmt fuel s = .ok ((), lift (ctxOf s) t0) :=
  relocates s ((allRL fuel).stmt _) hp ((), t0) h

theorem item_relocates (fuel : Nat) (b : Bool) (s : P) (hp : ∀ q ∈ s.protectedPos, q < s.events.size) (t0 : P)
    (h : item fuel b (rebase s) = .ok ((), t0)) : item fuel b s = .ok ((), lift (ctxOf s) t0) :=
  relocates s ((allRL fuel).item _ b) hp ((), t0) h

theorem exprBlockStatements_relocates (fuel : Nat) (s : P) (hp : ∀ q ∈ s.protectedPos, q < s.events.size)
    (t0 : P) (h : exprBlockStatements fuel (rebase s) = .ok ((), t0)) :
    exprBlockStatements fuel s = .ok ((), lift (ctxOf s) t0) :=
  relocates s ((allRL fuel).exprBlockStatements _) hp ((), t0) h

theorem sourceFileContents_relocates (fuel : Nat) (b : Bool) (s : P)
    (hp : ∀ q ∈ s.protectedPos, q < s.events.size) (t0 : P)
    (h : sourceFileContents fuel b (rebase s) = .ok ((), t0)) :
    sourceFileContents fuel b s = .ok ((), lift (ctxOf s) t0) :=
  relocates s ((allRL fuel).sourceFileContents _ b) hp ((), t0) h

/-- the same for expressions (`expr_bp` with a fresh marker): value = the completed marker, shifted -/
theorem exprBp_relocates (fuel : Nat) (r : Restrictions) (bp : Nat) (s : P)
    (hp : ∀ q ∈ s.protectedPos, q < s.events.size) (v : Option (CompletedMarker × BlockLike)) (t0 : P)
    (h : exprBp fuel none r bp (rebase s) = .ok (v, t0)) :
    exprBp fuel none r bp s = .ok (Sh.sh s.events.size v, lift (ctxOf s) t0) :=
  relocates s ((allRL fuel).exprBp _ none r bp) hp (v, t0) h

/-- **Statements in a block compose.**  If the block loop is at a statement (not at `}` / end of
input), `stmt` parses one statement from `s` reaching `t`, and the REST of the sequence, parsed on
its own (`rebase t`: the remaining input, no events), ends in `u0`, then the loop from `s` ends in
`lift (ctxOf t) u0`: its events are `t.events ++ u0.events` — the events of the first statement
followed by the events of the rest parsed on its own — and it consumes `t.pos + u0.pos` tokens. -/
theorem block_statements_cons (fuel : Nat) (s t u0 : P)
    (hgo : s.kindAt s.pos ≠ .EOF ∧ s.kindAt s.pos ≠ .R_CURLY)
    (h1 : stmt fuel s = .ok ((), t))
    (hp : ∀ q ∈ t.protectedPos, q < t.events.size)
    (h2 : exprBlockStatements fuel (rebase t) = .ok ((), u0)) :
    exprBlockStatements (fuel + 1) s = .ok ((), lift (ctxOf t) u0) := by
  have h3 := exprBlockStatements_relocates fuel t hp u0 h2
  rw [exprBlockStatements.eq_2]
  simp only [G.bind_apply, G.andM_apply, G.notM_apply, at_simple_eq .EOF rfl, at_simple_eq .R_CURLY rfl]
  have e1 : (s.kindAt s.pos == SyntaxKind.EOF) = false := by simpa using hgo.1
  have e2 : (s.kindAt s.pos == SyntaxKind.R_CURLY) = false := by simpa using hgo.2
  simp only [e1, e2, Bool.not_false, if_true, G.pure_apply]
  rw [G.bind_apply, h1]
  exact h3

/-- **Top-level items compose**, in the same sense, with `item` as the dispatcher. -/
theorem file_items_cons (fuel : Nat) (s t u0 : P)
    (hgo : s.kindAt s.pos ≠ .EOF)
    (h1 : item fuel false s = .ok ((), t))
    (hp : ∀ q ∈ t.protectedPos, q < t.events.size)
    (h2 : sourceFileContents fuel false (rebase t) = .ok ((), u0)) :
    sourceFileContents (fuel + 1) false s = .ok ((), lift (ctxOf t) u0) := by
  have h3 := sourceFileContents_relocates fuel false t hp u0 h2
  have e1 : (s.kindAt s.pos == SyntaxKind.EOF) = false := by simpa using hgo
  rw [sourceFileContents.eq_2, G.bind_apply, sfc_cond_eq, e1]
  simp only [Bool.not_false, if_true]
  rw [G.bind_apply, h1]
  exact h3

/-- the side condition on `protectedPos` is an invariant of the grammar (`Lemmas/ProtInv.lean`,
generated `Lemmas/GrammarProt.lean`): it holds in every state reached from one where it holds — in
particular from the initial state of a parse, whose list is empty -/
theorem block_statements_cons' (fuel : Nat) (s t u0 : P) (hs : ProtOK s)
    (hgo : s.kindAt s.pos ≠ .EOF ∧ s.kindAt s.pos ≠ .R_CURLY)
    (h1 : stmt fuel s = .ok ((), t))
    (h2 : exprBlockStatements fuel (rebase t) = .ok ((), u0)) :
    exprBlockStatements (fuel + 1) s = .ok ((), lift (ctxOf t) u0) ∧ ProtOK t :=
  have ht : ProtOK t := ((allPO fuel).stmt).run s ((), t) hs h1
  ⟨block_statements_cons fuel s t u0 hgo h1 ht h2, ht⟩

theorem file_items_cons' (fuel : Nat) (s t u0 : P) (hs : ProtOK s)
    (hgo : s.kindAt s.pos ≠ .EOF)
    (h1 : item fuel false s = .ok ((), t))
    (h2 : sourceFileContents fuel false (rebase t) = .ok ((), u0)) :
    sourceFileContents (fuel + 1) false s = .ok ((), lift (ctxOf t) u0) ∧ ProtOK t :=
  have ht : ProtOK t := ((allPO fuel).item false).run s ((), t) hs h1
  ⟨file_items_cons fuel s t u0 hgo h1 ht h2, ht⟩

theorem protOK_rebase (s : P) : ProtOK (rebase s) := fun q hq => by cases hq

/-- the events and the position promised by the two `…_cons` theorems, spelled out -/
theorem cons_events (t u0 : P) :
    (lift (ctxOf t) u0).events = t.events ++ u0.events ∧ (lift (ctxOf t) u0).pos = t.pos + u0.pos :=
  ⟨rfl, rfl⟩

open Oq3.Props.C04 in
/-- `x = y;` followed by a token that starts no operator, then anything: the block loop's events
are the twelve events of the assignment statement followed by the events of the rest parsed on its
own.  (With `-` as the next token the hypothesis `hf` fails and the statement is a different one:
F09e, `witness_assign_then_minus`.) -/
theorem assign_then_rest (fuel : Nat) (s u0 : P) (hr : Ready s)
    (h0 : s.kindAt (s.pos + 0) = .IDENT) (h1 : s.kindAt (s.pos + 1) = .EQ)
    (h2 : s.kindAt (s.pos + 2) = .IDENT) (h3 : s.kindAt (s.pos + 3) = .SEMICOLON)
    (k : SyntaxKind) (hk : s.kindAt (s.pos + 4) = k) (hf : opFirst k = false) :
    ∃ t, stmt (fuel + 40) s = .ok ((), t) ∧
      t.events = s.events ++ (#[.start .TOMBSTONE (some 1), .start .IDENTIFIER (some 3), .token .IDENT 1, .finish,
        .start .ASSIGNMENT_STMT none, .token .EQ 1, .start .TOMBSTONE (some 1),
        .start .IDENTIFIER none, .token .IDENT 1, .finish, .token .SEMICOLON 1, .finish] : Array Ev) ∧
      t.pos = s.pos + 4 ∧
      (exprBlockStatements (fuel + 40) (rebase t) = .ok ((), u0) →
        exprBlockStatements (fuel + 41) s = .ok ((), lift (ctxOf t) u0)) := by
  obtain ⟨_, sb, hacc⟩ := accept_assign_ident fuel s hr h0 h1 h2 h3 k hk hf
  refine ⟨_, hacc, rfl, rfl, fun hrest => ?_⟩
  have hcur : s.kindAt s.pos = .IDENT := by simpa using h0
  refine block_statements_cons (fuel + 40) s _ u0 ⟨by rw [hcur]; decide, by rw [hcur]; decide⟩ hacc ?_ hrest
  intro q hq
  have := hr.prot q hq
  show q < (s.events ++ _).size
  rw [Array.size_append]; omega

theorem opFirst_minus : opFirst .MINUS = true ∧ opFirst .IDENT = false ∧ opFirst .INT_TY = false ∧
    opFirst .IF_KW = false ∧ opFirst .R_CURLY = false ∧ opFirst .EOF = false := by decide

end Oq3.Props.C16
