/-
C05, event level — the grammar MODEL (`Oq3.Grammar.exprBp`, the literal model of `expr_bp` /
`lhs` / `atom_expr` / `tuple_expr` / `current_op`) nests binary and prefix expressions according to
the translated operator table, for expression trees of ARBITRARY depth.

Trees `Oq3.PrattEv.E`: identifier, integer literal, the 19 binary operators, the 3 prefix
operators, parentheses.  For every tree `t` that is canonical for the implementation's table at
level `bp` (`Oq3.Props.C05.Canon implTab bp t.toPratt` — the trees the abstract Pratt core rebuilds
from their own minimal-parenthesis print, `Oq3.Props.C05.impl_roundtrip`):

* `exprBp_roundtrip`: from ANY start state whose input at `s.pos` is `toks t` followed by a token
  satisfying the Follow condition, `exprBp fuel none r bp` succeeds, consumes exactly `toks t`,
  pushes exactly `evs t` (no `Error` event; forward-parent links are relative offsets, so `evs t` is
  position independent), leaves the marker bookkeeping as it found it, and returns the completed
  marker of the ROOT `Start`; for every `fuel ≥ 6 * size t`.
* `process_evs` / `exprBp_roundtrip_process`: `process` turns these events into the pre-order node
  sequence `nodes t` (BIN_EXPR / PREFIX_EXPR / PAREN_EXPR / IDENTIFIER / LITERAL with the operator
  tokens in place), and `nodes` is injective (`nodes_injective`): the CST of the model grammar has
  exactly the shape of `t`.
* `c05_events`: the abstract Pratt core of `Props/C05.lean` and the grammar model agree on every
  canonical tree — by theorem, not by test.

FOLLOW CONDITION, exactly what the grammar probes after the last token of the tree (position
`q = s.pos + (toks t).length`):
  1. `StopsAt s q bp`: `current_op` at `q` (a pure function of the input, `opF`, `currentOp_eq`) has
     binding power `< bp` — the token is not an operator of power ≥ `bp` (composite tokens included);
  2. `EndOK t k` for the kind `k` at `q`: `k ∉ {L_PAREN, L_BRACK}` (`postfix_expr` would parse a
     call / an index); if the tree ends in an identifier, `k ∉ {IDENT, HARDWAREIDENT}` (`atom_expr`
     would parse a gate call); if it ends in an integer literal, `k ≠ IDENT` (`literal` would parse a
     timing literal).
START STATE: the `oq3_verif` no-progress hook is off (`noProgressLimit = 0`), `steps ≤ stepLimit`
(one look-ahead `nth(1)` happens before the first `bump`), and the ghost list `protectedPos` only
mentions existing events (`Ready s` of `Lemmas/SymExec.lean` implies all three).
-/
import Oq3.Lemmas.PrattEvRun
import Oq3.Lemmas.LangEvEmbed
import Oq3.Props.C05

namespace Oq3.Props.C05Events
open Oq3.Gen Oq3.Parser Oq3.Grammar Oq3.PrattEv
open Oq3.Pratt (implTab)

theorem canonE_iff (t : E) (bp : Nat) : CanonE bp t ↔ Oq3.Props.C05.Canon implTab bp t.toPratt := by
  induction t generalizing bp with
  | id => simp [CanonE, E.toPratt, Oq3.Props.C05.Canon]
  | int => simp [CanonE, E.toPratt, Oq3.Props.C05.Canon]
  | paren e ih => simp only [CanonE, E.toPratt, Oq3.Props.C05.Canon, ih]
  | pre o e ih =>
    simp only [CanonE, E.toPratt, Oq3.Props.C05.Canon, ih, o.preOK_impl, true_and, Oq3.Pratt.prefixBp]
  | bin o l r ihl ihr =>
    simp only [CanonE, E.toPratt, Oq3.Props.C05.Canon, ihr, o.pow_impl, o.rbp_impl]
    cases l with
    | bin o' l' r' =>
      simp only [E.toPratt, o'.rbp_impl]
      rw [ihl]; rfl
    | id | int | pre _ _ | paren _ => simp only [E.toPratt]; rw [ihl]; rfl

def errorFree : List Ev → Bool
  | [] => true
  | .error _ :: _ => false
  | _ :: es => errorFree es

theorem errorFree_append (a b : List Ev) : errorFree (a ++ b) = (errorFree a && errorFree b) := by
  induction a with
  | nil => rfl
  | cons x xs ih => cases x <;> simp [errorFree, ih]

theorem body_errorFree (t : E) (fp : Option Nat) : errorFree (body t fp) = true := by
  induction t generalizing fp with
  | id => rfl
  | int => rfl
  | pre o e ih => simp [body, errorFree, errorFree_append, tombLink, ih]
  | paren e ih => simp [body, errorFree, errorFree_append, tombLink, ih]
  | bin o l r ihl ihr => simp [body, errorFree, errorFree_append, tombLink, ihl, ihr]

theorem evs_errorFree (t : E) : errorFree (evs t) = true := by
  simp [evs, errorFree, tombLink, body_errorFree]

/-- **Event-level Pratt round trip for the grammar model.** -/
theorem exprBp_roundtrip (t : E) (bp : Nat) (r : Restrictions) (s : P) (fuel : Nat)
    (hnp : s.noProgressLimit = 0) (hst : s.steps ≤ s.stepLimit)
    (hpr : ∀ p ∈ s.protectedPos, p < s.events.size)
    (hc : Oq3.Props.C05.Canon implTab bp t.toPratt) (hbp : bp ≤ 255)
    (htk : Toks s s.pos (toks t))
    (hstop : StopsAt s (s.pos + (toks t).length) bp)
    (hend : EndOK t (s.kindAt (s.pos + (toks t).length)))
    (hfuel : 6 * size t ≤ fuel) :
    exprBp fuel none r bp s =
      .ok (some (⟨s.events.size + (rootOff t + 1), t.kind⟩, .notBlock),
        s.ov (evs t) (toks t).length 0 (sbOf t) s.live s.protectedPos) := by
  have hc' := (canonE_iff t bp).2 hc
  have hb := fuel_bound t
  have hn := need_ge t
  obtain ⟨g, rfl⟩ : ∃ g, fuel = (g + 1) + cF t := ⟨fuel - cF t - 1, by omega⟩
  exact exprBp_cps t bp (g + 1) r s _ _ hnp hst hpr
    ⟨htk, hend, rightStops_of_canon t bp s _ hc' hstop hbp⟩ hc' (by omega)
    (loop_stop s (evs t) (toks t).length 0 (sbOf t) s.live s.protectedPos g bp r _ hstop)

theorem exprBp_roundtrip_fields (t : E) (bp : Nat) (r : Restrictions) (s : P) (fuel : Nat)
    (hnp : s.noProgressLimit = 0) (hst : s.steps ≤ s.stepLimit)
    (hpr : ∀ p ∈ s.protectedPos, p < s.events.size)
    (hc : Oq3.Props.C05.Canon implTab bp t.toPratt) (hbp : bp ≤ 255)
    (htk : Toks s s.pos (toks t))
    (hstop : StopsAt s (s.pos + (toks t).length) bp)
    (hend : EndOK t (s.kindAt (s.pos + (toks t).length)))
    (hfuel : 6 * size t ≤ fuel) :
    ∃ cm s', exprBp fuel none r bp s = .ok (some (cm, .notBlock), s') ∧
      s'.pos = s.pos + (toks t).length ∧
      s'.events = s.events ++ (evs t).toArray ∧ errorFree (evs t) = true ∧
      s'.kinds = s.kinds ∧ s'.joint = s.joint ∧ s'.live = s.live ∧ s'.protectedPos = s.protectedPos ∧
      s'.steps = 0 ∧ s'.stepLimit = s.stepLimit ∧ s'.noProgressLimit = s.noProgressLimit ∧
      cm.kind = t.kind ∧ cm.pos = s.events.size + (rootOff t + 1) ∧
      s'.events[cm.pos]? = some (.start t.kind none) :=
  ⟨_, _, exprBp_roundtrip t bp r s fuel hnp hst hpr hc hbp htk hstop hend hfuel, rfl, rfl,
    evs_errorFree t, rfl, rfl, rfl, rfl, rfl, rfl, rfl, rfl, rfl, by
      show (s.events ++ (evs t).toArray)[s.events.size + (rootOff t + 1)]? = _
      rw [ov_get, evs_root]⟩

/-- from a `Ready` state (the hypothesis of the acceptance lemmas of `Props/C04.lean`) -/
theorem exprBp_roundtrip_ready (t : E) (bp : Nat) (r : Restrictions) (s : P) (fuel : Nat) (hr : Ready s)
    (hc : Oq3.Props.C05.Canon implTab bp t.toPratt) (hbp : bp ≤ 255)
    (htk : Toks s s.pos (toks t))
    (hstop : StopsAt s (s.pos + (toks t).length) bp)
    (hend : EndOK t (s.kindAt (s.pos + (toks t).length)))
    (hfuel : 6 * size t ≤ fuel) :
    exprBp fuel none r bp s =
      .ok (some (⟨s.events.size + (rootOff t + 1), t.kind⟩, .notBlock),
        s.ov (evs t) (toks t).length 0 (sbOf t) s.live s.protectedPos) :=
  exprBp_roundtrip t bp r s fuel hr.hook (by have := hr.steps; omega) hr.prot hc hbp htk hstop hend hfuel

/-- the entry point `expr` (initialisers, arguments, conditions, …): `expr_bp` at level 1 -/
theorem expr_roundtrip (t : E) (s : P) (fuel : Nat)
    (hnp : s.noProgressLimit = 0) (hst : s.steps ≤ s.stepLimit)
    (hpr : ∀ p ∈ s.protectedPos, p < s.events.size)
    (hc : Oq3.Props.C05.Canon implTab 1 t.toPratt)
    (htk : Toks s s.pos (toks t))
    (hstop : StopsAt s (s.pos + (toks t).length) 1)
    (hend : EndOK t (s.kindAt (s.pos + (toks t).length)))
    (hfuel : 6 * size t ≤ fuel) :
    expr (fuel + 1) s =
      .ok (some ⟨s.events.size + (rootOff t + 1), t.kind⟩,
        s.ov (evs t) (toks t).length 0 (sbOf t) s.live s.protectedPos) := by
  rw [expr.run_2, G.bind_apply,
    exprBp_roundtrip t 1 _ s fuel hnp hst hpr hc (by decide) htk hstop hend hfuel]
  rfl

/-! ### sufficient token-level Follow conditions -/

theorem stopsAt_of_not_startsOp (s : P) (q bp : Nat) (h : startsOp (s.kindAt q) = false) (hbp : 1 ≤ bp) :
    StopsAt s q bp := by
  unfold StopsAt
  rw [opF_nonop _ _ _ h]
  exact hbp

theorem not_opFirst_examples :
    [SyntaxKind.SEMICOLON, .R_PAREN, .COMMA, .R_BRACK, .R_CURLY, .COLON, .L_CURLY, .EOF].all
      (fun k => !startsOp k) = true := by decide

theorem stopsAt_of_weaker_op (o : BinOp) (s : P) (q bp : Nat) (h : Toks s q o.toks)
    (hn : operandFirst (s.kindAt (q + o.pieces.length)) = true) (hlt : o.pow < bp) : StopsAt s q bp := by
  unfold StopsAt
  rw [opF_binop o s q h (operandFirst_ne hn)]
  exact hlt

/-- **the CST of the model grammar has the shape of the tree**: `process` on the events pushed by the
run of `exprBp` yields the pre-order node sequence of `t` -/
theorem exprBp_roundtrip_process (t : E) : process (evs t) = some (nodes t) := process_evs t

/-- the compositional form: `evs t` anywhere in the final event list, `A` before it and `R` after it -/
theorem exprBp_roundtrip_process_segment (t : E) (n : Nat) (A R : List Ev) (out : List Step) :
    ∃ A' : List Ev, processGo (n + (evs t).length) A.length (A ++ (evs t ++ R)) out =
      processGo n A'.length (A' ++ R) (out ++ nodes t) :=
  goSeg_evs t n A R out

theorem exprBp_roundtrip_cst (t : E) (bp : Nat) (r : Restrictions) (s : P) (fuel : Nat)
    (hnp : s.noProgressLimit = 0) (hst : s.steps ≤ s.stepLimit)
    (hpr : ∀ p ∈ s.protectedPos, p < s.events.size) (hev : s.events = #[])
    (hc : Oq3.Props.C05.Canon implTab bp t.toPratt) (hbp : bp ≤ 255)
    (htk : Toks s s.pos (toks t))
    (hstop : StopsAt s (s.pos + (toks t).length) bp)
    (hend : EndOK t (s.kindAt (s.pos + (toks t).length)))
    (hfuel : 6 * size t ≤ fuel) :
    ∃ cm s', exprBp fuel none r bp s = .ok (some (cm, .notBlock), s') ∧
      process s'.events.toList = some (nodes t) := by
  refine ⟨_, _, exprBp_roundtrip t bp r s fuel hnp hst hpr hc hbp htk hstop hend hfuel, ?_⟩
  show process (s.events ++ (evs t).toArray).toList = _
  rw [hev]
  simp only [Array.toList_append, List.nil_append]
  exact process_evs t

theorem nodes_injective (t t' : E) (h : nodes t = nodes t') : t = t' := Oq3.PrattEv.nodes_injective t t' h

/-- the parser input for a token of the abstract core: atoms are `IDENT` (atom 0) / `INT_NUMBER`,
an operator token is the list of its single-character pieces in the translated composite table
(`Oq3.Gen.Ops.compositeTable`), every piece but the last one joint with its successor -/
def conc : Oq3.Pratt.Tok → List (SyntaxKind × Bool)
  | .atom 0 => [(.IDENT, false)]
  | .atom _ => [(.INT_NUMBER, false)]
  | .op k => jointed ((compositePieces k).getD [k])
  | .pre k => [(k, false)]
  | .lp => [(.L_PAREN, false)]
  | .rp => [(.R_PAREN, false)]

theorem BinOp.pieces_table (o : BinOp) : (compositePieces o.kind).getD [o.kind] = o.pieces := by
  cases o <;> decide

theorem toks_eq_print (t : E) : toks t = (Oq3.Pratt.print t.toPratt).flatMap conc := by
  induction t with
  | id => rfl
  | int => rfl
  | pre o e ih => simp only [toks, E.toPratt, Oq3.Pratt.print, List.flatMap_cons, conc, ih, List.cons_append, List.nil_append]
  | paren e ih =>
    simp only [toks, E.toPratt, Oq3.Pratt.print, List.flatMap_cons, List.flatMap_append, conc, ih, List.cons_append,
      List.nil_append, List.flatMap_nil, List.append_nil]
  | bin o l r ihl ihr =>
    simp only [toks, E.toPratt, Oq3.Pratt.print, List.flatMap_cons, List.flatMap_append, conc, ihl, ihr,
      BinOp.pieces_table, BinOp.toks]

/-- **C05 for the grammar model, tied to the abstract core.**  For every tree `t` that is canonical
for the implementation's table at level `bp`:
(1) the abstract Pratt core rebuilds `t.toPratt` from its print (`impl_roundtrip`);
(2) `toks t` is that print as parser input;
(3) the grammar model, run on `toks t` (+ Follow) from any admissible state, pushes exactly `evs t`,
    consumes exactly `toks t` and returns the root;
(4) `process` turns `evs t` into the node sequence `nodes t`, which determines `t`. -/
theorem c05_events (t : E) (bp : Nat) (hc : Oq3.Props.C05.Canon implTab bp t.toPratt) (hbp : bp ≤ 255) :
    (∀ rest, Oq3.Props.C05.Follow implTab bp rest →
      ∃ f, Oq3.Pratt.exprBp implTab f bp (Oq3.Pratt.print t.toPratt ++ rest) = some (t.toPratt, rest)) ∧
    toks t = (Oq3.Pratt.print t.toPratt).flatMap conc ∧
    (∀ (r : Restrictions) (s : P) (fuel : Nat), s.noProgressLimit = 0 → s.steps ≤ s.stepLimit →
      (∀ p ∈ s.protectedPos, p < s.events.size) → Toks s s.pos (toks t) →
      StopsAt s (s.pos + (toks t).length) bp → EndOK t (s.kindAt (s.pos + (toks t).length)) →
      6 * size t ≤ fuel →
      exprBp fuel none r bp s =
        .ok (some (⟨s.events.size + (rootOff t + 1), t.kind⟩, .notBlock),
          s.ov (evs t) (toks t).length 0 (sbOf t) s.live s.protectedPos)) ∧
    process (evs t) = some (nodes t) ∧ (∀ t', nodes t' = nodes t → t' = t) :=
  ⟨fun rest hf => Oq3.Props.C05.impl_roundtrip t.toPratt bp rest hc hf,
   toks_eq_print t,
   fun r s fuel hnp hst hpr htk hstop hend hfuel =>
     exprBp_roundtrip t bp r s fuel hnp hst hpr hc hbp htk hstop hend hfuel,
   process_evs t,
   fun t' h => Oq3.PrattEv.nodes_injective t' t h⟩

/-! ### non-vacuity: `a + 1 * (b) - -c ;` from the initial state -/

/-- `(a + (1 * (b))) - (-c)`, printed `a + 1 * (b) - -c` -/
def demo : E :=
  .bin .minus (.bin .plus .id (.bin .star .int (.paren .id))) (.pre .minus .id)

def demoState : P :=
  { kinds := #[.IDENT, .PLUS, .INT_NUMBER, .STAR, .L_PAREN, .IDENT, .R_PAREN, .MINUS, .MINUS, .IDENT, .SEMICOLON]
    joint := #[false, false, false, false, false, false, false, false, false, false, false] }

theorem demo_canon : Oq3.Props.C05.Canon implTab 1 demo.toPratt := by
  rw [← canonE_iff]
  simp [demo, CanonE, BinOp.pow]

/-- the instance of `exprBp_roundtrip` for `demo`; all hypotheses are closed facts -/
theorem demo_run (fuel : Nat) (h : 54 ≤ fuel) :
    exprBp fuel none { preferStmt := false } 1 demoState =
      .ok (some (⟨0 + (rootOff demo + 1), .BIN_EXPR⟩, .notBlock),
        demoState.ov (evs demo) 10 0 (sbOf demo) 0 []) :=
  exprBp_roundtrip demo 1 _ demoState fuel rfl (by decide) (by intro p hp; cases hp) demo_canon (by decide)
    (by simp [demo, toks, Toks, BinOp.toks, BinOp.pieces, jointed, PreOp.kind, demoState, P.kindAt])
    (stopsAt_of_not_startsOp _ _ _ (by decide) (by decide))
    ⟨by decide, by decide, by show _ ∧ _; exact ⟨by decide, by decide⟩⟩ h

end Oq3.Props.C05Events
