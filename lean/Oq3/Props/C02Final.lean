/-
C02 — losslessness stated from the text alone (the steps are those `process` makes of the events): for EVERY Unicode class table and EVERY text, whenever
the (model) parser returns on the lexer's output, `build_tree` returns one tree whose leaves
spell the input exactly, and reports `is_eof`.
Composition of: lexer partition (C14), `to_input` exactness and the builder fit theorem
(Lemmas/Bridge, BuilderFit), the parser-state invariant of every grammar function
(Lemmas/GrammarInv, ParseTop), `process` (Lemmas/Process) and the builder (Props/C02).
-/
import Oq3.Props.C02Full
import Oq3.Props.C01

namespace Oq3.Props.C02
open Oq3.Gen Oq3.Parser Oq3.Grammar Oq3.Builder Oq3.Lexer Oq3.Lexed Oq3.Bridge

theorem lossless (uc : UC) (s : List Char) (l : LexedStr) (inp : Input)
    (fuel npl : Nat) (events : Array Ev) (pos : Nat)
    (hl : LexedStr.new uc s = some l) (hi : l.toInput = some inp)
    (hp : parseSourceFile fuel inp.kind.toArray inp.joint.toArray npl = .ok (events, pos)) :
    ∃ steps tree errs, process events.toList = some steps ∧
      buildTree (rawToksOf l) steps = .ok (tree, errs, true) ∧ tree.text = s := by
  obtain ⟨steps, hs, _, _⟩ := Oq3.Props.C01.process_never_panics fuel _ _ npl events pos hp
  obtain ⟨tree, errs, hb, ht⟩ := lossless_end_to_end uc s l inp fuel npl events pos steps hl hi hp hs
  exact ⟨steps, tree, errs, hs, hb, ht⟩

end Oq3.Props.C02
