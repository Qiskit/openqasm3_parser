/-
C08 — expressions are typed consistently; conversions are explicit or diagnosed.

Part 1  `WT S e`: the typing predicate on ASG expressions (relative to a symbol vector `S`), and
        `well_typed`: every expression returned by `exprToAsgTexpr` — any fuel, any context —
        satisfies it, deeply (all sub-expressions), w.r.t. every symbol vector that extends the
        final one.  Proof: a Hoare-style specification `Spec` pushed through the twelve functions
        of the expression part of the mutual block by a proof script (one `_step` lemma per
        function, then induction on fuel), as in `Lemmas/GrammarClosed.lean`.
Part 2  `decl_decision_partial` and the guards `kf…` of the regions in which the unchanged code
        accepts silently; `witness_*` (closed programs, kernel-evaluated).
Part 3  downward conversions (`DownKind`): the decision table `decl_decision_table`,
        `assign_decision_partial`, `no_silent_downward_*`.
-/
import Lean
import Oq3.Lemmas.SemaRun
import Oq3.Model.Sema
import Oq3.Props.C19
import Oq3.Props.C20

namespace Oq3.Props.C08
open Oq3 Oq3.Types Oq3.Symbols Oq3.Sema

theorem M.bind_ok {α β} (x : M α) (f : α → M β) (s : Ctx) (r : β × Ctx) :
    (x >>= f) s = .ok r ↔ ∃ a s1, x s = .ok (a, s1) ∧ f a s1 = .ok r :=
  Sema.M.bind_ok x f s r

theorem M.map_ok {α β} (f : α → β) (x : M α) (s : Ctx) (r : β × Ctx) :
    (f <$> x) s = .ok r ↔ ∃ a s1, x s = .ok (a, s1) ∧ r = (f a, s1) :=
  Sema.M.map_ok f x s r

/-- the symbol vector only grows (symbol ids are stable): the clause `sym.all` of `Sema.Ext`
(`Lemmas/SemaInv.lean`), `symbols` of `C06.Ext`, which is all that typing needs -/
def Ext (c c' : Ctx) : Prop := c.symbolTable.all <+: c'.symbolTable.all

theorem Ext.refl (c : Ctx) : Ext c c := List.prefix_refl _
theorem Ext.trans {a b c : Ctx} (h1 : Ext a b) (h2 : Ext b c) : Ext a c := List.IsPrefix.trans h1 h2

/-- on every successful run of `x` the symbol vector only grows, and the result satisfies `R`
provided `S` extends the final symbol vector -/
structure Spec (S : List Sym) {α} (x : M α) (R : α → Prop) : Prop where
  run : ∀ c a c', x c = .ok (a, c') → Ext c c' ∧ (c'.symbolTable.all <+: S → R a)

variable {S : List Sym}

theorem Spec.pure {α} {a : α} {R : α → Prop} (h : R a) : Spec S (pure a : M α) R := by
  refine ⟨fun c a' c' hr => ?_⟩
  simp only [M.pure_ok, Prod.mk.injEq] at hr
  obtain ⟨rfl, rfl⟩ := hr
  exact ⟨Ext.refl _, fun _ => h⟩

theorem Spec.pure_eq {α} (a : α) : Spec S (Pure.pure a : M α) (fun b => b = a) := Spec.pure rfl

/-- `R1 a` is known only relative to an `S` that extends the symbol vector after the whole run, so
it is a premise inside the continuation's postcondition, not a hypothesis about `f a` -/
theorem Spec.bind {α β} {x : M α} {f : α → M β} {R1 : α → Prop} {R2 : β → Prop}
    (hx : Spec S x R1) (hf : ∀ a, Spec S (f a) (fun b => R1 a → R2 b)) : Spec S (x >>= f) R2 := by
  refine ⟨fun c b c' hr => ?_⟩
  obtain ⟨a, c1, h1, h2⟩ := (M.bind_ok x f c (b, c')).mp hr
  obtain ⟨e1, r1⟩ := hx.run c a c1 h1
  obtain ⟨e2, r2⟩ := (hf a).run c1 b c' h2
  exact ⟨e1.trans e2, fun hS => r2 hS (r1 (List.IsPrefix.trans e2 hS))⟩

theorem Spec.mono {α} {x : M α} {R R' : α → Prop} (hx : Spec S x R) (h : ∀ a, R a → R' a) :
    Spec S x R' := by
  refine ⟨fun c a c' hr => ?_⟩
  obtain ⟨e, r⟩ := hx.run c a c' hr
  exact ⟨e, fun hS => h a (r hS)⟩

theorem Spec.fail {α} (site : String) (R : α → Prop) : Spec S (fail site : M α) R := by
  refine ⟨fun c a c' hr => ?_⟩; simp at hr

theorem Spec.throw {α} (o : Outcome) (R : α → Prop) : Spec S (throw o : M α) R := by
  refine ⟨fun c a c' hr => ?_⟩; simp at hr

theorem Spec.unwrap {α} (site : String) (o : Option α) :
    Spec S (unwrap site o) (fun a => o = some a) := by
  refine ⟨fun c a c' hr => ?_⟩
  obtain ⟨h1, h2⟩ := (unwrap_ok site o c (a, c')).mp hr
  simp only at h1 h2
  subst h2
  exact ⟨Ext.refl _, fun _ => h1⟩

theorem Spec.ite {α} (p : Prop) [Decidable p] {x y : M α} {R : α → Prop} (hx : Spec S x R)
    (hy : Spec S y R) : Spec S (if p then x else y) R := by
  split <;> assumption

theorem Spec.of_symtab_eq {α} {x : M α} {R : α → Prop}
    (h : ∀ c a c', x c = .ok (a, c') → c'.symbolTable = c.symbolTable ∧ R a) : Spec S x R := by
  refine ⟨fun c a c' hr => ?_⟩
  obtain ⟨h1, h2⟩ := h c a c' hr
  exact ⟨by unfold Ext; rw [h1]; exact List.prefix_refl _, fun _ => h2⟩

theorem Spec.modify (f : Ctx → Ctx) (hf : ∀ c, (f c).symbolTable = c.symbolTable) :
    Spec S (modify f : M PUnit) (fun _ => True) := by
  apply Spec.of_symtab_eq
  intro c a c' hr
  simp only [M.modify_ok, Prod.mk.injEq] at hr
  rw [hr.2]; exact ⟨hf c, trivial⟩

theorem Spec.insertError (k : SemanticErrorKind) (node : Ast.Span) :
    Spec S (insertError k node) (fun _ => True) := Spec.modify _ fun _ => rfl

theorem Spec.currentScopeType : Spec S currentScopeType (fun _ => True) := by
  apply Spec.of_symtab_eq
  intro c a c' hr
  simp only [Sema.currentScopeType, M.get_bind_ok] at hr
  cases hst : c.symbolTable.stack with
  | nil => simp [hst] at hr
  | cons s rest =>
    simp only [hst, M.pure_ok, Prod.mk.injEq] at hr; exact ⟨by rw [hr.2], trivial⟩

theorem Spec.inGlobalScope : Spec S inGlobalScope (fun _ => True) := by
  unfold Sema.inGlobalScope
  exact Spec.bind Spec.currentScopeType (fun _ => Spec.pure (fun _ => trivial))

theorem symStep_ok (site : String) (op : Op) (c : Ctx) (o : Out) (c' : Ctx)
    (h : symStep site op c = .ok (o, c')) :
    (c.symbolTable.step op).2 = o ∧ c' = { c with symbolTable := (c.symbolTable.step op).1 } := by
  obtain ⟨-, h⟩ := (Sema.symStep_ok _ _ _ _).mp h
  cases h; exact ⟨rfl, rfl⟩

theorem Spec.symStep (site : String) (op : Op) : Spec S (symStep site op) (fun _ => True) := by
  refine ⟨fun c o c' hr => ?_⟩
  obtain ⟨_, rfl⟩ := symStep_ok site op c o c' hr
  exact ⟨C19.all_prefix_step _ _, fun _ => trivial⟩

/-- the type the symbol vector gives to a lookup result: the symbol's type, `Undefined` for a
failed lookup (`SymbolRecordResult::as_tuple`) -/
def SymTyped (S : List Sym) (sym : SymbolIdResult) (t : T) : Prop :=
  match sym with
  | .ok id => ∃ name, S[id]? = some ⟨name, t⟩
  | .error _ => t = .undefined

/-- `MeasureExpression::to_texpr`: the bit shape of the operand -/
def measureShape : T → T
  | .qubit | .hwqubit => .bit false
  | .qubitArray dims => .bitArray dims false
  | _ => .undefined

/-- the type each literal class gets (all const).  NB the imaginary INTEGER literal is
`int[64]`, not complex (`witness_imaginary_int_downward`). -/
def literalType : Literal → Option T
  | .bool _ => some (.boolT true)
  | .int _ _ => some (.int (some 128) true)
  | .float _ => some (.float (some 64) true)
  | .imaginaryInt _ _ => some (.int (some 64) true)
  | .imaginaryFloat _ => some (.complex (some 64) true)
  | .bitString v =>
    some (.bitArray (.d1 ((v.toList.filter (fun c => c == '0' || c == '1')).length)) true)
  | .timingIntLiteral .. => some (.duration true)
  | .timingFloatLiteral .. => some (.duration true)
  | .array => none

def ixTexprs : IndexOperator → List TExpr
  | .setExpression es => es
  | .expressionList es => es

/-- an arithmetic operand: already of the node's type, or an explicit cast to it -/
def Operand (orig : TExpr) (τ : T) (actual : TExpr) : Prop :=
  (actual = orig ∧ orig.getType = τ) ∨ (actual = castToTexpr orig τ ∧ orig.getType ≠ τ)

/-- **the typing rules the semantic pass implements.**  Forms with no rule (`nullExpr`, a bare
`setExpression`, `unaryExpr` other than minus, `powerOp`, the `array` literal) never occur. -/
inductive WT (S : List Sym) : TExpr → Prop
  /-- an identifier has the type of its symbol (`Undefined` when the lookup failed) -/
  | identifier {sym t} : SymTyped S sym t → WT S (.mk (.identifier sym) t)
  /-- a literal has the type of its literal class, const -/
  | literal {l t} : literalType l = some t → WT S (.mk (.literal l) t)
  /-- a cast has its target type -/
  | cast {e t} : WT S e → WT S (.mk (.cast e t) t)
  /-- a measurement has the bit shape of its operand -/
  | measure {e} : WT S e → WT S (.mk (.measureExpression e) (measureShape e.getType))
  /-- unary minus has the operand's type -/
  | minus {e} : WT S e → WT S (.mk (.unaryExpr .minus e) e.getType)
  /-- an arithmetic node has the type `τ = implicit_cast_type(op, τ₁, τ₂)` and each operand is of
  type `τ` or is `Cast(_, τ)` -/
  | arith {op l0 r0 l r} : WT S l0 → WT S r0 →
      Operand l0 (implicitCastType op l0.getType r0.getType) l →
      Operand r0 (implicitCastType op l0.getType r0.getType) r →
      WT S (.mk (.binaryExpr (.arithOp op) l r) (implicitCastType op l0.getType r0.getType))
  /-- `==`, `!=`: the code assigns `ToDo`, operands untouched -/
  | cmp {op l r} : WT S l → WT S r → WT S (.mk (.binaryExpr (.cmpOp op) l r) .todo)
  /-- `++` (and `**`, which `binary_op_to_asg_type` maps to concatenation): `ToDo` -/
  | concat {l r} : WT S l → WT S r → WT S (.mk (.binaryExpr .concatenationOp l r) .todo)
  | hardwareQubit {name} : WT S (.mk (.hardwareQubit name) .hwqubit)
  /-- index expressions are `ToDo` -/
  | indexExpression {e ix} : WT S e → (∀ x, x ∈ ixTexprs ix → WT S x) →
      WT S (.mk (.indexExpression e ix) .todo)
  | indexedIdentifier {sym ixs} : (∀ ix, ix ∈ ixs → ∀ x, x ∈ ixTexprs ix → WT S x) →
      WT S (.mk (.indexedIdentifier (.mk sym ixs)) .todo)
  /-- gate operands carry the type of the symbol (of the whole register when indexed) -/
  | gateOperandIdent {sym t} : SymTyped S sym t → WT S (.mk (.gateOperand (.identifier sym)) t)
  | gateOperandHw {name} : WT S (.mk (.gateOperand (.hardwareQubit name)) .hwqubit)
  | gateOperandIndexed {sym ixs t} : SymTyped S sym t →
      (∀ ix, ix ∈ ixs → ∀ x, x ∈ ixTexprs ix → WT S x) →
      WT S (.mk (.gateOperand (.indexedIdentifier (.mk sym ixs))) t)
  /-- `return e` has the type of `e`; `return` is `Void` -/
  | returnSome {e} : WT S e → WT S (.mk (.returnExpr (some e)) e.getType)
  | returnNone : WT S (.mk (.returnExpr none) .void)
  /-- a call has the return type recorded in the subroutine's symbol -/
  | call {id name n ret params} : S[id]? = some ⟨name, .subroutine n ret⟩ →
      (∀ ps, params = some ps → ∀ x, x ∈ ps → WT S x) →
      WT S (.mk (.subroutineCall (.ok id) params) ret)
  | range {a b c} : WT S a → (∀ x, b = some x → WT S x) → WT S c →
      WT S (.mk (.rangeExpression a b c) .range)

def OptWT (S : List Sym) : Option TExpr → Prop
  | some e => WT S e
  | none => True

def ListWT (S : List Sym) (es : List TExpr) : Prop := ∀ x, x ∈ es → WT S x

@[simp] theorem optWT_some (e : TExpr) : OptWT S (some e) ↔ WT S e := Iff.rfl
@[simp] theorem optWT_none : OptWT S none ↔ True := Iff.rfl
@[simp] theorem listWT_nil : ListWT S [] ↔ True := by simp [ListWT]
@[simp] theorem listWT_cons (e : TExpr) (es : List TExpr) :
    ListWT S (e :: es) ↔ WT S e ∧ ListWT S es := by simp [ListWT]

theorem wt_castToTexpr {e : TExpr} (t : T) (h : WT S e) : WT S (castToTexpr e t) := .cast h

theorem wt_measure {e : TExpr} (h : WT S e) : WT S (measureExpressionToTexpr e) := by
  have : measureExpressionToTexpr e = .mk (.measureExpression e) (measureShape e.getType) := by
    unfold measureExpressionToTexpr measureShape
    cases e.getType <;> rfl
  rw [this]; exact .measure h

theorem wt_minus {e : TExpr} (h : WT S e) : WT S (unaryExprToTexpr .minus e) := .minus h

theorem wt_newTexprWithCast (op : BinaryOp) (hop : op ≠ .powerOp) {l r : TExpr} (hl : WT S l)
    (hr : WT S r) : WT S (newTexprWithCast op l r) := by
  cases op with
  | arithOp a =>
    simp only [newTexprWithCast]
    refine .arith hl hr ?_ ?_
    · by_cases h : implicitCastType a l.getType r.getType = l.getType
      · rw [if_pos h]; exact .inl ⟨rfl, h.symm⟩
      · rw [if_neg h]; exact .inr ⟨rfl, fun h' => h h'.symm⟩
    · by_cases h : implicitCastType a l.getType r.getType = r.getType
      · rw [if_pos h]; exact .inl ⟨rfl, h.symm⟩
      · rw [if_neg h]; exact .inr ⟨rfl, fun h' => h h'.symm⟩
  | cmpOp c => exact .cmp hl hr
  | concatenationOp => exact .concat hl hr
  | powerOp => exact absurd rfl hop

theorem wt_literal {l : Literal} {t : T} (h : literalType l = some t) : WT S (.mk (.literal l) t) :=
  .literal h

theorem wt_range {a c : TExpr} {b : Option TExpr} (ha : WT S a) (hb : OptWT S b) (hc : WT S c) :
    WT S (rangeExpressionToTexpr a b c) := by
  refine .range ha ?_ hc
  intro x hx; subst hx; exact hb

theorem wt_return {v : Option TExpr} (h : OptWT S v) : WT S (returnExpressionToTexpr v) := by
  cases v with
  | none => exact .returnNone
  | some e => exact .returnSome h

theorem wt_hardwareQubit (h : Ast.HardwareQubit) : WT S (hardwareQubitToAsgTexpr h) := .hardwareQubit

/-- parameter lists of calls -/
def OptListWT (S : List Sym) : Option (List TExpr) → Prop
  | some ps => ListWT S ps
  | none => True

theorem wt_call {sym : SymbolIdResult} {t ret : T} {n : Nat} {params : Option (List TExpr)}
    (h1 : SymTyped S sym t) (h2 : t = .subroutine n ret) (h3 : OptListWT S params) :
    WT S (subroutineCallToTexpr sym params ret) := by
  subst h2
  cases sym with
  | error e => cases h1
  | ok id =>
    obtain ⟨name, hn⟩ := h1
    refine .call hn ?_
    intro ps hps; subst hps; exact h3

def IxWT (S : List Sym) (ix : IndexOperator) : Prop := ListWT S (ixTexprs ix)

def IxsWT (S : List Sym) (ixs : List IndexOperator) : Prop := ∀ ix, ix ∈ ixs → IxWT S ix

/-- an `IndexedIdentifier` and the type returned next to it -/
def IIWT (S : List Sym) : IndexedIdentifier → T → Prop
  | .mk sym ixs, t => SymTyped S sym t ∧ IxsWT S ixs

theorem wt_indexExpression {e : TExpr} {ix : IndexOperator} (h1 : WT S e) (h2 : IxWT S ix) :
    WT S (indexExpressionToTexpr e ix) := .indexExpression h1 h2

theorem wt_indexedIdentifier {ii : IndexedIdentifier} {t : T} (h : IIWT S ii t) :
    WT S (indexedIdentifierToTexpr ii) := by
  cases ii with
  | mk sym ixs => exact .indexedIdentifier h.2

theorem wt_gateOperand_ident {sym : SymbolIdResult} {t : T} (h : SymTyped S sym t) :
    WT S (gateOperandToTexpr (.identifier sym) t) := .gateOperandIdent h

theorem wt_gateOperand_hw (name : String) :
    WT S (gateOperandToTexpr (.hardwareQubit name) .hwqubit) := .gateOperandHw

theorem wt_gateOperand_indexed {ii : IndexedIdentifier} {t : T} (h : IIWT S ii t) :
    WT S (gateOperandToTexpr (.indexedIdentifier ii) t) := by
  cases ii with
  | mk sym ixs => exact .gateOperandIndexed h.1 h.2

theorem ixWT_set {es : List TExpr} (h : ListWT S es) : IxWT S (.setExpression es) := h
theorem ixWT_list {es : List TExpr} (h : ListWT S es) : IxWT S (.expressionList es) := h

theorem iiWT_mk {sym : SymbolIdResult} {t : T} {ixs : List IndexOperator} (h1 : SymTyped S sym t)
    (h2 : IxsWT S ixs) : IIWT S (.mk sym ixs) t := ⟨h1, h2⟩

theorem ixsWT_nil : IxsWT S [] := by intro ix h; cases h
theorem ixsWT_cons {ix : IndexOperator} {ixs : List IndexOperator} (h1 : IxWT S ix)
    (h2 : IxsWT S ixs) : IxsWT S (ix :: ixs) := by
  intro x hx
  cases hx with
  | head => exact h1
  | tail _ h => exact h2 x h

theorem listWT_cons' {e : TExpr} {es : List TExpr} (h1 : WT S e) (h2 : ListWT S es) :
    ListWT S (e :: es) := (listWT_cons e es).mpr ⟨h1, h2⟩

theorem Spec.bind_unit {β} {x : M PUnit} {f : PUnit → M β} {R2 : β → Prop}
    (hx : Spec S x (fun _ => True)) (hf : Spec S (f ⟨⟩) R2) : Spec S (x >>= f) R2 :=
  Spec.bind hx (fun _ => Spec.mono hf (fun _ h _ => h))

theorem tableLookup_ok (name : String) (c : Ctx) (r : SymbolIdResult × T) (c' : Ctx)
    (h : tableLookup name c = .ok (r, c')) :
    c'.symbolTable = c.symbolTable ∧ SymTyped c.symbolTable.all r.1 r.2 := by
  simp only [tableLookup, M.bind_ok] at h
  obtain ⟨o, c1, h1, h2⟩ := h
  obtain ⟨ho, rfl⟩ := symStep_ok _ _ _ _ _ h1
  simp only [SymTab.step] at ho h2 ⊢
  cases hl : c.symbolTable.lookupId name with
  | none =>
    simp only [hl] at ho h2 ⊢
    subst ho
    simp only [M.pure_ok, Prod.mk.injEq] at h2
    obtain ⟨rfl, rfl⟩ := h2
    exact ⟨rfl, rfl⟩
  | some id =>
    simp only [hl] at ho h2 ⊢
    cases hg : c.symbolTable.all[id]? with
    | none => simp only [hg] at ho; subst ho; simp at h2
    | some sy =>
      simp only [hg] at ho h2 ⊢
      subst ho
      simp only [M.pure_ok, Prod.mk.injEq] at h2
      obtain ⟨rfl, rfl⟩ := h2
      exact ⟨rfl, ⟨sy.name, hg⟩⟩

theorem SymTyped.of_prefix {S0 : List Sym} {sym : SymbolIdResult} {t : T} (h : SymTyped S0 sym t)
    (hp : S0 <+: S) : SymTyped S sym t := by
  cases sym with
  | error e => exact h
  | ok id =>
    obtain ⟨name, hn⟩ := h
    exact ⟨name, C19.getElem?_of_prefix hp hn⟩

theorem Spec.tableLookup (name : String) :
    Spec S (tableLookup name) (fun r => SymTyped S r.1 r.2) := by
  refine ⟨fun c r c' h => ?_⟩
  obtain ⟨h1, h2⟩ := tableLookup_ok name c r c' h
  refine ⟨by unfold Ext; rw [h1]; exact List.prefix_refl _, fun hS => ?_⟩
  rw [h1] at hS
  exact h2.of_prefix hS

open Lean Elab Tactic Meta in
/-- the program `x` of a goal `Spec S x R` -/
def specProgram (g : MVarId) : MetaM (Option Lean.Expr) := do
  let t ← instantiateMVars (← g.getType)
  let t := t.consumeMData
  if t.isAppOfArity ``Spec 4 then return some (t.getArg! 2).consumeMData else return none

open Lean Elab Tactic Meta in
/-- succeeds iff the goal is `Spec S x R` and the head symbol of `x` is the given constant
(a cheap guard in front of every rule: a failing `exact` on these large terms is expensive) -/
elab "spec_head " id:ident : tactic => withMainContext do
  let n ← realizeGlobalConstNoOverloadWithInfo id
  match ← specProgram (← getMainGoal) with
  | some x =>
    match x.getAppFn.consumeMData with
    | Lean.Expr.const m _ => if m == n then pure () else throwError "head"
    | _ => throwError "head"
  | none => throwError "not a Spec goal"

open Lean Elab Tactic Meta in
/-- succeeds iff the goal is `Spec S x R` and `x` is an `if` or a `match` -/
elab "spec_is_split" : tactic => withMainContext do
  match ← specProgram (← getMainGoal) with
  | some x =>
    match x.getAppFn.consumeMData with
    | Lean.Expr.const m _ =>
      if m == ``ite || m == ``dite then pure ()
      else if (← isMatcher m) then pure ()
      else throwError "not a split"
    | _ => throwError "not a split"
  | none => throwError "not a Spec goal"

open Lean Elab Tactic Meta in
/-- succeeds iff the goal is `Spec S (x >>= f) R` and `x` is an `if` or a `match` (its branches
cannot determine a common postcondition by unification: the weakest one is used) -/
elab "spec_bind_is_split" : tactic => withMainContext do
  match ← specProgram (← getMainGoal) with
  | some p =>
    if p.isAppOfArity ``Bind.bind 6 then
      match (p.getArg! 4).consumeMData.getAppFn.consumeMData with
      | Lean.Expr.const m _ =>
        if m == ``ite || m == ``dite then pure ()
        else if (← isMatcher m) then pure ()
        else throwError "not a split"
      | _ => throwError "not a split"
    else throwError "not a bind"
  | none => throwError "not a Spec goal"

/-- extensible: closing a pure side goal about well-typedness -/
syntax "wt_close" : tactic
macro_rules | `(tactic| wt_close) => `(tactic| first
  | done
  | trivial
  | assumption
  | (with_reducible refine And.intro ?_ ?_ <;> wt_close))

/-- a leaf: the accumulated facts imply the postcondition -/
macro "spec_leaf" : tactic => `(tactic|
  (try simp only [and_imp]
   all_goals
    (intros
     subst_vars
     try simp only [optWT_some, optWT_none, listWT_nil, and_true, true_and,
       forall_const, imp_self] at *
     wt_close)))

/-- use a specification: directly, or weakened to the postcondition at hand -/
syntax "spec_use " term : tactic
macro_rules | `(tactic| spec_use $t) => `(tactic| first
  | with_reducible exact $t
  | ((with_reducible refine Spec.mono $t ?_); spec_leaf))

/-- extensible: specifications of already-treated functions -/
syntax "spec_lemma" : tactic
macro_rules | `(tactic| spec_lemma) => `(tactic| fail "no lemma")

/-- extensible: the induction hypothesis `ih` of the mutual block -/
syntax "spec_ih" : tactic
macro_rules | `(tactic| spec_ih) => `(tactic| fail "no ih")

macro "spec_step" : tactic => `(tactic| first
  | (cases ‹_ + 1 = Nat.succ _›)
  -- a panic as the first part of a `>>=` leaves its postcondition open: `True`
  | (spec_head Sema.fail; first
      | with_reducible exact Spec.fail _ _
      | with_reducible exact Spec.fail _ (fun _ => True))
  | (spec_head throw; with_reducible exact Spec.throw _ _)
  | (spec_head Sema.unwrap; spec_use (Spec.unwrap _ _))
  | (spec_head Sema.insertError; spec_use (Spec.insertError _ _))
  | (spec_head Sema.currentScopeType; spec_use Spec.currentScopeType)
  | (spec_head Sema.inGlobalScope; spec_use Spec.inGlobalScope)
  | (spec_head Sema.tableLookup; spec_use (Spec.tableLookup _))
  | spec_lemma
  | spec_ih
  | (spec_head Bind.bind; first
      | with_reducible apply Spec.bind_unit
      | (spec_bind_is_split; with_reducible apply Spec.bind (R1 := fun _ => True))
      | with_reducible apply Spec.bind)
  | intro _
  | (spec_is_split; split)
  | (spec_head Pure.pure; first
      | with_reducible exact Spec.pure_eq _
      | ((with_reducible refine Spec.pure ?_); spec_leaf))
  | dsimp only)

macro "spec" : tactic => `(tactic| repeat' spec_step)

theorem Spec.lookupSymbol (name : String) (node : Ast.Span) :
    Spec S (lookupSymbol name node) (fun r => SymTyped S r.1 r.2) := by
  unfold Sema.lookupSymbol; spec
macro_rules | `(tactic| spec_lemma) => `(tactic| (spec_head Sema.lookupSymbol; spec_use (Spec.lookupSymbol _ _)))

theorem Spec.lookupGateSymbol (name : String) (node : Ast.Span) :
    Spec S (lookupGateSymbol name node) (fun r => SymTyped S r.1 r.2) := by
  unfold Sema.lookupGateSymbol; spec
macro_rules | `(tactic| spec_lemma) => `(tactic| (spec_head Sema.lookupGateSymbol; spec_use (Spec.lookupGateSymbol _ _)))

theorem Spec.lookupIdentifier (i : Ast.Identifier) :
    Spec S (lookupIdentifier i) (fun r => SymTyped S r.1 r.2) := Spec.lookupSymbol _ _
macro_rules | `(tactic| spec_lemma) => `(tactic| (spec_head Sema.lookupIdentifier; spec_use (Spec.lookupIdentifier _)))

theorem Spec.binaryOpToAsgType (op : Ast.BinaryOp) :
    Spec S (binaryOpToAsgType op) (fun r => r ≠ .powerOp) := by
  unfold Sema.binaryOpToAsgType
  split <;> first
    | exact Spec.fail _ _
    | (refine Spec.pure ?_; intro h; cases h)
macro_rules | `(tactic| spec_lemma) => `(tactic| (spec_head Sema.binaryOpToAsgType; spec_use (Spec.binaryOpToAsgType _)))

theorem Spec.intNumberValue (site text : String) :
    Spec S (intNumberValue site text) (fun _ => True) := by
  unfold Sema.intNumberValue; spec
macro_rules | `(tactic| spec_lemma) => `(tactic| (spec_head Sema.intNumberValue; spec_use (Spec.intNumberValue _ _)))

theorem Spec.negativeIntToAsgType (text : String) :
    Spec S (negativeIntToAsgType text) (fun _ => True) := by
  unfold Sema.negativeIntToAsgType; spec
macro_rules | `(tactic| spec_lemma) => `(tactic| (spec_head Sema.negativeIntToAsgType; spec_use (Spec.negativeIntToAsgType _)))

theorem Spec.negativeFloatNumberToAsgType (fmt : Option String) :
    Spec S (negativeFloatNumberToAsgType fmt) (fun _ => True) := by
  unfold Sema.negativeFloatNumberToAsgType; spec
macro_rules | `(tactic| spec_lemma) => `(tactic| (spec_head Sema.negativeFloatNumberToAsgType; spec_use (Spec.negativeFloatNumberToAsgType _)))

macro_rules | `(tactic| wt_close) => `(tactic| exact wt_literal rfl)
theorem optListWT_some {ps : List TExpr} (h : ListWT S ps) : OptListWT S (some ps) := h
theorem optListWT_none : OptListWT S none := trivial
theorem listWT_nil' : ListWT S [] := by intro x h; cases h

macro_rules | `(tactic| wt_close) => `(tactic| with_reducible first
  | exact wt_hardwareQubit _
  | exact wt_gateOperand_hw _
  | exact ixsWT_nil
  | exact listWT_nil'
  | exact optListWT_none
  | (apply wt_newTexprWithCast <;> wt_close)
  | (apply wt_castToTexpr <;> wt_close)
  | (apply wt_minus <;> wt_close)
  | (apply wt_measure <;> wt_close)
  | (apply wt_range <;> wt_close)
  | (apply wt_return <;> wt_close)
  | (apply wt_call <;> wt_close)
  | (apply wt_indexExpression <;> wt_close)
  | (apply wt_indexedIdentifier <;> wt_close)
  | (apply wt_gateOperand_ident <;> wt_close)
  | (apply wt_gateOperand_indexed <;> wt_close)
  | (apply ixWT_set <;> wt_close)
  | (apply ixWT_list <;> wt_close)
  | (apply iiWT_mk <;> wt_close)
  | (apply ixsWT_cons <;> wt_close)
  | (apply listWT_cons' <;> wt_close)
  | (apply optListWT_some <;> wt_close)
  | (apply WT.identifier <;> wt_close))

theorem Spec.literalToAsgTexpr (l : Ast.Literal) : Spec S (literalToAsgTexpr l) (OptWT S) := by
  unfold Sema.literalToAsgTexpr; spec
macro_rules | `(tactic| spec_lemma) => `(tactic| (spec_head Sema.literalToAsgTexpr; spec_use (Spec.literalToAsgTexpr _)))

theorem Spec.getConstValue (id : Nat) : Spec S (getConstValue id) (fun _ => True) := by
  apply Spec.of_symtab_eq
  intro c a c' hr
  simp only [Sema.getConstValue, M.get_bind_ok, M.pure_ok, Prod.mk.injEq] at hr
  exact ⟨by rw [hr.2], trivial⟩
macro_rules | `(tactic| spec_lemma) => `(tactic| (spec_head Sema.getConstValue; spec_use (Spec.getConstValue _)))

theorem Spec.designatorToAsg (d : Option Ast.Designator) :
    Spec S (designatorToAsg d) (fun _ => True) := by
  unfold Sema.designatorToAsg; spec
macro_rules | `(tactic| spec_lemma) => `(tactic| (spec_head Sema.designatorToAsg; spec_use (Spec.designatorToAsg _)))

theorem Spec.scalarTypeToType (st : Ast.ScalarType) (isconst : Bool) :
    Spec S (scalarTypeToType st isconst) (fun _ => True) := by
  unfold Sema.scalarTypeToType; spec
macro_rules | `(tactic| spec_lemma) => `(tactic| (spec_head Sema.scalarTypeToType; spec_use (Spec.scalarTypeToType _ _)))

theorem Spec.notGlobalCheck (node : Ast.Span) :
    Spec S (notGlobalCheck node) (fun _ => True) := by
  unfold Sema.notGlobalCheck; spec
macro_rules | `(tactic| spec_lemma) => `(tactic| (spec_head Sema.notGlobalCheck; spec_use (Spec.notGlobalCheck _)))

theorem Spec.gateNotGlobalCheck (name : Option Ast.Name) :
    Spec S (gateNotGlobalCheck name) (fun _ => True) := by
  unfold Sema.gateNotGlobalCheck; spec
macro_rules | `(tactic| spec_lemma) => `(tactic| (spec_head Sema.gateNotGlobalCheck; spec_use (Spec.gateNotGlobalCheck _)))

theorem Spec.returnGlobalCheck (node : Ast.Span) :
    Spec S (returnGlobalCheck node) (fun _ => True) := by
  unfold Sema.returnGlobalCheck; spec
macro_rules | `(tactic| spec_lemma) => `(tactic| (spec_head Sema.returnGlobalCheck; spec_use (Spec.returnGlobalCheck _)))

theorem Spec.delayDurationCheck (d : TExpr) (n : Ast.Span) :
    Spec S (delayDurationCheck d n) (fun _ => True) := by
  unfold Sema.delayDurationCheck; spec
macro_rules | `(tactic| spec_lemma) => `(tactic| (spec_head Sema.delayDurationCheck; spec_use (Spec.delayDurationCheck _ _)))

theorem Spec.quantumBinopCheck (l r : TExpr) (a b : Option Ast.Expr) :
    Spec S (quantumBinopCheck l r a b) (fun _ => True) := by
  unfold Sema.quantumBinopCheck; spec
macro_rules | `(tactic| spec_lemma) => `(tactic| (spec_head Sema.quantumBinopCheck; spec_use (Spec.quantumBinopCheck _ _ _ _)))

theorem Spec.gateOperandIdentCheck (t : T) (n : Ast.Span) :
    Spec S (gateOperandIdentCheck t n) (fun _ => True) := by
  unfold Sema.gateOperandIdentCheck; spec
macro_rules | `(tactic| spec_lemma) => `(tactic| (spec_head Sema.gateOperandIdentCheck; spec_use (Spec.gateOperandIdentCheck _ _)))

theorem Spec.gateOperandIndexedCheck (t : T) (n : Ast.Span) :
    Spec S (gateOperandIndexedCheck t n) (fun _ => True) := by
  unfold Sema.gateOperandIndexedCheck; spec
macro_rules | `(tactic| spec_lemma) => `(tactic| (spec_head Sema.gateOperandIndexedCheck; spec_use (Spec.gateOperandIndexedCheck _ _)))

theorem Spec.gateCallCheck (sp : Ast.Span) (q : Option Ast.QubitList) (al : Option Ast.ArgList) (g : Ast.Identifier) (sr : SymbolIdResult) (gt : T) (np nq : Nat) :
    Spec S (gateCallCheck sp q al g sr gt np nq) (fun _ => True) := by
  unfold Sema.gateCallCheck; spec
macro_rules | `(tactic| spec_lemma) => `(tactic| (spec_head Sema.gateCallCheck; spec_use (Spec.gateCallCheck _ _ _ _ _ _ _ _)))

theorem Spec.defArityCheck (a b : Nat) (al : Option Ast.ArgList) :
    Spec S (defArityCheck a b al) (fun _ => True) := by
  unfold Sema.defArityCheck; spec
macro_rules | `(tactic| spec_lemma) => `(tactic| (spec_head Sema.defArityCheck; spec_use (Spec.defArityCheck _ _ _)))

theorem Spec.mutateConstCheck (ok : Bool) (t : T) (n : Ast.Span) :
    Spec S (mutateConstCheck ok t n) (fun _ => True) := by
  unfold Sema.mutateConstCheck; spec
macro_rules | `(tactic| spec_lemma) => `(tactic| (spec_head Sema.mutateConstCheck; spec_use (Spec.mutateConstCheck _ _ _)))

structure AllSpec (S : List Sym) (fuel : Nat) : Prop where
  exprToAsgTexpr : ∀ (e : Option Ast.Expr), Spec S (Sema.exprToAsgTexpr fuel e) (OptWT S)
  parenExprToAsgTexpr : ∀ (p : Ast.ParenExpr), Spec S (Sema.parenExprToAsgTexpr fuel p) (OptWT S)
  setExpressionToAsgType : ∀ (se : Ast.SetExpression), Spec S (Sema.setExpressionToAsgType fuel se) (ListWT S)
  rangeExpressionToAsgType : ∀ (r : Ast.RangeExpr), Spec S (Sema.rangeExpressionToAsgType fuel r) (fun r => WT S r.1 ∧ OptWT S r.2.1 ∧ WT S r.2.2)
  callExprToAsgTexpr : ∀ (sp : Ast.Span) (al : Option Ast.ArgList) (i : Option Ast.Identifier), Spec S (Sema.callExprToAsgTexpr fuel sp al i) (WT S)
  gateOperandToAsgTexpr : ∀ (g : Ast.GateOperand), Spec S (Sema.gateOperandToAsgTexpr fuel g) (WT S)
  indexOperatorToAsgType : ∀ (ix : Ast.IndexOperator), Spec S (Sema.indexOperatorToAsgType fuel ix) (IxWT S)
  expressionListToAsgType : ∀ (el : Ast.ExpressionList), Spec S (Sema.expressionListToAsgType fuel el) (ListWT S)
  expressionListToAsgTexpr : ∀ (el : Ast.ExpressionList), Spec S (Sema.expressionListToAsgTexpr fuel el) (ListWT S)
  exprsLoop : ∀ (es : List Ast.Expr), Spec S (Sema.exprsLoop fuel es) (ListWT S)
  indexedIdentifierToAsgType : ∀ (ii : Ast.IndexedIdentifier), Spec S (Sema.indexedIdentifierToAsgType fuel ii) (fun r => IIWT S r.1 r.2)
  indexOperatorsLoop : ∀ (ixs : List Ast.IndexOperator), Spec S (Sema.indexOperatorsLoop fuel ixs) (IxsWT S)

set_option hygiene false in
macro_rules | `(tactic| spec_ih) => `(tactic| first
  | (spec_head Sema.exprToAsgTexpr; spec_use (ih.exprToAsgTexpr _))
  | (spec_head Sema.parenExprToAsgTexpr; spec_use (ih.parenExprToAsgTexpr _))
  | (spec_head Sema.setExpressionToAsgType; spec_use (ih.setExpressionToAsgType _))
  | (spec_head Sema.rangeExpressionToAsgType; spec_use (ih.rangeExpressionToAsgType _))
  | (spec_head Sema.callExprToAsgTexpr; spec_use (ih.callExprToAsgTexpr _ _ _))
  | (spec_head Sema.gateOperandToAsgTexpr; spec_use (ih.gateOperandToAsgTexpr _))
  | (spec_head Sema.indexOperatorToAsgType; spec_use (ih.indexOperatorToAsgType _))
  | (spec_head Sema.expressionListToAsgType; spec_use (ih.expressionListToAsgType _))
  | (spec_head Sema.expressionListToAsgTexpr; spec_use (ih.expressionListToAsgTexpr _))
  | (spec_head Sema.exprsLoop; spec_use (ih.exprsLoop _))
  | (spec_head Sema.indexedIdentifierToAsgType; spec_use (ih.indexedIdentifierToAsgType _))
  | (spec_head Sema.indexOperatorsLoop; spec_use (ih.indexOperatorsLoop _)))

theorem exprToAsgTexpr_step (fuel : Nat) (ih : AllSpec S fuel) (e : Option Ast.Expr) :
    Spec S (Sema.exprToAsgTexpr (fuel + 1) e) (OptWT S) := by
  unfold Sema.exprToAsgTexpr; spec

theorem parenExprToAsgTexpr_step (fuel : Nat) (ih : AllSpec S fuel) (p : Ast.ParenExpr) :
    Spec S (Sema.parenExprToAsgTexpr (fuel + 1) p) (OptWT S) := by
  unfold Sema.parenExprToAsgTexpr; spec

theorem setExpressionToAsgType_step (fuel : Nat) (ih : AllSpec S fuel) (se : Ast.SetExpression) :
    Spec S (Sema.setExpressionToAsgType (fuel + 1) se) (ListWT S) := by
  unfold Sema.setExpressionToAsgType; spec

theorem rangeExpressionToAsgType_step (fuel : Nat) (ih : AllSpec S fuel) (r : Ast.RangeExpr) :
    Spec S (Sema.rangeExpressionToAsgType (fuel + 1) r) (fun r => WT S r.1 ∧ OptWT S r.2.1 ∧ WT S r.2.2) := by
  unfold Sema.rangeExpressionToAsgType; spec

theorem callExprToAsgTexpr_step (fuel : Nat) (ih : AllSpec S fuel) (sp : Ast.Span) (al : Option Ast.ArgList) (i : Option Ast.Identifier) :
    Spec S (Sema.callExprToAsgTexpr (fuel + 1) sp al i) (WT S) := by
  unfold Sema.callExprToAsgTexpr; spec

theorem gateOperandToAsgTexpr_step (fuel : Nat) (ih : AllSpec S fuel) (g : Ast.GateOperand) :
    Spec S (Sema.gateOperandToAsgTexpr (fuel + 1) g) (WT S) := by
  unfold Sema.gateOperandToAsgTexpr; spec

theorem indexOperatorToAsgType_step (fuel : Nat) (ih : AllSpec S fuel) (ix : Ast.IndexOperator) :
    Spec S (Sema.indexOperatorToAsgType (fuel + 1) ix) (IxWT S) := by
  unfold Sema.indexOperatorToAsgType; spec

theorem expressionListToAsgType_step (fuel : Nat) (ih : AllSpec S fuel) (el : Ast.ExpressionList) :
    Spec S (Sema.expressionListToAsgType (fuel + 1) el) (ListWT S) := by
  unfold Sema.expressionListToAsgType; spec

theorem expressionListToAsgTexpr_step (fuel : Nat) (ih : AllSpec S fuel) (el : Ast.ExpressionList) :
    Spec S (Sema.expressionListToAsgTexpr (fuel + 1) el) (ListWT S) := by
  unfold Sema.expressionListToAsgTexpr; spec

theorem exprsLoop_step (fuel : Nat) (ih : AllSpec S fuel) (es : List Ast.Expr) :
    Spec S (Sema.exprsLoop (fuel + 1) es) (ListWT S) := by
  unfold Sema.exprsLoop; spec

theorem indexedIdentifierToAsgType_step (fuel : Nat) (ih : AllSpec S fuel) (ii : Ast.IndexedIdentifier) :
    Spec S (Sema.indexedIdentifierToAsgType (fuel + 1) ii) (fun r => IIWT S r.1 r.2) := by
  unfold Sema.indexedIdentifierToAsgType; spec

theorem indexOperatorsLoop_step (fuel : Nat) (ih : AllSpec S fuel) (ixs : List Ast.IndexOperator) :
    Spec S (Sema.indexOperatorsLoop (fuel + 1) ixs) (IxsWT S) := by
  unfold Sema.indexOperatorsLoop; spec

theorem allSpec (fuel : Nat) : AllSpec S fuel := by
  induction fuel with
  | zero =>
    constructor
    · intros; unfold Sema.exprToAsgTexpr; exact Spec.throw _ _
    · intros; unfold Sema.parenExprToAsgTexpr; exact Spec.throw _ _
    · intros; unfold Sema.setExpressionToAsgType; exact Spec.throw _ _
    · intros; unfold Sema.rangeExpressionToAsgType; exact Spec.throw _ _
    · intros; unfold Sema.callExprToAsgTexpr; exact Spec.throw _ _
    · intros; unfold Sema.gateOperandToAsgTexpr; exact Spec.throw _ _
    · intros; unfold Sema.indexOperatorToAsgType; exact Spec.throw _ _
    · intros; unfold Sema.expressionListToAsgType; exact Spec.throw _ _
    · intros; unfold Sema.expressionListToAsgTexpr; exact Spec.throw _ _
    · intros; unfold Sema.exprsLoop; exact Spec.throw _ _
    · intros; unfold Sema.indexedIdentifierToAsgType; exact Spec.throw _ _
    · intros; unfold Sema.indexOperatorsLoop; exact Spec.throw _ _
  | succ fuel ih =>
    constructor
    · intros; exact exprToAsgTexpr_step fuel ih _
    · intros; exact parenExprToAsgTexpr_step fuel ih _
    · intros; exact setExpressionToAsgType_step fuel ih _
    · intros; exact rangeExpressionToAsgType_step fuel ih _
    · intros; exact callExprToAsgTexpr_step fuel ih _ _ _
    · intros; exact gateOperandToAsgTexpr_step fuel ih _
    · intros; exact indexOperatorToAsgType_step fuel ih _
    · intros; exact expressionListToAsgType_step fuel ih _
    · intros; exact expressionListToAsgTexpr_step fuel ih _
    · intros; exact exprsLoop_step fuel ih _
    · intros; exact indexedIdentifierToAsgType_step fuel ih _
    · intros; exact indexOperatorsLoop_step fuel ih _

/-- **C08, typing.**  Every expression returned by `expr_to_asg_texpr` — any fuel, any context —
is well typed, deeply, relative to every symbol vector that extends the final one (symbol ids are
stable: the vector only grows, first component). -/
theorem well_typed (fuel : Nat) (e : Option Ast.Expr) (c c' : Ctx) (t : TExpr)
    (h : (exprToAsgTexpr fuel e).run c = .ok (some t, c')) :
    c.symbolTable.all <+: c'.symbolTable.all ∧
      ∀ S, c'.symbolTable.all <+: S → WT S t := by
  refine ⟨((allSpec (S := []) fuel).exprToAsgTexpr e).run c _ c' h |>.1, fun S hS => ?_⟩
  exact (((allSpec (S := S) fuel).exprToAsgTexpr e).run c _ c' h).2 hS

/-- in particular relative to the symbol table at the moment the expression has been analysed -/
theorem well_typed_final (fuel : Nat) (e : Option Ast.Expr) (c c' : Ctx) (t : TExpr)
    (h : (exprToAsgTexpr fuel e).run c = .ok (some t, c')) : WT c'.symbolTable.all t :=
  (well_typed fuel e c c' t h).2 _ (List.prefix_refl _)

/-- the same for the other expression-producing functions of the pass -/
theorem well_typed_gate_operand (fuel : Nat) (g : Ast.GateOperand) (c c' : Ctx) (t : TExpr)
    (h : (gateOperandToAsgTexpr fuel g).run c = .ok (t, c')) : WT c'.symbolTable.all t :=
  (((allSpec fuel).gateOperandToAsgTexpr g).run c _ c' h).2 (List.prefix_refl _)

theorem well_typed_expression_list (fuel : Nat) (el : Ast.ExpressionList) (c c' : Ctx)
    (ts : List TExpr) (h : (expressionListToAsgTexpr fuel el).run c = .ok (ts, c')) :
    ∀ t, t ∈ ts → WT c'.symbolTable.all t :=
  (((allSpec fuel).expressionListToAsgTexpr el).run c _ c' h).2 (List.prefix_refl _)

/-- `**` never reaches the graph as `PowerOp`: `binary_op_to_asg_type` maps it to concatenation
(finding F08b); consequently no `WT` rule for `powerOp` is needed -/
theorem power_is_concatenation (c : Ctx) :
    (binaryOpToAsgType .powerOp).run c = .ok (.concatenationOp, c) := rfl

/-! ### read-outs of `WT`: the statements of the property, one by one -/

theorem wt_identifier_type {S : List Sym} {id : Nat} {t : T} (h : WT S (.mk (.identifier (.ok id)) t)) :
    ∃ name, S[id]? = some ⟨name, t⟩ := by
  cases h with | identifier h => exact h

theorem wt_literal_type {S : List Sym} {l : Literal} {t : T} (h : WT S (.mk (.literal l) t)) :
    literalType l = some t := by
  cases h with | literal h => exact h

theorem wt_cast_type {S : List Sym} {e : TExpr} {ty t : T} (h : WT S (.mk (.cast e ty) t)) :
    t = ty ∧ WT S e := by
  cases h with | cast h => exact ⟨rfl, h⟩

theorem wt_measure_type {S : List Sym} {e : TExpr} {t : T} (h : WT S (.mk (.measureExpression e) t)) :
    t = measureShape e.getType ∧ WT S e := by
  cases h with | measure h => exact ⟨rfl, h⟩

theorem wt_arith_type {S : List Sym} {op : ArithOp} {l r : TExpr} {t : T}
    (h : WT S (.mk (.binaryExpr (.arithOp op) l r) t)) :
    ∃ l0 r0, WT S l0 ∧ WT S r0 ∧ t = implicitCastType op l0.getType r0.getType ∧
      Operand l0 t l ∧ Operand r0 t r := by
  cases h with | arith h1 h2 h3 h4 => exact ⟨_, _, h1, h2, rfl, h3, h4⟩

/-- each operand of an arithmetic node has the node's type -/
theorem wt_arith_operand_types {S : List Sym} {op : ArithOp} {l r : TExpr} {t : T}
    (h : WT S (.mk (.binaryExpr (.arithOp op) l r) t)) : l.getType = t ∧ r.getType = t := by
  obtain ⟨l0, r0, -, -, -, hl, hr⟩ := wt_arith_type h
  constructor
  · rcases hl with ⟨rfl, h⟩ | ⟨rfl, -⟩
    · exact h
    · rfl
  · rcases hr with ⟨rfl, h⟩ | ⟨rfl, -⟩
    · exact h
    · rfl

/-! ## Part 2 — the declaration and assignment decisions -/

/-- the diagnostic `kind` was logged, last, at `span` -/
def LoggedLast (k : SemanticErrorKind) (span : Ast.Span) (c : Ctx) : Prop :=
  ∃ pre, c.semanticErrors = pre ++ [⟨k, span.start, span.stop⟩]

/-- the value `v` stored for a target of type `target`, computed from the analysed value `orig`:
its type equals the target up to const-ness, or it is an explicit cast of `orig` to exactly the
target type -/
def Accepted (target : T) (orig v : TExpr) : Prop :=
  (v = orig ∧ equalUpToConstness target orig.getType = true) ∨ v = castToTexpr orig target

def isLiteralExpr : TExpr → Bool
  | .mk (.literal _) _ => true
  | _ => false

/-- **guard (F18a/F18b).**  The region in which `classical_declaration_statement_to_asg_stmt`
stores the initializer unchanged and logs nothing although its type differs from the declared type:
a non-literal initializer whose promotion with the declared type is neither the declared type
(up to const), nor `Void`, nor the initializer's own type. -/
def kfDeclSilent (lhs : T) (init : TExpr) : Bool :=
  !equalUpToConstness lhs init.getType && !isLiteralExpr init &&
  !equalUpToConstness (promoteTypesNotEqual lhs init.getType) lhs &&
  !(decide (promoteTypesNotEqual lhs init.getType = T.void)) &&
  !(decide (promoteTypesNotEqual lhs init.getType = init.getType))

/-- **the silent region, characterised**: a non-literal initializer of the SAME numeric kind
(`int`/`uint`/`float`) as the target, whose type is const while the target is not, and which is wider
than the target (or has no width): `const int n = 3; int[8] y = n;`, `int[8] y = 1+2;`.
For a non-const value the decision is never silent. -/
theorem kfDeclSilent_region (lhs : T) (init : TExpr) (h : kfDeclSilent lhs init = true) :
    isLiteralExpr init = false ∧ tag lhs = tag init.getType ∧
    (tag lhs = .int ∨ tag lhs = .uint ∨ tag lhs = .float) ∧
    isConst lhs = false ∧ isConst init.getType = true ∧
    ∃ a, width lhs = some a ∧ ∀ b, width init.getType = some b → a < b := by
  simp only [kfDeclSilent, Bool.and_eq_true, Bool.not_eq_true', decide_eq_false_iff_not] at h
  obtain ⟨⟨⟨⟨h1, h2⟩, h3⟩, h4⟩, h5⟩ := h
  refine ⟨h2, ?_⟩
  generalize init.getType = it at *
  clear h2
  by_cases hw : promoteTypeWidth lhs it = T.void
  · -- cross-kind promotion returns one of the operands verbatim
    exfalso
    simp only [promoteTypesNotEqual, hw, ne_eq, not_true_eq_false, if_false] at h3 h4 h5
    unfold promoteBaseType at h3 h4 h5
    split at h3 <;> simp_all [equalUpToConstness]
  · obtain ⟨ht, -, htow, -⟩ := C20.promoteTypeWidth_tag hw
    simp only [promoteTypesNotEqual, hw, ne_eq, not_false_eq_true, if_true] at h3 h4 h5
    clear htow ht h4
    unfold promoteTypeWidth at hw h3 h5
    split at hw
    all_goals first
      | (exact absurd rfl hw)
      | (rename_i hl hi
         cases lhs <;> simp only [tag, reduceCtorEq] at hl
         cases it <;> simp only [tag, reduceCtorEq] at hi
         rename_i wl cl wi ci
         cases wl <;> cases wi <;> cases cl <;> cases ci <;>
           simp_all [equalUpToConstness, promoteWidth, promoteConstness, width, isConst, tag] <;>
           omega)

theorem declareClassicalHelper_ok (sym : SymbolIdResult) (v : Option TExpr) (c c' : Ctx) (s : Stmt)
    (h : declareClassicalHelper sym v c = .ok (s, c')) :
    s = .declareClassical sym v ∧ c'.semanticErrors = c.semanticErrors := by
  unfold declareClassicalHelper at h
  cases v with
  | none =>
    simp only [M.pure_ok, Prod.mk.injEq] at h
    exact ⟨h.1, by rw [h.2]⟩
  | some init =>
    simp only at h
    split at h
    · cases sym with
      | error e =>
        simp only [M.pure_bind_ok, M.pure_ok, Prod.mk.injEq] at h
        exact ⟨h.1, by rw [h.2]⟩
      | ok id =>
        simp only [insertConstValue, M.modify_bind_ok, M.pure_ok, Prod.mk.injEq] at h
        exact ⟨h.1, by rw [h.2]⟩
    · simp only [M.pure_ok, Prod.mk.injEq] at h
      exact ⟨h.1, by rw [h.2]⟩

theorem insertError_ok (k : SemanticErrorKind) (sp : Ast.Span) (c c' : Ctx) (u : Unit)
    (h : insertError k sp c = .ok (u, c')) :
    c' = { c with semanticErrors := c.semanticErrors ++ [⟨k, sp.start, sp.stop⟩] } := by
  simp only [Sema.insertError, M.modify_ok, Prod.mk.injEq] at h
  exact h.2

/-- **C08, declaration decision.**  For a (non-array) classical declaration with an initializer
that analyses to `init`: the stored initializer is `init` itself with a type equal to the declared
type up to const-ness, or `Cast(init, declared type)`, or `IncompatibleTypesError` is the last
diagnostic logged, at the declaration — outside the guard `kfDeclSilent`. -/
theorem decl_decision_partial (fuel : Nat) (span : Ast.Span) (st : Ast.ScalarType) (constToken : Bool)
    (name : Ast.Name) (expr : Option Ast.Expr) (c c' : Ctx) (stmt : Stmt)
    (h : (classicalDeclarationStatementToAsgStmt (fuel + 1) span false (some st) constToken
      (some name) expr).run c = .ok (stmt, c')) :
    ∃ lhsType c1 init c2 sym,
      (scalarTypeToType st constToken).run c = .ok (lhsType, c1) ∧
      (exprToAsgTexpr fuel expr).run c1 = .ok (init, c2) ∧
      match init with
      | none => stmt = .declareClassical sym none
      | some init => ∃ v, stmt = .declareClassical sym (some v) ∧
          (kfDeclSilent lhsType init = false →
            Accepted lhsType init v ∨
              (v = init ∧ LoggedLast .incompatibleTypesError span c')) := by
  simp only [StateT.run, classicalDeclarationStatementToAsgStmt, Bool.false_eq_true, if_false,
    unwrap, M.bind_ok, M.pure_ok, Prod.mk.injEq, exists2_eq] at h
  obtain ⟨lhsType, c1, h1, init, c2, h2, sym, c3, h3, h4⟩ := h
  refine ⟨lhsType, c1, init, c2, sym, h1, h2, ?_⟩
  cases init with
  | none =>
    simp only at h4
    exact (declareClassicalHelper_ok _ _ _ _ _ h4).1
  | some init =>
    simp only at h4 ⊢
    by_cases he : equalUpToConstness lhsType init.getType = true
    · rw [if_pos he] at h4
      simp only [M.pure_ok, Prod.mk.injEq] at h4
      exact ⟨init, h4.1, fun _ => .inl (.inl ⟨rfl, he⟩)⟩
    · rw [if_neg he] at h4
      have castCase : ∀ {cX : Ctx}, declareClassicalHelper sym (some (castToTexpr init lhsType)) cX =
          .ok (stmt, c') → ∃ v, stmt = .declareClassical sym (some v) ∧
            (kfDeclSilent lhsType init = false → Accepted lhsType init v ∨
              (v = init ∧ LoggedLast .incompatibleTypesError span c')) := by
        intro cX hh
        exact ⟨_, (declareClassicalHelper_ok _ _ _ _ _ hh).1, fun _ => .inl (.inr rfl)⟩
      have errCase : ∀ {cX : Ctx}, (do insertError .incompatibleTypesError span
                                       declareClassicalHelper sym (some init)) cX =
          .ok (stmt, c') → ∃ v, stmt = .declareClassical sym (some v) ∧
            (kfDeclSilent lhsType init = false → Accepted lhsType init v ∨
              (v = init ∧ LoggedLast .incompatibleTypesError span c')) := by
        intro cX hh
        simp only [M.bind_ok] at hh
        obtain ⟨u, cY, e1, e2⟩ := hh
        have := insertError_ok _ _ _ _ _ e1
        obtain ⟨hs, herr⟩ := declareClassicalHelper_ok _ _ _ _ _ e2
        refine ⟨_, hs, fun _ => .inr ⟨rfl, ⟨cX.semanticErrors, ?_⟩⟩⟩
        rw [herr, this]
      have otherCase : isLiteralExpr init = false →
          (if equalUpToConstness (promoteTypesNotEqual lhsType init.getType) lhsType = true then
              declareClassicalHelper sym (some (castToTexpr init lhsType))
            else
              if (decide (promoteTypesNotEqual lhsType init.getType = T.void) ||
                  decide (promoteTypesNotEqual lhsType init.getType = init.getType)) = true then do
                insertError SemanticErrorKind.incompatibleTypesError span
                declareClassicalHelper sym (some init)
              else declareClassicalHelper sym (some init)) c3 = .ok (stmt, c') →
          ∃ v, stmt = .declareClassical sym (some v) ∧
            (kfDeclSilent lhsType init = false → Accepted lhsType init v ∨
              (v = init ∧ LoggedLast .incompatibleTypesError span c')) := by
        intro hnotlit hh
        by_cases hpe : equalUpToConstness (promoteTypesNotEqual lhsType init.getType) lhsType = true
        · rw [if_pos hpe] at hh; exact castCase hh
        · rw [if_neg hpe] at hh
          by_cases hsil : (decide (promoteTypesNotEqual lhsType init.getType = T.void) ||
                  decide (promoteTypesNotEqual lhsType init.getType = init.getType)) = true
          · rw [if_pos hsil] at hh; exact errCase hh
          · rw [if_neg hsil] at hh
            refine ⟨_, (declareClassicalHelper_ok _ _ _ _ _ hh).1, fun hk => ?_⟩
            exfalso
            simp only [Bool.or_eq_true, decide_eq_true_eq, not_or] at hsil
            simp [kfDeclSilent, he, hnotlit, hpe, hsil.1, hsil.2] at hk
      obtain ⟨e, t⟩ := init
      cases e with
      | literal lit =>
        simp only [TExpr.expression] at h4
        by_cases hc : Sema.canCastLiteral lhsType (TExpr.mk (.literal lit) t).getType lit = true
        · rw [if_pos hc] at h4; exact castCase h4
        · rw [if_neg hc] at h4; exact errCase h4
      | _ => exact otherCase rfl h4

/-! ## Part 3 — downward conversions -/

/-- the scalar kinds of the property (a `bit` and a bit register are the same kind) -/
inductive Kind | int | uint | float | complex | angle | bit | bool | duration | stretch
  deriving DecidableEq, Repr

def kindOf : T → Option Kind
  | .int .. => some .int | .uint .. => some .uint | .float .. => some .float
  | .complex .. => some .complex | .angle .. => some .angle | .bit _ => some .bit
  | .bitArray .. => some .bit | .boolT _ => some .bool | .duration _ => some .duration
  | .stretch _ => some .stretch
  | _ => none

/-- position in the numeric tower `int, uint < float < complex` -/
def towerRank : Kind → Option Nat
  | .int | .uint => some 0 | .float => some 1 | .complex => some 2 | _ => none

/-- **a conversion `value → target` that changes kind downwards**: down the numeric tower
(float→int, complex→real), or between different kinds one of which is bit, bool, duration, stretch
or angle -/
def DownKind (target value : T) : Bool :=
  match kindOf target, kindOf value with
  | some kt, some kv =>
    (match towerRank kt, towerRank kv with
      | some a, some b => decide (a < b)
      | _, _ => false) ||
    (kt != kv && ((towerRank kt).isNone || (towerRank kv).isNone))
  | _, _ => false

theorem downKind_facts (t v : T) (h : DownKind t v = true) :
    equalUpToConstness t v = false ∧ Types.canCastLiteral t v = false ∧
    equalUpToConstness (promoteTypesNotEqual t v) t = false ∧
    (promoteTypesNotEqual t v = T.void ∨ promoteTypesNotEqual t v = v) ∧
    promoteTypes t v ≠ t ∧ equalUpToDims v t = false ∧ v ≠ t ∧ tag t ≠ tag v := by
  -- on most pairs of constructors the guard evaluates to `false`: `cases h` closes those
  cases t <;> cases v <;> first
    | (cases h; done)
    | simp [equalUpToConstness, Types.canCastLiteral, equalBaseType, tag, promoteTypesNotEqual,
        promoteTypeWidth, promoteBaseType, promoteTypes, equalUpToDims, numDims, equalUpToShape,
        Dims.numDims]

/-- the condition under which the declaration code inserts a cast -/
def declCastCond (lhs : T) (i : TExpr) : Bool :=
  match i.expression with
  | .literal lit => Sema.canCastLiteral lhs i.getType lit
  | _ => equalUpToConstness (promoteTypesNotEqual lhs i.getType) lhs

/-- the condition under which the declaration code logs `IncompatibleTypesError` -/
def declErrCond (lhs : T) (i : TExpr) : Bool :=
  match i.expression with
  | .literal lit => !Sema.canCastLiteral lhs i.getType lit
  | _ => !equalUpToConstness (promoteTypesNotEqual lhs i.getType) lhs &&
      (decide (promoteTypesNotEqual lhs i.getType = T.void) ||
        decide (promoteTypesNotEqual lhs i.getType = i.getType))

/-- the four outcomes of the declaration code, with their conditions -/
def DeclTable (lhsType : T) (i : TExpr) (sym : SymbolIdResult) (span : Ast.Span) (stmt : Stmt)
    (c' : Ctx) : Prop :=
  (equalUpToConstness lhsType i.getType = true ∧ stmt = .declareClassical sym (some i)) ∨
  (equalUpToConstness lhsType i.getType = false ∧ declCastCond lhsType i = true ∧
    stmt = .declareClassical sym (some (castToTexpr i lhsType))) ∨
  (equalUpToConstness lhsType i.getType = false ∧ declErrCond lhsType i = true ∧
    stmt = .declareClassical sym (some i) ∧ LoggedLast .incompatibleTypesError span c') ∨
  (kfDeclSilent lhsType i = true ∧ stmt = .declareClassical sym (some i))

/-- **the declaration decision table, exactly.** -/
theorem decl_decision_table (fuel : Nat) (span : Ast.Span) (st : Ast.ScalarType) (constToken : Bool)
    (name : Ast.Name) (expr : Option Ast.Expr) (c c' : Ctx) (stmt : Stmt)
    (h : (classicalDeclarationStatementToAsgStmt (fuel + 1) span false (some st) constToken
      (some name) expr).run c = .ok (stmt, c')) :
    ∃ lhsType c1 init c2 sym,
      (scalarTypeToType st constToken).run c = .ok (lhsType, c1) ∧
      (exprToAsgTexpr fuel expr).run c1 = .ok (init, c2) ∧
      ∀ i, init = some i → DeclTable lhsType i sym span stmt c' := by
  simp only [StateT.run, classicalDeclarationStatementToAsgStmt, Bool.false_eq_true, if_false,
    unwrap, M.bind_ok, M.pure_ok, Prod.mk.injEq, exists2_eq] at h
  obtain ⟨lhsType, c1, h1, init, c2, h2, sym, c3, h3, h4⟩ := h
  refine ⟨lhsType, c1, init, c2, sym, h1, h2, ?_⟩
  intro i hi
  subst hi
  simp only at h4
  by_cases he : equalUpToConstness lhsType i.getType = true
  · rw [if_pos he] at h4
    simp only [M.pure_ok, Prod.mk.injEq] at h4
    exact .inl ⟨he, h4.1⟩
  · rw [if_neg he] at h4
    have he' : equalUpToConstness lhsType i.getType = false := by simpa using he
    have errCase : ∀ {cX : Ctx}, (do insertError .incompatibleTypesError span
                                     declareClassicalHelper sym (some i)) cX = .ok (stmt, c') →
        stmt = .declareClassical sym (some i) ∧ LoggedLast .incompatibleTypesError span c' := by
      intro cX hh
      simp only [M.bind_ok] at hh
      obtain ⟨u, cY, e1, e2⟩ := hh
      have := insertError_ok _ _ _ _ _ e1
      obtain ⟨hs, herr⟩ := declareClassicalHelper_ok _ _ _ _ _ e2
      refine ⟨hs, ⟨cX.semanticErrors, ?_⟩⟩
      rw [herr, this]
    have otherCase : isLiteralExpr i = false →
        declCastCond lhsType i = equalUpToConstness (promoteTypesNotEqual lhsType i.getType) lhsType →
        declErrCond lhsType i = (!equalUpToConstness (promoteTypesNotEqual lhsType i.getType) lhsType &&
          (decide (promoteTypesNotEqual lhsType i.getType = T.void) ||
            decide (promoteTypesNotEqual lhsType i.getType = i.getType))) →
        (if equalUpToConstness (promoteTypesNotEqual lhsType i.getType) lhsType = true then
            declareClassicalHelper sym (some (castToTexpr i lhsType))
          else
            if (decide (promoteTypesNotEqual lhsType i.getType = T.void) ||
                decide (promoteTypesNotEqual lhsType i.getType = i.getType)) = true then do
              insertError SemanticErrorKind.incompatibleTypesError span
              declareClassicalHelper sym (some i)
            else declareClassicalHelper sym (some i)) c3 = .ok (stmt, c') →
        DeclTable lhsType i sym span stmt c' := by
      intro hnotlit hcc hec hh
      by_cases hpe : equalUpToConstness (promoteTypesNotEqual lhsType i.getType) lhsType = true
      · rw [if_pos hpe] at hh
        exact .inr (.inl ⟨he', by rw [hcc, hpe], (declareClassicalHelper_ok _ _ _ _ _ hh).1⟩)
      · rw [if_neg hpe] at hh
        by_cases hsil : (decide (promoteTypesNotEqual lhsType i.getType = T.void) ||
                decide (promoteTypesNotEqual lhsType i.getType = i.getType)) = true
        · rw [if_pos hsil] at hh
          obtain ⟨a, b⟩ := errCase hh
          refine .inr (.inr (.inl ⟨he', ?_, a, b⟩))
          rw [hec, hsil]; simp [hpe]
        · rw [if_neg hsil] at hh
          refine .inr (.inr (.inr ⟨?_, (declareClassicalHelper_ok _ _ _ _ _ hh).1⟩))
          simp only [Bool.or_eq_true, decide_eq_true_eq, not_or] at hsil
          simp [kfDeclSilent, he, hnotlit, hpe, hsil.1, hsil.2]
    obtain ⟨e, t⟩ := i
    cases e with
    | literal lit =>
      simp only [TExpr.expression] at h4
      by_cases hc : Sema.canCastLiteral lhsType (TExpr.mk (.literal lit) t).getType lit = true
      · rw [if_pos hc] at h4
        exact .inr (.inl ⟨he', hc, (declareClassicalHelper_ok _ _ _ _ _ h4).1⟩)
      · rw [if_neg hc] at h4
        obtain ⟨a, b⟩ := errCase h4
        refine .inr (.inr (.inl ⟨he', ?_, a, b⟩))
        simp only [declErrCond, TExpr.expression]
        simpa using hc
    | _ => exact otherCase rfl rfl rfl h4

def isIntLiteralExpr : TExpr → Bool
  | .mk (.literal (.int _ _)) _ => true
  | _ => false

/-- **guard (F18d).**  `assignment_stmt_to_asg_stmt` stores an integer literal unchanged and logs
nothing for EVERY target type other than `uint` (`duration d; d = 1;`, `bool b; b = 1;`,
`float f; f = 1;`, `int x; x = 1;` …) -/
def kfAssignIntLiteral (symT : T) (expr : TExpr) : Bool :=
  isIntLiteralExpr expr && (tag symT != .uint) && (expr.getType != symT) &&
  !equalUpToDims expr.getType symT

/-- the condition under which the assignment code inserts a cast (given that the types differ and
are not "equal up to dimensions") -/
def assignCastCond (symT : T) (expr : TExpr) : Bool :=
  match expr.expression with
  | .literal (.int _ sign) => tag symT == .uint && sign
  | _ => decide (promoteTypes symT expr.getType = symT)

/-- `k` is the first diagnostic logged after `c0` -/
def LoggedFirstSince (c0 : Ctx) (k : SemanticErrorKind) (span : Ast.Span) (c : Ctx) : Prop :=
  ∃ post, c.semanticErrors = c0.semanticErrors ++ ⟨k, span.start, span.stop⟩ :: post

theorem mutateConstCheck_ok (ok : Bool) (t : T) (sp : Ast.Span) (c c' : Ctx) (u : Unit)
    (h : mutateConstCheck ok t sp c = .ok (u, c')) :
    ∃ post, c'.semanticErrors = c.semanticErrors ++ post := by
  unfold mutateConstCheck at h
  split at h
  · exact ⟨_, by rw [insertError_ok _ _ _ _ _ h]⟩
  · simp only [M.pure_ok, Prod.mk.injEq] at h
    exact ⟨[], by rw [h.2]; simp⟩

theorem lookupSymbol_errors (name : String) (sp : Ast.Span) (c c' : Ctx) (r : SymbolIdResult × T)
    (h : lookupSymbol name sp c = .ok (r, c')) (hok : r.1.isOk = true) :
    c'.semanticErrors = c.semanticErrors := by
  simp only [lookupSymbol, M.bind_ok] at h
  obtain ⟨r0, c1, h1, h2⟩ := h
  have hc1 : c1.semanticErrors = c.semanticErrors := by
    simp only [tableLookup, M.bind_ok] at h1
    obtain ⟨o, c2, h3, h4⟩ := h1
    obtain ⟨-, rfl⟩ := symStep_ok _ _ _ _ _ h3
    cases o <;> simp at h4 <;> (try (obtain ⟨-, rfl⟩ := h4)) <;> rfl
  by_cases hr : r0.1.isOk = true
  · simp only [hr, Bool.not_true, Bool.false_eq_true, if_false, M.pure_ok, Prod.mk.injEq] at h2
    rw [h2.2, hc1]
  · simp only [hr, Bool.not_false, if_true, M.bind_ok, M.pure_ok, Prod.mk.injEq] at h2
    obtain ⟨u, c2, -, h5, -⟩ := h2
    rw [← h5] at hr
    exact absurd hok hr

theorem assign_tail_ok (w : TExpr) (ok : Bool) (symT : T) (span : Ast.Span) (sym : SymbolIdResult)
    (cX c' : Ctx) (stmt : Option Stmt)
    (h : (do let expr ← (pure w : M TExpr)
             mutateConstCheck ok symT span
             pure (some (Stmt.assignment (LValue.identifier sym) expr))) cX = .ok (stmt, c')) :
    stmt = some (.assignment (.identifier sym) w) ∧
      ∃ post, c'.semanticErrors = cX.semanticErrors ++ post := by
  rw [M.pure_bind_ok, M.bind_ok] at h
  obtain ⟨u, c1, h1, h2⟩ := h
  simp only [M.pure_ok, Prod.mk.injEq] at h2
  obtain ⟨rfl, rfl⟩ := h2
  exact ⟨rfl, mutateConstCheck_ok _ _ _ _ _ _ h1⟩

theorem assign_err_tail_ok (k : SemanticErrorKind) (w : TExpr) (ok : Bool) (symT : T)
    (span : Ast.Span) (sym : SymbolIdResult) (cX c' : Ctx) (stmt : Option Stmt)
    (h : (do insertError k span
             let expr ← (pure w : M TExpr)
             mutateConstCheck ok symT span
             pure (some (Stmt.assignment (LValue.identifier sym) expr))) cX = .ok (stmt, c')) :
    stmt = some (.assignment (.identifier sym) w) ∧ LoggedFirstSince cX k span c' := by
  rw [M.bind_ok] at h
  obtain ⟨u, c1, h1, h2⟩ := h
  obtain ⟨hs, post, hp⟩ := assign_tail_ok _ _ _ _ _ _ _ _ h2
  refine ⟨hs, post, ?_⟩
  rw [hp, insertError_ok _ _ _ _ _ h1]
  simp

/-- **C08, assignment decision.**  For `name = rhs;` where `rhs` analyses to `expr` and `name`
resolves to a symbol of type `symT`: the stored value is `expr` itself of exactly the symbol's type,
or `Cast(expr, symT)`, or one of `IncompatibleDimensionError` / `CastError` /
`IncompatibleTypesError` is the first diagnostic logged after both sides were evaluated, at the
assignment — outside the guard `kfAssignIntLiteral`. -/
theorem assign_decision_partial (fuel : Nat) (span : Ast.Span) (name : Ast.Identifier)
    (rhs : Option Ast.Expr) (ii : Option Ast.IndexedIdentifier) (c c' : Ctx) (stmt : Option Stmt)
    (h : (assignmentStmtToAsgStmt (fuel + 1) span (some name) rhs ii).run c = .ok (stmt, c')) :
    ∃ expr c1 sym symT c2,
      (exprToAsgTexpr fuel rhs).run c = .ok (some expr, c1) ∧
      (lookupSymbol name.text name.span).run c1 = .ok ((sym, symT), c2) ∧
      (sym.isOk = true → kfAssignIntLiteral symT expr = false →
        ∃ v, stmt = some (.assignment (.identifier sym) v) ∧
        ((v = expr ∧ expr.getType = symT) ∨
        (v = castToTexpr expr symT ∧ expr.getType ≠ symT ∧ assignCastCond symT expr = true) ∨
        (v = expr ∧ ∃ k, (k = .incompatibleDimensionError ∨ k = .castError ∨
            k = .incompatibleTypesError) ∧ LoggedFirstSince c2 k span c'))) := by
  simp only [StateT.run, assignmentStmtToAsgStmt, M.bind_ok] at h
  obtain ⟨e0, c1, h1, expr, c1', h2, ⟨sym, symT⟩, c2, h3, h4⟩ := h
  obtain ⟨he0, hc1'⟩ := (unwrap_ok _ _ _ _).mp h2
  simp only at he0 hc1' h4
  subst hc1' he0
  refine ⟨expr, c1', sym, symT, c2, h1, h3, fun hok hk => ?_⟩
  -- the ways a branch ends
  have direct : ∀ w, (do let expr ← (pure w : M TExpr)
                         mutateConstCheck sym.isOk symT span
                         pure (some (Stmt.assignment (LValue.identifier sym) expr))) c2 = .ok (stmt, c') →
      stmt = some (.assignment (.identifier sym) w) :=
    fun w hh => (assign_tail_ok _ _ _ _ _ _ _ _ hh).1
  have logged : ∀ k, (k = .incompatibleDimensionError ∨ k = .castError ∨ k = .incompatibleTypesError) →
      (do insertError k span
          let expr ← (pure expr : M TExpr)
          mutateConstCheck sym.isOk symT span
          pure (some (Stmt.assignment (LValue.identifier sym) expr))) c2 = .ok (stmt, c') →
      ∃ v, stmt = some (.assignment (.identifier sym) v) ∧
        ((v = expr ∧ expr.getType = symT) ∨
        (v = castToTexpr expr symT ∧ expr.getType ≠ symT ∧ assignCastCond symT expr = true) ∨
        (v = expr ∧ ∃ k, (k = .incompatibleDimensionError ∨ k = .castError ∨
            k = .incompatibleTypesError) ∧ LoggedFirstSince c2 k span c')) := by
    intro k hk hh
    obtain ⟨hs, hl⟩ := assign_err_tail_ok _ _ _ _ _ _ _ _ _ hh
    exact ⟨expr, hs, .inr (.inr ⟨rfl, k, hk, hl⟩)⟩
  rw [show (sym.isOk && expr.getType != symT) = (expr.getType != symT) by rw [hok, Bool.true_and]] at h4
  by_cases hne : (expr.getType != symT) = true
  · rw [if_pos hne] at h4
    by_cases hd : equalUpToDims expr.getType symT = true
    · rw [if_pos hd] at h4
      exact logged _ (.inl rfl) h4
    · rw [if_neg hd] at h4
      have hne' : expr.getType ≠ symT := by simpa using hne
      have general : assignCastCond symT expr = decide (promoteTypes symT expr.getType = symT) →
          (if promoteTypes symT expr.getType = symT then do
              let expr ← (pure (castToTexpr expr (promoteTypes symT expr.getType)) : M TExpr)
              mutateConstCheck sym.isOk symT span
              pure (some (Stmt.assignment (LValue.identifier sym) expr))
            else do
              insertError .incompatibleTypesError span
              let expr ← (pure expr : M TExpr)
              mutateConstCheck sym.isOk symT span
              pure (some (Stmt.assignment (LValue.identifier sym) expr))) c2 = .ok (stmt, c') →
          ∃ v, stmt = some (.assignment (.identifier sym) v) ∧
            ((v = expr ∧ expr.getType = symT) ∨
            (v = castToTexpr expr symT ∧ expr.getType ≠ symT ∧ assignCastCond symT expr = true) ∨
            (v = expr ∧ ∃ k, (k = .incompatibleDimensionError ∨ k = .castError ∨
                k = .incompatibleTypesError) ∧ LoggedFirstSince c2 k span c')) := by
        intro hcc hh
        by_cases hp : promoteTypes symT expr.getType = symT
        · rw [if_pos hp, hp] at hh
          exact ⟨_, direct _ hh, .inr (.inl ⟨rfl, hne', by rw [hcc]; simpa using hp⟩)⟩
        · rw [if_neg hp] at hh
          exact logged _ (.inr (.inr rfl)) hh
      obtain ⟨e, t⟩ := expr
      cases e with
      | literal lit =>
        cases lit with
        | int value sign =>
          simp only [TExpr.expression] at h4
          cases symT with
          | uint w cst =>
            simp only at h4
            cases sign with
            | true =>
              simp only [if_true] at h4
              exact ⟨_, direct _ h4, .inr (.inl ⟨rfl, hne', rfl⟩)⟩
            | false =>
              simp only [Bool.false_eq_true, if_false] at h4
              exact logged _ (.inr (.inl rfl)) h4
          | _ =>
            exfalso
            simp [kfAssignIntLiteral, isIntLiteralExpr, tag, hne, hd] at hk
        | _ => exact general rfl h4
      | _ => exact general rfl h4
  · rw [if_neg hne] at h4
    simp only [bne_iff_ne, ne_eq, Decidable.not_not] at hne
    exact ⟨_, direct _ h4, .inl ⟨rfl, hne⟩⟩

/-- a negative integer literal stored into an unsigned target -/
def NegLitToUint (target : T) (value : TExpr) : Bool :=
  tag target == .uint &&
  match value with
  | .mk (.literal (.int _ sign)) _ => !sign
  | _ => false

/-- a width narrowing (same kind, target narrower than the value or the value of unspecified
width) of a NON-constant value -/
def NarrowNonConst (target value : T) : Bool :=
  tag target == tag value &&
  (tag target == .int || tag target == .uint || tag target == .float || tag target == .angle ||
    tag target == .complex) &&
  !isConst value &&
  match width target, width value with
  | some _, none => true
  | some a, some b => decide (a < b)
  | _, _ => false

theorem narrow_facts (t v : T) (h : NarrowNonConst t v = true) :
    equalUpToConstness t v = false ∧
    equalUpToConstness (promoteTypesNotEqual t v) t = false ∧
    (promoteTypesNotEqual t v = T.void ∨ promoteTypesNotEqual t v = v) ∧
    isConst v = false ∧ promoteTypes t v ≠ t ∧ equalUpToDims v t = false ∧ v ≠ t := by
  simp only [NarrowNonConst, Bool.and_eq_true, beq_iff_eq, Bool.or_eq_true, Bool.not_eq_true'] at h
  obtain ⟨⟨⟨htag, hkind⟩, hc⟩, hw⟩ := h
  -- the five numeric kinds of `t`, then the same kind of `v`, then the widths
  cases t <;> simp only [tag, reduceCtorEq, or_self] at hkind
  all_goals cases v <;> simp only [tag, reduceCtorEq] at htag
  all_goals
    rename_i wt ct wv cv
    cases wt <;> cases wv <;> simp [width] at hw <;>
      simp_all [equalUpToConstness, tag, promoteTypesNotEqual, promoteTypeWidth, promoteBaseType,
        promoteTypes, equalUpToDims, numDims, equalUpToShape, width, promoteWidth,
        promoteConstness, isConst] <;> omega

theorem literalType_const {l : Literal} {t : T} (h : literalType l = some t) : isConst t = true := by
  cases l <;> simp [literalType] at h <;> subst h <;> rfl

theorem isLiteralExpr_iff (e : TExpr) : isLiteralExpr e = true ↔ ∃ l t, e = .mk (.literal l) t := by
  obtain ⟨x, t⟩ := e
  cases x <;> simp [isLiteralExpr]

theorem wt_literal_facts {S : List Sym} {e : TExpr} (hwt : WT S e) (hl : isLiteralExpr e = true) :
    isConst e.getType = true ∧
    (∀ n s t, e = .mk (.literal (.int n s)) t → t = .int (some 128) true) := by
  obtain ⟨l, t, rfl⟩ := (isLiteralExpr_iff e).mp hl
  have := wt_literal_type hwt
  refine ⟨literalType_const this, ?_⟩
  intro n s t' he
  cases he
  simpa [literalType] using this.symm

/-- **C08, no silent downward conversion (declarations) — full at the level of types.**
If the initializer's type is a downward change of kind w.r.t. the declared type, or the initializer
is a negative integer literal for an unsigned target, or it is a non-constant value wider than the
target: the initializer is stored unchanged AND `IncompatibleTypesError` is logged at the
declaration.  (The exception is not in this decision but in the literal's TYPE: an imaginary integer
literal is typed `int[64]`, see `witness_imaginary_int_downward`.) -/
theorem no_silent_downward_decl (fuel : Nat) (span : Ast.Span) (st : Ast.ScalarType)
    (constToken : Bool) (name : Ast.Name) (expr : Option Ast.Expr) (c c' : Ctx) (stmt : Stmt)
    (h : (classicalDeclarationStatementToAsgStmt (fuel + 1) span false (some st) constToken
      (some name) expr).run c = .ok (stmt, c')) :
    ∃ lhsType c1 init c2 sym,
      (scalarTypeToType st constToken).run c = .ok (lhsType, c1) ∧
      (exprToAsgTexpr fuel expr).run c1 = .ok (init, c2) ∧
      ∀ i, init = some i →
        (DownKind lhsType i.getType = true ∨ NegLitToUint lhsType i = true ∨
          NarrowNonConst lhsType i.getType = true) →
        stmt = .declareClassical sym (some i) ∧ LoggedLast .incompatibleTypesError span c' := by
  obtain ⟨lhsType, c1, init, c2, sym, h1, h2, htab⟩ :=
    decl_decision_table fuel span st constToken name expr c c' stmt h
  refine ⟨lhsType, c1, init, c2, sym, h1, h2, fun i hi hdown => ?_⟩
  subst hi
  have hwt : WT c2.symbolTable.all i := well_typed_final fuel expr c1 c2 i h2
  have hlit := fun hl => wt_literal_facts hwt hl
  rcases htab i rfl with ⟨he, -⟩ | ⟨he, hc, -⟩ | ⟨-, -, hs, hl⟩ | ⟨hk, -⟩
  · -- stored directly: the types are equal up to const-ness
    exfalso
    rcases hdown with hd | hd | hd
    · rw [(downKind_facts _ _ hd).1] at he; cases he
    · obtain ⟨e, t⟩ := i
      cases e <;> simp [NegLitToUint] at hd
      rename_i lit
      cases lit <;> simp at hd
      rename_i n sgn
      have := (hlit rfl).2 n sgn t rfl
      subst this
      cases lhsType <;> simp [tag] at hd
      simp [equalUpToConstness, tag, TExpr.getType] at he
    · rw [(narrow_facts _ _ hd).1] at he; cases he
  · -- a cast was inserted
    exfalso
    rcases hdown with hd | hd | hd
    · have f := downKind_facts _ _ hd
      obtain ⟨e, t⟩ := i
      cases e with
      | literal lit =>
        simp only [declCastCond, TExpr.expression, Sema.canCastLiteral] at hc
        split at hc
        · rename_i n sgn htag
          have := (hlit rfl).2 n sgn t rfl
          subst this
          cases lhsType <;> simp [tag] at htag
          simp [DownKind, kindOf, towerRank, TExpr.getType] at hd
        · rw [f.2.1] at hc; cases hc
      | _ =>
        simp only [declCastCond, TExpr.expression] at hc
        rw [f.2.2.1] at hc; cases hc
    · obtain ⟨e, t⟩ := i
      cases e <;> simp [NegLitToUint] at hd
      rename_i lit
      cases lit <;> simp at hd
      rename_i n sgn
      obtain ⟨htag, hsgn⟩ := hd
      subst hsgn
      cases lhsType <;> simp [tag] at htag
      simp [declCastCond, TExpr.expression, Sema.canCastLiteral, tag] at hc
    · have f := narrow_facts _ _ hd
      by_cases hl : isLiteralExpr i = true
      · have := (hlit hl).1
        rw [f.2.2.2.1] at this; cases this
      · obtain ⟨e, t⟩ := i
        cases e with
        | literal lit => exact hl rfl
        | _ =>
          simp only [declCastCond, TExpr.expression] at hc
          rw [f.2.1] at hc; cases hc
  · exact ⟨hs, hl⟩
  · -- the silent region: same kind, const value
    exfalso
    obtain ⟨hnl, htag, -, -, hci, -⟩ := kfDeclSilent_region _ _ hk
    rcases hdown with hd | hd | hd
    · exact (downKind_facts _ _ hd).2.2.2.2.2.2.2 htag
    · obtain ⟨e, t⟩ := i
      cases e <;> simp [NegLitToUint] at hd
      simp [isLiteralExpr] at hnl
    · rw [(narrow_facts _ _ hd).2.2.2.1] at hci; cases hci

/-- **C08, no silent downward conversion (assignments)** — outside `kfAssignIntLiteral`. -/
theorem no_silent_downward_assign_partial (fuel : Nat) (span : Ast.Span) (name : Ast.Identifier)
    (rhs : Option Ast.Expr) (ii : Option Ast.IndexedIdentifier) (c c' : Ctx) (stmt : Option Stmt)
    (h : (assignmentStmtToAsgStmt (fuel + 1) span (some name) rhs ii).run c = .ok (stmt, c')) :
    ∃ expr c1 sym symT c2,
      (exprToAsgTexpr fuel rhs).run c = .ok (some expr, c1) ∧
      (lookupSymbol name.text name.span).run c1 = .ok ((sym, symT), c2) ∧
      (sym.isOk = true → kfAssignIntLiteral symT expr = false →
        (DownKind symT expr.getType = true ∨ NegLitToUint symT expr = true ∨
          NarrowNonConst symT expr.getType = true) →
        stmt = some (.assignment (.identifier sym) expr) ∧
        ∃ k, (k = .incompatibleDimensionError ∨ k = .castError ∨ k = .incompatibleTypesError) ∧
          LoggedFirstSince c2 k span c') := by
  obtain ⟨expr, c1, sym, symT, c2, h1, h2, hdec⟩ :=
    assign_decision_partial fuel span name rhs ii c c' stmt h
  refine ⟨expr, c1, sym, symT, c2, h1, h2, fun hok hk hdown => ?_⟩
  have hwt : WT c1.symbolTable.all expr := well_typed_final fuel rhs c c1 expr h1
  have hlit := fun hl => wt_literal_facts hwt hl
  obtain ⟨v, hv, hcases⟩ := hdec hok hk
  have hdims : equalUpToDims expr.getType symT = false ∧ expr.getType ≠ symT := by
    rcases hdown with hd | hd | hd
    · exact ⟨(downKind_facts _ _ hd).2.2.2.2.2.1, (downKind_facts _ _ hd).2.2.2.2.2.2.1⟩
    · obtain ⟨e, t⟩ := expr
      cases e <;> simp [NegLitToUint] at hd
      rename_i lit
      cases lit <;> simp at hd
      rename_i n sgn
      have := (hlit rfl).2 n sgn t rfl
      subst this
      cases symT <;> simp [tag] at hd
      simp [equalUpToDims, TExpr.getType, numDims, equalUpToShape, tag]
    · exact ⟨(narrow_facts _ _ hd).2.2.2.2.2.1, (narrow_facts _ _ hd).2.2.2.2.2.2⟩
  rcases hcases with ⟨-, he⟩ | ⟨-, -, hc⟩ | ⟨rfl, k, hkk, hl⟩
  · exact absurd he hdims.2
  · exfalso
    rcases hdown with hd | hd | hd
    · have f := downKind_facts _ _ hd
      obtain ⟨e, t⟩ := expr
      cases e with
      | literal lit =>
        cases lit with
        | int n sgn =>
          have := (hlit rfl).2 n sgn t rfl
          subst this
          simp only [assignCastCond, TExpr.expression, Bool.and_eq_true, beq_iff_eq] at hc
          cases symT <;> simp [tag] at hc
          simp [DownKind, kindOf, towerRank, TExpr.getType] at hd
        | _ =>
          simp only [assignCastCond, TExpr.expression, decide_eq_true_eq] at hc
          exact f.2.2.2.2.1 hc
      | _ =>
        simp only [assignCastCond, TExpr.expression, decide_eq_true_eq] at hc
        exact f.2.2.2.2.1 hc
    · obtain ⟨e, t⟩ := expr
      cases e <;> simp [NegLitToUint] at hd
      rename_i lit
      cases lit <;> simp at hd
      obtain ⟨-, hsgn⟩ := hd
      subst hsgn
      simp [assignCastCond, TExpr.expression] at hc
    · have f := narrow_facts _ _ hd
      by_cases hl : isLiteralExpr expr = true
      · have := (hlit hl).1
        rw [f.2.2.2.1] at this; cases this
      · obtain ⟨e, t⟩ := expr
        cases e with
        | literal lit => exact hl rfl
        | _ =>
          simp only [assignCastCond, TExpr.expression, decide_eq_true_eq] at hc
          exact f.2.2.2.2.1 hc
  · exact ⟨hv, k, hkk, hl⟩

/-! ## witnesses (closed programs: the I5 dump of the named source, evaluated by the kernel) -/

def isCastExpr : TExpr → Bool
  | .mk (.cast _ _) _ => true
  | _ => false

/-- per statement: for a declaration with initializer / an assignment, the type of the stored
value and whether it is a cast -/
def stmtObs : Stmt → Option (T × Bool)
  | .declareClassical _ (some v) => some (v.getType, isCastExpr v)
  | .assignment _ v => some (v.getType, isCastExpr v)
  | _ => none

/-- what a witness observes: the statements' stored values, the types of the user's symbols
(ids 7, 8, …), and all diagnostics -/
def observe (p : Ast.Program) : Option (List (Option (T × Bool)) × List T × List SemErr) :=
  match analyze p with
  | .ok c => some (c.program.map stmtObs, (c.symbolTable.all.drop 7).map (·.ty), c.semanticErrors)
  | .error _ => none

/-- `const int n = 3; int[8] y = n;` -/
def progF18a : Ast.Program :=
  ⟨⟨0, 30⟩, [(.classicalDeclarationStatement ⟨0, 16⟩ false (some (.mk ⟨6, 9⟩ .int none none)) true (some ⟨⟨10, 11⟩, "n"⟩) (some (.literal ⟨⟨14, 15⟩, .intNumber "3" (some 3)⟩))), (.classicalDeclarationStatement ⟨17, 30⟩ false (some (.mk ⟨17, 23⟩ .int (some (.mk ⟨20, 23⟩ (some (.literal ⟨⟨21, 22⟩, .intNumber "8" (some 8)⟩)))) none)) false (some ⟨⟨24, 25⟩, "y"⟩) (some (.identifier ⟨⟨28, 29⟩, "n"⟩)))]⟩

/-- `int[8] y = 1+2;` -/
def progF18b : Ast.Program :=
  ⟨⟨0, 15⟩, [(.classicalDeclarationStatement ⟨0, 15⟩ false (some (.mk ⟨0, 6⟩ .int (some (.mk ⟨3, 6⟩ (some (.literal ⟨⟨4, 5⟩, .intNumber "8" (some 8)⟩)))) none)) false (some ⟨⟨7, 8⟩, "y"⟩) (some (.binExpr ⟨11, 14⟩ (some (.arithOp .add)) (some (.literal ⟨⟨11, 12⟩, .intNumber "1" (some 1)⟩)) (some (.literal ⟨⟨13, 14⟩, .intNumber "2" (some 2)⟩)))))]⟩

/-- `float f = 2im;` -/
def progF18c : Ast.Program :=
  ⟨⟨0, 14⟩, [(.classicalDeclarationStatement ⟨0, 14⟩ false (some (.mk ⟨0, 5⟩ .float none none)) false (some ⟨⟨6, 7⟩, "f"⟩) (some (.timingLiteral ⟨10, 13⟩ (some .imaginary) (some "im") (some ⟨⟨10, 11⟩, .intNumber "2" (some 2)⟩))))]⟩

/-- `int x = 2im;` -/
def progF18c2 : Ast.Program :=
  ⟨⟨0, 12⟩, [(.classicalDeclarationStatement ⟨0, 12⟩ false (some (.mk ⟨0, 3⟩ .int none none)) false (some ⟨⟨4, 5⟩, "x"⟩) (some (.timingLiteral ⟨8, 11⟩ (some .imaginary) (some "im") (some ⟨⟨8, 9⟩, .intNumber "2" (some 2)⟩))))]⟩

/-- `duration d; d = 1;` -/
def progF18d : Ast.Program :=
  ⟨⟨0, 18⟩, [(.classicalDeclarationStatement ⟨0, 11⟩ false (some (.mk ⟨0, 8⟩ .duration none none)) false (some ⟨⟨9, 10⟩, "d"⟩) none), (.assignmentStmt ⟨12, 18⟩ (some ⟨⟨12, 13⟩, "d"⟩) (some (.literal ⟨⟨16, 17⟩, .intNumber "1" (some 1)⟩)) none)]⟩

/-- `bool b; b = -1;` -/
def progF18d2 : Ast.Program :=
  ⟨⟨0, 15⟩, [(.classicalDeclarationStatement ⟨0, 7⟩ false (some (.mk ⟨0, 4⟩ .bool none none)) false (some ⟨⟨5, 6⟩, "b"⟩) none), (.assignmentStmt ⟨8, 15⟩ (some ⟨⟨8, 9⟩, "b"⟩) (some (.prefixExpr ⟨12, 14⟩ (some .neg) (some (.literal ⟨⟨13, 14⟩, .intNumber "1" (some 1)⟩)))) none)]⟩

/-- `int[8] y = 2.5;` -/
def progCtl1 : Ast.Program :=
  ⟨⟨0, 15⟩, [(.classicalDeclarationStatement ⟨0, 15⟩ false (some (.mk ⟨0, 6⟩ .int (some (.mk ⟨3, 6⟩ (some (.literal ⟨⟨4, 5⟩, .intNumber "8" (some 8)⟩)))) none)) false (some ⟨⟨7, 8⟩, "y"⟩) (some (.literal ⟨⟨11, 14⟩, .floatNumber "2.5" (some "2.5")⟩)))]⟩

/-- `uint x = -1;` -/
def progCtl2 : Ast.Program :=
  ⟨⟨0, 12⟩, [(.classicalDeclarationStatement ⟨0, 12⟩ false (some (.mk ⟨0, 4⟩ .uint none none)) false (some ⟨⟨5, 6⟩, "x"⟩) (some (.prefixExpr ⟨9, 11⟩ (some .neg) (some (.literal ⟨⟨10, 11⟩, .intNumber "1" (some 1)⟩)))))]⟩

/-- **F18a** `const int n = 3; int[8] y = n;`: `y : int[8]` is initialised with the identifier of
type `const int` unchanged, no cast, no diagnostic; the guard holds -/
theorem witness_const_identifier_narrowed :
    observe progF18a = some ([some (.int none true, true), some (.int none true, false)],
      [.int none true, .int (some 8) false], []) ∧
    kfDeclSilent (.int (some 8) false) (.mk (.identifier (.ok 7)) (.int none true)) = true := by
  constructor
  · decide +kernel
  · decide

/-- **F18b** `int[8] y = 1+2;`: the sum has type `const int[128]`, stored unchanged, nothing logged -/
theorem witness_arithmetic_initializer_narrowed :
    observe progF18b = some ([some (.int (some 128) true, false)], [.int (some 8) false], []) ∧
    kfDeclSilent (.int (some 8) false)
      (.mk (.binaryExpr (.arithOp .add) (intLiteralToTexpr 1 true) (intLiteralToTexpr 2 true))
        (.int (some 128) true)) = true := by
  constructor
  · decide +kernel
  · decide

/-- **F18c** `float f = 2im;` and `int x = 2im;`: an imaginary integer literal is typed
`const int[64]`, so the literal-cast table accepts it for `float` and for `int` targets: a cast is
inserted, nothing logged — a complex→real conversion accepted silently.  (`2.0im` is
`complex[float[64]]` and is rejected.) -/
theorem witness_imaginary_int_downward :
    observe progF18c = some ([some (.float none false, true)], [.float none false], []) ∧
    observe progF18c2 = some ([some (.int none false, true)], [.int none false], []) := by
  constructor <;> decide +kernel

/-- **F18d** `duration d; d = 1;` and `bool b; b = -1;`: an integer literal is stored unchanged
into a target of any non-`uint` type, nothing logged; the guard holds -/
theorem witness_int_literal_assigned :
    observe progF18d = some ([none, some (.int (some 128) true, false)], [.duration false], []) ∧
    observe progF18d2 = some ([none, some (.int (some 128) true, false)], [.boolT false], []) ∧
    kfAssignIntLiteral (.duration false) (intLiteralToTexpr 1 true) = true ∧
    kfAssignIntLiteral (.boolT false) (intLiteralToTexpr 1 false) = true := by
  refine ⟨?_, ?_, ?_, ?_⟩
  · decide +kernel
  · decide +kernel
  · decide
  · decide

/-- controls: `int[8] y = 2.5;` and `uint x = -1;` are stored unchanged WITH the diagnostic -/
theorem witness_downward_diagnosed :
    observe progCtl1 = some ([some (.float (some 64) true, false)], [.int (some 8) false],
      [⟨.incompatibleTypesError, 0, 15⟩]) ∧
    observe progCtl2 = some ([some (.int (some 128) true, false)], [.uint none false],
      [⟨.incompatibleTypesError, 0, 12⟩]) := by
  constructor <;> decide +kernel

/-- `int a; uint b; a + b;` -/
def progVoidArith : Ast.Program :=
  ⟨⟨0, 21⟩, [(.classicalDeclarationStatement ⟨0, 6⟩ false (some (.mk ⟨0, 3⟩ .int none none)) false (some ⟨⟨4, 5⟩, "a"⟩) none), (.classicalDeclarationStatement ⟨7, 14⟩ false (some (.mk ⟨7, 11⟩ .uint none none)) false (some ⟨⟨12, 13⟩, "b"⟩) none), (.exprStmt ⟨15, 21⟩ (some (.binExpr ⟨15, 20⟩ (some (.arithOp .add)) (some (.identifier ⟨⟨15, 16⟩, "a"⟩)) (some (.identifier ⟨⟨19, 20⟩, "b"⟩)))))]⟩

/-- `complex c; c / 2;` -/
def progComplexDiv : Ast.Program :=
  ⟨⟨0, 17⟩, [(.classicalDeclarationStatement ⟨0, 10⟩ false (some (.mk ⟨0, 7⟩ .complex none none)) false (some ⟨⟨8, 9⟩, "c"⟩) none), (.exprStmt ⟨11, 17⟩ (some (.binExpr ⟨11, 16⟩ (some (.arithOp .div)) (some (.identifier ⟨⟨11, 12⟩, "c"⟩)) (some (.literal ⟨⟨15, 16⟩, .intNumber "2" (some 2)⟩)))))]⟩

/-- a binary expression statement: its type, and for each operand its type and whether it is a cast -/
structure BinObs where
  ty : T
  leftTy : T
  leftIsCast : Bool
  rightTy : T
  rightIsCast : Bool
  deriving DecidableEq

def binObs : Stmt → List BinObs
  | .exprStmt (.mk (.binaryExpr _ l r) t) => [⟨t, l.getType, isCastExpr l, r.getType, isCastExpr r⟩]
  | _ => []

def observeBin (p : Ast.Program) : Option (List BinObs × List SemErr) :=
  match analyze p with
  | .ok c => some (c.program.flatMap binObs, c.semanticErrors)
  | .error _ => none

/-- "the common type of its operands" can be `Void`, with both operands cast to `Void` and NO
diagnostic: `int a; uint b; a + b;` (the promotion table has no `int`/`uint` entry, C20 F19c);
`WT` holds — it says what the code does — but the property's reading "common type" does not -/
theorem witness_void_arithmetic_undiagnosed :
    observeBin progVoidArith = some ([⟨.void, .void, true, .void, true⟩], []) ∧
    implicitCastType .add (.int none false) (.uint none false) = .void := by
  constructor
  · decide +kernel
  · decide

/-- `/` with no `float` operand yields `float` regardless of the operands: `complex c; c / 2;` casts
the complex operand DOWN to `float`, silently -/
theorem witness_complex_division_downward :
    observeBin progComplexDiv =
      some ([⟨.float none false, .float none false, true, .float none false, true⟩], []) ∧
    implicitCastType .div (.complex none false) (.int (some 128) true) = .float none false := by
  constructor
  · decide +kernel
  · decide

end Oq3.Props.C08
