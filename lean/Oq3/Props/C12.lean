/-
C12 — diagnostics carry valid spans; a diagnostic-free tree has no error nodes.

Proved (all inputs):
* `lex_error_ranges`: every lexer diagnostic's range is a token's range: `lo ≤ hi ≤ |text|`,
  both ends token starts (character boundaries, since tokens are whole characters — C14);
* `parse_error_positions`: every parser diagnostic emitted by `intersperse_trivia` sits at the
  start offset of a raw token (or at the end of the text): `pos = text_start(p)`, `p ≤ len`;
* `text_start_le` : such an offset never exceeds the length of the text.
"No silent error node" is proved in `Props/C12NoSilent.lean` (finding F10: with `bump_any` instead of
`expect(ARRAY_KW)` in `array_type_spec` the clause is false at that site), the semantic clause in
`Props/C12Sema.lean`.
-/
import Oq3.Props.C14
import Oq3.Lemmas.Builder

namespace Oq3.Props.C12
open Oq3.Gen Oq3.Parser Oq3.Builder

open Oq3.Lexer Oq3.Lexed in
/-- a lexer error's range is the range of an existing token: in bounds and ordered -/
theorem lex_error_ranges (uc : UC) (s : List Char) (l : LexedStr) (hl : LexedStr.new uc s = some l) :
    ∀ e ∈ l.error, ∃ lo hi, l.textRange e.token = some (lo, hi) ∧ lo ≤ hi ∧
      hi ≤ Oq3.Lexer.utf8Len s ∧ lo ∈ l.start ∧ hi ∈ l.start := by
  intro e he
  have hlt := Oq3.Props.C14.error_index_lt_len uc s l hl e he
  have hlen := Oq3.Props.C14.lexed_len uc s l hl
  have hi : e.token < (tokenize uc s).length := by omega
  have hks := Oq3.Props.C14.kinds_len_eq_starts_len uc s l hl
  have hpw := Oq3.Props.C14.starts_strictly_increasing uc s l hl
  have hle := Oq3.Props.C14.starts_le_len uc s l hl
  have hslen : l.start.length = l.len + 1 := by
    have : l.kind.length ≥ 1 := by
      have := Oq3.Props.C14.kinds_last_eof uc s l hl
      cases hk : l.kind with
      | nil => simp [hk] at this
      | cons a b => simp
    unfold LexedStr.len at *; omega
  have h1 : e.token < l.start.length := by omega
  have h2 : e.token + 1 < l.start.length := by omega
  refine ⟨l.start[e.token], l.start[e.token + 1], ?_, ?_, hle _ (List.getElem_mem h2),
    List.getElem_mem h1, List.getElem_mem h2⟩
  · unfold LexedStr.textRange
    simp [hlt, List.getElem?_eq_getElem h1, List.getElem?_eq_getElem h2]
  · exact Nat.le_of_lt (List.pairwise_iff_getElem.mp hpw _ _ h1 h2 (by omega))

/-- every error emitted so far sits at the start of a raw token (or at the end of the table) -/
def ErrOK (toks : List RawTok) (out : List StrStep) : Prop :=
  ∀ e ∈ errorsOf out, ∃ p, p ≤ toks.length ∧ e.pos = textStart toks p

structure PosInv (toks : List RawTok) (b : B) : Prop where
  pos_le : b.pos ≤ toks.length
  err : ErrOK toks b.out

theorem errOK_emit_nonerr {toks out} (h : ErrOK toks out) (s : StrStep)
    (hs : ∀ m p, s ≠ .error m p := by nofun) : ErrOK toks (out ++ [s]) := by
  intro e he
  rw [errorsOf_append] at he
  cases s with
  | error m p => exact absurd rfl (hs m p)
  | token k t => simp [errorsOf] at he; exact h e he
  | enter k => simp [errorsOf] at he; exact h e he
  | exit => simp [errorsOf] at he; exact h e he

theorem PosInv.emit {toks b} (h : PosInv toks b) (s : StrStep)
    (hs : ∀ m p, s ≠ .error m p := by nofun) : PosInv toks (emit b s) :=
  ⟨h.pos_le, errOK_emit_nonerr h.err s hs⟩

theorem eatTriviasAux_pos {toks : List RawTok} (rest : List RawTok) (b : B) (h : PosInv toks b)
    (hr : toks.drop b.pos = rest) : PosInv toks (eatTriviasAux rest b) := by
  induction rest generalizing b with
  | nil => exact h
  | cons t rest ih =>
    simp only [eatTriviasAux]
    split
    · have hlt : b.pos < toks.length := by
        have : (toks.drop b.pos).length = (t :: rest).length := by rw [hr]
        simp at this; omega
      apply ih
      · exact ⟨by simp [Oq3.Builder.emit]; omega,
          errOK_emit_nonerr h.err _⟩
      · have := congrArg List.tail hr
        simpa [List.tail_drop, Oq3.Builder.emit] using this
    · exact h

theorem eatNTrivias_pos {toks : List RawTok} (n : Nat) (b b' : B) (h : PosInv toks b)
    (hok : eatNTrivias toks n b = .ok b') : PosInv toks b' := by
  induction n generalizing b with
  | zero => cases hok; exact h
  | succ n ih =>
    obtain ⟨t, ht, _, hok⟩ := eatNTrivias_succ_ok.mp hok
    have hlt : b.pos < toks.length := (List.getElem?_eq_some_iff.mp ht).1
    exact ih _ ⟨by simp [Oq3.Builder.emit]; omega, errOK_emit_nonerr h.err _⟩ hok

theorem flushPending_pos {toks : List RawTok} (b b' : B) (h : PosInv toks b)
    (hok : flushPending b = .ok b') : PosInv toks b' := by
  obtain ⟨_, rfl⟩ | ⟨_, rfl⟩ := flushPending_cases hok
  · exact ⟨h.pos_le, h.err⟩
  · exact ⟨h.pos_le, errOK_emit_nonerr h.err _⟩

theorem step_pos {toks : List RawTok} (b b' : B) (s : Step) (h : PosInv toks b)
    (hok : step toks b s = .ok b') : PosInv toks b' := by
  cases s with
  | token k n =>
    obtain ⟨b1, hb1, hok⟩ := step_token_ok.mp hok
    obtain ⟨_, hfit, rfl⟩ := doToken_ok_iff.mp hok
    have h2 : PosInv toks (eatTrivias toks b1) := eatTriviasAux_pos _ b1 (flushPending_pos b b1 h hb1) rfl
    exact ⟨hfit, errOK_emit_nonerr h2.err _⟩
  | enter k =>
    by_cases hb : b.state = .pendingEnter
    · rw [step_enter_pending toks k hb] at hok; cases hok
      exact ⟨h.pos_le, errOK_emit_nonerr h.err _⟩
    · rw [step_enter_eq _ _ _ hb] at hok
      obtain ⟨b1, hb1, b2, hb2, hok⟩ := enterBody_ok_iff.mp hok
      exact eatNTrivias_pos _ _ b' ((eatNTrivias_pos _ b1 b2 (flushPending_pos b b1 h hb1) hb2).emit _) hok
  | exit =>
    obtain ⟨d, hd, rfl⟩ := step_exit_ok.mp hok
    have hd := flushPending_pos b d h hd
    exact ⟨hd.pos_le, hd.err⟩
  | error msg =>
    rw [step_error_eq] at hok; cases hok
    refine ⟨h.pos_le, ?_⟩
    intro e he
    simp only [Oq3.Builder.emit, errorsOf_append, List.mem_append] at he
    rcases he with he | he
    · exact h.err e he
    · simp [errorsOf] at he; subst he; exact ⟨b.pos, h.pos_le, rfl⟩

theorem steps_pos {toks : List RawTok} (ss : List Step) (b b' : B) (h : PosInv toks b)
    (hok : steps toks ss b = .ok b') : PosInv toks b' := by
  induction ss generalizing b with
  | nil => cases hok; exact h
  | cons s ss ih =>
    obtain ⟨b1, hb1, hok⟩ := steps_cons_ok.mp hok
    exact ih b1 (step_pos b b1 s h hb1) hok

/-- **Parser diagnostics sit on token starts.** For every token table and every step list on
which `intersperse_trivia` returns, each emitted error's offset is `text_start(p)` for some
`p ≤ len`. -/
theorem parse_error_positions (toks : List RawTok) (ss : List Step) (out : List StrStep) (eof : Bool)
    (hok : intersperseTrivia toks ss = .ok (out, eof)) : ErrOK toks out := by
  obtain ⟨b, hb, _, rfl, _⟩ := intersperseTrivia_ok_iff.mp hok
  have h0 : PosInv toks ({} : B) := ⟨Nat.zero_le _, by intro e he; simp [errorsOf] at he⟩
  have h2 : PosInv toks (eatTrivias toks b) := eatTriviasAux_pos _ b (steps_pos ss _ b h0 hb) rfl
  exact errOK_emit_nonerr h2.err _

/-- a token start never exceeds the length of the text -/
theorem text_start_le (toks : List RawTok) (p : Nat) : textStart toks p ≤ Oq3.Builder.utf8Len (rawText toks) := by
  unfold textStart rawText Oq3.Builder.utf8Len
  have : ∀ (l : List RawTok), ((l.map (fun t => t.text)).flatten.map Char.utf8Size).sum =
      (l.map (fun t => (t.text.map Char.utf8Size).sum)).sum := by
    intro l; induction l with
    | nil => rfl
    | cons x xs ih =>
      simp only [List.map_cons, List.flatten_cons, List.map_append, List.sum_append, List.sum_cons]
      rw [ih]
  rw [this]
  conv => rhs; rw [← List.take_append_drop p toks]
  simp only [List.map_append, List.sum_append, Oq3.Builder.utf8Len]
  omega

end Oq3.Props.C12
