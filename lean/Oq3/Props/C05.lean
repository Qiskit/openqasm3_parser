/-
C05 — the AST mirrors the program's derivation: precedence and associativity.

This file: the Pratt round-trip theorem, for every operator table whose powers stay below the
prefix level; the OpenQASM 3 specification table; and the exact list of operator pairs on which the
implementation's table (translated from `current_op` on every run) disagrees with it.
-/
import Oq3.Model.Pratt

namespace Oq3.Props.C05
open Oq3.Gen Oq3.Pratt

variable (t : Tab)

def Follow (bp : Nat) : List Tok → Prop
  | .op o :: _ => t.pow o < bp
  | _ => True

/-- canonical at level `bp`: a sufficient condition for the Pratt loop run at minimum power `bp` to
rebuild the tree from its own minimal-parenthesis print (`pratt_roundtrip`) -/
def Canon : Nat → E → Prop
  | _, .atom _ => True
  | _, .paren e => Canon 1 e
  | _, .pre o e => t.preOK o = true ∧ Canon prefixBp e
  | bp, .bin o l r =>
      bp ≤ t.pow o ∧ Canon (rbp t o) r ∧
      (match l with
        | .bin o' _ _ => t.pow o < rbp t o' ∧ Canon bp l
        | _ => Canon bp l)

def Small : Prop := ∀ o, t.pow o < prefixBp

theorem fuel_mono :
    (∀ fuel bp ts r, exprBp t fuel bp ts = some r → ∀ k, exprBp t (fuel + k) bp ts = some r) ∧
    (∀ fuel ts r, primary t fuel ts = some r → ∀ k, primary t (fuel + k) ts = some r) ∧
    (∀ fuel bp lhs ts r, loop t fuel bp lhs ts = some r → ∀ k, loop t (fuel + k) bp lhs ts = some r) := by
  have h : ∀ fuel,
      (∀ bp ts r, exprBp t fuel bp ts = some r → ∀ k, exprBp t (fuel + k) bp ts = some r) ∧
      (∀ ts r, primary t fuel ts = some r → ∀ k, primary t (fuel + k) ts = some r) ∧
      (∀ bp lhs ts r, loop t fuel bp lhs ts = some r → ∀ k, loop t (fuel + k) bp lhs ts = some r) := by
    intro fuel
    induction fuel with
    | zero => simp [exprBp, primary, loop]
    | succ n ih =>
      obtain ⟨ihE, ihP, ihL⟩ := ih
      refine ⟨?_, ?_, ?_⟩
      · intro bp ts r h k
        rw [Nat.add_right_comm]
        simp only [exprBp] at h ⊢
        cases hp : primary t n ts with
        | none => simp [hp] at h
        | some pr =>
          obtain ⟨lhs, ts'⟩ := pr
          simp only [hp] at h
          simp only [ihP _ _ hp k]
          exact ihL _ _ _ _ h k
      · intro ts r h k
        rw [Nat.add_right_comm]
        simp only [primary] at h ⊢
        match ts, h with
        | .atom n' :: ts, h => simpa using h
        | .pre o :: ts, h =>
          simp only at h ⊢
          split
          · rename_i hp
            simp only [hp, if_true] at h
            cases he : exprBp t n prefixBp ts with
            | none => simp [he] at h
            | some er =>
              simp only [ihE _ _ _ he k]
              simpa [he] using h
          · rename_i hp; simp [hp] at h
        | .lp :: ts, h =>
          simp only at h ⊢
          cases he : exprBp t n 1 ts with
          | none => simp [he] at h
          | some er =>
            simp only [ihE _ _ _ he k]
            simpa [he] using h
      · intro bp lhs ts r h k
        rw [Nat.add_right_comm]
        simp only [loop] at h ⊢
        match ts, h with
        | .op o :: ts', h =>
          simp only at h ⊢
          split
          · rename_i hlt; simpa [hlt] using h
          · rename_i hlt
            simp only [hlt, if_false] at h
            cases he : exprBp t n (rbp t o) ts' with
            | none => simp [he] at h
            | some er =>
              obtain ⟨r', ts''⟩ := er
              simp only [he] at h
              simp only [ihE _ _ _ he k]
              exact ihL _ _ _ _ h k
        | [], h => simpa using h
        | .atom _ :: _, h => simpa using h
        | .pre _ :: _, h => simpa using h
        | .lp :: _, h => simpa using h
        | .rp :: _, h => simpa using h
  exact ⟨fun f => (h f).1, fun f => (h f).2.1, fun f => (h f).2.2⟩

/-- along the right spine of `e`, every level stops at `rest` -/
def RightOK : E → List Tok → Prop
  | .bin o _ r, rest => Follow t (rbp t o) rest ∧ RightOK r rest
  | .pre _ e, rest => RightOK e rest
  | _, _ => True

theorem pow_le_rbp (o : Op) : t.pow o ≤ rbp t o := by
  unfold rbp; split <;> omega

theorem rightOK_of_canon (hs : Small t) (e : E) (b : Nat) (o : Op) (xs : List Tok)
    (hc : Canon t b e) (hp : t.pow o < b) : RightOK t e (.op o :: xs) := by
  induction e generalizing b with
  | atom n => trivial
  | paren e ih => trivial
  | pre o' e ih =>
    simp only [Canon] at hc
    exact ih _ hc.2 (hs o)
  | bin o' l r ihl ihr =>
    simp only [Canon] at hc
    obtain ⟨h1, h2, _⟩ := hc
    have := pow_le_rbp t o'
    refine ⟨?_, ?_⟩
    · show t.pow o < rbp t o'; omega
    · exact ihr _ h2 (by omega)

theorem rightOK_nonop (e : E) (xs : List Tok) (h : ∀ o ys, xs ≠ .op o :: ys) : RightOK t e xs := by
  induction e with
  | atom n => trivial
  | paren e ih => trivial
  | pre o e ih => exact ih
  | bin o' l r ihl ihr =>
    refine ⟨?_, ihr⟩
    unfold Follow
    split
    · rename_i o ys; exact absurd rfl (h o ys)
    · trivial

theorem loop_stop (bp : Nat) (lhs : E) (rest : List Tok) (h : Follow t bp rest) :
    loop t 1 bp lhs rest = some (lhs, rest) := by
  unfold loop
  split
  · rename_i o ts'; simp only [Follow] at h; simp [h]
  · rfl

theorem follow_prefix (hs : Small t) (rest : List Tok) : Follow t prefixBp rest := by
  unfold Follow; split
  · exact hs _
  · trivial

theorem exprBp_of_primary {f1 f bp : Nat} {ts ts' : List Tok} {lhs : E} {res : E × List Tok}
    (hp : primary t f1 ts = some (lhs, ts')) (hl : loop t f bp lhs ts' = some res) :
    exprBp t (f1 + f + 1) bp ts = some res := by
  simp only [exprBp, (fuel_mono t).2.1 _ _ _ hp f]
  rw [Nat.add_comm f1 f]; exact (fuel_mono t).2.2 _ _ _ _ _ hl f1

/-- generalised statement: parsing `print e ++ rest` at level `bp` yields whatever continuing
the loop with `lhs = e` at `rest` yields -/
theorem exprBp_of_loop (hs : Small t) (e : E) : ∀ bp rest res, Canon t bp e → RightOK t e rest →
    (∃ f, loop t f bp e rest = some res) → ∃ f, exprBp t f bp (print e ++ rest) = some res := by
  induction e with
  | atom n =>
    intro bp rest res _ _ ⟨f, hf⟩
    exact ⟨_, exprBp_of_primary t (f1 := 1) (by simp [primary, print]) hf⟩
  | paren e ih =>
    intro bp rest res hc _ ⟨f, hf⟩
    simp only [Canon] at hc
    obtain ⟨f1, hf1⟩ := ih 1 (.rp :: rest) (e, .rp :: rest) hc
      (rightOK_nonop t e _ (by intro o ys h; cases h))
      ⟨1, loop_stop t 1 e _ (by simp [Follow])⟩
    exact ⟨_, exprBp_of_primary t (f1 := f1 + 1) (by simp [primary, print, hf1]) hf⟩
  | pre o e ih =>
    intro bp rest res hc hr ⟨f, hf⟩
    simp only [Canon] at hc
    obtain ⟨f1, hf1⟩ := ih prefixBp rest (e, rest) hc.2 hr ⟨1, loop_stop t _ e rest (follow_prefix t hs rest)⟩
    exact ⟨_, exprBp_of_primary t (f1 := f1 + 1) (by simp [primary, print, hc.1, hf1]) hf⟩
  | bin o l r ihl ihr =>
    intro bp rest res hc hr ⟨f, hf⟩
    simp only [Canon] at hc
    obtain ⟨hbp, hcr, hcl⟩ := hc
    obtain ⟨hfo, hrr⟩ := hr
    have hR := ihr (rbp t o) rest (r, rest) hcr hrr ⟨1, loop_stop t _ r rest hfo⟩
    obtain ⟨fr, hfr⟩ := hR
    have hcl' : Canon t bp l := by
      cases l <;> simp_all
    have hrl : RightOK t l (.op o :: (print r ++ rest)) := by
      cases l with
      | atom n => trivial
      | paren e => trivial
      | pre o' e' =>
        simp only [Canon] at hcl
        exact rightOK_of_canon t hs e' _ o _ hcl.2 (hs o)
      | bin o' l' r' =>
        simp only at hcl
        obtain ⟨hlt, hcl2⟩ := hcl
        simp only [Canon] at hcl2
        exact ⟨hlt, rightOK_of_canon t hs r' _ o _ hcl2.2.1 hlt⟩
    have hloop : ∃ f', loop t f' bp l (.op o :: (print r ++ rest)) = some res := by
      refine ⟨fr + f + 1, ?_⟩
      have h1 := (fuel_mono t).1 _ _ _ _ hfr f
      have h2 := (fuel_mono t).2.2 _ _ _ _ _ hf fr
      have e2 : f + fr = fr + f := by omega
      simp only [loop, Nat.not_lt.mpr hbp, if_false, h1]
      simpa [e2] using h2
    have := ihl bp (.op o :: (print r ++ rest)) res hcl' hrl hloop
    simpa [print, List.append_assoc] using this

theorem rightOK_of_follow (hs : Small t) (e : E) (bp : Nat) (rest : List Tok)
    (hc : Canon t bp e) (hf : Follow t bp rest) : RightOK t e rest := by
  match rest, hf with
  | .op o :: xs, hf => exact rightOK_of_canon t hs e bp o xs hc hf
  | [], _ | .atom _ :: _, _ | .pre _ :: _, _ | .lp :: _, _ | .rp :: _, _ =>
    exact rightOK_nonop t e _ (by intro o ys h; cases h)

/-- **Pratt round trip**, for every operator table whose powers stay below the prefix level:
a tree that is canonical for the table is returned unchanged from its own print; parentheses
override; prefix operators take the following primary. -/
theorem pratt_roundtrip (hs : Small t) (e : E) (bp : Nat) (rest : List Tok)
    (hc : Canon t bp e) (hf : Follow t bp rest) :
    ∃ f, exprBp t f bp (print e ++ rest) = some (e, rest) :=
  exprBp_of_loop t hs e bp rest (e, rest) hc (rightOK_of_follow t hs e bp rest hc hf) ⟨1, loop_stop t bp e rest hf⟩

/-- the 19 binary operators of OpenQASM 3 -/
def binOps : List Op :=
  [.PIPE2, .AMP2, .PIPE, .CARET, .AMP, .EQ2, .NEQ, .L_ANGLE, .LTEQ, .R_ANGLE, .GTEQ, .SHL, .SHR,
   .PLUS, .MINUS, .STAR, .SLASH, .PERCENT, .DOUBLE_STAR]

/-- OpenQASM 3 precedence levels (higher binds tighter); unary `! - ~` sit at level 11,
between `**` (12, right-associative) and `* / %` (10) -/
def specLevel : Op → Nat
  | .PIPE2 => 1 | .AMP2 => 2 | .PIPE => 3 | .CARET => 4 | .AMP => 5
  | .EQ2 | .NEQ => 6
  | .L_ANGLE | .LTEQ | .R_ANGLE | .GTEQ => 7
  | .SHL | .SHR => 8
  | .PLUS | .MINUS => 9
  | .STAR | .SLASH | .PERCENT => 10
  | .DOUBLE_STAR => 12
  | _ => 0

def specUnaryLevel : Nat := 11

def specTab : Tab :=
  { pow := specLevel, assoc := fun o => if o == .DOUBLE_STAR then .right else .left
    preOK := fun o => o == .MINUS || o == .BANG || o == .TILDE }

/-- the three unary operators of OpenQASM 3 -/
def unaryOps : List Op := [.MINUS, .BANG, .TILDE]

/-- unary operators the implementation does not accept at the start of an expression -/
def unaryRejected : List Op := unaryOps.filter fun o => !implTab.preOK o

/-- does `a o1 b o2 c` group as `(a o1 b) o2 c` under table `t`? -/
def groupsLeft (t : Tab) (o1 o2 : Op) : Bool := !(decide (rbp t o1 ≤ t.pow o2))

/-- ordered operator pairs whose grouping in `a o1 b o2 c` differs between the implementation's
(translated) table and the specification -/
def disagree : List (Op × Op) :=
  (binOps.flatMap fun o1 => binOps.map fun o2 => (o1, o2)).filter fun p =>
    groupsLeft implTab p.1 p.2 != groupsLeft specTab p.1 p.2

/-- binary operators that the implementation lets bind inside the operand of a prefix
operator differently from the specification: under the spec only `**` binds tighter than a
unary operator; the implementation parses the operand at power 255, so nothing does -/
def unaryDisagree : List Op :=
  binOps.filter fun o => (decide (specUnaryLevel < specLevel o)) != (decide (prefixBp ≤ implTab.pow o))

theorem implTab_ops : (binOps.all fun o => decide (0 < implTab.pow o ∧ implTab.pow o < prefixBp)) = true := by
  decide +kernel

theorem implTab_small : Small implTab := by
  intro o
  have hb : (Ops.currentOpRows.all fun r =>
      match r.2.2 with | some (bp, _, _) => decide (bp < prefixBp) | none => true) = true := by
    decide +kernel
  have h : ∀ r ∈ Ops.currentOpRows, match r.2.2 with | some (bp, _, _) => bp < prefixBp | none => True := by
    intro r hr
    have := (List.all_eq_true.mp hb) r hr
    cases h2 : r.2.2 with
    | none => trivial
    | some q => obtain ⟨bp, k, a⟩ := q; simp only [h2] at this ⊢; simpa using this
  unfold implTab rowFor
  simp only
  cases hf : (Ops.currentOpRows.findSome? fun r =>
      match r.2.2 with
      | some (bp, k, a) => if k == o then some (bp, a) else none
      | none => none) with
  | none => simp [prefixBp]
  | some p =>
    obtain ⟨bp, a⟩ := p
    simp only
    obtain ⟨r, hr, hrv⟩ := List.exists_of_findSome?_eq_some hf
    have := h r hr
    cases hr2 : r.2.2 with
    | none => simp [hr2] at hrv
    | some q =>
      obtain ⟨bp', k', a'⟩ := q
      simp only [hr2] at hrv this
      split at hrv
      · simp only [Option.some.injEq, Prod.mk.injEq] at hrv; omega
      · simp at hrv

/-- **Round trip for the implementation's table** (instance of `pratt_roundtrip`). -/
theorem impl_roundtrip (e : E) (bp : Nat) (rest : List Tok)
    (hc : Canon implTab bp e) (hf : Follow implTab bp rest) :
    ∃ f, exprBp implTab f bp (print e ++ rest) = some (e, rest) :=
  pratt_roundtrip implTab implTab_small e bp rest hc hf

/-! non-vacuity: `a + b * c - d` is canonical for the implementation's table -/
theorem pows : implTab.pow .PLUS = 10 ∧ implTab.pow .MINUS = 10 ∧ implTab.pow .STAR = 11 ∧
    implTab.assoc .PLUS = .left ∧ implTab.assoc .MINUS = .left ∧ implTab.assoc .STAR = .left := by
  decide +kernel

example : Canon implTab 1 (.bin .MINUS (.bin .PLUS (.atom 0) (.bin .STAR (.atom 1) (.atom 2))) (.atom 3)) := by
  obtain ⟨h1, h2, h3, h4, h5, h6⟩ := pows
  simp [Canon, rbp, h1, h2, h3, h4, h5, h6]

end Oq3.Props.C05
