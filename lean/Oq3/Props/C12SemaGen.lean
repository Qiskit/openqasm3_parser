/- GENERATED by /verif/tools/gen_c12_sema.py from Oq3/Model/Sema.lean — the proofs are checked by Lean. -/
import Oq3.Props.C12SemaSpans

namespace Oq3.Sema
open Oq3.Types Oq3.Symbols

-- closes `X ⊆ L` and `node ∈ L` from the hypothesis `… ⊆ L` of the context
set_option hygiene false in
macro "span_side" : tactic => `(tactic| (
  name_subset_hyp
  try simp only [span_defs,
    List.cons_subset, List.append_subset, List.nil_subset, List.map_cons, List.map_nil,
    and_true, true_and, *] at hsub
  try simp only [span_defs, span_fns,
    List.cons_subset, List.append_subset, List.nil_subset, List.map_cons, List.map_nil,
    and_true, true_and]
  first
  | done
  | exact hsub
  | simp [hsub, Ast.Expr.span_mem_of, Ast.ParenExpr.span_mem_of, Ast.RangeExpr.span_mem_of,
      Ast.Designator.span_mem_of, Ast.IndexedIdentifier.span_mem_of, Ast.QubitList.span_mem_of,
      Ast.ArgList.span_mem_of, Ast.GateCallExpr.span_mem_of, Ast.GateOperand.span_mem_of]))

syntax "errin_lemma" : tactic
macro_rules | `(tactic| errin_lemma) => `(tactic| fail "no lemma")
syntax "errin_ih" : tactic
macro_rules | `(tactic| errin_ih) => `(tactic| fail "no ih")

/-- one structural step of an `ErrIn L` proof -/
macro "errin_step" : tactic => `(tactic| first
  | with_reducible apply ErrIn.pure
  | with_reducible apply ErrIn.fail
  | with_reducible apply ErrIn.throw
  | with_reducible apply unwrap_errIn
  | with_reducible apply tableLookup_errIn
  | with_reducible apply currentScopeType_errIn
  | with_reducible apply inGlobalScope_errIn
  | with_reducible apply insertConstValue_errIn
  | with_reducible apply getConstValue_errIn
  | with_reducible apply pushAnnotation_errIn
  | with_reducible apply annotationsIsEmpty_errIn
  | with_reducible apply takeAnnotations_errIn
  | with_reducible apply insertStmt_errIn
  | (with_reducible apply insertError_errIn; span_side)
  | (with_reducible apply newBinding_errIn; span_side)
  | (with_reducible apply lookupSymbol_errIn; span_side)
  | (with_reducible apply lookupGateSymbol_errIn; span_side)
  | (with_reducible apply lookupIdentifier_errIn; span_side)
  | (with_reducible apply standardLibraryGates_errIn; span_side)
  | (cases ‹_ + 1 = Nat.succ _›)
  | with_reducible apply withScope_errIn
  | (with_reducible apply unwrap_bind_errIn; intro _ hunw; first | subst hunw | skip)
  | with_reducible apply pure_bind_errIn
  | with_reducible apply fail_bind_errIn
  | split
  | with_reducible apply ErrIn.bind
  | intro _
  | with_reducible apply ErrIn.ite
  | errin_lemma
  | errin_ih
  | dsimp only)

macro "errin" : tactic => `(tactic| repeat' errin_step)

theorem notImpl_errIn {L : List Ast.Span} (node : Ast.Span) (hL : [node] ⊆ L) : ErrIn L (notImpl node) := by
  unfold notImpl; errin
macro_rules | `(tactic| errin_lemma) => `(tactic| (with_reducible apply notImpl_errIn; span_side))

theorem binaryOpToAsgType_errIn {L : List Ast.Span} (op : Ast.BinaryOp) : ErrIn L (binaryOpToAsgType op) := by
  unfold binaryOpToAsgType; errin
macro_rules | `(tactic| errin_lemma) => `(tactic| with_reducible apply binaryOpToAsgType_errIn)

theorem intNumberValue_errIn {L : List Ast.Span} (site : String) (text : String) : ErrIn L (intNumberValue site text) := by
  unfold intNumberValue; errin
macro_rules | `(tactic| errin_lemma) => `(tactic| with_reducible apply intNumberValue_errIn)

theorem negativeFloatNumberToAsgType_errIn {L : List Ast.Span} (fmt : Option String) : ErrIn L (negativeFloatNumberToAsgType fmt) := by
  unfold negativeFloatNumberToAsgType; errin
macro_rules | `(tactic| errin_lemma) => `(tactic| with_reducible apply negativeFloatNumberToAsgType_errIn)

theorem negativeIntToAsgType_errIn {L : List Ast.Span} (text : String) : ErrIn L (negativeIntToAsgType text) := by
  unfold negativeIntToAsgType; errin
macro_rules | `(tactic| errin_lemma) => `(tactic| with_reducible apply negativeIntToAsgType_errIn)

theorem literalToAsgTexpr_errIn {L : List Ast.Span} (literal : Ast.Literal) : ErrIn L (literalToAsgTexpr literal) := by
  unfold literalToAsgTexpr; errin
macro_rules | `(tactic| errin_lemma) => `(tactic| with_reducible apply literalToAsgTexpr_errIn)

theorem designatorToAsg_errIn {L : List Ast.Span} (designator : Option Ast.Designator)
    (hL : Ast.optDesignatorSpans designator ⊆ L) : ErrIn L (designatorToAsg designator) := by
  cases designator with
  | none => unfold designatorToAsg; simp only [getAstDesignatorExpression]; errin
  | some d =>
    cases d with
    | mk s e => unfold designatorToAsg; simp only [getAstDesignatorExpression]; errin
macro_rules | `(tactic| errin_lemma) => `(tactic| (with_reducible apply designatorToAsg_errIn; span_side))

theorem scalarTypeToType_errIn {L : List Ast.Span} (scalarType : Ast.ScalarType) (isconst : Bool) (hL : scalarType.spans ⊆ L) : ErrIn L (scalarTypeToType scalarType isconst) := by
  unfold scalarTypeToType; errin
macro_rules | `(tactic| errin_lemma) => `(tactic| (with_reducible apply scalarTypeToType_errIn; span_side))

theorem paramTypeToType_errIn {L : List Ast.Span} (paramType : Ast.ParamType) (isconst : Bool) (hL : paramType.spans ⊆ L) : ErrIn L (paramTypeToType paramType isconst) := by
  unfold paramTypeToType; errin
macro_rules | `(tactic| errin_lemma) => `(tactic| (with_reducible apply paramTypeToType_errIn; span_side))

theorem declareClassicalHelper_errIn {L : List Ast.Span} (symbolId : SymbolIdResult) (initializer : Option TExpr) : ErrIn L (declareClassicalHelper symbolId initializer) := by
  unfold declareClassicalHelper; errin
macro_rules | `(tactic| errin_lemma) => `(tactic| with_reducible apply declareClassicalHelper_errIn)

theorem ioDeclarationStatementToAsgStmt_errIn {L : List Ast.Span} (arrayType : Bool) (scalarType : Option Ast.ScalarType) (name : Option Ast.Name) (inputToken : Bool) (hL : Ast.optScalarTypeSpans scalarType ++ Ast.optNameSpans name ⊆ L) : ErrIn L (ioDeclarationStatementToAsgStmt arrayType scalarType name inputToken) := by
  unfold ioDeclarationStatementToAsgStmt; errin
macro_rules | `(tactic| errin_lemma) => `(tactic| (with_reducible apply ioDeclarationStatementToAsgStmt_errIn; span_side))

theorem bindParams_errIn {L : List Ast.Span} (typ : T) (ps : List Ast.Param)
    (hL : ps.map (·.span) ⊆ L) : ErrIn L (bindParams typ ps) := by
  induction ps with
  | nil => unfold bindParams; exact ErrIn.pure _
  | cons p ps ih =>
    have hp : p.span ∈ L := hL (by simp)
    have hps : ps.map (·.span) ⊆ L := fun x hx => hL (by simp only [List.map_cons]; exact List.mem_cons_of_mem _ hx)
    unfold bindParams
    exact ErrIn.bind (newBinding_errIn _ _ _ hp) (fun _ => ErrIn.bind (ih hps) (fun _ => ErrIn.pure _))
macro_rules | `(tactic| errin_lemma) => `(tactic| (with_reducible apply bindParams_errIn; span_side))

theorem bindParameterList_errIn {L : List Ast.Span} (inparamList : Option Ast.ParamList) (typ : T) (hL : Ast.optParamListSpans inparamList ⊆ L) : ErrIn L (bindParameterList inparamList typ) := by
  unfold bindParameterList; errin
macro_rules | `(tactic| errin_lemma) => `(tactic| (with_reducible apply bindParameterList_errIn; span_side))

theorem bindTypedParams_errIn {L : List Ast.Span} (ps : List Ast.TypedParam)
    (hL : Ast.typedParamsSpans ps ⊆ L) : ErrIn L (bindTypedParams ps) := by
  induction ps with
  | nil => unfold bindTypedParams; exact ErrIn.pure _
  | cons p ps ih =>
    have hps : Ast.typedParamsSpans ps ⊆ L := fun x hx => hL (by simp [Ast.typedParamsSpans, hx])
    have hp : p.spans ⊆ L :=
      fun x hx => hL (by simp only [Ast.typedParamsSpans, List.mem_append]; exact Or.inl hx)
    have ihh := ih hps
    clear hL hps ih
    unfold bindTypedParams
    repeat' (first | exact ihh | errin_step)
macro_rules | `(tactic| errin_lemma) => `(tactic| (with_reducible apply bindTypedParams_errIn; span_side))

theorem bindTypedParameterList_errIn {L : List Ast.Span} (inparamList : Option Ast.TypedParamList) (hL : Ast.optTypedParamListSpans inparamList ⊆ L) : ErrIn L (bindTypedParameterList inparamList) := by
  unfold bindTypedParameterList; errin
macro_rules | `(tactic| errin_lemma) => `(tactic| (with_reducible apply bindTypedParameterList_errIn; span_side))

theorem notGlobalCheck_errIn {L : List Ast.Span} (node : Ast.Span) (hL : [node] ⊆ L) : ErrIn L (notGlobalCheck node) := by
  unfold notGlobalCheck; errin
macro_rules | `(tactic| errin_lemma) => `(tactic| (with_reducible apply notGlobalCheck_errIn; span_side))

theorem gateNotGlobalCheck_errIn {L : List Ast.Span} (name : Option Ast.Name) (hL : Ast.optNameSpans name ⊆ L) : ErrIn L (gateNotGlobalCheck name) := by
  unfold gateNotGlobalCheck; errin
macro_rules | `(tactic| errin_lemma) => `(tactic| (with_reducible apply gateNotGlobalCheck_errIn; span_side))

theorem returnGlobalCheck_errIn {L : List Ast.Span} (node : Ast.Span) (hL : [node] ⊆ L) : ErrIn L (returnGlobalCheck node) := by
  unfold returnGlobalCheck; errin
macro_rules | `(tactic| errin_lemma) => `(tactic| (with_reducible apply returnGlobalCheck_errIn; span_side))

theorem delayDurationCheck_errIn {L : List Ast.Span} (duration : TExpr) (designator : Ast.Span) (hL : [designator] ⊆ L) : ErrIn L (delayDurationCheck duration designator) := by
  unfold delayDurationCheck; errin
macro_rules | `(tactic| errin_lemma) => `(tactic| (with_reducible apply delayDurationCheck_errIn; span_side))

theorem quantumBinopCheck_errIn {L : List Ast.Span} (left right : TExpr) (lhs rhs : Option Ast.Expr) (hL : Ast.optExprSpans lhs ++ Ast.optExprSpans rhs ⊆ L) : ErrIn L (quantumBinopCheck left right lhs rhs) := by
  unfold quantumBinopCheck; errin
macro_rules | `(tactic| errin_lemma) => `(tactic| (with_reducible apply quantumBinopCheck_errIn; span_side))

theorem gateOperandIdentCheck_errIn {L : List Ast.Span} (typ : T) (node : Ast.Span) (hL : [node] ⊆ L) : ErrIn L (gateOperandIdentCheck typ node) := by
  unfold gateOperandIdentCheck; errin
macro_rules | `(tactic| errin_lemma) => `(tactic| (with_reducible apply gateOperandIdentCheck_errIn; span_side))

theorem gateOperandIndexedCheck_errIn {L : List Ast.Span} (typ : T) (node : Ast.Span) (hL : [node] ⊆ L) : ErrIn L (gateOperandIndexedCheck typ node) := by
  unfold gateOperandIndexedCheck; errin
macro_rules | `(tactic| errin_lemma) => `(tactic| (with_reducible apply gateOperandIndexedCheck_errIn; span_side))

theorem gateCallCheck_errIn {L : List Ast.Span} (span : Ast.Span) (qubitList : Option Ast.QubitList) (argList : Option Ast.ArgList) (gateId : Ast.Identifier) (symbolResult : SymbolIdResult) (gateType : T) (numParams numQubits : Nat) (hL : span :: (Ast.optQubitListSpans qubitList ++ (Ast.optArgListSpans argList ++ [gateId.span])) ⊆ L) : ErrIn L (gateCallCheck span qubitList argList gateId symbolResult gateType numParams numQubits) := by
  unfold gateCallCheck; errin
macro_rules | `(tactic| errin_lemma) => `(tactic| (with_reducible apply gateCallCheck_errIn; span_side))

theorem defArityCheck_errIn {L : List Ast.Span} (expectedNumParams numParams : Nat) (argList : Option Ast.ArgList) (hL : Ast.optArgListSpans argList ⊆ L) : ErrIn L (defArityCheck expectedNumParams numParams argList) := by
  unfold defArityCheck; errin
macro_rules | `(tactic| errin_lemma) => `(tactic| (with_reducible apply defArityCheck_errIn; span_side))

theorem mutateConstCheck_errIn {L : List Ast.Span} (symbolOk : Bool) (symbolType : T) (node : Ast.Span) (hL : [node] ⊆ L) : ErrIn L (mutateConstCheck symbolOk symbolType node) := by
  unfold mutateConstCheck; errin
macro_rules | `(tactic| errin_lemma) => `(tactic| (with_reducible apply mutateConstCheck_errIn; span_side))

/-- all functions of the mutual block at one fuel level -/
structure AllErrIn (fuel : Nat) : Prop where
  stmtToAsgStmt : ∀ (a0 : Ast.Stmt) (L : List Ast.Span), a0.spans ⊆ L → ErrIn L (Oq3.Sema.stmtToAsgStmt fuel a0)
  caseExprsLoop : ∀ (a0 : List Ast.CaseExpr) (L : List Ast.Span), Ast.casesSpans a0 ⊆ L → ErrIn L (Oq3.Sema.caseExprsLoop fuel a0)
  exprStmtToAsgStmt : ∀ (a0 : Option Ast.Expr) (L : List Ast.Span), Ast.optExprSpans a0 ⊆ L → ErrIn L (Oq3.Sema.exprStmtToAsgStmt fuel a0)
  modifiersLoop : ∀ (a0 : List Ast.Modifier) (L : List Ast.Span), Ast.modifiersSpans a0 ⊆ L → ErrIn L (Oq3.Sema.modifiersLoop fuel a0)
  parenExprToAsgTexpr : ∀ (a0 : Ast.ParenExpr) (L : List Ast.Span), a0.spans ⊆ L → ErrIn L (Oq3.Sema.parenExprToAsgTexpr fuel a0)
  exprToAsgTexpr : ∀ (a0 : Option Ast.Expr) (L : List Ast.Span), Ast.optExprSpans a0 ⊆ L → ErrIn L (Oq3.Sema.exprToAsgTexpr fuel a0)
  setExpressionToAsgType : ∀ (a0 : Ast.SetExpression) (L : List Ast.Span), a0.spans ⊆ L → ErrIn L (Oq3.Sema.setExpressionToAsgType fuel a0)
  rangeExpressionToAsgType : ∀ (a0 : Ast.RangeExpr) (L : List Ast.Span), a0.spans ⊆ L → ErrIn L (Oq3.Sema.rangeExpressionToAsgType fuel a0)
  gateCallExprToAsgStmt : ∀ (a0 : Ast.GateCallExpr) (a1 : List GateModifier) (L : List Ast.Span), a0.spans ⊆ L → ErrIn L (Oq3.Sema.gateCallExprToAsgStmt fuel a0 a1)
  callExprToAsgTexpr : ∀ (a0 : Ast.Span) (a1 : Option Ast.ArgList) (a2 : Option Ast.Identifier) (L : List Ast.Span), a0 :: (Ast.optArgListSpans a1 ++ Ast.optIdentifierSpans a2) ⊆ L → ErrIn L (Oq3.Sema.callExprToAsgTexpr fuel a0 a1 a2)
  gateOperandToAsgTexpr : ∀ (a0 : Ast.GateOperand) (L : List Ast.Span), a0.spans ⊆ L → ErrIn L (Oq3.Sema.gateOperandToAsgTexpr fuel a0)
  indexOperatorToAsgType : ∀ (a0 : Ast.IndexOperator) (L : List Ast.Span), a0.spans ⊆ L → ErrIn L (Oq3.Sema.indexOperatorToAsgType fuel a0)
  expressionListToAsgType : ∀ (a0 : Ast.ExpressionList) (L : List Ast.Span), a0.spans ⊆ L → ErrIn L (Oq3.Sema.expressionListToAsgType fuel a0)
  qubitListToAsgTexpr : ∀ (a0 : Option Ast.QubitList) (L : List Ast.Span), Ast.optQubitListSpans a0 ⊆ L → ErrIn L (Oq3.Sema.qubitListToAsgTexpr fuel a0)
  gateOperandsLoop : ∀ (a0 : List Ast.GateOperand) (L : List Ast.Span), Ast.gateOperandsSpans a0 ⊆ L → ErrIn L (Oq3.Sema.gateOperandsLoop fuel a0)
  expressionListToAsgTexpr : ∀ (a0 : Ast.ExpressionList) (L : List Ast.Span), a0.spans ⊆ L → ErrIn L (Oq3.Sema.expressionListToAsgTexpr fuel a0)
  exprsLoop : ∀ (a0 : List Ast.Expr) (L : List Ast.Span), Ast.exprsSpans a0 ⊆ L → ErrIn L (Oq3.Sema.exprsLoop fuel a0)
  blockExprToAsgStmtList : ∀ (a0 : Ast.BlockExpr) (L : List Ast.Span), a0.spans ⊆ L → ErrIn L (Oq3.Sema.blockExprToAsgStmtList fuel a0)
  stmtsLoop : ∀ (a0 : List Ast.Stmt) (L : List Ast.Span), Ast.stmtsSpans a0 ⊆ L → ErrIn L (Oq3.Sema.stmtsLoop fuel a0)
  blockExprToAsgType : ∀ (a0 : Ast.BlockExpr) (L : List Ast.Span), a0.spans ⊆ L → ErrIn L (Oq3.Sema.blockExprToAsgType fuel a0)
  blockOrStmtToAsgType : ∀ (a0 : Ast.BlockOrStmt) (L : List Ast.Span), a0.spans ⊆ L → ErrIn L (Oq3.Sema.blockOrStmtToAsgType fuel a0)
  classicalDeclarationStatementToAsgStmt : ∀ (a0 : Ast.Span) (a1 : Bool) (a2 : Option Ast.ScalarType) (a3 : Bool) (a4 : Option Ast.Name) (a5 : Option Ast.Expr) (L : List Ast.Span), a0 :: (Ast.optScalarTypeSpans a2 ++ (Ast.optNameSpans a4 ++ Ast.optExprSpans a5)) ⊆ L → ErrIn L (Oq3.Sema.classicalDeclarationStatementToAsgStmt fuel a0 a1 a2 a3 a4 a5)
  assignmentStmtToAsgStmt : ∀ (a0 : Ast.Span) (a1 : Option Ast.Identifier) (a2 : Option Ast.Expr) (a3 : Option Ast.IndexedIdentifier) (L : List Ast.Span), a0 :: (Ast.optIdentifierSpans a1 ++ (Ast.optExprSpans a2 ++ Ast.optIndexedIdentifierSpans a3)) ⊆ L → ErrIn L (Oq3.Sema.assignmentStmtToAsgStmt fuel a0 a1 a2 a3)
  indexedIdentifierToAsgType : ∀ (a0 : Ast.IndexedIdentifier) (L : List Ast.Span), a0.spans ⊆ L → ErrIn L (Oq3.Sema.indexedIdentifierToAsgType fuel a0)
  indexOperatorsLoop : ∀ (a0 : List Ast.IndexOperator) (L : List Ast.Span), Ast.indexOperatorsSpans a0 ⊆ L → ErrIn L (Oq3.Sema.indexOperatorsLoop fuel a0)

set_option hygiene false in
macro_rules | `(tactic| errin_ih) => `(tactic| first
  | (with_reducible apply ih.stmtToAsgStmt; span_side)
  | (with_reducible apply ih.caseExprsLoop; span_side)
  | (with_reducible apply ih.exprStmtToAsgStmt; span_side)
  | (with_reducible apply ih.modifiersLoop; span_side)
  | (with_reducible apply ih.parenExprToAsgTexpr; span_side)
  | (with_reducible apply ih.exprToAsgTexpr; span_side)
  | (with_reducible apply ih.setExpressionToAsgType; span_side)
  | (with_reducible apply ih.rangeExpressionToAsgType; span_side)
  | (with_reducible apply ih.gateCallExprToAsgStmt; span_side)
  | (with_reducible apply ih.callExprToAsgTexpr; span_side)
  | (with_reducible apply ih.gateOperandToAsgTexpr; span_side)
  | (with_reducible apply ih.indexOperatorToAsgType; span_side)
  | (with_reducible apply ih.expressionListToAsgType; span_side)
  | (with_reducible apply ih.qubitListToAsgTexpr; span_side)
  | (with_reducible apply ih.gateOperandsLoop; span_side)
  | (with_reducible apply ih.expressionListToAsgTexpr; span_side)
  | (with_reducible apply ih.exprsLoop; span_side)
  | (with_reducible apply ih.blockExprToAsgStmtList; span_side)
  | (with_reducible apply ih.stmtsLoop; span_side)
  | (with_reducible apply ih.blockExprToAsgType; span_side)
  | (with_reducible apply ih.blockOrStmtToAsgType; span_side)
  | (with_reducible apply ih.classicalDeclarationStatementToAsgStmt; span_side)
  | (with_reducible apply ih.assignmentStmtToAsgStmt; span_side)
  | (with_reducible apply ih.indexedIdentifierToAsgType; span_side)
  | (with_reducible apply ih.indexOperatorsLoop; span_side))

theorem stmtToAsgStmt_stepS {fuel : Nat} (ih : AllErrIn fuel) (a0 : Ast.Stmt) (L : List Ast.Span)
    (hL : a0.spans ⊆ L) : ErrIn L (Oq3.Sema.stmtToAsgStmt (fuel + 1) a0) := by
  unfold Oq3.Sema.stmtToAsgStmt; errin

theorem caseExprsLoop_stepS {fuel : Nat} (ih : AllErrIn fuel) (a0 : List Ast.CaseExpr) (L : List Ast.Span)
    (hL : Ast.casesSpans a0 ⊆ L) : ErrIn L (Oq3.Sema.caseExprsLoop (fuel + 1) a0) := by
  cases a0 <;> (unfold Oq3.Sema.caseExprsLoop; errin)

theorem exprStmtToAsgStmt_stepS {fuel : Nat} (ih : AllErrIn fuel) (a0 : Option Ast.Expr) (L : List Ast.Span)
    (hL : Ast.optExprSpans a0 ⊆ L) : ErrIn L (Oq3.Sema.exprStmtToAsgStmt (fuel + 1) a0) := by
  unfold Oq3.Sema.exprStmtToAsgStmt; errin

theorem modifiersLoop_stepS {fuel : Nat} (ih : AllErrIn fuel) (a0 : List Ast.Modifier) (L : List Ast.Span)
    (hL : Ast.modifiersSpans a0 ⊆ L) : ErrIn L (Oq3.Sema.modifiersLoop (fuel + 1) a0) := by
  cases a0 <;> (unfold Oq3.Sema.modifiersLoop; errin)

theorem parenExprToAsgTexpr_stepS {fuel : Nat} (ih : AllErrIn fuel) (a0 : Ast.ParenExpr) (L : List Ast.Span)
    (hL : a0.spans ⊆ L) : ErrIn L (Oq3.Sema.parenExprToAsgTexpr (fuel + 1) a0) := by
  unfold Oq3.Sema.parenExprToAsgTexpr; errin

theorem exprToAsgTexpr_stepS {fuel : Nat} (ih : AllErrIn fuel) (a0 : Option Ast.Expr) (L : List Ast.Span)
    (hL : Ast.optExprSpans a0 ⊆ L) : ErrIn L (Oq3.Sema.exprToAsgTexpr (fuel + 1) a0) := by
  unfold Oq3.Sema.exprToAsgTexpr; errin

theorem setExpressionToAsgType_stepS {fuel : Nat} (ih : AllErrIn fuel) (a0 : Ast.SetExpression) (L : List Ast.Span)
    (hL : a0.spans ⊆ L) : ErrIn L (Oq3.Sema.setExpressionToAsgType (fuel + 1) a0) := by
  unfold Oq3.Sema.setExpressionToAsgType; errin

theorem rangeExpressionToAsgType_stepS {fuel : Nat} (ih : AllErrIn fuel) (a0 : Ast.RangeExpr) (L : List Ast.Span)
    (hL : a0.spans ⊆ L) : ErrIn L (Oq3.Sema.rangeExpressionToAsgType (fuel + 1) a0) := by
  unfold Oq3.Sema.rangeExpressionToAsgType; errin

theorem gateCallExprToAsgStmt_stepS {fuel : Nat} (ih : AllErrIn fuel) (a0 : Ast.GateCallExpr) (a1 : List GateModifier) (L : List Ast.Span)
    (hL : a0.spans ⊆ L) : ErrIn L (Oq3.Sema.gateCallExprToAsgStmt (fuel + 1) a0 a1) := by
  unfold Oq3.Sema.gateCallExprToAsgStmt; errin

theorem callExprToAsgTexpr_stepS {fuel : Nat} (ih : AllErrIn fuel) (a0 : Ast.Span) (a1 : Option Ast.ArgList) (a2 : Option Ast.Identifier) (L : List Ast.Span)
    (hL : a0 :: (Ast.optArgListSpans a1 ++ Ast.optIdentifierSpans a2) ⊆ L) : ErrIn L (Oq3.Sema.callExprToAsgTexpr (fuel + 1) a0 a1 a2) := by
  unfold Oq3.Sema.callExprToAsgTexpr; errin

theorem gateOperandToAsgTexpr_stepS {fuel : Nat} (ih : AllErrIn fuel) (a0 : Ast.GateOperand) (L : List Ast.Span)
    (hL : a0.spans ⊆ L) : ErrIn L (Oq3.Sema.gateOperandToAsgTexpr (fuel + 1) a0) := by
  unfold Oq3.Sema.gateOperandToAsgTexpr; errin

theorem indexOperatorToAsgType_stepS {fuel : Nat} (ih : AllErrIn fuel) (a0 : Ast.IndexOperator) (L : List Ast.Span)
    (hL : a0.spans ⊆ L) : ErrIn L (Oq3.Sema.indexOperatorToAsgType (fuel + 1) a0) := by
  unfold Oq3.Sema.indexOperatorToAsgType; errin

theorem expressionListToAsgType_stepS {fuel : Nat} (ih : AllErrIn fuel) (a0 : Ast.ExpressionList) (L : List Ast.Span)
    (hL : a0.spans ⊆ L) : ErrIn L (Oq3.Sema.expressionListToAsgType (fuel + 1) a0) := by
  unfold Oq3.Sema.expressionListToAsgType; errin

theorem qubitListToAsgTexpr_stepS {fuel : Nat} (ih : AllErrIn fuel) (a0 : Option Ast.QubitList) (L : List Ast.Span)
    (hL : Ast.optQubitListSpans a0 ⊆ L) : ErrIn L (Oq3.Sema.qubitListToAsgTexpr (fuel + 1) a0) := by
  unfold Oq3.Sema.qubitListToAsgTexpr; errin

theorem gateOperandsLoop_stepS {fuel : Nat} (ih : AllErrIn fuel) (a0 : List Ast.GateOperand) (L : List Ast.Span)
    (hL : Ast.gateOperandsSpans a0 ⊆ L) : ErrIn L (Oq3.Sema.gateOperandsLoop (fuel + 1) a0) := by
  cases a0 <;> (unfold Oq3.Sema.gateOperandsLoop; errin)

theorem expressionListToAsgTexpr_stepS {fuel : Nat} (ih : AllErrIn fuel) (a0 : Ast.ExpressionList) (L : List Ast.Span)
    (hL : a0.spans ⊆ L) : ErrIn L (Oq3.Sema.expressionListToAsgTexpr (fuel + 1) a0) := by
  unfold Oq3.Sema.expressionListToAsgTexpr; errin

theorem exprsLoop_stepS {fuel : Nat} (ih : AllErrIn fuel) (a0 : List Ast.Expr) (L : List Ast.Span)
    (hL : Ast.exprsSpans a0 ⊆ L) : ErrIn L (Oq3.Sema.exprsLoop (fuel + 1) a0) := by
  cases a0 <;> (unfold Oq3.Sema.exprsLoop; errin)

theorem blockExprToAsgStmtList_stepS {fuel : Nat} (ih : AllErrIn fuel) (a0 : Ast.BlockExpr) (L : List Ast.Span)
    (hL : a0.spans ⊆ L) : ErrIn L (Oq3.Sema.blockExprToAsgStmtList (fuel + 1) a0) := by
  unfold Oq3.Sema.blockExprToAsgStmtList; errin

theorem stmtsLoop_stepS {fuel : Nat} (ih : AllErrIn fuel) (a0 : List Ast.Stmt) (L : List Ast.Span)
    (hL : Ast.stmtsSpans a0 ⊆ L) : ErrIn L (Oq3.Sema.stmtsLoop (fuel + 1) a0) := by
  cases a0 <;> (unfold Oq3.Sema.stmtsLoop; errin)

theorem blockExprToAsgType_stepS {fuel : Nat} (ih : AllErrIn fuel) (a0 : Ast.BlockExpr) (L : List Ast.Span)
    (hL : a0.spans ⊆ L) : ErrIn L (Oq3.Sema.blockExprToAsgType (fuel + 1) a0) := by
  unfold Oq3.Sema.blockExprToAsgType; errin

theorem blockOrStmtToAsgType_stepS {fuel : Nat} (ih : AllErrIn fuel) (a0 : Ast.BlockOrStmt) (L : List Ast.Span)
    (hL : a0.spans ⊆ L) : ErrIn L (Oq3.Sema.blockOrStmtToAsgType (fuel + 1) a0) := by
  unfold Oq3.Sema.blockOrStmtToAsgType; errin

theorem classicalDeclarationStatementToAsgStmt_stepS {fuel : Nat} (ih : AllErrIn fuel) (a0 : Ast.Span) (a1 : Bool) (a2 : Option Ast.ScalarType) (a3 : Bool) (a4 : Option Ast.Name) (a5 : Option Ast.Expr) (L : List Ast.Span)
    (hL : a0 :: (Ast.optScalarTypeSpans a2 ++ (Ast.optNameSpans a4 ++ Ast.optExprSpans a5)) ⊆ L) : ErrIn L (Oq3.Sema.classicalDeclarationStatementToAsgStmt (fuel + 1) a0 a1 a2 a3 a4 a5) := by
  unfold Oq3.Sema.classicalDeclarationStatementToAsgStmt; errin

theorem assignmentStmtToAsgStmt_stepS {fuel : Nat} (ih : AllErrIn fuel) (a0 : Ast.Span) (a1 : Option Ast.Identifier) (a2 : Option Ast.Expr) (a3 : Option Ast.IndexedIdentifier) (L : List Ast.Span)
    (hL : a0 :: (Ast.optIdentifierSpans a1 ++ (Ast.optExprSpans a2 ++ Ast.optIndexedIdentifierSpans a3)) ⊆ L) : ErrIn L (Oq3.Sema.assignmentStmtToAsgStmt (fuel + 1) a0 a1 a2 a3) := by
  unfold Oq3.Sema.assignmentStmtToAsgStmt; errin

theorem indexedIdentifierToAsgType_stepS {fuel : Nat} (ih : AllErrIn fuel) (a0 : Ast.IndexedIdentifier) (L : List Ast.Span)
    (hL : a0.spans ⊆ L) : ErrIn L (Oq3.Sema.indexedIdentifierToAsgType (fuel + 1) a0) := by
  unfold Oq3.Sema.indexedIdentifierToAsgType; errin

theorem indexOperatorsLoop_stepS {fuel : Nat} (ih : AllErrIn fuel) (a0 : List Ast.IndexOperator) (L : List Ast.Span)
    (hL : Ast.indexOperatorsSpans a0 ⊆ L) : ErrIn L (Oq3.Sema.indexOperatorsLoop (fuel + 1) a0) := by
  cases a0 <;> (unfold Oq3.Sema.indexOperatorsLoop; errin)

theorem allErrIn (fuel : Nat) : AllErrIn fuel := by
  induction fuel with
  | zero =>
    constructor
    · intros; unfold Oq3.Sema.stmtToAsgStmt; exact ErrIn.throw _
    · intros; unfold Oq3.Sema.caseExprsLoop; exact ErrIn.throw _
    · intros; unfold Oq3.Sema.exprStmtToAsgStmt; exact ErrIn.throw _
    · intros; unfold Oq3.Sema.modifiersLoop; exact ErrIn.throw _
    · intros; unfold Oq3.Sema.parenExprToAsgTexpr; exact ErrIn.throw _
    · intros; unfold Oq3.Sema.exprToAsgTexpr; exact ErrIn.throw _
    · intros; unfold Oq3.Sema.setExpressionToAsgType; exact ErrIn.throw _
    · intros; unfold Oq3.Sema.rangeExpressionToAsgType; exact ErrIn.throw _
    · intros; unfold Oq3.Sema.gateCallExprToAsgStmt; exact ErrIn.throw _
    · intros; unfold Oq3.Sema.callExprToAsgTexpr; exact ErrIn.throw _
    · intros; unfold Oq3.Sema.gateOperandToAsgTexpr; exact ErrIn.throw _
    · intros; unfold Oq3.Sema.indexOperatorToAsgType; exact ErrIn.throw _
    · intros; unfold Oq3.Sema.expressionListToAsgType; exact ErrIn.throw _
    · intros; unfold Oq3.Sema.qubitListToAsgTexpr; exact ErrIn.throw _
    · intros; unfold Oq3.Sema.gateOperandsLoop; exact ErrIn.throw _
    · intros; unfold Oq3.Sema.expressionListToAsgTexpr; exact ErrIn.throw _
    · intros; unfold Oq3.Sema.exprsLoop; exact ErrIn.throw _
    · intros; unfold Oq3.Sema.blockExprToAsgStmtList; exact ErrIn.throw _
    · intros; unfold Oq3.Sema.stmtsLoop; exact ErrIn.throw _
    · intros; unfold Oq3.Sema.blockExprToAsgType; exact ErrIn.throw _
    · intros; unfold Oq3.Sema.blockOrStmtToAsgType; exact ErrIn.throw _
    · intros; unfold Oq3.Sema.classicalDeclarationStatementToAsgStmt; exact ErrIn.throw _
    · intros; unfold Oq3.Sema.assignmentStmtToAsgStmt; exact ErrIn.throw _
    · intros; unfold Oq3.Sema.indexedIdentifierToAsgType; exact ErrIn.throw _
    · intros; unfold Oq3.Sema.indexOperatorsLoop; exact ErrIn.throw _
  | succ fuel ih =>
    constructor
    · exact stmtToAsgStmt_stepS ih
    · exact caseExprsLoop_stepS ih
    · exact exprStmtToAsgStmt_stepS ih
    · exact modifiersLoop_stepS ih
    · exact parenExprToAsgTexpr_stepS ih
    · exact exprToAsgTexpr_stepS ih
    · exact setExpressionToAsgType_stepS ih
    · exact rangeExpressionToAsgType_stepS ih
    · exact gateCallExprToAsgStmt_stepS ih
    · exact callExprToAsgTexpr_stepS ih
    · exact gateOperandToAsgTexpr_stepS ih
    · exact indexOperatorToAsgType_stepS ih
    · exact expressionListToAsgType_stepS ih
    · exact qubitListToAsgTexpr_stepS ih
    · exact gateOperandsLoop_stepS ih
    · exact expressionListToAsgTexpr_stepS ih
    · exact exprsLoop_stepS ih
    · exact blockExprToAsgStmtList_stepS ih
    · exact stmtsLoop_stepS ih
    · exact blockExprToAsgType_stepS ih
    · exact blockOrStmtToAsgType_stepS ih
    · exact classicalDeclarationStatementToAsgStmt_stepS ih
    · exact assignmentStmtToAsgStmt_stepS ih
    · exact indexedIdentifierToAsgType_stepS ih
    · exact indexOperatorsLoop_stepS ih

end Oq3.Sema
