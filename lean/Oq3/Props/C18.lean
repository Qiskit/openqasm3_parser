/-
C18 — includes act as in-place textual inclusion with ordered path search.

For arbitrary file systems, search lists, parsers:
* path resolution order (`resolve_*`, `firstHit_spec`), incl. "a given search list shadows the
  environment even when it finds nothing";
* `stdgates.inc` never touches the file system; lock-step: one parsed source per
  non-`stdgates.inc` top-level include, in order (`parseIncludedFiles_length`);
* an unreadable include is recorded with its read error, not a panic (`unreadable_recorded`; the
  model reports it on the include's path node: `Model/Includes.lean`, `syntaxToSemanticInc`);
* the gate, one direction (`analysis_skipped_iff`): a syntax diagnostic in some file of the include
  tree ⇒ the analysis is skipped (the equivalence: `Lemmas/C11StagesGate.lean`,
  `analyzeSource_none_iff`);
* an include statement without a path (`include;`, F16) is skipped by the scan
  (`include_without_path_skipped`); a file that includes itself diverges (F21: for EVERY fuel the
  model runs out of fuel — unbounded recursion).
The textual-inclusion equivalence is in `Props/C18Equiv.lean` (`inclusion_equiv`), `C18Conv.lean`
(converse, `inclusion_iff`) and `C18Panic.lean` (abnormal outcomes), over the write-only frame of
the diagnostics (`C18Frame.lean`) and fuel monotonicity (`C18Mono.lean`).
-/
import Oq3.Model.Includes

namespace Oq3.Props.C18
open Oq3.Includes
open Oq3.Sema hiding parseIncludedFiles Outcome

theorem resolve_absolute (fs : FS) (file : String) (search env : Option (List String))
    (h : isAbsolute file = true) : resolveFilePath fs file search env = file := by
  simp [resolveFilePath, h]

theorem firstHit_spec (fs : FS) (file : String) (paths : List String) (p : String) :
    firstHit fs file paths = some p ↔
      ∃ pre d post, paths = pre ++ d :: post ∧ (∀ d' ∈ pre, fs.isFile (joinPath d' file) = false) ∧
        fs.isFile (joinPath d file) = true ∧ p = joinPath d file := by
  induction paths with
  | nil => simp [firstHit]
  | cons d ds ih =>
    simp only [firstHit]
    split
    · rename_i hd
      constructor
      · intro h; simp only [Option.some.injEq] at h
        exact ⟨[], d, ds, rfl, by simp, hd, h.symm⟩
      · rintro ⟨pre, d', post, heq, hpre, hd', hp⟩
        cases pre with
        | nil => simp at heq; obtain ⟨rfl, _⟩ := heq; simp [hp]
        | cons x xs =>
          simp at heq; obtain ⟨rfl, _⟩ := heq
          have := hpre d (by simp); rw [hd] at this; simp at this
    · rename_i hd
      rw [ih]
      constructor
      · rintro ⟨pre, d', post, rfl, hpre, hd', hp⟩
        refine ⟨d :: pre, d', post, rfl, ?_, hd', hp⟩
        intro x hx
        simp only [List.mem_cons] at hx
        rcases hx with rfl | hx
        · simpa using hd
        · exact hpre x hx
      · rintro ⟨pre, d', post, heq, hpre, hd', hp⟩
        cases pre with
        | nil => simp at heq; obtain ⟨rfl, _⟩ := heq; rw [hd'] at hd; simp at hd
        | cons x xs =>
          simp at heq; obtain ⟨rfl, rfl⟩ := heq
          exact ⟨xs, d', post, rfl, fun y hy => hpre y (List.mem_cons_of_mem _ hy), hd', hp⟩

theorem firstHit_none (fs : FS) (file : String) (paths : List String) :
    firstHit fs file paths = none ↔ ∀ d ∈ paths, fs.isFile (joinPath d file) = false := by
  induction paths with
  | nil => simp [firstHit]
  | cons d ds ih =>
    simp only [firstHit]
    split
    · rename_i hd; simp [hd]
    · rename_i hd; simp [ih, hd]

/-- a relative path with a search list: the first directory of the list that has the file;
if none has it, the path as given — the environment list is NOT consulted -/
theorem resolve_search (fs : FS) (file : String) (paths : List String) (env : Option (List String))
    (h : isAbsolute file = false) :
    resolveFilePath fs file (some paths) env = (firstHit fs file paths).getD file := by
  simp [resolveFilePath, h]

theorem resolve_search_shadows_env (fs : FS) (file : String) (paths : List String)
    (env env' : Option (List String)) :
    resolveFilePath fs file (some paths) env = resolveFilePath fs file (some paths) env' := by
  unfold resolveFilePath; split <;> rfl

/-- without a search list: the first directory of the environment list; without either: as given -/
theorem resolve_env (fs : FS) (file : String) (paths : List String) (h : isAbsolute file = false) :
    resolveFilePath fs file none (some paths) = (firstHit fs file paths).getD file := by
  simp [resolveFilePath, h]

theorem resolve_none (fs : FS) (file : String) : resolveFilePath fs file none none = file := by
  unfold resolveFilePath; split <;> rfl

/-- `stdgates.inc` is provided without any file: the scan skips it without consulting the file
system -/
theorem stdgates_synthesised (fs : FS) (parse : String → Parsed) (search env : Option (List String))
    (fuel : Nat) (rest : List (Option (Option String))) :
    parseIncludedFiles fs parse search env (fuel + 1) (some (some "stdgates.inc") :: rest) =
      parseIncludedFiles fs parse search env fuel rest := by
  simp [parseIncludedFiles]

/-- the number of include statements that name a file other than the virtual `stdgates.inc`
(statements without a well-formed path name no file) -/
def nonStd (l : List (Option (Option String))) : Nat :=
  (l.filter fun x => match x with
    | some (some p) => p != "stdgates.inc"
    | _ => false).length

/-- lock-step: exactly one parsed source per non-`stdgates.inc` include, in order -/
theorem parseIncludedFiles_length (fs : FS) (parse : String → Parsed) (search env : Option (List String))
    (fuel : Nat) (incs : List (Option (Option String))) (res : List PSrc)
    (h : parseIncludedFiles fs parse search env fuel incs = .ok res) : res.length = nonStd incs := by
  induction fuel generalizing incs res with
  | zero => simp [parseIncludedFiles] at h
  | succ fuel ih =>
    cases incs with
    | nil => simp [parseIncludedFiles] at h; subst h; rfl
    | cons x rest =>
      cases x with
      | none =>
        simp only [parseIncludedFiles] at h
        have := ih rest res h
        simp [nonStd] at this ⊢; exact this
      | some y =>
        cases y with
        | none =>
          simp only [parseIncludedFiles] at h
          have := ih rest res h
          simp [nonStd] at this ⊢; exact this
        | some fp =>
          simp only [parseIncludedFiles] at h
          split at h
          · rename_i hstd
            have := ih rest res h
            simp only [beq_iff_eq] at hstd
            simp [nonStd, hstd] at this ⊢; exact this
          · rename_i hstd
            have hne : (fp != "stdgates.inc") = true := by
              simp only [beq_iff_eq] at hstd; simp [hstd]
            split at h
            · simp at h
            · rename_i src _
              split at h
              · rename_i more hm
                simp only [Except.ok.injEq] at h; subst h
                have := ih rest more hm
                simp [nonStd, hne] at this ⊢; omega
              · simp at h

/-- an include that cannot be read is recorded with its error, never a panic -/
theorem unreadable_recorded (fs : FS) (parse : String → Parsed) (search env : Option (List String))
    (fuel : Nat) (fp : String) (hstd : fp ≠ "stdgates.inc")
    (hread : ∀ c, fs.read (resolveFilePath fs fp search env) ≠ .ok c) :
    parseIncludedFiles fs parse search env (fuel + 1) [some (some fp)] =
      (if fuel = 0 then .error .fuel
       else .ok [.mk (resolveFilePath fs fp search env) none
                  (some (fs.read (resolveFilePath fs fp search env))) []]) := by
  have hb : (fp == "stdgates.inc") = false := by simp [hstd]
  simp only [parseIncludedFiles, hb]
  cases hr : fs.read (resolveFilePath fs fp search env) with
  | ok c => exact absurd hr (hread c)
  | notFound | permissionDenied | other =>
    cases fuel <;> simp [parseIncludedFiles]

/-- one direction (the name says more): a syntax diagnostic somewhere in the tree ⇒ skipped -/
theorem analysis_skipped_iff (fuel : Nat) (main : Parsed) (included : List PSrc) :
    haveSyntaxErrors (.mk "" (some main) none included) = true →
      analyzeSource fuel main included = .ok none := by
  intro h; simp [analyzeSource, h]

/-- F16: an include statement without a path — `include;`, or
`include "";` whose `""` is an empty bit string — is skipped by the include scan; the parser has
reported it, so the gate stops the analysis -/
theorem include_without_path_skipped (fs : FS) (parse : String → Parsed) (search env) (fuel : Nat)
    (rest) : parseIncludedFiles fs parse search env (fuel + 1) (none :: rest) =
      parseIncludedFiles fs parse search env fuel rest ∧
    parseIncludedFiles fs parse search env (fuel + 1) (some none :: rest) =
      parseIncludedFiles fs parse search env fuel rest := by
  constructor <;> simp [parseIncludedFiles]

/-- F21: a readable file that includes itself: the scan never terminates (in the model: it runs
out of ANY amount of fuel) -/
theorem witness_self_include_diverges (fs : FS) (parse : String → Parsed) (search env)
    (p content : String) (hstd : p ≠ "stdgates.inc")
    (hres : resolveFilePath fs p search env = p) (hread : fs.read p = .ok content)
    (hparse : ∃ ast, parse content = .clean ast ∧ includesOf (.clean ast) = [some (some p)]) :
    ∀ fuel, parseSourceAndIncludes fs parse search env fuel content = .error .fuel := by
  obtain ⟨ast, hp, hinc⟩ := hparse
  have hb : (p == "stdgates.inc") = false := by simp [hstd]
  intro fuel
  induction fuel using Nat.strongRecOn with
  | _ fuel ih =>
    match fuel with
    | 0 => simp [parseSourceAndIncludes]
    | 1 => simp [parseSourceAndIncludes, parseIncludedFiles, hp, Parsed.haveParse]
    | fuel + 2 =>
      have := ih fuel (by omega)
      simp [parseSourceAndIncludes, parseIncludedFiles, hp, Parsed.haveParse, hinc, hb, hres, hread, this]

end Oq3.Props.C18
