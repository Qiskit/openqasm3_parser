/-
C03 — totality of the semantic analysis on the ENLARGED syntactic fragment (`T2.suppStmt`,
`T2.suppTop`), with a size-based fuel bound that the model's default fuel dominates.

Inside the fragment (all purely syntactic, decidable, recursive through blocks AND expressions):

* expressions (`T2.suppE`, Props/C03Total2Expr.lean): literals incl. timing/imaginary, identifiers,
  hardware qubits, parentheses, the 14 non-panicking binary operators, unary minus, casts, indexed
  identifiers / index expressions (lists, sets, ranges), `measure`, `return [e]`, ranges — any depth;
* classical declarations `[const] ty x [= e];`, io declarations, `qubit q; qubit[n] q; qubit $k;`,
  aliases `let a = e;`;
* gate definitions; `def f(typed params) [-> ty] { … }` (definitions only — see exclusions);
* gate calls with `inv/pow/ctrl/negctrl` modifiers, `gphase(e)`, expression statements;
* `reset`, `barrier ops;`, `delay[e] ops;`, `x = e;`, `x[i] = e;`;
* `if/else`, `while`, `for ty v in {set} | [range] | e` — bodies blocks OR single statements (a
  single-statement body must not be an annotation / version line, whose translation is `None`);
* `switch (e) { case es {…} … default {…} }`;
* `break; continue; end;`, pragmas, annotations, `OPENQASM n;`, the not-implemented statement kinds
  (`defcal`, `cal`, `extern`, old-style declarations, … — a diagnostic, not a crash);
* at top level additionally `include "stdgates.inc";`.

STILL EXCLUDED, with the panic site each one can reach (cf. `C03.panic_sites`):
* subroutine CALLS `f(args)` — `call_expr_to_asg_texpr: programming error: expected Type::Def
  variant` unless the callee is, at that point, a declared subroutine (depends on the symbol table;
  F15), and `…: arg_list() is None`-type unwraps;
* designators that are identifiers or non-literal expressions — `designator_to_asg: sym.unwrap() on
  Err` / `const_value.unwrap() on None` / `unsupported designator type` (F14; depends on the table and
  on the const-value map);
* comparison `< <= > >=`, logic `&& ||`, compound assignment — `binary_op_to_asg_type: …`;
  unary `!` `~` — `expr_to_asg_texpr: unary operators other than minus …`; `-` applied to a
  non-imaginary timing literal, a bool or a bit string — `expr_to_asg_texpr: only …`;
* integer literals `≥ 2^128`, floats without value — `literal_to_asg_texpr: … is None` etc.;
* array declarations / array io / array casts / array-reference parameters without type —
  `io_declaration_statement_to_asg_stmt: array types…`, `expr_to_asg_texpr: cast.scalar_type() is
  None`, `bind_typed_parameter_list: neither …`; array / block / box expressions — `expr_to_asg_texpr:
  … not supported`;
* `barrier;` — `qubit_list_to_asg_texpr: qubit_list.unwrap() on None`; `gphase();`, `x = ();`-shaped
  trees (a mandatory child absent) — the `… unwrap() on None` sites of `stmt_to_asg_stmt`,
  `expr_stmt_to_asg_stmt`, `assignment_stmt_to_asg_stmt`;
* `if (c) ;`-shaped bodies — `true_body_block_or_stmt` / `block_or_stmt: Error in oq3_syntax`; a
  single-statement body that is an annotation or `OPENQASM` line — `block_or_stmt_to_asg_type: …
  unwrap() on None`;
* `include` other than a top-level `"stdgates.inc"` — outcome `unsupportedInclude` (no file system in
  the model) or, nested in the global scope, `stmt_to_asg_stmt: unreachable!()`.
-/
import Oq3.Props.C03Total2Stmt

namespace Oq3.Sema.T2
open Oq3 Oq3.Sema Oq3.Types Oq3.Symbols Oq3.Props

/-- statements whose translation is `None` -/
def yieldsNone : Ast.Stmt → Bool
  | .annotationStatement .. => true
  | .versionString _ => true
  | _ => false

def suppIter (it : Ast.ForIterable) : Bool :=
  match it.setExpression with
  | some se => suppSet se
  | none =>
    match it.rangeExpr with
    | some r => suppRange r
    | none => suppOptE it.forIterableExpr

mutual
def suppStmt : Ast.Stmt → Bool
  | .classicalDeclarationStatement _ false (some st) _ (some _) e => suppScalarType st && suppOptE0 e
  | .ioDeclarationStatement _ false (some st) (some _) _ => suppScalarType st
  | .quantumDeclarationStatement _ (some _) _ (some qt) => suppDesignator qt.designator
  | .quantumDeclarationStatement _ none (some _) _ => true
  | .gate _ (some _) _ (some _) b => suppOptBlock b
  | .defStmt _ (some _) (some tpl) b rs =>
    suppTypedParams tpl.typedParams && (suppOptBlock b && suppRetSig rs)
  | .exprStmt _ e => suppExprStmt e
  | .reset _ (some op) => suppOp op
  | .barrier _ (some (.mk _ ops)) => suppOps ops
  | .delayStmt _ (some (.mk _ ops)) (some (.mk _ e)) => suppOps ops && suppOptE e
  | .assignmentStmt _ (some _) rhs _ => suppOptE rhs
  | .assignmentStmt _ none rhs (some ii) => suppII ii && suppOptE rhs
  | .aliasDeclarationStatement _ (some _) e => suppOptE e
  | .ifStmt _ c t f => suppOptE c && (suppAccBos t && suppOptBos f)
  | .whileStmt _ c t => suppOptE c && suppAccBos t
  | .forStmt _ (some _) (some st) (some it) b => suppScalarType st && (suppIter it && suppAccBos b)
  | .switchCaseStmt _ c cs d => suppOptE c && (suppCases cs && suppOptBlock0 d)
  | .breakStmt _ | .continueStmt _ | .endStmt _ | .pragmaStatement .. | .annotationStatement ..
  | .versionString _ | .notImpl .. => true
  | _ => false
def suppBlock : Ast.BlockExpr → Bool
  | .mk _ ss => suppStmts ss
def suppStmts : List Ast.Stmt → Bool
  | [] => true
  | s :: ss => suppStmt s && suppStmts ss
/-- present block -/
def suppOptBlock : Option Ast.BlockExpr → Bool
  | some b => suppBlock b
  | none => false
/-- optional block -/
def suppOptBlock0 : Option Ast.BlockExpr → Bool
  | some b => suppBlock b
  | none => true
def suppBos : Ast.BlockOrStmt → Bool
  | .blockExpr b => suppBlock b
  | .stmt s => suppStmt s && !yieldsNone s
def suppAccBos : Ast.Acc Ast.BlockOrStmt → Bool
  | .ok b => suppBos b
  | .panicked => false
def suppOptBos : Option Ast.BlockOrStmt → Bool
  | none => true
  | some b => suppBos b
def suppCase : Ast.CaseExpr → Bool
  | .mk _ (some el) (some b) => suppEL el && suppBlock b
  | _ => false
def suppCases : List Ast.CaseExpr → Bool
  | [] => true
  | c :: cs => suppCase c && suppCases cs
end

/-- post-condition of a statement: never an `AnnotatedStmt`, and present unless the statement is an
annotation / version line -/
def QStmt (st : Ast.Stmt) (r : Option Stmt) : Prop :=
  NotAnn r ∧ (yieldsNone st = false → r.isSome = true)

end Oq3.Sema.T2

theorem Oq3.Sema.Succ.qStmt {st : Oq3.Ast.Stmt} {x : Oq3.Sema.M (Option Oq3.Sema.Stmt)}
    (h : Oq3.Sema.Succ Oq3.Sema.SomeNotAnn x) : Oq3.Sema.Succ (Oq3.Sema.T2.QStmt st) x :=
  h.mono (fun _ hr => ⟨hr.2, fun _ => hr.1⟩)

namespace Oq3.Sema.T2
open Oq3 Oq3.Sema Oq3.Types Oq3.Symbols Oq3.Props

structure AllS (fuel : Nat) : Prop where
  stmt : ∀ st, suppStmt st = true → 2 * st.size + 1 ≤ fuel → Succ (QStmt st) (stmtToAsgStmt fuel st)
  loop : ∀ ss, suppStmts ss = true → 2 * Ast.stmtsSize ss + 1 ≤ fuel → Succ Any (stmtsLoop fuel ss)
  list : ∀ b, suppBlock b = true → 2 * b.size + 1 ≤ fuel → Succ Any (blockExprToAsgStmtList fuel b)
  blockT : ∀ b, suppBlock b = true → 2 * b.size + 2 ≤ fuel → Succ Any (blockExprToAsgType fuel b)
  bos : ∀ b, suppBos b = true → 2 * b.size + 1 ≤ fuel → Succ Any (blockOrStmtToAsgType fuel b)
  cases : ∀ cs, suppCases cs = true → 2 * Ast.casesSize cs + 1 ≤ fuel → Succ Any (caseExprsLoop fuel cs)

attribute [simp] Ast.Stmt.size Ast.BlockExpr.size Ast.BlockOrStmt.size Ast.CaseExpr.size Ast.stmtsSize
  Ast.casesSize Ast.optBlockSize Ast.optBosSize Ast.accBosSize Ast.ForIterable.size

theorem loop_step (fuel : Nat) (ih : AllS fuel) (ss : List Ast.Stmt) (hs : suppStmts ss = true)
    (hf : 2 * Ast.stmtsSize ss + 1 ≤ fuel + 1) : Succ Any (stmtsLoop (fuel + 1) ss) := by
  cases ss with
  | nil => unfold stmtsLoop; exact Succ.pure _ trivial
  | cons s rest =>
    simp only [suppStmts, Bool.and_eq_true] at hs
    exact stmtsLoop_cons (ih.stmt s hs.1 (by fuel_ok)) (ih.loop rest hs.2 (by fuel_ok))

theorem list_step (fuel : Nat) (ih : AllS fuel) (b : Ast.BlockExpr) (hs : suppBlock b = true)
    (hf : 2 * b.size + 1 ≤ fuel + 1) : Succ Any (blockExprToAsgStmtList (fuel + 1) b) := by
  cases b with
  | mk sp ss =>
    simp only [suppBlock] at hs
    unfold blockExprToAsgStmtList
    exact ih.loop ss hs (by fuel_ok)

theorem blockT_step (fuel : Nat) (ih : AllS fuel) (b : Ast.BlockExpr) (hs : suppBlock b = true)
    (hf : 2 * b.size + 2 ≤ fuel + 1) : Succ Any (blockExprToAsgType (fuel + 1) b) := by
  unfold blockExprToAsgType
  exact Succ.bindAny (ih.list b hs (by omega)) (fun _ => Succ.pure _ trivial)

theorem bos_step (fuel : Nat) (ih : AllS fuel) (b : Ast.BlockOrStmt) (hs : suppBos b = true)
    (hf : 2 * b.size + 1 ≤ fuel + 1) : Succ Any (blockOrStmtToAsgType (fuel + 1) b) := by
  cases b with
  | blockExpr bl =>
    simp only [suppBos] at hs
    unfold blockOrStmtToAsgType
    exact ih.blockT bl hs (by fuel_ok)
  | stmt st =>
    simp only [suppBos, Bool.and_eq_true, Bool.not_eq_true'] at hs
    unfold blockOrStmtToAsgType
    dsimp only
    refine Succ.bind (ih.stmt st hs.1 (by fuel_ok)) (fun r hr => ?_)
    obtain ⟨v, rfl⟩ := Option.isSome_iff_exists.mp (hr.2 hs.2)
    refine Succ.unwrap_bind ?_
    exact Succ.pure _ trivial

theorem cases_step (fuel : Nat) (ih : AllS fuel) (cs : List Ast.CaseExpr) (hs : suppCases cs = true)
    (hf : 2 * Ast.casesSize cs + 1 ≤ fuel + 1) : Succ Any (caseExprsLoop (fuel + 1) cs) := by
  cases cs with
  | nil => unfold caseExprsLoop; exact Succ.pure _ trivial
  | cons c rest =>
    simp only [suppCases, Bool.and_eq_true] at hs
    obtain ⟨hc, hrest⟩ := hs
    unfold suppCase at hc
    split at hc
    · rename_i sp el b
      simp only [Bool.and_eq_true] at hc
      unfold caseExprsLoop
      dsimp only
      refine Succ.unwrap_bind ?_
      refine Succ.bindAny ((allE fuel).elT _ hc.1 (by fuel_ok)) (fun _ => ?_)
      refine Succ.bindAny (withScope_succ .localS _ (by decide) (?_ : Succ Any _)) (fun _ => ?_)
      · refine Succ.bind (unwrap_succ _ _) (fun k hk => ?_)
        subst hk
        exact ih.list _ hc.2 (by fuel_ok)
      exact Succ.bindAny (ih.cases rest hrest (by fuel_ok)) (fun _ => Succ.pure _ trivial)
    · simp at hc


macro "q_some" : tactic => `(tactic| exact ⟨by not_ann, fun _ => rfl⟩)

theorem notImpl_succ (node : Ast.Span) : Succ (fun r => r = some Stmt.nullStmt) (notImpl node) := by
  unfold notImpl
  exact Succ.bindAny (insertError_succ _ _) (fun _ => Succ.pure _ rfl)

theorem stmt_step (fuel : Nat) (ih : AllS fuel) (st : Ast.Stmt) (hs : suppStmt st = true)
    (hf : 2 * st.size + 1 ≤ fuel + 1) : Succ (QStmt st) (stmtToAsgStmt (fuel + 1) st) := by
  unfold suppStmt at hs
  split at hs
  · -- classical declaration
    rename_i sp st' c nm e
    simp only [Bool.and_eq_true] at hs
    obtain ⟨f, rfl⟩ : ∃ f, fuel = f + 1 := ⟨fuel - 1, by fuel_ok⟩
    refine (stmt_classicalDeclaration ?_).qStmt
    exact classicalDeclaration_step hs.1 ((allE f).opt0 e hs.2 (by fuel_ok))
  · -- io declaration
    rename_i sp st' nm inp
    unfold stmtToAsgStmt
    exact (ioDecl_succ st' nm inp hs).some.qStmt
  · exact (stmt_qubit hs).qStmt
  · exact stmt_hardwareQubit.qStmt
  · -- gate definition
    rename_i sp nm ap qp b
    cases b with
    | none => simp [suppOptBlock] at hs
    | some body =>
      simp only [suppOptBlock] at hs
      exact (stmt_gate (ih.blockT _ hs (by fuel_ok))).qStmt
  · -- def
    rename_i sp nm tpl b rs
    simp only [Bool.and_eq_true] at hs
    obtain ⟨htp, hb, hrs⟩ := hs
    cases b with
    | none => simp [suppOptBlock] at hb
    | some body =>
      simp only [suppOptBlock] at hb
      unfold stmtToAsgStmt
      dsimp only
      refine Succ.bind (unwrap_succ _ _) (fun k hk => ?_)
      subst hk
      refine Succ.bindAny (notGlobalCheck_succ _) (fun _ => ?_)
      refine Succ.bind (withScope_succ .subroutine _ (by decide)
        (?_ : Succ (fun r : Option (List SymbolIdResult) × Block => r.1.isSome = true) _)) (fun r hr => ?_)
      · refine Succ.bind (bindTypedParameterList_succ tpl htp) (fun params hp => ?_)
        refine Succ.unwrap_bind ?_
        refine Succ.bindAny (ih.blockT _ hb (by fuel_ok)) (fun _ => ?_)
        exact Succ.pure _ hp
      · obtain ⟨params, block⟩ := r
        obtain ⟨ps, rfl⟩ := Option.isSome_iff_exists.mp hr
        dsimp only
        have hjp : ∀ returnType : T, Succ SomeNotAnn (do
            let defNameSymbolId ← newBinding k.text (T.subroutine ps.length returnType) k.span
            let params ← unwrap "stmt_to_asg_stmt: Def params.unwrap() on None" (some ps)
            pure (some (Stmt.defStmt defNameSymbolId params block returnType))) := by
          intro returnType
          refine Succ.bindAny (newBinding_succ _ _ _) (fun _ => ?_)
          refine Succ.unwrap_bind ?_
          exact Succ.pure _ (by some_not_ann)
        refine Succ.qStmt ?_
        unfold suppRetSig at hrs
        split at hrs
        · exact Succ.pure_bind _ (hjp _)
        · rename_i rs'
          dsimp only
          cases hst : rs'.scalarType with
          | none => exact Succ.pure_bind _ (hjp _)
          | some st' =>
            simp only [hst] at hrs
            exact Succ.bindAny (scalarTypeToType_succ st' true hrs) (fun t => hjp t)
  · -- expression statement
    rename_i sp e
    unfold stmtToAsgStmt
    exact (exprStmt_succ e hs fuel (by fuel_ok)).qStmt
  · exact (stmt_reset ((allE fuel).op _ hs (by fuel_ok))).qStmt
  · -- barrier
    rename_i sp sq ops
    exact (stmt_barrier (qubitList_succ sq ops hs fuel (by fuel_ok))).qStmt
  · -- delay
    rename_i sp sq ops sd e
    simp only [Bool.and_eq_true] at hs
    unfold stmtToAsgStmt
    dsimp only
    refine Succ.bindAny (qubitList_succ sq ops hs.1 fuel (by fuel_ok)) (fun _ => ?_)
    refine Succ.unwrap_bind ?_
    dsimp only
    refine Succ.bindSome ((allE fuel).optE e hs.2 (by fuel_ok)) (fun t => ?_)
    refine Succ.unwrap_bind ?_
    refine Succ.bindAny (delayDurationCheck_succ _ _) (fun _ => ?_)
    exact Succ.pure _ (by q_some)
  · -- x = e;
    rename_i sp id rhs ii
    obtain ⟨f, rfl⟩ : ∃ f, fuel = f + 1 := ⟨fuel - 1, by fuel_ok⟩
    unfold stmtToAsgStmt
    exact (assignment_step ((allE f).optE rhs hs (by fuel_ok))).qStmt
  · -- x[i] = e;
    rename_i sp rhs ii
    simp only [Bool.and_eq_true] at hs
    unfold stmtToAsgStmt
    exact (assignIndexed_succ sp rhs ii hs.1 hs.2 fuel (by fuel_ok)).qStmt
  · -- let a = e;
    rename_i sp nm e
    unfold stmtToAsgStmt
    dsimp only
    refine Succ.unwrap_bind ?_
    refine Succ.bindSome ((allE fuel).optE e hs (by fuel_ok)) (fun t => ?_)
    refine Succ.unwrap_bind ?_
    refine Succ.bindAny (newBinding_succ _ _ _) (fun _ => ?_)
    exact Succ.pure _ (by q_some)
  · -- if
    rename_i sp c t f
    simp only [Bool.and_eq_true] at hs
    obtain ⟨hc, ht, hfb⟩ := hs
    cases t with
    | panicked => simp [suppAccBos] at ht
    | ok tb =>
      simp only [suppAccBos] at ht
      refine (stmt_if ((allE fuel).optE c hc (by fuel_ok))
        (ih.bos tb ht (by fuel_ok)) (fun eb he => ?_)).qStmt
      subst he
      simp only [suppOptBos] at hfb
      exact ih.bos eb hfb (by fuel_ok)
  · -- while
    rename_i sp c t
    simp only [Bool.and_eq_true] at hs
    cases t with
    | panicked => simp [suppAccBos] at hs
    | ok tb =>
      simp only [suppAccBos] at hs
      exact (stmt_while ((allE fuel).optE c hs.1 (by fuel_ok))
        (ih.bos tb hs.2 (by fuel_ok))).qStmt
  · -- for
    rename_i sp v st' it b
    simp only [Bool.and_eq_true] at hs
    obtain ⟨hst, hit, hb⟩ := hs
    cases b with
    | panicked => simp [suppAccBos] at hb
    | ok body =>
      simp only [suppAccBos] at hb
      unfold stmtToAsgStmt
      dsimp only
      refine Succ.unwrap_bind ?_
      refine Succ.unwrap_bind ?_
      refine Succ.bindAny (scalarTypeToType_succ _ false hst) (fun ty => ?_)
      refine Succ.bind (unwrap_succ _ _) (fun it' hk => ?_)
      subst hk
      -- whatever the iterable: the loop variable, then the body
      have hloop : ∀ iterable : ForIterable, Succ (QStmt (.forStmt sp (some v) (some st') (some it') (.ok body))) (do
          let iterable ← pure iterable
          let (loopVarSymbolId, loopBody) ← withScope .localS do
            let loopVarSymbolId ← newBinding v.text ty v.span
            let body ← pure body
            let loopBody ← blockOrStmtToAsgType fuel body
            pure (loopVarSymbolId, loopBody)
          pure (some (.forStmt loopVarSymbolId iterable loopBody))) := by
        intro iterable
        refine Succ.pure_bind _ ?_
        refine Succ.bindAny (withScope_succ .localS _ (by decide) (?_ : Succ Any _)) (fun _ => ?_)
        · refine Succ.bindAny (newBinding_succ _ _ _) (fun _ => ?_)
          refine Succ.pure_bind _ ?_
          exact Succ.bindAny (ih.bos body hb (by fuel_ok)) (fun _ => Succ.pure _ trivial)
        exact Succ.pure _ (by q_some)
      unfold suppIter at hit
      cases hse : it'.setExpression with
      | some se =>
        simp only [hse] at hit
        simp only [Ast.Stmt.size, Ast.ForIterable.size, hse] at hf
        dsimp only
        exact Succ.bindAny ((allE fuel).set se hit (by fuel_ok)) (fun _ => hloop _)
      | none =>
        simp only [hse] at hit
        cases hre : it'.rangeExpr with
        | some re =>
          simp only [hre] at hit
          simp only [Ast.Stmt.size, Ast.ForIterable.size, hse, hre] at hf
          dsimp only
          exact Succ.bindAny ((allE fuel).range re hit (by fuel_ok)) (fun _ => hloop _)
        | none =>
          simp only [hre] at hit
          obtain ⟨ex, hex, hexs⟩ := suppOptE_some hit
          simp only [Ast.Stmt.size, Ast.ForIterable.size, hse, hre, hex] at hf
          simp only [hex]
          refine Succ.bindSome ((allE fuel).expr ex hexs (by fuel_ok)) (fun t => ?_)
          exact Succ.unwrap_bind (hloop _)
  · -- switch
    rename_i sp c cs d
    simp only [Bool.and_eq_true] at hs
    obtain ⟨hc, hcs, hd⟩ := hs
    unfold stmtToAsgStmt
    dsimp only
    refine Succ.bindSome ((allE fuel).optE c hc (by fuel_ok)) (fun ctl => ?_)
    refine Succ.bindAny (ih.cases cs hcs (by fuel_ok)) (fun _ => ?_)
    refine Succ.bindAny (withScope_succ .localS _ (by decide) (?_ : Succ Any _)) (fun _ => ?_)
    · cases d with
      | none => exact Succ.pure _ trivial
      | some bl =>
        simp only [suppOptBlock0] at hd
        dsimp only
        exact Succ.bindAny (ih.list bl hd (by fuel_ok)) (fun _ => Succ.pure _ trivial)
    refine Succ.unwrap_bind ?_
    exact Succ.pure _ (by q_some)
  · unfold stmtToAsgStmt; exact Succ.pure _ (by q_some)
  · unfold stmtToAsgStmt; exact Succ.pure _ (by q_some)
  · unfold stmtToAsgStmt; exact Succ.pure _ (by q_some)
  · unfold stmtToAsgStmt; exact Succ.pure _ (by q_some)
  · -- annotation
    unfold stmtToAsgStmt
    dsimp only
    refine Succ.bindAny (pushAnnotation_succ _) (fun _ => ?_)
    exact Succ.pure _ ⟨by not_ann, fun h => by simp [yieldsNone] at h⟩
  · -- OPENQASM n;
    unfold stmtToAsgStmt
    dsimp only
    refine Succ.bindAny (insertError_succ _ _) (fun _ => ?_)
    exact Succ.pure _ ⟨by not_ann, fun h => by simp [yieldsNone] at h⟩
  · -- not-implemented statement kinds
    unfold stmtToAsgStmt
    dsimp only
    exact (notImpl_succ _).mono (fun r hr => by subst hr; exact ⟨by not_ann, fun _ => rfl⟩)
  · simp at hs

theorem allS (fuel : Nat) : AllS fuel := by
  induction fuel with
  | zero => refine ⟨?_, ?_, ?_, ?_, ?_, ?_⟩ <;> (intros; omega)
  | succ fuel ih =>
    exact ⟨stmt_step fuel ih, loop_step fuel ih, list_step fuel ih, blockT_step fuel ih,
      bos_step fuel ih, cases_step fuel ih⟩


/-- `include "stdgates.inc";` -/
def isStdInclude : Ast.Stmt → Bool
  | .includeStmt _ (some fp) => fp.toString? == some "stdgates.inc"
  | _ => false

def suppTop (st : Ast.Stmt) : Bool := suppStmt st || isStdInclude st

theorem suppStmt_include (sp : Ast.Span) (f : Option Ast.FilePath) :
    suppStmt (.includeStmt sp f) = false := by
  unfold suppStmt; rfl

theorem isStdInclude_spec {st : Ast.Stmt} (h : isStdInclude st = true) :
    ∃ sp fp, st = .includeStmt sp (some fp) ∧ fp.toString? = some "stdgates.inc" := by
  unfold isStdInclude at h
  split at h
  · exact ⟨_, _, rfl, by simpa using h⟩
  · simp at h

theorem topLoop_succ (ss : List Ast.Stmt) (h : ∀ s ∈ ss, suppTop s = true) (fuel : Nat)
    (hf : 2 * Ast.stmtsSize ss + 1 ≤ fuel) : Succ Any (syntaxToSemanticLoop fuel ss) := by
  induction ss generalizing fuel with
  | nil =>
    obtain ⟨f, rfl⟩ : ∃ f, fuel = f + 1 := ⟨fuel - 1, by omega⟩
    unfold syntaxToSemanticLoop; exact Succ.pure _ trivial
  | cons st rest ih =>
    obtain ⟨f, rfl⟩ : ∃ f, fuel = f + 1 := ⟨fuel - 1, by omega⟩
    simp only [Ast.stmtsSize] at hf
    obtain ⟨htop, hr⟩ := List.forall_mem_cons.mp h
    have hrest := ih hr f (by omega)
    cases hinc : isStdInclude st with
    | false =>
      have hs : suppStmt st = true := by simpa [suppTop, hinc] using htop
      refine syntaxToSemanticLoop_cons (fun sp fp he => ?_)
        (((allS f).stmt st hs (by omega)).mono (fun _ hq => hq.1)) hrest
      subst he
      simp [suppStmt_include] at hs
    | true =>
      obtain ⟨sp, fp, rfl, hts⟩ := isStdInclude_spec hinc
      unfold syntaxToSemanticLoop
      dsimp only
      refine Succ.unwrap_bind ?_
      rw [hts]
      refine Succ.unwrap_bind ?_
      simp only [beq_self_eq_true, if_true]
      exact Succ.bindAny (standardLibraryGates_succ _) (fun _ => hrest)

def fuelFor2 (p : Ast.Program) : Nat := 2 * p.size

theorem fuelFor2_le_default (p : Ast.Program) : fuelFor2 p ≤ defaultFuel p := by
  unfold fuelFor2 defaultFuel; omega

end Oq3.Sema.T2

namespace Oq3.Props.C03
open Oq3 Oq3.Sema Oq3.Sema.T2 Oq3.Types Oq3.Symbols

/-- **C03 on the enlarged fragment**: a program whose top-level statements are all in `T2.suppTop`
is analysed without panic, for every fuel from `fuelFor2 p = 2 * p.size` on -/
theorem sema_total_partial2 (p : Ast.Program) (h : ∀ s ∈ p.statements, T2.suppTop s = true)
    (fuel : Nat) (hf : T2.fuelFor2 p ≤ fuel) : ∃ c, analyzeWith fuel p = .ok c := by
  have hfuel : 2 * Ast.stmtsSize p.statements + 1 ≤ fuel := by
    unfold T2.fuelFor2 Ast.Program.size at hf; omega
  refine analyzeWith_ok (parseIncludedFiles_false _ (fun sp fp hm => ?_) _)
    (T2.topLoop_succ p.statements h fuel hfuel)
  have hi := h _ hm
  simp only [T2.suppTop, T2.suppStmt_include, Bool.false_or] at hi
  obtain ⟨_, f, he, hts⟩ := T2.isStdInclude_spec hi
  cases he
  exact ⟨f, rfl, hts⟩

/-- **with the model's default fuel, no fuel hypothesis at all** -/
theorem sema_total_partial2_default (p : Ast.Program) (h : ∀ s ∈ p.statements, T2.suppTop s = true) :
    ∃ c, analyze p = .ok c :=
  sema_total_partial2 p h _ (T2.fuelFor2_le_default p)


/-! ### non-vacuity: a closed program that uses what the first fragment excluded -/

/-- ```
include "stdgates.inc";
qubit[2] q;
int[8] x = (1 + 2) * -3;
float[32] y = float[32](x) / 2.5;
def f(int[8] a) -> int[8] { return a + 1; }
for int i in [0:2] x = x + i;
while (x != 0) x = x - 1;
if (x == 1) h q[0]; else { ctrl @ x q[0], q[1]; }
switch (x) { case 1, 2 { reset q; } default { barrier q; } }
delay[3ns] q;
let r = q[1];
```
(ranges elided) -/
def exampleProgram2 : Ast.Program :=
  let sp : Ast.Span := ⟨0, 0⟩
  let lit (t : String) (v : Nat) : Ast.Expr := .literal ⟨sp, .intNumber t (some v)⟩
  let idn (n : String) : Ast.Identifier := ⟨sp, n⟩
  let idE (n : String) : Ast.Expr := .identifier (idn n)
  let bin (op : Ast.BinaryOp) (a b : Ast.Expr) : Ast.Expr := .binExpr sp (some op) (some a) (some b)
  let ty (k : Ast.ScalarTypeKind) (w : String) (n : Nat) : Ast.ScalarType :=
    .mk sp k (some (.mk sp (some (lit w n)))) none
  let qix (i : Nat) : Ast.GateOperand :=
    .indexedIdentifier (.mk sp (some (idn "q")) [.mk sp (some (.expressionList (.mk sp [lit (toString i) i])))])
  let call (g : String) (ops : List Ast.GateOperand) : Ast.GateCallExpr :=
    .mk sp (some (.mk sp ops)) none (some (idn g))
  let assign (x : String) (e : Ast.Expr) : Ast.Stmt := .assignmentStmt sp (some (idn x)) (some e) none
  ⟨sp,
   [.includeStmt sp (some ⟨sp, some "stdgates.inc"⟩),
    .quantumDeclarationStatement sp (some ⟨sp, "q"⟩) none (some ⟨sp, some (.mk sp (some (lit "2" 2)))⟩),
    .classicalDeclarationStatement sp false (some (ty .int "8" 8)) false (some ⟨sp, "x"⟩)
      (some (bin (.arithOp .mul) (.parenExpr (.mk sp (some (bin (.arithOp .add) (lit "1" 1) (lit "2" 2)))))
        (.prefixExpr sp (some .neg) (some (lit "3" 3))))),
    .classicalDeclarationStatement sp false (some (ty .float "32" 32)) false (some ⟨sp, "y"⟩)
      (some (bin (.arithOp .div) (.castExpression sp (some (ty .float "32" 32)) (some (idE "x")))
        (.literal ⟨sp, .floatNumber "2.5" (some "2.5")⟩))),
    .defStmt sp (some ⟨sp, "f"⟩)
      (some ⟨sp, [⟨sp, some (.scalarType (ty .int "8" 8)), false, some ⟨sp, "a"⟩⟩]⟩)
      (some (.mk sp [.exprStmt sp (some (.returnExpr sp (some (bin (.arithOp .add) (idE "a") (lit "1" 1)))))]))
      (some ⟨sp, some (ty .int "8" 8)⟩),
    .forStmt sp (some ⟨sp, "i"⟩) (some (.mk sp .int none none))
      (some ⟨sp, none, some (.mk sp (some (lit "0" 0)) none (some (lit "2" 2))),
        some (.rangeExpr (.mk sp (some (lit "0" 0)) none (some (lit "2" 2))))⟩)
      (.ok (.stmt (assign "x" (.parenExpr (.mk sp (some (bin (.arithOp .add) (idE "x") (idE "i")))))))),
    .whileStmt sp (some (bin (.cmpOp (.eq true)) (idE "x") (lit "0" 0)))
      (.ok (.stmt (assign "x" (.parenExpr (.mk sp (some (bin (.arithOp .sub) (idE "x") (lit "1" 1)))))))),
    .ifStmt sp (some (bin (.cmpOp (.eq false)) (idE "x") (lit "1" 1)))
      (.ok (.stmt (.exprStmt sp (some (.gateCallExpr (call "h" [qix 0]))))))
      (some (.blockExpr (.mk sp [.exprStmt sp (some (.modifiedGateCallExpr sp [.ctrlModifier sp none]
        (some (call "x" [qix 0, qix 1])) none))]))),
    .switchCaseStmt sp (some (idE "x"))
      [.mk sp (some (.mk sp [lit "1" 1, lit "2" 2]))
        (some (.mk sp [.reset sp (some (.identifier (idn "q")))]))]
      (some (.mk sp [.barrier sp (some (.mk sp [.identifier (idn "q")]))])),
    .delayStmt sp (some (.mk sp [.identifier (idn "q")]))
      (some (.mk sp (some (.timingLiteral sp (some .nanoSecond) (some "ns") (some ⟨sp, .intNumber "3" (some 3)⟩))))),
    .aliasDeclarationStatement sp (some ⟨sp, "r"⟩)
      (some (.indexedIdentifier (.mk sp (some (idn "q")) [.mk sp (some (.expressionList (.mk sp [lit "1" 1])))])))]⟩

theorem example2_in_fragment : exampleProgram2.statements.all T2.suppTop = true := by decide +kernel

/-- the theorem applies: the default-fuel analysis returns -/
theorem example2_analyzes : ∃ c, analyze exampleProgram2 = .ok c :=
  sema_total_partial2_default exampleProgram2
    (fun s hs => List.all_eq_true.mp example2_in_fragment s hs)

/-- independently, the kernel evaluates the run: it returns, with the scope stack balanced -/
theorem example2_runs :
    (match analyze exampleProgram2 with
     | .ok c => some c.symbolTable.stack.length
     | .error _ => none) = some 1 := by
  decide +kernel

end Oq3.Props.C03
