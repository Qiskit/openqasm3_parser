/-
C18 — the diagnostics list is WRITE-ONLY for the semantic pass.

`ErrFrame x`: running `x` from a context `c` is running it from `c` with the diagnostics erased and
then putting `c`'s diagnostics back in front (`x c = lift c.semanticErrors (x (eraseErrs c))`).
It holds for every primitive of `SemaCtx.lean` (`insertError` is the only writer, nothing reads
`semanticErrors`), is closed under `>>=`, and is pushed through the twenty-five functions of the
mutual block of `Sema.lean` by `Closed.all` (`Lemmas/SemaClosed.lean`).
`ErrFrame.two_runs` is the relational (two-run) reading; `transport`, `errs_append`, `transport_err`
are its three uses.

The namespace `Oq3.C18E` (E for the equivalence of inclusion and splicing) holds this file and
`C18MonoErr`, `C18Mono`, `C18Equiv`, `C18Conv`, `C18Panic`; `Oq3.Props.C18` is `Props/C18.lean`.
-/
import Oq3.Lemmas.SemaClosed

namespace Oq3.C18E
open Oq3 Oq3.Types Oq3.Symbols Oq3.Sema

def eraseErrs (c : Ctx) : Ctx := { c with semanticErrors := [] }

def withErrs (es : List SemErr) (c : Ctx) : Ctx := { c with semanticErrors := es ++ c.semanticErrors }

def lift {α} (es : List SemErr) : Except Outcome (α × Ctx) → Except Outcome (α × Ctx)
  | .ok (a, c) => .ok (a, withErrs es c)
  | .error e => .error e

@[simp] theorem eraseErrs_withErrs (es : List SemErr) (c : Ctx) : eraseErrs (withErrs es c) = eraseErrs c := rfl
@[simp] theorem eraseErrs_eraseErrs (c : Ctx) : eraseErrs (eraseErrs c) = eraseErrs c := rfl
@[simp] theorem withErrs_withErrs (a b : List SemErr) (c : Ctx) :
    withErrs a (withErrs b c) = withErrs (a ++ b) c := by
  simp [withErrs, List.append_assoc]
@[simp] theorem withErrs_eraseErrs (c : Ctx) : withErrs c.semanticErrors (eraseErrs c) = c := by
  cases c; simp [withErrs, eraseErrs]
@[simp] theorem withErrs_errs (es : List SemErr) (c : Ctx) :
    (withErrs es c).semanticErrors = es ++ c.semanticErrors := rfl
@[simp] theorem eraseErrs_errs (c : Ctx) : (eraseErrs c).semanticErrors = [] := rfl
theorem withErrs_nil (c : Ctx) : withErrs [] c = c := by cases c; simp [withErrs]

theorem lift_lift {α} (a b : List SemErr) (r : Except Outcome (α × Ctx)) :
    lift a (lift b r) = lift (a ++ b) r := by
  cases r with
  | error e => rfl
  | ok p => obtain ⟨x, c⟩ := p; simp [lift]

/-- `x` neither reads the diagnostics nor does anything to them but append -/
structure ErrFrame {α} (x : M α) : Prop where
  run : ∀ c, x c = lift c.semanticErrors (x (eraseErrs c))

/-- `>>=` on results -/
def bindRes {α β} (r : Except Outcome (α × Ctx)) (f : α → M β) : Except Outcome (β × Ctx) :=
  match r with
  | .ok (a, c) => f a c
  | .error e => .error e

theorem bind_run {α β} (x : M α) (f : α → M β) (c : Ctx) : (x >>= f) c = bindRes (x c) f := by
  show StateT.bind x f c = _
  unfold StateT.bind bindRes
  simp only [bind, Except.bind]
  cases x c with
  | error e => rfl
  | ok p => rfl

theorem pure_run {α} (a : α) (c : Ctx) : (Pure.pure a : M α) c = .ok (a, c) := rfl
theorem get_run (c : Ctx) : (get : M Ctx) c = .ok (c, c) := rfl
theorem set_run (s c : Ctx) : (set s : M PUnit) c = .ok (⟨⟩, s) := rfl
theorem modify_run (f : Ctx → Ctx) (c : Ctx) : (modify f : M PUnit) c = .ok (⟨⟩, f c) := rfl
theorem fail_run {α} (site : String) (c : Ctx) : (Sema.fail site : M α) c = .error (.panic site) := rfl
theorem throw_run {α} (o : Outcome) (c : Ctx) : (throw o : M α) c = .error o := rfl

theorem ErrFrame.pure {α} (a : α) : ErrFrame (Pure.pure a : M α) :=
  ⟨fun c => by simp [pure_run, lift]⟩

theorem ErrFrame.fail {α} (site : String) : ErrFrame (Sema.fail site : M α) := ⟨fun _ => rfl⟩

theorem ErrFrame.throw {α} (o : Outcome) : ErrFrame (throw o : M α) := ⟨fun _ => rfl⟩

theorem ErrFrame.bind {α β} {x : M α} {f : α → M β} (hx : ErrFrame x) (hf : ∀ a, ErrFrame (f a)) :
    ErrFrame (x >>= f) := by
  refine ⟨fun c => ?_⟩
  rw [bind_run, bind_run, hx.run c]
  cases x (eraseErrs c) with
  | error e => rfl
  | ok p =>
    obtain ⟨a, c1⟩ := p
    simp only [lift, bindRes]
    rw [(hf a).run (withErrs c.semanticErrors c1), (hf a).run c1]
    simp only [eraseErrs_withErrs, withErrs_errs]
    cases f a (eraseErrs c1) with
    | error e => rfl
    | ok q => obtain ⟨b, c2⟩ := q; simp [lift]

theorem ErrFrame.unwrap {α} (site : String) (o : Option α) : ErrFrame (Sema.unwrap site o) := by
  cases o with
  | none => exact ErrFrame.fail _
  | some a => exact ErrFrame.pure a

theorem ErrFrame.insertError (k : SemanticErrorKind) (node : Ast.Span) :
    ErrFrame (Sema.insertError k node) :=
  ⟨fun c => by simp [Sema.insertError, modify_run, lift, withErrs, eraseErrs]⟩

/-- a computation whose outcome and state change are functions of the erased context -/
theorem ErrFrame.of_erased {α} {x : M α}
    (h : ∀ c, x c = match x (eraseErrs c) with
      | .ok (a, c1) => .ok (a, { c1 with semanticErrors := c.semanticErrors ++ c1.semanticErrors })
      | .error e => .error e) : ErrFrame x :=
  ⟨fun c => by rw [h c]; cases x (eraseErrs c) with
    | error e => rfl
    | ok p => rfl⟩

theorem ErrFrame.symStep (site : String) (op : Op) : ErrFrame (Sema.symStep site op) := by
  refine ⟨fun c => ?_⟩
  simp only [Sema.symStep, bind_run, get_run, bindRes]
  show _ = lift _ (match ((eraseErrs c).symbolTable.step op).2 with | _ => _)
  have : (eraseErrs c).symbolTable = c.symbolTable := rfl
  cases h : (c.symbolTable.step op).2 <;>
    simp [h, fail_run, set_run, pure_run, bind_run, bindRes, lift, withErrs, eraseErrs]

theorem ErrFrame.currentScopeType : ErrFrame Sema.currentScopeType := by
  refine ⟨fun c => ?_⟩
  simp only [Sema.currentScopeType, bind_run, get_run, bindRes]
  have : (eraseErrs c).symbolTable = c.symbolTable := rfl
  rw [this]
  cases c.symbolTable.stack <;> simp [fail_run, pure_run, lift]

theorem ErrFrame.insertConstValue (id : Nat) (v : TExpr) : ErrFrame (Sema.insertConstValue id v) :=
  ⟨fun c => by simp [Sema.insertConstValue, modify_run, lift, withErrs, eraseErrs]⟩

theorem ErrFrame.getConstValue (id : Nat) : ErrFrame (Sema.getConstValue id) :=
  ⟨fun c => by
    simp only [Sema.getConstValue, bind_run, get_run, bindRes, pure_run, lift]
    cases c; simp [eraseErrs, withErrs]⟩

theorem ErrFrame.pushAnnotation (a : String) : ErrFrame (Sema.pushAnnotation a) :=
  ⟨fun c => by simp [Sema.pushAnnotation, modify_run, lift, withErrs, eraseErrs]⟩

theorem ErrFrame.annotationsIsEmpty : ErrFrame Sema.annotationsIsEmpty :=
  ⟨fun c => by
    simp only [Sema.annotationsIsEmpty, bind_run, get_run, bindRes, pure_run, lift]
    cases c; simp [eraseErrs, withErrs]⟩

theorem ErrFrame.takeAnnotations : ErrFrame Sema.takeAnnotations :=
  ⟨fun c => by
    simp only [Sema.takeAnnotations, bind_run, get_run, set_run, bindRes, pure_run, lift]
    simp [eraseErrs, withErrs]⟩

theorem ErrFrame.insertStmt (s : Stmt) : ErrFrame (Sema.insertStmt s) :=
  ⟨fun c => by simp [Sema.insertStmt, modify_run, lift, withErrs, eraseErrs]⟩

theorem ErrFrame.redeclLoop (node : Ast.Span) (ns : List String) : ErrFrame (Sema.redeclLoop node ns) := by
  induction ns with
  | nil => exact ErrFrame.pure _
  | cons n ns ih =>
    unfold Sema.redeclLoop
    exact ErrFrame.bind (ErrFrame.insertError _ _) (fun _ => ih)

attribute [local irreducible] SymTab.standardLibraryGates in
theorem ErrFrame.standardLibraryGates (node : Ast.Span) : ErrFrame (Sema.standardLibraryGates node) := by
  refine ⟨fun c => ?_⟩
  simp only [Sema.standardLibraryGates, bind_run, get_run, set_run, bindRes]
  have h := (ErrFrame.redeclLoop node (c.symbolTable.standardLibraryGates).2).run
    { c with symbolTable := (c.symbolTable.standardLibraryGates).1 }
  exact h

theorem ErrFrame.enterScope (k : ScopeType) : ErrFrame (Sema.enterScope k) :=
  ErrFrame.bind (ErrFrame.symStep _ _) fun _ => ErrFrame.pure _

theorem ErrFrame.exitScope  : ErrFrame (Sema.exitScope ) :=
  ErrFrame.bind (ErrFrame.symStep _ _) fun _ => ErrFrame.pure _

theorem ErrFrame.closed : ClosedTop @ErrFrame where
  toClosed := .of_symStep ErrFrame.pure ErrFrame.bind (fun site _ => ErrFrame.fail site)
    (ErrFrame.throw _) ErrFrame.insertError (fun site op _ => ErrFrame.symStep site op)
    ErrFrame.currentScopeType ErrFrame.insertConstValue ErrFrame.getConstValue ErrFrame.pushAnnotation
  unsupportedInclude := ErrFrame.throw _
  annotationsIsEmpty := ErrFrame.annotationsIsEmpty
  takeAnnotations := ErrFrame.takeAnnotations
  insertStmt := ErrFrame.insertStmt
  standardLibraryGates := ErrFrame.standardLibraryGates

theorem allFrame (fuel : Nat) : All @ErrFrame fuel := ErrFrame.closed.all fuel

/-- **the relational (two-run) reading.**  Two contexts that differ only in their diagnostics:
same outcome; on success the same result, final contexts that again differ only in their
diagnostics, and ONE list of new diagnostics appended in both runs; on failure the same failure. -/
theorem ErrFrame.two_runs {α} {x : M α} (hx : ErrFrame x) (c d : Ctx) (h : eraseErrs c = eraseErrs d) :
    (∀ a c', x c = .ok (a, c') → ∃ d' n, x d = .ok (a, d') ∧ eraseErrs c' = eraseErrs d' ∧
      c'.semanticErrors = c.semanticErrors ++ n ∧ d'.semanticErrors = d.semanticErrors ++ n) ∧
    (∀ o, x c = .error o → x d = .error o) := by
  rw [hx.run c, hx.run d, h]
  cases x (eraseErrs d) with
  | error e => exact ⟨fun _ _ hh => (by cases hh), fun o hh => hh⟩
  | ok p =>
    obtain ⟨a, e'⟩ := p
    refine ⟨fun a' c' hh => ?_, fun o hh => (by cases hh)⟩
    simp only [lift, Except.ok.injEq, Prod.mk.injEq] at hh
    obtain ⟨rfl, rfl⟩ := hh
    exact ⟨_, e'.semanticErrors, rfl, rfl, rfl, rfl⟩

theorem ctx_eq_of_fields {a b : Ctx} (h1 : eraseErrs a = eraseErrs b)
    (h2 : a.semanticErrors = b.semanticErrors) : a = b := by
  cases a; cases b
  simp only [eraseErrs, Ctx.mk.injEq] at h1
  simp only at h2
  simp [h1, h2]

theorem ctx_errs_self (c : Ctx) : ({ c with semanticErrors := c.semanticErrors ++ [] } : Ctx) = c := by
  cases c; simp

theorem ctx_split {a b : Ctx} {x y : List SemErr}
    (h : ({ a with semanticErrors := x } : Ctx) = { b with semanticErrors := y }) :
    eraseErrs a = eraseErrs b ∧ x = y :=
  ⟨(congrArg eraseErrs h :), (congrArg Ctx.semanticErrors h :)⟩

/-- the same run from a context `d` that differs from `c` only in its diagnostics: the same result,
the same final context up to diagnostics, the same new diagnostics `n` -/
theorem ErrFrame.transport {α} {x : M α} (hx : ErrFrame x) {c c' d : Ctx} {a : α}
    (h : x c = .ok (a, c')) (hd : eraseErrs d = eraseErrs c) :
    ∃ n, c'.semanticErrors = c.semanticErrors ++ n ∧
      x d = .ok (a, { c' with semanticErrors := d.semanticErrors ++ n }) := by
  obtain ⟨d', n, h1, h2, h3, h4⟩ := (hx.two_runs c d hd.symm).1 a c' h
  rw [h1, ctx_eq_of_fields (b := { c' with semanticErrors := d.semanticErrors ++ n }) h2.symm h4]
  exact ⟨n, h3, rfl⟩

theorem ErrFrame.errs_append {α} {x : M α} (hx : ErrFrame x) {c c' : Ctx} {a : α}
    (h : x c = .ok (a, c')) : ∃ n, c'.semanticErrors = c.semanticErrors ++ n :=
  (hx.transport h rfl).imp fun _ h => h.1

theorem ErrFrame.transport_err {α} {x : M α} (hx : ErrFrame x) {c d : Ctx} {o : Outcome}
    (h : x c = .error o) (hd : eraseErrs d = eraseErrs c) : x d = .error o :=
  (hx.two_runs c d hd.symm).2 o h

/-- the two-run statement for the statement function (likewise for the other twenty-four:
`((allFrame fuel).f args).two_runs`) -/
theorem stmtToAsgStmt_two_runs (fuel : Nat) (st : Ast.Stmt) (c d : Ctx)
    (h : eraseErrs c = eraseErrs d) :
    (∀ a c', Sema.stmtToAsgStmt fuel st c = .ok (a, c') → ∃ d' n,
      Sema.stmtToAsgStmt fuel st d = .ok (a, d') ∧ eraseErrs c' = eraseErrs d' ∧
      c'.semanticErrors = c.semanticErrors ++ n ∧ d'.semanticErrors = d.semanticErrors ++ n) ∧
    (∀ o, Sema.stmtToAsgStmt fuel st c = .error o → Sema.stmtToAsgStmt fuel st d = .error o) :=
  ((allFrame fuel).stmtToAsgStmt st).two_runs c d h

theorem stmtToAsgStmt_errFrame (fuel : Nat) (st : Ast.Stmt) : ErrFrame (Sema.stmtToAsgStmt fuel st) :=
  (allFrame fuel).stmtToAsgStmt st

theorem syntaxToSemanticLoop_errFrame (fuel : Nat) (ss : List Ast.Stmt) :
    ErrFrame (Sema.syntaxToSemanticLoop fuel ss) :=
  ErrFrame.closed.syntaxToSemanticLoop fuel ss

end Oq3.C18E
