/-
C03, totality — one step of the functions of the mutual block that both fragments
(`Props/C03Total.lean`, `Props/C03Total2.lean`) reach: the function at `fuel + 1`, on one syntactic
form, succeeds when its calls at `fuel` succeed.  No fuel bound occurs here, and a fragment predicate only
where the form has a part that is not translated by a call (`suppScalarType`, `suppDesignator`: the written
type of a declaration): each fragment's induction supplies the success of the calls from its own bound.
At the end: the top-level loop, the include scan and `analyzeWith` from the success of the loop.
-/
import Oq3.Props.C03TotalExpr

namespace Oq3.Sema
open Oq3.Types Oq3.Symbols Oq3.Props

/-- the result of a statement is never an `AnnotatedStmt` (needed by the top-level loop) -/
def NotAnn (r : Option Stmt) : Prop := ∀ st anns, r ≠ some (Stmt.annotatedStmt st anns)

/-- present and not annotated: the result of every statement but an annotation / version line -/
def SomeNotAnn (r : Option Stmt) : Prop := r.isSome = true ∧ NotAnn r

theorem Succ.notAnn {x : M (Option Stmt)} (h : Succ SomeNotAnn x) : Succ NotAnn x :=
  h.mono (fun _ hr => hr.2)

macro "not_ann" : tactic => `(tactic| (intro _ _ h; simp at h))

macro "some_not_ann" : tactic => `(tactic| exact ⟨rfl, by not_ann⟩)

theorem Succ.some {x : M Stmt} (h : Succ NotAnnS x) :
    Succ SomeNotAnn (do let s ← x; Pure.pure (some s)) :=
  Succ.bind h (fun _ hr => Succ.pure _ ⟨rfl, fun s a h => hr s a (by simpa using h)⟩)

theorem exprToAsgTexpr_none (fuel : Nat) : Succ Any (exprToAsgTexpr (fuel + 1) none) := by
  unfold exprToAsgTexpr; exact Succ.pure _ trivial

theorem exprsLoop_cons {fuel : Nat} {x : Ast.Expr} {rest : List Ast.Expr} {Q : Option TExpr → Prop}
    (hx : Succ Q (exprToAsgTexpr fuel (some x))) (hr : Succ Any (exprsLoop fuel rest)) :
    Succ Any (exprsLoop (fuel + 1) (x :: rest)) := by
  unfold exprsLoop
  refine Succ.bind hx (fun t _ => Succ.bindAny hr (fun _ => ?_))
  cases t <;> exact Succ.pure _ trivial

theorem indexOperator_list {fuel : Nat} {sp : Ast.Span} {el : Ast.ExpressionList}
    (h : Succ Any (expressionListToAsgType fuel el)) :
    Succ Any (indexOperatorToAsgType (fuel + 1) (.mk sp (some (.expressionList el)))) := by
  unfold indexOperatorToAsgType
  dsimp only
  refine Succ.unwrap_bind ?_
  dsimp only
  exact Succ.bindAny h (fun _ => Succ.pure _ trivial)

theorem indexOperatorsLoop_cons {fuel : Nat} {ix : Ast.IndexOperator} {rest : List Ast.IndexOperator}
    (hx : Succ Any (indexOperatorToAsgType fuel ix)) (hr : Succ Any (indexOperatorsLoop fuel rest)) :
    Succ Any (indexOperatorsLoop (fuel + 1) (ix :: rest)) := by
  unfold indexOperatorsLoop
  exact Succ.bindAny hx (fun _ => Succ.bindAny hr (fun _ => Succ.pure _ trivial))

theorem indexedIdentifier_step {fuel : Nat} {sp : Ast.Span} {i : Ast.Identifier}
    {ixs : List Ast.IndexOperator} (h : Succ Any (indexOperatorsLoop fuel ixs)) :
    Succ Any (indexedIdentifierToAsgType (fuel + 1) (.mk sp (some i) ixs)) := by
  unfold indexedIdentifierToAsgType
  dsimp only
  refine Succ.unwrap_bind ?_
  refine Succ.bindAny (lookupSymbol_succ _ _) (fun _ => ?_)
  exact Succ.bindAny h (fun _ => Succ.pure _ trivial)

/-- a gate operand: only an indexed identifier makes a call -/
theorem gateOperand_step {fuel : Nat} {op : Ast.GateOperand}
    (h : ∀ ii, op = .indexedIdentifier ii → Succ Any (indexedIdentifierToAsgType fuel ii)) :
    Succ Any (gateOperandToAsgTexpr (fuel + 1) op) := by
  unfold gateOperandToAsgTexpr
  cases op with
  | hardwareQubit hw => exact Succ.pure _ trivial
  | identifier i =>
    dsimp only
    refine Succ.bindAny (lookupIdentifier_succ _) (fun _ => ?_)
    exact Succ.bindAny (gateOperandIdentCheck_succ _ _) (fun _ => Succ.pure _ trivial)
  | indexedIdentifier ii =>
    dsimp only
    refine Succ.bindAny (h ii rfl) (fun _ => ?_)
    exact Succ.bindAny (gateOperandIndexedCheck_succ _ _) (fun _ => Succ.pure _ trivial)

theorem gateOperandsLoop_cons {fuel : Nat} {o : Ast.GateOperand} {rest : List Ast.GateOperand}
    (ho : Succ Any (gateOperandToAsgTexpr fuel o)) (hr : Succ Any (gateOperandsLoop fuel rest)) :
    Succ Any (gateOperandsLoop (fuel + 1) (o :: rest)) := by
  unfold gateOperandsLoop
  exact Succ.bindAny ho (fun _ => Succ.bindAny hr (fun _ => Succ.pure _ trivial))

theorem qubitList_step {fuel : Nat} {sp : Ast.Span} {ops : List Ast.GateOperand}
    (h : Succ Any (gateOperandsLoop fuel ops)) :
    Succ Any (qubitListToAsgTexpr (fuel + 1) (some (.mk sp ops))) := by
  unfold qubitListToAsgTexpr
  exact Succ.unwrap_bind h

theorem exprToAsgTexpr_measure {fuel : Nat} {sp : Ast.Span} {op : Ast.GateOperand}
    (h : Succ Any (gateOperandToAsgTexpr fuel op)) :
    Succ IsSome (exprToAsgTexpr (fuel + 1) (some (.measureExpression sp (some op)))) := by
  unfold exprToAsgTexpr
  dsimp only
  refine Succ.unwrap_bind ?_
  exact Succ.bindAny h (fun _ => Succ.pure _ rfl)

/-- a gate call with qubit list and callee name: the argument list is absent, or has an expression
list; any callee, declared or not (the arity block is total then, `gateCallCheck_succ`) -/
theorem gateCall_step {fuel : Nat} {span : Ast.Span} {ql : Ast.QubitList} {al : Option Ast.ArgList}
    {id : Ast.Identifier} {mods : List GateModifier}
    (hq : Succ Any (qubitListToAsgTexpr fuel (some ql)))
    (ha : al = none ∨ ∃ sa el, al = some (.mk sa (some el)) ∧ Succ Any (expressionListToAsgTexpr fuel el)) :
    Succ SomeNotAnn (gateCallExprToAsgStmt (fuel + 1) (.mk span (some ql) al (some id)) mods) := by
  unfold gateCallExprToAsgStmt
  dsimp only
  refine Succ.bindAny hq (fun gateOperands => ?_)
  have tail : ∀ paramList : Option (List TExpr), (paramList.isSome → al.isSome) → Succ SomeNotAnn (do
      let gateId ← unwrap "gate_call_expr_to_asg_stmt: identifier() is None" (some id)
      let (symbolResult, gateType) ← lookupGateSymbol gateId.text gateId.span
      gateCallCheck span (some ql) al gateId symbolResult gateType
        (match paramList with | some ps => ps.length | none => 0) gateOperands.length
      pure (some (.gateCall symbolResult paramList gateOperands mods))) := by
    intro paramList hp
    refine Succ.unwrap_bind ?_
    refine Succ.bindAny (lookupGateSymbol_succ _ _) (fun r => ?_)
    refine Succ.bindAny (gateCallCheck_succ _ _ _ _ _ _ _ _ ?_) (fun _ => Succ.pure _ (by some_not_ann))
    cases paramList <;> simp_all
  obtain rfl | ⟨sa, el, rfl, hel⟩ := ha
  · exact Succ.pure_bind _ (tail none (by simp))
  · dsimp only
    refine Succ.unwrap_bind ?_
    exact Succ.bindAny hel (fun paramList => Succ.pure_bind _ (tail (some paramList) (by simp)))

theorem exprStmt_expr {fuel : Nat} {e : Ast.Expr} (he : Succ IsSome (exprToAsgTexpr fuel (some e)))
    (h1 : ∀ gc, e ≠ .gateCallExpr gc) (h2 : ∀ sp ms gc gp, e ≠ .modifiedGateCallExpr sp ms gc gp)
    (h3 : ∀ sp a, e ≠ .gPhaseCallExpr (.mk sp a)) :
    Succ SomeNotAnn (exprStmtToAsgStmt (fuel + 1) (some e)) := by
  have hgen : Succ SomeNotAnn (do
      match ← exprToAsgTexpr fuel (some e) with
      | none => fail "expr_stmt_to_asg_stmt: expr::ExprStmt is None"
      | some ex => pure (some (.exprStmt ex))) := by
    refine Succ.bindSome he (fun t => ?_)
    exact Succ.pure _ (by some_not_ann)
  unfold exprStmtToAsgStmt
  dsimp only
  cases e <;> first
    | exact hgen
    | exact absurd rfl (h1 _)
    | exact absurd rfl (h2 _ _ _ _)
    | (rename_i g; cases g; exact absurd rfl (h3 _ _))

theorem classicalDeclaration_step {fuel : Nat} {span : Ast.Span} {st : Ast.ScalarType} {c : Bool}
    {name : Ast.Name} {e : Option Ast.Expr} {Q : Option TExpr → Prop}
    (hst : suppScalarType st = true) (he : Succ Q (exprToAsgTexpr fuel e)) :
    Succ NotAnnS (classicalDeclarationStatementToAsgStmt (fuel + 1) span false (some st) c (some name) e) := by
  unfold classicalDeclarationStatementToAsgStmt
  simp only [Bool.false_eq_true, if_false]
  refine Succ.unwrap_bind ?_
  refine Succ.bindAny (scalarTypeToType_succ _ c hst) (fun lhsType => ?_)
  refine Succ.unwrap_bind ?_
  refine Succ.bind he (fun initializer _ => ?_)
  refine Succ.bindAny (newBinding_succ _ _ _) (fun symbolId => ?_)
  cases initializer with
  | none => exact declareClassicalHelper_succ' _ _
  | some init =>
    dsimp only
    refine Succ.ite _ (Succ.pure _ (by intro _ _ h; cases h)) ?_
    split
    · refine Succ.ite _ (declareClassicalHelper_succ' _ _) ?_
      exact Succ.bindAny (insertError_succ _ _) (fun _ => declareClassicalHelper_succ' _ _)
    · refine Succ.ite _ (declareClassicalHelper_succ' _ _) ?_
      exact Succ.ite _ (Succ.bindAny (insertError_succ _ _) (fun _ => declareClassicalHelper_succ' _ _))
        (declareClassicalHelper_succ' _ _)

theorem assignment_step {fuel : Nat} {span : Ast.Span} {id : Ast.Identifier} {rhs : Option Ast.Expr}
    {ii : Option Ast.IndexedIdentifier} (he : Succ IsSome (exprToAsgTexpr fuel rhs)) :
    Succ SomeNotAnn (assignmentStmtToAsgStmt (fuel + 1) span (some id) rhs ii) := by
  unfold assignmentStmtToAsgStmt
  dsimp only
  refine Succ.bindSome he (fun t => ?_)
  refine Succ.unwrap_bind ?_
  refine Succ.bindAny (lookupSymbol_succ _ _) (fun r => ?_)
  -- every branch of the cast block ends in the same two lines, after at most one diagnostic
  have tail : ∀ expr : TExpr, Succ SomeNotAnn (do
      let expr ← pure expr
      mutateConstCheck r.fst.isOk r.snd span
      pure (some (Stmt.assignment (LValue.identifier r.fst) expr))) := fun _ =>
    Succ.pure_bind _ (Succ.bindAny (mutateConstCheck_succ _ _ _) (fun _ => Succ.pure _ (by some_not_ann)))
  have err : ∀ (k : SemanticErrorKind) (expr : TExpr), Succ SomeNotAnn (do
      insertError k span
      let expr ← pure expr
      mutateConstCheck r.fst.isOk r.snd span
      pure (some (Stmt.assignment (LValue.identifier r.fst) expr))) := fun _ _ =>
    Succ.bindAny (insertError_succ _ _) (fun _ => tail _)
  refine Succ.ite _ (Succ.ite _ (err _ _) ?_) (tail _)
  split
  · split
    · exact Succ.ite _ (tail _) (err _ _)
    · exact tail _
  · exact Succ.ite _ (tail _) (err _ _)

theorem stmt_classicalDeclaration {fuel : Nat} {span : Ast.Span} {a c : Bool}
    {st : Option Ast.ScalarType} {name : Option Ast.Name} {e : Option Ast.Expr}
    (h : Succ NotAnnS (classicalDeclarationStatementToAsgStmt fuel span a st c name e)) :
    Succ SomeNotAnn (stmtToAsgStmt (fuel + 1) (.classicalDeclarationStatement span a st c name e)) := by
  unfold stmtToAsgStmt
  exact h.some

theorem stmt_qubit {fuel : Nat} {sp : Ast.Span} {name : Ast.Name} {hw : Option Ast.HardwareQubit}
    {qt : Ast.QubitType} (h : suppDesignator qt.designator = true) :
    Succ SomeNotAnn (stmtToAsgStmt (fuel + 1) (.quantumDeclarationStatement sp (some name) hw (some qt))) := by
  unfold stmtToAsgStmt
  dsimp only
  refine Succ.bindAny (notGlobalCheck_succ _) (fun _ => ?_)
  refine Succ.unwrap_bind ?_
  refine Succ.bindAny (designatorToAsg_succ _ h) (fun w => ?_)
  refine Succ.bindAny (newBinding_succ _ _ _) (fun _ => ?_)
  exact Succ.pure _ (by some_not_ann)

theorem stmt_hardwareQubit {fuel : Nat} {sp : Ast.Span} {hw : Ast.HardwareQubit}
    {qt : Option Ast.QubitType} :
    Succ SomeNotAnn (stmtToAsgStmt (fuel + 1) (.quantumDeclarationStatement sp none (some hw) qt)) := by
  unfold stmtToAsgStmt
  dsimp only
  refine Succ.bindAny (notGlobalCheck_succ _) (fun _ => ?_)
  refine Succ.unwrap_bind ?_
  exact Succ.pure _ (by some_not_ann)

theorem stmt_gate {fuel : Nat} {sp : Ast.Span} {name : Ast.Name} {ap : Option Ast.ParamList}
    {qp : Ast.ParamList} {body : Ast.BlockExpr} (h : Succ Any (blockExprToAsgType fuel body)) :
    Succ SomeNotAnn (stmtToAsgStmt (fuel + 1) (.gate sp (some name) ap (some qp) (some body))) := by
  unfold stmtToAsgStmt
  dsimp only
  refine Succ.bindAny (gateNotGlobalCheck_succ _) (fun _ => ?_)
  refine Succ.unwrap_bind ?_
  refine Succ.bindAny (withScope_succ .subroutine _ (by decide) (?_ : Succ Any _)) (fun r => ?_)
  · refine Succ.bindAny (bindParameterList_succ ap _) (fun params => ?_)
    refine Succ.bind (bindParameterList_succ' (some qp) _) (fun qubits hq => ?_)
    obtain ⟨qs, rfl⟩ := Option.isSome_iff_exists.mp (by simpa using hq)
    refine Succ.unwrap_bind ?_
    refine Succ.unwrap_bind ?_
    exact Succ.bindAny h (fun _ => Succ.pure _ trivial)
  · obtain ⟨params, qubits, block⟩ := r
    dsimp only
    refine Succ.bindAny (newBinding_succ _ _ _) (fun _ => ?_)
    exact Succ.pure _ (by some_not_ann)

theorem stmt_reset {fuel : Nat} {sp : Ast.Span} {op : Ast.GateOperand}
    (h : Succ Any (gateOperandToAsgTexpr fuel op)) :
    Succ SomeNotAnn (stmtToAsgStmt (fuel + 1) (.reset sp (some op))) := by
  unfold stmtToAsgStmt
  dsimp only
  refine Succ.unwrap_bind ?_
  exact Succ.bindAny h (fun _ => Succ.pure _ (by some_not_ann))

theorem stmt_barrier {fuel : Nat} {sp : Ast.Span} {ql : Option Ast.QubitList}
    (h : Succ Any (qubitListToAsgTexpr fuel ql)) :
    Succ SomeNotAnn (stmtToAsgStmt (fuel + 1) (.barrier sp ql)) := by
  unfold stmtToAsgStmt
  dsimp only
  exact Succ.bindAny h (fun _ => Succ.pure _ (by some_not_ann))

theorem stmt_if {fuel : Nat} {sp : Ast.Span} {c : Option Ast.Expr} {tb : Ast.BlockOrStmt}
    {f : Option Ast.BlockOrStmt} (hc : Succ IsSome (exprToAsgTexpr fuel c))
    (ht : Succ Any (blockOrStmtToAsgType fuel tb))
    (hf : ∀ eb, f = some eb → Succ Any (blockOrStmtToAsgType fuel eb)) :
    Succ SomeNotAnn (stmtToAsgStmt (fuel + 1) (.ifStmt sp c (.ok tb) f)) := by
  unfold stmtToAsgStmt
  dsimp only
  refine Succ.bindSome hc (fun cond => ?_)
  refine Succ.bindAny (withScope_succ .localS _ (by decide) (Succ.pure_bind _ ht)) (fun thenBranch => ?_)
  refine Succ.bindAny (withScope_succ .localS _ (by decide) (?_ : Succ Any _)) (fun elseBranch => ?_)
  · cases f with
    | none => exact Succ.pure _ trivial
    | some eb => exact Succ.bindAny (hf eb rfl) (fun _ => Succ.pure _ trivial)
  refine Succ.unwrap_bind ?_
  exact Succ.pure _ (by some_not_ann)

theorem stmt_while {fuel : Nat} {sp : Ast.Span} {c : Option Ast.Expr} {tb : Ast.BlockOrStmt}
    (hc : Succ IsSome (exprToAsgTexpr fuel c)) (ht : Succ Any (blockOrStmtToAsgType fuel tb)) :
    Succ SomeNotAnn (stmtToAsgStmt (fuel + 1) (.whileStmt sp c (.ok tb))) := by
  unfold stmtToAsgStmt
  dsimp only
  refine Succ.bindSome hc (fun cond => ?_)
  refine Succ.bindAny (withScope_succ .localS _ (by decide) (Succ.pure_bind _ ht)) (fun body => ?_)
  refine Succ.unwrap_bind ?_
  exact Succ.pure _ (by some_not_ann)

theorem stmtsLoop_cons {fuel : Nat} {s : Ast.Stmt} {rest : List Ast.Stmt} {Q : Option Stmt → Prop}
    (hs : Succ Q (stmtToAsgStmt fuel s)) (hr : Succ Any (stmtsLoop fuel rest)) :
    Succ Any (stmtsLoop (fuel + 1) (s :: rest)) := by
  unfold stmtsLoop
  refine Succ.bind hs (fun r _ => Succ.bindAny hr (fun _ => ?_))
  cases r <;> exact Succ.pure _ trivial

theorem topTail_succ {fuel : Nat} {rest : List Ast.Stmt} (hrest : Succ Any (syntaxToSemanticLoop fuel rest))
    (r : Option Stmt) (hr : NotAnn r) : Succ Any (do
      match r with
      | some stmt =>
        if ← annotationsIsEmpty then insertStmt stmt
        else
          match stmt with
          | .annotatedStmt .. => fail "AnnotatedStmt::new: annotation of annotated statement is not allowed"
          | _ => insertStmt (.annotatedStmt stmt (← takeAnnotations))
      | none => pure ()
      syntaxToSemanticLoop fuel rest) := by
  cases r with
  | none => exact Succ.pure_bind _ hrest
  | some stmt =>
    dsimp only
    refine Succ.bindAny annotationsIsEmpty_succ (fun b => ?_)
    cases b
    · simp only [Bool.false_eq_true, if_false]
      cases stmt <;> first
        | (exact absurd rfl (hr _ _))
        | exact Succ.bindAny takeAnnotations_succ (fun _ => Succ.bindAny (insertStmt_succ _) (fun _ => hrest))
    · simp only [if_true]
      exact Succ.bindAny (insertStmt_succ _) (fun _ => hrest)

theorem syntaxToSemanticLoop_cons {fuel : Nat} {st : Ast.Stmt} {rest : List Ast.Stmt}
    (hinc : ∀ sp f, st ≠ .includeStmt sp f) (hst : Succ NotAnn (stmtToAsgStmt fuel st))
    (hrest : Succ Any (syntaxToSemanticLoop fuel rest)) :
    Succ Any (syntaxToSemanticLoop (fuel + 1) (st :: rest)) := by
  unfold syntaxToSemanticLoop
  cases st <;> first
    | exact absurd rfl (hinc _ _)
    | exact Succ.bind hst (topTail_succ hrest)

theorem parseIncludedFiles_false (ss : List Ast.Stmt)
    (h : ∀ sp fp, .includeStmt sp fp ∈ ss → ∃ f, fp = some f ∧ f.toString? = some "stdgates.inc")
    (s : Ctx) : parseIncludedFiles ss s = .ok (false, s) := by
  induction ss with
  | nil => rfl
  | cons st rest ih =>
    have hr := ih (fun sp fp hm => h sp fp (List.mem_cons_of_mem _ hm))
    cases st
    case includeStmt sp fp =>
      obtain ⟨f, rfl, hts⟩ := h sp fp List.mem_cons_self
      unfold parseIncludedFiles
      simp only [hts]
      rw [bind_eq_of_ok hr]
      rfl
    all_goals (unfold parseIncludedFiles; exact hr)

theorem analyzeWith_ok {fuel : Nat} {p : Ast.Program}
    (hinc : parseIncludedFiles p.statements {} = .ok (false, {}))
    (h : Succ Any (syntaxToSemanticLoop fuel p.statements)) : ∃ c, analyzeWith fuel p = .ok c := by
  obtain ⟨u, c, hrun, _, _⟩ := h {} C19.inv_init
  exact ⟨c, analyzeWith_ok_iff.mpr ⟨hinc, hrun⟩⟩

end Oq3.Sema
