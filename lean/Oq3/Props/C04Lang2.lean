/-
C04 — the EXTENDED recursive reference language is accepted with zero diagnostics, by INDUCTION over the
language (programs of arbitrary size and nesting depth).  Extends `Props/C04Lang.lean`.

LANGUAGE (`Oq3.LangEv2.X`, `Lemmas/LangEv2.lean`; `Oq3.LangEv2.Stmt2` / `Stmts2`, `Lemmas/LangEv2S.lean`), over token kinds:
  X (expressions): primaries with any number of postfix operators, 19 binary and 3 prefix operators, arbitrary depth
    primaries  P ::= x | 1 | 1.0 | "01" | true | false | 10ns / 2im (number + identifier) | $0 | (X) | ty(X) | ty[X](X)
                   | measure q | measure $0 | measure q[I]…[I] | x[I]…[I]  (indexed identifier)
                   | P(X, …, X)  (call, possibly no arguments) | P[I]  (index expression; P a parenthesis, cast, call or index expression)
    index items I ::= X, … , X:X, … , X:X:X  (one or more, comma separated)
  S ::= [const] ty x ; | [const] ty[X] x ; | [const] ty x = X ; | [const] ty[X] x = X ;   (ty ∈ int uint float angle bit bool)
      | input ty[X]? x ; | output ty[X]? x ; | qubit q ; | qubit[X] q ; | qreg q[I] ; | creg c[I] ;
      | let x = X ;                    (LET_STMT in blocks and after the first non-item statement; ALIAS_DECLARATION_STATEMENT in the item run of the top level)
      | x = X ; | x[I]…[I] = X ;       | X ;
      | g Q, …, Q ; | g(X, …) Q, …, Q ;   | M … M g[(X, …)] Q, …, Q ;   | gphase X ; | M … M gphase X ;
            Q ::= q | $0 | q[I]…[I]      M ::= inv @ | pow(X) @ | ctrl @ | ctrl(X) @ | negctrl @ | negctrl(X) @
      | reset Q ; | barrier Q, …, Q ; | delay[X] Q, …, Q ; | break ; | continue ; | end ; | return ; | return X ;
      | pragma line | annotation line | include "f" ; | OPENQASM 3.0 ; | extern f(ty, …) -> ty ;
      | if (X) B | if (X) B else B  (`else if` chains: B a single `if`) | while (X) B | for ty[X]? x in IT B
            B ::= { S* } | S (a brace-less single statement)      IT ::= [X:X] | [X:X:X] | {I} | X
      | switch (X) { case I { S* } … default { S* } }   | { S* }  (bare block)
      | gate g q, … { S* } | gate g(p, …) q, … { S* } | def f(pty x, …) [-> ty] { S* } | cal { S* }

THEOREMS.
* `exprX_okF` (`Lemmas/LangEv2Expr.lean`): `expr_bp` parses the print of every canonical `X` with exactly the events `evsX x`,
  for every fuel ≥ `fuelX x`, from every state — by mutual induction over `X` / primaries / argument, item and index lists.
* `stmt_ok2` / `stmts_ok2` (`Lemmas/LangEv2Prog.lean`; statement lemmas in `LangEv2Stmt`, `LangEv2Flat`, `LangEv2Ctl`): every
  well-formed statement / statement list is accepted by `stmt` / the statement loop from any ready state, with exactly the
  events `evsS2` / `evsL2`.
* `program_accepted`: for every well-formed program `p` (`WFTop`) and every `fuel ≥ needL2 p + 3`, `parseSourceFile` on the
  print of `p` returns the events `evsP2 p` and has consumed every token; `evsP2 p` contains no `Error` event.
* `program_cst` (`Lemmas/LangEv2Process.lean`): `process (evsP2 p) = some (nodesP2 p)`, the pre-order node sequence of the
  derivation — including the forward-parent chains of postfix operators.

WELL-FORMEDNESS (`WFTop` → `WFL2` → `WFS2`, `Lemmas/LangEv2Prog.lean`, `LangEv2Top.lean`) — the side conditions the grammar needs:
* every expression is canonical for the operator table (`CanonX`, minimal parentheses), at level 1; the right-hand side of an
  assignment at level 12 (F06);
* index items do not start with `~` or `measure` (`_param_list_openqasm`: "expected value parameter", `~` / `measure` are
  missing from `PARAM_FIRST`); a designator `[w]` does not start with a float / bit-string literal ("Literal type designator
  must be an integer" — conservative: the parser only rejects a single literal) and only on types that take one;
  an index expression `P[I]` only on parentheses, casts, calls, index expressions (on identifiers the brackets belong to the
  INDEXED_IDENTIFIER; on literals / hardware qubits "Indexing into literal is not allowed"; after `measure q` they belong to the qubit);
* an expression statement / `return` value does not start with a type keyword (`stmt` parses `int(x);` as a declaration: error);
* F09e: a statement that ENDS (through brace-less bodies) with an assignment is not followed by a statement starting with `-`;
* F09d / F09f: a bare block is not the last statement of a block (`stmt` wraps it into an EXPR_STMT only if the next token is not
  `}`: the tree would depend on the context) — and, by construction, not followed by `;`;
* dangling else: the `then` branch of an `if … else` does not end with an `if` without `else`; a brace-less body is not a bare block;
* `for`: an expression as iterable needs a block as body (the token after the expression must end it);
* `switch`: at least one `case` or a `default` ("expecting `case` or `default` keyword");
* top level (`WFTop`): `let` is an alias declaration in the run of statements that `item` dispatches itself and a LET_STMT from the
  first statement on that `item` hands to the statement loop (and in blocks) — `Stmt2.alias` / `Stmt2.letS`.
START STATE: `RdyF 9`: no-progress hook off, protected positions below `events.size`, `steps + 9 ≤ stepLimit` and `8 ≤ stepLimit` (the parser's
limit is 15 000 000; between two bumps the grammar calls `Parser::nth` a bounded number of times).

NOT IN THE LANGUAGE (with the reason):
* `defcal`, `defcalgrammar`, array types / array literals, `complex`, `duration` / `stretch` types, `box`: not attempted;
  `cal { … }` only with OpenQASM statements inside (the real grammar of calibration blocks is opaque to this parser);
* `barrier ;` without operands, `g() q;` with an empty argument list, `qubit $0;`, `extern f -> ty;` without parentheses: accepted by the
  grammar, not included; `qreg q;` without size: "Expected index operator";
* empty statements `;`: F09a (`item` reports "expected statement, found `;`" at the top level);
* `measure q -> c;`, `c = measure q;` is covered (assignment with a `measure` expression).
-/
import Oq3.Lemmas.LangEv2Top
import Oq3.Lemmas.LangEv2Process
import Oq3.Props.C04Lang

set_option linter.unusedSimpArgs false
set_option linter.unusedVariables false
namespace Oq3.Props.C04Lang2
open Oq3.Gen Oq3.Parser Oq3.Grammar Oq3.PrattEv Oq3.LangEv Oq3.LangEv2
open Oq3.Props.C04Lang (kindsOf jointOf Toks_of_get)
open Oq3.Props.C05Events (errorFree errorFree_append)

mutual
theorem bodyX_errorFree : ∀ (x : X) (fp : Option Nat), errorFree (bodyX x fp) = true
  | .prim p, fp => by simp [bodyX, bodyP_errorFree p fp]
  | .bin o l r, fp => by simp [bodyX, errorFree, errorFree_append, bodyX_errorFree l, bodyX_errorFree r]
  | .pre o e, fp => by simp [bodyX, errorFree, errorFree_append, bodyX_errorFree e]
theorem bodyP_errorFree : ∀ (p : Prim) (fp : Option Nat), errorFree (bodyP p fp) = true
  | .id, _ => rfl
  | .lit _, _ => rfl
  | .timing _, _ => rfl
  | .hw, _ => rfl
  | .measureE, _ => rfl
  | .measureHw, _ => rfl
  | .measureIdx ixs, _ => by simp [bodyP, errorFree, errorFree_append, evsIdx_errorFree ixs]
  | .paren e, _ => by simp [bodyP, errorFree, errorFree_append, bodyX_errorFree e]
  | .cast0 _ e, _ => by simp [bodyP, errorFree, errorFree_append, bodyX_errorFree e]
  | .castW _ w e, _ => by simp [bodyP, errorFree, errorFree_append, bodyX_errorFree e, bodyX_errorFree w]
  | .idIdx ixs, _ => by simp [bodyP, errorFree, errorFree_append, evsIdx_errorFree ixs]
  | .call p args, _ => by simp [bodyP, errorFree, errorFree_append, bodyP_errorFree p, evsXs_errorFree args]
  | .index p items, _ => by simp [bodyP, errorFree, errorFree_append, bodyP_errorFree p, evsItems_errorFree items]
theorem evsXs_errorFree : ∀ xs : XList, errorFree (evsXs xs) = true
  | .nil => rfl
  | .cons x .nil => by simp [evsXs, errorFree, bodyX_errorFree x]
  | .cons x (.cons y ys) => by simp [evsXs, errorFree, errorFree_append, bodyX_errorFree x, evsXs_errorFree (.cons y ys)]
theorem evsItem_errorFree : ∀ i : LangEv2.Item, errorFree (evsItem i) = true
  | .ex x => by simp [evsItem, errorFree, bodyX_errorFree x]
  | .r2 lo hi => by simp [evsItem, errorFree, errorFree_append, bodyX_errorFree lo, bodyX_errorFree hi]
  | .r3 lo mid hi => by simp [evsItem, errorFree, errorFree_append, bodyX_errorFree lo, bodyX_errorFree mid, bodyX_errorFree hi]
theorem evsItems_errorFree : ∀ is : ItemList, errorFree (evsItems is) = true
  | .one i => by simp [evsItems, evsItem_errorFree i]
  | .cons i is => by simp [evsItems, errorFree, errorFree_append, evsItem_errorFree i, evsItems_errorFree is]
theorem evsIdx_errorFree : ∀ ixs : IdxList, errorFree (evsIdx ixs) = true
  | .one is => by simp [evsIdx, errorFree, errorFree_append, evsItems_errorFree is]
  | .cons is rest => by simp [evsIdx, errorFree, errorFree_append, evsItems_errorFree is, evsIdx_errorFree rest]
end

theorem evsX_errorFree (x : X) : errorFree (evsX x) = true := by simp [evsX, errorFree, bodyX_errorFree]


theorem evsQ_errorFree : ∀ q : Q, errorFree (evsQ q) = true
  | .id => rfl
  | .hw => rfl
  | .idx ixs => by simp [evsQ, errorFree, errorFree_append, evsIdx_errorFree]

theorem evsQs_errorFree : ∀ qs : QList, errorFree (evsQs qs) = true
  | .one q => by simp [evsQs, evsQ_errorFree]
  | .cons q qs => by simp [evsQs, errorFree, errorFree_append, evsQ_errorFree, evsQs_errorFree qs]

theorem evsMod_errorFree (m : Mod) : errorFree (evsMod m) = true := by
  cases m with
  | inv => rfl
  | pow e => simp [evsMod, parenEvs, errorFree, errorFree_append, evsX_errorFree]
  | ctrl e => cases e <;> simp [evsMod, parenEvs, errorFree, errorFree_append, evsX_errorFree]
  | negctrl e => cases e <;> simp [evsMod, parenEvs, errorFree, errorFree_append, evsX_errorFree]

theorem evsMods_errorFree : ∀ ms : List Mod, errorFree (evsMods ms) = true
  | [] => rfl
  | m :: ms => by simp [evsMods, errorFree_append, evsMod_errorFree, evsMods_errorFree ms]

theorem tyEvsX_errorFree (ty : Ty) (w : Option X) : errorFree (tyEvsX ty w) = true := by
  cases w <;> simp [tyEvsX, errorFree, errorFree_append, evsX_errorFree]

theorem argListEvs_errorFree (args : XList) : errorFree (argListEvs args) = true := by
  cases args <;> simp [argListEvs, errorFree, errorFree_append, evsXs_errorFree]

theorem iterEvs_errorFree (it : Iter) : errorFree (iterEvs it) = true := by
  cases it <;> simp [iterEvs, errorFree, errorFree_append, evsX_errorFree, evsItems_errorFree]

theorem tyListEvs_errorFree : ∀ ts : List Ty, errorFree (tyListEvs ts) = true
  | [] => rfl
  | [t] => rfl
  | t :: u :: us => by simp [tyListEvs, errorFree, tyListEvs_errorFree (u :: us)]

open Oq3.Props.C04Lang (paramEvs_errorFree typedEvs_errorFree retEvs_errorFree)

mutual
theorem evsS2_errorFree : ∀ st : Stmt2, errorFree (evsS2 st) = true
  | .decl cst ty w none => by cases cst <;> simp [evsS2, nameEvs, errorFree, errorFree_append, tyEvsX_errorFree]
  | .decl cst ty w (some e) => by cases cst <;> simp [evsS2, nameEvs, errorFree, errorFree_append, tyEvsX_errorFree, evsX_errorFree]
  | .io out ty w => by simp [evsS2, nameEvs, errorFree, errorFree_append, tyEvsX_errorFree]
  | .qubit none => rfl
  | .qubit (some w) => by simp [evsS2, desigEvs, nameEvs, errorFree, errorFree_append, evsX_errorFree]
  | .oldReg c items => by simp [evsS2, errorFree, errorFree_append, evsItems_errorFree]
  | .letS e => by simp [evsS2, errorFree, errorFree_append, evsX_errorFree]
  | .alias e => by simp [evsS2, nameEvs, errorFree, errorFree_append, evsX_errorFree]
  | .assign ixs rhs => by simp [evsS2, errorFree, errorFree_append, evsX_errorFree, bodyP_errorFree]
  | .exprS x => by simp [evsS2, errorFree, errorFree_append, bodyX_errorFree, exprStmtTail]
  | .gate .nil qs => by
    simp [evsS2, wrapStmt, gateCallInner, qlistEvs, argListEvs, tombLink, exprStmtTail, errorFree, errorFree_append, evsQs_errorFree]
  | .gate (.cons a as) qs => by
    simp [evsS2, qlistEvs, tombLink, exprStmtTail, errorFree, errorFree_append, evsQs_errorFree, argListEvs_errorFree]
  | .modGate m ms args qs => by
    simp [evsS2, wrapStmt, gateCallInner, qlistEvs, tombLink, exprStmtTail, errorFree, errorFree_append, evsQs_errorFree,
      argListEvs_errorFree, evsMods_errorFree]
  | .gphase x => by simp [evsS2, wrapStmt, tombLink, exprStmtTail, errorFree, errorFree_append, evsX_errorFree]
  | .modGphase m ms x => by
    simp [evsS2, wrapStmt, tombLink, exprStmtTail, errorFree, errorFree_append, evsX_errorFree, evsMods_errorFree]
  | .reset q => by simp [evsS2, errorFree, errorFree_append, evsQ_errorFree]
  | .barrier qs => by simp [evsS2, qlistEvs, errorFree, errorFree_append, evsQs_errorFree]
  | .delay d qs => by simp [evsS2, qlistEvs, desigEvs, errorFree, errorFree_append, evsQs_errorFree, evsX_errorFree]
  | .brk => rfl
  | .cont => rfl
  | .endS => rfl
  | .pragma => rfl
  | .annot => rfl
  | .incl => rfl
  | .version => rfl
  | .externS tys ret => by simp [evsS2, nameEvs, errorFree, errorFree_append, tyListEvs_errorFree, retEvs_errorFree]
  | .ifS c thn => by simp [evsS2, errorFree, errorFree_append, evsX_errorFree, evsB_errorFree thn]
  | .ifElse c thn els => by simp [evsS2, errorFree, errorFree_append, evsX_errorFree, evsB_errorFree thn, evsB_errorFree els]
  | .whileS c body => by simp [evsS2, errorFree, errorFree_append, evsX_errorFree, evsB_errorFree body]
  | .forS ty w it body => by
    simp [evsS2, nameEvs, errorFree, errorFree_append, tyEvsX_errorFree, iterEvs_errorFree, evsB_errorFree body]
  | .switchS c cs => by simp [evsS2, errorFree, errorFree_append, evsX_errorFree, evsC_errorFree cs]
  | .block ss => by simp [evsS2, tombLink, errorFree, errorFree_append, evsL2_errorFree ss]
  | .gateDef none nq body => by simp [evsS2, blockEvs, errorFree, errorFree_append, paramEvs_errorFree, evsL2_errorFree body]
  | .gateDef (some k) nq body => by simp [evsS2, blockEvs, errorFree, errorFree_append, paramEvs_errorFree, evsL2_errorFree body]
  | .defS ps ret body => by
    simp [evsS2, blockEvs, errorFree, errorFree_append, typedEvs_errorFree, retEvs_errorFree, evsL2_errorFree body]
  | .cal body => by simp [evsS2, blockEvs, errorFree, errorFree_append, evsL2_errorFree body]
  | .ret none => rfl
  | .ret (some e) => by simp [evsS2, wrapStmt, tombLink, exprStmtTail, errorFree, errorFree_append, evsX_errorFree]
theorem evsB_errorFree : ∀ b : Body, errorFree (evsB b) = true
  | .blk ss => by simp [evsB, blockEvs, errorFree, errorFree_append, evsL2_errorFree ss]
  | .one s => by simp [evsB, evsS2_errorFree s]
theorem evsC_errorFree : ∀ cs : Cases, errorFree (evsC cs) = true
  | .nil => rfl
  | .dflt body => by simp [evsC, blockEvs, errorFree, errorFree_append, evsL2_errorFree body]
  | .cons vals body rest => by
    simp [evsC, blockEvs, errorFree, errorFree_append, evsItems_errorFree, evsL2_errorFree body, evsC_errorFree rest]
theorem evsL2_errorFree : ∀ ss : Stmts2, errorFree (evsL2 ss) = true
  | .nil => rfl
  | .cons st ss => by simp [evsL2, errorFree_append, evsS2_errorFree st, evsL2_errorFree ss]
end

/-- the events of a program contain no `Error` event -/
theorem evsP2_errorFree (p : Stmts2) : errorFree (evsP2 p) = true := by
  simp [evsP2, errorFree, errorFree_append, evsL2_errorFree]

/-- acceptance for arbitrary joint bits `J` that are set wherever the print has a glued pair (`==`, `->`, …): between
two other tokens there may be whitespace, a newline or nothing -/
theorem program_accepted_joint (p : Stmts2) (hwf : WFTop p) (fuel : Nat) (hf : needL2 p + 3 ≤ fuel) (J : Array Bool)
    (hJ : ∀ i (h : i < (toksL2 p).length), ((toksL2 p)[i]).2 = true → J.getD i false = true) :
    parseSourceFile fuel (kindsOf (toksL2 p)) J = .ok ((evsP2 p).toArray, (toksL2 p).length) := by
  let s0 : P := { kinds := kindsOf (toksL2 p), joint := J }
  have hr : RdyF 9 s0 :=
    ⟨rfl, (by show 0 + 9 ≤ 15000000; decide), (by intro p hp; cases hp), (by show 8 ≤ 15000000; decide)⟩
  have htk : Toks s0 s0.pos (toksL2 p) := by
    apply Toks_of_get
    intro i hi
    exact ⟨by simp [s0, kindsOf, P.kindAt, hi], fun h => by simpa [s0] using hJ i hi h⟩
  have heof : s0.kindAt (s0.pos + (toksL2 p).length) = .EOF := by simp [s0, kindsOf, P.kindAt]
  obtain ⟨st, sb, hrun⟩ := sourceFile_ok2 p fuel s0 hf hr htk heof hwf
  unfold parseSourceFile parseWith
  show (match sourceFile fuel s0 with | .ok (_, s) => _ | .error e => _) = _
  rw [hrun]
  simp [P.ov, s0]

/-- **Every well-formed program of the extended reference language is accepted**: `parseSourceFile` on its
print succeeds (no panic, no `DropBomb`), returns exactly the events `evsP2 p` and has consumed
every token — for every fuel above the explicit bound. -/
theorem program_accepted (p : Stmts2) (hwf : WFTop p) (fuel : Nat) (hf : needL2 p + 3 ≤ fuel) :
    parseSourceFile fuel (kindsOf (toksL2 p)) (jointOf (toksL2 p)) = .ok ((evsP2 p).toArray, (toksL2 p).length) :=
  program_accepted_joint p hwf fuel hf _ (fun i hi h => by simp [jointOf, hi, h])

/-- **the CST of a program mirrors its derivation**: `process` turns the events of the program into
the pre-order node sequence `nodesP2 p` (a fact about the event encoding, for every program) -/
theorem program_cst (p : Stmts2) : process (evsP2 p) = some (nodesP2 p) := process_evsP2 p

/-- acceptance, absence of diagnostics and shape of the CST in one statement -/
theorem program_accepted_cst (p : Stmts2) (hwf : WFTop p) (fuel : Nat) (hf : needL2 p + 3 ≤ fuel) :
    ∃ ev, parseSourceFile fuel (kindsOf (toksL2 p)) (jointOf (toksL2 p)) = .ok (ev, (toksL2 p).length) ∧
      errorFree ev.toList = true ∧ process ev.toList = some (nodesP2 p) :=
  ⟨_, program_accepted p hwf fuel hf, by simpa using evsP2_errorFree p, by simpa using program_cst p⟩

theorem expr_rule (x : X) : ExprOK x (fuelX x) := exprX_ok x


/-- ```
OPENQASM 3.0;
include "stdgates.inc";
const uint[8] n = 4;
qubit[n] q;
bit[n] c;
let a = q[0:1];
gate g(t) a, b { rx(t) a; ctrl @ inv @ h a, b; }
def f(int n, qubit q) -> bit { return measure q; }
for uint i in [0:n - 1] { h q[i]; c[i] = measure q[i]; }
if (c[0] == 1) x q[0]; else if (f(2, q[1])) { reset q[1]; } else { delay[10ns] q[0], $1; }
switch (n) { case 1, 2 { gphase(pi); } default { break; } }
while (!x) { { x = -x; } y = (2.0 * float[32](n)); }      -- F06: the right-hand side is not a bare binary expression
``` -/
def demo : Stmts2 :=
  let xi : X := .prim .id
  let n1 : X := .prim (.lit .int)
  let ix (x : X) : IdxList := .one (.one (.ex x))
  .cons .version
  (.cons .incl
  (.cons (.decl true .uint (some n1) (some n1))
  (.cons (.qubit (some xi))
  (.cons (.decl false .bit (some xi) none)
  (.cons (.alias (.prim (.idIdx (.one (.one (.r2 n1 n1))))))
  (.cons (.gateDef (some 0) 1 (.cons (.gate (.cons xi .nil) (.one .id))
      (.cons (.modGate (.ctrl none) [.inv] .nil (.cons .id (.one .id))) .nil)))
  (.cons (.defS [.cls .int, .qubit] (some .bit) (.cons (.ret (some (.prim .measureE))) .nil))
  (.cons (.forS .uint none (.range2 n1 (.bin .minus xi n1))
      (.blk (.cons (.gate .nil (.one (.idx (ix xi)))) (.cons (.assign (some (ix xi)) (.prim (.measureIdx (ix xi)))) .nil))))
  (.cons (.ifElse (.bin .eq2 (.prim (.idIdx (ix n1))) n1) (.one (.gate .nil (.one (.idx (ix n1)))))
      (.one (.ifElse (.prim (.call .id (.cons n1 (.cons (.prim (.idIdx (ix n1))) .nil))))
        (.blk (.cons (.reset (.idx (ix n1))) .nil))
        (.blk (.cons (.delay (.prim (.timing .int)) (.cons (.idx (ix n1)) (.one .hw))) .nil)))))
  (.cons (.switchS xi (.cons (.cons (.ex n1) (.one (.ex n1))) (.cons (.gphase (.prim (.paren xi))) .nil) (.dflt (.cons .brk .nil))))
  (.cons (.whileS (.pre .bang xi) (.blk (.cons (.block (.cons (.assign none (.pre .minus xi)) .nil))
      (.cons (.assign none (.prim (.paren (.bin .star (.prim (.lit .float)) (.prim (.castW .float n1 xi)))))) .nil))))
  .nil)))))))))))

theorem demo_wf : WFTop demo := by
  simp [demo, WFTop, WFItem, isItem2, WFL2, WFS2, WFB, WFC, CanonX, CanonP, CanonXs, CanonItem, CanonItems, CanonIdx, CanonQ, CanonQs,
    CanonMods, CanonMod, CanonTarget, CanonIter, CanonCases, iterBodyOK, WidthOK, ItemsFirstOK, IdxFirstOK, firstItem, firstX, firstP,
    BinOp.pow, endsAssign, endsAssignB, endsIfB, endsIf, endsBlock, endsBlockB, startsMinus2, Ty.wide, firstTokS2, exprStmtFirst2,
    indexable, Lit.kind, Num.kind, PreOp.kind]

theorem demo_accepted (fuel : Nat) (h : needL2 demo + 3 ≤ fuel) :
    parseSourceFile fuel (kindsOf (toksL2 demo)) (jointOf (toksL2 demo)) = .ok ((evsP2 demo).toArray, (toksL2 demo).length) :=
  program_accepted demo demo_wf fuel h

end Oq3.Props.C04Lang2
