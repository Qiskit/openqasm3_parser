/-
C13 — the arity rule for the standard library, through the TRANSLATED table.

`Props/C09StdGates.lean` shows that after `include "stdgates.inc";` the i-th name of the translated table resolves
to a symbol of type `Gate(np_i, nq_i)`; `Props/C13.lean` shows that the gate-call check logs an arity diagnostic
iff the callee's gate type disagrees with the call.  `std_gate_type` is the first half for a row `g` of the table;
`std_gate_arity_iff` is the second half at the gate type `Gate(g.2.1, g.2.2)` (its hypothesis `g ∈ stdGates` is not
used: it holds for every triple).  The two are stated side by side, not composed into one statement about
`lookupGateSymbol` followed by `gateCallCheck`.
-/
import Oq3.Props.C13
import Oq3.Props.C09StdGates

namespace Oq3.Props.C13
open Oq3.Sema Oq3.Symbols Oq3.Types

theorem std_gate_type (t : SymTab) (s : Scope) (rest : List Scope) (hs : t.stack = s :: rest)
    (hc : t.counter = t.all.length) (hok : TableOk stdGates s = true)
    (i : Nat) (g : Name × Nat × Nat) (hg : stdGates[i]? = some g) :
    ∃ id, (t.standardLibraryGates.1.step (.lookup g.1)).2 = .found id g.1 (T.gate g.2.1 g.2.2) :=
  ⟨_, standardLibraryGates_lookup t s rest hs hc hok i g hg⟩

/-- for a callee of type `Gate(g.2.1, g.2.2)` — what `std_gate_type` finds for a row `g` of the table — the call
gets NumGateParamsError iff the number of parameters written differs from `g.2.1`, and NumGateQubitsError iff the
number of qubit operands differs from `g.2.2` (`gate_params_iff`, `gate_qubits_iff` at that type; `_hg` is not used) -/
theorem std_gate_arity_iff (span : Ast.Span) (ql : Ast.QubitList) (al : Option Ast.ArgList)
    (gateId : Ast.Identifier) (ok : Bool) (numParams numQubits : Nat)
    (g : Name × Nat × Nat) (_hg : g ∈ stdGates) :
    (SemanticErrorKind.numGateParamsError ∈
        kinds (gateCallErrs span ql al gateId ok (T.gate g.2.1 g.2.2) numParams numQubits) ↔ g.2.1 ≠ numParams) ∧
    (SemanticErrorKind.numGateQubitsError ∈
        kinds (gateCallErrs span ql al gateId ok (T.gate g.2.1 g.2.2) numParams numQubits) ↔ g.2.2 ≠ numQubits) := by
  constructor
  · rw [gate_params_iff]
    constructor
    · rintro ⟨np, nq, h, hne⟩; cases h; exact hne
    · intro h; exact ⟨_, _, rfl, h⟩
  · rw [gate_qubits_iff]
    constructor
    · rintro ⟨np, nq, h, hne⟩; cases h; exact hne
    · intro h; exact ⟨_, _, rfl, h⟩

/-- `cu` of the translated table, called with three parameters and two qubits -/
example (span : Ast.Span) (ql : Ast.QubitList) (al : Option Ast.ArgList) (gateId : Ast.Identifier) :
    SemanticErrorKind.numGateParamsError ∈ kinds (gateCallErrs span ql al gateId true (T.gate 4 2) 3 2) ∧
    SemanticErrorKind.numGateQubitsError ∉ kinds (gateCallErrs span ql al gateId true (T.gate 4 2) 3 2) := by
  have h := std_gate_arity_iff span ql al gateId true 3 2 ("cu", 4, 2) (by decide +kernel)
  exact ⟨h.1.mpr (by decide), fun hc => (h.2.mp hc) rfl⟩

end Oq3.Props.C13
