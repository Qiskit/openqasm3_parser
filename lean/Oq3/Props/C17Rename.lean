/-
C17 — renaming equivariance of the semantic pass (model `Oq3/Model/Sema.lean`).

For an admissible renaming `ρ : Ren` (`C17RenameSym.lean`: INJECTIVE on all strings, fixing the
built-in constants `pi π euler ℇ tau τ`, `U` and the standard gate names; "no user name is mapped
onto a fixed one" follows from injectivity):

    rename_equivariant :
      analyzeWith fuel (renameAst ρ p) = (analyzeWith fuel p).map (renameCtx ρ)

`renameAst` renames every identifier / declared name / gate and def parameter / gate name / callee
occurrence of the typed AST (hardware qubits `$n`, time units, file paths, pragma and annotation
TEXT are not names and are left alone; spans are kept).  `renameCtx` renames the `name` of every
symbol (the key lists of the scopes and `all`) and leaves ids, types, the program graph (which
refers to symbols by id), the diagnostics (kinds AND ranges), the constant values and the pending
annotations unchanged.  `Except.map` keeps the outcome: the renamed program panics at the same
site iff the original does.

Proof: renaming is a lawful map of the AST (`rnMap ρ`) and `rnCtx ρ` commutes with the primitives of
the context (`rnNaturalTop`; symbol table: `step_rename`), so this is `NaturalTop.analyzeWith` of
`Lemmas/SemaMap.lean`, the walk over the leaf functions and the 25-function mutual block, exactly
as `span_irrelevant` in C17.lean.
-/
import Oq3.Props.C17RenameSym
import Oq3.Lemmas.SemaMap

namespace Oq3.C17Rename
open Oq3.Sema Oq3.Types Oq3.Symbols Oq3.C06

def rnName (ρ : Ren) (n : Ast.Name) : Ast.Name := { n with text := ρ.f n.text }
def rnIdent (ρ : Ren) (n : Ast.Identifier) : Ast.Identifier := { n with text := ρ.f n.text }
def rnParam (ρ : Ren) (n : Ast.Param) : Ast.Param := { n with text := ρ.f n.text }
def rnParamList (ρ : Ren) (n : Ast.ParamList) : Ast.ParamList := ⟨n.span, n.params.map (rnParam ρ)⟩

mutual
def rnExpr (ρ : Ren) : Ast.Expr → Ast.Expr
  | .prefixExpr sp op e => .prefixExpr sp op (rnOExpr ρ e)
  | .parenExpr p => .parenExpr (rnParen ρ p)
  | .binExpr sp op l r => .binExpr sp op (rnOExpr ρ l) (rnOExpr ρ r)
  | .literal l => .literal l
  | .timingLiteral sp u t l => .timingLiteral sp u t l
  | .identifier i => .identifier (rnIdent ρ i)
  | .hardwareQubit h => .hardwareQubit h
  | .rangeExpr r => .rangeExpr (rnRange ρ r)
  | .indexExpr sp e ix => .indexExpr sp (rnOExpr ρ e) (rnOIndexOp ρ ix)
  | .indexedIdentifier ii => .indexedIdentifier (rnIndexedIdent ρ ii)
  | .measureExpression sp g => .measureExpression sp (rnOGateOperand ρ g)
  | .returnExpr sp e => .returnExpr sp (rnOExpr ρ e)
  | .castExpression sp st e => .castExpression sp (rnOScalarType ρ st) (rnOExpr ρ e)
  | .callExpr sp al i => .callExpr sp (rnOArgList ρ al) (i.map (rnIdent ρ))
  | .gateCallExpr g => .gateCallExpr (rnGateCall ρ g)
  | .gPhaseCallExpr g => .gPhaseCallExpr (rnGPhase ρ g)
  | .modifiedGateCallExpr sp ms g gp => .modifiedGateCallExpr sp (rnModifiers ρ ms) (rnOGateCall ρ g) (rnOGPhase ρ gp)
  | .unsupported k sp => .unsupported k sp
def rnOExpr (ρ : Ren) : Option Ast.Expr → Option Ast.Expr
  | none => none
  | some e => some (rnExpr ρ e)
def rnExprs (ρ : Ren) : List Ast.Expr → List Ast.Expr
  | [] => []
  | e :: es => rnExpr ρ e :: rnExprs ρ es
def rnParen (ρ : Ren) : Ast.ParenExpr → Ast.ParenExpr
  | .mk sp e => .mk sp (rnOExpr ρ e)
def rnOParen (ρ : Ren) : Option Ast.ParenExpr → Option Ast.ParenExpr
  | none => none
  | some p => some (rnParen ρ p)
def rnRange (ρ : Ren) : Ast.RangeExpr → Ast.RangeExpr
  | .mk sp a b c => .mk sp (rnOExpr ρ a) (rnOExpr ρ b) (rnOExpr ρ c)
def rnDesignator (ρ : Ren) : Ast.Designator → Ast.Designator
  | .mk sp e => .mk sp (rnOExpr ρ e)
def rnODesignator (ρ : Ren) : Option Ast.Designator → Option Ast.Designator
  | none => none
  | some d => some (rnDesignator ρ d)
def rnScalarType (ρ : Ren) : Ast.ScalarType → Ast.ScalarType
  | .mk sp k d s => .mk sp k (rnODesignator ρ d) (rnOScalarType ρ s)
def rnOScalarType (ρ : Ren) : Option Ast.ScalarType → Option Ast.ScalarType
  | none => none
  | some s => some (rnScalarType ρ s)
def rnExprList (ρ : Ren) : Ast.ExpressionList → Ast.ExpressionList
  | .mk sp es => .mk sp (rnExprs ρ es)
def rnOExprList (ρ : Ren) : Option Ast.ExpressionList → Option Ast.ExpressionList
  | none => none
  | some el => some (rnExprList ρ el)
def rnSet (ρ : Ren) : Ast.SetExpression → Ast.SetExpression
  | .mk sp el => .mk sp (rnOExprList ρ el)
def rnIndexKind (ρ : Ren) : Ast.IndexKind → Ast.IndexKind
  | .setExpression s => .setExpression (rnSet ρ s)
  | .expressionList el => .expressionList (rnExprList ρ el)
def rnOIndexKind (ρ : Ren) : Option Ast.IndexKind → Option Ast.IndexKind
  | none => none
  | some k => some (rnIndexKind ρ k)
def rnIndexOp (ρ : Ren) : Ast.IndexOperator → Ast.IndexOperator
  | .mk sp k => .mk sp (rnOIndexKind ρ k)
def rnOIndexOp (ρ : Ren) : Option Ast.IndexOperator → Option Ast.IndexOperator
  | none => none
  | some i => some (rnIndexOp ρ i)
def rnIndexOps (ρ : Ren) : List Ast.IndexOperator → List Ast.IndexOperator
  | [] => []
  | i :: is => rnIndexOp ρ i :: rnIndexOps ρ is
def rnIndexedIdent (ρ : Ren) : Ast.IndexedIdentifier → Ast.IndexedIdentifier
  | .mk sp i ixs => .mk sp (i.map (rnIdent ρ)) (rnIndexOps ρ ixs)
def rnGateOperand (ρ : Ren) : Ast.GateOperand → Ast.GateOperand
  | .hardwareQubit h => .hardwareQubit h
  | .identifier i => .identifier (rnIdent ρ i)
  | .indexedIdentifier ii => .indexedIdentifier (rnIndexedIdent ρ ii)
def rnOGateOperand (ρ : Ren) : Option Ast.GateOperand → Option Ast.GateOperand
  | none => none
  | some g => some (rnGateOperand ρ g)
def rnGateOperands (ρ : Ren) : List Ast.GateOperand → List Ast.GateOperand
  | [] => []
  | g :: gs => rnGateOperand ρ g :: rnGateOperands ρ gs
def rnQubitList (ρ : Ren) : Ast.QubitList → Ast.QubitList
  | .mk sp gs => .mk sp (rnGateOperands ρ gs)
def rnOQubitList (ρ : Ren) : Option Ast.QubitList → Option Ast.QubitList
  | none => none
  | some q => some (rnQubitList ρ q)
def rnArgList (ρ : Ren) : Ast.ArgList → Ast.ArgList
  | .mk sp el => .mk sp (rnOExprList ρ el)
def rnOArgList (ρ : Ren) : Option Ast.ArgList → Option Ast.ArgList
  | none => none
  | some a => some (rnArgList ρ a)
def rnGateCall (ρ : Ren) : Ast.GateCallExpr → Ast.GateCallExpr
  | .mk sp ql al i => .mk sp (rnOQubitList ρ ql) (rnOArgList ρ al) (i.map (rnIdent ρ))
def rnOGateCall (ρ : Ren) : Option Ast.GateCallExpr → Option Ast.GateCallExpr
  | none => none
  | some g => some (rnGateCall ρ g)
def rnGPhase (ρ : Ren) : Ast.GPhaseCallExpr → Ast.GPhaseCallExpr
  | .mk sp a => .mk sp (rnOExpr ρ a)
def rnOGPhase (ρ : Ren) : Option Ast.GPhaseCallExpr → Option Ast.GPhaseCallExpr
  | none => none
  | some g => some (rnGPhase ρ g)
def rnModifier (ρ : Ren) : Ast.Modifier → Ast.Modifier
  | .invModifier sp => .invModifier sp
  | .powModifier sp p => .powModifier sp (rnOParen ρ p)
  | .ctrlModifier sp p => .ctrlModifier sp (rnOParen ρ p)
  | .negCtrlModifier sp p => .negCtrlModifier sp (rnOParen ρ p)
def rnModifiers (ρ : Ren) : List Ast.Modifier → List Ast.Modifier
  | [] => []
  | m :: ms => rnModifier ρ m :: rnModifiers ρ ms
end

def rnParamType (ρ : Ren) : Ast.ParamType → Ast.ParamType
  | .scalarType s => .scalarType (rnScalarType ρ s)
  | .arrayRefType sp => .arrayRefType sp

def rnTypedParam (ρ : Ren) (p : Ast.TypedParam) : Ast.TypedParam :=
  ⟨p.span, p.paramType.map (rnParamType ρ), p.oldTypedParam, p.name.map (rnName ρ)⟩

def rnTypedParamList (ρ : Ren) (l : Ast.TypedParamList) : Ast.TypedParamList := ⟨l.span, l.typedParams.map (rnTypedParam ρ)⟩

def rnReturnSignature (ρ : Ren) (r : Ast.ReturnSignature) : Ast.ReturnSignature := ⟨r.span, rnOScalarType ρ r.scalarType⟩

def rnQubitType (ρ : Ren) (q : Ast.QubitType) : Ast.QubitType := ⟨q.span, rnODesignator ρ q.designator⟩

def rnForIterable (ρ : Ren) (f : Ast.ForIterable) : Ast.ForIterable :=
  ⟨f.span, f.setExpression.map (rnSet ρ), f.rangeExpr.map (rnRange ρ), rnOExpr ρ f.forIterableExpr⟩

mutual
def rnStmt (ρ : Ren) : Ast.Stmt → Ast.Stmt
  | .ifStmt sp c t f => .ifStmt sp (rnOExpr ρ c) (rnAccBos ρ t) (rnOBos ρ f)
  | .whileStmt sp c b => .whileStmt sp (rnOExpr ρ c) (rnAccBos ρ b)
  | .forStmt sp v st it b => .forStmt sp (v.map (rnName ρ)) (rnOScalarType ρ st) (it.map (rnForIterable ρ)) (rnAccBos ρ b)
  | .switchCaseStmt sp c cs d => .switchCaseStmt sp (rnOExpr ρ c) (rnCases ρ cs) (rnOBlock ρ d)
  | .classicalDeclarationStatement sp a st k n e =>
    .classicalDeclarationStatement sp a (rnOScalarType ρ st) k (n.map (rnName ρ)) (rnOExpr ρ e)
  | .ioDeclarationStatement sp a st n i => .ioDeclarationStatement sp a (rnOScalarType ρ st) (n.map (rnName ρ)) i
  | .quantumDeclarationStatement sp n h q =>
    .quantumDeclarationStatement sp (n.map (rnName ρ)) h (q.map (rnQubitType ρ))
  | .assignmentStmt sp i rhs ii => .assignmentStmt sp (i.map (rnIdent ρ)) (rnOExpr ρ rhs) (ii.map (rnIndexedIdent ρ))
  | .breakStmt sp => .breakStmt sp
  | .continueStmt sp => .continueStmt sp
  | .endStmt sp => .endStmt sp
  | .gate sp n a q b => .gate sp (n.map (rnName ρ)) (a.map (rnParamList ρ)) (q.map (rnParamList ρ)) (rnOBlock ρ b)
  | .defStmt sp n tp b rs =>
    .defStmt sp (n.map (rnName ρ)) (tp.map (rnTypedParamList ρ)) (rnOBlock ρ b) (rs.map (rnReturnSignature ρ))
  | .barrier sp q => .barrier sp (rnOQubitList ρ q)
  | .delayStmt sp q d => .delayStmt sp (rnOQubitList ρ q) (rnODesignator ρ d)
  | .reset sp g => .reset sp (rnOGateOperand ρ g)
  | .includeStmt sp f => .includeStmt sp f
  | .exprStmt sp e => .exprStmt sp (rnOExpr ρ e)
  | .versionString sp => .versionString sp
  | .pragmaStatement sp t => .pragmaStatement sp t
  | .annotationStatement sp t => .annotationStatement sp t
  | .aliasDeclarationStatement sp n e => .aliasDeclarationStatement sp (n.map (rnName ρ)) (rnOExpr ρ e)
  | .notImpl k sp => .notImpl k sp
def rnStmts (ρ : Ren) : List Ast.Stmt → List Ast.Stmt
  | [] => []
  | s :: ss => rnStmt ρ s :: rnStmts ρ ss
def rnBlock (ρ : Ren) : Ast.BlockExpr → Ast.BlockExpr
  | .mk sp ss => .mk sp (rnStmts ρ ss)
def rnOBlock (ρ : Ren) : Option Ast.BlockExpr → Option Ast.BlockExpr
  | none => none
  | some b => some (rnBlock ρ b)
def rnBos (ρ : Ren) : Ast.BlockOrStmt → Ast.BlockOrStmt
  | .blockExpr b => .blockExpr (rnBlock ρ b)
  | .stmt s => .stmt (rnStmt ρ s)
def rnOBos (ρ : Ren) : Option Ast.BlockOrStmt → Option Ast.BlockOrStmt
  | none => none
  | some b => some (rnBos ρ b)
def rnAccBos (ρ : Ren) : Ast.Acc Ast.BlockOrStmt → Ast.Acc Ast.BlockOrStmt
  | .ok b => .ok (rnBos ρ b)
  | .panicked => .panicked
def rnCase (ρ : Ren) : Ast.CaseExpr → Ast.CaseExpr
  | .mk sp el b => .mk sp (rnOExprList ρ el) (rnOBlock ρ b)
def rnCases (ρ : Ren) : List Ast.CaseExpr → List Ast.CaseExpr
  | [] => []
  | c :: cs => rnCase ρ c :: rnCases ρ cs
end


def renameAst (ρ : Ren) (p : Ast.Program) : Ast.Program := ⟨p.span, rnStmts ρ p.statements⟩

def rnCtx (ρ : Ren) (c : Ctx) : Ctx := { c with symbolTable := rnTab ρ c.symbolTable }

abbrev renameCtx := rnCtx

variable {ρ : Ren}

/-- `Sema.Comm (rnCtx ρ)` (`Lemmas/SemaMap.lean`); no proof uses it, nor the two instances after it -/
structure Comm (ρ : Ren) {α β} (g : α → β) (x : M α) (y : M β) : Prop where
  run : ∀ c, y (rnCtx ρ c) = (x c).map (fun r => (g r.1, rnCtx ρ r.2))

theorem Comm.unwrap {α β} (g : α → β) (site : String) (o : Option α) :
    Comm ρ g (Sema.unwrap site o) (Sema.unwrap site (o.map g)) :=
  ⟨(Sema.Comm.unwrap g site o).run⟩

theorem negativeInt_comm (text : String) : Comm ρ id (negativeIntToAsgType text) (negativeIntToAsgType text) :=
  ⟨(Sema.Comm.negativeIntToAsgType text).run⟩

theorem rnOExpr_eq (o : Option Ast.Expr) : (rnOExpr ρ) o = o.map (rnExpr ρ) := by cases o <;> rfl
theorem rnExprs_eq (l : List Ast.Expr) : (rnExprs ρ) l = l.map (rnExpr ρ) := by
  induction l with
  | nil => rfl
  | cons x xs ih => simp [rnExprs, ih]
theorem rnOParen_eq (o : Option Ast.ParenExpr) : (rnOParen ρ) o = o.map (rnParen ρ) := by cases o <;> rfl
theorem rnODesignator_eq (o : Option Ast.Designator) : (rnODesignator ρ) o = o.map (rnDesignator ρ) := by cases o <;> rfl
theorem rnOScalarType_eq (o : Option Ast.ScalarType) : (rnOScalarType ρ) o = o.map (rnScalarType ρ) := by cases o <;> rfl
theorem rnOExprList_eq (o : Option Ast.ExpressionList) : (rnOExprList ρ) o = o.map (rnExprList ρ) := by cases o <;> rfl
theorem rnOIndexKind_eq (o : Option Ast.IndexKind) : (rnOIndexKind ρ) o = o.map (rnIndexKind ρ) := by cases o <;> rfl
theorem rnOIndexOp_eq (o : Option Ast.IndexOperator) : (rnOIndexOp ρ) o = o.map (rnIndexOp ρ) := by cases o <;> rfl
theorem rnIndexOps_eq (l : List Ast.IndexOperator) : (rnIndexOps ρ) l = l.map (rnIndexOp ρ) := by
  induction l with
  | nil => rfl
  | cons x xs ih => simp [rnIndexOps, ih]
theorem rnOGateOperand_eq (o : Option Ast.GateOperand) : (rnOGateOperand ρ) o = o.map (rnGateOperand ρ) := by cases o <;> rfl
theorem rnGateOperands_eq (l : List Ast.GateOperand) : (rnGateOperands ρ) l = l.map (rnGateOperand ρ) := by
  induction l with
  | nil => rfl
  | cons x xs ih => simp [rnGateOperands, ih]
theorem rnOQubitList_eq (o : Option Ast.QubitList) : (rnOQubitList ρ) o = o.map (rnQubitList ρ) := by cases o <;> rfl
theorem rnOArgList_eq (o : Option Ast.ArgList) : (rnOArgList ρ) o = o.map (rnArgList ρ) := by cases o <;> rfl
theorem rnOGateCall_eq (o : Option Ast.GateCallExpr) : (rnOGateCall ρ) o = o.map (rnGateCall ρ) := by cases o <;> rfl
theorem rnOGPhase_eq (o : Option Ast.GPhaseCallExpr) : (rnOGPhase ρ) o = o.map (rnGPhase ρ) := by cases o <;> rfl
theorem rnModifiers_eq (l : List Ast.Modifier) : (rnModifiers ρ) l = l.map (rnModifier ρ) := by
  induction l with
  | nil => rfl
  | cons x xs ih => simp [rnModifiers, ih]
theorem rnStmts_eq (l : List Ast.Stmt) : (rnStmts ρ) l = l.map (rnStmt ρ) := by
  induction l with
  | nil => rfl
  | cons x xs ih => simp [rnStmts, ih]
theorem rnOBlock_eq (o : Option Ast.BlockExpr) : (rnOBlock ρ) o = o.map (rnBlock ρ) := by cases o <;> rfl
theorem rnOBos_eq (o : Option Ast.BlockOrStmt) : (rnOBos ρ) o = o.map (rnBos ρ) := by cases o <;> rfl
theorem rnCases_eq (l : List Ast.CaseExpr) : (rnCases ρ) l = l.map (rnCase ρ) := by
  induction l with
  | nil => rfl
  | cons x xs ih => simp [rnCases, ih]


@[simp] theorem rnName_text (n : Ast.Name) : (rnName ρ n).text = ρ.f n.text := rfl
@[simp] theorem rnName_span (n : Ast.Name) : (rnName ρ n).span = n.span := rfl
@[simp] theorem rnIdent_text (n : Ast.Identifier) : (rnIdent ρ n).text = ρ.f n.text := rfl
@[simp] theorem rnIdent_span (n : Ast.Identifier) : (rnIdent ρ n).span = n.span := rfl
@[simp] theorem rnParam_text (n : Ast.Param) : (rnParam ρ n).text = ρ.f n.text := rfl
@[simp] theorem rnParam_span (n : Ast.Param) : (rnParam ρ n).span = n.span := rfl
@[simp] theorem rnParamList_params (n : Ast.ParamList) : (rnParamList ρ n).params = n.params.map (rnParam ρ) := rfl
@[simp] theorem rnTypedParam_paramType (p : Ast.TypedParam) : (rnTypedParam ρ p).paramType = p.paramType.map (rnParamType ρ) := rfl
@[simp] theorem rnTypedParam_old (p : Ast.TypedParam) : (rnTypedParam ρ p).oldTypedParam = p.oldTypedParam := rfl
@[simp] theorem rnTypedParam_name (p : Ast.TypedParam) : (rnTypedParam ρ p).name = p.name.map (rnName ρ) := rfl
@[simp] theorem rnTypedParam_span (p : Ast.TypedParam) : (rnTypedParam ρ p).span = p.span := rfl
@[simp] theorem rnTypedParamList_params (l : Ast.TypedParamList) : (rnTypedParamList ρ l).typedParams = l.typedParams.map (rnTypedParam ρ) := rfl
@[simp] theorem rnForIterable_set (f : Ast.ForIterable) : (rnForIterable ρ f).setExpression = f.setExpression.map (rnSet ρ) := rfl
@[simp] theorem rnForIterable_range (f : Ast.ForIterable) : (rnForIterable ρ f).rangeExpr = f.rangeExpr.map (rnRange ρ) := rfl

def rnMap (ρ : Ren) : Ast.Map where
  span := id
  text := ρ.f
  name := rnName ρ
  identifier := rnIdent ρ
  hardwareQubit := id
  param := rnParam ρ
  paramList := rnParamList ρ
  literal := id
  filePath := id
  expr := rnExpr ρ
  parenExpr := rnParen ρ
  rangeExpr := rnRange ρ
  designator := rnDesignator ρ
  scalarType := rnScalarType ρ
  expressionList := rnExprList ρ
  setExpression := rnSet ρ
  indexKind := rnIndexKind ρ
  indexOperator := rnIndexOp ρ
  indexedIdentifier := rnIndexedIdent ρ
  gateOperand := rnGateOperand ρ
  qubitList := rnQubitList ρ
  argList := rnArgList ρ
  gateCallExpr := rnGateCall ρ
  gPhaseCallExpr := rnGPhase ρ
  modifier := rnModifier ρ
  paramType := rnParamType ρ
  typedParam := rnTypedParam ρ
  typedParamList := rnTypedParamList ρ
  returnSignature := rnReturnSignature ρ
  qubitType := rnQubitType ρ
  forIterable := rnForIterable ρ
  stmt := rnStmt ρ
  blockExpr := rnBlock ρ
  blockOrStmt := rnBos ρ
  accBos := rnAccBos ρ
  caseExpr := rnCase ρ
  program := renameAst ρ

theorem rnMap_lawful (ρ : Ren) : (rnMap ρ).Lawful := by
  constructor <;> intros <;>
    simp [rnMap, rnName, rnIdent, rnParam, rnParamList, rnExpr, rnParen, rnRange, rnDesignator,
      rnScalarType, rnExprList, rnSet, rnIndexKind, rnIndexOp, rnIndexedIdent, rnGateOperand,
      rnQubitList, rnArgList, rnGateCall, rnGPhase, rnModifier, rnParamType, rnTypedParam,
      rnTypedParamList, rnReturnSignature, rnQubitType, rnForIterable, rnStmt, rnBlock, rnBos,
      rnAccBos, rnCase, renameAst, rnOExpr_eq, rnExprs_eq, rnOParen_eq, rnODesignator_eq,
      rnOScalarType_eq, rnOExprList_eq, rnOIndexKind_eq, rnOIndexOp_eq, rnIndexOps_eq,
      rnOGateOperand_eq, rnGateOperands_eq, rnOQubitList_eq, rnOArgList_eq, rnOGateCall_eq,
      rnOGPhase_eq, rnModifiers_eq, rnStmts_eq, rnOBlock_eq, rnOBos_eq, rnCases_eq]

theorem symStep_comm (site : String) (op : Op) :
    Sema.Comm (rnCtx ρ) (rnOut ρ) (symStep site op) (symStep site (rnOp ρ op)) := by
  refine ⟨fun c => ?_⟩
  unfold symStep
  show (StateT.bind _ _) _ = Except.map _ ((StateT.bind _ _) _)
  unfold StateT.bind
  simp only [get, getThe, MonadStateOf.get, StateT.get, bind, Except.bind, pure, Except.pure, rnCtx, step_rename]
  generalize c.symbolTable.step op = so
  obtain ⟨t', o⟩ := so
  cases o <;> rfl

theorem insertError_comm (k : SemanticErrorKind) (sp : Ast.Span) :
    Sema.Comm (rnCtx ρ) id (insertError k sp) (insertError k sp) := ⟨fun _ => rfl⟩

theorem rnNatural (ρ : Ren) : Natural (rnCtx ρ) (rnMap ρ) where
  toLawful := rnMap_lawful ρ
  insertError := insertError_comm
  enterScope k := Sema.Comm.bind (symStep_comm _ (.enter k)) fun _ => Sema.Comm.pure rfl
  exitScope := Sema.Comm.bind (symStep_comm _ .exit) fun _ => Sema.Comm.pure rfl
  newBinding n t sp := by
    refine Sema.Comm.bind (symStep_comm _ (.bind n t)) fun o => ?_
    cases o <;> first
      | exact Sema.Comm.pure rfl
      | exact Sema.Comm.fail _
      | exact Sema.Comm.bind (insertError_comm _ _) fun _ => Sema.Comm.pure rfl
  tableLookup n := by
    refine Sema.Comm.bind (symStep_comm _ (.lookup n)) fun o => ?_
    cases o <;> first | exact Sema.Comm.pure rfl | exact Sema.Comm.fail _
  currentScopeType := by
    refine ⟨fun c => ?_⟩
    obtain ⟨prog, errs, ⟨stack, all, counter⟩, cv, anns⟩ := c
    cases stack <;> rfl
  insertConstValue _ _ := ⟨fun _ => rfl⟩
  getConstValue _ := ⟨fun _ => rfl⟩
  pushAnnotation _ := ⟨fun _ => rfl⟩

/-- the empty context (initial symbol table: built-in constants and `U`) is a fixed point -/
theorem rnCtx_empty : rnCtx ρ {} = {} := by
  show ({ symbolTable := rnTab ρ Symbols.init } : Ctx) = { symbolTable := Symbols.init }
  rw [init_rename]

theorem rnNaturalTop (ρ : Ren) : NaturalTop (rnCtx ρ) (rnMap ρ) where
  toNatural := rnNatural ρ
  annotationsIsEmpty := ⟨fun _ => rfl⟩
  takeAnnotations := ⟨fun _ => rfl⟩
  insertStmt _ := ⟨fun _ => rfl⟩
  standardLibraryGates sp := by
    refine ⟨fun c => ?_⟩
    generalize hg : c.symbolTable.standardLibraryGates = g
    have hg' : (rnCtx ρ c).symbolTable.standardLibraryGates = (rnTab ρ g.1, g.2) := by
      simp only [rnCtx, standardLibraryGates_rename, hg]
    rw [standardLibraryGates_eq sp c g hg, standardLibraryGates_eq _ (rnCtx ρ c) _ hg']
    exact ((rnNatural ρ).redeclLoop sp g.2).run { c with symbolTable := g.1 }
  empty := rnCtx_empty

/-- **renaming equivariance**: analysing the renamed program gives the renamed result — same
outcome (normal return, or a panic at the same site), same graph, same ids and types in the symbol
table with the names renamed, same diagnostics (kinds, order and ranges), same constant values -/
theorem rename_equivariant (ρ : Ren) (fuel : Nat) (p : Ast.Program) :
    analyzeWith fuel (renameAst ρ p) = (analyzeWith fuel p).map (renameCtx ρ) :=
  (rnNaturalTop ρ).analyzeWith fuel p

/-- what "up to the renaming" means, field by field -/
theorem rename_equivariant_ok (ρ : Ren) (fuel : Nat) (p : Ast.Program) {c : Ctx}
    (hc : analyzeWith fuel p = .ok c) :
    ∃ c', analyzeWith fuel (renameAst ρ p) = .ok c' ∧ c'.program = c.program ∧
      c'.semanticErrors = c.semanticErrors ∧ c'.constValues = c.constValues ∧
      c'.symbolTable.all = c.symbolTable.all.map (fun s => { s with name := ρ.f s.name }) ∧
      c'.symbolTable.counter = c.symbolTable.counter := by
  refine ⟨renameCtx ρ c, ?_, rfl, rfl, rfl, rfl, rfl⟩
  rw [rename_equivariant, hc]; rfl

/-- panics are preserved too -/
theorem rename_equivariant_error (ρ : Ren) (fuel : Nat) (p : Ast.Program) {e : Outcome}
    (hc : analyzeWith fuel p = .error e) : analyzeWith fuel (renameAst ρ p) = .error e := by
  rw [rename_equivariant, hc]; rfl

theorem fixed_no_underscore : ∀ n ∈ fixedNames, n.toList.head? ≠ some '_' := by decide

/-- `x ↦ _x` on user names, identity on the fixed names -/
def underscoreRen : Ren where
  f s := if s ∈ fixedNames then s else "_" ++ s
  inj := by
    intro a b h
    by_cases ha : a ∈ fixedNames <;> by_cases hb : b ∈ fixedNames <;> simp only [ha, hb, if_true, if_false] at h
    · exact h
    · exact absurd (by rw [h]; simp) (fixed_no_underscore a ha)
    · exact absurd (by rw [← h]; simp) (fixed_no_underscore b hb)
    · have := congrArg String.toList h
      simp only [String.toList_append, List.append_cancel_left_eq] at this
      exact String.ext this
  fix := by intro n h; simp [h]

/-- `qubit q; int a = 1; a = pi;`  (a user qubit, a user variable, a built-in constant) -/
def exampleProgram : Ast.Program :=
  ⟨⟨0, 30⟩,
   [.quantumDeclarationStatement ⟨0, 8⟩ (some ⟨⟨6, 7⟩, "q"⟩) none (some ⟨⟨0, 5⟩, none⟩),
    .classicalDeclarationStatement ⟨9, 19⟩ false (some (.mk ⟨9, 12⟩ .int none none)) false (some ⟨⟨13, 14⟩, "a"⟩)
      (some (.literal ⟨⟨17, 18⟩, .intNumber "1" (some 1)⟩)),
    .assignmentStmt ⟨20, 27⟩ (some ⟨⟨20, 21⟩, "a"⟩) (some (.identifier ⟨⟨24, 26⟩, "pi"⟩)) none]⟩

/-- the renamed program declares `_q` and `_a` and still refers to `pi`; the diagnostic (a float
assigned to an int) is the same, at the same place -/
example :
    (match analyzeWith 60 (renameAst underscoreRen exampleProgram) with
     | .ok c => some (c.symbolTable.all.drop 7 |>.map Sym.name, c.semanticErrors)
     | .error _ => none) = some (["_q", "_a"], [⟨.incompatibleTypesError, 20, 27⟩]) := by rfl

example :
    (match analyzeWith 60 exampleProgram with
     | .ok c => some (c.symbolTable.all.drop 7 |>.map Sym.name, c.semanticErrors)
     | .error _ => none) = some (["q", "a"], [⟨.incompatibleTypesError, 20, 27⟩]) := by rfl

example : analyzeWith 60 (renameAst underscoreRen exampleProgram) =
    (analyzeWith 60 exampleProgram).map (renameCtx underscoreRen) :=
  rename_equivariant _ _ _

end Oq3.C17Rename
