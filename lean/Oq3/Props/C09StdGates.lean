/-
C09 / C13 — the standard library, parametrically in the table.

`Oq3/Gen/StdGates.lean` is translated from `symbols.rs` on every run.  The statements here do not
mention the table's content: for ANY gate table whose names are pairwise distinct and not yet bound in
the current scope, `standard_library_gates` binds every gate, in order, with exactly the arities the
table gives, reports no name as already bound, and afterwards every name of the table resolves to a
gate of exactly that arity.  The side condition is decidable; it is discharged for the translated
table by `decide +kernel`, so an edit of the source table that introduces a duplicate (or a name that
collides with a built-in) fails HERE, at `gen_table_ok`.
-/
import Oq3.Model.Symbols

namespace Oq3.Symbols
open Oq3.Types

/-- the fold of `standard_library_gates` over an arbitrary table, from an arbitrary accumulator -/
def bindGates (gs : List (Name × Nat × Nat)) (t : SymTab) (ns : List Name) : SymTab × List Name :=
  gs.foldl (fun (acc : SymTab × List Name) (g : Name × Nat × Nat) =>
    match acc.1.step (.bind g.1 (T.gate g.2.1 g.2.2)) with
    | (t', .bound _) => (t', acc.2)
    | (t', _) => (t', acc.2 ++ [g.1])) (t, ns)

theorem standardLibraryGates_eq (t : SymTab) : t.standardLibraryGates = bindGates stdGates t [] := rfl

theorem get_insert (s : Scope) (n m : Name) (id : Nat) :
    (s.insert n id).get m = if n = m then some id else s.get m := by
  unfold Scope.insert Scope.get
  by_cases h : n = m
  · subst h; simp
  · have hb : (n == m) = false := by simpa using h
    simp only [List.find?_cons, hb, h, if_false, List.find?_filter]
    congr 2
    funext p
    by_cases hp : p.1 = m
    · have : p.1 ≠ n := fun e => h (e ▸ hp)
      simp [hp, this]
      exact fun e => h e.symm
    · simp [hp]

def TableOk (gs : List (Name × Nat × Nat)) (s : Scope) : Bool :=
  (gs.map (·.1)).Nodup ∧ gs.all (fun g => !(s.containsName g.1))

theorem bindGates_fresh (gs : List (Name × Nat × Nat)) :
    ∀ (t : SymTab) (ns : List Name) (s : Scope) (rest : List Scope),
      t.stack = s :: rest → TableOk gs s = true →
      ∃ s', (bindGates gs t ns).1.stack = s' :: rest ∧
        (bindGates gs t ns).2 = ns ∧
        (bindGates gs t ns).1.all = t.all ++ gs.map (fun g => ⟨g.1, T.gate g.2.1 g.2.2⟩) ∧
        (bindGates gs t ns).1.counter = t.counter + gs.length ∧
        (∀ m, s'.get m =
          match gs.findIdx? (fun g => g.1 == m) with
          | some i => some (t.counter + i)
          | none => s.get m) := by
  induction gs with
  | nil => intro t ns s rest hs _; exact ⟨s, hs, rfl, by simp [bindGates], by simp [bindGates], by intro m; simp⟩
  | cons g gs ih =>
    intro t ns s rest hs hok
    simp only [TableOk, List.map_cons, List.nodup_cons, List.all_cons, Bool.and_eq_true, decide_eq_true_eq,
      Bool.not_eq_true'] at hok
    obtain ⟨⟨hnot, hnd⟩, hfresh, hall⟩ := hok
    have hstep : t.step (.bind g.1 (T.gate g.2.1 g.2.2)) =
        ({ stack := s.insert g.1 t.counter :: rest, all := t.all ++ [⟨g.1, T.gate g.2.1 g.2.2⟩],
           counter := t.counter + 1 }, .bound t.counter) := by
      simp [SymTab.step, hs, hfresh, SymTab.newBindingNoCheck]
    have hunf : bindGates (g :: gs) t ns =
        bindGates gs { stack := s.insert g.1 t.counter :: rest, all := t.all ++ [⟨g.1, T.gate g.2.1 g.2.2⟩],
                       counter := t.counter + 1 } ns := by
      simp only [bindGates, List.foldl_cons, hstep]
    have hok' : TableOk gs (s.insert g.1 t.counter) = true := by
      simp only [TableOk, Bool.and_eq_true, decide_eq_true_eq, List.all_eq_true, Bool.not_eq_true']
      refine ⟨hnd, ?_⟩
      intro x hx
      have hx1 : g.1 ≠ x.1 := fun e => hnot (e ▸ List.mem_map_of_mem hx)
      have := (List.all_eq_true.mp hall) x hx
      simp only [Bool.not_eq_true'] at this
      simp only [Scope.containsName, get_insert, hx1, if_false] at this ⊢
      exact this
    obtain ⟨s', h1, h2, h3, h4, h5⟩ := ih { stack := s.insert g.1 t.counter :: rest, all := t.all ++ [⟨g.1, T.gate g.2.1 g.2.2⟩], counter := t.counter + 1 } ns (s.insert g.1 t.counter) rest rfl hok'
    rw [hunf]
    refine ⟨s', h1, h2, ?_, ?_, ?_⟩
    · rw [h3]; simp
    · rw [h4]; simp; omega
    · intro m
      rw [h5 m]
      by_cases hm : g.1 = m
      · subst hm
        have : gs.findIdx? (fun x => x.1 == g.1) = none := by
          rw [List.findIdx?_eq_none_iff]
          intro x hx
          have : x.1 ≠ g.1 := fun e => hnot (e ▸ List.mem_map_of_mem hx)
          simpa using this
        simp [List.findIdx?_cons, this, get_insert]
      · have hb : (g.1 == m) = false := by simpa using hm
        simp only [List.findIdx?_cons, hb, get_insert, hm, if_false]
        cases gs.findIdx? (fun x => x.1 == m) with
        | none => simp
        | some i => simp; omega

/-- `standard_library_gates` on a table with one scope that binds none of the library's names: nothing is
reported, the symbols appended are exactly the table's gates with the table's arities, in order -/
theorem standardLibraryGates_fresh (t : SymTab) (s : Scope) (rest : List Scope) (hs : t.stack = s :: rest)
    (hok : TableOk stdGates s = true) :
    t.standardLibraryGates.2 = [] ∧
    t.standardLibraryGates.1.all = t.all ++ stdGates.map (fun g => ⟨g.1, T.gate g.2.1 g.2.2⟩) ∧
    t.standardLibraryGates.1.counter = t.counter + stdGates.length := by
  obtain ⟨_, _, h2, h3, h4, _⟩ := bindGates_fresh stdGates t [] s rest hs hok
  rw [standardLibraryGates_eq]; exact ⟨h2, h3, h4⟩

/-- afterwards every gate of the table resolves, from the scope it was bound in, to a symbol that is a gate of
exactly the table's arity (given the table invariant `counter = all.length` of C19) -/
theorem standardLibraryGates_lookup (t : SymTab) (s : Scope) (rest : List Scope) (hs : t.stack = s :: rest)
    (hc : t.counter = t.all.length) (hok : TableOk stdGates s = true)
    (i : Nat) (g : Name × Nat × Nat) (hg : stdGates[i]? = some g) :
    (t.standardLibraryGates.1.step (.lookup g.1)).2 = .found (t.counter + i) g.1 (T.gate g.2.1 g.2.2) := by
  obtain ⟨s', h1, _, h3, _, h5⟩ := bindGates_fresh stdGates t [] s rest hs hok
  rw [standardLibraryGates_eq]
  have hidx : stdGates.findIdx? (fun x => x.1 == g.1) = some i := by
    have hnd : (stdGates.map (·.1)).Nodup := by
      have := hok; simp only [TableOk, Bool.and_eq_true, decide_eq_true_eq] at this; exact this.1
    rw [List.findIdx?_eq_some_iff_getElem]
    have hi : i < stdGates.length := by
      rcases Nat.lt_or_ge i stdGates.length with h | h
      · exact h
      · rw [List.getElem?_eq_none h] at hg; cases hg
    have hgi : stdGates[i] = g := by rw [List.getElem?_eq_getElem hi] at hg; exact Option.some.inj hg
    refine ⟨hi, by simp [hgi], ?_⟩
    intro j hj
    have hjl : j < stdGates.length := Nat.lt_trans hj hi
    have hne : stdGates[j].1 ≠ g.1 := by
      intro e
      have hji : (stdGates.map (·.1))[j]'(by simpa using hjl) = (stdGates.map (·.1))[i]'(by simpa using hi) := by
        simp [e, hgi]
      have : j = i := (List.getElem_inj hnd).mp hji
      omega
    simpa using hne
  have hget : s'.get g.1 = some (t.counter + i) := by rw [h5 g.1, hidx]
  have hlk : (bindGates stdGates t []).1.lookupId g.1 = some (t.counter + i) := by
    simp [SymTab.lookupId, h1, List.findSome?_cons, hget]
  have hall : (bindGates stdGates t []).1.all[t.counter + i]? = some ⟨g.1, T.gate g.2.1 g.2.2⟩ := by
    rw [h3, hc, List.getElem?_append_right (by omega)]
    simp [hg]
  simp [SymTab.step, hlk, hall]

/-- the translated table's names are pairwise distinct and none is a built-in constant or `U` -/
theorem gen_table_ok : TableOk stdGates (init.stack.headD ⟨[], .global⟩) = true := by decide +kernel

/-- hence: `include "stdgates.inc";` in a fresh table reports nothing and binds exactly the translated table -/
theorem stdgates_on_init :
    init.standardLibraryGates.2 = [] ∧
    init.standardLibraryGates.1.all = init.all ++ stdGates.map (fun g => ⟨g.1, T.gate g.2.1 g.2.2⟩) := by
  have hs : init.stack = (init.stack.headD ⟨[], .global⟩) :: [] := by decide +kernel
  have := standardLibraryGates_fresh init _ _ hs gen_table_ok
  exact ⟨this.1, this.2.1⟩

/-- non-vacuity: `cu` is entry 29 of the translated table -/
example : (init.standardLibraryGates.1.step (.lookup "cu")).2 = .found (init.counter + 29) "cu" (T.gate 4 2) :=
  standardLibraryGates_lookup init _ [] (by decide +kernel) (by decide +kernel) gen_table_ok 29 ("cu", 4, 2) (by decide +kernel)

/-- the condition is not vacuous the other way either: a table with a repeated name is rejected by it, and the
model then reports the second occurrence as already bound (this is what a duplicated row in the source would do) -/
example : TableOk [("x", 0, 1), ("x", 1, 1)] ⟨[], .global⟩ = false := by decide
example : (bindGates [("x", 0, 1), ("x", 1, 1)] init []).2 = ["x"] := by decide +kernel

end Oq3.Symbols
