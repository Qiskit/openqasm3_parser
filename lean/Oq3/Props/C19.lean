/-
C19 — the symbol table behaves as a stack of scopes under every operation history.

The history theorems (`inv_run`, `inv_reachable`, `all_prefix_run`, `ids_stable`, `balanced_frame`,
`exit_removes_own`) quantify over arbitrary operation lists (`List Op`, any names, any types); the
induction is over the list, so there is no bound on history length, nesting depth or the number
of symbols.  The others are about one step from any table satisfying `Inv`, which `inv_reachable`
gives for every history.
-/
import Oq3.Model.Symbols

namespace Oq3.Props.C19
open Oq3.Types Oq3.Symbols

theorem get_none_iff (s : Scope) (n : Name) : s.get n = none ↔ ∀ p ∈ s.tab, p.1 ≠ n := by
  unfold Scope.get
  simp [List.find?_eq_none]

theorem filter_of_get_none (s : Scope) (n : Name) (h : s.get n = none) :
    s.tab.filter (fun p => !(p.1 == n)) = s.tab := by
  rw [List.filter_eq_self]
  intro p hp
  have := (get_none_iff s n).mp h p hp
  simp [this]

theorem getElem?_of_prefix {α} {l l' : List α} (h : l <+: l') {i : Nat} {a : α}
    (hs : l[i]? = some a) : l'[i]? = some a := by
  obtain ⟨ext, rfl⟩ := h
  rw [List.getElem?_append_left (List.getElem?_eq_some_iff.mp hs).1]; exact hs

theorem insert_fresh (s : Scope) (n : Name) (id : Nat) (h : s.get n = none) :
    s.insert n id = { s with tab := (n, id) :: s.tab } := by
  unfold Scope.insert; rw [filter_of_get_none s n h]

theorem get_some_mem {s : Scope} {n : Name} {id : Nat} (h : s.get n = some id) :
    (n, id) ∈ s.tab := by
  unfold Scope.get at h
  simp only [Option.map_eq_some_iff] at h
  obtain ⟨p, hp, rfl⟩ := h
  have h1 := List.mem_of_find?_eq_some hp
  have h2 := List.find?_some hp
  simp at h2
  rw [← h2]; exact h1

/-- the stack is non-empty, with exactly one global scope, at the bottom -/
def GlobalBottom (st : List Scope) : Prop :=
  ∃ g rest, st = rest ++ [g] ∧ g.kind = .global ∧ ∀ s ∈ rest, s.kind ≠ .global

structure Inv (t : SymTab) : Prop where
  /-- the id counter moves in lock-step with the symbol vector -/
  counter_eq : t.counter = t.all.length
  /-- every id stored in an open scope is in range and names its key -/
  ids_ok : ∀ s ∈ t.stack, ∀ p ∈ s.tab, (t.all[p.2]?).map (·.name) = some p.1
  /-- one value per key in every open scope -/
  keys_nodup : ∀ s ∈ t.stack, (s.tab.map (·.1)).Nodup
  global_bottom : GlobalBottom t.stack

/-- the state right after `enter_scope(Global)` in `SymbolTable::new` -/
def base : SymTab := { stack := [⟨[], .global⟩], all := [], counter := 0 }

theorem inv_base : Inv base :=
  ⟨rfl, by simp [base], by simp [base], ⟨⟨[], .global⟩, [], by simp [base], rfl, by simp⟩⟩

theorem globalBottom_ne_nil {st : List Scope} (h : GlobalBottom st) : st ≠ [] := by
  obtain ⟨g, rest, rfl, _, _⟩ := h; simp

theorem globalBottom_push {st : List Scope} (h : GlobalBottom st) (k : ScopeType)
    (hk : k ≠ .global) : GlobalBottom (⟨[], k⟩ :: st) := by
  obtain ⟨g, rest, rfl, hg, hr⟩ := h
  refine ⟨g, ⟨[], k⟩ :: rest, by simp, hg, ?_⟩
  intro s hs
  simp only [List.mem_cons] at hs
  rcases hs with rfl | hs
  · exact hk
  · exact hr s hs

theorem globalBottom_tail {st : List Scope} (h : GlobalBottom st) (hl : st.length > 1) :
    GlobalBottom st.tail := by
  obtain ⟨g, rest, rfl, hg, hr⟩ := h
  cases rest with
  | nil => simp at hl
  | cons r rest =>
    exact ⟨g, rest, by simp, hg, fun s hs => hr s (List.mem_cons_of_mem _ hs)⟩

theorem lookupId_none_head {t : SymTab} {n : Name} (h : t.lookupId n = none) :
    ∀ s rest, t.stack = s :: rest → s.get n = none := by
  intro s rest heq
  unfold SymTab.lookupId at h
  rw [heq] at h
  simp only [List.findSome?_cons] at h
  cases hg : s.get n with
  | none => rfl
  | some _ => simp [hg] at h

theorem newBinding_eq {t t' : SymTab} {n : Name} {ty : T} {id : Nat}
    (hb : t.newBindingNoCheck n ty = some (t', id)) :
    ∃ s rest, t.stack = s :: rest ∧
      t' = { stack := s.insert n t.counter :: rest, all := t.all ++ [⟨n, ty⟩],
             counter := t.counter + 1 } ∧ id = t.counter := by
  unfold SymTab.newBindingNoCheck at hb
  split at hb
  · simp at hb
  · rename_i s rest heq
    simp only [Option.some.injEq, Prod.mk.injEq] at hb
    exact ⟨s, rest, heq, hb.1.symm, hb.2.symm⟩

/-- the one change `bind` and `lookupOrNew` make to a table: `n`, which the current scope did not bind, is bound there
to the next id -/
def Binds (t : SymTab) (n : Name) (ty : T) (r : SymTab × Out) : Prop :=
  ∃ s rest, t.stack = s :: rest ∧ s.get n = none ∧
    r = ({ stack := { s with tab := (n, t.counter) :: s.tab } :: rest, all := t.all ++ [⟨n, ty⟩],
           counter := t.counter + 1 }, .bound t.counter)

theorem binds_of_newBinding {t t' : SymTab} {n : Name} {ty : T} {id : Nat}
    (hfresh : ∀ s rest, t.stack = s :: rest → s.get n = none)
    (hb : t.newBindingNoCheck n ty = some (t', id)) : Binds t n ty (t', .bound id) := by
  obtain ⟨s, rest, hst, rfl, rfl⟩ := newBinding_eq hb
  exact ⟨s, rest, hst, hfresh s rest hst, by rw [insert_fresh s n _ (hfresh s rest hst)]⟩

theorem step_bind (t : SymTab) (n : Name) (ty : T) :
    ((t.step (.bind n ty)).1 = t ∧ ∀ id, (t.step (.bind n ty)).2 ≠ .bound id) ∨
    Binds t n ty (t.step (.bind n ty)) := by
  simp only [SymTab.step]
  split
  · exact .inl ⟨rfl, fun _ h => nomatch h⟩
  · rename_i s rest heq
    split
    · exact .inl ⟨rfl, fun _ h => nomatch h⟩
    · rename_i hc
      split
      · rename_i hb
        refine .inr (binds_of_newBinding (fun s' rest' heq' => ?_) hb)
        rw [heq] at heq'; cases heq'; simpa [Scope.containsName] using hc
      · exact .inl ⟨rfl, fun _ h => nomatch h⟩

theorem step_lookupOrNew (t : SymTab) (n : Name) (ty : T) :
    ((t.step (.lookupOrNew n ty)).1 = t ∧ ∀ id, (t.step (.lookupOrNew n ty)).2 = .bound id → t.all[id]? ≠ none) ∨
    Binds t n ty (t.step (.lookupOrNew n ty)) := by
  simp only [SymTab.step]
  split
  · split
    · rename_i hsym
      exact .inl ⟨rfl, fun id h => by cases h; rw [hsym]; exact fun h => nomatch h⟩
    · exact .inl ⟨rfl, fun _ h => nomatch h⟩
  · rename_i hl
    split
    · rename_i hb
      exact .inr (binds_of_newBinding (lookupId_none_head hl) hb)
    · exact .inl ⟨rfl, fun _ h => nomatch h⟩

theorem Inv.binds {t : SymTab} {n : Name} {ty : T} {r : SymTab × Out} (h : Inv t) (hb : Binds t n ty r) :
    Inv r.1 := by
  obtain ⟨s, rest, heq, hf, rfl⟩ := hb
  refine ⟨by simp [h.counter_eq], ?_, ?_, ?_⟩
  · intro s' hs' p hp
    simp only [List.mem_cons] at hs'
    have old : ∀ s'' ∈ t.stack, ∀ p ∈ s''.tab,
        ((t.all ++ [⟨n, ty⟩])[p.2]?).map (·.name) = some p.1 := by
      intro s'' hs'' p hp
      obtain ⟨a, ha, hn⟩ := Option.map_eq_some_iff.mp (h.ids_ok s'' hs'' p hp)
      rw [getElem?_of_prefix (List.prefix_append _ _) ha]; exact congrArg some hn
    rcases hs' with rfl | hs'
    · simp only [List.mem_cons] at hp
      rcases hp with rfl | hp
      · simp [h.counter_eq]
      · exact old s (by rw [heq]; simp) p hp
    · exact old s' (by rw [heq]; simp [hs']) p hp
  · intro s' hs'
    simp only [List.mem_cons] at hs'
    rcases hs' with rfl | hs'
    · simp only [List.map_cons, List.nodup_cons]
      refine ⟨?_, h.keys_nodup s (by rw [heq]; simp)⟩
      intro hmem
      simp only [List.mem_map] at hmem
      obtain ⟨p, hp, hpn⟩ := hmem
      exact (get_none_iff s n).mp hf p hp hpn
    · exact h.keys_nodup s' (by rw [heq]; simp [hs'])
  · have := h.global_bottom
    rw [heq] at this
    obtain ⟨g, rest', hst, hg, hr⟩ := this
    cases rest' with
    | nil =>
      simp only [List.nil_append, List.cons.injEq] at hst
      obtain ⟨rfl, rfl⟩ := hst
      exact ⟨_, [], rfl, hg, by simp⟩
    | cons r rest' =>
      simp only [List.cons_append, List.cons.injEq] at hst
      obtain ⟨rfl, rfl⟩ := hst
      refine ⟨g, { tab := (n, t.counter) :: s.tab, kind := s.kind } :: rest', rfl, hg, ?_⟩
      intro s' hs'
      simp only [List.mem_cons] at hs'
      rcases hs' with rfl | hs'
      · exact hr s (by simp)
      · exact hr s' (by simp [hs'])

theorem inv_newBinding {t t' : SymTab} {n : Name} {ty : T} {id : Nat} (h : Inv t)
    (hfresh : ∀ s rest, t.stack = s :: rest → s.get n = none)
    (hb : t.newBindingNoCheck n ty = some (t', id)) : Inv t' :=
  h.binds (binds_of_newBinding hfresh hb)

theorem inv_step (t : SymTab) (op : Op) (h : Inv t) : Inv (t.step op).1 := by
  cases op with
  | enter k =>
    simp only [SymTab.step]
    split
    · exact h
    · rename_i hc
      refine ⟨h.counter_eq, ?_, ?_, ?_⟩
      · intro s hs p hp
        simp only [List.mem_cons] at hs
        rcases hs with rfl | hs
        · simp at hp
        · exact h.ids_ok s hs p hp
      · intro s hs
        simp only [List.mem_cons] at hs
        rcases hs with rfl | hs
        · simp
        · exact h.keys_nodup s hs
      · have hne := globalBottom_ne_nil h.global_bottom
        have hk : k ≠ .global := by
          intro hk; apply hc
          refine ⟨hk, ?_⟩
          cases hst : t.stack with
          | nil => exact absurd hst hne
          | cons a b => simp
        exact globalBottom_push h.global_bottom k hk
  | exit =>
    simp only [SymTab.step]
    split
    · rename_i hl
      refine ⟨h.counter_eq, ?_, ?_, globalBottom_tail h.global_bottom hl⟩
      · intro s hs p hp
        exact h.ids_ok s (List.mem_of_mem_tail hs) p hp
      · intro s hs
        exact h.keys_nodup s (List.mem_of_mem_tail hs)
    · exact h
  | bind n ty =>
    rcases step_bind t n ty with ⟨e, _⟩ | hb
    · rw [e]; exact h
    · exact h.binds hb
  | lookup n =>
    simp only [SymTab.step]
    split
    · split <;> exact h
    · exact h
  | lookupOrNew n ty =>
    rcases step_lookupOrNew t n ty with ⟨e, _⟩ | hb
    · rw [e]; exact h
    · exact h.binds hb
  | lenCurrent =>
    simp only [SymTab.step]
    split <;> exact h


/-- **Invariant, every reachable state**: any history from any state satisfying the invariant. -/
theorem inv_run (t : SymTab) (ops : List Op) (h : Inv t) : Inv (run t ops) := by
  induction ops generalizing t with
  | nil => exact h
  | cons op ops ih => exact ih _ (inv_step t op h)

/-- `SymbolTable::new()` satisfies the invariant … -/
theorem inv_init : Inv init := by
  have : init = run base
      (builtinConsts.map (fun n => Op.bind n (T.float (some 64) true)) ++
        [Op.bind "U" (T.gate 3 1)]) := by
    simp [init, run, SymTab.step, empty, base, Gen.builtinConstWidth, Gen.builtinConstIsConst, Gen.builtinGate]
  rw [this]; exact inv_run _ _ inv_base

/-- … hence so does every state reachable from it by any history. -/
theorem inv_reachable (ops : List Op) : Inv (run init ops) := inv_run _ _ inv_init

/-! ### look-up = innermost open scope that has a binding -/

/-- `lookup` answers with the binding of the innermost open scope that has one. -/
theorem lookup_innermost (t : SymTab) (n : Name) (id : Nat) :
    t.lookupId n = some id ↔
      ∃ pre s post, t.stack = pre ++ s :: post ∧ (∀ s' ∈ pre, s'.get n = none) ∧
        s.get n = some id := by
  unfold SymTab.lookupId
  generalize t.stack = st
  induction st with
  | nil => simp
  | cons s0 st ih =>
    simp only [List.findSome?_cons]
    cases hg : s0.get n with
    | none =>
      simp only [ih]
      constructor
      · rintro ⟨pre, s, post, rfl, hpre, hs⟩
        refine ⟨s0 :: pre, s, post, by simp, ?_, hs⟩
        intro s' hs'
        simp only [List.mem_cons] at hs'
        rcases hs' with rfl | hs'
        · exact hg
        · exact hpre s' hs'
      · rintro ⟨pre, s, post, heq, hpre, hs⟩
        cases pre with
        | nil =>
          simp only [List.nil_append, List.cons.injEq] at heq
          obtain ⟨rfl, rfl⟩ := heq
          rw [hg] at hs; simp at hs
        | cons p pre =>
          simp only [List.cons_append, List.cons.injEq] at heq
          obtain ⟨rfl, rfl⟩ := heq
          exact ⟨pre, s, post, rfl, fun s' hs' => hpre s' (List.mem_cons_of_mem _ hs'), hs⟩
    | some v =>
      constructor
      · intro h
        simp only [Option.some.injEq] at h
        subst h
        exact ⟨[], s0, st, rfl, by simp, hg⟩
      · rintro ⟨pre, s, post, heq, hpre, hs⟩
        cases pre with
        | nil =>
          simp only [List.nil_append, List.cons.injEq] at heq
          obtain ⟨rfl, rfl⟩ := heq
          rw [hg] at hs; exact hs
        | cons p pre =>
          simp only [List.cons_append, List.cons.injEq] at heq
          obtain ⟨rfl, rfl⟩ := heq
          have := hpre s0 (by simp)
          rw [hg] at this; simp at this

theorem lookup_none_iff (t : SymTab) (n : Name) :
    t.lookupId n = none ↔ ∀ s ∈ t.stack, s.get n = none := by
  unfold SymTab.lookupId; simp [List.findSome?_eq_none_iff]

/-- Under the invariant a look-up never panics and returns the symbol named `n`. -/
theorem lookup_sound (t : SymTab) (h : Inv t) (n : Name) :
    ((t.step (.lookup n)).2 = .missing ∧ t.lookupId n = none) ∨
    ∃ id ty, (t.step (.lookup n)).2 = .found id n ty ∧ t.lookupId n = some id ∧
      t.all[id]? = some ⟨n, ty⟩ := by
  simp only [SymTab.step]
  cases hl : t.lookupId n with
  | none => left; simp
  | some id =>
    right
    obtain ⟨pre, s, post, heq, _, hs⟩ := (lookup_innermost t n id).mp hl
    have := h.ids_ok s (by rw [heq]; simp) (n, id) (get_some_mem hs)
    simp only [Option.map_eq_some_iff] at this
    obtain ⟨sym, hsym, hname⟩ := this
    refine ⟨id, sym.ty, ?_, rfl, ?_⟩
    · simp [hsym, hname]
    · rw [hsym]; cases sym; simp_all

/-- a binding fails if and only if the *current* scope already has that name -/
theorem bind_fails_iff (t : SymTab) (n : Name) (ty : T) (s : Scope) (rest : List Scope)
    (hst : t.stack = s :: rest) :
    (t.step (.bind n ty)).2 = .alreadyBound ↔ s.get n ≠ none := by
  simp only [SymTab.step, hst, Scope.containsName, SymTab.newBindingNoCheck]
  cases hg : s.get n <;> simp

/-- a successful binding returns the next fresh id, appends exactly one symbol with the given
name and type, pushes exactly one entry on the current scope and overwrites nothing -/
theorem bind_ok (t : SymTab) (h : Inv t) (n : Name) (ty : T) (s : Scope) (rest : List Scope)
    (hst : t.stack = s :: rest) (hg : s.get n = none) :
    t.step (.bind n ty) =
      ({ stack := { s with tab := (n, t.all.length) :: s.tab } :: rest,
         all := t.all ++ [⟨n, ty⟩], counter := t.all.length + 1 }, .bound t.all.length) := by
  simp only [SymTab.step, hst, Scope.containsName, hg, SymTab.newBindingNoCheck]
  simp [insert_fresh s n _ hg, h.counter_eq]

/-- `lookup_or_new_binding`: an existing visible binding is returned, otherwise a fresh one is
made in the current scope, again without overwriting -/
theorem lookupOrNew_ok (t : SymTab) (h : Inv t) (n : Name) (ty : T) (s : Scope)
    (rest : List Scope) (hst : t.stack = s :: rest) (hl : t.lookupId n = none) :
    t.step (.lookupOrNew n ty) =
      ({ stack := { s with tab := (n, t.all.length) :: s.tab } :: rest,
         all := t.all ++ [⟨n, ty⟩], counter := t.all.length + 1 }, .bound t.all.length) := by
  have hg := lookupId_none_head hl s rest hst
  simp only [SymTab.step, hl, hst, SymTab.newBindingNoCheck]
  simp [insert_fresh s n _ hg, h.counter_eq]

/-! ### ids are unique, never reused, and denote the same symbol for ever -/

theorem all_prefix_step (t : SymTab) (op : Op) : t.all <+: (t.step op).1.all := by
  cases op with
  | enter k => simp only [SymTab.step]; split <;> exact List.prefix_refl _
  | exit => simp only [SymTab.step]; split <;> exact List.prefix_refl _
  | lookup n => simp only [SymTab.step]; (repeat' split) <;> exact List.prefix_refl _
  | lenCurrent => simp only [SymTab.step]; split <;> exact List.prefix_refl _
  | bind n ty =>
    rcases step_bind t n ty with ⟨e, _⟩ | ⟨_, _, _, _, e⟩ <;> rw [e]
    · exact List.prefix_refl _
    · exact List.prefix_append _ _
  | lookupOrNew n ty =>
    rcases step_lookupOrNew t n ty with ⟨e, _⟩ | ⟨_, _, _, _, e⟩ <;> rw [e]
    · exact List.prefix_refl _
    · exact List.prefix_append _ _

theorem all_prefix_run (t : SymTab) (ops : List Op) : t.all <+: (run t ops).all := by
  induction ops generalizing t with
  | nil => exact List.prefix_refl _
  | cons op ops ih => exact (all_prefix_step t op).trans (ih _)

/-- an id that denotes a symbol keeps denoting the same name and type after any history
(also after its scope has been closed) -/
theorem ids_stable (t : SymTab) (ops : List Op) (id : Nat) (sym : Sym)
    (h : t.all[id]? = some sym) : (run t ops).all[id]? = some sym :=
  getElem?_of_prefix (all_prefix_run t ops) h

/-- an id answered with `bound` is either the id of the visible binding that `lookupOrNew` found (table
unchanged) or new: the length of the symbol vector, which only grows -/
theorem fresh_id (t : SymTab) (h : Inv t) (op : Op) (id : Nat)
    (hb : (t.step op).2 = .bound id) :
    (t.all[id]? ≠ none ∧ (t.step op).1 = t) ∨
    (id = t.all.length ∧ (t.step op).1.all.length = t.all.length + 1) := by
  cases op with
  | bind n ty =>
    rcases step_bind t n ty with ⟨_, hne⟩ | ⟨_, _, _, _, e⟩
    · exact absurd hb (hne id)
    · rw [e] at hb ⊢; cases hb
      exact .inr ⟨h.counter_eq, by simp⟩
  | lookupOrNew n ty =>
    rcases step_lookupOrNew t n ty with ⟨e, hr⟩ | ⟨_, _, _, _, e⟩
    · exact .inl ⟨hr id hb, e⟩
    · rw [e] at hb ⊢; cases hb
      exact .inr ⟨h.counter_eq, by simp⟩
  | enter k => simp only [SymTab.step] at hb; split at hb <;> simp at hb
  | exit => simp only [SymTab.step] at hb; split at hb <;> simp at hb
  | lookup n => simp only [SymTab.step] at hb; (repeat' split at hb) <;> simp at hb
  | lenCurrent => simp only [SymTab.step] at hb; split at hb <;> simp at hb

/-! ### scope exit removes exactly the scope's own bindings -/

/-- `exit_scope` panics exactly when only the global scope is open -/
theorem exit_panics_iff (t : SymTab) : (t.step .exit).2 = .panic ↔ t.stack.length ≤ 1 := by
  simp only [SymTab.step]; split <;> simp <;> omega

theorem step_exit_stack (t : SymTab) (h : t.stack.length > 1) :
    (t.step .exit).1.stack = t.stack.tail := by
  simp only [SymTab.step, h, if_true]

theorem step_enter_stack (t : SymTab) (k : ScopeType) (hk : k ≠ .global) :
    (t.step (.enter k)).1.stack = ⟨[], k⟩ :: t.stack := by
  simp [SymTab.step, hk]

/-- histories whose exits never close a scope that was open before the history started -/
def Balanced : Nat → List Op → Bool
  | d, [] => d == 0
  | d, .enter _ :: ops => Balanced (d + 1) ops
  | 0, .exit :: _ => false
  | d + 1, .exit :: ops => Balanced d ops
  | d, _ :: ops => Balanced d ops

/-- Frame lemma. A history that opened `d` scopes more than it closed on entry and is balanced
leaves every scope below those `d` untouched except that the scope it started in may have
gained bindings — existing entries of that scope are never removed or changed. -/
theorem balanced_frame (d : Nat) (ops : List Op) (t : SymTab) (inner : List Scope) (s : Scope)
    (rest : List Scope) (hb : Balanced d ops = true) (hd : inner.length = d)
    (hst : t.stack = inner ++ s :: rest) (hk : ∀ k, Op.enter k ∈ ops → k ≠ .global) :
    ∃ s', (run t ops).stack = s' :: rest ∧ s'.kind = s.kind ∧ s.tab <:+ s'.tab := by
  induction ops generalizing d t inner s with
  | nil =>
    simp only [Balanced, beq_iff_eq] at hb
    subst hb
    have : inner = [] := List.eq_nil_of_length_eq_zero hd
    subst this
    exact ⟨s, by simpa [run] using hst, rfl, List.suffix_refl _⟩
  | cons op ops ih =>
    have hk' : ∀ k, Op.enter k ∈ ops → k ≠ .global := fun k hk0 => hk k (List.mem_cons_of_mem _ hk0)
    -- a new binding lands in the scope the history started in (`inner = []`) or in one above it
    have binds : ∀ n ty op, Balanced d ops = true → Binds t n ty (t.step op) →
        ∃ s', (run (t.step op).1 ops).stack = s' :: rest ∧ s'.kind = s.kind ∧ s.tab <:+ s'.tab := by
      intro n ty op hb' ⟨s0, rest0, hst0, _, e⟩
      have hs1 : (t.step op).1.stack = { s0 with tab := (n, t.counter) :: s0.tab } :: rest0 := by rw [e]
      rw [hst] at hst0
      cases inner with
      | nil =>
        have h0 : s0 = s ∧ rest0 = rest := by simpa using hst0.symm
        rw [h0.1, h0.2] at hs1
        obtain ⟨s', h1, h2, h3⟩ := ih d _ [] { s with tab := (n, t.counter) :: s.tab } hb' hd hs1 hk'
        exact ⟨s', h1, h2, (List.suffix_cons _ _).trans h3⟩
      | cons i inner =>
        have h0 : s0 = i ∧ rest0 = inner ++ s :: rest := by simpa using hst0.symm
        rw [h0.1, h0.2] at hs1
        exact ih d _ ({ i with tab := (n, t.counter) :: i.tab } :: inner) s hb' (by simpa using hd) hs1 hk'
    cases op with
    | enter k =>
      simp only [Balanced] at hb
      have hkg : k ≠ .global := hk k (by simp)
      have hstep : (t.step (.enter k)).1.stack = (⟨[], k⟩ :: inner) ++ s :: rest := by
        rw [step_enter_stack t k hkg, hst]; rfl
      exact ih (d + 1) _ (⟨[], k⟩ :: inner) s hb (by simp [hd]) hstep hk'
    | exit =>
      cases d with
      | zero => simp [Balanced] at hb
      | succ d =>
        simp only [Balanced] at hb
        cases inner with
        | nil => simp at hd
        | cons i inner =>
          have hlen : t.stack.length > 1 := by rw [hst]; simp; omega
          have hstep : (t.step .exit).1.stack = inner ++ s :: rest := by
            rw [step_exit_stack t hlen, hst]; rfl
          exact ih d _ inner s hb (by simpa using hd) hstep hk'
    | bind n ty =>
      have hb' : Balanced d ops = true := by cases d <;> simpa [Balanced] using hb
      rcases step_bind t n ty with ⟨e, _⟩ | hbd
      · simp only [run, e]; exact ih d t inner s hb' hd hst hk'
      · exact binds n ty _ hb' hbd
    | lookup n =>
      have hb' : Balanced d ops = true := by cases d <;> simpa [Balanced] using hb
      have : (t.step (.lookup n)).1 = t := by
        simp only [SymTab.step]; (repeat' split) <;> rfl
      simp only [run, this]
      exact ih d t inner s hb' hd hst hk'
    | lenCurrent =>
      have hb' : Balanced d ops = true := by cases d <;> simpa [Balanced] using hb
      have : (t.step .lenCurrent).1 = t := by
        simp only [SymTab.step]; (repeat' split) <;> rfl
      simp only [run, this]
      exact ih d t inner s hb' hd hst hk'
    | lookupOrNew n ty =>
      have hb' : Balanced d ops = true := by cases d <;> simpa [Balanced] using hb
      rcases step_lookupOrNew t n ty with ⟨e, _⟩ | hbd
      · simp only [run, e]; exact ih d t inner s hb' hd hst hk'
      · exact binds n ty _ hb' hbd

/-- **Exit removes exactly the scope's own bindings.** Entering a scope, running any balanced
history inside it and exiting restores the stack exactly (while the symbols created inside
stay addressable by id: `ids_stable`). -/
theorem exit_removes_own (t : SymTab) (k : ScopeType) (hk : k ≠ .global) (ops : List Op)
    (hb : Balanced 0 ops = true) (hk' : ∀ k, Op.enter k ∈ ops → k ≠ .global)
    (hne : t.stack ≠ []) :
    (run t (Op.enter k :: ops ++ [Op.exit])).stack = t.stack := by
  obtain ⟨s0, rest0, hst⟩ := List.exists_cons_of_ne_nil hne
  have h1 : (t.step (.enter k)).1.stack = [] ++ ⟨[], k⟩ :: t.stack := by
    rw [step_enter_stack t k hk]; rfl
  obtain ⟨s', hs', _, _⟩ := balanced_frame 0 ops _ [] ⟨[], k⟩ t.stack hb rfl h1 hk'
  have hrun : ∀ (a : SymTab) (xs ys : List Op), run a (xs ++ ys) = run (run a xs) ys := by
    intro a xs ys; induction xs generalizing a with
    | nil => rfl
    | cons x xs ih => exact ih _
  show (run (t.step (.enter k)).1 (ops ++ [Op.exit])).stack = t.stack
  rw [hrun]
  have hlen : (run (t.step (.enter k)).1 ops).stack.length > 1 := by rw [hs', hst]; simp
  show ((run (t.step (.enter k)).1 ops).step .exit).1.stack = t.stack
  rw [step_exit_stack _ hlen, hs']; rfl

theorem initial_builtins :
    init.all.map (fun s => (s.name, s.ty)) =
      [("pi", T.float (some 64) true), ("π", T.float (some 64) true),
       ("euler", T.float (some 64) true), ("ℇ", T.float (some 64) true),
       ("tau", T.float (some 64) true), ("τ", T.float (some 64) true), ("U", T.gate 3 1)] ∧
    init.stack.length = 1 ∧
    (∀ n ∈ builtinConsts ++ ["U"], init.lookupId n ≠ none) := by
  refine ⟨?_, ?_, ?_⟩ <;>
    simp [init, run, SymTab.step, empty, builtinConsts, Gen.builtinConsts, Gen.builtinConstWidth, Gen.builtinConstIsConst,
      Gen.builtinGate, SymTab.newBindingNoCheck, Scope.containsName, Scope.get, Scope.insert, SymTab.lookupId]

/-! ### non-vacuity -/

example : Balanced 0 [.bind "a" (T.int none false), .enter .localS, .bind "a" T.qubit, .exit,
    .lookup "a"] = true := by decide

end Oq3.Props.C19
