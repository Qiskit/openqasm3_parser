/-
C04 — a recursive reference language is accepted with zero diagnostics, by INDUCTION over the
language (programs of arbitrary size and nesting depth).

LANGUAGE (`Oq3.LangEv.Stmt` / `Stmts`, `Lemmas/LangEv.lean`), over token kinds:
  E (expressions, `Oq3.PrattEv.E`): identifier | integer literal | 19 binary operators | 3 prefix
      operators | parentheses — arbitrary depth, canonical (minimal parentheses) for the implementation's table
  S ::= ty x ;  | ty[E] x ;  | ty x = E ;  | ty[E] x = E ;        (ty ∈ int uint float angle bit bool)
      | x = E ;            (E not a bare binary expression: F06)   | x = measure q ;
      | E ;  | g q0, …, qn ;  | g(E, …, E) q0, …, qn ;  | measure q ;  | reset q ;  | barrier q0, …, qn ;
      | break ; | continue ; | end ;
      | if (E) { S* }  | if (E) { S* } else { S* }  | while (E) { S* }  | for ty x in [E:E] { S* }
      | gate g q0, …, qn { S* }  | gate g(p0, …, pk) q0, …, qn { S* }
      | def f(pty x, …) { S* }  | def f(pty x, …) -> ty { S* }      (pty ∈ ty ∪ {qubit}; the list may be empty)
      | return ;  | return E ;

THEOREMS.
* `stmt_ok` / `stmts_ok` (`Lemmas/LangEvAccept.lean`, mutual induction; the statement lemmas are those of the extended
  language (`Lemmas/LangEv2Stmt`, `LangEv2Flat`, `LangEv2Ctl`) at the image of the statement (`Lemmas/LangEvEmbed.lean`), and `Lemmas/LangEvStmt.lean`
  for `measure q;` and `x = measure q;`): every well-formed statement /
  statement list is accepted by `stmt` / the statement loop FROM ANY READY STATE (`RdyF 8`, as in `Props/C04Lang2.lean`), with exactly the
  events `evsS` / `evsL` — so they compose with any context.
* `program_accepted`: for every well-formed program `p` and every `fuel ≥ needL p + 3`,
  `parseSourceFile` on the print of `p` returns the events `evsP p` (= `Start SOURCE_FILE`, the
  events of the statements, `Finish`) and has consumed every token; `evsP p` contains no `Error`
  event (`evsP_errorFree`).
* `program_cst` (via `process`): the step sequence is the pre-order node sequence `nodesP p` of the
  derivation — C05's "the AST mirrors the derivation" for whole programs.

WELL-FORMEDNESS `WFL` — exactly the side conditions the grammar needs:
* every expression (initialisers, designators, conditions, range bounds, gate arguments, `return` values,
  expression statements) is canonical at level 1 (`Canon implTab 1`, `Props/C05Events.lean: canonE_iff`);
* F06: the right-hand side of `x = rhs;` is canonical at level 12 — not a bare binary expression
  (`= `has binding power 12; identifier, literal, prefix and parenthesised expressions qualify);
  the rejection of `x = a + b;` is the separate witness `Props/C04.lean: witness_assign_binary_rhs`;
* F09e: a statement that follows an assignment does not start with `-` (the assignment would
  continue as a binary expression, `Props/C16.lean: witness_assign_then_minus`); `!` is harmless;
* a designator `[w]` only on types that take one (`bool` does not).
Not needed: a condition after an else-less `if` (no statement of the language starts with `else`).
Top level: the language has neither `;` (F09a) nor `let` (F09b) statements, the two places where
`item` and `stmt` differ; `sfc_ok` goes through `item` for item-first statements and through the
fall-through to the statement loop for the others (`Props/C16.lean` (D3)).
-/
import Oq3.Lemmas.LangEvAccept
import Oq3.Props.C05Events
import Oq3.Props.C04

set_option linter.unusedSimpArgs false

namespace Oq3.LangEv
open Oq3.Gen Oq3.Parser

theorem AccV.of_accepts {x : G Unit} {s : P} {n : Nat} {E : List Ev} (h : Oq3.Props.C04.Accepts x s n E) :
    Acc x s n E := by
  obtain ⟨_, sb, hx⟩ := h
  exact ⟨0, sb, Nat.zero_le _, hx⟩

end Oq3.LangEv

namespace Oq3.Props.C04Lang
open Oq3.Gen Oq3.Parser Oq3.Grammar Oq3.PrattEv Oq3.LangEv

def kindsOf (ts : List Tok) : Array SyntaxKind := (ts.map (·.1)).toArray
def jointOf (ts : List Tok) : Array Bool := (ts.map (·.2)).toArray

theorem Toks_of_get (s : P) (ts : List Tok) : ∀ (q : Nat),
    (∀ i (h : i < ts.length), s.kindAt (q + i) = (ts[i]).1 ∧ ((ts[i]).2 = true → s.joint.getD (q + i) false = true)) →
    Toks s q ts := by
  induction ts with
  | nil => intro q _; trivial
  | cons t ts ih =>
    intro q h
    obtain ⟨k, j⟩ := t
    refine ⟨(h 0 (by simp)).1, (h 0 (by simp)).2, ih (q + 1) ?_⟩
    intro i hi
    have := h (i + 1) (by simp; omega)
    simpa [Nat.add_assoc, Nat.add_comm 1 i] using this

def initState (ts : List Tok) : P := { kinds := kindsOf ts, joint := jointOf ts }

theorem initState_toks (ts : List Tok) : Toks (initState ts) 0 ts := by
  apply Toks_of_get
  intro i hi
  simp [initState, kindsOf, jointOf, P.kindAt, hi]

theorem initState_eof (ts : List Tok) : (initState ts).kindAt ts.length = .EOF := by
  simp [initState, kindsOf, P.kindAt]

open Oq3.Props.C05Events (errorFree errorFree_append evs_errorFree body_errorFree)

theorem qubitEvs_errorFree (n : Nat) : errorFree (qubitEvs n) = true := by
  induction n with
  | zero => rfl
  | succ n ih => simp [qubitEvs, errorFree, ih]

theorem argEvs_errorFree (as : List E) : errorFree (argEvs as) = true := by
  induction as with
  | nil => rfl
  | cons a as ih =>
    cases as with
    | nil => simp [argEvs, evs_errorFree]
    | cons b bs => simp [argEvs, errorFree_append, evs_errorFree, errorFree, ih]

theorem paramEvs_errorFree (n : Nat) : errorFree (paramEvs n) = true := by
  induction n with
  | zero => rfl
  | succ n ih => simp [paramEvs, errorFree, ih]

theorem typedEvs_errorFree (ps : List PTy) : errorFree (typedEvs ps) = true := by
  induction ps with
  | nil => rfl
  | cons p ps ih =>
    cases ps with
    | nil => rfl
    | cons q qs => simp [typedEvs, errorFree, ih]

theorem retEvs_errorFree (ret : Option Ty) : errorFree (retEvs ret) = true := by
  cases ret <;> rfl

theorem tyEvs_errorFree (ty : Ty) (w : Option E) : errorFree (tyEvs ty w) = true := by
  cases w <;> simp [tyEvs, errorFree, errorFree_append, evs_errorFree]

mutual
theorem evsS_errorFree : ∀ st : Stmt, errorFree (evsS st) = true
  | .decl ty w none => by simp [evsS, errorFree, errorFree_append, tyEvs_errorFree]
  | .decl ty w (some e) => by simp [evsS, errorFree, errorFree_append, tyEvs_errorFree, evs_errorFree]
  | .assign rhs => by simp [evsS, errorFree, errorFree_append, evs_errorFree, tombLink]
  | .exprS e => by simp [evsS, errorFree, errorFree_append, body_errorFree, tombLink, exprStmtTail]
  | .gate [] nq => by simp [evsS, errorFree, errorFree_append, qubitEvs_errorFree, tombLink, exprStmtTail]
  | .gate (a :: as) nq => by
    simp [evsS, errorFree, errorFree_append, qubitEvs_errorFree, argEvs_errorFree, tombLink, exprStmtTail]
  | .measure => rfl
  | .assignMeasure => rfl
  | .reset => rfl
  | .barrier nq => by simp [evsS, errorFree, errorFree_append, qubitEvs_errorFree]
  | .brk => rfl
  | .cont => rfl
  | .endS => rfl
  | .ifS c thn => by
    simp [evsS, blockEvs, errorFree, errorFree_append, evs_errorFree, evsL_errorFree thn]
  | .ifElse c thn els => by
    simp [evsS, blockEvs, errorFree, errorFree_append, evs_errorFree, evsL_errorFree thn, evsL_errorFree els]
  | .whileS c body => by
    simp [evsS, blockEvs, errorFree, errorFree_append, evs_errorFree, evsL_errorFree body]
  | .forS ty lo hi body => by
    simp [evsS, blockEvs, errorFree, errorFree_append, evs_errorFree, evsL_errorFree body]
  | .gateDef none nq body => by
    simp [evsS, blockEvs, errorFree, errorFree_append, paramEvs_errorFree, evsL_errorFree body]
  | .gateDef (some k) nq body => by
    simp [evsS, blockEvs, errorFree, errorFree_append, paramEvs_errorFree, evsL_errorFree body]
  | .defS ps ret body => by
    simp [evsS, blockEvs, errorFree, errorFree_append, typedEvs_errorFree, retEvs_errorFree, evsL_errorFree body]
  | .ret none => rfl
  | .ret (some e) => by simp [evsS, errorFree, errorFree_append, evs_errorFree, tombLink, exprStmtTail]
theorem evsL_errorFree : ∀ ss : Stmts, errorFree (evsL ss) = true
  | .nil => rfl
  | .cons st ss => by simp [evsL, errorFree_append, evsS_errorFree st, evsL_errorFree ss]
end

/-- the events of a program contain no `Error` event -/
theorem evsP_errorFree (p : Stmts) : errorFree (evsP p) = true := by
  simp [evsP, errorFree, errorFree_append, evsL_errorFree]

/-- **Every well-formed program of the reference language is accepted**: `parseSourceFile` on its
print succeeds (no panic, no `DropBomb`), returns exactly the events `evsP p` and has consumed
every token — for every fuel above the explicit bound. -/
theorem program_accepted (p : Stmts) (hwf : WFL p) (fuel : Nat) (hf : needL p + 3 ≤ fuel) :
    parseSourceFile fuel (kindsOf (toksL p)) (jointOf (toksL p)) = .ok ((evsP p).toArray, (toksL p).length) := by
  have hr : Oq3.LangEv2.RdyF 9 (initState (toksL p)) :=
    ⟨rfl, (by show 0 + 9 ≤ 15000000; decide), (by intro p hp; cases hp), (by show 8 ≤ 15000000; decide)⟩
  obtain ⟨st, sb, hrun⟩ := sourceFile_ok p fuel (initState (toksL p)) hf hr
    (by have := initState_toks (toksL p); exact this)
    (by have := initState_eof (toksL p); show (initState (toksL p)).kindAt (0 + _) = _; rw [Nat.zero_add]; exact this) hwf
  unfold parseSourceFile parseWith
  show (match sourceFile fuel (initState (toksL p)) with | .ok (_, s) => _ | .error e => _) = _
  rw [hrun]
  simp [P.ov, initState]

/-- **the CST of a program mirrors its derivation**: `process` turns the events of the program into
the pre-order node sequence `nodesP p` (for every program, well-formed or not: this is a fact about
the event encoding) -/
theorem program_cst (p : Stmts) : process (evsP p) = some (nodesP p) := process_evsP p

/-- acceptance, absence of diagnostics and shape of the CST in one statement -/
theorem program_accepted_cst (p : Stmts) (hwf : WFL p) (fuel : Nat) (hf : needL p + 3 ≤ fuel) :
    ∃ ev, parseSourceFile fuel (kindsOf (toksL p)) (jointOf (toksL p)) = .ok (ev, (toksL p).length) ∧
      errorFree ev.toList = true ∧ process ev.toList = some (nodesP p) :=
  ⟨_, program_accepted p hwf fuel hf, by simpa using evsP_errorFree p, by simpa using program_cst p⟩

/-- the well-formedness conditions on expressions are the canonicity of `Props/C05.lean` -/
theorem canonE_iff (t : E) (bp : Nat) : CanonE bp t ↔ Oq3.Props.C05.Canon Oq3.Pratt.implTab bp t.toPratt :=
  Oq3.Props.C05Events.canonE_iff t bp

/-- ```
int[8] x = a + 1 * (b);
for uint i in [1:x] { if (i <= -1) { x = -i; h q, r; } else { rx(x / 1) q; break; } }
while (!x) { c = measure q; }
gate g(t) a, b { rx(t) a; h b; }
def f(int n, qubit q) -> bit { c = measure q; return c; }
``` -/
def demo : Stmts :=
  .cons (.decl .int (some .int) (some (.bin .plus .id (.bin .star .int (.paren .id)))))
  (.cons (.forS .uint .int .id
    (.cons (.ifElse (.bin .lteq .id (.pre .minus .int))
        (.cons (.assign (.pre .minus .id)) (.cons (.gate [] 1) .nil))
        (.cons (.gate [.bin .slash .id .int] 0) (.cons .brk .nil))) .nil))
  (.cons (.whileS (.pre .bang .id) (.cons .assignMeasure .nil))
  (.cons (.gateDef (some 0) 1 (.cons (.gate [.id] 0) (.cons (.gate [] 0) .nil)))
  (.cons (.defS [.cls .int, .qubit] (some .bit) (.cons .assignMeasure (.cons (.ret (some .id)) .nil))) .nil))))

theorem demo_wf : WFL demo := by
  simp [demo, WFL, WFS, CanonE, BinOp.pow, isAssign, startsMinus, Ty.wide]

theorem demo_accepted (fuel : Nat) (h : needL demo + 3 ≤ fuel) :
    parseSourceFile fuel (kindsOf (toksL demo)) (jointOf (toksL demo)) = .ok ((evsP demo).toArray, (toksL demo).length) :=
  program_accepted demo demo_wf fuel h

end Oq3.Props.C04Lang
