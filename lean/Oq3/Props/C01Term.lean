/-
C01, termination clause: PROGRESS and the FUEL BOUND of the grammar model.

`Lemmas/GrammarProg.lean` (`allProg`) states for every function `f` of `Oq3/Model/Grammar.lean`:

  if   rank f + 20 * (tokens left) ≤ fuel
  then `f fuel …` does not fail with `Outcome.fuel`; the position never moves backwards, never
       passes the end of the input, the input is not changed (`Adv`), and `f` consumes at least
       one token under its progress condition (`AllProg`).

`rank f` (1 … 18) is the height of `f` in the graph "g is called by f before f has consumed a
token" (tools/rank_edges.py).  That this graph is acyclic, and that every call outside it happens
after a token was consumed, is exactly what the proof checks (the path analysis of
`Lemmas/GrammarWork*.lean`, of which `allProg` keeps the fuel and progress clauses for arbitrary hang
limits): a loop that could iterate without consuming a token and without exiting would make the walk
of its body (`…_wk`) fail at the recursive call, whose rank is not below its own.  None does (with the repair F01 of `param_typed` / `scalar_type`,
which is part of the model).

Consequences proved here:

* `parse_never_out_of_fuel` : fuel `20 * n + 18` is enough for every input of `n` tokens.
* `parse_returns_or_hangs_fuel` : with that fuel the parse RETURNS a well-formed event stream,
  unless one of the two hang detectors fires (`Parser::nth` step limit, `oq3_verif` hook).
* per-loop progress lemmas (`loop_*`): the body of each `while`/`loop` of the grammar consumes
  a token whenever the loop continues.
* FINDING (hook false positive): the `oq3_verif` no-progress hook counts events since the last
  `bump`.  Unwinding `k` unclosed `(` at end of input pushes `3k+4` events without a bump, so for
  EVERY limit `N` there is a terminating parse on which the hook fires: `hook_fires_on_terminating_parse`
  (10 tokens, limit 30; confirmed on the instrumented Rust parser with 700 × `(` and a constant
  limit of 2000: `PANIC …/parser.rs:317 oq3_verif: no progress`, while 600 × `(` parses).
  Hence no constant limit `N` works; the hook's limit is linear in the input (2000 + 64 per token).
-/
import Oq3.Lemmas.GrammarProg
import Oq3.Props.C01Safe
set_option linter.unusedVariables false
set_option linter.unusedSimpArgs false

namespace Oq3.Props.C01Term
open Oq3.Gen Oq3.Parser Oq3.Grammar Oq3.Props.C01Safe

/-- fuel that suffices for `n` tokens: `fuelA * n + fuelB` -/
def fuelA : Nat := 20
def fuelB : Nat := 18

/-- `source_file`: never out of fuel, the position only advances -/
theorem sourceFile_prog (fuel : Nat) (s : P) (hpre : 18 + 20 * s.kinds.size ≤ fuel + 20 * s.pos ∧ s.pos ≤ s.kinds.size) :
    wp A3 (sourceFile fuel) (fun _ s' => Adv s s') s :=
  wp_conseq (wp_prog_of_work (sourceFile_closed limMono_closed fuel) (fun _ _ _ _ h => h) (fun _ _ h => h)
    (sourceFile_spec sysSB fuel) s hpre.2 hpre.1) fun _ _ h => h.1

theorem init_fuel (fuel : Nat) (kinds : Array SyntaxKind) (joint : Array Bool) (npl : Nat)
    (hf : fuelA * kinds.size + fuelB ≤ fuel) :
    18 + 20 * (init kinds joint npl).kinds.size ≤ fuel + 20 * (init kinds joint npl).pos ∧
      (init kinds joint npl).pos ≤ (init kinds joint npl).kinds.size := by
  show 18 + 20 * kinds.size ≤ fuel + 20 * 0 ∧ 0 ≤ kinds.size
  simp only [fuelA, fuelB] at hf; omega

theorem grammar_never_out_of_fuel (fuel : Nat) (kinds : Array SyntaxKind) (joint : Array Bool) (npl : Nat)
    (hf : fuelA * kinds.size + fuelB ≤ fuel) : sourceFile fuel (init kinds joint npl) ≠ .error .fuel := by
  intro h
  exact error_of_wp (sourceFile_prog fuel _ (init_fuel fuel kinds joint npl hf)) h rfl

/-- **Fuel bound.**  `20 * n + 18` units of fuel are enough for every input of `n` tokens, whatever
the limit of the no-progress hook: the model never reports `Outcome.fuel`. -/
theorem parse_never_out_of_fuel (fuel : Nat) (kinds : Array SyntaxKind) (joint : Array Bool) (npl : Nat)
    (hf : fuelA * kinds.size + fuelB ≤ fuel) : parseSourceFile fuel kinds joint npl ≠ .error .fuel := by
  intro h
  unfold parseSourceFile parseWith at h
  simp only [StateT.run] at h
  split at h
  · split at h <;> cases h
  · rename_i e he
    injection h with h
    subst h
    exact grammar_never_out_of_fuel fuel kinds joint npl hf he

/-- with enough fuel the parse returns a well-formed event stream, or one of the two hang
detectors fires -/
theorem parse_returns_or_hangs_fuel (fuel : Nat) (kinds : Array SyntaxKind) (joint : Array Bool) (npl : Nat)
    (hf : fuelA * kinds.size + fuelB ≤ fuel) :
    (∃ events pos, parseSourceFile fuel kinds joint npl = .ok (events, pos) ∧
        ParseOk kinds joint events.toList pos) ∨
    parseSourceFile fuel kinds joint npl = .error (.panic "Parser::nth the parser seems stuck") ∨
    parseSourceFile fuel kinds joint npl = .error (.panic "oq3_verif: no progress") := by
  rcases parse_returns_or_hangs fuel kinds joint npl with h | h | h | h
  · exact Or.inl h
  · exact absurd h (parse_never_out_of_fuel fuel kinds joint npl hf)
  · exact Or.inr (Or.inl h)
  · exact Or.inr (Or.inr h)

theorem sourceFile_pos (fuel : Nat) (kinds : Array SyntaxKind) (joint : Array Bool) (npl : Nat)
    (hf : fuelA * kinds.size + fuelB ≤ fuel) (u : Unit) (s' : P)
    (h : sourceFile fuel (init kinds joint npl) = .ok (u, s')) :
    s'.kinds = kinds ∧ s'.joint = joint ∧ s'.pos ≤ kinds.size := by
  have ha : Adv (init kinds joint npl) s' :=
    ok_of_wp (Q := fun _ s' => Adv (init kinds joint npl) s') (sourceFile_prog fuel _ (init_fuel fuel kinds joint npl hf)) h
  refine ⟨ha.kinds, ha.joint, ?_⟩
  have h1 := ha.inb
  have h2 := ha.size
  have h3 : (init kinds joint npl).pos = 0 := rfl
  have h4 : (init kinds joint npl).kinds.size = kinds.size := rfl
  omega

/-! ### per-loop progress: the body of every loop consumes a token whenever the loop continues

Run-level readings of the fields of `allProg`.  `fuel` is the fuel handed to the body by the loop
(any value that is large enough for the rest of the input). -/

/-- `source_file_contents`: `item` consumes a token unless the loop condition is false -/
theorem loop_sourceFileContents (fuel : Nat) (stop : Bool) (s s' : P) (u : Unit)
    (hf : 17 + 20 * s.kinds.size ≤ fuel + 20 * s.pos ∧ s.pos ≤ s.kinds.size)
    (hc : (atF .EOF s.kinds s.joint s.pos || (atF .R_CURLY s.kinds s.joint s.pos && stop)) = false)
    (h : item fuel stop s = .ok (u, s')) : s.pos < s'.pos :=
  (ok_of_wp ((allProg fuel).item stop s hf) h).2 hc

/-- `expr_block_statements`: `stmt` consumes a token unless the current token is `}` or EOF -/
theorem loop_exprBlockStatements (fuel : Nat) (s s' : P) (u : Unit)
    (hf : 15 + 20 * s.kinds.size ≤ fuel + 20 * s.pos ∧ s.pos ≤ s.kinds.size)
    (hc : atomHalt (s.kindAt s.pos) = false) (h : stmt fuel s = .ok (u, s')) : s.pos < s'.pos :=
  (ok_of_wp ((allProg fuel).stmt s hf) h).2 hc

/-- `delimited`: the element parser returns `true` only after consuming a token -/
theorem loop_delimited (fuel : Nat) (p : DelimitedParser) (s s' : P)
    (hf : 12 + 20 * s.kinds.size ≤ fuel + 20 * s.pos ∧ s.pos ≤ s.kinds.size)
    (h : delimitedParser fuel p s = .ok (true, s')) : s.pos < s'.pos :=
  (ok_of_wp ((allProg fuel).delimitedParser p s hf) h).2 rfl

/-- `tuple_expr`, `array_expr`, dimension list: `expr` returns `Some` only after consuming a token -/
theorem loop_expr (fuel : Nat) (s s' : P) (cm : CompletedMarker)
    (hf : 11 + 20 * s.kinds.size ≤ fuel + 20 * s.pos ∧ s.pos ≤ s.kinds.size)
    (h : expr fuel s = .ok (some cm, s')) : s.pos < s'.pos :=
  (ok_of_wp ((allProg fuel).expr s hf) h).2.1 rfl

/-- `postfix_expr`: a call / index suffix consumes a token -/
theorem loop_postfixExpr_call (fuel : Nat) (lhs : CompletedMarker) (s s' : P) (cm : CompletedMarker)
    (hf : 2 + 20 * s.kinds.size ≤ fuel + 20 * s.pos ∧ s.pos ≤ s.kinds.size)
    (h : callExpr fuel lhs s = .ok (cm, s')) : s.pos < s'.pos :=
  (ok_of_wp ((allProg fuel).callExpr lhs s hf) h).2

/-- `indexed_identifier`: each index operator consumes a token -/
theorem loop_indexedIdentifier (fuel : Nat) (s s' : P) (u : Unit)
    (hf : 1 + 20 * s.kinds.size ≤ fuel + 20 * s.pos ∧ s.pos ≤ s.kinds.size)
    (h : indexOperator fuel s = .ok (u, s')) : s.pos < s'.pos :=
  (ok_of_wp ((allProg fuel).indexOperator s hf) h).2

/-! ### FINDING: the no-progress hook fires on terminating parses -/

def parens (k : Nat) : Array SyntaxKind := Array.replicate k .L_PAREN

/-- ten unclosed `(`: the parse terminates (64 events, all 10 tokens consumed) … -/
theorem parens10_terminates :
    (parseSourceFile 218 (parens 10) (Array.replicate 10 false) 0).toOption.map (fun r => (r.1.size, r.2))
      = some (64, 10) := by decide +kernel

/-- … also with the hook armed at 40 events … -/
theorem parens10_terminates_40 :
    (parseSourceFile 218 (parens 10) (Array.replicate 10 false) 40).toOption.map (fun r => (r.1.size, r.2))
      = some (64, 10) := by decide +kernel

/-- … but a hook limit of 30 events reports "no progress": while the 10 open `tuple_expr` frames
are unwound at end of input, 34 events are pushed and no token is left to bump. -/
theorem hook_fires_on_terminating_parse :
    (match parseSourceFile 218 (parens 10) (Array.replicate 10 false) 30 with
     | .error (.panic site) => some site
     | _ => none) = some "oq3_verif: no progress" := by decide +kernel

end Oq3.Props.C01Term
