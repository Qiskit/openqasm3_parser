/-
C03 — totality on the ENLARGED fragment, part 1: expressions and operands.

Expression fragment `T2.suppE` (decidable, purely syntactic), at arbitrary depth:
literals (int / float / bool / bit string with a value), timing and imaginary literals, identifiers,
hardware qubits, parenthesised expressions, every binary operator whose arm of
`binary_op_to_asg_type` does not panic (the ten arithmetic/bit operators, `==`, `!=`, `++`, `**`),
unary minus (on an int/float literal, on an imaginary literal, or on any other fragment expression
that is not a timing literal), casts `ty(e)` to a fragment scalar type, indexed identifiers and
index expressions with expression-list or set indices (ranges allowed inside), `measure op`,
`return` / `return e`, range expressions.

Fuel: uniform size-based bound — a call `f fuel a` succeeds when `2 * size a + 1 + c_f ≤ fuel`
(`size` = the node-count functions of `Model/Ast.lean`; `c_f = 1` for the two wrappers that call
another function on the very same argument, else `0`).

`allE : ∀ fuel, AllE fuel` — the eleven expression-level functions of the mutual block, by induction
on the fuel.
-/
import Oq3.Props.C03Total

namespace Oq3.Sema.T2
open Oq3 Oq3.Sema Oq3.Types Oq3.Symbols Oq3.Props

def suppBinOp : Ast.BinaryOp → Bool
  | .arithOp _ => true
  | .cmpOp (.eq _) => true
  | .concatenationOp => true
  | .powerOp => true
  | _ => false

/-- int / float literal with a value (operand of unary minus, payload of a timing literal) -/
def suppNumLiteral (l : Ast.Literal) : Bool :=
  match l.kind with
  | .intNumber text _ => (TokenExt.intValueS text).isSome
  | .floatNumber _ fmt => fmt.isSome
  | _ => false

mutual
def suppE : Ast.Expr → Bool
  | .literal l => suppLiteral l
  | .identifier _ => true
  | .hardwareQubit _ => true
  | .parenExpr p => suppParen p
  | .binExpr _ (some op) l r => suppBinOp op && (suppOptE l && suppOptE r)
  | .prefixExpr _ (some .neg) (some (.literal l)) => suppNumLiteral l
  | .prefixExpr _ (some .neg) (some (.timingLiteral _ (some .imaginary) _ (some l))) => suppNumLiteral l
  | .prefixExpr _ (some .neg) (some (.timingLiteral ..)) => false
  | .prefixExpr _ (some .neg) e => suppOptE e
  | .timingLiteral _ (some _) _ (some l) => suppNumLiteral l
  | .castExpression _ (some st) e => suppScalarType st && suppOptE e
  | .indexedIdentifier ii => suppII ii
  | .indexExpr _ e (some io) => suppOptE e && suppIO io
  | .measureExpression _ (some op) => suppOp op
  | .returnExpr _ e => suppOptE0 e
  | .rangeExpr r => suppRange r
  | _ => false
def suppParen : Ast.ParenExpr → Bool
  | .mk _ e => suppOptE e
def suppRange : Ast.RangeExpr → Bool
  | .mk _ a b c => suppOptE a && (suppOptE0 b && suppOptE c)
def suppOptE : Option Ast.Expr → Bool
  | some e => suppE e
  | none => false
def suppOptE0 : Option Ast.Expr → Bool
  | some e => suppE e
  | none => true
def suppEs : List Ast.Expr → Bool
  | [] => true
  | e :: es => suppE e && suppEs es
def suppEL : Ast.ExpressionList → Bool
  | .mk _ es => suppEs es
def suppOptEL : Option Ast.ExpressionList → Bool
  | some el => suppEL el
  | none => false
def suppSet : Ast.SetExpression → Bool
  | .mk _ el => suppOptEL el
def suppIK : Ast.IndexKind → Bool
  | .setExpression s => suppSet s
  | .expressionList el => suppEL el
def suppOptIK : Option Ast.IndexKind → Bool
  | some k => suppIK k
  | none => false
def suppIO : Ast.IndexOperator → Bool
  | .mk _ k => suppOptIK k
def suppIOs : List Ast.IndexOperator → Bool
  | [] => true
  | i :: is => suppIO i && suppIOs is
def suppII : Ast.IndexedIdentifier → Bool
  | .mk _ (some _) ixs => suppIOs ixs
  | .mk _ none _ => false
def suppOp : Ast.GateOperand → Bool
  | .identifier _ => true
  | .hardwareQubit _ => true
  | .indexedIdentifier ii => suppII ii
end

theorem binaryOpToAsgType_succ (op : Ast.BinaryOp) (h : suppBinOp op = true) :
    Succ Any (binaryOpToAsgType op) := by
  unfold suppBinOp at h
  split at h <;> first | (simp at h; done) | skip
  · unfold binaryOpToAsgType; exact Succ.pure _ trivial
  · rename_i b; unfold binaryOpToAsgType; cases b <;> exact Succ.pure _ trivial
  · unfold binaryOpToAsgType; exact Succ.pure _ trivial
  · unfold binaryOpToAsgType; exact Succ.pure _ trivial

theorem quantumBinopCheck_succ (left right : TExpr) (l r : Ast.Expr) :
    Succ Any (quantumBinopCheck left right (some l) (some r)) :=
  Succ.of_runs (Pres.closed.quantumBinopCheck _ _ _ _)
    (fun s _ => ⟨(), _, C13.quantumBinopCheck_run left right l r s, trivial⟩)

theorem returnGlobalCheck_succ (node : Ast.Span) : Succ Any (returnGlobalCheck node) := by
  unfold returnGlobalCheck
  refine Succ.bindAny currentScopeType_succ (fun k => ?_)
  split
  · exact insertError_succ _ _
  · exact Succ.pure _ trivial

/-- `-lit` on an int / float literal with a value -/
theorem negLiteral_succ {α} (l : Ast.Literal) (h : suppNumLiteral l = true)
    (kf : String → α) (ki : Nat → α) (site : String) :
    Succ (fun (r : Option α) => r.isSome = true)
      (match l.kind with
        | .floatNumber _ fmt => do pure (some (kf (← negativeFloatNumberToAsgType fmt)))
        | .intNumber text _ => do pure (some (ki (← negativeIntToAsgType text)))
        | _ => fail site) := by
  unfold suppNumLiteral at h
  cases hk : l.kind <;> simp only [hk] at h ⊢
  case intNumber text v =>
    unfold negativeIntToAsgType
    exact Succ.bindAny (intNumberValue_succ _ _ h) (fun _ => Succ.pure _ rfl)
  case floatNumber text fmt =>
    obtain ⟨v, rfl⟩ := Option.isSome_iff_exists.mp h
    unfold negativeFloatNumberToAsgType
    refine Succ.bindAny (?_ : Succ Any _) (fun _ => Succ.pure _ rfl)
    exact Succ.unwrap_bind (Succ.pure _ trivial)
  all_goals simp at h


/-- payload of a timing / imaginary literal -/
theorem numLiteral_succ {α} (l : Ast.Literal) (h : suppNumLiteral l = true)
    (ki : Nat → α) (kf : String → α) (s1 s2 s3 : String) :
    Succ (fun (r : Option α) => r.isSome = true)
      (match l.kind with
        | .intNumber text _ => do
          let num ← intNumberValue s1 text
          pure (some (ki num))
        | .floatNumber _ fmt => do
          let num ← unwrap s2 fmt
          pure (some (kf num))
        | _ => fail s3) := by
  unfold suppNumLiteral at h
  cases hk : l.kind <;> simp only [hk] at h ⊢
  case intNumber text v =>
    exact Succ.bindAny (intNumberValue_succ _ _ h) (fun _ => Succ.pure _ rfl)
  case floatNumber text fmt =>
    obtain ⟨v, rfl⟩ := Option.isSome_iff_exists.mp h
    exact Succ.unwrap_bind (Succ.pure _ rfl)
  all_goals simp at h

theorem suppOptE_some {o : Option Ast.Expr} (h : suppOptE o = true) : ∃ e, o = some e ∧ suppE e = true := by
  cases o with
  | none => simp [suppOptE] at h
  | some e => exact ⟨e, rfl, by simpa [suppOptE] using h⟩

structure AllE (fuel : Nat) : Prop where
  expr : ∀ e, suppE e = true → 2 * e.size + 1 ≤ fuel → Succ IsSome (exprToAsgTexpr fuel (some e))
  paren : ∀ p, suppParen p = true → 2 * p.size + 1 ≤ fuel → Succ IsSome (parenExprToAsgTexpr fuel p)
  exprs : ∀ es, suppEs es = true → 2 * Ast.exprsSize es + 1 ≤ fuel → Succ Any (exprsLoop fuel es)
  elT : ∀ el, suppEL el = true → 2 * el.size + 1 ≤ fuel → Succ Any (expressionListToAsgTexpr fuel el)
  elTy : ∀ el, suppEL el = true → 2 * el.size + 2 ≤ fuel → Succ Any (expressionListToAsgType fuel el)
  set : ∀ se, suppSet se = true → 2 * se.size + 1 ≤ fuel → Succ Any (setExpressionToAsgType fuel se)
  io : ∀ io, suppIO io = true → 2 * io.size + 1 ≤ fuel → Succ Any (indexOperatorToAsgType fuel io)
  ios : ∀ l, suppIOs l = true → 2 * Ast.indexOperatorsSize l + 1 ≤ fuel →
    Succ Any (indexOperatorsLoop fuel l)
  ii : ∀ ii, suppII ii = true → 2 * ii.size + 1 ≤ fuel → Succ Any (indexedIdentifierToAsgType fuel ii)
  op : ∀ op, suppOp op = true → 2 * op.size + 1 ≤ fuel → Succ Any (gateOperandToAsgTexpr fuel op)
  range : ∀ r, suppRange r = true → 2 * r.size + 1 ≤ fuel → Succ Any (rangeExpressionToAsgType fuel r)

theorem AllE.opt0 {fuel : Nat} (h : AllE fuel) (o : Option Ast.Expr) (hs : suppOptE0 o = true)
    (hf : 2 * Ast.optExprSize o + 1 ≤ fuel) : Succ Any (exprToAsgTexpr fuel o) := by
  cases o with
  | none =>
    obtain ⟨f, rfl⟩ : ∃ f, fuel = f + 1 := ⟨fuel - 1, by omega⟩
    exact exprToAsgTexpr_none f
  | some e =>
    exact (h.expr e (by simpa [suppOptE0] using hs) (by simpa [Ast.optExprSize] using hf)).mono
      (fun _ _ => trivial)

theorem AllE.optE {fuel : Nat} (h : AllE fuel) (o : Option Ast.Expr) (hs : suppOptE o = true)
    (hf : 2 * Ast.optExprSize o + 1 ≤ fuel) : Succ IsSome (exprToAsgTexpr fuel o) := by
  obtain ⟨e, rfl, he⟩ := suppOptE_some hs
  exact h.expr e he (by simpa [Ast.optExprSize] using hf)


attribute [simp] Ast.Expr.size Ast.ParenExpr.size Ast.RangeExpr.size Ast.Designator.size
  Ast.ScalarType.size Ast.ExpressionList.size Ast.SetExpression.size Ast.IndexKind.size
  Ast.IndexOperator.size Ast.IndexedIdentifier.size Ast.GateOperand.size Ast.QubitList.size
  Ast.ArgList.size Ast.GateCallExpr.size Ast.GPhaseCallExpr.size Ast.Modifier.size Ast.optExprSize
  Ast.exprsSize Ast.optParenExprSize Ast.optDesignatorSize Ast.optScalarTypeSize
  Ast.optExpressionListSize Ast.optIndexKindSize Ast.optIndexOperatorSize Ast.indexOperatorsSize
  Ast.optGateOperandSize Ast.gateOperandsSize Ast.optQubitListSize Ast.optArgListSize
  Ast.optGateCallExprSize Ast.optGPhaseCallExprSize Ast.modifiersSize

/-- the fuel side conditions: the node-count functions (simp lemmas from here on) unfold in the fuel
hypothesis and in the goal, then `omega`; a `simp only` with their names costs thirty times as much
at each call, to build the set -/
macro "fuel_ok" : tactic => `(tactic| (simp at *; omega))

theorem paren_step (fuel : Nat) (ih : AllE fuel) (p : Ast.ParenExpr) (hs : suppParen p = true)
    (hf : 2 * p.size + 1 ≤ fuel + 1) : Succ IsSome (parenExprToAsgTexpr (fuel + 1) p) := by
  cases p with
  | mk sp e =>
    simp only [suppParen] at hs
    unfold parenExprToAsgTexpr
    exact ih.optE e hs (by fuel_ok)

theorem exprs_step (fuel : Nat) (ih : AllE fuel) (es : List Ast.Expr) (hs : suppEs es = true)
    (hf : 2 * Ast.exprsSize es + 1 ≤ fuel + 1) : Succ Any (exprsLoop (fuel + 1) es) := by
  cases es with
  | nil => unfold exprsLoop; exact Succ.pure _ trivial
  | cons x rest =>
    simp only [suppEs, Bool.and_eq_true] at hs
    exact exprsLoop_cons (ih.expr x hs.1 (by fuel_ok)) (ih.exprs rest hs.2 (by fuel_ok))

theorem elT_step (fuel : Nat) (ih : AllE fuel) (el : Ast.ExpressionList) (hs : suppEL el = true)
    (hf : 2 * el.size + 1 ≤ fuel + 1) : Succ Any (expressionListToAsgTexpr (fuel + 1) el) := by
  cases el with
  | mk sp es =>
    simp only [suppEL] at hs
    unfold expressionListToAsgTexpr
    exact ih.exprs es hs (by fuel_ok)

theorem elTy_step (fuel : Nat) (ih : AllE fuel) (el : Ast.ExpressionList) (hs : suppEL el = true)
    (hf : 2 * el.size + 2 ≤ fuel + 1) : Succ Any (expressionListToAsgType (fuel + 1) el) := by
  unfold expressionListToAsgType
  exact ih.elT el hs (by omega)

theorem set_step (fuel : Nat) (ih : AllE fuel) (se : Ast.SetExpression) (hs : suppSet se = true)
    (hf : 2 * se.size + 1 ≤ fuel + 1) : Succ Any (setExpressionToAsgType (fuel + 1) se) := by
  cases se with
  | mk sp el =>
    cases el with
    | none => simp [suppSet, suppOptEL] at hs
    | some el =>
      simp only [suppSet, suppOptEL] at hs
      unfold setExpressionToAsgType
      dsimp only
      refine Succ.unwrap_bind ?_
      exact ih.elT _ hs (by fuel_ok)

theorem io_step (fuel : Nat) (ih : AllE fuel) (io : Ast.IndexOperator) (hs : suppIO io = true)
    (hf : 2 * io.size + 1 ≤ fuel + 1) : Succ Any (indexOperatorToAsgType (fuel + 1) io) := by
  cases io with
  | mk sp k =>
    cases k with
    | none => simp [suppIO, suppOptIK] at hs
    | some k =>
      simp only [suppIO, suppOptIK] at hs
      cases k with
      | setExpression se =>
        simp only [suppIK] at hs
        unfold indexOperatorToAsgType
        dsimp only
        refine Succ.unwrap_bind ?_
        dsimp only
        exact Succ.bindAny (ih.set se hs (by fuel_ok)) (fun _ => Succ.pure _ trivial)
      | expressionList el =>
        simp only [suppIK] at hs
        exact indexOperator_list (ih.elTy el hs (by fuel_ok))

theorem ios_step (fuel : Nat) (ih : AllE fuel) (l : List Ast.IndexOperator) (hs : suppIOs l = true)
    (hf : 2 * Ast.indexOperatorsSize l + 1 ≤ fuel + 1) : Succ Any (indexOperatorsLoop (fuel + 1) l) := by
  cases l with
  | nil => unfold indexOperatorsLoop; exact Succ.pure _ trivial
  | cons x rest =>
    simp only [suppIOs, Bool.and_eq_true] at hs
    exact indexOperatorsLoop_cons (ih.io x hs.1 (by fuel_ok)) (ih.ios rest hs.2 (by fuel_ok))

theorem ii_step (fuel : Nat) (ih : AllE fuel) (ii : Ast.IndexedIdentifier) (hs : suppII ii = true)
    (hf : 2 * ii.size + 1 ≤ fuel + 1) : Succ Any (indexedIdentifierToAsgType (fuel + 1) ii) := by
  cases ii with
  | mk sp i ixs =>
    cases i with
    | none => simp [suppII] at hs
    | some i =>
      simp only [suppII] at hs
      exact indexedIdentifier_step (ih.ios ixs hs (by fuel_ok))

theorem op_step (fuel : Nat) (ih : AllE fuel) (op : Ast.GateOperand) (hs : suppOp op = true)
    (hf : 2 * op.size + 1 ≤ fuel + 1) : Succ Any (gateOperandToAsgTexpr (fuel + 1) op) := by
  refine gateOperand_step (fun ii h => ?_)
  subst h
  simp only [suppOp] at hs
  exact ih.ii ii hs (by fuel_ok)

theorem range_step (fuel : Nat) (ih : AllE fuel) (r : Ast.RangeExpr) (hs : suppRange r = true)
    (hf : 2 * r.size + 1 ≤ fuel + 1) : Succ Any (rangeExpressionToAsgType (fuel + 1) r) := by
  cases r with
  | mk sp a b c =>
    simp only [suppRange, Bool.and_eq_true] at hs
    obtain ⟨ha, hb, hc⟩ := hs
    unfold rangeExpressionToAsgType
    dsimp only
    refine Succ.bindSome (ih.optE a ha (by fuel_ok)) (fun t => ?_)
    refine Succ.unwrap_bind ?_
    refine Succ.bindSome (ih.optE c hc (by fuel_ok)) (fun t2 => ?_)
    refine Succ.unwrap_bind ?_
    exact Succ.bindAny (ih.opt0 b hb (by fuel_ok)) (fun _ => Succ.pure _ trivial)


theorem expr_step (fuel : Nat) (ih : AllE fuel) (e : Ast.Expr) (hs : suppE e = true)
    (hf : 2 * e.size + 1 ≤ fuel + 1) : Succ IsSome (exprToAsgTexpr (fuel + 1) (some e)) := by
  unfold suppE at hs
  split at hs
  · -- literal
    exact exprToAsgTexpr_succ fuel (.literal _) hs
  · -- identifier
    exact exprToAsgTexpr_succ fuel (.identifier _) rfl
  · -- hardware qubit
    unfold exprToAsgTexpr; exact Succ.pure _ rfl
  · -- ( e )
    rename_i p
    unfold exprToAsgTexpr
    exact ih.paren p hs (by fuel_ok)
  · -- binary operator
    rename_i sp op l r
    simp only [Bool.and_eq_true] at hs
    obtain ⟨hop, hl, hr⟩ := hs
    obtain ⟨l', rfl, hl'⟩ := suppOptE_some hl
    obtain ⟨r', rfl, hr'⟩ := suppOptE_some hr
    unfold exprToAsgTexpr
    dsimp only
    refine Succ.unwrap_bind ?_
    refine Succ.bindAny (binaryOpToAsgType_succ _ hop) (fun aop => ?_)
    refine Succ.bindSome (ih.expr l' hl' (by fuel_ok)) (fun lt => ?_)
    refine Succ.unwrap_bind ?_
    refine Succ.bindSome (ih.expr r' hr' (by fuel_ok)) (fun rt => ?_)
    refine Succ.unwrap_bind ?_
    refine Succ.bindAny (quantumBinopCheck_succ _ _ _ _) (fun _ => ?_)
    exact Succ.pure _ rfl
  · -- - literal
    rename_i sp l
    unfold exprToAsgTexpr
    dsimp only
    exact negLiteral_succ l hs _ _ _
  · -- - imaginary literal
    rename_i sp s2 it l
    unfold exprToAsgTexpr
    dsimp only
    refine Succ.unwrap_bind ?_
    dsimp only
    refine Succ.unwrap_bind ?_
    exact negLiteral_succ _ hs _ _ _
  · simp at hs
  · -- - e
    rename_i sp x hnl hni hnt
    obtain ⟨x', rfl, hx'⟩ := suppOptE_some hs
    have hgen : Succ IsSome (do
        let e ← exprToAsgTexpr fuel (some x')
        let e ← unwrap "expr_to_asg_texpr: unary minus operand unwrap() on None" e
        pure (some (unaryExprToTexpr .minus e))) := by
      refine Succ.bindSome (ih.expr x' hx' (by fuel_ok)) (fun t => ?_)
      refine Succ.unwrap_bind ?_
      exact Succ.pure _ rfl
    unfold exprToAsgTexpr
    dsimp only
    cases x' <;> first
      | exact hgen
      | (exact absurd rfl (hnl _))
      | (exact absurd rfl (hnt _ _ _ _))
      | (exfalso; unfold suppE at hx'; simp at hx'; done)
  · -- timing / imaginary literal
    rename_i sp u it l
    unfold exprToAsgTexpr
    dsimp only
    refine Succ.unwrap_bind ?_
    refine Succ.unwrap_bind ?_
    split
    · exact numLiteral_succ _ hs _ _ _ _ _
    · exact numLiteral_succ _ hs _ _ _ _ _
  · -- cast
    rename_i sp st inner
    simp only [Bool.and_eq_true] at hs
    unfold exprToAsgTexpr
    dsimp only
    refine Succ.unwrap_bind ?_
    refine Succ.bindAny (scalarTypeToType_succ _ true hs.1) (fun typ => ?_)
    refine Succ.bindSome (ih.optE inner hs.2 (by fuel_ok)) (fun t => ?_)
    refine Succ.unwrap_bind ?_
    exact Succ.pure _ rfl
  · -- indexed identifier
    rename_i ii
    unfold exprToAsgTexpr
    dsimp only
    exact Succ.bindAny (ih.ii ii hs (by fuel_ok)) (fun _ => Succ.pure _ rfl)
  · -- index expression
    rename_i sp inner io
    simp only [Bool.and_eq_true] at hs
    unfold exprToAsgTexpr
    dsimp only
    refine Succ.bindSome (ih.optE inner hs.1 (by fuel_ok)) (fun t => ?_)
    refine Succ.unwrap_bind ?_
    refine Succ.bindAny (ih.io _ hs.2 (by fuel_ok)) (fun _ => ?_)
    refine Succ.unwrap_bind ?_
    exact Succ.pure _ rfl
  · -- measure
    exact exprToAsgTexpr_measure (ih.op _ hs (by fuel_ok))
  · -- return
    rename_i sp inner
    unfold exprToAsgTexpr
    dsimp only
    refine Succ.bindAny (ih.opt0 inner hs (by fuel_ok)) (fun _ => ?_)
    exact Succ.bindAny (returnGlobalCheck_succ _) (fun _ => Succ.pure _ rfl)
  · -- range
    rename_i r
    unfold exprToAsgTexpr
    dsimp only
    exact Succ.bindAny (ih.range r hs (by fuel_ok)) (fun _ => Succ.pure _ rfl)
  · simp at hs

theorem allE (fuel : Nat) : AllE fuel := by
  induction fuel with
  | zero =>
    refine ⟨?_, ?_, ?_, ?_, ?_, ?_, ?_, ?_, ?_, ?_, ?_⟩ <;> (intros; omega)
  | succ fuel ih =>
    exact ⟨expr_step fuel ih, paren_step fuel ih, exprs_step fuel ih, elT_step fuel ih,
      elTy_step fuel ih, set_step fuel ih, io_step fuel ih, ios_step fuel ih, ii_step fuel ih,
      op_step fuel ih, range_step fuel ih⟩

end Oq3.Sema.T2
