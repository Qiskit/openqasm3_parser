/-
C17 (layout invariance) — the middle of the chain, as theorems.

  text ──lexer──▶ raw tokens ──(to_input; parser)──▶ steps ──builder──▶ tree (I4)
       ──typed accessors──▶ typed AST (I5) ──semantic pass──▶ graph, symbols, diagnostics (I6)

Known ends: `Oq3.Props.C15.trivia_irrelevant` (two layouts of one lexeme list give the same
non-trivia raw tokens), the parser is a function of the non-trivia kinds and jointness, and
`Oq3.C17.span_irrelevant` (the pass commutes with erasing text ranges).  This file:

1. `accessors_blind` — the typed accessors are blind to trivia and to ranges:
   `Build.program (eraseTrivia t) = (Build.program t).map eraseSpans`, where `Build.program`
   (`Lemmas/AccBuild.lean`) is the accessor layer with a structured result of the type
   `Ast.Program` that the semantic model consumes, and `eraseTrivia` drops every
   WHITESPACE/COMMENT token and zeroes every range.
   Hypothesis `rootHeadOk t`: no `Name`/`Identifier`/`HardwareQubit`/`Param`/`PragmaStatement`/
   `AnnotationStatement`/`PrefixExpr` node starts with a trivia token — `text_of_first_token`
   and `PrefixExpr::op_token` are the only accessors that read a child without skipping trivia.
   (Accessors read token TEXTS and kinds, never ranges; `pragma_text` slices the text, not the
   source.  Ranges enter I5 only as the `span` fields, which `eraseSpans` erases.)
2. `builder_blind` — `build_tree` is blind to trivia: same non-trivia raw tokens and same steps ⇒
   the two trees agree after `eraseTriviaT`.  Hypothesis `glueOk`: a composite token step does not
   swallow a trivia token (necessary: `glue_needed`).
   `builder_headOk`: every tree the builder produces satisfies `rootHeadOk` (trivia in front of
   a node is attached OUTSIDE it; `n_attached_trivias` is non-zero only for `CONST`, which is not
   a head kind) — hypothesis `tokenKindsOk`: no parser step is a token of a trivia kind.
3. `layout_invariant_tree_to_ast`, `layout_invariant_to_graph` — the composition: the two typed
   ASTs agree modulo spans, and the analyses agree modulo diagnostic positions.
0. `dump_factors` — `Build.program t = .ok p → Dump.program t = Render.program p`: the structured
   value is the one the (validated) I5 dump prints.
-/
import Oq3.Lemmas.AccLayout
import Oq3.Lemmas.AccRender
import Oq3.Lemmas.BuilderHead
import Oq3.Props.C17LayoutTrees

namespace Oq3.C17Layout
open Oq3.Gen Oq3.Acc Oq3.C17 Oq3.Builder Oq3.BuilderLayout Oq3.Parser Oq3.Sema

/-- **`Dump.program = Render.program ∘ Build.program`** wherever `Build.program` is defined (it
fails exactly where the dump has a `!` that the `sema` decoder rejects as `BAD-AST`, or — never,
with the default fuel — runs out of fuel) -/
theorem dump_factors (t : CNode) (p : Ast.Program) (h : Build.program t = .ok p) :
    Dump.program t = Render.program p :=
  Render.dump_eq_render t p h

theorem accessors_blind (t : CNode) (h : rootHeadOk t = true) :
    Build.program (eraseTrivia t) = (Build.program t).map eraseSpans :=
  program_eraseTrivia t h

/-- two trees that differ only in trivia and ranges have the same typed AST modulo spans
(same error — `badAst`, i.e. a panicking text accessor — if there is one) -/
theorem accessors_blind_pair {t1 t2 : CNode} (h : eraseTrivia t1 = eraseTrivia t2)
    (h1 : rootHeadOk t1 = true) (h2 : rootHeadOk t2 = true) :
    (Build.program t1).map eraseSpans = (Build.program t2).map eraseSpans := by
  rw [← accessors_blind t1 h1, ← accessors_blind t2 h2, h]

theorem builder_blind {toks1 toks2 : List RawTok} {ss : List Step}
    {t1 t2 : Tree} {e1 e2 : List SynErr} {eof1 eof2 : Bool} (hnt : nt toks1 = nt toks2)
    (g1 : glueOk toks1 ss = true) (g2 : glueOk toks2 ss = true)
    (h1 : buildTree toks1 ss = .ok (t1, e1, eof1)) (h2 : buildTree toks2 ss = .ok (t2, e2, eof2)) :
    eraseTriviaT t1 = eraseTriviaT t2 :=
  buildTree_layout hnt g1 g2 h1 h2

/-- **The builder establishes the hypothesis of (1).** -/
theorem builder_headOk {toks : List RawTok} {ss : List Step} {t : Tree} {e : List SynErr} {eof : Bool}
    (hk : tokenKindsOk ss = true) (h : buildTree toks ss = .ok (t, e, eof)) :
    rootHeadOk (cnodeOf t) = true := by
  rw [rootHeadOk_cnodeOf]; exact buildTree_rootHeadOkT hk h

theorem layout_invariant_tree_to_ast {toks1 toks2 : List RawTok} {ss : List Step}
    {t1 t2 : Tree} {e1 e2 : List SynErr} {eof1 eof2 : Bool} (hnt : nt toks1 = nt toks2)
    (g1 : glueOk toks1 ss = true) (g2 : glueOk toks2 ss = true)
    (h1 : buildTree toks1 ss = .ok (t1, e1, eof1)) (h2 : buildTree toks2 ss = .ok (t2, e2, eof2))
    (k1 : rootHeadOk (cnodeOf t1) = true) (k2 : rootHeadOk (cnodeOf t2) = true) :
    (Build.program (cnodeOf t1)).map eraseSpans = (Build.program (cnodeOf t2)).map eraseSpans :=
  accessors_blind_pair (eraseTrivia_cnodeOf (builder_blind hnt g1 g2 h1 h2)) k1 k2

/-- the same with `rootHeadOk` discharged by the builder -/
theorem layout_invariant_tokens_to_ast {toks1 toks2 : List RawTok} {ss : List Step}
    {t1 t2 : Tree} {e1 e2 : List SynErr} {eof1 eof2 : Bool} (hnt : nt toks1 = nt toks2)
    (hk : tokenKindsOk ss = true) (g1 : glueOk toks1 ss = true) (g2 : glueOk toks2 ss = true)
    (h1 : buildTree toks1 ss = .ok (t1, e1, eof1)) (h2 : buildTree toks2 ss = .ok (t2, e2, eof2)) :
    (Build.program (cnodeOf t1)).map eraseSpans = (Build.program (cnodeOf t2)).map eraseSpans :=
  layout_invariant_tree_to_ast hnt g1 g2 h1 h2 (builder_headOk hk h1) (builder_headOk hk h2)

/-- the same for two trees (e.g. the implementation's own): when one has a typed AST so has the
other, and they are equal after `eraseSpans` -/
theorem ast_of_pair {t1 t2 : CNode} (h : eraseTrivia t1 = eraseTrivia t2)
    (h1 : rootHeadOk t1 = true) (h2 : rootHeadOk t2 = true) {p1 : Ast.Program}
    (hp : Build.program t1 = .ok p1) :
    ∃ p2, Build.program t2 = .ok p2 ∧ eraseSpans p1 = eraseSpans p2 := by
  have e := accessors_blind_pair h h1 h2
  rw [hp] at e
  cases hp2 : Build.program t2 with
  | error x => rw [hp2] at e; cases e
  | ok p2 =>
    rw [hp2] at e
    simp only [Except.map, Except.ok.injEq] at e
    exact ⟨p2, rfl, e⟩

/-- **Layout invariance, tree to graph**: two trees that differ only in trivia and ranges are
analysed to the same outcome — same panic or fuel-out, or the same context modulo the positions
stored in diagnostics (`erCtx`) -/
theorem layout_invariant_to_graph_of_trees (fuel : Nat) {t1 t2 : CNode}
    (h : eraseTrivia t1 = eraseTrivia t2) (h1 : rootHeadOk t1 = true) (h2 : rootHeadOk t2 = true)
    {p1 : Ast.Program} (hp : Build.program t1 = .ok p1) :
    ∃ p2, Build.program t2 = .ok p2 ∧
      (analyzeWith fuel p1).map erCtx = (analyzeWith fuel p2).map erCtx := by
  obtain ⟨p2, hp2, he⟩ := ast_of_pair h h1 h2 hp
  exact ⟨p2, hp2, span_irrelevant fuel he⟩

theorem layout_invariant_to_graph (fuel : Nat) {toks1 toks2 : List RawTok} {ss : List Step}
    {t1 t2 : Tree} {e1 e2 : List SynErr} {eof1 eof2 : Bool} (hnt : nt toks1 = nt toks2)
    (g1 : glueOk toks1 ss = true) (g2 : glueOk toks2 ss = true)
    (h1 : buildTree toks1 ss = .ok (t1, e1, eof1)) (h2 : buildTree toks2 ss = .ok (t2, e2, eof2))
    (k1 : rootHeadOk (cnodeOf t1) = true) (k2 : rootHeadOk (cnodeOf t2) = true)
    {p1 : Ast.Program} (hp : Build.program (cnodeOf t1) = .ok p1) :
    ∃ p2, Build.program (cnodeOf t2) = .ok p2 ∧
      (analyzeWith fuel p1).map erCtx = (analyzeWith fuel p2).map erCtx :=
  layout_invariant_to_graph_of_trees fuel (eraseTrivia_cnodeOf (builder_blind hnt g1 g2 h1 h2)) k1 k2 hp

/-- **Layout invariance, raw tokens to graph**, `rootHeadOk` discharged by the builder: the only
hypotheses left are about the INPUT of the builder — same non-trivia raw tokens (the lexer half,
`Oq3.Props.C15.trivia_irrelevant`), same steps (the parser is a function of those), no trivia
kinds among the steps and no trivia inside a composite token -/
theorem layout_invariant_tokens_to_graph (fuel : Nat) {toks1 toks2 : List RawTok} {ss : List Step}
    {t1 t2 : Tree} {e1 e2 : List SynErr} {eof1 eof2 : Bool} (hnt : nt toks1 = nt toks2)
    (hk : tokenKindsOk ss = true) (g1 : glueOk toks1 ss = true) (g2 : glueOk toks2 ss = true)
    (h1 : buildTree toks1 ss = .ok (t1, e1, eof1)) (h2 : buildTree toks2 ss = .ok (t2, e2, eof2))
    {p1 : Ast.Program} (hp : Build.program (cnodeOf t1) = .ok p1) :
    ∃ p2, Build.program (cnodeOf t2) = .ok p2 ∧
      (analyzeWith fuel p1).map erCtx = (analyzeWith fuel p2).map erCtx :=
  layout_invariant_to_graph fuel hnt g1 g2 h1 h2 (builder_headOk hk h1) (builder_headOk hk h2) hp

/-- in particular: same graph, same symbol table, same diagnostic kinds in the same order -/
theorem layout_invariant_to_graph_ok (fuel : Nat) {t1 t2 : CNode}
    (h : eraseTrivia t1 = eraseTrivia t2) (h1 : rootHeadOk t1 = true) (h2 : rootHeadOk t2 = true)
    {p1 : Ast.Program} (hp : Build.program t1 = .ok p1) {c : Ctx} (hc : analyzeWith fuel p1 = .ok c) :
    ∃ p2 c', Build.program t2 = .ok p2 ∧ analyzeWith fuel p2 = .ok c' ∧ c'.program = c.program ∧
      c'.symbolTable = c.symbolTable ∧
      c'.semanticErrors.map (·.kind) = c.semanticErrors.map (·.kind) := by
  obtain ⟨p2, hp2, he⟩ := ast_of_pair h h1 h2 hp
  obtain ⟨c', hc', a, b, d⟩ := span_irrelevant_ok fuel he hc
  exact ⟨p2, c', hp2, hc', a, b, d⟩

/-! ## non-vacuity -/

section Witness
open W

deriving instance DecidableEq for Except

/-! ### two layouts of `if(a>>=b)x q;` as REAL trees (`oq3-run tree`) -/

theorem layAB_erase : eraseTrivia layAFile = eraseTrivia layBFile := by decide +kernel
theorem layAB_headOk : rootHeadOk layAFile = true ∧ rootHeadOk layBFile = true := by decide +kernel

example : eraseTrivia layAFile = eraseTrivia layBFile := layAB_erase
example : rootHeadOk layAFile = true ∧ rootHeadOk layBFile = true := layAB_headOk
example : layAFile ≠ layBFile := by decide +kernel
/-- the instance of (1) on the real trees -/
example : (Build.program layAFile).map eraseSpans = (Build.program layBFile).map eraseSpans :=
  accessors_blind_pair layAB_erase layAB_headOk.1 layAB_headOk.2

/-- a richer pair (declaration with a prefix expression, annotation, gate definition with a float
literal, pragma; leading whitespace, comments and line breaks moved around) -/
theorem layCD : eraseTrivia layCFile = eraseTrivia layDFile ∧ rootHeadOk layCFile = true ∧
    rootHeadOk layDFile = true := by decide +kernel

example : eraseTrivia layCFile = eraseTrivia layDFile ∧ rootHeadOk layCFile = true ∧
    rootHeadOk layDFile = true := layCD
example : (Build.program layCFile).map eraseSpans = (Build.program layDFile).map eraseSpans :=
  accessors_blind_pair layCD.1 layCD.2.1 layCD.2.2

/-! ### the same two layouts through the MODEL builder

raw tokens = the model lexer's (`LexedStr.new`) on the two texts, steps = the model parser's
(`parseSourceFile` + `process`), identical for both layouts (note the composite `SHREQ 3`) -/

def toksA : List RawTok :=
  [⟨.IF_KW, ['i', 'f']⟩, ⟨.L_PAREN, ['(']⟩, ⟨.IDENT, ['a']⟩, ⟨.R_ANGLE, ['>']⟩, ⟨.R_ANGLE, ['>']⟩,
   ⟨.EQ, ['=']⟩, ⟨.IDENT, ['b']⟩, ⟨.R_PAREN, [')']⟩, ⟨.IDENT, ['x']⟩, ⟨.WHITESPACE, [' ']⟩,
   ⟨.IDENT, ['q']⟩, ⟨.SEMICOLON, [';']⟩]

def toksB : List RawTok :=
  [⟨.COMMENT, ['/', '/', ' ', 'c']⟩, ⟨.WHITESPACE, ['\n']⟩, ⟨.IF_KW, ['i', 'f']⟩, ⟨.WHITESPACE, [' ']⟩,
   ⟨.L_PAREN, ['(']⟩, ⟨.WHITESPACE, [' ']⟩, ⟨.IDENT, ['a']⟩, ⟨.WHITESPACE, [' ']⟩, ⟨.R_ANGLE, ['>']⟩,
   ⟨.R_ANGLE, ['>']⟩, ⟨.EQ, ['=']⟩, ⟨.WHITESPACE, [' ']⟩, ⟨.IDENT, ['b']⟩, ⟨.WHITESPACE, [' ']⟩,
   ⟨.R_PAREN, [')']⟩, ⟨.WHITESPACE, [' ']⟩, ⟨.COMMENT, ['/', '*', ' ', 'd', ' ', '*', '/']⟩,
   ⟨.WHITESPACE, [' ']⟩, ⟨.IDENT, ['x']⟩, ⟨.WHITESPACE, [' ', ' ']⟩, ⟨.IDENT, ['q']⟩, ⟨.WHITESPACE, [' ']⟩,
   ⟨.SEMICOLON, [';']⟩, ⟨.WHITESPACE, ['\n']⟩]

def stepsAB : List Step :=
  [.enter .SOURCE_FILE, .enter .IF_STMT, .token .IF_KW 1, .token .L_PAREN 1, .enter .BIN_EXPR,
   .enter .IDENTIFIER, .token .IDENT 1, .exit, .token .SHREQ 3, .enter .IDENTIFIER, .token .IDENT 1,
   .exit, .exit, .token .R_PAREN 1, .enter .EXPR_STMT, .enter .GATE_CALL_EXPR, .enter .IDENTIFIER,
   .token .IDENT 1, .exit, .enter .QUBIT_LIST, .enter .IDENTIFIER, .token .IDENT 1, .exit, .exit, .exit,
   .token .SEMICOLON 1, .exit, .exit, .exit]

def treeOf (r : Except String (Tree × List SynErr × Bool)) : Tree :=
  match r with
  | .ok (t, _, _) => t
  | .error _ => .leaf .ERROR []

theorem ntAB : nt toksA = nt toksB := by decide +kernel
theorem glueAB : glueOk toksA stepsAB = true ∧ glueOk toksB stepsAB = true := by decide +kernel
theorem kindsAB : tokenKindsOk stepsAB = true := by decide +kernel

example : nt toksA = nt toksB := ntAB
example : glueOk toksA stepsAB = true ∧ glueOk toksB stepsAB = true := glueAB

/-- the model builder's trees ARE the real trees of the two layouts -/
example : cnodeOf (treeOf (buildTree toksA stepsAB)) = layAFile ∧
    cnodeOf (treeOf (buildTree toksB stepsAB)) = layBFile := by decide +kernel

theorem buildA : buildTree toksA stepsAB = .ok (treeOf (buildTree toksA stepsAB), [], true) := by rfl
theorem buildB : buildTree toksB stepsAB = .ok (treeOf (buildTree toksB stepsAB), [], true) := by rfl

/-- the instance of (2) -/
example : eraseTriviaT (treeOf (buildTree toksA stepsAB)) = eraseTriviaT (treeOf (buildTree toksB stepsAB)) :=
  builder_blind ntAB glueAB.1 glueAB.2 buildA buildB

/-- the instance of (3), tree to AST -/
example : (Build.program (cnodeOf (treeOf (buildTree toksA stepsAB)))).map eraseSpans =
    (Build.program (cnodeOf (treeOf (buildTree toksB stepsAB)))).map eraseSpans :=
  layout_invariant_tree_to_ast ntAB glueAB.1 glueAB.2 buildA buildB (builder_headOk kindsAB buildA)
    (builder_headOk kindsAB buildB)

/-- the instances of `builder_headOk` and of the hypothesis-light (3) -/
example : tokenKindsOk stepsAB = true := kindsAB
example : rootHeadOk (cnodeOf (treeOf (buildTree toksA stepsAB))) = true :=
  builder_headOk kindsAB buildA
example := layout_invariant_tokens_to_ast (toks1 := toksA) (toks2 := toksB) (ss := stepsAB)
  ntAB kindsAB glueAB.1 glueAB.2 buildA buildB

/-- the instance of (0): the dump of the real tree is the rendering of its structured typed AST -/
example : ∃ p, Build.program layBFile = .ok p ∧ Dump.program layBFile = Render.program p := by
  have hok : (Build.program layBFile).toBool = true := by decide +kernel
  cases h : Build.program layBFile with
  | error e => rw [h] at hok; cases hok
  | ok p => exact ⟨p, rfl, dump_factors _ _ h⟩

/-- `glueOk` is necessary: `>>` against `> >` under the step `token SHR 2` — same non-trivia raw
tokens, same steps, both builds succeed, different trees -/
theorem glue_needed :
    let toks1 : List RawTok := [⟨.R_ANGLE, ['>']⟩, ⟨.R_ANGLE, ['>']⟩]
    let toks2 : List RawTok := [⟨.R_ANGLE, ['>']⟩, ⟨.WHITESPACE, [' ']⟩, ⟨.R_ANGLE, ['>']⟩]
    let ss : List Step := [.enter .SOURCE_FILE, .token .SHR 2, .exit]
    nt toks1 = nt toks2 ∧ glueOk toks1 ss = true ∧ glueOk toks2 ss = false ∧
    (eraseTriviaT (treeOf (buildTree toks1 ss))).leaves = [(.SHR, ['>', '>'])] ∧
    (eraseTriviaT (treeOf (buildTree toks2 ss))).leaves = [(.SHR, ['>', ' '])] := by decide +kernel

/-- `rootHeadOk` is necessary: a `NAME` node that starts with a comment (which the builder never
produces) has the comment as its text — and the IDENT after erasure -/
theorem head_needed :
    let n : CNode := .node .NAME 0 8 [.token .COMMENT 0 7 "/* c */".toList, .token .IDENT 7 8 ['g']]
    Build.name n = .ok ⟨⟨0, 8⟩, "/* c */"⟩ ∧ Build.name (eraseTrivia n) = .ok ⟨⟨0, 0⟩, "g"⟩ := by
  decide

end Witness

end Oq3.C17Layout
