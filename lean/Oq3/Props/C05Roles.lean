/-
C05 (roles): the typed accessors of `oq3_syntax::ast` return the right constituents in the right
roles — and where they do not, exactly what they return instead.

Object of the theorems: `Oq3/Model/Accessors.lean` (+ the generated `Oq3/Gen/Nodes.lean`), the
model of `ast/generated/nodes.rs`, `node_ext.rs`, `expr_ext.rs`, `type_ext.rs`, `traits.rs`, tied
to the real accessors by the correspondence run `vf/acc_corr.py` (model dump = `oq3-run ast` dump
on the implementation's own trees).

Every accessor is first characterised as an EXPLICIT FUNCTION OF THE CHILD LIST of its node
(`*_eq`, proved by unfolding; they hold for ALL trees, well formed or not), then role corollaries
are derived under a shape hypothesis on `n.childNodes` (the child NODES; tokens and trivia between
them are arbitrary); non-vacuity `example`s on trees printed by the real parser
(`tools/tree_to_lean.py`, i.e. `oq3-run tree`) are at the end of the file.

The defect F07 (`IfStmt::{then,else}_branch_*`) and the `AssignmentStmt::identifier` defect
(`a[0] = b;`) are THEOREMS here (`f07_*`, `assign_indexed_lhs_identifier_is_rhs`), not test
observations.
-/
import Oq3.Lemmas.AccMap
import Oq3.Props.C05RolesTrees

namespace Oq3.Props.C05Roles
open Oq3.Gen Oq3.Acc

def castable (can : SyntaxKind → Bool) (n : CNode) : List CNode :=
  n.childNodes.filter (fun c => can c.kind)

theorem filterMap_cast (can : SyntaxKind → Bool) (l : List CNode) :
    l.filterMap (Acc.cast can) = l.filter (fun c => can c.kind) := Acc.filterMap_cast can l

theorem findSome_cast (can : SyntaxKind → Bool) (l : List CNode) :
    l.findSome? (Acc.cast can) = (l.filter (fun c => can c.kind)).head? := by
  rw [Acc.findSome_cast, List.head?_filter]

theorem children_eq (can : SyntaxKind → Bool) (n : CNode) :
    support.children can n = castable can n := children_supp_eq can n

theorem child_eq_find (can : SyntaxKind → Bool) (n : CNode) :
    support.child can n = n.childNodes.find? (fun c => can c.kind) := child_supp_eq can n

theorem child_eq (can : SyntaxKind → Bool) (n : CNode) :
    support.child can n = (castable can n).head? := by
  rw [child_eq_find, castable, List.head?_filter]

theorem token_eq (n : CNode) (k : SyntaxKind) :
    support.token n k = n.childTokens.find? (fun t => t.kind == k) := rfl

theorem children_sublist (can : SyntaxKind → Bool) (n : CNode) :
    (support.children can n).Sublist n.children := by
  rw [children_eq]
  exact (List.filter_sublist).trans List.filter_sublist

theorem mem_children (can : SyntaxKind → Bool) (n c : CNode) :
    c ∈ support.children can n ↔ c ∈ n.childNodes ∧ can c.kind = true := by
  rw [children_eq, castable, List.mem_filter]

/-- instances: `ExpressionList::exprs`, `QubitList::gate_operands`, `ParamList::params`,
`TypedParamList::typed_params`, `BlockExpr::statements`, `SourceFile::statements`,
`ModifiedGateCallExpr::modifiers`, … -/
theorem children_eq_childNodes (can : SyntaxKind → Bool) (n : CNode)
    (h : ∀ c ∈ n.childNodes, can c.kind = true) : support.children can n = n.childNodes := by
  rw [children_eq, castable, List.filter_eq_self]
  exact h

theorem child_some (can : SyntaxKind → Bool) (n c : CNode) (h : support.child can n = some c) :
    c ∈ n.childNodes ∧ can c.kind = true := by
  rw [child_eq_find] at h
  exact ⟨List.mem_of_find?_eq_some h, by simpa using List.find?_some h⟩

theorem child_none (can : SyntaxKind → Bool) (n : CNode) :
    support.child can n = none ↔ ∀ c ∈ n.childNodes, can c.kind = false := by
  rw [child_eq_find, List.find?_eq_none]
  simp

theorem stmt_expr_disjoint (k : SyntaxKind) :
    ¬ (Stmt.canCast k = true ∧ Expr.canCast k = true) := by
  rintro ⟨hs, he⟩
  unfold Expr.canCast at he
  split at he <;> first | cases hs | cases he

theorem expr_not_stmt {k : SyntaxKind} (h : Expr.canCast k = true) : Stmt.canCast k = false := by
  cases hs : Stmt.canCast k
  · rfl
  · exact absurd ⟨hs, h⟩ (stmt_expr_disjoint k)

theorem stmt_not_expr {k : SyntaxKind} (h : Stmt.canCast k = true) : Expr.canCast k = false := by
  cases he : Expr.canCast k
  · rfl
  · exact absurd ⟨h, he⟩ (stmt_expr_disjoint k)

theorem gateOperand_is_expr (k : SyntaxKind) (h : GateOperand.canCast k = true) :
    Expr.canCast k = true := by
  unfold GateOperand.canCast at h
  split at h <;> first | rfl | cases h

theorem modifier_not_gateCall {k : SyntaxKind} (h : Modifier.canCast k = true) :
    GateCallExpr.canCast k = false ∧ GPhaseCallExpr.canCast k = false := by
  unfold Modifier.canCast at h
  split at h <;> first | exact ⟨rfl, rfl⟩ | cases h

abbrev exprs (n : CNode) : List CNode := castable Expr.canCast n
abbrev stmts (n : CNode) : List CNode := castable Stmt.canCast n
abbrev blocks (n : CNode) : List CNode := castable BlockExpr.canCast n

def nthBlock (i : Nat) (n : CNode) : Option CNode :=
  match (exprs n)[i]? with
  | some e => if e.kind = .BLOCK_EXPR then some e else none
  | none => none

theorem if_condition_eq (n : CNode) :
    IfStmt.condition n =
      match exprs n with
      | [] => none
      | [e] => if e.kind = .BLOCK_EXPR then none else some e
      | e :: _ :: _ => some e := by
  unfold IfStmt.condition
  rw [children_eq]
  rcases h : castable Expr.canCast n with _ | ⟨e, _ | ⟨e2, r⟩⟩ <;> simp +decide [Expr.isBlockExpr, exprs, h]

theorem if_then_branch_block_eq (n : CNode) : IfStmt.then_branch_block n = nthBlock 1 n := by
  unfold IfStmt.then_branch_block nthBlock
  rw [children_eq]
  cases (castable Expr.canCast n)[1]? <;> simp +decide [Expr.isBlockExpr]

theorem if_else_branch_block_eq (n : CNode) : IfStmt.else_branch_block n = nthBlock 2 n := by
  unfold IfStmt.else_branch_block nthBlock
  rw [children_eq]
  cases (castable Expr.canCast n)[2]? <;> simp +decide [Expr.isBlockExpr]

/-- `then_branch_stmt` and `else_branch_stmt` are THE SAME function: the first `Stmt` child -/
theorem if_then_stmt_eq_else_stmt (n : CNode) :
    IfStmt.then_branch_stmt n = (stmts n).head? ∧ IfStmt.else_branch_stmt n = (stmts n).head? :=
  ⟨child_eq _ n, child_eq _ n⟩

theorem if_true_body_eq (n : CNode) :
    IfStmt.true_body_block_or_stmt n =
      match nthBlock 1 n, (stmts n).head? with
      | some b, _ => .ok (.blockExpr b)
      | none, some s => .ok (.stmt s)
      | none, none => .panic := by
  unfold IfStmt.true_body_block_or_stmt
  rw [if_then_branch_block_eq, (if_then_stmt_eq_else_stmt n).1]
  cases nthBlock 1 n <;> cases (stmts n).head? <;> rfl

theorem if_false_body_eq (n : CNode) :
    IfStmt.false_body_block_or_stmt n =
      match nthBlock 2 n, (stmts n).head? with
      | some b, _ => some (.blockExpr b)
      | none, some s => some (.stmt s)
      | none, none => none := by
  unfold IfStmt.false_body_block_or_stmt
  rw [if_else_branch_block_eq, (if_then_stmt_eq_else_stmt n).2]
  cases nthBlock 2 n <;> cases (stmts n).head? <;> rfl

theorem if_true_body_panic_iff (n : CNode) :
    IfStmt.true_body_block_or_stmt n = .panic ↔ nthBlock 1 n = none ∧ stmts n = [] := by
  rw [if_true_body_eq]
  cases nthBlock 1 n <;> rcases stmts n with _ | ⟨s, r⟩ <;> simp

theorem castable_of {can : SyntaxKind → Bool} {n : CNode} {l : List CNode} (h : n.childNodes = l) :
    castable can n = l.filter (fun c => can c.kind) := by rw [castable, h]

section IfRoles
variable {n c t e s s1 s2 : CNode}

/-- well-formed `if (c) {..} else {..}`: all three roles are right -/
theorem if_roles_block_block (h : n.childNodes = [c, t, e])
    (hc : Expr.canCast c.kind = true)
    (ht : t.kind = .BLOCK_EXPR) (he : e.kind = .BLOCK_EXPR) :
    IfStmt.condition n = some c ∧
    IfStmt.true_body_block_or_stmt n = .ok (.blockExpr t) ∧
    IfStmt.false_body_block_or_stmt n = some (.blockExpr e) := by
  have hx : exprs n = [c, t, e] := by
    rw [exprs, castable_of h]; simp +decide [hc, ht, he]
  refine ⟨?_, ?_, ?_⟩
  · rw [if_condition_eq, hx]
  · rw [if_true_body_eq]; simp +decide [nthBlock, hx, ht]
  · rw [if_false_body_eq]; simp +decide [nthBlock, hx, he]

/-- `if (c) {..}` without else: then = the block, else = `None` -/
theorem if_roles_block_only (h : n.childNodes = [c, t])
    (hc : Expr.canCast c.kind = true) (ht : t.kind = .BLOCK_EXPR) :
    IfStmt.condition n = some c ∧
    IfStmt.true_body_block_or_stmt n = .ok (.blockExpr t) ∧
    IfStmt.false_body_block_or_stmt n = none := by
  have hx : exprs n = [c, t] := by
    rw [exprs, castable_of h]; simp +decide [hc, ht]
  have hs : stmts n = [] := by
    rw [stmts, castable_of h]; simp +decide [expr_not_stmt hc, ht]
  refine ⟨?_, ?_, ?_⟩
  · rw [if_condition_eq, hx]
  · rw [if_true_body_eq]; simp +decide [nthBlock, hx, ht]
  · rw [if_false_body_eq]; simp +decide [nthBlock, hx, hs]

/-- `if (c) {..} else s;`: right -/
theorem if_roles_block_stmt (h : n.childNodes = [c, t, s])
    (hc : Expr.canCast c.kind = true) (ht : t.kind = .BLOCK_EXPR)
    (hs : Stmt.canCast s.kind = true) :
    IfStmt.condition n = some c ∧
    IfStmt.true_body_block_or_stmt n = .ok (.blockExpr t) ∧
    IfStmt.false_body_block_or_stmt n = some (.stmt s) := by
  have hx : exprs n = [c, t] := by
    rw [exprs, castable_of h]; simp +decide [hc, ht, stmt_not_expr hs]
  have hst : stmts n = [s] := by
    rw [stmts, castable_of h]; simp +decide [expr_not_stmt hc, ht, hs]
  refine ⟨?_, ?_, ?_⟩
  · rw [if_condition_eq, hx]
  · rw [if_true_body_eq]; simp +decide [nthBlock, hx, ht]
  · rw [if_false_body_eq]; simp +decide [nthBlock, hx, hst]

/-- **F07 (a)** `if (c) s; else {..}`: the accessors SWAP the branches — "then" is the else
block, "else" is the then statement -/
theorem f07_swap (h : n.childNodes = [c, s, e])
    (hc : Expr.canCast c.kind = true)
    (hs : Stmt.canCast s.kind = true) (he : e.kind = .BLOCK_EXPR) :
    IfStmt.condition n = some c ∧
    IfStmt.true_body_block_or_stmt n = .ok (.blockExpr e) ∧
    IfStmt.false_body_block_or_stmt n = some (.stmt s) := by
  have hx : exprs n = [c, e] := by
    rw [exprs, castable_of h]; simp +decide [hc, he, stmt_not_expr hs]
  have hst : stmts n = [s] := by
    rw [stmts, castable_of h]; simp +decide [expr_not_stmt hc, he, hs]
  refine ⟨?_, ?_, ?_⟩
  · rw [if_condition_eq, hx]
  · rw [if_true_body_eq]; simp +decide [nthBlock, hx, he]
  · rw [if_false_body_eq]; simp +decide [nthBlock, hx, hst]

/-- **F07 (b)** `if (c) s1; else s2;`: BOTH roles return the then statement; neither body accessor returns `s2` -/
theorem f07_same (h : n.childNodes = [c, s1, s2])
    (hc : Expr.canCast c.kind = true) (hcb : c.kind ≠ .BLOCK_EXPR)
    (h1 : Stmt.canCast s1.kind = true) (h2 : Stmt.canCast s2.kind = true) :
    IfStmt.condition n = some c ∧
    IfStmt.true_body_block_or_stmt n = .ok (.stmt s1) ∧
    IfStmt.false_body_block_or_stmt n = some (.stmt s1) := by
  have hx : exprs n = [c] := by
    rw [exprs, castable_of h]; simp +decide [hc, stmt_not_expr h1, stmt_not_expr h2]
  have hst : stmts n = [s1, s2] := by
    rw [stmts, castable_of h]; simp +decide [expr_not_stmt hc, h1, h2]
  refine ⟨?_, ?_, ?_⟩
  · rw [if_condition_eq, hx]; simp +decide [hcb]
  · rw [if_true_body_eq]; simp +decide [nthBlock, hx, hst]
  · rw [if_false_body_eq]; simp +decide [nthBlock, hx, hst]

/-- **F07 (c)** `if (c) s;` WITHOUT else: the statement is returned as the else branch too -/
theorem f07_phantom_else (h : n.childNodes = [c, s])
    (hc : Expr.canCast c.kind = true) (hcb : c.kind ≠ .BLOCK_EXPR)
    (hs : Stmt.canCast s.kind = true) :
    IfStmt.condition n = some c ∧
    IfStmt.true_body_block_or_stmt n = .ok (.stmt s) ∧
    IfStmt.false_body_block_or_stmt n = some (.stmt s) := by
  have hx : exprs n = [c] := by
    rw [exprs, castable_of h]; simp +decide [hc, stmt_not_expr hs]
  have hst : stmts n = [s] := by
    rw [stmts, castable_of h]; simp +decide [expr_not_stmt hc, hs]
  refine ⟨?_, ?_, ?_⟩
  · rw [if_condition_eq, hx]; simp +decide [hcb]
  · rw [if_true_body_eq]; simp +decide [nthBlock, hx, hst]
  · rw [if_false_body_eq]; simp +decide [nthBlock, hx, hst]

end IfRoles

/-- F07 in general: whenever an `if` has any statement child and no block in third `Expr`
position, the "else" accessor answers with the FIRST statement child — whether or not the source
has an `else` at all (the `else` keyword is never consulted) -/
theorem f07_else_is_first_stmt (n : CNode) (s : CNode) (r : List CNode)
    (hb : nthBlock 2 n = none) (hs : stmts n = s :: r) :
    IfStmt.false_body_block_or_stmt n = some (.stmt s) := by
  rw [if_false_body_eq, hb, hs]; rfl

/-- `if (c) ;` — no block, no statement child: the then accessor panics -/
theorem if_empty_body_panics (n c : CNode) (h : n.childNodes = [c])
    (hc : Expr.canCast c.kind = true) : IfStmt.true_body_block_or_stmt n = .panic := by
  rw [if_true_body_panic_iff]
  constructor
  · simp +decide [nthBlock, exprs, castable_of h, hc]
  · rw [stmts, castable_of h]; simp +decide [expr_not_stmt hc]

theorem while_condition_eq (n : CNode) : WhileStmt.condition n = IfStmt.condition n := rfl

theorem while_body_eq (n : CNode) : WhileStmt.body n = (blocks n).head? := by
  unfold WhileStmt.body; rw [children_eq]

theorem while_stmt_eq (n : CNode) : WhileStmt.stmt n = (stmts n).head? := by
  unfold WhileStmt.stmt; rw [children_eq]

theorem while_block_or_stmt_eq (n : CNode) :
    WhileStmt.block_or_stmt n =
      match (blocks n).head?, (stmts n).head? with
      | some b, _ => .ok (.blockExpr b)
      | none, some s => .ok (.stmt s)
      | none, none => .panic := by
  unfold WhileStmt.block_or_stmt
  rw [while_body_eq, while_stmt_eq]
  cases (blocks n).head? <;> cases (stmts n).head? <;> rfl

theorem while_panic_iff (n : CNode) :
    WhileStmt.block_or_stmt n = .panic ↔ blocks n = [] ∧ stmts n = [] := by
  rw [while_block_or_stmt_eq]
  rcases blocks n with _ | ⟨b, r⟩ <;> rcases stmts n with _ | ⟨s, r'⟩ <;> simp

/-- well-formed `while (c) {..}` -/
theorem while_roles_block {n c t : CNode} (h : n.childNodes = [c, t])
    (hc : Expr.canCast c.kind = true) (hcb : c.kind ≠ .BLOCK_EXPR) (ht : t.kind = .BLOCK_EXPR) :
    WhileStmt.condition n = some c ∧ WhileStmt.block_or_stmt n = .ok (.blockExpr t) := by
  have hx : exprs n = [c, t] := by
    rw [exprs, castable_of h]; simp +decide [hc, ht]
  have hbl : blocks n = [t] := by
    rw [blocks, castable_of h]; simp +decide [ht, hcb, BlockExpr.canCast]
  refine ⟨?_, ?_⟩
  · rw [while_condition_eq, if_condition_eq, hx]
  · rw [while_block_or_stmt_eq, hbl]; rfl

/-- well-formed `while (c) s;` -/
theorem while_roles_stmt {n c s : CNode} (h : n.childNodes = [c, s])
    (hc : Expr.canCast c.kind = true) (hcb : c.kind ≠ .BLOCK_EXPR)
    (hs : Stmt.canCast s.kind = true) :
    WhileStmt.condition n = some c ∧ WhileStmt.block_or_stmt n = .ok (.stmt s) := by
  have hx : exprs n = [c] := by
    rw [exprs, castable_of h]; simp +decide [hc, stmt_not_expr hs]
  have hsb : s.kind ≠ .BLOCK_EXPR := by
    intro hk; rw [hk] at hs; exact absurd hs (by decide)
  have hbl : blocks n = [] := by
    rw [blocks, castable_of h]; simp +decide [hcb, hsb, BlockExpr.canCast]
  have hst : stmts n = [s] := by
    rw [stmts, castable_of h]; simp +decide [expr_not_stmt hc, hs]
  refine ⟨?_, ?_⟩
  · rw [while_condition_eq, if_condition_eq, hx]; simp +decide [hcb]
  · rw [while_block_or_stmt_eq, hbl, hst]; rfl

theorem for_block_or_stmt_eq (n : CNode) :
    ForStmt.block_or_stmt n =
      match (blocks n).head?, (stmts n).head? with
      | some b, _ => .ok (.blockExpr b)
      | none, some s => .ok (.stmt s)
      | none, none => .panic := by
  unfold ForStmt.block_or_stmt ForStmt.body ForStmt.stmt
  rw [child_eq, child_eq]
  cases (blocks n).head? <;> cases (stmts n).head? <;> rfl

/-- well-formed `for <type> <name> in <iterable> {..}`: every role is the child of its own kind -/
theorem for_roles_block {n ty nm it bl : CNode} (h : n.childNodes = [ty, nm, it, bl])
    (hty : ty.kind = .SCALAR_TYPE) (hnm : nm.kind = .NAME) (hit : it.kind = .FOR_ITERABLE)
    (hbl : bl.kind = .BLOCK_EXPR) :
    ForStmt.scalar_type n = some ty ∧ ForStmt.loop_var n = some nm ∧
    ForStmt.for_iterable n = some it ∧ ForStmt.block_or_stmt n = .ok (.blockExpr bl) := by
  refine ⟨?_, ?_, ?_, ?_⟩
  · unfold ForStmt.scalar_type; rw [child_eq, castable_of h]
    simp +decide [hty, ScalarType.canCast]
  · unfold ForStmt.loop_var; rw [child_eq, castable_of h]
    simp +decide [hty, hnm, Name.canCast]
  · unfold ForStmt.for_iterable; rw [child_eq, castable_of h]
    simp +decide [hty, hnm, hit, ForIterable.canCast]
  · rw [for_block_or_stmt_eq, blocks, castable_of h]
    simp +decide [hty, hnm, hit, hbl, BlockExpr.canCast]

/-- well-formed `for <type> <name> in <iterable> s;` -/
theorem for_roles_stmt {n ty nm it s : CNode} (h : n.childNodes = [ty, nm, it, s])
    (hty : ty.kind = .SCALAR_TYPE) (hnm : nm.kind = .NAME) (hit : it.kind = .FOR_ITERABLE)
    (hs : Stmt.canCast s.kind = true) :
    ForStmt.block_or_stmt n = .ok (.stmt s) := by
  have hsb : s.kind ≠ .BLOCK_EXPR := by
    intro hk; rw [hk] at hs; exact absurd hs (by decide)
  rw [for_block_or_stmt_eq, blocks, stmts, castable_of h, castable_of h]
  simp +decide [hty, hnm, hit, hs, hsb, BlockExpr.canCast]

/-- a range iterable is returned by BOTH `range_expr()` and `for_iterable_expr()` (`RANGE_EXPR`
is an `Expr` kind): the roles of `ForIterable` overlap, a consumer must ask in the right order -/
theorem for_iterable_range_overlap {it r : CNode} (h : it.childNodes = [r])
    (hr : r.kind = .RANGE_EXPR) :
    ForIterable.set_expression it = none ∧ ForIterable.range_expr it = some r ∧
    ForIterable.for_iterable_expr it = some r := by
  refine ⟨?_, ?_, ?_⟩
  · unfold ForIterable.set_expression; rw [child_eq, castable_of h]
    simp +decide [hr, SetExpression.canCast]
  · unfold ForIterable.range_expr; rw [child_eq, castable_of h]
    simp +decide [hr, RangeExpr.canCast]
  · unfold ForIterable.for_iterable_expr; rw [child_eq, castable_of h]
    simp +decide [hr]

theorem range_start_step_stop_eq (n : CNode) :
    RangeExpr.start_step_stop n =
      match exprs n with
      | [] => (none, none, none)
      | [a] => (some a, none, none)
      | [a, b] => (some a, none, some b)
      | a :: b :: c :: _ => (some a, some b, some c) := by
  unfold RangeExpr.start_step_stop
  rw [children_eq]
  rcases h : castable Expr.canCast n with _ | ⟨a, _ | ⟨b, _ | ⟨c, r⟩⟩⟩ <;> simp +decide [exprs, h]

/-- `[start:stop]` -/
theorem range_roles_two {n a b : CNode} (h : n.childNodes = [a, b])
    (ha : Expr.canCast a.kind = true) (hb : Expr.canCast b.kind = true) :
    RangeExpr.start_step_stop n = (some a, none, some b) := by
  rw [range_start_step_stop_eq, exprs, castable_of h]; simp +decide [ha, hb]

/-- `[start:step:stop]` -/
theorem range_roles_three {n a b c : CNode} (h : n.childNodes = [a, b, c])
    (ha : Expr.canCast a.kind = true) (hb : Expr.canCast b.kind = true)
    (hc : Expr.canCast c.kind = true) :
    RangeExpr.start_step_stop n = (some a, some b, some c) := by
  rw [range_start_step_stop_eq, exprs, castable_of h]; simp +decide [ha, hb, hc]

/-- with a single operand the accessor cannot tell `a:` from `:a`: it is always `start` -/
theorem range_roles_one {n a : CNode} (h : n.childNodes = [a])
    (ha : Expr.canCast a.kind = true) :
    RangeExpr.start_step_stop n = (some a, none, none) := by
  rw [range_start_step_stop_eq, exprs, castable_of h]; simp +decide [ha]

theorem bin_lhs_eq (n : CNode) : BinExpr.lhs n = (exprs n)[0]? := by
  unfold BinExpr.lhs; rw [children_eq, List.head?_eq_getElem?]

theorem bin_rhs_eq (n : CNode) : BinExpr.rhs n = (exprs n)[1]? := by
  unfold BinExpr.rhs; rw [children_eq]

theorem bin_op_details_eq (n : CNode) :
    BinExpr.op_details n =
      (n.childTokens.find? (fun c => (binaryOpOfKind c.kind).isSome)).bind
        (fun c => (binaryOpOfKind c.kind).map (fun op => (c, op))) := by
  unfold BinExpr.op_details
  induction n.childTokens with
  | nil => rfl
  | cons c cs ih =>
    cases hk : binaryOpOfKind c.kind <;> simp +decide [hk, ih]

/-- `l <op> r` -/
theorem bin_roles {n l r : CNode} (h : n.childNodes = [l, r])
    (hl : Expr.canCast l.kind = true) (hr : Expr.canCast r.kind = true) :
    BinExpr.lhs n = some l ∧ BinExpr.rhs n = some r := by
  rw [bin_lhs_eq, bin_rhs_eq, exprs, castable_of h]; simp +decide [hl, hr]

/-- the tokens before the operator token are not operators (trivia, parentheses never are) -/
theorem bin_op_kind_of_tokens {n t : CNode} {pre post : List CNode} {op : Oq3.Ast.BinaryOp}
    (h : n.childTokens = pre ++ t :: post)
    (hpre : ∀ c ∈ pre, binaryOpOfKind c.kind = none) (ht : binaryOpOfKind t.kind = some op) :
    BinExpr.op_kind n = some op ∧ BinExpr.op_token n = some t := by
  have : BinExpr.op_details n = some (t, op) := by
    unfold BinExpr.op_details
    rw [h, List.findSome?_append]
    have : pre.findSome? (fun c => (binaryOpOfKind c.kind).map (fun op => (c, op))) = none := by
      rw [List.findSome?_eq_none_iff]; intro c hc; simp +decide [hpre c hc]
    simp +decide [this, ht]
  simp +decide [BinExpr.op_kind, BinExpr.op_token, this]

theorem prefix_op_kind_eq (n : CNode) :
    PrefixExpr.op_kind n =
      match n.children with
      | .token .BANG _ _ _ :: _ => some .logicNot
      | .token .TILDE _ _ _ :: _ => some .not
      | .token .MINUS _ _ _ :: _ => some .neg
      | _ => none := by
  unfold PrefixExpr.op_kind PrefixExpr.op_token
  rcases n.children with _ | ⟨c, r⟩
  · rfl
  · cases c with
    | node k s e cs => rfl
    | token k s e t =>
      by_cases h1 : k = .BANG
      · subst h1; rfl
      by_cases h2 : k = .TILDE
      · subst h2; rfl
      by_cases h3 : k = .MINUS
      · subst h3; rfl
      -- any other kind: both matches fall through
      simp only [List.head?_cons, CNode.isToken, if_true, CNode.kind]
      split <;> first | rfl | (rename_i heq; cases heq; contradiction)

theorem index_expr_eq (n : CNode) : IndexExpr.expr n = (exprs n).head? := child_eq _ n

theorem index_operator_eq (n : CNode) :
    IndexExpr.index_operator n = (castable IndexOperator.canCast n).head? := child_eq _ n

/-- `base[..]` -/
theorem index_roles {n base op : CNode} (h : n.childNodes = [base, op])
    (hb : Expr.canCast base.kind = true) (ho : op.kind = .INDEX_OPERATOR) :
    IndexExpr.expr n = some base ∧ IndexExpr.index_operator n = some op := by
  have hbo : base.kind ≠ .INDEX_OPERATOR := by
    intro hk; rw [hk] at hb; exact absurd hb (by decide)
  rw [index_expr_eq, index_operator_eq, exprs, castable_of h, castable_of h]
  simp +decide [hb, ho, hbo, IndexOperator.canCast]

/-- an `INDEX_EXPR` exposes ONE index operator: were a tree to carry two under one node
(`base[i][j]` flattened), the second would be invisible through the typed accessors.  (The real
parser nests instead — `indexNested` below.) -/
theorem index_second_operator_invisible {n base o1 o2 : CNode} (h : n.childNodes = [base, o1, o2])
    (hb : Expr.canCast base.kind = true) (h1 : o1.kind = .INDEX_OPERATOR)
    (_h2 : o2.kind = .INDEX_OPERATOR) :
    IndexExpr.expr n = some base ∧ IndexExpr.index_operator n = some o1 := by
  have hbo : base.kind ≠ .INDEX_OPERATOR := by
    intro hk; rw [hk] at hb; exact absurd hb (by decide)
  rw [index_expr_eq, index_operator_eq, exprs, castable_of h, castable_of h]
  simp +decide [hb, h1, hbo, IndexOperator.canCast]

/-- `name[..][..]…`: the identifier and ALL index operators, in order -/
theorem indexed_identifier_roles {n i : CNode} {ops : List CNode} (h : n.childNodes = i :: ops)
    (hi : i.kind = .IDENTIFIER) (hops : ∀ o ∈ ops, o.kind = .INDEX_OPERATOR) :
    IndexedIdentifier.identifier n = some i ∧ IndexedIdentifier.index_operators n = ops := by
  constructor
  · unfold IndexedIdentifier.identifier
    rw [child_eq, castable_of h]; simp +decide [hi, Identifier.canCast]
  · unfold IndexedIdentifier.index_operators
    rw [children_eq, castable_of h]
    simp only [List.filter_cons, hi, IndexOperator.canCast]
    simp only [show (SyntaxKind.IDENTIFIER == SyntaxKind.INDEX_OPERATOR) = false from rfl]
    simp only [Bool.false_eq_true, if_false, List.filter_eq_self]
    intro o ho; simp +decide [hops o ho]

theorem assign_identifier_eq (n : CNode) :
    AssignmentStmt.identifier n = n.childNodes.find? (fun c => c.kind == .IDENTIFIER) := by
  unfold AssignmentStmt.identifier; rw [child_eq_find]; rfl

theorem assign_rhs_eq (n : CNode) :
    AssignmentStmt.rhs n =
      match exprs n with
      | [] => none
      | [a] => some a
      | _ :: b :: _ => some b := by
  unfold AssignmentStmt.rhs
  rw [children_eq]
  rcases h : castable Expr.canCast n with _ | ⟨a, _ | ⟨b, r⟩⟩ <;> simp +decide [exprs, h]

/-- `name = e;` -/
theorem assign_roles_plain {n a e : CNode} (h : n.childNodes = [a, e])
    (ha : a.kind = .IDENTIFIER) (he : Expr.canCast e.kind = true)
    (hei : e.kind ≠ .INDEXED_IDENTIFIER) :
    AssignmentStmt.identifier n = some a ∧ AssignmentStmt.rhs n = some e ∧
    AssignmentStmt.indexed_identifier n = none := by
  refine ⟨?_, ?_, ?_⟩
  · rw [assign_identifier_eq, h]; simp +decide [ha]
  · rw [assign_rhs_eq, exprs, castable_of h]; simp +decide [ha, he]
  · unfold AssignmentStmt.indexed_identifier
    rw [child_eq, castable_of h]; simp +decide [ha, hei, IndexedIdentifier.canCast]

/-- **the `a[0] = b;` defect**: with an indexed left-hand side and an identifier on the right,
`identifier()` — which the semantic pass reads as "the LHS is an identifier" — returns the
RIGHT-hand side; so does `rhs()` -/
theorem assign_indexed_lhs_identifier_is_rhs {n ii r : CNode} (h : n.childNodes = [ii, r])
    (hii : ii.kind = .INDEXED_IDENTIFIER) (hr : r.kind = .IDENTIFIER) :
    AssignmentStmt.identifier n = some r ∧ AssignmentStmt.rhs n = some r ∧
    AssignmentStmt.indexed_identifier n = some ii := by
  refine ⟨?_, ?_, ?_⟩
  · rw [assign_identifier_eq, h]; simp +decide [hii, hr]
  · rw [assign_rhs_eq, exprs, castable_of h]; simp +decide [hii, hr]
  · unfold AssignmentStmt.indexed_identifier
    rw [child_eq, castable_of h]; simp +decide [hii, IndexedIdentifier.canCast]

/-- with an indexed LHS and a NON-identifier RHS the roles are right -/
theorem assign_roles_indexed {n ii e : CNode} (h : n.childNodes = [ii, e])
    (hii : ii.kind = .INDEXED_IDENTIFIER) (he : Expr.canCast e.kind = true)
    (hei : e.kind ≠ .IDENTIFIER) :
    AssignmentStmt.identifier n = none ∧ AssignmentStmt.rhs n = some e ∧
    AssignmentStmt.indexed_identifier n = some ii := by
  refine ⟨?_, ?_, ?_⟩
  · rw [assign_identifier_eq, h]; simp +decide [hii, hei]
  · rw [assign_rhs_eq, exprs, castable_of h]; simp +decide [hii, he]
  · unfold AssignmentStmt.indexed_identifier
    rw [child_eq, castable_of h]; simp +decide [hii, IndexedIdentifier.canCast]

/-- `x = a[0];`: `indexed_identifier()` returns the RIGHT-hand side (harmless for the present
semantic pass, which asks `identifier()` first) -/
theorem assign_rhs_indexed_is_indexed_identifier {n a ii : CNode} (h : n.childNodes = [a, ii])
    (ha : a.kind = .IDENTIFIER) (hii : ii.kind = .INDEXED_IDENTIFIER) :
    AssignmentStmt.identifier n = some a ∧ AssignmentStmt.rhs n = some ii ∧
    AssignmentStmt.indexed_identifier n = some ii := by
  refine ⟨?_, ?_, ?_⟩
  · rw [assign_identifier_eq, h]; simp +decide [ha]
  · rw [assign_rhs_eq, exprs, castable_of h]; simp +decide [ha, hii]
  · unfold AssignmentStmt.indexed_identifier
    rw [child_eq, castable_of h]; simp +decide [ha, hii, IndexedIdentifier.canCast]

/-- `x = ();` — a right-hand side that is not an `Expr` kind (`TUPLE_EXPR`): `rhs()` returns the
LEFT-hand side -/
theorem assign_non_expr_rhs_is_lhs {n a t : CNode} (h : n.childNodes = [a, t])
    (ha : a.kind = .IDENTIFIER) (ht : Expr.canCast t.kind = false) :
    AssignmentStmt.rhs n = some a := by
  rw [assign_rhs_eq, exprs, castable_of h]; simp +decide [ha, ht]

abbrev paramLists (n : CNode) : List CNode := castable ParamList.canCast n

theorem gate_params_eq (n : CNode) :
    (Gate.angle_params n, Gate.qubit_params n) =
      match paramLists n with
      | [] => (none, none)
      | [q] => (none, some q)
      | a :: q :: _ => (some a, some q) := by
  unfold Gate.angle_params Gate.qubit_params Gate.angles_and_or_qubits
  rw [children_eq]
  rcases h : castable ParamList.canCast n with _ | ⟨a, _ | ⟨q, r⟩⟩ <;> simp +decide [paramLists, h]

/-- `gate name(angles) qubits {..}` -/
theorem gate_roles_two {n nm a q b : CNode} (h : n.childNodes = [nm, a, q, b])
    (hn : nm.kind = .NAME) (ha : a.kind = .PARAM_LIST) (hq : q.kind = .PARAM_LIST)
    (hb : b.kind = .BLOCK_EXPR) :
    Gate.name n = some nm ∧ Gate.angle_params n = some a ∧ Gate.qubit_params n = some q ∧
    Gate.body n = some b := by
  have hp : paramLists n = [a, q] := by
    rw [paramLists, castable_of h]; simp +decide [hn, ha, hq, hb, ParamList.canCast]
  have := gate_params_eq n
  rw [hp] at this
  refine ⟨?_, (Prod.mk.inj this).1, (Prod.mk.inj this).2, ?_⟩
  · unfold Gate.name; rw [child_eq, castable_of h]; simp +decide [hn, Name.canCast]
  · unfold Gate.body; rw [child_eq, castable_of h]
    simp +decide [hn, ha, hq, hb, BlockExpr.canCast]

/-- `gate name qubits {..}`: the single parameter list is the QUBIT list -/
theorem gate_roles_one {n nm q b : CNode} (h : n.childNodes = [nm, q, b])
    (hn : nm.kind = .NAME) (hq : q.kind = .PARAM_LIST) (hb : b.kind = .BLOCK_EXPR) :
    Gate.name n = some nm ∧ Gate.angle_params n = none ∧ Gate.qubit_params n = some q ∧
    Gate.body n = some b := by
  have hp : paramLists n = [q] := by
    rw [paramLists, castable_of h]; simp +decide [hn, hq, hb, ParamList.canCast]
  have := gate_params_eq n
  rw [hp] at this
  refine ⟨?_, (Prod.mk.inj this).1, (Prod.mk.inj this).2, ?_⟩
  · unfold Gate.name; rw [child_eq, castable_of h]; simp +decide [hn, Name.canCast]
  · unfold Gate.body; rw [child_eq, castable_of h]
    simp +decide [hn, hq, hb, BlockExpr.canCast]

/-- `def name(params) -> type {..}` -/
theorem def_roles {n nm ps rs b : CNode} (h : n.childNodes = [nm, ps, rs, b])
    (hn : nm.kind = .NAME) (hp : ps.kind = .TYPED_PARAM_LIST) (hr : rs.kind = .RETURN_SIGNATURE)
    (hb : b.kind = .BLOCK_EXPR) :
    Def.name n = some nm ∧ Def.typed_param_list n = some ps ∧
    Def.return_signature n = some rs ∧ Def.body n = some b := by
  refine ⟨?_, ?_, ?_, ?_⟩
  · unfold Def.name; rw [child_eq, castable_of h]; simp +decide [hn, Name.canCast]
  · unfold Def.typed_param_list; rw [child_eq, castable_of h]
    simp +decide [hn, hp, TypedParamList.canCast]
  · unfold Def.return_signature; rw [child_eq, castable_of h]
    simp +decide [hn, hp, hr, ReturnSignature.canCast]
  · unfold Def.body; rw [child_eq, castable_of h]
    simp +decide [hn, hp, hr, hb, BlockExpr.canCast]

theorem gate_call_identifier_eq (n : CNode) :
    GateCallExpr.identifier n =
      match (exprs n).head? with
      | some e => if e.kind = .IDENTIFIER then some e else none
      | none => none := by
  unfold GateCallExpr.identifier
  rw [children_eq]
  cases (castable Expr.canCast n).head? <;> simp

/-- `name(args) qubits` -/
theorem gate_call_roles {n g al ql : CNode} (h : n.childNodes = [g, al, ql])
    (hg : g.kind = .IDENTIFIER) (ha : al.kind = .ARG_LIST) (hq : ql.kind = .QUBIT_LIST) :
    GateCallExpr.identifier n = some g ∧ GateCallExpr.arg_list n = some al ∧
    GateCallExpr.qubit_list n = some ql := by
  refine ⟨?_, ?_, ?_⟩
  · rw [gate_call_identifier_eq, exprs, castable_of h]; simp +decide [hg]
  · unfold GateCallExpr.arg_list; rw [child_eq, castable_of h]
    simp +decide [hg, ha, ArgList.canCast]
  · unfold GateCallExpr.qubit_list; rw [child_eq, castable_of h]
    simp +decide [hg, ha, hq, QubitList.canCast]

/-- `m₁ @ m₂ @ … g`: the modifiers in source order, then the call -/
theorem modified_call_roles {n g : CNode} {ms : List CNode} (h : n.childNodes = ms ++ [g])
    (hms : ∀ m ∈ ms, Modifier.canCast m.kind = true) (hg : g.kind = .GATE_CALL_EXPR) :
    ModifiedGateCallExpr.modifiers n = ms ∧ ModifiedGateCallExpr.gate_call_expr n = some g ∧
    ModifiedGateCallExpr.g_phase_call_expr n = none := by
  refine ⟨?_, ?_, ?_⟩
  · unfold ModifiedGateCallExpr.modifiers
    rw [children_eq, castable_of h, List.filter_append]
    have : ms.filter (fun c => Modifier.canCast c.kind) = ms := List.filter_eq_self.mpr hms
    simp +decide [this, hg]
  · unfold ModifiedGateCallExpr.gate_call_expr
    rw [child_eq, castable_of h, List.filter_append]
    have : ms.filter (fun c => GateCallExpr.canCast c.kind) = [] := by
      rw [List.filter_eq_nil_iff]; intro m hm; simp +decide [(modifier_not_gateCall (hms m hm)).1]
    rw [this]; simp +decide [hg, GateCallExpr.canCast]
  · unfold ModifiedGateCallExpr.g_phase_call_expr
    rw [child_eq, castable_of h, List.filter_append]
    have : ms.filter (fun c => GPhaseCallExpr.canCast c.kind) = [] := by
      rw [List.filter_eq_nil_iff]; intro m hm; simp +decide [(modifier_not_gateCall (hms m hm)).2]
    rw [this]; simp +decide [hg, GPhaseCallExpr.canCast]

theorem expression_list_order {n : CNode} (h : ∀ c ∈ n.childNodes, Expr.canCast c.kind = true) :
    ExpressionList.exprs n = n.childNodes := children_eq_childNodes _ n h

theorem qubit_list_order {n : CNode} (h : ∀ c ∈ n.childNodes, GateOperand.canCast c.kind = true) :
    QubitList.gate_operands n = n.childNodes := children_eq_childNodes _ n h

theorem param_list_order {n : CNode} (h : ∀ c ∈ n.childNodes, c.kind = .PARAM) :
    ParamList.params n = n.childNodes :=
  children_eq_childNodes _ n (fun c hc => by simp +decide [Param.canCast, h c hc])

theorem block_statements_order {n : CNode} (h : ∀ c ∈ n.childNodes, Stmt.canCast c.kind = true) :
    BlockExpr.statements n = n.childNodes ∧ SourceFile.statements n = n.childNodes :=
  ⟨children_eq_childNodes _ n h, children_eq_childNodes _ n h⟩

theorem arg_list_roles {n el : CNode} (h : n.childNodes = [el]) (he : el.kind = .EXPRESSION_LIST) :
    ArgList.expression_list n = some el := by
  unfold ArgList.expression_list; rw [child_eq, castable_of h]
  simp +decide [he, ExpressionList.canCast]

/-- `Literal::token` / `ScalarType::token` / `FilePath::token` -/
theorem firstNonTriviaToken_eq (n : CNode) :
    firstNonTriviaToken n =
      match n.children.find? (fun e => !e.kind.isTrivia) with
      | some (.token k s e t) => .ok (.token k s e t)
      | _ => .panic := by
  unfold firstNonTriviaToken
  cases n.children.find? (fun e => !e.kind.isTrivia) with
  | none => rfl
  | some c => cases c <;> rfl

theorem literal_kind_int {n t : CNode} {pre post : List CNode} (h : n.children = pre ++ t :: post)
    (hpre : ∀ c ∈ pre, c.kind.isTrivia = true) (ht : t.isToken = true)
    (hk : t.kind = .INT_NUMBER) : Literal.kind n = .ok (.intNumber t) := by
  have hf : n.children.find? (fun e => !e.kind.isTrivia) = some t := by
    have : pre.find? (fun e => !e.kind.isTrivia) = none := by
      rw [List.find?_eq_none]; intro c hc; simp +decide [hpre c hc]
    rw [h, List.find?_append, this]
    simp +decide [hk]
  unfold Literal.kind Literal.token firstNonTriviaToken
  rw [hf]; simp +decide [ht, hk]

/-- `text()` of `Name` / `Identifier` / `HardwareQubit` / `Param` -/
theorem text_eq (n : CNode) :
    HasTextNode.text n =
      match n.children with
      | .token _ _ _ t :: _ => .ok t
      | _ => .panic := by
  unfold HasTextNode.text textOfFirstToken
  rcases n.children with _ | ⟨c, r⟩
  · rfl
  · cases c <;> rfl

/-! Non-vacuity: the role theorems above (except `range_roles_one` and
`index_second_operator_invisible`) instantiated on a tree printed by the real parser

(`W.*` are generated from `oq3-run tree` output, see `C05RolesTrees.lean`, where each whole tree
also carries the checked equation `Dump.program tree = <the real oq3-run ast line>`.)
The shape hypotheses are discharged by `rfl` (the child nodes are computed), the kind hypotheses
by `decide`. -/

section NonVacuity
open W

/-- `if (c) {a;} else {b;}`: condition `c`, then `{a;}`, else `{b;}` -/
example : IfStmt.condition ifBlockBlock = ifBlockBlock.sub [3] ∧
    IfStmt.true_body_block_or_stmt ifBlockBlock = .ok (.blockExpr ((ifBlockBlock.sub [6]).get!)) ∧
    IfStmt.false_body_block_or_stmt ifBlockBlock = some (.blockExpr ((ifBlockBlock.sub [10]).get!)) :=
  if_roles_block_block (n := ifBlockBlock) rfl (by decide) (by decide) (by decide)

example := if_roles_block_only (n := ifBlockOnly) rfl (by decide) (by decide)
example : IfStmt.false_body_block_or_stmt ifBlockOnly = none := by decide

example := if_roles_block_stmt (n := ifBlockStmt) rfl (by decide) (by decide) (by decide)

/-- **F07 (a) on the real tree of `if (c) a; else {b;}`**: "then" = the block `{b;}` at bytes
15..19 (the ELSE branch), "else" = the statement `a;` at bytes 7..9 (the THEN branch) -/
example : IfStmt.true_body_block_or_stmt ifStmtBlock = .ok (.blockExpr ((ifStmtBlock.sub [10]).get!)) ∧
    IfStmt.false_body_block_or_stmt ifStmtBlock = some (.stmt ((ifStmtBlock.sub [6]).get!)) ∧
    ((ifStmtBlock.sub [10]).get!).start = 15 ∧ ((ifStmtBlock.sub [6]).get!).start = 7 := by decide
example := f07_swap (n := ifStmtBlock) rfl (by decide) (by decide) (by decide)

/-- **F07 (b) on the real tree of `if (c) a; else b;`**: both roles = `a;` (bytes 7..9); the else
statement `b;` (bytes 15..17) is returned by neither body accessor -/
example : IfStmt.true_body_block_or_stmt ifStmtStmt = .ok (.stmt ((ifStmtStmt.sub [6]).get!)) ∧
    IfStmt.false_body_block_or_stmt ifStmtStmt = some (.stmt ((ifStmtStmt.sub [6]).get!)) ∧
    ((ifStmtStmt.sub [6]).get!).start = 7 ∧ ((ifStmtStmt.sub [10]).get!).start = 15 := by decide
example := f07_same (n := ifStmtStmt) rfl (by decide) (by decide) (by decide) (by decide)

/-- **F07 (c) on the real tree of `if (c) a;`**: an else branch appears out of nothing -/
example : IfStmt.false_body_block_or_stmt ifStmtOnly = some (.stmt ((ifStmtOnly.sub [6]).get!)) ∧
    support.token ifStmtOnly .ELSE_KW = none := by decide
example := f07_phantom_else (n := ifStmtOnly) rfl (by decide) (by decide) (by decide)
example := f07_else_is_first_stmt ifStmtOnly _ _ (by decide) rfl

/-- `if (c) ;` (no syntax error: the docstring of `W.ifEmptyFile`): the accessor panics -/
example : IfStmt.true_body_block_or_stmt ifEmpty = .panic := if_empty_body_panics ifEmpty _ rfl (by decide)
example : (if_true_body_panic_iff ifEmpty).mp (by decide) = ⟨by decide, by decide⟩ := rfl

example := while_roles_block (n := whileBlock) rfl (by decide) (by decide) (by decide)
example := while_roles_stmt (n := whileStmt) rfl (by decide) (by decide) (by decide)
example : WhileStmt.block_or_stmt whileEmpty = .panic := (while_panic_iff whileEmpty).mpr (by decide)

example := for_roles_block (n := forRange) rfl (by decide) (by decide) (by decide) (by decide)
example := for_roles_stmt (n := forStep) rfl (by decide) (by decide) (by decide) (by decide)
example := for_iterable_range_overlap (it := forIter) rfl (by decide)

/-- `[0:3]`: (start, step, stop) = (`0`, none, `3`) -/
example : RangeExpr.start_step_stop range2 = (range2.sub [1], none, range2.sub [3]) :=
  range_roles_two (n := range2) rfl (by decide) (by decide)
/-- `[0:2:8]`: (start, step, stop) = (`0`, `2`, `8`) -/
example : RangeExpr.start_step_stop range3 = (range3.sub [1], range3.sub [3], range3.sub [5]) :=
  range_roles_three (n := range3) rfl (by decide) (by decide) (by decide)

/-- `a + b` -/
example : BinExpr.lhs binAdd = binAdd.sub [0] ∧ BinExpr.rhs binAdd = binAdd.sub [4] :=
  bin_roles (n := binAdd) rfl (by decide) (by decide)
example : BinExpr.op_kind binAdd = some (.arithOp .add) ∧ BinExpr.op_token binAdd = binAdd.sub [2] :=
  bin_op_kind_of_tokens (n := binAdd) (pre := [_]) (post := [_]) rfl (by decide) rfl
example : PrefixExpr.op_kind prefixNeg = some .neg := by rw [prefix_op_kind_eq]; rfl

/-- `(a)[0][1]` is NESTED by the real parser: the outer `INDEX_EXPR` has base = the inner
`INDEX_EXPR` and operator `[1]`; the inner one has base `(a)` and operator `[0]` -/
example : IndexExpr.expr indexNested = some indexInner ∧
    IndexExpr.index_operator indexNested = indexNested.sub [1] ∧
    IndexExpr.expr indexInner = indexInner.sub [0] ∧
    IndexExpr.index_operator indexInner = indexInner.sub [1] :=
  ⟨(index_roles (n := indexNested) rfl (by decide) (by decide)).1,
   (index_roles (n := indexNested) rfl (by decide) (by decide)).2,
   (index_roles (n := indexInner) rfl (by decide) (by decide)).1,
   (index_roles (n := indexInner) rfl (by decide) (by decide)).2⟩

/-- `a[0][1]` as an `INDEXED_IDENTIFIER`: identifier `a`, operators `[0]`, `[1]` in order -/
example : IndexedIdentifier.identifier indexedTwo = indexedTwo.sub [0] ∧
    IndexedIdentifier.index_operators indexedTwo = [(indexedTwo.sub [1]).get!, (indexedTwo.sub [2]).get!] :=
  indexed_identifier_roles (n := indexedTwo) rfl (by decide) (by decide)

example := assign_roles_plain (n := assignPlain) rfl (by decide) (by decide) (by decide)

/-- **the defect on the real tree of `a[0] = b;`**: `identifier()` = `b` (bytes 7..8), the RHS -/
example : AssignmentStmt.identifier assignIndexed = assignIndexed.sub [4] ∧
    AssignmentStmt.rhs assignIndexed = assignIndexed.sub [4] ∧
    ((assignIndexed.sub [4]).get!).start = 7 := by decide
example := assign_indexed_lhs_identifier_is_rhs (n := assignIndexed) rfl (by decide) (by decide)
example := assign_roles_indexed (n := assignIndexedLit) rfl (by decide) (by decide) (by decide)
example := assign_rhs_indexed_is_indexed_identifier (n := assignFromIndexed) rfl (by decide) (by decide)
/-- `x = ();`: `rhs()` = `x` -/
example : AssignmentStmt.rhs assignTuple = assignTuple.sub [0] :=
  assign_non_expr_rhs_is_lhs (n := assignTuple) rfl (by decide) (by decide)

example := gate_roles_two (n := gateTwo) rfl (by decide) (by decide) (by decide) (by decide)
example := gate_roles_one (n := gateOne) rfl (by decide) (by decide) (by decide)
example : Gate.angle_params gateOne = none ∧ Gate.qubit_params gateOne = gateOne.sub [4] := by decide
example := def_roles (n := defFull) rfl (by decide) (by decide) (by decide) (by decide)

example := gate_call_roles (n := gateCallArgs) rfl (by decide) (by decide) (by decide)
/-- `inv @ pow(2) @ x q, r`: modifiers = [inv, pow(2)] in source order -/
example : ModifiedGateCallExpr.modifiers modCall = [(modCall.sub [0]).get!, (modCall.sub [2]).get!] ∧
    ModifiedGateCallExpr.gate_call_expr modCall = modCall.sub [4] ∧
    ModifiedGateCallExpr.g_phase_call_expr modCall = none :=
  modified_call_roles (n := modCall) (ms := [_, _]) rfl (by decide) (by decide)
example : ExpressionList.exprs exprList = exprList.childNodes ∧ exprList.childNodes.length = 2 :=
  ⟨expression_list_order (by decide), by decide⟩
example : QubitList.gate_operands qubitList = qubitList.childNodes ∧ qubitList.childNodes.length = 2 :=
  ⟨qubit_list_order (by decide), by decide⟩
example := param_list_order (n := (gateTwo.sub [5]).get!) (by decide)
example := block_statements_order (n := ifBlockBlockFile) (by decide)
example := arg_list_roles (n := argList) rfl (by decide)
example : Literal.kind litInt = .ok (.intNumber ((litInt.sub [0]).get!)) :=
  literal_kind_int (n := litInt) (pre := []) (post := []) rfl (by decide) (by decide) (by decide)
example : HasTextNode.text ((assignPlain.sub [0]).get!) = .ok ['a'] := by rw [text_eq]; rfl

example := children_sublist Stmt.canCast ifBlockBlockFile
example : support.child Name.canCast gateTwo = gateTwo.sub [2] := by decide

/-! The defects, end to end on the dump: what `oq3-run ast` prints for the real trees

(the same equations are checked for every witness tree in `C05RolesTrees.lean`; these four are
named because they ARE the findings F07 and S-assign-self) -/

/-- `if (c) a; else {b;}` → `(IfStmt .. c (BosBlock {b;}) (BosStmt a;))` -/
theorem f07_swap_dump : Dump.program W.ifStmtBlockFile =
    "(Program 0 19 ((IfStmt 0 19 (Identifier 4 5 x63) (BosBlock (BlockExpr 15 19 ((ExprStmt 16 18 (Identifier 16 17 x62))))) (BosStmt (ExprStmt 7 9 (Identifier 7 8 x61))))))" := by
  decide +kernel

/-- `if (c) a; else b;` → `(IfStmt .. c (BosStmt a;) (BosStmt a;))` -/
theorem f07_same_dump : Dump.program W.ifStmtStmtFile =
    "(Program 0 17 ((IfStmt 0 17 (Identifier 4 5 x63) (BosStmt (ExprStmt 7 9 (Identifier 7 8 x61))) (BosStmt (ExprStmt 7 9 (Identifier 7 8 x61))))))" := by
  decide +kernel

/-- `if (c) a;` → `(IfStmt .. c (BosStmt a;) (BosStmt a;))` -/
theorem f07_phantom_else_dump : Dump.program W.ifStmtOnlyFile =
    "(Program 0 9 ((IfStmt 0 9 (Identifier 4 5 x63) (BosStmt (ExprStmt 7 9 (Identifier 7 8 x61))) (BosStmt (ExprStmt 7 9 (Identifier 7 8 x61))))))" := by
  decide +kernel

/-- `a[0] = b;` → `(AssignmentStmt .. (Identifier b) (Identifier b) (IndexedIdentifier a[0]))` -/
theorem assign_indexed_dump : Dump.program W.assignIndexedFile =
    "(Program 0 9 ((AssignmentStmt 0 9 (Identifier 7 8 x62) (Identifier 7 8 x62) (IndexedIdentifier 0 4 (Identifier 0 1 x61) ((IndexOperator 1 4 (ExpressionList 2 3 ((Literal 2 3 (IntNumber x30 0))))))))))" := by
  decide +kernel

end NonVacuity

end Oq3.Props.C05Roles
