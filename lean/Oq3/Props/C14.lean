/-
C14 — tokens partition the input on character boundaries
(with the lexer parts of C01: progress, assertions, totality of `LexedStr`/`to_input`).

Every theorem is for an arbitrary input `s : List Char` and arbitrary Unicode class functions
`uc : UC` (the parameters standing for `unicode-xid` / `unicode-properties`), by induction along
the token stream; there is no bound on the length of the input.

The only theorem with a hypothesis on `uc` is `asserts_hold` (with its Boolean form
`asserts_hold'`): the `debug_assert!` of `ident_or_unknown_prefix` is reached from the `'p'` and `'O'` arms of `advance_token` without a
prior `is_id_start` test, so it holds only because the letters of `pragma` and `OPENQASM` are
`XID_Start` (`KeywordLettersAreIdStart`; `witness_assert_needs_tables` shows the hypothesis is
necessary).  The harness checks that hypothesis against the real tables.
-/
import Oq3.Lemmas.Lexer
import Oq3.Lemmas.Lexed
import Oq3.Lemmas.Bridge

namespace Oq3.Props.C14
open Oq3.Lexer Oq3.Lexed Oq3.Gen Oq3.Lemmas.Lexer Oq3.Lemmas.Lexed

/-- on non-empty input `advance_token` returns a strict suffix: the token is non-empty -/
theorem advance_strict (uc : UC) (s : List Char) (h : s ≠ []) :
    (advanceToken uc s).rest <:+ s ∧ (advanceToken uc s).rest.length < s.length := by
  cases s with
  | nil => exact absurd rfl h
  | cons c cs =>
    exact ⟨(advanceToken_rest_suffix uc c cs).trans (List.suffix_cons _ _), advanceToken_rest_length_lt uc c cs⟩

theorem advance_eof_iff (uc : UC) (s : List Char) : (advanceToken uc s).kind = .eof ↔ s = [] := by
  cases s with
  | nil => simp [advanceToken]
  | cons c cs => simp [advanceToken_kind_ne_eof uc c cs]

/-- one unit of fuel per character is enough: more fuel changes nothing -/
theorem tokenize_fuel_suffices (uc : UC) (s : List Char) (fuel : Nat) (h : s.length ≤ fuel) :
    tokenizeFuel uc fuel s = tokenize uc s :=
  tokenizeFuel_irrel uc fuel s.length s h (Nat.le_refl _)

/-- the token texts, concatenated, are the input -/
theorem tokenize_concat (uc : UC) (s : List Char) :
    ((tokenize uc s).map (·.text)).flatten = s :=
  tokenize_texts uc s

/-- a token is a list of whole characters and its `len` is the sum of their UTF-8 sizes -/
theorem token_char_boundary (uc : UC) (s : List Char) :
    ∀ t ∈ tokenize uc s, t.len = utf8Len t.text ∧ utf8Len t.text = (t.text.map Char.utf8Size).sum := by
  intro t ht
  refine ⟨forall_tokenize uc (fun t => t.len = utf8Len t.text) (tokenAt_len uc) s t ht, ?_⟩
  generalize t.text = l
  induction l with
  | nil => rfl
  | cons c cs ih => simp [utf8Len, ih]

/-- the byte lengths of the tokens sum to the byte length of the input -/
theorem tokenize_len_sum (uc : UC) (s : List Char) :
    ((tokenize uc s).map (·.len)).sum = utf8Len s := by
  have h : ∀ ts : List Token, (∀ t ∈ ts, t.len = utf8Len t.text) →
      (ts.map (·.len)).sum = utf8Len ((ts.map (·.text)).flatten) := by
    intro ts
    induction ts with
    | nil => intro _; rfl
    | cons t ts ih =>
      intro h
      simp only [List.map_cons, List.sum_cons, List.flatten_cons, utf8Len_append]
      rw [h t (by simp), ih (fun t' h' => h t' (by simp [h']))]
  rw [h _ (fun t ht => (token_char_boundary uc s t ht).1), tokenize_concat]

theorem token_nonempty (uc : UC) (s : List Char) :
    ∀ t ∈ tokenize uc s, t.text ≠ [] ∧ 0 < t.len := by
  intro t ht
  have h1 := forall_tokenize uc (fun t => t.text ≠ []) (tokenAt_text_ne_nil uc) s t ht
  exact ⟨h1, by rw [(token_char_boundary uc s t ht).1]; exact utf8Len_pos h1⟩

theorem token_kind_ne_eof (uc : UC) (s : List Char) : ∀ t ∈ tokenize uc s, t.kind ≠ .eof :=
  forall_tokenize uc (fun t => t.kind ≠ .eof) (tokenAt_kind_ne_eof uc) s

/-- `suffix_start` of a literal lies inside the token -/
theorem suffix_start_le_len (uc : UC) (s : List Char) :
    ∀ t ∈ tokenize uc s, ∀ k suf, t.kind = .literal k suf → suf ≤ t.len :=
  forall_tokenize uc (fun t => ∀ k suf, t.kind = .literal k suf → suf ≤ t.len)
    (fun c cs k suf h => tokenAt_suffix_start uc c cs k suf h) s

theorem tokenize_length_le (uc : UC) (s : List Char) : (tokenize uc s).length ≤ s.length := by
  have h : ∀ ts : List Token, (∀ t ∈ ts, t.text ≠ []) →
      ts.length ≤ ((ts.map (·.text)).flatten).length := by
    intro ts
    induction ts with
    | nil => intro _; simp
    | cons t ts ih =>
      intro h
      have h1 : 0 < t.text.length := List.length_pos_iff.mpr (h t (by simp))
      have := ih (fun t' h' => h t' (by simp [h']))
      simp only [List.map_cons, List.flatten_cons, List.length_append, List.length_cons]
      omega
  have := h _ (fun t ht => (token_nonempty uc s t ht).1)
  rwa [tokenize_concat] at this

/-- the model is a function (the content of "deterministic" is that the Rust is, which the
harness checks by lexing twice) -/
theorem deterministic (uc : UC) (s₁ s₂ : List Char) (h : s₁ = s₂) :
    tokenize uc s₁ = tokenize uc s₂ := h ▸ rfl

/-- Every `debug_assert!` of the lexer holds and `depth -= 1` in `block_comment` never
underflows — provided the letters of `pragma` and `OPENQASM` are identifier starts. -/
theorem asserts_hold (uc : UC) (hu : KeywordLettersAreIdStart uc) (s : List Char) :
    ∀ t ∈ tokenize uc s, t.ok = true :=
  forall_tokenize uc (fun t => t.ok = true) (tokenAt_ok uc hu) s

theorem asserts_hold' (uc : UC) (hu : KeywordLettersAreIdStart uc) (s : List Char) :
    tokenizeOk uc s = true := by
  simp only [tokenizeOk, List.all_eq_true]
  exact asserts_hold uc hu s

/-- `LexedStr::new` returns normally: no byte slice is off a character boundary -/
theorem lexed_new_total (uc : UC) (s : List Char) : ∃ l, LexedStr.new uc s = some l :=
  ⟨_, new_eq uc s⟩

section
variable (uc : UC) (s : List Char) (l : LexedStr) (hl : LexedStr.new uc s = some l)
include hl

theorem lexed_eq : l = lexedOf uc s := by
  rw [new_eq] at hl; exact (Option.some.inj hl).symm

theorem lexed_text : l.text = s := by
  rw [lexed_eq uc s l hl]; rfl

/-- `start.len() == kind.len()` -/
theorem kinds_len_eq_starts_len : l.kind.length = l.start.length := by
  rw [lexed_eq uc s l hl]; simp [lexedOf, offsets_length]

/-- `LexedStr::len()` is the number of tokens (the kind vector has one entry more, the `EOF`
sentinel: `kinds_last_eof`) -/
theorem lexed_len : l.len = (tokenize uc s).length := by
  rw [lexed_eq uc s l hl]; exact lexedOf_len uc s

theorem kinds_last_eof : l.kind.getLast? = some .EOF := by
  rw [lexed_eq uc s l hl]; simp [lexedOf]

/-- the start offsets (sentinel included) are strictly increasing -/
theorem starts_strictly_increasing : List.Pairwise (· < ·) l.start := by
  rw [lexed_eq uc s l hl]
  have := offsets_pairwise (tokenize uc s) (fun t ht => (token_nonempty uc s t ht).1) 0
  simpa [lexedOf, texts_tokenize] using this

theorem first_start_zero : l.start.head? = some 0 := by
  have := lexedOf_start uc s 0 (Nat.zero_le _)
  rw [lexed_eq uc s l hl, List.head?_eq_getElem?, this]
  simp [texts, utf8Len]

/-- the sentinel `EOF` entry starts at the byte length of the input -/
theorem last_start_eq_len : l.start.getLast? = some (utf8Len s) := by
  rw [lexed_eq uc s l hl]; simp [lexedOf]

/-- every start offset is at most the byte length of the input; hence the `as u32` casts are
lossless when `utf8Len s < 2^32` -/
theorem starts_le_len : ∀ x ∈ l.start, x ≤ utf8Len s := by
  intro x hx
  have hp := starts_strictly_increasing uc s l hl
  have hlast := last_start_eq_len uc s l hl
  obtain ⟨init, hinit⟩ : ∃ init, l.start = init ++ [utf8Len s] := by
    rw [lexed_eq uc s l hl]; exact ⟨_, rfl⟩
  rw [hinit] at hx hp
  rcases List.mem_append.mp hx with hx | hx
  · exact Nat.le_of_lt ((List.pairwise_append.mp hp).2.2 x hx _ (by simp))
  · simp at hx; omega

theorem starts_lt_u32 (h32 : utf8Len s < 2 ^ 32) : ∀ x ∈ l.start, x < 2 ^ 32 :=
  fun x hx => Nat.lt_of_le_of_lt (starts_le_len uc s l hl x hx) h32

/-- `kind(i)`: in range for every `i < len()`, and it is the kind of token `i` -/
theorem kind_ok (i : Nat) (hi : i < (tokenize uc s).length) :
    l.kindAt i = some (synKind (tokenize uc s)[i]) := by
  rw [lexed_eq uc s l hl]; exact lexedOf_kindAt uc s i hi

/-- `text(i)`: every index is in range, the byte slice is on character boundaries, and the
result is exactly the text of token `i` -/
theorem slice_ok (i : Nat) (hi : i < (tokenize uc s).length) :
    l.textAt i = some (tokenize uc s)[i].text := by
  rw [lexed_eq uc s l hl]; exact lexedOf_textAt uc s i hi

/-- `text_start(i)` for `i ≤ len()` is the byte length of the first `i` tokens -/
theorem text_start_ok (i : Nat) (hi : i ≤ (tokenize uc s).length) :
    l.textStart i = some (utf8Len (texts ((tokenize uc s).take i))) := by
  rw [lexed_eq uc s l hl]
  simp only [LexedStr.textStart, lexedOf_len, hi, if_true]
  exact lexedOf_start uc s i hi

/-- `text_range(i)` / `text_len(i)`: in range, `lo ≤ hi`, and the length is the token's `len` -/
theorem text_len_ok (i : Nat) (hi : i < (tokenize uc s).length) :
    l.textLen i = some (tokenize uc s)[i].len := by
  rw [lexed_eq uc s l hl]
  have hlen : (tokenize uc s)[i].len = utf8Len (tokenize uc s)[i].text :=
    (token_char_boundary uc s _ (List.getElem_mem hi)).1
  simp only [LexedStr.textLen, LexedStr.textRange, lexedOf_len, hi, if_true]
  rw [lexedOf_start uc s i (by omega), lexedOf_start uc s (i + 1) (by omega)]
  simp only [List.take_succ_eq_append_getElem hi, texts_append, utf8Len_append]
  rw [if_pos (by omega), hlen]
  simp [texts]

theorem error_index_lt_len : ∀ e ∈ l.error, e.token < l.len := by
  rw [lexed_eq uc s l hl, lexedOf_len]
  intro e he
  have := specErrors_token (tokenize uc s) 0 e he
  omega

omit hl in
/-- `to_input` of a lexed text returns normally (every `kind(i)`, `text(i)`, `was_joint()` is in
range; `Bridge.toInput_exact` is its value): the kinds are the non-trivia kinds of the token table,
in order, and the joint bits are parallel to them -/
theorem toInput_kinds :
    ∃ inp, (lexedOf uc s).toInput = some inp ∧
      inp.kind = ((tokenize uc s).map synKind).filter (fun k => !k.isTrivia) ∧
      inp.joint.length = inp.kind.length := by
  refine ⟨_, Oq3.Bridge.toInput_exact uc s, ?_, Oq3.Bridge.jointSpec_length _⟩
  simp only [Oq3.Bridge.rawToksOf_lexedOf, Oq3.Builder.ntKinds, List.filter_map, List.map_map]
  rfl

theorem to_input_total : ∃ inp, l.toInput = some inp ∧ inp.joint.length = inp.kind.length := by
  rw [lexed_eq uc s l hl]
  obtain ⟨inp, hi, -, hj⟩ := toInput_kinds uc s
  exact ⟨inp, hi, hj⟩

/-- `Input::is_joint(n)` is in range for every token index -/
theorem is_joint_total (inp : Input) (hi : l.toInput = some inp) (n : Nat) (hn : n < inp.len) :
    ∃ b, inp.isJoint n = some b := by
  obtain ⟨inp', h1, h2⟩ := to_input_total uc s l hl
  rw [hi] at h1; cases h1
  refine ⟨inp.joint.getD n false, ?_⟩
  unfold Input.isJoint
  rw [if_pos]
  simp only [Input.len] at hn
  omega

end

/-! ### non-vacuity: concrete token streams, evaluated by the kernel -/

def ucAscii : UC where
  xidStart c := ('a' ≤ c && c ≤ 'z') || ('A' ≤ c && c ≤ 'Z')
  xidContinue c := ('a' ≤ c && c ≤ 'z') || ('A' ≤ c && c ≤ 'Z') || ('0' ≤ c && c ≤ '9') || c == '_'
  isEmoji _ := false

theorem ucAscii_letters : KeywordLettersAreIdStart ucAscii := by
  unfold KeywordLettersAreIdStart; decide

def view (ts : List Token) : List (TokenKind × Nat × List Char) :=
  ts.map fun t => (t.kind, t.len, t.text)

example : view (tokenize ucAscii ['a', ' ', '1', '.', '5', 'e']) =
    [(.ident, 1, ['a']), (.whitespace, 1, [' ']),
     (.literal (.float .decimal true) 4, 4, ['1', '.', '5', 'e'])] := by decide

example : view (tokenize ucAscii ['/', '*', '/', '*', '*', '/', 'x']) =
    [(.blockComment false, 7, ['/', '*', '/', '*', '*', '/', 'x'])] := by decide

example : view (tokenize ucAscii ['3', 'n', 's', ';']) =
    [(.literal (.int .decimal false) 1, 1, ['3']), (.ident, 2, ['n', 's']), (.semi, 1, [';'])] := by
  decide

example : view (tokenize ucAscii ['"', '0', '_', '_', '1', '"', 'µ']) =
    [(.literal (.bitStr true true) 6, 6, ['"', '0', '_', '_', '1', '"']), (.unknown, 2, ['µ'])] := by
  decide

/-- `$_` is one `Dollar` token of length 2 -/
example : view (tokenize ucAscii ['$', '_', '$', '7']) =
    [(.dollar, 2, ['$', '_']), (.hardwareIdent, 2, ['$', '7'])] := by decide

example : (LexedStr.new ucAscii ['a', ' ', '1', '.', '5', 'e']).map (fun l => (l.kind, l.start)) =
    some ([.IDENT, .WHITESPACE, .FLOAT_NUMBER, .EOF], [0, 1, 2, 6]) := by decide

example : ((LexedStr.new ucAscii ['a', ' ', '1', '.', '5', 'e']).bind (·.toInput)) =
    some ⟨[.IDENT, .FLOAT_NUMBER], [false, true]⟩ := by decide

example : (tokenize ucAscii ['p', 'r', 'a', 'g', 'x', ' ', '#', 'd', 'i']).all (·.ok) = true := by
  decide

/-- The hypothesis of `asserts_hold` is necessary: with class functions for which `p` is not an
identifier start, `debug_assert!(is_id_start(self.prev()))` fails on the input `p`. -/
theorem witness_assert_needs_tables :
    ∃ uc : UC, tokenizeOk uc ['p'] = false :=
  ⟨⟨fun _ => false, fun _ => false, fun _ => false⟩, by decide⟩

end Oq3.Props.C14
