/-
C20 — type promotion is a join on the numeric tower and never narrows.

The order is the one fixed in DESIGN.md §7 C20:
up to const-ness a type is related to itself; inside the tower `int, uint < float < complex`
the order is lexicographic (kind first, then width, `none` above every `some w`).
Full statements that the unchanged code violates are kept as `witness_*` (negation on a
concrete pair) plus a `_partial` theorem whose guard excludes exactly the witnessed region.
-/
import Oq3.Model.Types

namespace Oq3.Props.C20
open Oq3.Types Oq3.Types.T

def inTower (t : T) : Bool :=
  match tag t with | .int | .uint | .float | .complex => true | _ => false

def rank (t : T) : Nat :=
  match tag t with | .float => 1 | .complex => 2 | _ => 0

def wle : Width → Width → Bool
  | _, none => true
  | some x, some y => x ≤ y
  | none, some _ => false

def le (a b : T) : Bool :=
  unconst a == unconst b ||
  (inTower a && inTower b && (rank a < rank b || (tag a == tag b && wle (width a) (width b))))

def HasBound (a b : T) : Prop := ∃ c, le a c = true ∧ le b c = true

theorem promoteWidth_comm (a b : T) : promoteWidth a b = promoteWidth b a := by
  unfold promoteWidth; cases width a <;> cases width b <;> simp [Nat.max_comm]

theorem promoteTypeWidth_comm (a b : T) : promoteTypeWidth a b = promoteTypeWidth b a := by
  unfold promoteTypeWidth promoteConstness
  rw [promoteWidth_comm a b, Bool.and_comm]
  -- a listed pair of base types decides both tables; otherwise the swapped table is split too
  split <;> first | (simp_all; done) | (split <;> simp_all)

theorem promoteBaseType_comm (a b : T) : promoteBaseType a b = promoteBaseType b a := by
  unfold promoteBaseType
  split <;> first | (simp_all; done) | (split <;> simp_all)

theorem equalUpToConstness_comm (a b : T) : equalUpToConstness a b = equalUpToConstness b a := by
  unfold equalUpToConstness
  by_cases h : a = b
  · subst h; rfl
  · have h' : ¬ b = a := fun e => h e.symm
    simp only [h, h', if_false]
    split <;> first | (simp_all [Bool.beq_comm]; done) | (split <;> simp_all)

theorem unconst_eq_of_equalUpToConstness (a b : T) (h : equalUpToConstness a b = true) :
    unconst a = unconst b := by
  unfold equalUpToConstness at h
  by_cases hab : a = b
  · subst hab; rfl
  · simp only [hab, if_false] at h
    -- for different constructors `h` evaluates to `false = true`
    cases a <;> cases b <;> first | (cases h; done) | simp_all [tag, width, bitArrayDims, unconst]

theorem equalUpToConstness_of_unconst_eq (a b : T) (h : unconst a = unconst b) :
    equalUpToConstness a b = true := by
  unfold equalUpToConstness
  by_cases hab : a = b
  · simp [hab]
  · simp only [hab, if_false]
    cases a <;> cases b <;> first | (cases h; done) | simp_all [tag, width, bitArrayDims, unconst]

theorem tag_unconst (a : T) : tag (unconst a) = tag a := by cases a <;> rfl
theorem width_unconst (a : T) : width (unconst a) = width a := by cases a <;> rfl

theorem tag_eq_of_unconst_eq {a b : T} (h : unconst a = unconst b) : tag a = tag b := by
  rw [← tag_unconst a, ← tag_unconst b, h]

theorem width_eq_of_unconst_eq {a b : T} (h : unconst a = unconst b) : width a = width b := by
  rw [← width_unconst a, ← width_unconst b, h]

theorem wle_refl (w : Width) : wle w w = true := by cases w <;> simp [wle]

theorem le_refl (a : T) : le a a = true := by simp [le]

/-! ### 1. symmetry up to const-ness — full -/

theorem promote_symm (a b : T) : unconst (promoteTypes a b) = unconst (promoteTypes b a) := by
  unfold promoteTypes
  rw [equalUpToConstness_comm b a, promoteTypeWidth_comm b a, promoteBaseType_comm b a]
  cases h : equalUpToConstness a b
  · simp
  · simp [unconst_eq_of_equalUpToConstness a b h]

/-! ### 2. idempotence — full -/

theorem promote_idem (a : T) : promoteTypes a a = a := by
  simp [promoteTypes, equalUpToConstness]

/-! ### 3. upper bound — full -/

theorem promoteTypeWidth_tag {a b : T} (h : promoteTypeWidth a b ≠ void) :
    tag a = tag b ∧ tag (promoteTypeWidth a b) = tag a ∧ inTower a = true ∧
    width (promoteTypeWidth a b) = promoteWidth a b := by
  unfold promoteTypeWidth at *
  split at h <;> simp_all [inTower, tag, width]

theorem wle_promoteWidth_left (a b : T) : wle (width a) (promoteWidth a b) = true := by
  unfold promoteWidth
  cases width a <;> cases width b <;> simp [wle]
  omega

theorem wle_promoteWidth_right (a b : T) : wle (width b) (promoteWidth a b) = true := by
  rw [promoteWidth_comm]; exact wle_promoteWidth_left b a

theorem le_promoteTypeWidth_left {a b : T} (h : promoteTypeWidth a b ≠ void) :
    le a (promoteTypeWidth a b) = true := by
  obtain ⟨_, ht, htow, hw⟩ := promoteTypeWidth_tag h
  have htow' : inTower (promoteTypeWidth a b) = true := by
    unfold inTower at *; rw [ht]; exact htow
  simp [le, htow, htow', ht, hw, wle_promoteWidth_left]

theorem le_promoteBaseType_left {a b : T} (h : promoteBaseType a b ≠ void) :
    le a (promoteBaseType a b) = true := by
  unfold promoteBaseType at *
  split at h <;> simp_all [le, inTower, rank]

theorem promoteTypes_cases (a b : T) :
    (equalUpToConstness a b = true ∧ promoteTypes a b = a) ∨
    (equalUpToConstness a b = false ∧ promoteTypeWidth a b ≠ void ∧
      promoteTypes a b = promoteTypeWidth a b) ∨
    (equalUpToConstness a b = false ∧ promoteTypeWidth a b = void ∧
      promoteTypes a b = promoteBaseType a b) := by
  unfold promoteTypes
  cases he : equalUpToConstness a b
  · by_cases hw : promoteTypeWidth a b = void
    · right; right; simp [hw]
    · right; left; simp [hw]
  · left; simp

theorem promote_upper_bound_left (a b : T) (h : promoteTypes a b ≠ void) :
    le a (promoteTypes a b) = true := by
  rcases promoteTypes_cases a b with ⟨_, hp⟩ | ⟨_, hw, hp⟩ | ⟨_, _, hp⟩
  · rw [hp]; exact le_refl a
  · rw [hp]; exact le_promoteTypeWidth_left hw
  · rw [hp] at h ⊢; exact le_promoteBaseType_left h

theorem promote_void_comm (a b : T) : promoteTypes a b = void ↔ promoteTypes b a = void := by
  have h := promote_symm a b
  constructor <;> intro hv <;> rw [hv] at h
  · cases hp : promoteTypes b a <;> simp_all [unconst]
  · cases hp : promoteTypes a b <;> simp_all [unconst]

theorem le_congr_right {a x y : T} (h : unconst x = unconst y) : le a x = le a y := by
  unfold le inTower rank
  rw [h, tag_eq_of_unconst_eq h, width_eq_of_unconst_eq h]

/-- **Upper bound.** Whenever a common type is produced, both operands are below it. -/
theorem promote_upper_bound (a b : T) (h : promoteTypes a b ≠ void) :
    le a (promoteTypes a b) = true ∧ le b (promoteTypes a b) = true := by
  refine ⟨promote_upper_bound_left a b h, ?_⟩
  have h' : promoteTypes b a ≠ void := fun hv => h ((promote_void_comm a b).mpr hv)
  rw [le_congr_right (promote_symm a b)]
  exact promote_upper_bound_left b a h'

/-- "never narrows", read off the order: the result's kind rank and, within a kind, its
width are never below an operand's. -/
theorem promote_never_narrows (a b : T) (h : promoteTypes a b ≠ void)
    (ha : inTower a = true) (hne : unconst a ≠ unconst (promoteTypes a b)) :
    rank a < rank (promoteTypes a b) ∨
      (tag a = tag (promoteTypes a b) ∧ wle (width a) (width (promoteTypes a b)) = true) := by
  have := (promote_upper_bound a b h).1
  unfold le at this
  simp only [Bool.or_eq_true, beq_iff_eq, Bool.and_eq_true, decide_eq_true_eq] at this
  rcases this with h1 | ⟨_, h2⟩
  · exact absurd h1 hne
  · rcases h2 with h2 | h2
    · exact Or.inl h2
    · exact Or.inr h2

/-! ### 4. const-ness -/

/-- what the property demands -/
def ConstOnlyIfBoth (a b : T) : Prop :=
  isConst (promoteTypes a b) = true → isConst a = true ∧ isConst b = true

instance (a b : T) : Decidable (ConstOnlyIfBoth a b) := by unfold ConstOnlyIfBoth; infer_instance

/-- finding F19a region 1: operands equal up to const-ness, first const, second not -/
def kfConstFirstOperand (a b : T) : Bool :=
  equalUpToConstness a b && isConst a && !isConst b

/-- finding F19a region 2: cross-kind promotion returns the higher operand with *its* flag -/
def kfConstHigherOperand (a b : T) : Bool :=
  !equalUpToConstness a b && promoteTypeWidth a b == void && promoteBaseType a b != void &&
  isConst (promoteBaseType a b) && !(isConst a && isConst b)

theorem witness_const_first_operand :
    ¬ ConstOnlyIfBoth (int (some 8) true) (int (some 8) false) := by decide

theorem witness_const_higher_operand :
    ¬ ConstOnlyIfBoth (int (some 8) false) (float (some 8) true) := by decide

example : kfConstFirstOperand (int (some 8) true) (int (some 8) false) = true := by decide
example : kfConstHigherOperand (int (some 8) false) (float (some 8) true) = true := by decide

theorem isConst_promoteTypeWidth {a b : T} (h : promoteTypeWidth a b ≠ void) :
    isConst (promoteTypeWidth a b) = (isConst a && isConst b) := by
  unfold promoteTypeWidth promoteConstness at *
  split at h <;> simp_all [isConst]

/-- Outside the two recorded regions the result is const only if both operands are
(and a result that is not `void`). -/
theorem promote_const_only_if_both_partial (a b : T) (hv : promoteTypes a b ≠ void)
    (h1 : kfConstFirstOperand a b = false) (h2 : kfConstHigherOperand a b = false) :
    ConstOnlyIfBoth a b := by
  unfold ConstOnlyIfBoth
  intro hc
  rcases promoteTypes_cases a b with ⟨he, hp⟩ | ⟨_, hw, hp⟩ | ⟨he, hw, hp⟩
  · rw [hp] at hc
    simp [kfConstFirstOperand, he, hc] at h1
    exact ⟨hc, h1⟩
  · rw [hp, isConst_promoteTypeWidth hw] at hc
    simpa using hc
  · rw [hp] at hc hv
    simp [kfConstHigherOperand, he, hw, hc, hv] at h2
    exact h2

/-! ### 5. `void` exactly when there is no bound -/

theorem le_cases {a c : T} (h : le a c = true) :
    unconst a = unconst c ∨ (inTower a = true ∧ inTower c = true) := by
  unfold le at h
  simp only [Bool.or_eq_true, beq_iff_eq, Bool.and_eq_true] at h
  rcases h with h | ⟨⟨h1, h2⟩, _⟩
  · exact Or.inl h
  · exact Or.inr ⟨h1, h2⟩

theorem inTower_of_unconst_eq {a c : T} (h : unconst a = unconst c) : inTower a = inTower c := by
  unfold inTower; rw [tag_eq_of_unconst_eq h]

theorem le_top {a : T} (h : inTower a = true) : le a (complex none false) = true := by
  unfold le inTower rank at *
  cases ha : tag a <;> simp only [ha, Bool.false_eq_true] at h ⊢ <;> simp [tag, width, wle]

theorem hasBound_iff (a b : T) :
    HasBound a b ↔ (unconst a = unconst b ∨ (inTower a = true ∧ inTower b = true)) := by
  constructor
  · rintro ⟨c, hac, hbc⟩
    rcases le_cases hac with h1 | ⟨h1, h1'⟩ <;> rcases le_cases hbc with h2 | ⟨h2, h2'⟩
    · exact Or.inl (h1.trans h2.symm)
    · exact Or.inr ⟨by rw [inTower_of_unconst_eq h1]; exact h2', h2⟩
    · exact Or.inr ⟨h1, by rw [inTower_of_unconst_eq h2]; exact h1'⟩
    · exact Or.inr ⟨h1, h2⟩
  · rintro (h | ⟨h1, h2⟩)
    · exact ⟨a, le_refl a, by unfold le; simp [h]⟩
    · exact ⟨complex none false, le_top h1, le_top h2⟩

/-- finding F19b: two complex types of different width have a bound but promote to `void` -/
def kfComplexWidths (a b : T) : Bool :=
  tag a == .complex && tag b == .complex && width a != width b

/-- finding F19c: signed with unsigned integer has a bound (any float) but promotes to `void` -/
def kfIntUInt (a b : T) : Bool :=
  (tag a == .int && tag b == .uint) || (tag a == .uint && tag b == .int)

theorem witness_complex_widths :
    promoteTypes (complex (some 32) false) (complex (some 64) false) = void ∧
    HasBound (complex (some 32) false) (complex (some 64) false) :=
  ⟨by decide, (hasBound_iff _ _).mpr (Or.inr ⟨by decide, by decide⟩)⟩

theorem witness_int_uint :
    promoteTypes (int (some 8) false) (uint (some 8) false) = void ∧
    HasBound (int (some 8) false) (uint (some 8) false) :=
  ⟨by decide, (hasBound_iff _ _).mpr (Or.inr ⟨by decide, by decide⟩)⟩

theorem promoteBaseType_tower {a b : T} (h : promoteBaseType a b ≠ void) :
    inTower a = true ∧ inTower b = true := by
  unfold promoteBaseType at h
  unfold inTower
  split at h <;> simp_all

/-- no bound ⇒ `void`: full. -/
theorem void_of_no_bound (a b : T) (hb : ¬ HasBound a b) : promoteTypes a b = void := by
  rw [hasBound_iff] at hb
  rcases promoteTypes_cases a b with ⟨he, _⟩ | ⟨_, hw, _⟩ | ⟨_, _, hp⟩
  · exact absurd (Or.inl (unconst_eq_of_equalUpToConstness a b he)) hb
  · obtain ⟨ht, _, htow, _⟩ := promoteTypeWidth_tag hw
    exact absurd (Or.inr ⟨htow, by unfold inTower at htow ⊢; rw [← ht]; exact htow⟩) hb
  · rw [hp]
    exact Classical.byContradiction fun hv => hb (Or.inr (promoteBaseType_tower hv))

theorem tower_void_cases {a b : T} (h1 : inTower a = true) (h2 : inTower b = true)
    (hw : promoteTypeWidth a b = void) (hb : promoteBaseType a b = void) :
    (tag a = .complex ∧ tag b = .complex) ∨ kfIntUInt a b = true := by
  unfold inTower at h1 h2
  unfold promoteTypeWidth at hw
  unfold promoteBaseType at hb
  unfold kfIntUInt
  -- first the four tower kinds of `a`, then of `b`: 16 pairs are left, with the tables evaluated
  cases ha : tag a <;> simp only [ha, Bool.false_eq_true] at h1 hw hb ⊢
  all_goals cases hb' : tag b <;> simp only [hb', Bool.false_eq_true] at h2 hw hb ⊢
  all_goals simp_all [tag]

theorem complex_widths_ne {a b : T} (ha : tag a = .complex) (hb : tag b = .complex)
    (he : equalUpToConstness a b = false) : kfComplexWidths a b = true := by
  unfold equalUpToConstness at he
  split at he
  · simp at he
  · simp [ha, hb] at he
    simp [kfComplexWidths, ha, hb, he]

theorem unconst_eq_void {t : T} (h : unconst t = void) : t = void := by
  cases t <;> simp_all [unconst]

/-- `void` ⇒ no bound, outside the two recorded regions. -/
theorem no_bound_of_void_partial (a b : T) (hne : ¬ (a = void ∧ b = void))
    (k1 : kfComplexWidths a b = false) (k2 : kfIntUInt a b = false)
    (hv : promoteTypes a b = void) : ¬ HasBound a b := by
  rw [hasBound_iff]
  rintro (h | ⟨h1, h2⟩)
  · have he := equalUpToConstness_of_unconst_eq a b h
    simp only [promoteTypes, he, if_true] at hv
    subst hv
    exact hne ⟨rfl, unconst_eq_void h.symm⟩
  · rcases promoteTypes_cases a b with ⟨_, hp⟩ | ⟨_, hw, hp⟩ | ⟨he, hw, hp⟩
    · rw [hp] at hv; subst hv; simp [inTower, tag] at h1
    · rw [hp] at hv; exact hw hv
    · rw [hp] at hv
      rcases tower_void_cases h1 h2 hw hv with ⟨hc1, hc2⟩ | hk
      · have := complex_widths_ne hc1 hc2 he
        simp [k1] at this
      · simp [k2] at hk

theorem void_iff_no_bound_partial (a b : T) (hne : ¬ (a = void ∧ b = void))
    (k1 : kfComplexWidths a b = false) (k2 : kfIntUInt a b = false) :
    promoteTypes a b = void ↔ ¬ HasBound a b :=
  ⟨no_bound_of_void_partial a b hne k1 k2, void_of_no_bound a b⟩

/-! ### 6. literal castability -/

/-- literal castability is a superset of "the literal type promotes into the target". -/
theorem literal_cast_superset (t lit : T) (ht : t ≠ void)
    (h : unconst (promoteTypes t lit) = unconst t) : canCastLiteral t lit = true := by
  unfold canCastLiteral equalBaseType
  rcases promoteTypes_cases t lit with ⟨he, _⟩ | ⟨_, hw, _⟩ | ⟨_, _, hp⟩
  · have := tag_eq_of_unconst_eq (unconst_eq_of_equalUpToConstness t lit he)
    simp [this]
  · obtain ⟨h1, _⟩ := promoteTypeWidth_tag hw
    simp [h1]
  · rw [hp] at h
    have htag := tag_eq_of_unconst_eq h
    unfold promoteBaseType at h htag
    split at h
    all_goals first
      | (simp_all; done)
      | (exact absurd (unconst_eq_void h.symm) ht)

/-- …and never allows float or complex into an integer target, or complex into float. -/
theorem literal_cast_never_down (t lit : T)
    (h : (tag t = .int ∨ tag t = .uint) ∧ (tag lit = .float ∨ tag lit = .complex) ∨
         (tag t = .float ∧ tag lit = .complex)) :
    canCastLiteral t lit = false := by
  unfold canCastLiteral equalBaseType
  rcases h with ⟨h1 | h1, h2 | h2⟩ | ⟨h1, h2⟩ <;> simp [h1, h2]

/-! ### 7. `implicit_cast_type` -/

theorem implicitCastType_non_div (op : ArithOp) (h : op ≠ .div) (a b : T) :
    implicitCastType op a b = promoteTypes a b := by
  cases op <;> simp_all [implicitCastType]

theorem implicitCastType_div (a b : T) :
    implicitCastType .div a b =
      if tag a = .float ∨ tag b = .float then promoteTypes a b else float none false := by
  simp [implicitCastType]

/-! ### non-vacuity: the hypotheses are met by ordinary types -/

example : promoteTypes (int (some 8) false) (float (some 32) false) ≠ void := by decide
example : promoteTypes (int (some 8) false) (float (some 32) false) = float (some 32) false := by
  decide
example : le (int (some 64) false) (float (some 32) false) = true := by decide
example : kfComplexWidths (int none false) (float none false) = false ∧
          kfIntUInt (int none false) (float none false) = false := by decide

end Oq3.Props.C20
