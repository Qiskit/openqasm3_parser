/-
C16 — statement parsing is COMPOSITIONAL, n-ary, for the inductive language of `Props/C04Lang2.lean`
(`Stmt2` / `Stmts2`: almost the whole supported language, statements of arbitrary size and nesting depth).

PROPERTY (C16): "For statements s1 … sn that each parse without diagnostics on their own, the parse of
their concatenation yields no diagnostics and exactly n top-level statement nodes whose kinds and texts
are those of the si in order; inside a block the same."

HOW IT IS STATED HERE.
* `cleanParse fuel ts`: the model's front end on the token list `ts` — `some steps` iff `parseSourceFile`
  returns normally (no panic, no `DropBomb`, fuel suffices), has consumed EVERY token, has emitted NO
  `Error` event, and `process` turns the events into the step sequence `steps` (I3: Enter k / Token k n / Exit).
  Steps carry no positions: the subtree of a statement is the same step sequence wherever the statement
  stands ("relocated"); its token range is determined by the widths of the subtrees before it.
* `children steps` (`Lemmas/C16LangTree.lean`): the subtrees directly below the root, cut by depth counting.
* A statement "on its own" is the singleton program `single s`; it parses cleanly iff `WFTop (single s)`
  (`alone_clean`; `C04Lang2.program_accepted`).

THEOREMS.
* `wfTop_ofList` (`Lemmas/C16Lang.lean`): for statements that are each well formed ON THEIR OWN,
  `WFTop (ofList l) ↔ compatTop l = true` — the adjacency conditions are EXACTLY what `WFTop` adds:
    `adjOK l`: no neighbouring pair `a b` with `endsAssign a` and `b` an expression statement starting with `-` (F09e);
    `letOK l`: no `let` after the first statement that the dispatcher `item` does not parse itself (F09b:
               there `let` is a LET_STMT, on its own an ALIAS_DECLARATION_STATEMENT).
  (The other two recorded exceptions do not arise between top-level neighbours: a bare block is wrapped into
  an EXPR_STMT unless the next token is `}` — only the LAST statement of a BLOCK is affected, `lastOK` below — and
  `;` is not a statement of the language: F09a/F09d.)
* `sequence_compositional_top` (**C16, top level, n-ary**): for `l = [s1, …, sn]` with `WFTop (single si)` for all i
  and `compatTop l`, and every fuel ≥ `needL2 (ofList l) + 3`:
    (1) `cleanParse` of the concatenated tokens `l.flatMap toksS2` succeeds (accepted, all tokens consumed, NO error event);
    (2) its steps are SOURCE_FILE around `l.flatMap nodesS2`, and `children steps = l.map nodesS2`: EXACTLY n subtrees;
    (3) each si parsed alone (same fuel) gives SOURCE_FILE around the ONE subtree `nodesS2 si`: the i-th child of the
        concatenation is the child of si alone — same kinds, same shape;
    (4) widths: the i-th child covers `(toksS2 si).length` tokens, so its token range starts after the tokens of
        s1 … s(i-1) and is the print of si (`tokens_of_nth`): same text.
* `sequence_top_full` (no hypothesis on the single statements): `wfTop_ofList_full` characterises `WFTop (ofList l)`
  completely — the TEXT of every statement is well formed on its own (`alone s`: `let` as alias declaration),
  `adjOK l`, and `letMode l` (every `let` is in the mode of its position).  For every such program the i-th child is the
  child of the text of si parsed alone, EXCEPT for `let` statements after the first non-item statement (LET_STMT in the
  sequence, ALIAS_DECLARATION_STATEMENT alone): the one deviation inside the language, F09b.
* `concat_clean_joint`: the same as (1)/(2) for ARBITRARY joint bits that fit the print (`JointOK`: set inside `==`,
  `->`, …; arbitrary elsewhere): the statements may be joined by whitespace, a newline or nothing.
* `block_sequence` (**inside a block**): for `l` with `WFS2 si` for all i (`stmt` accepts si, `stmt_alone`) and
  `compatBlock l` (`adjOK` and `lastOK`: the last statement does not end with a bare block, F09d/F09f), the statement
  loop `expr_block_statements` — the loop of EVERY block body — accepts the concatenation in front of `}` from every
  ready state with exactly the events `l.flatMap evsS2` (no error event), and `process` turns this segment, in every
  context, into `l.flatMap nodesS2`, which is cut into exactly the n subtrees `l.map nodesS2`.
  `block_wf`: `WFL2 true (ofList l) ↔ (∀ s ∈ l, WFS2 s) ∧ compatBlock l` — an equivalence without further hypotheses.
* `block_compositional_program`: the same seen from whole programs, for the body of `gate` / `def` / `cal` /
  `while` / `if` / `for` / a bare top-level block (`Ctx`): the program `ctx { s1 … sn }` parses cleanly and the children
  of its BLOCK_EXPR are `{`, the n subtrees `nodesS2 si`, `}`; and `ctx { si }` alone has the one subtree `nodesS2 si`
  there (for si that do not end with a bare block: those cannot stand alone in a block, `bare_block_last`).
* EXAMPLES: `demo` (8 statements of 7 kinds), `demoBlock`; excluded pairs with kernel-evaluated witnesses that
  the concatenation is genuinely different: `x = 1;` `-y;` (ONE statement), `y;` `let a = q;` (LET_STMT instead
  of ALIAS_DECLARATION_STATEMENT), `{ x; { y; } }` (the inner block is a bare BLOCK_EXPR, no EXPR_STMT).

HYPOTHESES, all decidable for concrete statements: `WFTop (single s)` / `WFS2 s` (syntactic conditions on the
statement alone), `compatTop l` / `compatBlock l` (`Bool`), a lower bound on the fuel, and for `block_sequence` /
`stmt_alone` the state hypotheses `RdyL 8` (it gives the `RdyF 8` that `stmts_ok2` / `stmt_ok2` ask, by `RdyL.toF`),
the tokens at the position, and `}` (resp. a token satisfying `FollowS2`) after them.
-/
import Oq3.Lemmas.C16Lang
import Oq3.Lemmas.C16LangWidth
import Oq3.Props.C04Lang2
import Oq3.Props.C16

namespace Oq3.Props.C16Lang
open Oq3.Gen Oq3.Parser Oq3.Grammar Oq3.PrattEv Oq3.LangEv Oq3.LangEv2 Oq3.C16Lang
open Oq3.Props.C04Lang (kindsOf jointOf)
open Oq3.Props.C05Events (errorFree errorFree_append)
open Oq3.Props.C04Lang2 (program_accepted program_accepted_joint program_cst evsP2_errorFree evsL2_errorFree evsS2_errorFree)

/-- `some steps`: the parse returns normally, has consumed every token, has emitted no `Error` event, and
`process` yields `steps` -/
def cleanParse (fuel : Nat) (ts : List Tok) : Option (List Step) :=
  match parseSourceFile fuel (kindsOf ts) (jointOf ts) with
  | .ok (ev, n) => if n = ts.length ∧ errorFree ev.toList = true then process ev.toList else none
  | .error _ => none

/-- the steps of a program: SOURCE_FILE around the steps of its statements -/
abbrev file (inner : List Step) : List Step := .enter .SOURCE_FILE :: (inner ++ [.exit])

theorem children_file (l : List Stmt2) : children (file (l.flatMap nodesS2)) = l.map nodesS2 := by
  simp only [children]; exact splitTop_flatMap l []

/-- `cleanParse` on explicit joint bits (`true`: no trivia between the token and the next one); `cleanParse fuel ts` is
`cleanParseJ fuel ts (jointOf ts)` -/
def cleanParseJ (fuel : Nat) (ts : List Tok) (J : Array Bool) : Option (List Step) :=
  match parseSourceFile fuel (kindsOf ts) J with
  | .ok (ev, n) => if n = ts.length ∧ errorFree ev.toList = true then process ev.toList else none
  | .error _ => none

/-- joint bits that fit the print: set where the print needs a glued pair (`==`, `->`, …), arbitrary elsewhere — in
particular arbitrary between two statements (whitespace, a newline, or nothing) -/
def JointOK (ts : List Tok) (J : Array Bool) : Prop :=
  ∀ i (h : i < ts.length), (ts[i]).2 = true → J.getD i false = true

theorem jointOK_jointOf (ts : List Tok) : JointOK ts (jointOf ts) := by
  intro i hi h; simp [jointOf, hi, h]

/-- every well-formed program parses cleanly to the steps of its derivation, for arbitrary fitting joint bits -/
theorem program_clean_joint (p : Stmts2) (hwf : WFTop p) (fuel : Nat) (hf : needL2 p + 3 ≤ fuel)
    (J : Array Bool) (hJ : JointOK (toksL2 p) J) :
    cleanParseJ fuel (toksL2 p) J = some (file (nodesL2 p)) := by
  unfold cleanParseJ
  rw [program_accepted_joint p hwf fuel hf J hJ]
  have h1 : errorFree (evsP2 p) = true := evsP2_errorFree p
  simp only [h1, and_self, if_true, program_cst p]
  rfl

theorem program_clean (p : Stmts2) (hwf : WFTop p) (fuel : Nat) (hf : needL2 p + 3 ≤ fuel) :
    cleanParse fuel (toksL2 p) = some (file (nodesL2 p)) :=
  program_clean_joint p hwf fuel hf _ (jointOK_jointOf _)

/-- the same for a list of statements: tokens and steps statement by statement -/
theorem ofList_clean_joint (l : List Stmt2) (hwf : WFTop (ofList l)) (fuel : Nat) (hf : needL2 (ofList l) + 3 ≤ fuel)
    (J : Array Bool) (hJ : JointOK (l.flatMap toksS2) J) :
    cleanParseJ fuel (l.flatMap toksS2) J = some (file (l.flatMap nodesS2)) := by
  have := program_clean_joint (ofList l) hwf fuel hf J (by rw [toksL2_ofList]; exact hJ)
  rwa [toksL2_ofList, nodesL2_ofList] at this

theorem ofList_clean (l : List Stmt2) (hwf : WFTop (ofList l)) (fuel : Nat) (hf : needL2 (ofList l) + 3 ≤ fuel) :
    cleanParse fuel (l.flatMap toksS2) = some (file (l.flatMap nodesS2)) :=
  ofList_clean_joint l hwf fuel hf _ (jointOK_jointOf _)

theorem alone_clean (s : Stmt2) (hwf : WFTop (single s)) (fuel : Nat) (hf : needL2 (single s) + 3 ≤ fuel) :
    cleanParse fuel (toksS2 s) = some (file (nodesS2 s)) := by
  have := program_clean (single s) hwf fuel hf
  rwa [toksL2_single, nodesL2_single] at this

theorem concat_clean (l : List Stmt2) (hs : ∀ s ∈ l, WFTop (single s)) (hc : compatTop l = true)
    (fuel : Nat) (hf : needL2 (ofList l) + 3 ≤ fuel) :
    cleanParse fuel (l.flatMap toksS2) = some (file (l.flatMap nodesS2)) :=
  ofList_clean l (wfTop_of_singles l hs hc) fuel hf

/-- the tokens that the i-th subtree covers are the print of the i-th statement: in the concatenation, the
range that starts after the tokens of the statements before `s` and has the width of the subtree of `s` -/
theorem tokens_of_nth (l1 l2 : List Stmt2) (s : Stmt2) :
    (((l1 ++ s :: l2).flatMap toksS2).drop (width ((l1.flatMap nodesS2)))).take (width (nodesS2 s)) = toksS2 s := by
  have h1 : width (l1.flatMap nodesS2) = (l1.flatMap toksS2).length := by
    rw [← nodesL2_ofList, ← toksL2_ofList]; exact widthL2 _
  rw [h1, widthS2, List.flatMap_append, List.flatMap_cons, List.drop_left, List.take_left]

/-- **C16 at the top level, n-ary.**  Statements `s1 … sn` that each parse cleanly on their own and satisfy the
adjacency conditions: the concatenation parses cleanly (accepted, every token consumed, no error event); its steps
are SOURCE_FILE around the concatenation of the subtrees of the `si` parsed alone; it has exactly these `n`
children, in order; the i-th child covers exactly the tokens of `si`. -/
theorem sequence_compositional_top (l : List Stmt2) (hs : ∀ s ∈ l, WFTop (single s)) (hc : compatTop l = true)
    (fuel : Nat) (hf : needL2 (ofList l) + 3 ≤ fuel) :
    ∃ steps, cleanParse fuel (l.flatMap toksS2) = some steps ∧
      steps = file (l.flatMap nodesS2) ∧
      children steps = l.map nodesS2 ∧
      (children steps).length = l.length ∧
      (∀ s ∈ l, ∃ st, cleanParse fuel (toksS2 s) = some st ∧ st = file (nodesS2 s) ∧ children st = [nodesS2 s]) ∧
      (children steps).map width = l.map (fun s => (toksS2 s).length) ∧
      (∀ t ∈ children steps, isTree t = true) :=
  ⟨_, concat_clean l hs hc fuel hf, rfl, children_file l, by rw [children_file, List.length_map],
    fun s hm => ⟨_, alone_clean s (hs s hm) fuel (Nat.le_trans (Nat.add_le_add_right (needL2_single_le l s hm) 3) hf), rfl,
      by have := children_file [s]; simpa using this⟩,
    by rw [children_file, List.map_map]; exact List.map_congr_left (fun s _ => widthS2 s),
    by rw [children_file]; exact isTree_map_nodesS2 l⟩

/-- the events of the concatenation are the events of the statements parsed alone, in order, inside one SOURCE_FILE -/
theorem concat_events (l : List Stmt2) (hs : ∀ s ∈ l, WFTop (single s)) (hc : compatTop l = true)
    (fuel : Nat) (hf : needL2 (ofList l) + 3 ≤ fuel) :
    parseSourceFile fuel (kindsOf (l.flatMap toksS2)) (jointOf (l.flatMap toksS2)) =
        .ok ((Ev.start .SOURCE_FILE none :: (l.flatMap evsS2 ++ [.finish])).toArray, (l.flatMap toksS2).length) ∧
      errorFree (Ev.start .SOURCE_FILE none :: (l.flatMap evsS2 ++ [.finish])) = true ∧
      ∀ s ∈ l, parseSourceFile fuel (kindsOf (toksS2 s)) (jointOf (toksS2 s)) =
        .ok ((Ev.start .SOURCE_FILE none :: (evsS2 s ++ [.finish])).toArray, (toksS2 s).length) := by
  have h := program_accepted (ofList l) (wfTop_of_singles l hs hc) fuel hf
  have he := evsP2_errorFree (ofList l)
  simp only [evsP2, toksL2_ofList, evsL2_ofList] at h he
  refine ⟨h, he, fun s hm => ?_⟩
  have := program_accepted (single s) (hs s hm) fuel
    (Nat.le_trans (Nat.add_le_add_right (needL2_single_le l s hm) 3) hf)
  simpa only [evsP2, toksL2_single, evsL2_single] using this

/-- **the complete picture at the top level** (both `let` modes, no hypothesis on the single statements): for EVERY
well-formed program `ofList l` — by `wfTop_ofList_full`: the text of every statement is well formed on its own,
neighbours are compatible, every `let` is in the mode of its position — the children of the root are the subtrees
`nodesS2 si`, and the text of `si` parsed on its own gives the subtree `nodesS2 (alone si)`: THE SAME subtree, except
for the `let` statements after the first statement that `item` does not dispatch (LET_STMT in the sequence,
ALIAS_DECLARATION_STATEMENT alone: the one deviation from compositionality inside the language, F09b) -/
theorem sequence_top_full (l : List Stmt2) (hwf : WFTop (ofList l)) (fuel : Nat) (hf : needL2 (ofList l) + 5 ≤ fuel) :
    cleanParse fuel (l.flatMap toksS2) = some (file (l.flatMap nodesS2)) ∧
      children (file (l.flatMap nodesS2)) = l.map nodesS2 ∧
      ∀ s ∈ l, cleanParse fuel (toksS2 s) = some (file (nodesS2 (alone s))) ∧ (isLetS s = false → alone s = s) := by
  refine ⟨ofList_clean l hwf fuel (by omega), children_file l, fun s hm => ⟨?_, alone_of_notLetS s⟩⟩
  · have h1 := ((wfTop_ofList_full l).1 hwf).1 s hm
    have h2 := needL2_single_alone s
    have h3 := needL2_single_le l s hm
    have := alone_clean (alone s) h1 fuel (by omega)
    rwa [toksS2_alone] at this

/-- **C16 at the top level for arbitrary fitting joint bits**: the statements may be joined by whitespace, by a
newline or by nothing — the children of the root are the subtrees of the statements -/
theorem concat_clean_joint (l : List Stmt2) (hs : ∀ s ∈ l, WFTop (single s)) (hc : compatTop l = true)
    (fuel : Nat) (hf : needL2 (ofList l) + 3 ≤ fuel) (J : Array Bool) (hJ : JointOK (l.flatMap toksS2) J) :
    cleanParseJ fuel (l.flatMap toksS2) J = some (file (l.flatMap nodesS2)) ∧
      children (file (l.flatMap nodesS2)) = l.map nodesS2 :=
  ⟨ofList_clean_joint l (wfTop_of_singles l hs hc) fuel hf J hJ, children_file l⟩

/-- a statement list inside `{ … }` is well formed iff every statement is accepted by `stmt` and the adjacency
conditions hold -/
theorem block_wf (l : List Stmt2) : WFL2 true (ofList l) ↔ (∀ s ∈ l, WFS2 s) ∧ compatBlock l = true :=
  wfBlock_ofList l

/-- a statement on its own, parsed by `stmt` (what the loop of a block calls) from any ready state, followed by a token
that satisfies its `Follow` condition: exactly the events `evsS2 s`, no error event, and `process` turns them — in
every context — into the one subtree `nodesS2 s` -/
theorem stmt_alone (s : Stmt2) (hwf : WFS2 s) :
    (∀ (F : Nat) (st : P), needS2 s ≤ F → RdyL 8 st → Toks st st.pos (toksS2 s) →
      FollowS2 s st (st.pos + (toksS2 s).length) → Acc (stmt F) st (toksS2 s).length (evsS2 s)) ∧
    errorFree (evsS2 s) = true ∧ GoSeg (evsS2 s) (nodesS2 s) ∧ isTree (nodesS2 s) = true :=
  ⟨fun F st hF hr => stmt_ok2 s hwf F st hF hr.toF, evsS2_errorFree s, goS2 s, isTree_nodesS2 s⟩

/-- **C16 inside a block, n-ary.**  The statement loop (the loop of every block body: `gate`, `def`, `cal`, `if`,
`while`, `for`, `switch` cases, bare blocks) on the concatenation of `s1 … sn` in front of `}`: it consumes exactly
the tokens, pushes exactly the events of the statements in order (no error event), and `process` turns that segment,
in every context, into the concatenation of the `n` subtrees `nodesS2 si`. -/
theorem block_sequence (l : List Stmt2) (hs : ∀ s ∈ l, WFS2 s) (hc : compatBlock l = true) :
    (∀ (F : Nat) (st : P), needL2 (ofList l) ≤ F → RdyL 8 st → Toks st st.pos (l.flatMap toksS2) →
      st.kindAt (st.pos + (l.flatMap toksS2).length) = .R_CURLY →
      Acc (exprBlockStatements F) st (l.flatMap toksS2).length (l.flatMap evsS2)) ∧
    errorFree (l.flatMap evsS2) = true ∧
    GoSeg (l.flatMap evsS2) (l.flatMap nodesS2) ∧
    (∀ rest, splitTop (l.flatMap nodesS2 ++ rest) = l.map nodesS2 ++ splitTop rest) ∧
    (l.map nodesS2).map width = l.map (fun s => (toksS2 s).length) := by
  have hwf : WFL2 true (ofList l) := (wfBlock_ofList l).2 ⟨hs, hc⟩
  refine ⟨fun F st hF hr htk hcl => ?_, ?_, ?_, splitTop_flatMap_append l, ?_⟩
  · have := stmts_ok2 true (ofList l) hwf F st hF hr.toF (by rw [toksL2_ofList]; exact htk)
      (closerOf_true (by rw [toksL2_ofList]; exact hcl))
    rwa [toksL2_ofList, evsL2_ofList] at this
  · rw [← evsL2_ofList]; exact evsL2_errorFree _
  · rw [← evsL2_ofList, ← nodesL2_ofList]; exact goL2 _
  · rw [List.map_map]; exact List.map_congr_left (fun s _ => widthS2 s)

/-- the statements with a block body -/
inductive Ctx
  | gate (params : Option Nat) (nq : Nat)
  | defn (params : List PTy) (ret : Option Ty)
  | cal
  | whileB (c : X)
  | ifB (c : X)
  | forB (ty : Ty) (w : Option X) (it : Iter)
  /-- a bare block `{ … }` at the top level -/
  | bare

def Ctx.fill : Ctx → Stmts2 → Stmt2
  | .gate ps nq, b => .gateDef ps nq b
  | .defn ps ret, b => .defS ps ret b
  | .cal, b => .cal b
  | .whileB c, b => .whileS c (.blk b)
  | .ifB c, b => .ifS c (.blk b)
  | .forB ty w it, b => .forS ty w it (.blk b)
  | .bare, b => .block b

/-- well-formedness of the part in front of the body -/
def Ctx.WF : Ctx → Prop
  | .whileB c => CanonX 1 c
  | .ifB c => CanonX 1 c
  | .forB ty w it => ((w.isSome = true → ty.wide = true) ∧ WidthOK w) ∧ CanonIter it
  | _ => True

/-- the steps in front of the BLOCK_EXPR of the body -/
def Ctx.pre : Ctx → List Step
  | .gate none nq =>
    .enter .GATE :: .token .GATE_KW 1 :: .enter .NAME :: .token .IDENT 1 :: .exit :: .enter .PARAM_LIST :: (paramNodes nq ++ [.exit])
  | .gate (some k) nq =>
    .enter .GATE :: .token .GATE_KW 1 :: .enter .NAME :: .token .IDENT 1 :: .exit ::
      .enter .PARAM_LIST :: .token .L_PAREN 1 :: (paramNodes k ++ (.token .R_PAREN 1 :: .exit ::
        .enter .PARAM_LIST :: (paramNodes nq ++ [.exit])))
  | .defn ps ret =>
    .enter .DEF :: .token .DEF_KW 1 :: .enter .NAME :: .token .IDENT 1 :: .exit ::
      .enter .TYPED_PARAM_LIST :: .token .L_PAREN 1 :: (typedNodes ps ++ (.token .R_PAREN 1 :: .exit :: retNodes ret))
  | .cal => [.enter .CAL, .token .CAL_KW 1]
  | .whileB c => .enter .WHILE_STMT :: .token .WHILE_KW 1 :: .token .L_PAREN 1 :: (nodesX c ++ [.token .R_PAREN 1])
  | .ifB c => .enter .IF_STMT :: .token .IF_KW 1 :: .token .L_PAREN 1 :: (nodesX c ++ [.token .R_PAREN 1])
  | .forB ty w it =>
    .enter .FOR_STMT :: .token .FOR_KW 1 :: (tyNodesX ty w ++ (nameNodes ++ (.token .IN_KW 1 :: .enter .FOR_ITERABLE ::
      (iterNodes it ++ [.exit]))))
  | .bare => [.enter .EXPR_STMT]

/-- the tokens in front of the `{` of the body -/
def Ctx.preToks : Ctx → List Tok
  | .gate none nq => tk .GATE_KW :: tk .IDENT :: qubitToks nq
  | .gate (some k) nq => tk .GATE_KW :: tk .IDENT :: tk .L_PAREN :: (qubitToks k ++ (tk .R_PAREN :: qubitToks nq))
  | .defn ps ret => tk .DEF_KW :: tk .IDENT :: tk .L_PAREN :: (typedToks ps ++ (tk .R_PAREN :: retToks ret))
  | .cal => [tk .CAL_KW]
  | .whileB c => tk .WHILE_KW :: parenToks c
  | .ifB c => tk .IF_KW :: parenToks c
  | .forB ty w it => tk .FOR_KW :: (tyToksX ty w ++ (tk .IDENT :: tk .IN_KW :: iterToks it))
  | .bare => []

theorem Ctx.nodes_fill (c : Ctx) (b : Stmts2) :
    nodesS2 (c.fill b) = c.pre ++ (blockNodes (nodesL2 b) ++ [.exit]) := by
  cases c with
  | gate ps nq => cases ps <;> simp [Ctx.fill, Ctx.pre, nodesS2]
  | defn ps ret => simp [Ctx.fill, Ctx.pre, nodesS2]
  | cal => simp [Ctx.fill, Ctx.pre, nodesS2]
  | whileB c => simp [Ctx.fill, Ctx.pre, nodesS2, nodesB]
  | ifB c => simp [Ctx.fill, Ctx.pre, nodesS2, nodesB]
  | forB ty w it => simp [Ctx.fill, Ctx.pre, nodesS2, nodesB]
  | bare => simp [Ctx.fill, Ctx.pre, nodesS2]

theorem Ctx.toks_fill (c : Ctx) (b : Stmts2) :
    toksS2 (c.fill b) = c.preToks ++ (tk .L_CURLY :: (toksL2 b ++ [tk .R_CURLY])) := by
  cases c with
  | gate ps nq => cases ps <;> simp [Ctx.fill, Ctx.preToks, toksS2]
  | defn ps ret => simp [Ctx.fill, Ctx.preToks, toksS2]
  | cal => simp [Ctx.fill, Ctx.preToks, toksS2]
  | whileB c => simp [Ctx.fill, Ctx.preToks, toksS2, toksB]
  | ifB c => simp [Ctx.fill, Ctx.preToks, toksS2, toksB]
  | forB ty w it => simp [Ctx.fill, Ctx.preToks, toksS2, toksB]
  | bare => simp [Ctx.fill, Ctx.preToks, toksS2]

theorem Ctx.wf_fill (c : Ctx) (b : Stmts2) : WFTop (single (c.fill b)) ↔ c.WF ∧ WFL2 true b := by
  rw [wfTop_single]
  cases c with
  | gate ps nq => simp [Ctx.fill, Ctx.WF, isItem2, WFItem, WFS2]
  | defn ps ret => simp [Ctx.fill, Ctx.WF, isItem2, WFItem, WFS2]
  | cal => simp [Ctx.fill, Ctx.WF, isItem2, WFItem, WFS2]
  | whileB c => simp [Ctx.fill, Ctx.WF, isItem2, WFItem, WFS2, WFB]
  | ifB c => simp [Ctx.fill, Ctx.WF, isItem2, WFItem, WFS2, WFB]
  | forB ty w it => cases it <;> simp [Ctx.fill, Ctx.WF, isItem2, WFItem, WFS2, WFB, iterBodyOK, and_assoc]
  | bare => simp [Ctx.fill, Ctx.WF, isItem2, WFS2]

theorem children_block (l : List Stmt2) :
    children (blockNodes (l.flatMap nodesS2)) = [Step.token .L_CURLY 1] :: (l.map nodesS2 ++ [[Step.token .R_CURLY 1]]) := by
  simp only [blockNodes, children, splitTop, splitTop_flatMap_append]

/-- **C16 inside a block, at the level of whole programs**: `ctx { s1 … sn }` parses cleanly; the BLOCK_EXPR of the
body has exactly the children `{`, `nodesS2 s1`, …, `nodesS2 sn`, `}`; and every `si` that may stand alone in a block
gives, in `ctx { si }`, that one subtree `nodesS2 si` -/
theorem block_compositional_program (c : Ctx) (hcw : c.WF) (l : List Stmt2) (hs : ∀ s ∈ l, WFS2 s)
    (hc : compatBlock l = true) (fuel : Nat) (hf : needL2 (single (c.fill (ofList l))) + 3 ≤ fuel) :
    cleanParse fuel (c.preToks ++ (tk .L_CURLY :: (l.flatMap toksS2 ++ [tk .R_CURLY]))) =
        some (file (c.pre ++ (blockNodes (l.flatMap nodesS2) ++ [.exit]))) ∧
      children (blockNodes (l.flatMap nodesS2)) = [Step.token .L_CURLY 1] :: (l.map nodesS2 ++ [[Step.token .R_CURLY 1]]) ∧
      ∀ s ∈ l, endsBlock s = false → ∀ fuel', needL2 (single (c.fill (single s))) + 3 ≤ fuel' →
        cleanParse fuel' (c.preToks ++ (tk .L_CURLY :: (toksS2 s ++ [tk .R_CURLY]))) =
          some (file (c.pre ++ (blockNodes (nodesS2 s) ++ [.exit]))) := by
  refine ⟨?_, children_block l, fun s hm hb fuel' hf' => ?_⟩
  · have := alone_clean (c.fill (ofList l)) ((c.wf_fill _).2 ⟨hcw, (wfBlock_ofList l).2 ⟨hs, hc⟩⟩) fuel hf
    rwa [c.toks_fill, c.nodes_fill, toksL2_ofList, nodesL2_ofList] at this
  · have := alone_clean (c.fill (single s)) ((c.wf_fill _).2 ⟨hcw, (wfBlock_single s).2 ⟨hs s hm, hb⟩⟩) fuel' hf'
    rwa [c.toks_fill, c.nodes_fill, toksL2_single, nodesL2_single] at this

/-! ### examples: the hypotheses are satisfiable -/

private def xi : X := .prim .id
private def n1 : X := .prim (.lit .int)

/-- eight statements of seven kinds:
```
OPENQASM 3.0;
const uint[8] n = 4;
let a = q[0:1];                     -- in the item run: ALIAS_DECLARATION_STATEMENT
gate g(t) a { rx(t) a; }
h q;                                -- the first statement that `item` does not dispatch itself
c = measure q;                      -- ends with an assignment: the next statement must not start with `-`
if (c == 1) { reset q; } else x = -x;
x + 1;
``` -/
def demo : List Stmt2 :=
  [ .version,
    .decl true .uint (some n1) (some n1),
    .alias (.prim (.idIdx (.one (.one (.r2 n1 n1))))),
    .gateDef (some 0) 0 (.cons (.gate (.cons xi .nil) (.one .id)) .nil),
    .gate .nil (.one .id),
    .assign none (.prim .measureE),
    .ifElse (.bin .eq2 xi n1) (.blk (.cons (.reset .id) .nil)) (.one (.assign none (.pre .minus xi))),
    .exprS (.bin .plus xi n1) ]

theorem demo_singles : ∀ s ∈ demo, WFTop (single s) := by
  simp [demo, xi, n1, WFTop, WFItem, isItem2, WFL2, WFS2, WFB, CanonX, CanonP, CanonXs, CanonItem, CanonItems,
    CanonIdx, CanonQ, CanonQs, CanonTarget, WidthOK, ItemsFirstOK,
    IdxFirstOK, firstItem, firstX, firstP, BinOp.pow, endsAssign, endsIfB, endsBlock,
    startsMinus2, Ty.wide, firstTokS2, exprStmtFirst2, Lit.kind]

theorem demo_compat : compatTop demo = true := by decide
theorem demo_fuel : needL2 (ofList demo) + 3 ≤ 100 := by decide

/-- the instance of `sequence_compositional_top`: 8 children, of the kinds of the statements parsed alone -/
theorem demo_compositional :
    ∃ steps, cleanParse 100 (demo.flatMap toksS2) = some steps ∧ children steps = demo.map nodesS2 ∧
      (children steps).map rootKind =
        [some .VERSION_STRING, some .CLASSICAL_DECLARATION_STATEMENT, some .ALIAS_DECLARATION_STATEMENT, some .GATE,
         some .EXPR_STMT, some .ASSIGNMENT_STMT, some .IF_STMT, some .EXPR_STMT] ∧
      ∀ s ∈ demo, ∃ st, cleanParse 100 (toksS2 s) = some st ∧ children st = [nodesS2 s] := by
  obtain ⟨steps, h1, -, h2, -, h3, -, -⟩ := sequence_compositional_top demo demo_singles demo_compat 100 demo_fuel
  refine ⟨steps, h1, h2, ?_, fun s hm => ?_⟩
  · rw [h2]; decide
  · obtain ⟨st, h4, -, h5⟩ := h3 s hm
    exact ⟨st, h4, h5⟩

/-- a block body with a `let` (LET_STMT), a bare block in the middle, a brace-less `while`:
`let a = q; h q; { x = 1; } while (x) x = x + 1; x;` -/
def demoBlock : List Stmt2 :=
  [ .letS xi,
    .gate .nil (.one .id),
    .block (.cons (.assign none n1) .nil),
    .whileS xi (.one (.assign none (.prim (.paren (.bin .plus xi n1))))),
    .exprS xi ]

theorem demoBlock_wf : ∀ s ∈ demoBlock, WFS2 s := by
  simp [demoBlock, xi, n1, WFL2, WFS2, WFB, CanonX, CanonP, CanonQ, CanonQs, CanonXs, CanonTarget, firstX, firstP, BinOp.pow,
    endsAssign, endsBlock, startsMinus2, firstTokS2, exprStmtFirst2]

theorem demoBlock_compat : compatBlock demoBlock = true := by decide

/-- `gate g q0, q1 { … }` around `demoBlock`: the children of the body are `{`, the five subtrees, `}` -/
theorem demoBlock_in_gate : ∃ inner,
    cleanParse 100 ((Ctx.gate none 1).preToks ++ (tk .L_CURLY :: (demoBlock.flatMap toksS2 ++ [tk .R_CURLY]))) =
      some (file ((Ctx.gate none 1).pre ++ (inner ++ [.exit]))) ∧
    children inner = [Step.token .L_CURLY 1] :: (demoBlock.map nodesS2 ++ [[Step.token .R_CURLY 1]]) ∧
    (demoBlock.map nodesS2).map rootKind =
      [some .LET_STMT, some .EXPR_STMT, some .EXPR_STMT, some .WHILE_STMT, some .EXPR_STMT] := by
  obtain ⟨h1, h2, -⟩ := block_compositional_program (.gate none 1) trivial demoBlock demoBlock_wf demoBlock_compat 100 (by decide)
  exact ⟨_, h1, h2, by decide⟩

example : ∃ l : List Stmt2, l.length = 8 ∧ (∀ s ∈ l, WFTop (single s)) ∧ compatTop l = true :=
  ⟨demo, rfl, demo_singles, demo_compat⟩

example : ∃ l : List Stmt2, l.length = 5 ∧ (∀ s ∈ l, WFS2 s) ∧ compatBlock l = true :=
  ⟨demoBlock, rfl, demoBlock_wf, demoBlock_compat⟩

/-- the joint bits of the print itself fit -/
example : JointOK (demo.flatMap toksS2) (jointOf (demo.flatMap toksS2)) := jointOK_jointOf _

/-! ### excluded pairs: the adjacency conditions are necessary — the concatenation IS a different tree -/

def childKinds (o : Option (List Step)) : Option (List (Option SyntaxKind)) :=
  o.map fun st => (children st).map rootKind

/-- `x = 1;` -/
def asg : Stmt2 := .assign none n1
/-- `-y;` -/
def neg : Stmt2 := .exprS (.pre .minus xi)

/-- **F09e**: `x = 1;` and `-y;` each parse cleanly on their own, they are not `Compat`, the pair is not a
well-formed program, and its clean (!) parse has ONE child, an EXPR_STMT (`(x = 1;) - y;`, cf.
`C16.witness_assign_then_minus`), instead of ASSIGNMENT_STMT, EXPR_STMT -/
theorem assign_then_minus :
    WFTop (single asg) ∧ WFTop (single neg) ∧ Compat asg neg = false ∧ ¬ WFTop (ofList [asg, neg]) ∧
    childKinds (cleanParse 100 (toksS2 asg)) = some [some .ASSIGNMENT_STMT] ∧
    childKinds (cleanParse 100 (toksS2 neg)) = some [some .EXPR_STMT] ∧
    childKinds (cleanParse 100 ([asg, neg].flatMap toksS2)) = some [some .EXPR_STMT] := by
  have h1 : WFTop (single asg) := by
    simp [asg, n1, WFTop, isItem2, WFL2, WFS2, CanonTarget, CanonX, CanonP, endsAssign, startsMinus2]
  have h2 : WFTop (single neg) := by
    simp [neg, xi, WFTop, isItem2, WFL2, WFS2, CanonX, CanonP, endsAssign, startsMinus2, firstX, PreOp.kind,
      exprStmtFirst2]
  refine ⟨h1, h2, by decide, ?_, by decide +kernel, by decide +kernel, by decide +kernel⟩
  rw [wfTop_ofList [asg, neg] (by simp [h1, h2])]
  decide

/-- **F09b**: `y;` then `let a = q;` — alone the `let` is an ALIAS_DECLARATION_STATEMENT, after `y;` the same tokens
are a LET_STMT; in the language: `.alias` is not `letOK` there, `.letS` (same print) is the statement that is accepted -/
theorem let_after_stmt :
    WFTop (single (.exprS xi)) ∧ WFTop (single (.alias xi)) ∧ letOK [.exprS xi, .alias xi] = false ∧
    ¬ WFTop (ofList [.exprS xi, .alias xi]) ∧
    WFTop (ofList [.exprS xi, .letS xi]) ∧ toksS2 (.letS xi) = toksS2 (.alias xi) ∧
    childKinds (cleanParse 100 (toksS2 (.alias xi))) = some [some .ALIAS_DECLARATION_STATEMENT] ∧
    childKinds (cleanParse 100 ([Stmt2.exprS xi, .alias xi].flatMap toksS2)) = some [some .EXPR_STMT, some .LET_STMT] := by
  have h1 : WFTop (single (.exprS xi)) := by
    simp [xi, WFTop, isItem2, WFL2, WFS2, CanonX, CanonP, endsAssign, startsMinus2, firstX, firstP, exprStmtFirst2]
  have h2 : WFTop (single (.alias xi)) := by simp [xi, WFTop, isItem2, WFItem, CanonX, CanonP, endsAssign]
  refine ⟨h1, h2, by decide, ?_, ?_, rfl, by decide +kernel, by decide +kernel⟩
  · rw [wfTop_ofList _ (by simp [h1, h2])]; decide
  · simp [xi, ofList, WFTop, isItem2, WFL2, WFS2, CanonX, CanonP, endsAssign, endsBlock, startsMinus2, firstX, firstP,
      exprStmtFirst2]

/-- **F09d / F09f**: a bare block as the LAST statement of a block is a BLOCK_EXPR without the EXPR_STMT wrapper
that it has in front of another statement: `gate g q { x; { y; } }` versus `gate g q { { y; } x; }` -/
theorem bare_block_last :
    lastOK [.exprS xi, .block (ofList [.exprS xi])] = false ∧ lastOK [.block (ofList [.exprS xi]), .exprS xi] = true ∧
    (cleanParse 100 (toksS2 (.gateDef none 0 (ofList [.exprS xi, .block (ofList [.exprS xi])])))).map C16.enters =
      some [.SOURCE_FILE, .GATE, .NAME, .PARAM_LIST, .PARAM, .BLOCK_EXPR, .EXPR_STMT, .IDENTIFIER,
            .BLOCK_EXPR, .EXPR_STMT, .IDENTIFIER] ∧
    (cleanParse 100 (toksS2 (.gateDef none 0 (ofList [.block (ofList [.exprS xi]), .exprS xi])))).map C16.enters =
      some [.SOURCE_FILE, .GATE, .NAME, .PARAM_LIST, .PARAM, .BLOCK_EXPR, .EXPR_STMT, .BLOCK_EXPR, .EXPR_STMT, .IDENTIFIER,
            .EXPR_STMT, .IDENTIFIER] :=
  ⟨by decide, by decide, by decide +kernel, by decide +kernel⟩

end Oq3.Props.C16Lang
