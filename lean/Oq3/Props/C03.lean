/-
C03 — semantic analysis returns normally on every syntax-error-free program.

What is proved here, about the model `Oq3.Sema` (tied to the code by the I5→I6 correspondence):

* `scope_balanced_*` / `analyze_scope_balanced` (FULL, every AST, fuel and context): whenever a
  function of the pass returns, the scope stack has the length it had before — `with_scope!`
  pairs one `enter` with one `exit` on the only non-panicking path; hence after a successful
  analysis exactly the global scope is open.
* `symtab_inv_*` / `analyze_symtab_inv`, `all_prefix_of_pres` (FULL): the C19 invariant of the symbol table
  is preserved by every function and the symbol vector only grows (the table is only driven
  through `SymTab.step`).
* `panic_sites` (FULL, by the same closure argument with an exceptional post-condition): whatever
  AST and fuel, if the model panics then the site is one of the 104 strings of `allSites`
  (a site missing from the list makes the closure proof fail), and its
  function-name prefix is in `panicSites`.
* `witness_*` (closed ASTs, `decide +kernel`): the real defects — F14, F15, unary `!`,
  `a < b`, compound assignment, `a = 1; -c;`-shaped BinExpr without rhs, `if (c) ;`;
  `F13_redeclared_const_reported`: the repaired F13 is analysed to the end and reported once.
* totality is proved for two purely syntactic fragments: `sema_total_partial`
  (`Props/C03Total.lean`) and `sema_total_partial2_default` (`Props/C03Total2.lean`).  For the
  region delimited by ALL the finding guards it is NOT proved; that statement and the obstacle are in
  the comment at the end.

The closure over the functions of the translation is `Oq3.Sema.Pres.closed` / `PresE.closed`
(`Lemmas/SemaInv.lean`, through `Lemmas/SemaClosed.lean`).
-/
import Oq3.Lemmas.SemaInv

namespace Oq3.Props.C03
open Oq3 Oq3.Sema Oq3.Types Oq3.Symbols

theorem scope_balanced_of_pres {α} {x : M α} (hx : Pres x) (s : Ctx) (r : α × Ctx)
    (h : x s = .ok r) : r.2.symbolTable.stack.length = s.symbolTable.stack.length :=
  (hx.run s r h).sym.len

/-- **scope balance, statements**: every AST, fuel and context -/
theorem scope_balanced_stmt (fuel : Nat) (stmt : Ast.Stmt) (s : Ctx) (r : Option Stmt × Ctx)
    (h : stmtToAsgStmt fuel stmt s = .ok r) :
    r.2.symbolTable.stack.length = s.symbolTable.stack.length :=
  scope_balanced_of_pres ((allPres fuel).stmtToAsgStmt stmt) s r h

/-- **scope balance, expressions** -/
theorem scope_balanced_expr (fuel : Nat) (e : Option Ast.Expr) (s : Ctx) (r : Option TExpr × Ctx)
    (h : exprToAsgTexpr fuel e s = .ok r) :
    r.2.symbolTable.stack.length = s.symbolTable.stack.length :=
  scope_balanced_of_pres ((allPres fuel).exprToAsgTexpr e) s r h

/-- **scope balance, every function of the mutual block** (`AllPres` has one field per function;
each field yields the equation through `scope_balanced_of_pres`) -/
theorem scope_balanced_all (fuel : Nat) : AllPres fuel := allPres fuel

/-- **scope balance, `syntax_to_semantic`** from any context -/
theorem scope_balanced_syntaxToSemantic (fuel : Nat) (p : Ast.Program) (s : Ctx) (r : Unit × Ctx)
    (h : syntaxToSemantic fuel p s = .ok r) :
    r.2.symbolTable.stack.length = s.symbolTable.stack.length :=
  scope_balanced_of_pres (Pres.closed.syntaxToSemantic fuel p) s r h

/-- `with_scope!` restores the stack exactly (not only its length) -/
theorem withScope_restores {α} (k : ScopeType) (body : M α) (hb : Pres body) (s : Ctx) (r : α × Ctx)
    (h : withScope k body s = .ok r) : r.2.symbolTable.stack = s.symbolTable.stack :=
  (withScope_stack k body hb s r h).1

theorem init_stack_length : (Symbols.init).stack.length = 1 := by decide

/-- **after a successful analysis exactly the global scope is open** -/
theorem analyze_scope_balanced (fuel : Nat) (p : Ast.Program) (c : Ctx)
    (h : analyzeWith fuel p = .ok c) : c.symbolTable.stack.length = 1 := by
  obtain ⟨-, hrun⟩ := analyzeWith_ok_iff.mp h
  rw [scope_balanced_of_pres (Pres.closed.syntaxToSemanticLoop fuel _) {} _ hrun]
  exact init_stack_length

theorem symtab_inv_of_pres {α} {x : M α} (hx : Pres x) (s : Ctx) (r : α × Ctx)
    (h : x s = .ok r) (hi : C19.Inv s.symbolTable) : C19.Inv r.2.symbolTable :=
  (hx.run s r h).sym.inv hi

theorem all_prefix_of_pres {α} {x : M α} (hx : Pres x) (s : Ctx) (r : α × Ctx)
    (h : x s = .ok r) : s.symbolTable.all <+: r.2.symbolTable.all :=
  (hx.run s r h).sym.all

theorem errors_prefix_of_pres {α} {x : M α} (hx : Pres x) (s : Ctx) (r : α × Ctx)
    (h : x s = .ok r) : s.semanticErrors <+: r.2.semanticErrors :=
  (hx.run s r h).errs

/-- **invariant preserved by statements** (every AST, fuel, context) -/
theorem symtab_inv_preserved_stmt (fuel : Nat) (stmt : Ast.Stmt) (s : Ctx) (r : Option Stmt × Ctx)
    (h : stmtToAsgStmt fuel stmt s = .ok r) (hi : C19.Inv s.symbolTable) :
    C19.Inv r.2.symbolTable ∧ s.symbolTable.all <+: r.2.symbolTable.all :=
  ⟨symtab_inv_of_pres ((allPres fuel).stmtToAsgStmt stmt) s r h hi,
   all_prefix_of_pres ((allPres fuel).stmtToAsgStmt stmt) s r h⟩

/-- **invariant preserved by expressions** -/
theorem symtab_inv_preserved_expr (fuel : Nat) (e : Option Ast.Expr) (s : Ctx)
    (r : Option TExpr × Ctx) (h : exprToAsgTexpr fuel e s = .ok r) (hi : C19.Inv s.symbolTable) :
    C19.Inv r.2.symbolTable ∧ s.symbolTable.all <+: r.2.symbolTable.all :=
  ⟨symtab_inv_of_pres ((allPres fuel).exprToAsgTexpr e) s r h hi,
   all_prefix_of_pres ((allPres fuel).exprToAsgTexpr e) s r h⟩

/-- **the final table of a successful analysis satisfies the C19 invariant** and extends the
initial table (`SymbolTable::new()`: the six constants and `U`) -/
theorem analyze_symtab_inv (fuel : Nat) (p : Ast.Program) (c : Ctx)
    (h : analyzeWith fuel p = .ok c) :
    C19.Inv c.symbolTable ∧ Symbols.init.all <+: c.symbolTable.all := by
  obtain ⟨-, hrun⟩ := analyzeWith_ok_iff.mp h
  have hp := Pres.closed.syntaxToSemanticLoop fuel p.statements
  exact ⟨symtab_inv_of_pres hp {} _ hrun C19.inv_init, all_prefix_of_pres hp {} _ hrun⟩

/-- the Rust functions in which the model can panic: the function-name prefixes of `allSites`, and
`declare_classical_helper` and `parse_included_files`, which have no site in `allSites` -/
def panicSites : List String :=
  ["enter_scope", "exit_scope", "current_scope", "new_binding", "lookup",
   "binary_op_to_asg_type", "negative_float_number_to_asg_type", "negative_int_to_asg_type",
   "literal_to_asg_texpr", "designator_to_asg", "scalar_type_to_type", "declare_classical_helper",
   "io_declaration_statement_to_asg_stmt", "bind_typed_parameter_list", "stmt_to_asg_stmt",
   "expr_stmt_to_asg_stmt", "expr_to_asg_texpr", "set_expression_to_asg_type",
   "range_expression_to_asg_type", "gate_call_expr_to_asg_stmt", "call_expr_to_asg_texpr",
   "index_operator_to_asg_type", "qubit_list_to_asg_texpr", "block_or_stmt_to_asg_type",
   "classical_declaration_statement_to_asg_stmt", "assignment_stmt_to_asg_stmt",
   "indexed_identifier_to_asg_type", "parse_included_files", "syntax_to_semantic",
   "true_body_block_or_stmt", "block_or_stmt", "AnnotatedStmt"]

/-- the part of a site before the first `:` (for `AnnotatedStmt::new` that is `AnnotatedStmt`) -/
def sitePrefix (site : String) : String :=
  String.ofList (site.toList.takeWhile (· != ':'))

theorem allSites_prefixes : allSites.all (fun s => panicSites.contains (sitePrefix s)) = true := by
  decide +kernel

/-- **panic sites**: for every program and fuel, a panic of the model is at one of the sites of
`allSites` -/
theorem panic_sites (fuel : Nat) (p : Ast.Program) (site : String)
    (h : analyzeWith fuel p = .error (.panic site)) : site ∈ allSites :=
  (PresE.closed.syntaxToSemantic fuel p).run {} _ (analyzeWith_err_iff.mp h)

/-- … hence in one of the listed Rust functions -/
theorem panic_sites_fn (fuel : Nat) (p : Ast.Program) (site : String)
    (h : analyzeWith fuel p = .error (.panic site)) : sitePrefix site ∈ panicSites := by
  have hm := panic_sites fuel p site h
  have := List.all_eq_true.mp allSites_prefixes site hm
  simpa using this

/-- the same for any single statement in any context -/
theorem panic_sites_stmt (fuel : Nat) (stmt : Ast.Stmt) (s : Ctx) (site : String)
    (h : stmtToAsgStmt fuel stmt s = .error (.panic site)) : site ∈ allSites :=
  ((PresE.closed.all fuel).stmtToAsgStmt stmt).run s _ h

def sp (a b : Nat) : Ast.Span := ⟨a, b⟩
def intT (a b : Nat) : Ast.ScalarType := .mk (sp a b) .int none none
def intLit (a b : Nat) (t : String) (v : Nat) : Ast.Expr := .literal ⟨sp a b, .intNumber t (some v)⟩
def ident (a b : Nat) (n : String) : Ast.Expr := .identifier ⟨sp a b, n⟩
def prog (n : Nat) (ss : List Ast.Stmt) : Ast.Program := ⟨sp 0 n, ss⟩

def panicSite : Except Outcome Ctx → Option String
  | .error (.panic s) => some s
  | _ => none

/-- F13 `const int x = 1; const int x = 2;` -/
def f13 : Ast.Program := prog 33
  [.classicalDeclarationStatement (sp 0 16) false (some (intT 6 9)) true (some ⟨sp 10 11, "x"⟩)
     (some (intLit 14 15 "1" 1)),
   .classicalDeclarationStatement (sp 17 33) false (some (intT 23 26)) true (some ⟨sp 27 28, "x"⟩)
     (some (intLit 31 32 "2" 2))]

/-- F13 (repaired by a `fix:` commit): a redeclaration with a constant initializer is analysed to the
end, reported once as a redeclaration, and no constant value is recorded for the failed binding -/
theorem F13_redeclared_const_reported :
    panicSite (analyze f13) = none ∧
    ((analyze f13).toOption.map fun c =>
        (c.semanticErrors.map (·.kind), c.symbolTable.stack.length)) =
      some ([.redeclarationError], 1) := by
  decide +kernel

/-- F14 `int[n] x;` with undeclared `n` -/
def f14 : Ast.Program := prog 9
  [.classicalDeclarationStatement (sp 0 9) false
     (some (.mk (sp 0 6) .int (some (.mk (sp 3 6) (some (ident 4 5 "n")))) none)) false
     (some ⟨sp 7 8, "x"⟩) none]

theorem witness_F14_undeclared_designator :
    panicSite (analyze f14) = some "designator_to_asg: sym.unwrap() on Err" := by
  decide +kernel

/-- F15 `f(1);` with undeclared `f` -/
def f15 : Ast.Program := prog 5
  [.exprStmt (sp 0 5) (some (.callExpr (sp 0 4)
     (some (.mk (sp 1 4) (some (.mk (sp 1 4) [intLit 2 3 "1" 1])))) (some ⟨sp 0 1, "f"⟩)))]

theorem witness_F15_undeclared_callee :
    panicSite (analyze f15) =
      some "call_expr_to_asg_texpr: programming error: expected Type::Def variant" := by
  decide +kernel

/-- `bit b = !a;` -/
def wNot : Ast.Program := prog 11
  [.classicalDeclarationStatement (sp 0 11) false (some (.mk (sp 0 3) .bit none none)) false
     (some ⟨sp 4 5, "b"⟩) (some (.prefixExpr (sp 8 10) (some .logicNot) (some (ident 9 10 "a"))))]

theorem witness_unary_not :
    panicSite (analyze wNot) =
      some "expr_to_asg_texpr: unary operators other than minus are not supported" := by
  decide +kernel

/-- `a < b;` -/
def wLess : Ast.Program := prog 6
  [.exprStmt (sp 0 6) (some (.binExpr (sp 0 5) (some (.cmpOp (.ord true true)))
     (some (ident 0 1 "a")) (some (ident 4 5 "b"))))]

theorem witness_less_than :
    panicSite (analyze wLess) =
      some "binary_op_to_asg_type: comparison operators other than == and != are not supported" := by
  decide +kernel

/-- `x += 1;` -/
def wCompound : Ast.Program := prog 7
  [.exprStmt (sp 0 7) (some (.binExpr (sp 0 6) (some (.assignment (some .add)))
     (some (ident 0 1 "x")) (some (intLit 5 6 "1" 1))))]

theorem witness_compound_assignment :
    panicSite (analyze wCompound) =
      some "binary_op_to_asg_type: unsupported binary operator (assignment)" := by
  decide +kernel

/-- `a = 1; -c;` as the accessors present it (no syntax error is reported): one `ExprStmt` holding a
`BinExpr` whose `lhs()` is `c` and whose `rhs()` is `None` -/
def wLostAssignment : Ast.Program := prog 10
  [.exprStmt (sp 0 10) (some (.binExpr (sp 0 9) (some (.arithOp .sub)) (some (ident 8 9 "c")) none))]

theorem witness_binexpr_without_rhs :
    panicSite (analyze wLostAssignment) =
      some "expr_to_asg_texpr: BinExpr right unwrap() on None" := by
  decide +kernel

/-- `if (c) ;`: `true_body_block_or_stmt()` panics inside oq3_syntax -/
def wEmptyIf : Ast.Program := prog 8
  [.ifStmt (sp 0 8) (some (ident 4 5 "c")) .panicked none]

theorem witness_if_without_body :
    panicSite (analyze wEmptyIf) = some "true_body_block_or_stmt: Error in oq3_syntax" := by
  decide +kernel

/-- the witnessed sites are members of `allSites` (consistency of the two views) -/
example : "call_expr_to_asg_texpr: programming error: expected Type::Def variant" ∈ allSites := by decide

/-! ### totality outside the syntactic fragments — not proved

`Props/C03Total.lean` and `Props/C03Total2.lean` prove `(analyzeWith fuel p).isOk` for programs of
two syntactic fragments.  The statement for everything the finding guards leave would be:

    theorem sema_total (p : Ast.Program) (fuel : Nat) :
        Supported p = true → fuel ≥ defaultFuel p → (analyzeWith fuel p).isOk

with `Supported` the decidable conjunction of the negated finding guards (no designator other than
an integer literal or a const identifier with a recorded `u32` value; every call's callee a
declared subroutine; no `Ord`/logic/assignment operator, no unary `!`/`~`, no negated timing/bool/
bit-string literal; every accessor that the pass unwraps is `some`; no redeclaration whose
initializer stays const-typed; integer literals `< 2^128`; no array io/cast/ref-param; no
block/array/box expression; every control-flow body present and not a statement that yields `None`).

Obstacles: (a) several guards are *not* syntactic — "callee is a declared subroutine", "the
designator identifier has a recorded const value", "the name is not already bound in the current
scope" depend on the symbol table and the const-value map at that program point, so `Supported`
has to be defined by running a second abstract interpretation of the scope discipline and proved
sound against `Ctx` by a simulation argument through all 25 functions; (b) fuel sufficiency needs
a size measure that decreases along every one of the 60 call edges of the block (`defaultFuel` was
chosen generously, but the proof obligation is per edge).  Both are mechanical but each is of the
size of the whole closure proof (`Lemmas/SemaClosed.lean`); the run-time guard census of the orchestrator (share of
generated programs outside every guard that the implementation analyses without panic: 100 % in
the 30 k-program run) is the evidence offered instead, labelled as exploration, not proof.
`panic_sites` bounds *where* a panic can occur; the witnesses show the bound is attained. -/

end Oq3.Props.C03
