/- GENERATED by /verif/tools/gen_c17_layout_trees.sh (tools/tree_to_lean.py) from the output of the
real parser (`oq3-run tree`, `oq3-run ast`) — do not edit.

Two programs, each in two layouts (`layA`/`layB`, `layC`/`layD`), as real syntax trees, for the
non-vacuity examples of Oq3/Props/C17Layout.lean. -/
import Oq3.Model.Accessors

namespace Oq3.C17Layout.W
open Oq3.Gen Oq3.Acc

/-- `if(a>>=b)x q;` (real `oq3-run tree` output; errors=``) -/
def layAFile : CNode :=
  .node .SOURCE_FILE 0 13 [
    .node .IF_STMT 0 13 [
      .token .IF_KW 0 2 ['i', 'f'],
      .token .L_PAREN 2 3 ['('],
      .node .BIN_EXPR 3 8 [
        .node .IDENTIFIER 3 4 [
          .token .IDENT 3 4 ['a']],
        .token .SHREQ 4 7 ['>', '>', '='],
        .node .IDENTIFIER 7 8 [
          .token .IDENT 7 8 ['b']]],
      .token .R_PAREN 8 9 [')'],
      .node .EXPR_STMT 9 13 [
        .node .GATE_CALL_EXPR 9 12 [
          .node .IDENTIFIER 9 10 [
            .token .IDENT 9 10 ['x']],
          .token .WHITESPACE 10 11 [' '],
          .node .QUBIT_LIST 11 12 [
            .node .IDENTIFIER 11 12 [
              .token .IDENT 11 12 ['q']]]],
        .token .SEMICOLON 12 13 [';']]]]
/-- the model's dump of that tree is, character for character, the real `oq3-run ast` line -/
example : Dump.program layAFile =
    "(Program 0 13 ((IfStmt 0 13 (BinExpr 3 8 Assign.Shr (Identifier 3 4 x61) (Identifier 7 8 x62)) (BosStmt (ExprStmt 9 13 (GateCallExpr 9 12 (QubitList 11 12 ((Identifier 11 12 x71))) _ (Identifier 9 10 x78)))) (BosStmt (ExprStmt 9 13 (GateCallExpr 9 12 (QubitList 11 12 ((Identifier 11 12 x71))) _ (Identifier 9 10 x78)))))))" := by
  decide +kernel

/-- `// c\nif ( a >>= b ) /* d */ x  q ;\n` (real `oq3-run tree` output; errors=``) -/
def layBFile : CNode :=
  .node .SOURCE_FILE 0 35 [
    .token .COMMENT 0 4 ['/', '/', ' ', 'c'],
    .token .WHITESPACE 4 5 ['\n'],
    .node .IF_STMT 5 34 [
      .token .IF_KW 5 7 ['i', 'f'],
      .token .WHITESPACE 7 8 [' '],
      .token .L_PAREN 8 9 ['('],
      .token .WHITESPACE 9 10 [' '],
      .node .BIN_EXPR 10 17 [
        .node .IDENTIFIER 10 11 [
          .token .IDENT 10 11 ['a']],
        .token .WHITESPACE 11 12 [' '],
        .token .SHREQ 12 15 ['>', '>', '='],
        .token .WHITESPACE 15 16 [' '],
        .node .IDENTIFIER 16 17 [
          .token .IDENT 16 17 ['b']]],
      .token .WHITESPACE 17 18 [' '],
      .token .R_PAREN 18 19 [')'],
      .token .WHITESPACE 19 20 [' '],
      .token .COMMENT 20 27 ['/', '*', ' ', 'd', ' ', '*', '/'],
      .token .WHITESPACE 27 28 [' '],
      .node .EXPR_STMT 28 34 [
        .node .GATE_CALL_EXPR 28 32 [
          .node .IDENTIFIER 28 29 [
            .token .IDENT 28 29 ['x']],
          .token .WHITESPACE 29 31 [' ', ' '],
          .node .QUBIT_LIST 31 32 [
            .node .IDENTIFIER 31 32 [
              .token .IDENT 31 32 ['q']]]],
        .token .WHITESPACE 32 33 [' '],
        .token .SEMICOLON 33 34 [';']]],
    .token .WHITESPACE 34 35 ['\n']]
/-- the model's dump of that tree is, character for character, the real `oq3-run ast` line -/
example : Dump.program layBFile =
    "(Program 0 35 ((IfStmt 5 34 (BinExpr 10 17 Assign.Shr (Identifier 10 11 x61) (Identifier 16 17 x62)) (BosStmt (ExprStmt 28 34 (GateCallExpr 28 32 (QubitList 31 32 ((Identifier 31 32 x71))) _ (Identifier 28 29 x78)))) (BosStmt (ExprStmt 28 34 (GateCallExpr 28 32 (QubitList 31 32 ((Identifier 31 32 x71))) _ (Identifier 28 29 x78)))))))" := by
  decide +kernel

/-- `int[8] v = -k; @ann p\ngate g(t) a { U(t, 0, 1.5) a; } pragma foo` (real `oq3-run tree` output; errors=``) -/
def layCFile : CNode :=
  .node .SOURCE_FILE 0 64 [
    .node .CLASSICAL_DECLARATION_STATEMENT 0 14 [
      .node .SCALAR_TYPE 0 6 [
        .token .INT_TY 0 3 ['i', 'n', 't'],
        .node .DESIGNATOR 3 6 [
          .token .L_BRACK 3 4 ['['],
          .node .LITERAL 4 5 [
            .token .INT_NUMBER 4 5 ['8']],
          .token .R_BRACK 5 6 [']']]],
      .token .WHITESPACE 6 7 [' '],
      .node .NAME 7 8 [
        .token .IDENT 7 8 ['v']],
      .token .WHITESPACE 8 9 [' '],
      .token .EQ 9 10 ['='],
      .token .WHITESPACE 10 11 [' '],
      .node .PREFIX_EXPR 11 13 [
        .token .MINUS 11 12 ['-'],
        .node .IDENTIFIER 12 13 [
          .token .IDENT 12 13 ['k']]],
      .token .SEMICOLON 13 14 [';']],
    .token .WHITESPACE 14 15 [' '],
    .node .ANNOTATION_STATEMENT 15 21 [
      .token .ANNOTATION 15 21 ['@', 'a', 'n', 'n', ' ', 'p']],
    .token .WHITESPACE 21 22 ['\n'],
    .node .GATE 22 53 [
      .token .GATE_KW 22 26 ['g', 'a', 't', 'e'],
      .token .WHITESPACE 26 27 [' '],
      .node .NAME 27 28 [
        .token .IDENT 27 28 ['g']],
      .node .PARAM_LIST 28 31 [
        .token .L_PAREN 28 29 ['('],
        .node .PARAM 29 30 [
          .token .IDENT 29 30 ['t']],
        .token .R_PAREN 30 31 [')']],
      .token .WHITESPACE 31 32 [' '],
      .node .PARAM_LIST 32 33 [
        .node .PARAM 32 33 [
          .token .IDENT 32 33 ['a']]],
      .token .WHITESPACE 33 34 [' '],
      .node .BLOCK_EXPR 34 53 [
        .token .L_CURLY 34 35 ['{'],
        .token .WHITESPACE 35 36 [' '],
        .node .EXPR_STMT 36 51 [
          .node .GATE_CALL_EXPR 36 50 [
            .node .IDENTIFIER 36 37 [
              .token .IDENT 36 37 ['U']],
            .node .ARG_LIST 37 48 [
              .node .EXPRESSION_LIST 37 48 [
                .token .L_PAREN 37 38 ['('],
                .node .IDENTIFIER 38 39 [
                  .token .IDENT 38 39 ['t']],
                .token .COMMA 39 40 [','],
                .token .WHITESPACE 40 41 [' '],
                .node .LITERAL 41 42 [
                  .token .INT_NUMBER 41 42 ['0']],
                .token .COMMA 42 43 [','],
                .token .WHITESPACE 43 44 [' '],
                .node .LITERAL 44 47 [
                  .token .FLOAT_NUMBER 44 47 ['1', '.', '5']],
                .token .R_PAREN 47 48 [')']]],
            .token .WHITESPACE 48 49 [' '],
            .node .QUBIT_LIST 49 50 [
              .node .IDENTIFIER 49 50 [
                .token .IDENT 49 50 ['a']]]],
          .token .SEMICOLON 50 51 [';']],
        .token .WHITESPACE 51 52 [' '],
        .token .R_CURLY 52 53 ['}']]],
    .token .WHITESPACE 53 54 [' '],
    .node .PRAGMA_STATEMENT 54 64 [
      .token .PRAGMA 54 64 ['p', 'r', 'a', 'g', 'm', 'a', ' ', 'f', 'o', 'o']]]
/-- the model's dump of that tree is, character for character, the real `oq3-run ast` line -/
example : Dump.program layCFile =
    "(Program 0 64 ((ClassicalDeclarationStatement 0 14 0 (ScalarType 0 6 Int (Designator 3 6 (Literal 4 5 (IntNumber x38 8))) _) 0 (Name 7 8 x76) (PrefixExpr 11 13 Neg (Identifier 12 13 x6b))) (AnnotationStatement 15 21 x40.61.6e.6e.20.70) (Gate 22 53 (Name 27 28 x67) (ParamList 28 31 ((Param 29 30 x74))) (ParamList 32 33 ((Param 32 33 x61))) (BlockExpr 34 53 ((ExprStmt 36 51 (GateCallExpr 36 50 (QubitList 49 50 ((Identifier 49 50 x61))) (ArgList 37 48 (ExpressionList 37 48 ((Identifier 38 39 x74) (Literal 41 42 (IntNumber x30 0)) (Literal 44 47 (FloatNumber x31.2e.35 x31.2e.35))))) (Identifier 36 37 x55)))))) (PragmaStatement 54 64 x20.66.6f.6f)))" := by
  decide +kernel

/-- `  int [ 8 ]  v=- k ;\n@ann p\n/* c */ gate  g ( t )a{U (t,0 ,1.5)a ;}\npragma foo` (real `oq3-run tree` output; errors=``) -/
def layDFile : CNode :=
  .node .SOURCE_FILE 0 78 [
    .token .WHITESPACE 0 2 [' ', ' '],
    .node .CLASSICAL_DECLARATION_STATEMENT 2 20 [
      .node .SCALAR_TYPE 2 11 [
        .token .INT_TY 2 5 ['i', 'n', 't'],
        .token .WHITESPACE 5 6 [' '],
        .node .DESIGNATOR 6 11 [
          .token .L_BRACK 6 7 ['['],
          .token .WHITESPACE 7 8 [' '],
          .node .LITERAL 8 9 [
            .token .INT_NUMBER 8 9 ['8']],
          .token .WHITESPACE 9 10 [' '],
          .token .R_BRACK 10 11 [']']]],
      .token .WHITESPACE 11 13 [' ', ' '],
      .node .NAME 13 14 [
        .token .IDENT 13 14 ['v']],
      .token .EQ 14 15 ['='],
      .node .PREFIX_EXPR 15 18 [
        .token .MINUS 15 16 ['-'],
        .token .WHITESPACE 16 17 [' '],
        .node .IDENTIFIER 17 18 [
          .token .IDENT 17 18 ['k']]],
      .token .WHITESPACE 18 19 [' '],
      .token .SEMICOLON 19 20 [';']],
    .token .WHITESPACE 20 21 ['\n'],
    .node .ANNOTATION_STATEMENT 21 27 [
      .token .ANNOTATION 21 27 ['@', 'a', 'n', 'n', ' ', 'p']],
    .token .WHITESPACE 27 28 ['\n'],
    .token .COMMENT 28 35 ['/', '*', ' ', 'c', ' ', '*', '/'],
    .token .WHITESPACE 35 36 [' '],
    .node .GATE 36 67 [
      .token .GATE_KW 36 40 ['g', 'a', 't', 'e'],
      .token .WHITESPACE 40 42 [' ', ' '],
      .node .NAME 42 43 [
        .token .IDENT 42 43 ['g']],
      .token .WHITESPACE 43 44 [' '],
      .node .PARAM_LIST 44 49 [
        .token .L_PAREN 44 45 ['('],
        .token .WHITESPACE 45 46 [' '],
        .node .PARAM 46 47 [
          .token .IDENT 46 47 ['t']],
        .token .WHITESPACE 47 48 [' '],
        .token .R_PAREN 48 49 [')']],
      .node .PARAM_LIST 49 50 [
        .node .PARAM 49 50 [
          .token .IDENT 49 50 ['a']]],
      .node .BLOCK_EXPR 50 67 [
        .token .L_CURLY 50 51 ['{'],
        .node .EXPR_STMT 51 66 [
          .node .GATE_CALL_EXPR 51 64 [
            .node .IDENTIFIER 51 52 [
              .token .IDENT 51 52 ['U']],
            .token .WHITESPACE 52 53 [' '],
            .node .ARG_LIST 53 63 [
              .node .EXPRESSION_LIST 53 63 [
                .token .L_PAREN 53 54 ['('],
                .node .IDENTIFIER 54 55 [
                  .token .IDENT 54 55 ['t']],
                .token .COMMA 55 56 [','],
                .node .LITERAL 56 57 [
                  .token .INT_NUMBER 56 57 ['0']],
                .token .WHITESPACE 57 58 [' '],
                .token .COMMA 58 59 [','],
                .node .LITERAL 59 62 [
                  .token .FLOAT_NUMBER 59 62 ['1', '.', '5']],
                .token .R_PAREN 62 63 [')']]],
            .node .QUBIT_LIST 63 64 [
              .node .IDENTIFIER 63 64 [
                .token .IDENT 63 64 ['a']]]],
          .token .WHITESPACE 64 65 [' '],
          .token .SEMICOLON 65 66 [';']],
        .token .R_CURLY 66 67 ['}']]],
    .token .WHITESPACE 67 68 ['\n'],
    .node .PRAGMA_STATEMENT 68 78 [
      .token .PRAGMA 68 78 ['p', 'r', 'a', 'g', 'm', 'a', ' ', 'f', 'o', 'o']]]
/-- the model's dump of that tree is, character for character, the real `oq3-run ast` line -/
example : Dump.program layDFile =
    "(Program 0 78 ((ClassicalDeclarationStatement 2 20 0 (ScalarType 2 11 Int (Designator 6 11 (Literal 8 9 (IntNumber x38 8))) _) 0 (Name 13 14 x76) (PrefixExpr 15 18 Neg (Identifier 17 18 x6b))) (AnnotationStatement 21 27 x40.61.6e.6e.20.70) (Gate 36 67 (Name 42 43 x67) (ParamList 44 49 ((Param 46 47 x74))) (ParamList 49 50 ((Param 49 50 x61))) (BlockExpr 50 67 ((ExprStmt 51 66 (GateCallExpr 51 64 (QubitList 63 64 ((Identifier 63 64 x61))) (ArgList 53 63 (ExpressionList 53 63 ((Identifier 54 55 x74) (Literal 56 57 (IntNumber x30 0)) (Literal 59 62 (FloatNumber x31.2e.35 x31.2e.35))))) (Identifier 51 52 x55)))))) (PragmaStatement 68 78 x20.66.6f.6f)))" := by
  decide +kernel

end Oq3.C17Layout.W
