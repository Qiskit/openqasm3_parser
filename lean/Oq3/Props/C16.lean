/-
C16 — statement parsing is compositional: context never changes a statement's parse.

All statements are about the grammar model (`Oq3/Model/Grammar.lean`) at the EVENT level.

PROVED here (for every state / every input, no bound):

1. `optItem_result`: what `opt_item` returns is decided by the first two tokens alone
   (`itemFirst`): on an item-first token pair it returns `Ok(())`, otherwise it returns the marker
   untouched, having consumed nothing and pushed nothing.
2. `dispatch_equiv_partial`: on an item-first token pair other than `let`, the top-level
   dispatcher `item` IS the block-level dispatcher `stmt` followed by the top-level-only check
   "expected statement, found `;`" (`semiCheck`) — an equation between the two runs, for every
   fuel and every state, failures included.  The guards are decidable in the first two tokens.
   The complete list of differences between the two dispatchers is therefore:
   (D1) `let`   — `stmt` intercepts it as LET_STMT, `item` makes it ALIAS_DECLARATION_STATEMENT;
   (D2) a `;` directly after an item statement — an error under `item`, silently eaten by `stmt`;
   (D3) first tokens that are not item-first — `item` does not parse ONE statement at all: it
        hands the whole rest of the input to the `stmt` loop (`item_falls_through`), so from the
        first non-item statement on, every later statement is parsed by `stmt`, not `item`
        (this is how (D1)/(D2) become context dependence);
   (D4) `}` at top level is an error node under `item`; `stmt` leaves it alone.
   (D1), (D2) and (D4) have kernel-evaluated witnesses (`witness_*`); (D3) is the theorem
   `item_falls_through`, and `witness_let_after_stmt` / `witness_semicolon_after_stmt` show its effect.
3. A further context dependence that is NOT a dispatcher difference, found while stating the
   `Follow` conditions: an assignment statement keeps looking for a binary operator AFTER its
   own `;`, so `x = 1; -y;` is one statement `(x = 1;) - y;` with no diagnostic
   (`witness_assign_then_minus`).
4. Locality (`Oq3/Lemmas/Locality.lean`; `allLM` in the generated `Oq3/Lemmas/GrammarLoc.lean`, an
   instance of the walk of `Oq3/Lemmas/GrammarClosed.lean`):
   every grammar function, at every fuel, depends only on the tokens up to two positions beyond
   the position it finally reaches, never moves backwards and never writes the input
   (`grammar_local`).  Consequences stated here: `prefix_determined`, `stmt_prefix_determined`,
   `item_prefix_determined`, `stmt_suffix_irrelevant` (for `source_file`: `prefix_determined` at
   `Grammar.sourceFile_lm`).

The relocation half of compositionality — the events produced from a state `(events, pos)` are the
events produced from the empty state on the input suffix, shifted — and binary sequence
compositionality for all inputs are in `Props/C16Reloc.lean`; the n-ary statement for the inductive
language of `Props/C04Lang2.lean` is in `Props/C16Lang.lean`.
-/
import Oq3.Lemmas.GrammarLoc
import Oq3.Model.Process

namespace Oq3.Props.C16
open Oq3.Gen Oq3.Parser Oq3.Grammar

/-- keywords on which `opt_item` dispatches to a statement parser -/
def itemKeyword : SyntaxKind → Bool
  | .QUBIT_KW | .CONST_KW | .GATE_KW | .BREAK_KW | .CONTINUE_KW | .END_KW | .IF_KW | .WHILE_KW
  | .FOR_KW | .DEF_KW | .DEFCAL_KW | .CAL_KW | .DEFCALGRAMMAR_KW | .EXTERN_KW | .RESET_KW
  | .BARRIER_KW | .O_P_E_N_Q_A_S_M_KW | .INCLUDE_KW | .SWITCH_KW | .LET_KW | .DELAY_KW
  | .INPUT_KW | .OUTPUT_KW => true
  | _ => false

/-- `opt_item` parses a statement iff the first two tokens satisfy this -/
def itemFirst (k la : SyntaxKind) : Bool :=
  (isClassicalType k && la != .L_PAREN) || itemKeyword k

theorem bind_const_val {α β} (x : G α) (v : β) (s : P) (r : β × P)
    (h : (x >>= fun a => (fun _ => (pure v : G β)) a) s = .ok r) : r.1 = v := by
  rw [G.bind_ok] at h
  obtain ⟨a, s1, _, h2⟩ := h
  simp only [G.pure_ok] at h2
  rw [h2]

/-- `opt_item` on a fixed state: `Ok(())` exactly on item-first tokens; otherwise the marker
comes back and the only trace is the `nth(1)` step counter -/
theorem optItem_result (fuel : Nat) (m : Marker) (s : P) (r : Except Marker Unit) (s' : P)
    (h : optItem (fuel + 1) m s = .ok (r, s')) :
    (itemFirst (s.kindAt s.pos) (s.kindAt (s.pos + 1)) = true → r = .ok ()) ∧
    (itemFirst (s.kindAt s.pos) (s.kindAt (s.pos + 1)) = false →
      r = .error m ∧ s' = { s with steps := s.steps + 1 }) := by
  rw [optItem.eq_2, G.bind_ok] at h
  obtain ⟨la, s1, h1, h2⟩ := h
  obtain ⟨rfl, rfl⟩ := Prod.mk.inj (nth_ok _ _ _ h1)
  rw [G.bind_ok] at h2
  obtain ⟨k, s2, h3, h4⟩ := h2
  rw [current_ok] at h3
  obtain ⟨rfl, rfl⟩ := Prod.mk.inj h3
  have hk : ({ s with steps := s.steps + 1 } : P).kindAt ({ s with steps := s.steps + 1 } : P).pos
      = s.kindAt s.pos := rfl
  rw [hk] at h4
  split at h4
  · -- classical declaration branch
    rename_i hc
    have hv : r = .ok () := by
      have := bind_const_val _ _ _ _ h4
      exact this
    refine ⟨fun _ => hv, fun hf => ?_⟩
    simp only [itemFirst, hc, Bool.true_or] at hf
    exact absurd hf (by simp)
  · rename_i hc
    rw [G.bind_ok] at h4
    obtain ⟨k2, s3, h5, h6⟩ := h4
    rw [current_ok] at h5
    obtain ⟨rfl, rfl⟩ := Prod.mk.inj h5
    rw [hk] at h6
    have hc' : (isClassicalType (s.kindAt s.pos) && s.kindAt (s.pos + 1) != .L_PAREN) = false := by
      simpa using hc
    simp only [itemFirst, hc', Bool.false_or]
    -- kind by kind: the arm of `opt_item`'s `match` either ends in `Ok(())` or hands `m` back
    cases hkk : s.kindAt s.pos <;> rw [hkk] at h6 <;> dsimp only at h6 <;>
      first
      | (exact ⟨fun _ => bind_const_val _ _ _ _ h6, fun hf => absurd hf (by decide)⟩)
      | (simp only [G.pure_ok, Prod.mk.injEq] at h6
         obtain ⟨rfl, rfl⟩ := h6
         exact ⟨fun ht => absurd ht (by decide), fun _ => ⟨rfl, rfl⟩⟩)

/-- the check that only the top-level dispatcher performs after an item statement -/
def semiCheck : G Unit := do
  if (← at' .SEMICOLON) then
    errAndBump "expected statement, found `;`"
  return

theorem itemFirst_semicolon (la : SyntaxKind) : itemFirst .SEMICOLON la = false := by
  simp [itemFirst, isClassicalType, itemKeyword, SyntaxKind.isScalarType]

/-- **Dispatch equivalence.**  On an item-first token pair other than `let`, `item` is `stmt`
followed by `semiCheck`: the same result and the same final state, for every fuel and every
state (equal also when both fail, with the same failure). -/
theorem dispatch_equiv_partial (fuel : Nat) (s : P)
    (hk : itemFirst (s.kindAt s.pos) (s.kindAt (s.pos + 1)) = true)
    (hlet : s.kindAt s.pos ≠ .LET_KW) :
    item (fuel + 1) false s = (stmt (fuel + 1) >>= fun _ => semiCheck) s := by
  have hsemi : (s.kindAt s.pos == SyntaxKind.SEMICOLON) = false := by
    cases h : (s.kindAt s.pos == SyntaxKind.SEMICOLON) with
    | false => rfl
    | true =>
      have : s.kindAt s.pos = .SEMICOLON := by simpa using h
      rw [this, itemFirst_semicolon] at hk
      exact absurd hk (by simp)
  have hlet' : (s.kindAt s.pos == SyntaxKind.LET_KW) = false := by simpa using hlet
  rw [item.eq_2, stmt.eq_2]
  simp only [G.bind_apply, eat_simple_eq .SEMICOLON rfl rfl, at_simple_eq .LET_KW rfl, hsemi, hlet',
    Bool.false_eq_true, if_false, start_eq]
  by_cases hh : s.hookTrip = true
  · simp only [hh, if_true]
  · simp only [hh, if_false, Bool.false_eq_true]
    cases fuel with
    | zero => simp only [optItem.eq_1, G.fail_apply]
    | succ f =>
      cases ho : optItem (f + 1) { pos := s.events.size }
          { s with events := s.events.push Ev.tombstone, sinceBump := s.sinceBump + 1, live := s.live + 1 } with
      | error e => rfl
      | ok p =>
        obtain ⟨r, s2⟩ := p
        have hr := (optItem_result f _ _ r s2 ho).1 hk
        subst hr
        simp only [G.pure_apply]
        rfl

/-- **Fall-through.**  On a first token that is neither item-first nor `}` nor end of input, a
successful `item` is a run of the statement LOOP `expr_block_statements` (which only returns at
`}` or end of input) from the same events and the same position: `item` does not parse one
statement, it parses all the remaining ones with `stmt`. -/
theorem item_falls_through (fuel : Nat) (s : P) (r : Unit × P)
    (hk : itemFirst (s.kindAt s.pos) (s.kindAt (s.pos + 1)) = false)
    (hc : s.kindAt s.pos ≠ .R_CURLY) (he : s.kindAt s.pos ≠ .EOF)
    (h : item (fuel + 2) false s = .ok r) :
    exprBlockStatements (fuel + 1) { s with steps := s.steps + 1, sinceBump := s.sinceBump + 1 } = .ok r := by
  rw [item.eq_2, G.bind_ok] at h
  obtain ⟨m, s1, h1, h2⟩ := h
  have hst := start_ok s (m, s1) h1
  obtain ⟨rfl, rfl⟩ := Prod.mk.inj hst
  rw [G.bind_ok] at h2
  obtain ⟨r1, s2, h3, h4⟩ := h2
  obtain ⟨rfl, rfl⟩ := (optItem_result fuel _ _ r1 s2 h3).2 hk
  dsimp only at h4
  rw [G.bind_ok] at h4
  obtain ⟨k, s3, h5, h6⟩ := h4
  rw [current_ok] at h5
  obtain ⟨rfl, rfl⟩ := Prod.mk.inj h5
  have hc' : (s.kindAt s.pos == SyntaxKind.R_CURLY) = false := by simpa using hc
  have he' : (s.kindAt s.pos == SyntaxKind.EOF) = false := by simpa using he
  simp only [P.kindAt] at hc' he'
  simp only [P.kindAt, hc', he', Bool.false_and, Bool.or_self, Bool.false_eq_true, if_false] at h6
  rw [G.bind_ok] at h6
  obtain ⟨u, s4, h7, h8⟩ := h6
  rw [abandon_eq] at h7
  simp only [Array.size_push, Nat.add_sub_cancel, beq_self_eq_true, if_true, Array.back?_push,
    Ev.tombstone, Bool.and_self, Option.isNone_none, Array.pop_push, Bool.false_or,
    Nat.add_eq_zero_iff, Nat.succ_ne_self, and_false, beq_iff_eq, if_false] at h7
  split at h7
  · simp at h7
  · simp only [Except.ok.injEq, Prod.mk.injEq] at h7
    obtain ⟨_, rfl⟩ := h7
    exact h8

/-! Witnesses: kernel-evaluated closed runs of the model; tokens without joint bits. -/

/-- steps of the model's parse of a token-kind sequence (`none` = panic / fuel / `process` failed) -/
def stepsOf (ks : List SyntaxKind) : Option (List Step) :=
  match parseSourceFile 200 ks.toArray (ks.map fun _ => false).toArray with
  | .ok (ev, _) => process ev.toList
  | .error _ => none

def enters : List Step → List SyntaxKind
  | [] => []
  | .enter k :: ss => k :: enters ss
  | _ :: ss => enters ss

def errors : List Step → List String
  | [] => []
  | .error msg :: ss => msg :: errors ss
  | _ :: ss => errors ss

/-- kinds of the children nodes of the root, i.e. of the top-level statements -/
def topKinds : Nat → List Step → List SyntaxKind
  | _, [] => []
  | d, .enter k :: ss => if d == 1 then k :: topKinds (d + 1) ss else topKinds (d + 1) ss
  | d, .exit :: ss => topKinds (d - 1) ss
  | d, _ :: ss => topKinds d ss

/-- node kinds in pre-order, diagnostics, and top-level statement kinds -/
def summary (ks : List SyntaxKind) : Option (List SyntaxKind × List String × List SyntaxKind) :=
  (stepsOf ks).map fun st => (enters st, errors st, topKinds 0 st)

/-- (D1) `let a = q;` at the start of a file is an alias declaration … -/
theorem witness_let_first :
    summary [.LET_KW, .IDENT, .EQ, .IDENT, .SEMICOLON] =
      some ([.SOURCE_FILE, .ALIAS_DECLARATION_STATEMENT, .NAME, .IDENTIFIER], [],
            [.ALIAS_DECLARATION_STATEMENT]) := by decide +kernel

/-- … but after any non-item statement (`y;`) the same tokens are a LET_STMT (without NAME node) -/
theorem witness_let_after_stmt :
    summary [.IDENT, .SEMICOLON, .LET_KW, .IDENT, .EQ, .IDENT, .SEMICOLON] =
      some ([.SOURCE_FILE, .EXPR_STMT, .IDENTIFIER, .LET_STMT, .IDENTIFIER], [],
            [.EXPR_STMT, .LET_STMT]) := by decide +kernel

/-- … and inside every block (`{ let a = q; }`) -/
theorem witness_let_in_block :
    summary [.L_CURLY, .LET_KW, .IDENT, .EQ, .IDENT, .SEMICOLON, .R_CURLY] =
      some ([.SOURCE_FILE, .EXPR_STMT, .BLOCK_EXPR, .LET_STMT, .IDENTIFIER], [], [.EXPR_STMT]) := by
  decide +kernel

/-- (D2) `int x;;` at the start of a file: the empty statement is an error … -/
theorem witness_semicolon_first :
    summary [.INT_TY, .IDENT, .SEMICOLON, .SEMICOLON] =
      some ([.SOURCE_FILE, .CLASSICAL_DECLARATION_STATEMENT, .SCALAR_TYPE, .NAME, .ERROR],
            ["expected statement, found `;`"], [.CLASSICAL_DECLARATION_STATEMENT, .ERROR]) := by
  decide +kernel

/-- … but not after a non-item statement -/
theorem witness_semicolon_after_stmt :
    summary [.IDENT, .SEMICOLON, .INT_TY, .IDENT, .SEMICOLON, .SEMICOLON] =
      some ([.SOURCE_FILE, .EXPR_STMT, .IDENTIFIER, .CLASSICAL_DECLARATION_STATEMENT, .SCALAR_TYPE, .NAME],
            [], [.EXPR_STMT, .CLASSICAL_DECLARATION_STATEMENT]) := by decide +kernel

/-- (D4) `}` at top level -/
theorem witness_rcurly_top :
    summary [.R_CURLY] = some ([.SOURCE_FILE, .ERROR], ["unmatched `}`"], [.ERROR]) := by
  decide +kernel

/-- the statement `-y;` alone … -/
theorem witness_minus_alone :
    summary [.MINUS, .IDENT, .SEMICOLON] =
      some ([.SOURCE_FILE, .EXPR_STMT, .PREFIX_EXPR, .IDENTIFIER], [], [.EXPR_STMT]) := by decide +kernel

/-- … the statement `x = 1;` alone … -/
theorem witness_assign_alone :
    summary [.IDENT, .EQ, .INT_NUMBER, .SEMICOLON] =
      some ([.SOURCE_FILE, .ASSIGNMENT_STMT, .IDENTIFIER, .LITERAL], [], [.ASSIGNMENT_STMT]) := by
  decide +kernel

/-- … and their concatenation `x = 1; -y;`: ONE statement, the binary expression
`(x = 1;) - y`, accepted without any diagnostic.  The assignment is completed together with its
`;` inside the operator loop of `expr_bp`, which then goes on looking for a binary operator. -/
theorem witness_assign_then_minus :
    summary [.IDENT, .EQ, .INT_NUMBER, .SEMICOLON, .MINUS, .IDENT, .SEMICOLON] =
      some ([.SOURCE_FILE, .EXPR_STMT, .BIN_EXPR, .ASSIGNMENT_STMT, .IDENTIFIER, .LITERAL, .IDENTIFIER],
            [], [.EXPR_STMT]) := by decide +kernel

/-- every function of the grammar, at every fuel: local with a 3-token window, position never
decreases, input never written -/
theorem grammar_local (fuel : Nat) : AllLM fuel := allLM fuel

/-- what locality means for one run: replace the input by any input that agrees on the first
`m` tokens (kinds and joint bits); if the original run ended at a position `p` with `p + 3 ≤ m`,
the new run returns the same value and the same state (events, position, …) -/
theorem prefix_determined {α} {x : G α} (hx : LM x) (m : Nat) (s : P) (K' : Array SyntaxKind)
    (J' : Array Bool) (hK : ∀ i, i < m → K'.getD i .EOF = s.kinds.getD i .EOF)
    (hJ : ∀ i, i < m → J'.getD i false = s.joint.getD i false)
    (a : α) (s1 : P) (h : x s = .ok (a, s1)) (hm : s1.pos + 3 ≤ m) :
    x { s with kinds := K', joint := J' } = .ok (a, { s1 with kinds := K', joint := J' }) := by
  have hA : Agree m s { s with kinds := K', joint := J' } := ⟨rfl, hK, hJ⟩
  obtain ⟨t', ht, hA'⟩ := hx.loc m s _ (a, s1) hA h hm
  have hkeep := hx.keep _ _ ht
  simp only at hkeep
  rw [ht]
  have : t' = { s1 with kinds := K', joint := J' } := by
    rw [hA'.rest, hkeep.1, hkeep.2]
  rw [this]

theorem stmt_prefix_determined (fuel m : Nat) (s : P) (K' : Array SyntaxKind) (J' : Array Bool)
    (hK : ∀ i, i < m → K'.getD i .EOF = s.kinds.getD i .EOF)
    (hJ : ∀ i, i < m → J'.getD i false = s.joint.getD i false)
    (s1 : P) (h : stmt fuel s = .ok ((), s1)) (hm : s1.pos + 3 ≤ m) :
    stmt fuel { s with kinds := K', joint := J' } = .ok ((), { s1 with kinds := K', joint := J' }) :=
  prefix_determined (allLM fuel).stmt m s K' J' hK hJ () s1 h hm

theorem item_prefix_determined (fuel m : Nat) (b : Bool) (s : P) (K' : Array SyntaxKind) (J' : Array Bool)
    (hK : ∀ i, i < m → K'.getD i .EOF = s.kinds.getD i .EOF)
    (hJ : ∀ i, i < m → J'.getD i false = s.joint.getD i false)
    (s1 : P) (h : item fuel b s = .ok ((), s1)) (hm : s1.pos + 3 ≤ m) :
    item fuel b { s with kinds := K', joint := J' } = .ok ((), { s1 with kinds := K', joint := J' }) :=
  prefix_determined ((allLM fuel).item b) m s K' J' hK hJ () s1 h hm

theorem getD_append_left {α} (A B : List α) (i : Nat) (hi : i < A.length) (d : α) :
    (A ++ B).toArray.getD i d = A.toArray.getD i d := by
  rw [Array.getD_eq_getD_getElem?, Array.getD_eq_getD_getElem?]
  simp only [List.getElem?_toArray, List.getElem?_append_left hi]

/-- the same for token LISTS: a statement parsed from input `A ++ B` that ends at least three
tokens before the end of `A` is parsed identically from `A ++ C`, whatever `C` is -/
theorem stmt_suffix_irrelevant (fuel : Nat) (A B C : List SyntaxKind) (JA JB JC : List Bool)
    (hl : JA.length = A.length) (s s1 : P)
    (hs : s.kinds = (A ++ B).toArray) (hj : s.joint = (JA ++ JB).toArray)
    (h : stmt fuel s = .ok ((), s1)) (hm : s1.pos + 3 ≤ A.length) :
    stmt fuel { s with kinds := (A ++ C).toArray, joint := (JA ++ JC).toArray } =
      .ok ((), { s1 with kinds := (A ++ C).toArray, joint := (JA ++ JC).toArray }) := by
  refine stmt_prefix_determined fuel A.length s _ _ ?_ ?_ s1 h hm
  · intro i hi
    rw [hs, getD_append_left A C i hi, getD_append_left A B i hi]
  · intro i hi
    rw [hj, getD_append_left JA JC i (hl ▸ hi), getD_append_left JA JB i (hl ▸ hi)]

end Oq3.Props.C16
