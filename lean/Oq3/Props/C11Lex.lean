/-
C11 (lexical half) — malformed lexemes are always diagnosed.

For each class of malformed lexeme: `malformed_flagged_<class>` says that `advance_token`, started
at the malformed lexeme `bad` followed by an ARBITRARY `rest`, returns a token that covers `bad`
and whose flags make `inner_extend_token` return a non-empty message (`malformed_flagged_pound_p`
states the kind `InvalidIdent` only, `malformed_flagged_emoji_start` the kind and the flag;
`flagged_invalidIdent` is the flag of that kind).  `error_at_boundary` lifts
this to the token table: if the text before `bad` ends at a token boundary (which C15's
`tokenize_layoutK` gives for every admissible well-formed prefix), `LexedStr.error` contains an
entry whose index is that token's index and whose text range starts at `bad`.

Closed instances at the end: the F11 input (an unterminated bit string with consecutive
underscores) and the special-cased unterminated bit string at the end of the input; both are
diagnosed.
-/
import Oq3.Props.C15

namespace Oq3.Props.C11
open Oq3.Lexer Oq3.Lexed Oq3.Gen Oq3.Ref Oq3.Lemmas.Lexer Oq3.Lemmas.Lexed Oq3.Lemmas.LexLocal
open Oq3.Props.C15

variable {uc : UC}

/-- the token `advance_token` returns carries a lexer error -/
def Flagged (k : TokenKind) (text : List Char) : Prop := (innerExtendToken k text).1.isEmpty = false

/-- **Lifting.**  If the text before `s` ends at a token boundary (the token stream of
`pre ++ s` is some `tp` followed by the token stream of `s`) and the first token of `s` is
flagged, then `LexedStr.error` has an entry for exactly that token: its index is `tp.length`, and
the token's text range starts at the byte offset of `s` and has the token's length. -/
theorem error_at_boundary (uc : UC) (pre s : List Char) (tp : List Token) (hs : s ≠ [])
    (hb : tokenize uc (pre ++ s) = tp ++ tokenize uc s)
    (herr : Flagged (tokenAt uc s).kind (tokenAt uc s).text) :
    ∃ l, LexedStr.new uc (pre ++ s) = some l ∧
      (∃ e ∈ l.error, e.token = tp.length ∧ e.msg = errMsg (tokenAt uc s)) ∧
      l.textRange tp.length = some (utf8Len pre, utf8Len pre + (tokenAt uc s).len) := by
  obtain ⟨c, cs, rfl⟩ := List.exists_cons_of_ne_nil hs
  have htok : tokenize uc (pre ++ c :: cs) =
      tp ++ tokenAt uc (c :: cs) :: tokenize uc (advanceToken uc (c :: cs)).rest := by
    rw [hb, tokenize_cons]
  have htexts : texts tp = pre := by
    have h1 := texts_tokenize uc (pre ++ c :: cs)
    rw [hb, texts_append, texts_tokenize] at h1
    exact List.append_cancel_right h1
  refine ⟨_, new_eq uc _, ⟨⟨errMsg (tokenAt uc (c :: cs)), tp.length⟩, ?_, rfl, rfl⟩, ?_⟩
  · show _ ∈ specErrors 0 (tokenize uc (pre ++ c :: cs))
    rw [htok]
    have := specErrors_mem tp (tokenAt uc (c :: cs)) (tokenize uc (advanceToken uc (c :: cs)).rest) 0 herr
    simpa using this
  · have hlen : tp.length < (tokenize uc (pre ++ c :: cs)).length := by rw [htok]; simp
    simp only [LexedStr.textRange, lexedOf_len, hlen, if_true]
    rw [lexedOf_start uc _ tp.length (by omega), lexedOf_start uc _ (tp.length + 1) (by omega)]
    simp only [htok, List.take_left', List.take_succ_eq_append_getElem (by simp : tp.length < (tp ++ tokenAt uc (c :: cs) :: tokenize uc (advanceToken uc (c :: cs)).rest).length)]
    have htexts' : (List.map (fun x => x.text) tp).flatten = pre := htexts
    simp [utf8Len_append, texts, tokenAt_len, htexts']

/-- the lexed layer has no error iff no token is flagged (what `parse_text_check_lex` tests) -/
theorem error_nil_iff (uc : UC) (s : List Char) (l : LexedStr) (hl : LexedStr.new uc s = some l) :
    l.error = [] ↔ ∀ t ∈ tokenize uc s, (innerExtendToken t.kind t.text).1.isEmpty = true := by
  rw [C14.lexed_eq uc s l hl]
  exact specErrors_nil_iff (tokenize uc s) 0


/-- **Malformed lexeme in a well-formed context.**  After ANY admissible layout of well-formed
lexemes (C15) — i.e. wherever a lexeme boundary is — a flagged token at the start of `s` yields a
lexer error whose token index is the number of tokens before it and whose text range begins
exactly where `s` begins.  (`s` is `bad ++ rest` in the `malformed_flagged_*` theorems.) -/
theorem malformed_in_context (hu : AsciiUC uc) (lead : Sep) (items : List (Lexeme × Sep))
    (s : List Char) (hs : s ≠ [])
    (hlead : sepOK lead (itemsTextK items s) = true) (hitems : itemsOKK uc items s = true)
    (herr : Flagged (tokenAt uc s).kind (tokenAt uc s).text) :
    ∃ l, LexedStr.new uc (sepText lead ++ itemsTextK items s) = some l ∧
      (∃ e ∈ l.error, e.token = (layoutToks lead items).length ∧ e.msg = errMsg (tokenAt uc s)) ∧
      l.textRange (layoutToks lead items).length =
        some (utf8Len (sepText lead ++ itemsTextK items []),
          utf8Len (sepText lead ++ itemsTextK items []) + (tokenAt uc s).len) := by
  rw [layout_text lead items s]
  refine error_at_boundary uc _ s (layoutToks lead items) hs ?_ herr
  rw [← layout_text lead items s]
  exact tokenize_layoutK hu lead items s hlead hitems

theorem blockCommentLoop_open (d : Nat) (ok : Bool) (s : List Char)
    (h : (blockCommentLoop d ok s).val ≠ 0) : (blockCommentLoop d ok s).rest = [] := by
  fun_induction blockCommentLoop d ok s <;> simp_all

def hasStarSlash : List Char → Bool
  | a :: b :: l => (a == '*' && b == '/') || hasStarSlash (b :: l)
  | _ => false

theorem hasStarSlash_tail {x : Char} {l : List Char} (h : hasStarSlash (x :: l) = false) :
    hasStarSlash l = false := by
  cases l with
  | nil => rfl
  | cons y l' => simp only [hasStarSlash, Bool.or_eq_false_iff] at h; exact h.2

theorem blockCommentLoop_no_close (d : Nat) (ok : Bool) (s : List Char) (hd : 0 < d)
    (h : hasStarSlash s = false) : (blockCommentLoop d ok s).val ≠ 0 := by
  fun_induction blockCommentLoop d ok s
  case case1 => simp; omega
  case case2 => simp
  case case3 ih => exact ih (by omega) (hasStarSlash_tail (hasStarSlash_tail h))
  case case4 => rename_i h2; simp [first, EOF_CHAR] at h2
  case case5 => rename_i hc; simp [hasStarSlash] at h hc; simp [hc] at h
  case case6 => rename_i hc _; simp [hasStarSlash] at h hc; simp [hc] at h
  case case7 ih => exact ih hd (hasStarSlash_tail h)

/-- **Unterminated block comment.**  `/*` followed by any `body`: the token is a `BlockComment`;
if it is unterminated it runs to the end of the input (it covers everything) and it is flagged.
It is unterminated in particular when no `*/` follows at all. -/
theorem malformed_flagged_block_comment (body : List Char) :
    ∃ term, (advanceToken uc ('/' :: '*' :: body)).kind = .blockComment term ∧
      (term = false → (advanceToken uc ('/' :: '*' :: body)).rest = [] ∧
        ∀ text, Flagged (.blockComment term) text) ∧
      (hasStarSlash body = false → term = false) := by
  have hk : advanceKind uc '/' ('*' :: body) = blockComment '/' ('*' :: body) := by
    rw [advanceKind_slash]; simp
  refine ⟨(blockCommentLoop 1 true body).val == 0, ?_, ?_, ?_⟩
  · simp [advanceToken, hk, blockComment]
  · intro ht
    have hne : (blockCommentLoop 1 true body).val ≠ 0 := by simpa using ht
    refine ⟨?_, ?_⟩
    · simp [advanceToken, hk, blockComment, blockCommentLoop_open 1 true body hne]
    · intro text; rw [ht]; rfl
  · intro h
    simpa using blockCommentLoop_no_close 1 true body (by omega) h

theorem quotedStringLoop_open (q : Char) (st : StrState) (body : List Char)
    (h : body.all (fun c => c != q) = true) :
    (quotedStringLoop q st body).val.1 = false ∧ (quotedStringLoop q st body).rest = [] := by
  fun_induction quotedStringLoop q st body <;> simp_all

/-- **Unterminated string.**  A quote followed by a `body` without that quote character: the
token is an unterminated `Str` or `BitStr` literal covering the whole rest of the input.  The
last conjunct states the flag for every kind but `BitStr { terminated: false,
consecutive_underscores: true }` (the F11 combination); that kind is flagged as well, by `rfl`
(`unterminated_bitstring_double_underscore_diagnosed`; `C11Stages.rejected_string` uses it). -/
theorem malformed_flagged_string (hu : AsciiUC uc) (q : Char) (hq : q = '"' ∨ q = '\'')
    (body : List Char) (h : body.all (fun c => c != q) = true) :
    ∃ k, (advanceToken uc (q :: body)).kind = .literal k (utf8Len (q :: body)) ∧
      (advanceToken uc (q :: body)).rest = [] ∧
      (k = .str false ∨ ∃ c, k = .bitStr false c) ∧
      (k ≠ .bitStr false true → ∀ n text, Flagged (.literal k n) text) := by
  obtain ⟨h1, h2⟩ := quotedStringLoop_open q StrState.init body h
  simp only [advanceToken, advanceKind_quote hu hq, stringLiteral, h1, h2, posWithinToken, utf8Len,
    Nat.sub_zero]
  cases hb : (quotedStringLoop q StrState.init body).val.2.1 with
  | false => exact ⟨.str false, by simp, by simp, Or.inl rfl, fun _ n text => rfl⟩
  | true =>
    refine ⟨.bitStr false (quotedStringLoop q StrState.init body).val.2.2, by simp, by simp,
      Or.inr ⟨_, rfl⟩, ?_⟩
    intro hne n text
    cases hc : (quotedStringLoop q StrState.init body).val.2.2 with
    | true => rw [hc] at hne; exact absurd rfl hne
    | false => rfl

theorem flagged_empty_int (b : Base) (n : Nat) (text : List Char) :
    Flagged (.literal (.int b true) n) text := rfl

theorem flagged_empty_exponent (b : Base) (n : Nat) (text : List Char) :
    Flagged (.literal (.float b true) n) text := rfl

theorem advanceToken_kind_number (hu : AsciiUC uc) {c : Char} (hc : isDecDigit c = true)
    (cs : List Char) :
    (advanceToken uc (c :: cs)).kind =
      .literal (number c c cs).val (posWithinToken (c :: cs) (number c c cs).rest) := by
  simp [advanceToken, advanceKind_digit hu hc, numericLiteral]

/-- **`0b` / `0o` / `0x` without digits**, followed by anything that is not a digit of that kind
(or `_`): an `Int` literal with `empty_int`, `suffix_start = 2` (so the token covers the prefix),
flagged. -/
theorem malformed_flagged_empty_int (hu : AsciiUC uc) (r : Radix) (rest : List Char)
    (h : headSat (if r = .hex then isHexU else isDigitU) rest = false) :
    (advanceToken uc ('0' :: r.char :: rest)).kind = .literal (.int r.base true) 2 ∧
    2 ≤ (advanceToken uc ('0' :: r.char :: rest)).len ∧
    ∀ text, Flagged (advanceToken uc ('0' :: r.char :: rest)).kind text := by
  have h0 : isDecDigit '0' = true := by decide
  have hnum : number '0' '0' (r.char :: rest) = ⟨.int r.base true, rest, true⟩ := by
    cases r with
    | bin => simp [number, Radix.char, Radix.base, eatDecimalDigits_none rest (by simpa using h)]
    | oct => simp [number, Radix.char, Radix.base, eatDecimalDigits_none rest (by simpa using h)]
    | hex => simp [number, Radix.char, Radix.base, eatHexadecimalDigits_none rest (by simpa using h)]
  have hk := advanceToken_kind_number hu h0 (r.char :: rest)
  rw [hnum] at hk
  have hpos : posWithinToken ('0' :: r.char :: rest) rest = 2 := by
    have := posWithinToken_append ['0', r.char] rest
    simp only [List.cons_append, List.nil_append] at this
    rw [this]; cases r <;> rfl
  rw [hpos] at hk
  refine ⟨hk, ?_, fun text => by rw [hk]; rfl⟩
  exact tokenAt_suffix_start uc '0' (r.char :: rest) _ 2 hk

/-- **Exponent marker without digits** (`1e`, `1e+`, `1.5e-`, …): integer part, optional
fraction, `e`/`E`, optional sign, then something that is not a digit.  A `Float` literal with
`empty_exponent` whose `suffix_start` is after the marker and sign (the token covers them),
flagged. -/
theorem malformed_flagged_empty_exponent (hu : AsciiUC uc) (ip : List Char)
    (fp : Option (List Char)) (marker : Char) (sign : Option Char) (rest : List Char)
    (hip : digitRun isDecDigit ip = true)
    (hfp : (match fp with | some f => digitRun isDecDigit f | none => true) = true)
    (hm : (marker == 'e' || marker == 'E') = true)
    (hs : sign.all (fun c => c == '+' || c == '-') = true)
    (hr : headSat isDigitU rest = false)
    (hns : sign = none → (first rest == '-' || first rest == '+') = false) :
    let bad := ip ++ (fracText fp ++ marker :: sign.toList)
    (tokenAt uc (bad ++ rest)).kind = .literal (.float .decimal true) (utf8Len bad) ∧
    utf8Len bad ≤ (tokenAt uc (bad ++ rest)).len ∧
    ∀ text, Flagged (tokenAt uc (bad ++ rest)).kind text := by
  intro bad
  obtain ⟨hall, _, hhead, hne⟩ := digitRun_all (fun _ h => h) hip
  obtain ⟨c, t, rfl⟩ := List.exists_cons_of_ne_nil hne
  have hc : isDecDigit c = true := hhead
  simp only [List.all_cons, Bool.and_eq_true] at hall
  -- the scanner after the integer part
  let X := fracText fp ++ marker :: (sign.toList ++ rest)
  have hX := float_tail_head (T := X) (by
    cases fp with
    | some f => rfl
    | none => simpa [X, fracText, headSat] using Or.inr hm)
  have htail : numberTail .decimal X = ⟨.float .decimal true, rest, true⟩ := by
    rw [numberTail_exp _ fp marker sign rest (fun f h => by subst h; exact hfp) hm hs hns,
      eatDecimalDigits_none rest hr]
    rfl
  have hnum := number_decimal hc hall.2 hX.1 hX.2.1 hX.2.2.1 hX.2.2.2
  rw [htail] at hnum
  have hbad : bad ++ rest = c :: (t ++ X) := by simp [bad, X]
  have hk := advanceToken_kind_number hu hc (t ++ X)
  rw [hnum, ← hbad, posWithinToken_append] at hk
  have hk' : (tokenAt uc (bad ++ rest)).kind = .literal (.float .decimal true) (utf8Len bad) := hk
  refine ⟨hk', ?_, fun text => by rw [hk']; rfl⟩
  rw [hbad] at hk' ⊢
  exact tokenAt_suffix_start uc c (t ++ X) _ _ hk'


theorem flagged_version (a b : Bool) (h : (a && b) = false) (text : List Char) :
    Flagged (.openQasmVersionStmt a b) text := by
  cases a <;> cases b <;> first | rfl | simp at h

theorem version_flagged (ws tail : List Char) (hne : ws ≠ []) (hws : ws.all isWhitespace = true)
    (ht : headSat isWhitespace tail = false) {a b : Bool}
    (hv : (openqasmVersion tail).val = (a, b)) (hab : (a && b) = false) :
    (advanceToken uc (openqasmWord ++ ws ++ tail)).kind = .openQasmVersionStmt a b ∧
    ∀ text, Flagged (advanceToken uc (openqasmWord ++ ws ++ tail)).kind text := by
  have hk : (advanceToken uc (openqasmWord ++ ws ++ tail)).kind = .openQasmVersionStmt a b := by
    have : openqasmWord ++ ws ++ tail = 'O' :: (['P', 'E', 'N', 'Q', 'A', 'S', 'M'] ++ ws ++ tail) := by
      simp [openqasmWord]
    rw [this]
    simp only [advanceToken, advanceKind_version ws tail hne hws ht, hv]
  exact ⟨hk, fun text => by rw [hk]; exact flagged_version a b hab text⟩

/-- **Malformed version header, no version number** (`OPENQASM x`, `OPENQASM ;`, `OPENQASM` then
end of input after the whitespace) -/
theorem malformed_flagged_version_no_number (ws tail : List Char) (hne : ws ≠ [])
    (hws : ws.all isWhitespace = true) (ht : headSat isWhitespace tail = false)
    (hd : headSat isDigitU tail = false) :
    (advanceToken uc (openqasmWord ++ ws ++ tail)).kind = .openQasmVersionStmt false false ∧
    ∀ text, Flagged (advanceToken uc (openqasmWord ++ ws ++ tail)).kind text :=
  version_flagged ws tail hne hws ht (by simp [openqasmVersion, eatDecimalDigits_none tail hd]) rfl

/-- **Malformed version header, `3.` without minor digits** -/
theorem malformed_flagged_version_no_minor (ws major tail : List Char) (hne : ws ≠ [])
    (hws : ws.all isWhitespace = true) (hmne : major ≠ []) (hmaj : major.all isDecDigit = true)
    (hd : headSat isDigitU tail = false) :
    (advanceToken uc (openqasmWord ++ ws ++ (major ++ '.' :: tail))).kind =
      .openQasmVersionStmt true false ∧
    ∀ text, Flagged (advanceToken uc (openqasmWord ++ ws ++ (major ++ '.' :: tail))).kind text := by
  have hed := eatDecimalDigits_digits major ('.' :: tail) hmne hmaj rfl
  exact version_flagged ws _ hne hws (digits_not_ws major _ hmne hmaj)
    (by simp [openqasmVersion, hed, eatDecimalDigits_none tail hd]) rfl

/-- **Malformed version header, junk after the number** (`OPENQASM 3x`, `OPENQASM 3.0x`), and also
a version number at the very end of the input (`tail = []`, finding W-VER): whatever follows the
number is neither `;` nor whitespace (nor could it continue the number) -/
theorem malformed_flagged_version_junk (ws major : List Char) (minor : Option (List Char))
    (tail : List Char) (hne : ws ≠ []) (hws : ws.all isWhitespace = true) (hmne : major ≠ [])
    (hmaj : major.all isDecDigit = true)
    (hmin : (match minor with | some m => !m.isEmpty && m.all isDecDigit | none => true) = true)
    (ht : headSat (fun c => isDigitU c || c == ';' || isWhitespace c) tail = false)
    (hdot : minor = none → (first tail == '.') = false) :
    (advanceToken uc (openqasmWord ++ ws ++ (major ++ (minorText minor ++ tail)))).kind =
      .openQasmVersionStmt false false ∧
    ∀ text, Flagged
      (advanceToken uc (openqasmWord ++ ws ++ (major ++ (minorText minor ++ tail)))).kind text := by
  have htd : headSat isDigitU tail = false :=
    headSat_false_of_imp (p := fun c => isDigitU c || c == ';' || isWhitespace c)
      (fun c h => by simp [h]) ht
  have hbad : (first tail != ';' && !isWhitespace (first tail)) = true := by
    cases tail with
    | nil => decide
    | cons x xs =>
      simp only [headSat, Bool.or_eq_false_iff] at ht
      have hx : x ≠ ';' := by simpa using ht.1.2
      simp [hx, ht.2]
  have hXhead : headSat isDigitU (minorText minor ++ tail) = false := by
    cases minor with
    | some m => rfl
    | none => exact htd
  have hed := eatDecimalDigits_digits major (minorText minor ++ tail) hmne hmaj hXhead
  have hv : (openqasmVersion (major ++ (minorText minor ++ tail))).val = (false, false) := by
    cases minor with
    | none =>
      simp only [minorText, List.nil_append] at hed ⊢
      simp [openqasmVersion, hed, hdot rfl, hbad]
    | some m =>
      simp only [Bool.and_eq_true, Bool.not_eq_true', List.isEmpty_eq_false_iff] at hmin
      simp only [minorText, List.cons_append] at hed ⊢
      simp [openqasmVersion, hed, eatDecimalDigits_digits m tail hmin.1 hmin.2 htd, hbad]
  exact version_flagged ws _ hne hws (digits_not_ws major _ hmne hmaj) hv rfl

theorem flagged_invalidIdent (text : List Char) : Flagged .invalidIdent text := rfl

/-- **Emoji inside or right after an identifier** (`a😀`, `x1😀y`): the token is an
`InvalidIdent` that covers the identifier and the emoji, flagged. -/
theorem malformed_flagged_ident_emoji (hu : AsciiUC uc) (c : Char) (t : List Char) (e : Char)
    (more : List Char) (hc : isIdStart uc c = true) (ht : t.all (isIdContinue uc) = true)
    (hp : c :: t ≠ pragmaWord) (hO : c :: t ≠ openqasmWord)
    (he : isNonAsciiEmoji uc e = true) (hec : isIdContinue uc e = false) :
    (advanceToken uc (c :: t ++ e :: more)).kind = .invalidIdent ∧
    (advanceToken uc (c :: t ++ e :: more)).rest <:+ more ∧
    ∀ text, Flagged (advanceToken uc (c :: t ++ e :: more)).kind text := by
  have h := advanceKind_word_gen hu c t (e :: more) hc ht hp hO (by simp [headSat, hec])
  simp only [first_cons, he, if_true] at h
  have hk : (advanceToken uc (c :: t ++ e :: more)).kind = .invalidIdent := by
    simp [advanceToken, h]
  refine ⟨hk, ?_, fun text => by rw [hk]; rfl⟩
  simp only [List.cons_append, advanceToken, h, fakeIdentOrUnknownPrefix]
  have hpe : (uc.xidContinue e || (!isAscii e && uc.isEmoji e) || e == '\u200d') = true := by
    simp only [isNonAsciiEmoji] at he; simp [he]
  simp only [eatWhile, hpe, if_true]
  exact eatWhile_suffix _ _

/-- **Emoji at the start** (`😀`, `😀abc`): a non-ASCII emoji character that is not an identifier
start begins an `InvalidIdent`, flagged. -/
theorem malformed_flagged_emoji_start (hu : AsciiUC uc) (c : Char) (cs : List Char)
    (he : isNonAsciiEmoji uc c = true) (hc : isIdStart uc c = false) :
    (advanceToken uc (c :: cs)).kind = .invalidIdent ∧
    ∀ text, Flagged (advanceToken uc (c :: cs)).kind text := by
  have h128 : 128 ≤ c.toNat := by
    simp only [isNonAsciiEmoji, Bool.and_eq_true, Bool.not_eq_true'] at he
    have := he.1
    simp only [isAscii, decide_eq_false_iff_not] at this
    omega
  have hws : isWhitespace c = false := by
    cases hw : isWhitespace c with
    | false => rfl
    | true =>
      have := hu.ws_emoji c ((isWhitespace_iff c).mp hw)
      rw [this] at he; exact absurd he (by simp)
  have hk : (advanceKind uc c cs).val = .invalidIdent := by
    simp [advanceKind_nonAscii h128 hws hc, he, fakeIdentOrUnknownPrefix]
  have hk' : (advanceToken uc (c :: cs)).kind = .invalidIdent := by simp [advanceToken, hk]
  exact ⟨hk', fun text => by rw [hk']; rfl⟩

/-- **Bare `#`** (not the start of `#pragma␣…` or `#dim`): the lexer never produces `Pound`; a
`#` not followed by `p` or `d` is a one-character `InvalidIdent`, flagged. -/
theorem malformed_flagged_pound (hu : AsciiUC uc) (cs : List Char)
    (hp : (first cs == 'p') = false) (hd : (first cs == 'd') = false) :
    advanceToken uc ('#' :: cs) = ⟨.invalidIdent, 1, cs, true⟩ ∧
    ∀ text, Flagged .invalidIdent text := by
  exact ⟨advanceToken_of_kind '#' [] cs .invalidIdent (by simp [advanceKind_hash hu, hp, hd]),
    fun _ => rfl⟩

/-- `#p…` that is not `#pragma` + whitespace, and `#d…` that is not `#dim`, are `InvalidIdent`s
too (e.g. `#pragmaX`, `#px`, `#dx`) -/
theorem malformed_flagged_pound_p (hu : AsciiUC uc) (cs : List Char)
    (h : (havePragma 'p' cs).val = false) :
    (advanceToken uc ('#' :: 'p' :: cs)).kind = .invalidIdent := by
  simp [advanceToken, advanceKind_hash hu, h]

/-- the F11 input: an unterminated bit string with two consecutive underscores is diagnosed on its token like every other unterminated bit string. -/
theorem unterminated_bitstring_double_underscore_diagnosed :
    (LexedStr.new C14.ucAscii ['"', '0', '_', '_', '1']).map (fun l => (l.kind, l.error.map (·.2))) =
      some ([.BIT_STRING, .EOF], [0]) := by
  rw [new_eq]; rfl

/-- the raw token of the F11 witness: unterminated, consecutive underscores -/
theorem witness_F11_raw :
    (tokenize C14.ucAscii ['"', '0', '_', '_', '1']).map (·.kind) =
      [.literal (.bitStr false true) 5] := by decide

/-- The deliberately special-cased unterminated bit string at the end of the input: a body of
`0`/`1`/`_` followed by one final newline is still classified as a bit string (not a string);
it is flagged, with the bit-string message. -/
theorem witness_unterminated_bitstring_eof :
    (tokenize C14.ucAscii ['"', '0', '1', '\n']).map (·.kind) = [.literal (.bitStr false false) 4] ∧
    (tokenize C14.ucAscii ['"', '0', '1', '\n', '\n']).map (·.kind) = [.literal (.str false) 5] ∧
    (tokenize C14.ucAscii ['"', '0', '1', '\n', ' ']).map (·.kind) = [.literal (.str false) 5] ∧
    (∀ n text, Flagged (.literal (.bitStr false false) n) text) := by
  refine ⟨by decide, by decide, by decide, fun _ _ => rfl⟩

end Oq3.Props.C11
