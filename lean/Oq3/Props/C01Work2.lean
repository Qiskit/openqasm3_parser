/-
C01, termination clause: TIGHT work bounds, the three counters bounded separately.

`Lemmas/GrammarWork*.lean` (generated by tools/gen_grammar_cost2.py with the path analysis
tools/cost_paths.py, checked by Lean) proves for every function of `Oq3/Model/Grammar.lean`, for an
abstract event-like counter `M.val` and for `steps`, that a run stays within

    N_f + workRE * (tokens consumed)          resp.      NS_f + workRS * (tokens consumed)

(`Oq3.Grammar.allWork`).  The two instances of the counter are `sinceBump` (`sysSB`: the run
fails neither with `fuel`, nor with the step limit, nor with the no-progress hook) and
`events.size` (`sysEV`).  Constants (checked, from a path-sensitive static analysis of the model):

    workRE = 61, workFE = 27      events, and events since the last bump, per token / constant
    workRS = 19, workFS = 6       nth-steps since the last bump, per token / constant

Measured worst cases on all one- and two-token periodic inputs: 16.5 events per token
(`pow array pow array …`), 7 events since the last bump per token (`array array …`), 1 step per
3 tokens (`if ( {` nesting): the proved constants are within a factor 4 / 9 / 57 of these.

Consequences (n = number of tokens):

* `parse_terminates2`: if `19 n + 6 ≤ 15000000` (n ≤ 789 473) and the hook is off or its limit
  exceeds `61 n + 27`, the parse with fuel `20 n + 18` returns a well-formed event stream of at most
  `61 n + 27` events.
* `parse_no_hang2`: under the same conditions none of fuel / stuck / hook occurs, for any fuel ≥ 20 n + 18.
* `parse_terminates_hook`: the same for a hook limit `c0 + c1 * n` with `c1 ≥ 61`, `c0 ≥ 28`.
-/
import Oq3.Lemmas.GrammarWork
import Oq3.Props.C01Term
set_option linter.unusedVariables false
set_option linter.unusedSimpArgs false

namespace Oq3.Props.C01Work2
open Oq3.Gen Oq3.Parser Oq3.Grammar Oq3.Props.C01Safe Oq3.Props.C01Term

theorem workRE_eq : workRE = 61 := rfl
theorem workFE_eq : workFE = 27 := rfl
theorem workRS_eq : workRS = 19 := rfl
theorem workFS_eq : workFS = 6 := rfl

theorem sourceFile_init (M : Sys) (fuel : Nat) (kinds : Array SyntaxKind) (joint : Array Bool) (npl : Nat)
    (hf : fuelA * kinds.size + fuelB ≤ fuel) (hv : M.val (init kinds joint npl) = 0)
    (hg : M.Good (workRE * kinds.size + workFE) (workRS * kinds.size + workFS) (init kinds joint npl)) :
    wp M.A (sourceFile fuel) (fun _ s' => M.val s' ≤ 61 * s'.pos + 27) (init kinds joint npl) := by
  refine wp_conseq (sourceFile_spec M fuel _ _ _ (Nat.zero_le _) hg ?_ ?_ ?_) fun _ s' h => ?_
  · rw [hv]
    show 0 + 27 + 61 * kinds.size ≤ (workRE * kinds.size + workFE) + 61 * 0
    simp only [workRE_eq, workFE_eq]; omega
  · show 0 + 6 + 19 * kinds.size ≤ (workRS * kinds.size + workFS) + 19 * 0
    simp only [workRS_eq, workFS_eq]; omega
  · exact (init_fuel fuel kinds joint npl hf).1
  · have h3 : M.val s' + 61 * 0 ≤ M.val (init kinds joint npl) + 61 * s'.pos + 27 := h.1.2.2.1
    omega

/-- **No hang, no fuel exhaustion**, with separate budgets for the two hang detectors -/
theorem parse_no_hang2 (fuel : Nat) (kinds : Array SyntaxKind) (joint : Array Bool) (npl : Nat)
    (hf : fuelA * kinds.size + fuelB ≤ fuel)
    (hs : workRS * kinds.size + workFS ≤ 15000000)
    (hn : npl = 0 ∨ workRE * kinds.size + workFE < npl) :
    parseSourceFile fuel kinds joint npl ≠ .error .fuel ∧
    parseSourceFile fuel kinds joint npl ≠ .error (.panic "Parser::nth the parser seems stuck") ∧
    parseSourceFile fuel kinds joint npl ≠ .error (.panic "oq3_verif: no progress") := by
  have hw := sourceFile_init sysSB fuel kinds joint npl hf rfl ⟨hn, hs⟩
  refine ⟨?_, ?_, ?_⟩ <;> intro h
  · exact (error_of_wp hw (parseSourceFile_error fuel kinds joint npl _ h (by decide))).1 rfl
  · exact (error_of_wp hw (parseSourceFile_error fuel kinds joint npl _ h (by decide))).2.1 rfl
  · exact (error_of_wp hw (parseSourceFile_error fuel kinds joint npl _ h (by decide))).2.2 rfl

/-- **Termination with tight linear bounds.**  For an input of `n` tokens with
`workRS * n + workFS ≤ 15000000` (i.e. n ≤ 789 473) and the no-progress hook off or above
`workRE * n + workFE`, the parse with fuel `20 * n + 18` returns a well-formed event stream
(`ParseOk`) with at most `workRE * n + workFE` events. -/
theorem parse_terminates2 (fuel : Nat) (kinds : Array SyntaxKind) (joint : Array Bool) (npl : Nat)
    (hf : fuelA * kinds.size + fuelB ≤ fuel)
    (hs : workRS * kinds.size + workFS ≤ 15000000)
    (hn : npl = 0 ∨ workRE * kinds.size + workFE < npl) :
    ∃ events pos, parseSourceFile fuel kinds joint npl = .ok (events, pos) ∧
      ParseOk kinds joint events.toList pos ∧ events.size ≤ workRE * kinds.size + workFE ∧ pos ≤ kinds.size := by
  obtain ⟨h1, h2, h3⟩ := parse_no_hang2 fuel kinds joint npl hf hs hn
  rcases parse_returns_or_hangs fuel kinds joint npl with h | h | h | h
  · obtain ⟨events, pos, he, hok⟩ := h
    refine ⟨events, pos, he, hok, ?_⟩
    obtain ⟨u, s', hrun, hev, hpos⟩ := parseSourceFile_ok fuel kinds joint npl events pos he
    have hb : s'.events.size ≤ 61 * s'.pos + 27 := ok_of_wp (sourceFile_init sysEV fuel kinds joint npl hf rfl hs) hrun
    have hp : s'.pos ≤ kinds.size := (sourceFile_pos fuel kinds joint npl hf u s' hrun).2.2
    subst hev hpos
    simp only [workRE_eq, workFE_eq]
    exact ⟨by omega, hp⟩
  · exact absurd h h1
  · exact absurd h h2
  · exact absurd h h3

/-- the same for a hook limit that is linear in the number of tokens, `c0 + c1 * n` with
`c1 ≥ workRE` and `c0 > workFE` -/
theorem parse_terminates_hook (fuel : Nat) (kinds : Array SyntaxKind) (joint : Array Bool) (c0 c1 : Nat)
    (hf : fuelA * kinds.size + fuelB ≤ fuel)
    (hs : workRS * kinds.size + workFS ≤ 15000000)
    (h1 : workRE ≤ c1) (h0 : workFE < c0) :
    ∃ events pos, parseSourceFile fuel kinds joint (c0 + c1 * kinds.size) = .ok (events, pos) ∧
      ParseOk kinds joint events.toList pos ∧ events.size ≤ workRE * kinds.size + workFE ∧ pos ≤ kinds.size := by
  apply parse_terminates2 fuel kinds joint _ hf hs
  right
  have : workRE * kinds.size ≤ c1 * kinds.size := Nat.mul_le_mul_right _ h1
  omega

/-- the largest input covered by the step-limit hypothesis -/
theorem max_tokens (n : Nat) (h : n ≤ 789473) : workRS * n + workFS ≤ 15000000 := by
  simp only [workRS_eq, workFS_eq]; omega

end Oq3.Props.C01Work2
