/-
C12, second clause — "a parse that reports no diagnostics contains no error node or error token,
and a tree that contains one is always accompanied by at least one diagnostic".

Proved (all inputs: every token-kind array, every joint-bit array, every fuel, every setting of
the no-progress hook), for the grammar in which `array_type_spec` does `p.expect(ARRAY_KW)`
(finding F10: with `p.bump_any()` there the clause is false):

* `no_silent_error`: whenever `source_file` returns, the event list satisfies `NoSilent`: an
  `ERROR` node (`Start{kind: ERROR}`) or an `ERROR` token (`Token{kind: ERROR}` — the lexer emits
  `ERROR` tokens for unknown characters WITHOUT a lexer diagnostic, so the parser has to report)
  is accompanied by at least one `Error` event;
* `process_no_silent`: the same for the step list `event::process` makes of the events
  (`Enter{ERROR}` / `Token{ERROR}` steps ⇒ an `Error` step): tokens and errors pass through
  `process` unchanged (`process_items`), and every `Enter` step comes from a `Start` event of the
  same kind (`process_enters`, proved here);
* `tree_no_silent`: the same for the tree: if `build_tree` returns a tree with an `ERROR` node or
  an `ERROR` leaf then its diagnostics list is not empty; contrapositive `clean_parse_no_error`.

The proof obligations per grammar function are GENERATED (`tools/gen_grammar_nosilent.py` →
`Lemmas/GrammarNoSilent.lean`) on top of the primitive layer `Lemmas/NoSilent.lean`; with the
F10 site put back (`bump_any` instead of `expect(ARRAY_KW)`) exactly the obligation of
`arrayTypeSpec` fails, at that `bump_any`.

Outside the scope: `grammar::entry::top::expr` (`TopEntryPoint::Expr`, not used by `oq3_syntax`)
wraps trailing tokens into an `ERROR` node without a diagnostic by design
(`entryExpr_silent_witness`).
-/
import Oq3.Lemmas.GrammarNoSilent
import Oq3.Lemmas.ParseTop
import Oq3.Lemmas.Builder

namespace Oq3.Props.C12
open Oq3.Gen Oq3.Parser Oq3.Grammar Oq3.Builder

/-- the C12 clause on an event list -/
def NoSilentL (evs : List Ev) : Prop :=
  (∃ e ∈ evs, (∃ fp, e = Ev.start .ERROR fp) ∨ (∃ n, e = Ev.token .ERROR n)) →
    ∃ m, Ev.error m ∈ evs

theorem noSilent_iff (s : P) : NoSilent s ↔ NoSilentL s.events.toList := Iff.rfl

/-- **No silent error node or token.**  Whenever `source_file` returns, an `ERROR` node or an
`ERROR` token among the events is accompanied by at least one `Error` event. -/
theorem no_silent_error (fuel : Nat) (kinds : Array SyntaxKind) (joint : Array Bool) (limit : Nat)
    (u : Unit) (s' : P)
    (h : sourceFile fuel { kinds := kinds, joint := joint, noProgressLimit := limit } = .ok (u, s')) :
    NoSilent s' :=
  (((sourceFile_ns fuel).tr True Any).run _ _ (St.init kinds joint limit) h).noSilent

theorem no_silent_error' (fuel : Nat) (kinds : Array SyntaxKind) (joint : Array Bool) (limit : Nat)
    (u : Unit) (s' : P)
    (h : sourceFile fuel { kinds := kinds, joint := joint, noProgressLimit := limit } = .ok (u, s'))
    (e : Ev) (he : e ∈ s'.events.toList)
    (hk : (∃ fp, e = Ev.start .ERROR fp) ∨ (∃ n, e = Ev.token .ERROR n)) :
    ∃ m, Ev.error m ∈ s'.events.toList :=
  no_silent_error fuel kinds joint limit u s' h ⟨e, he, hk⟩

theorem parseSourceFile_no_silent (fuel : Nat) (kinds : Array SyntaxKind) (joint : Array Bool)
    (limit : Nat) (evs : Array Ev) (pos : Nat)
    (h : parseSourceFile fuel kinds joint limit = .ok (evs, pos)) : NoSilentL evs.toList := by
  unfold parseSourceFile parseWith at h
  split at h
  · rename_i u s hs
    split at h
    · simp at h
    · simp only [Except.ok.injEq, Prod.mk.injEq] at h
      obtain ⟨rfl, _⟩ := h
      exact no_silent_error fuel kinds joint limit u s hs
  · simp at h

/-- a parse without diagnostics has no `ERROR` node and no `ERROR` token -/
theorem no_error_event_clean (fuel : Nat) (kinds : Array SyntaxKind) (joint : Array Bool)
    (limit : Nat) (evs : Array Ev) (pos : Nat)
    (h : parseSourceFile fuel kinds joint limit = .ok (evs, pos))
    (hne : ∀ m, Ev.error m ∉ evs.toList) :
    (∀ fp, Ev.start .ERROR fp ∉ evs.toList) ∧ (∀ n, Ev.token .ERROR n ∉ evs.toList) := by
  have := parseSourceFile_no_silent fuel kinds joint limit evs pos h
  constructor
  · intro fp hm
    obtain ⟨m, hm'⟩ := this ⟨_, hm, .inl ⟨fp, rfl⟩⟩
    exact hne m hm'
  · intro n hm
    obtain ⟨m, hm'⟩ := this ⟨_, hm, .inr ⟨n, rfl⟩⟩
    exact hne m hm'

def HasStart (evs : List Ev) (k : SyntaxKind) : Prop := ∃ fp, Ev.start k fp ∈ evs

theorem hasStart_of_set_tomb {evs : List Ev} {i : Nat} {k : SyntaxKind}
    (h : HasStart (evs.set i Ev.tombstone) k) : HasStart evs k ∨ k = .TOMBSTONE := by
  obtain ⟨fp, hm⟩ := h
  rcases List.mem_or_eq_of_mem_set hm with hm | he
  · exact .inl ⟨fp, hm⟩
  · unfold Ev.tombstone at he
    simp only [Ev.start.injEq] at he
    exact .inr he.1

theorem mem_enters {ks : List SyntaxKind} {s : Step} (h : s ∈ enters ks) :
    ∃ k, s = .enter k ∧ k ∈ ks ∧ k ≠ .TOMBSTONE := by
  unfold enters at h
  simp only [List.mem_map, List.mem_filter, bne_iff_ne, ne_eq] at h
  obtain ⟨k, ⟨hk, hne⟩, rfl⟩ := h
  exact ⟨k, rfl, hk, hne⟩

theorem chain_kinds (fuel : Nat) (evs : List Ev) (idx fwd : Nat) (acc ks : List SyntaxKind)
    (evs' : List Ev) (hc : chain fuel evs idx fwd acc = some (ks, evs')) :
    (∀ k ∈ ks, k ∈ acc ∨ HasStart evs k ∨ k = .TOMBSTONE) ∧
      (∀ k, HasStart evs' k → HasStart evs k ∨ k = .TOMBSTONE) := by
  induction fuel generalizing evs idx fwd acc with
  | zero => simp [chain] at hc
  | succ fuel ih =>
    simp only [chain] at hc
    split at hc
    · rename_i k ht
      simp only [Option.some.injEq, Prod.mk.injEq] at hc
      obtain ⟨rfl, rfl⟩ := hc
      refine ⟨?_, fun k' h => hasStart_of_set_tomb h⟩
      intro k' hk'
      rcases List.mem_cons.mp hk' with rfl | h
      · exact .inr (.inl ⟨none, List.mem_of_getElem? ht⟩)
      · exact .inl h
    · rename_i k f ht
      obtain ⟨h1, h2⟩ := ih _ _ _ _ hc
      refine ⟨?_, ?_⟩
      · intro k' hk'
        rcases h1 k' hk' with h | h | h
        · rcases List.mem_cons.mp h with rfl | h
          · exact .inr (.inl ⟨some f, List.mem_of_getElem? ht⟩)
          · exact .inl h
        · exact .inr (hasStart_of_set_tomb h)
        · exact .inr (.inr h)
      · intro k' hk'
        rcases h2 k' hk' with h | h
        · exact hasStart_of_set_tomb h
        · exact .inr h
    · simp at hc

theorem processGo_enters (n i : Nat) (evs : List Ev) (out res : List Step) (evs0 : List Ev)
    (hgo : processGo n i evs out = some res)
    (hev : ∀ k, HasStart evs k → HasStart evs0 k ∨ k = .TOMBSTONE)
    (hout : ∀ k, Step.enter k ∈ out → HasStart evs0 k) :
    ∀ k, Step.enter k ∈ res → HasStart evs0 k := by
  induction n generalizing i evs out with
  | zero => simp only [processGo, Option.some.injEq] at hgo; subst hgo; exact hout
  | succ n ih =>
    have hset : ∀ k, HasStart (evs.set i Ev.tombstone) k → HasStart evs0 k ∨ k = .TOMBSTONE := by
      intro k h
      rcases hasStart_of_set_tomb h with h | h
      · exact hev k h
      · exact .inr h
    have hplain : ∀ (s : Step), (∀ k, s ≠ .enter k) →
        ∀ k, Step.enter k ∈ out ++ [s] → HasStart evs0 k := by
      intro s hs k hk
      rcases List.mem_append.mp hk with h | h
      · exact hout k h
      · exact absurd (List.mem_singleton.mp h).symm (hs k)
    simp only [processGo] at hgo
    split at hgo
    · simp at hgo
    · rename_i k hi
      refine ih _ _ _ hgo hset ?_
      intro k' hk'
      rcases List.mem_append.mp hk' with h | h
      · exact hout k' h
      · obtain ⟨k2, he, hmem, hne⟩ := mem_enters h
        cases he
        simp only [List.mem_singleton] at hmem; subst hmem
        rcases hev k' ⟨none, List.mem_of_getElem? hi⟩ with h | h
        · exact h
        · exact absurd h hne
    · rename_i k f hi
      split at hgo
      · simp at hgo
      · rename_i ks evs' hch
        obtain ⟨h1, h2⟩ := chain_kinds _ _ _ _ _ _ _ hch
        refine ih _ _ _ hgo ?_ ?_
        · intro k' hk'
          rcases h2 k' hk' with h | h
          · exact hset k' h
          · exact .inr h
        · intro k' hk'
          rcases List.mem_append.mp hk' with h | h
          · exact hout k' h
          · obtain ⟨k2, he, hmem, hne⟩ := mem_enters h
            cases he
            rcases h1 k' hmem with h | h | h
            · simp only [List.mem_singleton] at h; subst h
              rcases hev k' ⟨some f, List.mem_of_getElem? hi⟩ with h | h
              · exact h
              · exact absurd h hne
            · rcases hset k' h with h | h
              · exact h
              · exact absurd h hne
            · exact absurd h hne
    all_goals exact ih _ _ _ hgo hset (hplain _ (by intro _ h; cases h))

theorem process_enters (evs : List Ev) (res : List Step) (hp : process evs = some res) (k : SyntaxKind)
    (hk : Step.enter k ∈ res) : HasStart evs k :=
  processGo_enters evs.length 0 evs [] res evs hp (fun _ h => .inl h) (by intro _ h; simp at h) k hk

theorem tok_mem_itemsS (ss : List Step) (k : SyntaxKind) (n : Nat) :
    Item.token k n ∈ itemsS ss ↔ Step.token k n ∈ ss := by
  induction ss with
  | nil => simp [itemsS]
  | cons s ss ih => cases s <;> simp [itemsS, ih]

theorem err_mem_itemsS (ss : List Step) (m : String) :
    Item.error m ∈ itemsS ss ↔ Step.error m ∈ ss := by
  induction ss with
  | nil => simp [itemsS]
  | cons s ss ih => cases s <;> simp [itemsS, ih]

theorem tok_mem_itemsE (evs : List Ev) (k : SyntaxKind) (n : Nat) :
    Item.token k n ∈ itemsE evs ↔ Ev.token k n ∈ evs := by
  induction evs with
  | nil => simp [itemsE]
  | cons e es ih => cases e <;> simp [itemsE, ih]

theorem err_mem_itemsE (evs : List Ev) (m : String) :
    Item.error m ∈ itemsE evs ↔ Ev.error m ∈ evs := by
  induction evs with
  | nil => simp [itemsE]
  | cons e es ih => cases e <;> simp [itemsE, ih]

/-- the C12 clause on a step list (`Output`) -/
def NoSilentS (ss : List Step) : Prop :=
  (Step.enter .ERROR ∈ ss ∨ ∃ n, Step.token .ERROR n ∈ ss) → ∃ m, Step.error m ∈ ss

/-- `event::process` keeps the clause: the `Output` steps have an `Error` step whenever they have
an `Enter{ERROR}` or a `Token{ERROR}` step -/
theorem process_no_silent (evs : List Ev) (ss : List Step) (hp : process evs = some ss)
    (h : NoSilentL evs) : NoSilentS ss := by
  have hit := process_items evs ss hp
  intro hk
  have : ∃ m, Ev.error m ∈ evs := by
    rcases hk with hk | ⟨n, hk⟩
    · obtain ⟨fp, hm⟩ := process_enters evs ss hp _ hk
      exact h ⟨_, hm, .inl ⟨fp, rfl⟩⟩
    · have : Ev.token .ERROR n ∈ evs := by
        rw [← tok_mem_itemsE, ← hit, tok_mem_itemsS]; exact hk
      exact h ⟨_, this, .inr ⟨n, rfl⟩⟩
  obtain ⟨m, hm⟩ := this
  exact ⟨m, by rw [← err_mem_itemsS, hit, err_mem_itemsE]; exact hm⟩

theorem output_no_silent (fuel : Nat) (kinds : Array SyntaxKind) (joint : Array Bool) (limit : Nat)
    (evs : Array Ev) (pos : Nat) (ss : List Step)
    (h : parseSourceFile fuel kinds joint limit = .ok (evs, pos))
    (hp : process evs.toList = some ss) : NoSilentS ss :=
  process_no_silent _ _ hp (parseSourceFile_no_silent fuel kinds joint limit evs pos h)

mutual
def Tree.kinds : Tree → List SyntaxKind
  | .leaf k _ => [k]
  | .node k cs => k :: Tree.kindsList cs
def Tree.kindsList : List Tree → List SyntaxKind
  | [] => []
  | c :: cs => Tree.kinds c ++ Tree.kindsList cs
end

theorem mem_kindsList {k : SyntaxKind} {cs : List Tree} :
    k ∈ Tree.kindsList cs ↔ ∃ c ∈ cs, k ∈ Tree.kinds c := by
  induction cs with
  | nil => simp [Tree.kindsList]
  | cons c cs ih => simp [Tree.kindsList, ih]

def OutHas (out : List StrStep) (k : SyntaxKind) : Prop :=
  StrStep.enter k ∈ out ∨ ∃ t, StrStep.token k t ∈ out

def tbKinds (t : TB) : List SyntaxKind :=
  (t.parents.flatMap fun p => p.1 :: Tree.kindsList p.2) ++ Tree.kindsList t.top

theorem tbKinds_push {t : TB} {x : Tree} {k : SyntaxKind} (h : k ∈ tbKinds (t.push x)) :
    k ∈ tbKinds t ∨ k ∈ Tree.kinds x := by
  unfold TB.push at h
  split at h
  · rename_i k0 cs ps hp
    simp only [tbKinds, hp, List.flatMap_cons, List.mem_append, List.mem_cons, Tree.kindsList] at h ⊢
    rcases h with ((h | h | h) | h) | h
    · exact .inl (.inl (.inl (.inl h)))
    · exact .inr h
    · exact .inl (.inl (.inl (.inr h)))
    · exact .inl (.inl (.inr h))
    · exact .inl (.inr h)
  · simp only [tbKinds, Tree.kindsList, List.mem_append] at h ⊢
    rcases h with h | h | h
    · exact .inl (.inl h)
    · exact .inr h
    · exact .inl (.inr h)

theorem tbStep_kinds {t t' : TB} {s : StrStep} (h : tbStep t s = .ok t') :
    (∀ k ∈ tbKinds t', k ∈ tbKinds t ∨ OutHas [s] k) ∧
      (∀ x ∈ t.errors, x ∈ t'.errors) ∧ (∀ m p, s = .error m p → ⟨m, p⟩ ∈ t'.errors) := by
  cases s with
  | token kind text =>
    simp only [tbStep, Except.ok.injEq] at h; subst h
    refine ⟨?_, ?_, by intro _ _ h; cases h⟩
    · intro k hk
      rcases tbKinds_push hk with h | h
      · exact .inl h
      · simp only [Tree.kinds, List.mem_singleton] at h; subst h
        exact .inr (.inr ⟨text, by simp⟩)
    · intro x hx; unfold TB.push; split <;> exact hx
  | enter kind =>
    simp only [tbStep, Except.ok.injEq] at h; subst h
    refine ⟨?_, fun x hx => hx, by intro _ _ h; cases h⟩
    intro k hk
    simp only [tbKinds, List.flatMap_cons, Tree.kindsList, List.mem_append, List.mem_cons,
      List.not_mem_nil, or_false] at hk ⊢
    rcases hk with (h | h) | h
    · subst h; exact .inr (.inl (by simp))
    · exact .inl (.inl h)
    · exact .inl (.inr h)
  | exit =>
    simp only [tbStep] at h
    split at h
    · rename_i k0 cs ps hp
      simp only [Except.ok.injEq] at h; subst h
      refine ⟨?_, ?_, by intro _ _ h; cases h⟩
      · intro k hk
        rcases tbKinds_push hk with h | h
        · left
          simp only [tbKinds, hp, List.flatMap_cons, List.mem_append, List.mem_cons] at h ⊢
          rcases h with h | h
          · exact .inl (.inr h)
          · exact .inr h
        · left
          simp only [Tree.kinds, List.mem_cons, mem_kindsList, List.mem_reverse] at h
          simp only [tbKinds, hp, List.flatMap_cons, List.mem_append, List.mem_cons, mem_kindsList]
          rcases h with h | h
          · exact .inl (.inl (.inl h))
          · exact .inl (.inl (.inr h))
      · intro x hx; unfold TB.push; split <;> exact hx
    · simp at h
  | error msg pos =>
    simp only [tbStep, Except.ok.injEq] at h; subst h
    refine ⟨fun k hk => .inl hk, fun x hx => by simp [hx], ?_⟩
    intro m p he
    simp only [StrStep.error.injEq] at he
    obtain ⟨rfl, rfl⟩ := he
    simp

theorem tbSteps_kinds (out : List StrStep) (t t' : TB) (h : tbSteps out t = .ok t') :
    (∀ k ∈ tbKinds t', k ∈ tbKinds t ∨ OutHas out k) ∧
      (∀ x ∈ t.errors, x ∈ t'.errors) ∧ (∀ m p, StrStep.error m p ∈ out → ⟨m, p⟩ ∈ t'.errors) := by
  induction out generalizing t with
  | nil =>
    simp only [tbSteps, Except.ok.injEq] at h; subst h
    exact ⟨fun k hk => .inl hk, fun x hx => hx, by intro _ _ h; simp at h⟩
  | cons s out ih =>
    simp only [tbSteps, bind, Except.bind] at h
    split at h
    · simp at h
    · rename_i t1 ht1
      obtain ⟨a1, a2, a3⟩ := tbStep_kinds ht1
      obtain ⟨b1, b2, b3⟩ := ih t1 h
      refine ⟨?_, fun x hx => b2 x (a2 x hx), ?_⟩
      · intro k hk
        rcases b1 k hk with h | h
        · rcases a1 k h with h | h
          · exact .inl h
          · right
            rcases h with h | ⟨tx, h⟩
            · exact .inl (by simp only [List.mem_singleton] at h; simp [h])
            · exact .inr ⟨tx, by simp only [List.mem_singleton] at h; simp [h]⟩
        · right
          rcases h with h | ⟨tx, h⟩
          · exact .inl (List.mem_cons_of_mem _ h)
          · exact .inr ⟨tx, List.mem_cons_of_mem _ h⟩
      · intro m p hm
        rcases List.mem_cons.mp hm with h | h
        · exact b2 _ (a3 m p h.symm)
        · exact b3 m p h

/-- the string steps are the parser's steps plus trivia tokens (and re-ordered `Exit`s) -/
structure OutInv (done : List Step) (out : List StrStep) : Prop where
  enter : ∀ k, StrStep.enter k ∈ out → Step.enter k ∈ done
  token : ∀ k t, StrStep.token k t ∈ out → k.isTrivia = true ∨ ∃ n, Step.token k n ∈ done
  error : ∀ m, Step.error m ∈ done → ∃ p, StrStep.error m p ∈ out

theorem OutInv.emit {done out} (h : OutInv done out) (s : StrStep)
    (hE : ∀ k, s = .enter k → Step.enter k ∈ done := by intros; contradiction)
    (hT : ∀ k t, s = .token k t → k.isTrivia = true ∨ ∃ n, Step.token k n ∈ done := by intros; contradiction) :
    OutInv done (out ++ [s]) := by
  refine ⟨fun k hk => ?_, fun k t hk => ?_, fun m hm => ?_⟩
  · rcases List.mem_append.mp hk with hk | hk
    · exact h.enter k hk
    · exact hE k (List.mem_singleton.mp hk).symm
  · rcases List.mem_append.mp hk with hk | hk
    · exact h.token k t hk
    · exact hT k t (List.mem_singleton.mp hk).symm
  · obtain ⟨p, hp⟩ := h.error m hm
    exact ⟨p, List.mem_append_left _ hp⟩

theorem OutInv.emit_trivia {done out} (h : OutInv done out) (k : SyntaxKind) (t : List Char)
    (hk : k.isTrivia = true) : OutInv done (out ++ [.token k t]) :=
  h.emit _ (by intros; contradiction) (by intro _ _ e; cases e; exact .inl hk)

/-- the next parser step: an error step has been emitted already -/
theorem OutInv.mono {done out} (h : OutInv done out) (s : Step)
    (hs : ∀ m, s = .error m → ∃ p, StrStep.error m p ∈ out := by intros; contradiction) : OutInv (done ++ [s]) out := by
  refine ⟨fun k hk => List.mem_append_left _ (h.enter k hk), fun k t hk => ?_, fun m hm => ?_⟩
  · exact (h.token k t hk).imp id fun ⟨n, h⟩ => ⟨n, List.mem_append_left _ h⟩
  · rcases List.mem_append.mp hm with hm | hm
    · exact h.error m hm
    · exact hs m (List.mem_singleton.mp hm).symm

theorem eatTriviasAux_out (rest : List RawTok) (b : B) {done} (h : OutInv done b.out) :
    OutInv done (eatTriviasAux rest b).out := by
  induction rest generalizing b with
  | nil => exact h
  | cons t rest ih =>
    simp only [eatTriviasAux]
    split
    · exact ih _ (h.emit_trivia _ _ ‹_›)
    · exact h

theorem eatNTrivias_out (toks : List RawTok) (n : Nat) (b b' : B) {done} (h : OutInv done b.out)
    (hok : eatNTrivias toks n b = .ok b') : OutInv done b'.out := by
  induction n generalizing b with
  | zero => cases hok; exact h
  | succ n ih =>
    obtain ⟨t, _, htr, hok⟩ := eatNTrivias_succ_ok.mp hok
    exact ih _ (h.emit_trivia _ _ htr) hok

theorem flushPending_out (b b' : B) {done} (h : OutInv done b.out) (hok : flushPending b = .ok b') :
    OutInv done b'.out := by
  obtain ⟨_, rfl⟩ | ⟨_, rfl⟩ := flushPending_cases hok
  · exact h
  · exact h.emit _

theorem step_out (toks : List RawTok) (b b' : B) (s : Step) {done} (h : OutInv done b.out)
    (hok : step toks b s = .ok b') : OutInv (done ++ [s]) b'.out := by
  cases s with
  | token k n =>
    obtain ⟨b1, hb1, hok⟩ := step_token_ok.mp hok
    obtain ⟨_, _, rfl⟩ := doToken_ok_iff.mp hok
    exact (eatTriviasAux_out _ b1 (flushPending_out b b1 (h.mono _) hb1)).emit _ (by intros; contradiction)
      (by intro _ _ e; cases e; exact .inr ⟨n, by simp⟩)
  | enter k =>
    have hemit : ∀ b2 : B, OutInv (done ++ [.enter k]) b2.out →
        OutInv (done ++ [.enter k]) (Oq3.Builder.emit b2 (.enter k)).out :=
      fun b2 h2 => h2.emit _ (by intro _ e; cases e; simp)
    by_cases hb : b.state = .pendingEnter
    · rw [step_enter_pending toks k hb] at hok; cases hok; exact hemit _ (h.mono _)
    · rw [step_enter_eq _ _ _ hb] at hok
      obtain ⟨b1, hb1, b2, hb2, hok⟩ := enterBody_ok_iff.mp hok
      exact eatNTrivias_out _ _ _ b' (hemit b2 (eatNTrivias_out _ _ b1 b2
        (flushPending_out b b1 (h.mono _) hb1) hb2)) hok
  | exit =>
    obtain ⟨d, hd, rfl⟩ := step_exit_ok.mp hok
    exact flushPending_out b d (h.mono _) hd
  | error msg =>
    rw [step_error_eq] at hok; cases hok
    exact (h.emit _).mono _ (by intro m e; cases e; exact ⟨textStart toks b.pos, by simp⟩)

theorem steps_out (toks : List RawTok) (ss : List Step) (b b' : B) {done}
    (h : OutInv done b.out) (hok : steps toks ss b = .ok b') : OutInv (done ++ ss) b'.out := by
  induction ss generalizing b done with
  | nil => cases hok; simpa using h
  | cons s ss ih =>
    obtain ⟨b1, hb1, hok⟩ := steps_cons_ok.mp hok
    simpa using ih b1 (step_out toks b b1 s h hb1) hok

theorem intersperseTrivia_out (toks : List RawTok) (ss : List Step) (out : List StrStep) (eof : Bool)
    (hok : intersperseTrivia toks ss = .ok (out, eof)) : OutInv ss out := by
  obtain ⟨b, hb, _, rfl, _⟩ := intersperseTrivia_ok_iff.mp hok
  have h0 : OutInv [] ({} : B).out :=
    ⟨by intro _ h; simp at h, by intro _ _ h; simp at h, by intro _ h; simp at h⟩
  have h1 := steps_out toks ss _ b h0 hb
  rw [List.nil_append] at h1
  exact (eatTriviasAux_out _ b h1).emit _

theorem error_not_trivia : SyntaxKind.ERROR.isTrivia = false := by decide

/-- **A tree with an `ERROR` node or `ERROR` token has a diagnostic.**  For every token table and
every step list satisfying the clause: if `build_tree` returns, and the tree contains the kind
`ERROR` (as a node or as a leaf), its list of diagnostics is not empty. -/
theorem tree_no_silent (toks : List RawTok) (ss : List Step) (tree : Tree) (errs : List SynErr)
    (eof : Bool) (hb : buildTree toks ss = .ok (tree, errs, eof)) (hns : NoSilentS ss)
    (hk : SyntaxKind.ERROR ∈ Tree.kinds tree) : errs ≠ [] := by
  obtain ⟨out, tb, hr, htb, hv⟩ := buildTree_ok_iff.mp hb
  have hout := intersperseTrivia_out toks ss out eof hr
  obtain ⟨a1, _, a3⟩ := tbSteps_kinds out {} tb htb
  obtain ⟨k, cs, htop, rfl, rfl⟩ := tbFinish_ok_iff.mp hv
  have hk' : SyntaxKind.ERROR ∈ tbKinds tb := by
    simp only [tbKinds, htop, List.mem_append]
    right
    simpa [Tree.kindsList] using hk
  have hsteps : Step.enter .ERROR ∈ ss ∨ ∃ n, Step.token .ERROR n ∈ ss := by
    rcases a1 _ hk' with h | h
    · simp [tbKinds, Tree.kindsList] at h
    · rcases h with h | ⟨t, h⟩
      · exact .inl (hout.enter _ h)
      · rcases hout.token _ _ h with h | h
        · rw [error_not_trivia] at h; cases h
        · exact .inr h
  obtain ⟨m, hm⟩ := hns hsteps
  obtain ⟨p, hp⟩ := hout.error m hm
  intro hnil
  have := a3 m p hp
  rw [hnil] at this
  cases this

/-- **End to end.**  Parser (`source_file`), `event::process` and `build_tree`: a parse that
reports no diagnostics has no `ERROR` node and no `ERROR` token in its tree. -/
theorem clean_parse_no_error (fuel : Nat) (kinds : Array SyntaxKind) (joint : Array Bool)
    (limit : Nat) (evs : Array Ev) (pos : Nat) (ss : List Step) (toks : List RawTok) (tree : Tree)
    (eof : Bool)
    (h : parseSourceFile fuel kinds joint limit = .ok (evs, pos))
    (hp : process evs.toList = some ss)
    (hb : buildTree toks ss = .ok (tree, [], eof)) : SyntaxKind.ERROR ∉ Tree.kinds tree := by
  intro hk
  exact tree_no_silent toks ss tree [] eof hb
    (output_no_silent fuel kinds joint limit evs pos ss h hp) hk rfl

deriving instance DecidableEq for Except

/-- non-vacuity: the one-token input `[ERROR]` (an unknown character) parses, into an `ERROR` node
around the `ERROR` token, with a diagnostic pushed before the token is consumed -/
example :
    parseSourceFile 64 #[.ERROR] #[false] =
      .ok (#[.start .SOURCE_FILE none, .start .TOMBSTONE none, .start .ERROR none,
             .error "stmt: expected expression, type declaration, or let statement",
             .token .ERROR 1, .finish, .finish], 1) := by
  decide +kernel

/-- `grammar::entry::top::expr` (not used by `oq3_syntax`) wraps trailing input into an `ERROR`
node WITHOUT a diagnostic: `1 2` gives `ERROR(LITERAL(1) 2)` and no error event.  This is why
`no_silent_error` is a statement about `source_file`. -/
theorem entryExpr_silent_witness :
    parseExpr 64 #[.INT_NUMBER, .INT_NUMBER] #[false, false] =
      .ok (#[.start .ERROR none, .start .TOMBSTONE (some 1), .start .LITERAL none,
             .token .INT_NUMBER 1, .finish, .token .INT_NUMBER 1, .finish], 2) := by
  decide +kernel

end Oq3.Props.C12
