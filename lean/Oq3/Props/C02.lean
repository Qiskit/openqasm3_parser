/-
C02 — the syntax tree is lossless.

This file (grammar-independent): for EVERY raw token table and EVERY step list that
is one rooted, balanced node (`rooted`), whenever `intersperse_trivia` returns, the tree
builder returns exactly one root node, no builder `unwrap`/`assert` fails, the leaves of the
tree are exactly the emitted token steps in order, and their texts concatenate to the texts of
the raw tokens consumed — all of them when `is_eof` holds.  Diagnostics are the emitted error
steps in order.
-/
import Oq3.Lemmas.Builder

namespace Oq3.Props.C02
open Oq3.Gen Oq3.Parser Oq3.Builder

/-- **Single root, lossless leaves.** -/
theorem buildTree_spec (toks : List RawTok) (ss : List Step) (hr : rooted ss = true)
    (out : List StrStep) (eof : Bool) (hok : intersperseTrivia toks ss = .ok (out, eof)) :
    ∃ k cs n, buildTree toks ss = .ok (.node k cs, errorsOf out, eof) ∧
      (Tree.node k cs).leaves = tokensOf out ∧
      n ≤ toks.length ∧ (Tree.node k cs).text = rawText (toks.take n) ∧
      (eof = true → n = toks.length) := by
  obtain ⟨b, hb, hst, rfl, rfl⟩ := intersperseTrivia_ok_iff.mp hok
  have hinv := steps_rooted toks ss hr b hb
  have h2 := eatTrivias_inv b 0 hinv (by simp [hst, pendingExtra])
  have hs2 := eatTrivias_state toks b
  obtain ⟨tb, htb⟩ := h2.tb
  simp only [hs2, hst, pendingExtra, if_true] at htb
  obtain ⟨k, cs, hrun, hleaves⟩ := htb.emit_exit_root
  refine ⟨k, cs, (eatTrivias toks b).pos, ?_, ?_, h2.pos_le, ?_, ?_⟩
  · exact buildTree_ok_iff.mpr ⟨_, _, hok, hrun, by simp [tbFinish, errorsOf_append, errorsOf]⟩
  · rw [hleaves]; simp [tokensOf_append, tokensOf]
  · simp only [Tree.text, hleaves]
    exact h2.text_eq
  · intro he
    simpa using he

/-- when the builder reaches the end of the token table the tree's text is the whole input -/
theorem leaves_spell_input (toks : List RawTok) (ss : List Step) (hr : rooted ss = true)
    (tree : Tree) (errs : List SynErr) (hok : buildTree toks ss = .ok (tree, errs, true)) :
    tree.text = rawText toks := by
  obtain ⟨out, _, hi, _, _⟩ := buildTree_ok_iff.mp hok
  obtain ⟨k, cs, n, hbt, _, _, htext, heof⟩ := buildTree_spec toks ss hr out true hi
  rw [hbt] at hok
  simp only [Except.ok.injEq, Prod.mk.injEq] at hok
  obtain ⟨rfl, _⟩ := hok
  rw [htext, heof rfl, List.take_length]

/-- the builder never fails by itself: the only way `build_tree` can panic on a rooted step
list is a token step that does not fit the token table (`range_text`) or a trivia count that
does not (`eat_n_trivias`), both inside `intersperse_trivia` -/
theorem buildTree_fails_only_in_intersperse (toks : List RawTok) (ss : List Step)
    (hr : rooted ss = true) (e : String) (h : buildTree toks ss = .error e) :
    ∃ e', intersperseTrivia toks ss = .error e' := by
  cases hi : intersperseTrivia toks ss with
  | error e' => exact ⟨e', rfl⟩
  | ok r =>
    obtain ⟨out, eof⟩ := r
    obtain ⟨k, cs, n, hbt, _⟩ := buildTree_spec toks ss hr out eof hi
    rw [hbt] at h; simp at h

/-! non-vacuity: a concrete rooted step list and token table -/
example : rooted [.enter .SOURCE_FILE, .enter .EXPR_STMT, .token .IDENT 1, .token .SEMICOLON 1,
    .exit, .exit] = true := by decide

end Oq3.Props.C02
