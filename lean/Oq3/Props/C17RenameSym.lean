/-
C17 (renaming), symbol-table layer.

`Ren` = an injective map on names that fixes the built-in names (`pi π euler ℇ tau τ U`) and the
standard gate names.  Injectivity on ALL strings is the side condition (then "maps no user name
onto a fixed one" is a consequence: `ρ u = f = ρ f → u = f`).

`step_rename`: every operation of the symbol table commutes with the renaming (look-ups compare
names with `==`; injectivity gives `(ρ a == ρ b) = (a == b)`); the initial table is fixed
(`init_rename`).
-/
import Oq3.Model.Symbols

namespace Oq3.C17Rename
open Oq3.Types Oq3.Symbols

def fixedNames : List Name := builtinConsts ++ ["U"] ++ stdGates.map (·.1)

structure Ren where
  f : String → String
  inj : ∀ a b, f a = f b → a = b
  fix : ∀ n, n ∈ fixedNames → f n = n

variable (ρ : Ren)

theorem Ren.beq (a b : String) : (ρ.f a == ρ.f b) = (a == b) := by
  by_cases h : a = b
  · subst h; simp only [beq_self_eq_true]
  · have : ρ.f a ≠ ρ.f b := fun e => h (ρ.inj _ _ e)
    rw [beq_eq_false_iff_ne.mpr this, beq_eq_false_iff_ne.mpr h]

def rnSym (s : Sym) : Sym := { s with name := ρ.f s.name }
def rnEntry (p : Name × Nat) : Name × Nat := (ρ.f p.1, p.2)
def rnScope (s : Scope) : Scope := { s with tab := s.tab.map (rnEntry ρ) }
def rnTab (t : SymTab) : SymTab :=
  { t with stack := t.stack.map (rnScope ρ), all := t.all.map (rnSym ρ) }

def rnOp : Op → Op
  | .enter k => .enter k
  | .exit => .exit
  | .bind n ty => .bind (ρ.f n) ty
  | .lookup n => .lookup (ρ.f n)
  | .lookupOrNew n ty => .lookupOrNew (ρ.f n) ty
  | .lenCurrent => .lenCurrent

def rnOut : Out → Out
  | .found id name ty => .found id (ρ.f name) ty
  | o => o

theorem find_rename (tab : List (Name × Nat)) (n : Name) :
    (tab.map (rnEntry ρ)).find? (fun p => p.1 == ρ.f n) = (tab.find? (fun p => p.1 == n)).map (rnEntry ρ) := by
  induction tab with
  | nil => rfl
  | cons p ps ih =>
    simp only [List.map_cons, List.find?_cons, rnEntry, ρ.beq]
    cases p.1 == n <;> simp [ih, rnEntry]

theorem get_rename (s : Scope) (n : Name) : (rnScope ρ s).get (ρ.f n) = s.get n := by
  simp only [Scope.get, rnScope, find_rename, Option.map_map]
  cases s.tab.find? (fun p => p.1 == n) <;> rfl

theorem containsName_rename (s : Scope) (n : Name) :
    (rnScope ρ s).containsName (ρ.f n) = s.containsName n := by
  simp [Scope.containsName, get_rename]

theorem insert_rename (s : Scope) (n : Name) (id : Nat) :
    (rnScope ρ s).insert (ρ.f n) id = rnScope ρ (s.insert n id) := by
  simp only [Scope.insert, rnScope, List.map_cons, rnEntry]
  congr 2
  induction s.tab with
  | nil => rfl
  | cons p ps ih =>
    simp only [List.map_cons, List.filter_cons, rnEntry, ρ.beq]
    cases p.1 == n <;> simp [ih, rnEntry]

theorem len_rename (s : Scope) : (rnScope ρ s).len = s.len := by
  simp [Scope.len, rnScope]

theorem lookupId_rename (t : SymTab) (n : Name) : (rnTab ρ t).lookupId (ρ.f n) = t.lookupId n := by
  simp only [SymTab.lookupId, rnTab]
  induction t.stack with
  | nil => rfl
  | cons s ss ih => simp only [List.map_cons, List.findSome?_cons, get_rename, ih]

theorem all_get_rename (t : SymTab) (i : Nat) : (rnTab ρ t).all[i]? = (t.all[i]?).map (rnSym ρ) := by
  simp [rnTab]

theorem newBinding_rename (t : SymTab) (n : Name) (ty : T) :
    (rnTab ρ t).newBindingNoCheck (ρ.f n) ty =
      (t.newBindingNoCheck n ty).map (fun r => (rnTab ρ r.1, r.2)) := by
  unfold SymTab.newBindingNoCheck
  cases h : t.stack with
  | nil => simp [rnTab, h]
  | cons s rest =>
    simp only [rnTab, h, List.map_cons, Option.map_some, insert_rename, List.map_append, List.map_nil, rnSym]

theorem step_rename (t : SymTab) (op : Op) :
    (rnTab ρ t).step (rnOp ρ op) = (rnTab ρ (t.step op).1, rnOut ρ (t.step op).2) := by
  cases op with
  | enter k =>
    simp only [rnOp, SymTab.step, rnTab, List.length_map]
    split <;> simp [rnOut, rnScope]
  | exit =>
    simp only [rnOp, SymTab.step, rnTab, List.length_map]
    split <;> simp [rnOut, List.map_tail]
  | bind n ty =>
    simp only [rnOp, SymTab.step]
    cases h : t.stack with
    | nil => simp [rnTab, h, rnOut]
    | cons s rest =>
      have hs : (rnTab ρ t).stack = rnScope ρ s :: rest.map (rnScope ρ) := by simp [rnTab, h]
      simp only [hs, containsName_rename]
      cases hc : s.containsName n with
      | true => simp [rnOut]
      | false =>
        simp only [Bool.false_eq_true, if_false, newBinding_rename]
        cases t.newBindingNoCheck n ty with
        | none => simp [rnOut]
        | some r => simp [rnOut]
  | lookup n =>
    simp only [rnOp, SymTab.step, lookupId_rename]
    cases t.lookupId n with
    | none => simp [rnOut]
    | some id =>
      simp only [all_get_rename]
      cases t.all[id]? with
      | none => simp [rnOut]
      | some s => simp [rnOut, rnSym]
  | lookupOrNew n ty =>
    simp only [rnOp, SymTab.step, lookupId_rename]
    cases t.lookupId n with
    | none =>
      simp only [newBinding_rename]
      cases t.newBindingNoCheck n ty with
      | none => simp [rnOut]
      | some r => simp [rnOut]
    | some id =>
      simp only [all_get_rename]
      cases t.all[id]? with
      | none => simp [rnOut]
      | some s => simp [rnOut]
  | lenCurrent =>
    simp only [rnOp, SymTab.step]
    cases h : t.stack with
    | nil => simp [rnTab, h, rnOut]
    | cons s rest => simp [rnTab, h, rnOut, len_rename]

theorem run_rename (t : SymTab) (ops : List Op) :
    rnTab ρ (run t ops) = run (rnTab ρ t) (ops.map (rnOp ρ)) := by
  induction ops generalizing t with
  | nil => rfl
  | cons op ops ih => simp only [run, List.map_cons, step_rename, ih]

theorem outs_rename (t : SymTab) (ops : List Op) :
    outs (rnTab ρ t) (ops.map (rnOp ρ)) = (outs t ops).map (rnOut ρ) := by
  induction ops generalizing t with
  | nil => rfl
  | cons op ops ih => simp only [outs, List.map_cons, step_rename, ih]

theorem fix_builtin {n : Name} (h : n ∈ builtinConsts) : ρ.f n = n :=
  ρ.fix n (by simp [fixedNames, h])

theorem fix_U : ρ.f "U" = "U" := ρ.fix _ (by simp [fixedNames])

theorem fix_std {g : Name × Nat × Nat} (h : g ∈ stdGates) : ρ.f g.1 = g.1 :=
  ρ.fix _ (by
    simp only [fixedNames, List.mem_append, List.mem_map]
    exact Or.inr ⟨g, h, rfl⟩)

theorem init_rename : rnTab ρ init = init := by
  unfold init
  rw [run_rename]
  have e : rnTab ρ empty = empty := rfl
  rw [e]
  congr 1
  simp only [List.map_cons, List.map_append, List.map_map, List.map_nil, rnOp, Gen.builtinGate, fix_U]
  congr 2
  apply List.map_congr_left
  intro n hn
  simp [rnOp, fix_builtin ρ hn]

omit ρ in
theorem foldl_comm_of_mem {α β : Type} (φ : α → α) (F : α → β → α) (l : List β)
    (hF : ∀ a, ∀ b ∈ l, F (φ a) b = φ (F a b)) (a : α) : l.foldl F (φ a) = φ (l.foldl F a) := by
  induction l generalizing a with
  | nil => rfl
  | cons b l ih =>
    rw [List.foldl_cons, List.foldl_cons, hF a b List.mem_cons_self]
    exact ih (fun a b hb => hF a b (List.mem_cons_of_mem _ hb)) _

theorem standardLibraryGates_rename (t : SymTab) :
    (rnTab ρ t).standardLibraryGates = (rnTab ρ t.standardLibraryGates.1, t.standardLibraryGates.2) := by
  unfold SymTab.standardLibraryGates
  refine foldl_comm_of_mem (fun x : SymTab × List Name => (rnTab ρ x.1, x.2)) _ stdGates
    (fun acc g hg => ?_) (t, [])
  -- one gate: `step_rename` at `bind g.1 _`, where `ρ` fixes `g.1`
  have hs := step_rename ρ acc.1 (.bind g.1 (T.gate g.2.1 g.2.2))
  simp only [rnOp, fix_std ρ hg] at hs
  simp only [hs]
  generalize acc.1.step (.bind g.1 (T.gate g.2.1 g.2.2)) = so
  obtain ⟨t', o⟩ := so
  cases o <;> rfl

end Oq3.C17Rename
