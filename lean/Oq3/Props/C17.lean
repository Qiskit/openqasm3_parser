/-
C17 (semantic layer) — one pass, prefix stability, determinism, independence of text ranges.

* `loop_append`: the top-level loop over `p ++ q` is the loop over `p` followed by the loop over
  `q` (with the fuel that is left) from the context `p` ended in — analysis is a left fold.
* `ExtTop`, `loop_extTop`: the loop only ever appends to the program, the symbol vector and the
  diagnostics (built on `Oq3.C06.topStmtM_frame`).
* `prefix_stable`, `prefix_stable_analyze`: statements, symbols and diagnostics obtained for `p`
  are prefixes of those obtained for `p ++ q`, for every `q`, fuel and start context.
  The pending-annotation corner, exactly: annotations still pending when `p` ends are NOT part
  of `p`'s result (the pass drops them at end of input) but they are part of the context `q`
  starts in, so they end up on the first statement `q` emits (`pending_go_to_first_emitted`).
  That statement lies beyond `p`'s prefix, so the prefix relation itself has no exception.
* `analyze_congr` (determinism): the model is a function of the typed AST and the fuel.
* `eraseSpans`, `erCtx`, `erMap`, `erNaturalTop`, `analyze_eraseSpans`, `span_irrelevant`,
  `span_irrelevant_ok`: text ranges influence nothing but the positions stored in diagnostics —
  analysing the span-erased AST gives the span-erased result (same outcome incl. panics, same
  graph, symbols, constant values, pending annotations, diagnostic kinds and order).  Erasure is a
  lawful map of the AST (`erMap`) and `erCtx` commutes with the primitives of the context
  (`erNaturalTop`), so this is `NaturalTop.analyzeWith` of `Lemmas/SemaMap.lean`, the walk over the
  25-function mutual block.  This is the semantic-layer half of layout
  invariance: a re-layout changes nothing in the typed AST but ranges (that half is checked on
  the implementation by the metamorphic runs of `vf/oracle_sema_c.py`).
* renaming of identifiers: the other instance of that walk, `Props/C17Rename.lean`.
-/
import Oq3.Lemmas.SemaMap

namespace Oq3.C17
open Oq3.Sema Oq3.Types Oq3.Symbols Oq3.C06

theorem loop_zero (ss : List Ast.Stmt) (c : Ctx) (r : Unit × Ctx) :
    syntaxToSemanticLoop 0 ss c = .ok r ↔ False := by
  unfold syntaxToSemanticLoop; simp

theorem loop_nil (fuel : Nat) (c : Ctx) (r : Unit × Ctx) :
    syntaxToSemanticLoop (fuel+1) [] c = .ok r ↔ r = (⟨⟩, c) := by
  unfold syntaxToSemanticLoop; simp

def topStepM (fuel : Nat) (s : Ast.Stmt) : M Unit := do
  let o ← topStmtM fuel s
  attachM o

theorem loop_cons (fuel : Nat) (s : Ast.Stmt) (rest : List Ast.Stmt) (c : Ctx) (r : Unit × Ctx) :
    syntaxToSemanticLoop (fuel+1) (s :: rest) c = .ok r ↔
      ∃ c1, topStepM fuel s c = .ok (⟨⟩, c1) ∧ syntaxToSemanticLoop fuel rest c1 = .ok r := by
  rw [topLoop_cons_eq]
  unfold topStepM
  simp only [bind_ok]
  constructor
  · rintro ⟨o, c1, h1, _, c2, h2, h3⟩; exact ⟨c2, ⟨o, c1, h1, h2⟩, h3⟩
  · rintro ⟨c2, ⟨o, c1, h1, h2⟩, h3⟩; exact ⟨o, c1, h1, ⟨⟩, c2, h2, h3⟩

theorem loop_append {fuel : Nat} {p q : List Ast.Stmt} {c c'' : Ctx} :
    syntaxToSemanticLoop fuel (p ++ q) c = .ok (⟨⟩, c'') ↔
      ∃ c', syntaxToSemanticLoop fuel p c = .ok (⟨⟩, c') ∧
        syntaxToSemanticLoop (fuel - p.length) q c' = .ok (⟨⟩, c'') := by
  induction p generalizing fuel c with
  | nil =>
    cases fuel with
    | zero => simp [loop_zero]
    | succ fuel => simp [loop_nil]
  | cons s rest ih =>
    cases fuel with
    | zero => simp [loop_zero]
    | succ fuel =>
      simp only [List.cons_append, loop_cons, List.length_cons, Nat.add_sub_add_right]
      constructor
      · rintro ⟨c1, h1, h2⟩
        obtain ⟨c', h3, h4⟩ := ih.mp h2
        exact ⟨c', ⟨c1, h1, h3⟩, h4⟩
      · rintro ⟨c', ⟨c1, h1, h3⟩, h4⟩
        exact ⟨c1, h1, ih.mpr ⟨c', h3, h4⟩⟩

/-- what the top-level loop may do to the context: append to the program, to the symbol vector
and to the diagnostics (pending annotations are consumed, so they are not part of it) -/
structure ExtTop (c c' : Ctx) : Prop where
  program : c.program <+: c'.program
  symbols : c.symbolTable.all <+: c'.symbolTable.all
  errors : c.semanticErrors <+: c'.semanticErrors

theorem ExtTop.refl (c : Ctx) : ExtTop c c := ⟨List.prefix_refl _, List.prefix_refl _, List.prefix_refl _⟩

theorem ExtTop.trans {a b c : Ctx} (h1 : ExtTop a b) (h2 : ExtTop b c) : ExtTop a c :=
  ⟨h1.program.trans h2.program, h1.symbols.trans h2.symbols, h1.errors.trans h2.errors⟩

theorem Ext.toExtTop {c c' : Ctx} (h : C06.Ext c c') : ExtTop c c' :=
  ⟨by rw [h.program]; exact List.prefix_refl _, h.symbols, h.errors⟩

theorem attachM_extTop {o : Option Stmt} {c c' : Ctx} (h : attachM o c = .ok (⟨⟩, c')) : ExtTop c c' := by
  cases o with
  | none => rw [attachM_none] at h; cases h; exact ExtTop.refl _
  | some t =>
    obtain ⟨_, hc⟩ := attachM_some.mp h
    cases hc
    exact ⟨List.prefix_append _ _, List.prefix_refl _, List.prefix_refl _⟩

theorem topStepM_extTop {fuel s c c'} (h : topStepM fuel s c = .ok (⟨⟩, c')) : ExtTop c c' := by
  unfold topStepM at h
  simp only [bind_ok] at h
  obtain ⟨o, c1, h1, h2⟩ := h
  exact (Ext.toExtTop ((topStmtM_frame _ _).run _ _ _ h1)).trans (attachM_extTop h2)

theorem loop_extTop {fuel ss c c'} (h : syntaxToSemanticLoop fuel ss c = .ok (⟨⟩, c')) : ExtTop c c' := by
  induction ss generalizing fuel c with
  | nil =>
    cases fuel with
    | zero => exact absurd h (by simp [loop_zero])
    | succ fuel => rw [loop_nil] at h; cases h; exact ExtTop.refl _
  | cons s rest ih =>
    cases fuel with
    | zero => exact absurd h (by simp [loop_zero])
    | succ fuel =>
      obtain ⟨c1, h1, h2⟩ := (loop_cons _ _ _ _ _).mp h
      exact (topStepM_extTop h1).trans (ih h2)

/-- **prefix stability** of the statement loop: for every fuel, start context and continuation
`q`, a successful analysis of `p ++ q` contains a successful analysis of `p` whose emitted
statements, symbols and diagnostics are prefixes of the final ones; the rest of the run is the
analysis of `q` from the context `p` ended in (pending annotations included). -/
theorem prefix_stable {fuel : Nat} {p q : List Ast.Stmt} {c c'' : Ctx}
    (h : syntaxToSemanticLoop fuel (p ++ q) c = .ok (⟨⟩, c'')) :
    ∃ c', syntaxToSemanticLoop fuel p c = .ok (⟨⟩, c') ∧
      c'.program <+: c''.program ∧
      c'.symbolTable.all <+: c''.symbolTable.all ∧
      c'.semanticErrors <+: c''.semanticErrors ∧
      syntaxToSemanticLoop (fuel - p.length) q c' = .ok (⟨⟩, c'') := by
  obtain ⟨c', h1, h2⟩ := loop_append.mp h
  have e := loop_extTop h2
  exact ⟨c', h1, e.program, e.symbols, e.errors, h2⟩

/-- the pending-annotation corner, exactly: if `q` begins with statements that translate to
nothing and then a statement that is emitted, that emitted statement is wrapped with a list of
annotations that STARTS with the annotations pending at the end of `p` -/
theorem pending_go_to_first_emitted {fuel s rest c' out c''}
    (h : TopRun (fuel+1) (s :: rest) c' out c'') {t c1}
    (ht : topStmtM fuel s c' = .ok (some t, c1)) :
    ∃ out', out = wrap t c1.annotations :: out' ∧ c'.annotations <+: c1.annotations := by
  cases h with
  | skip h1 _ => rw [ht] at h1; cases h1
  | emit h1 _ _ => rw [ht] at h1; cases h1; exact ⟨_, rfl, pending_annotations_attach ht⟩

theorem parseIncludedFiles_prefix {p q : List Ast.Stmt} {c c'}
    (h : parseIncludedFiles (p ++ q) c = .ok (false, c')) : parseIncludedFiles p c = .ok (false, c) := by
  induction p with
  | nil => rfl
  | cons s rest ih =>
    cases s <;> simp only [List.cons_append, parseIncludedFiles] at h ⊢ <;> try exact ih h
    rename_i _ file
    cases file with
    | none => exact ih h
    | some f =>
      simp only at h ⊢
      cases hfp : f.toString? with
      | none => simp only [hfp] at h ⊢; exact ih h
      | some fp =>
        simp only [hfp, bind_ok, M.pure_ok] at h ⊢
        obtain ⟨r, c3, h2, h3⟩ := h
        simp only [Prod.mk.injEq, Bool.false_eq, Bool.or_eq_false_iff] at h3
        obtain ⟨⟨h4, rfl⟩, rfl⟩ := h3
        have h5 := ih h2
        exact ⟨false, c, h5, by simp [h4]⟩

/-- **prefix stability** of `analyze_source` (single file): if the analysis of `p ++ q` returns
normally, so does the analysis of `p` (same fuel), and its statements, symbols and diagnostics
are prefixes of those of `p ++ q` -/
theorem prefix_stable_analyze {fuel : Nat} {sp sp' : Ast.Span} {p q : List Ast.Stmt} {c'' : Ctx}
    (h : analyzeWith fuel ⟨sp, p ++ q⟩ = .ok c'') :
    ∃ c', analyzeWith fuel ⟨sp', p⟩ = .ok c' ∧
      c'.program <+: c''.program ∧
      c'.symbolTable.all <+: c''.symbolTable.all ∧
      c'.semanticErrors <+: c''.semanticErrors := by
  obtain ⟨hinc, hloop⟩ := analyzeWith_ok_iff.mp h
  obtain ⟨c', h1, hp, hs, he, _⟩ := prefix_stable hloop
  exact ⟨c', analyzeWith_ok_iff.mpr ⟨parseIncludedFiles_prefix hinc, h1⟩, hp, hs, he⟩

/-- holds of every Lean function; the content is that the model IS a function of the typed AST and
the fuel (no global state, no hash-iteration order, no clock to consult).  That the Rust is
deterministic is what the metamorphic run checks by analysing the same text twice. -/
theorem analyze_congr {p p' : Ast.Program} (h : p = p') : analyze p = analyze p' := by rw [h]

def z : Ast.Span := ⟨0, 0⟩

def erName (n : Ast.Name) : Ast.Name := { n with span := z }
def erIdent (n : Ast.Identifier) : Ast.Identifier := { n with span := z }
def erHw (n : Ast.HardwareQubit) : Ast.HardwareQubit := { n with span := z }
def erParam (n : Ast.Param) : Ast.Param := { n with span := z }
def erParamList (n : Ast.ParamList) : Ast.ParamList := ⟨z, n.params.map erParam⟩
def erFilePath (n : Ast.FilePath) : Ast.FilePath := { n with span := z }
def erLiteral (n : Ast.Literal) : Ast.Literal := { n with span := z }

mutual
def erExpr : Ast.Expr → Ast.Expr
  | .prefixExpr _ op e => .prefixExpr z op (erOExpr e)
  | .parenExpr p => .parenExpr (erParen p)
  | .binExpr _ op l r => .binExpr z op (erOExpr l) (erOExpr r)
  | .literal l => .literal (erLiteral l)
  | .timingLiteral _ u t l => .timingLiteral z u t (l.map erLiteral)
  | .identifier i => .identifier (erIdent i)
  | .hardwareQubit h => .hardwareQubit (erHw h)
  | .rangeExpr r => .rangeExpr (erRange r)
  | .indexExpr _ e ix => .indexExpr z (erOExpr e) (erOIndexOp ix)
  | .indexedIdentifier ii => .indexedIdentifier (erIndexedIdent ii)
  | .measureExpression _ g => .measureExpression z (erOGateOperand g)
  | .returnExpr _ e => .returnExpr z (erOExpr e)
  | .castExpression _ st e => .castExpression z (erOScalarType st) (erOExpr e)
  | .callExpr _ al i => .callExpr z (erOArgList al) (i.map erIdent)
  | .gateCallExpr g => .gateCallExpr (erGateCall g)
  | .gPhaseCallExpr g => .gPhaseCallExpr (erGPhase g)
  | .modifiedGateCallExpr _ ms g gp => .modifiedGateCallExpr z (erModifiers ms) (erOGateCall g) (erOGPhase gp)
  | .unsupported k _ => .unsupported k z
def erOExpr : Option Ast.Expr → Option Ast.Expr
  | none => none
  | some e => some (erExpr e)
def erExprs : List Ast.Expr → List Ast.Expr
  | [] => []
  | e :: es => erExpr e :: erExprs es
def erParen : Ast.ParenExpr → Ast.ParenExpr
  | .mk _ e => .mk z (erOExpr e)
def erOParen : Option Ast.ParenExpr → Option Ast.ParenExpr
  | none => none
  | some p => some (erParen p)
def erRange : Ast.RangeExpr → Ast.RangeExpr
  | .mk _ a b c => .mk z (erOExpr a) (erOExpr b) (erOExpr c)
def erDesignator : Ast.Designator → Ast.Designator
  | .mk _ e => .mk z (erOExpr e)
def erODesignator : Option Ast.Designator → Option Ast.Designator
  | none => none
  | some d => some (erDesignator d)
def erScalarType : Ast.ScalarType → Ast.ScalarType
  | .mk _ k d s => .mk z k (erODesignator d) (erOScalarType s)
def erOScalarType : Option Ast.ScalarType → Option Ast.ScalarType
  | none => none
  | some s => some (erScalarType s)
def erExprList : Ast.ExpressionList → Ast.ExpressionList
  | .mk _ es => .mk z (erExprs es)
def erOExprList : Option Ast.ExpressionList → Option Ast.ExpressionList
  | none => none
  | some el => some (erExprList el)
def erSet : Ast.SetExpression → Ast.SetExpression
  | .mk _ el => .mk z (erOExprList el)
def erIndexKind : Ast.IndexKind → Ast.IndexKind
  | .setExpression s => .setExpression (erSet s)
  | .expressionList el => .expressionList (erExprList el)
def erOIndexKind : Option Ast.IndexKind → Option Ast.IndexKind
  | none => none
  | some k => some (erIndexKind k)
def erIndexOp : Ast.IndexOperator → Ast.IndexOperator
  | .mk _ k => .mk z (erOIndexKind k)
def erOIndexOp : Option Ast.IndexOperator → Option Ast.IndexOperator
  | none => none
  | some i => some (erIndexOp i)
def erIndexOps : List Ast.IndexOperator → List Ast.IndexOperator
  | [] => []
  | i :: is => erIndexOp i :: erIndexOps is
def erIndexedIdent : Ast.IndexedIdentifier → Ast.IndexedIdentifier
  | .mk _ i ixs => .mk z (i.map erIdent) (erIndexOps ixs)
def erGateOperand : Ast.GateOperand → Ast.GateOperand
  | .hardwareQubit h => .hardwareQubit (erHw h)
  | .identifier i => .identifier (erIdent i)
  | .indexedIdentifier ii => .indexedIdentifier (erIndexedIdent ii)
def erOGateOperand : Option Ast.GateOperand → Option Ast.GateOperand
  | none => none
  | some g => some (erGateOperand g)
def erGateOperands : List Ast.GateOperand → List Ast.GateOperand
  | [] => []
  | g :: gs => erGateOperand g :: erGateOperands gs
def erQubitList : Ast.QubitList → Ast.QubitList
  | .mk _ gs => .mk z (erGateOperands gs)
def erOQubitList : Option Ast.QubitList → Option Ast.QubitList
  | none => none
  | some q => some (erQubitList q)
def erArgList : Ast.ArgList → Ast.ArgList
  | .mk _ el => .mk z (erOExprList el)
def erOArgList : Option Ast.ArgList → Option Ast.ArgList
  | none => none
  | some a => some (erArgList a)
def erGateCall : Ast.GateCallExpr → Ast.GateCallExpr
  | .mk _ ql al i => .mk z (erOQubitList ql) (erOArgList al) (i.map erIdent)
def erOGateCall : Option Ast.GateCallExpr → Option Ast.GateCallExpr
  | none => none
  | some g => some (erGateCall g)
def erGPhase : Ast.GPhaseCallExpr → Ast.GPhaseCallExpr
  | .mk _ a => .mk z (erOExpr a)
def erOGPhase : Option Ast.GPhaseCallExpr → Option Ast.GPhaseCallExpr
  | none => none
  | some g => some (erGPhase g)
def erModifier : Ast.Modifier → Ast.Modifier
  | .invModifier _ => .invModifier z
  | .powModifier _ p => .powModifier z (erOParen p)
  | .ctrlModifier _ p => .ctrlModifier z (erOParen p)
  | .negCtrlModifier _ p => .negCtrlModifier z (erOParen p)
def erModifiers : List Ast.Modifier → List Ast.Modifier
  | [] => []
  | m :: ms => erModifier m :: erModifiers ms
end

def erParamType : Ast.ParamType → Ast.ParamType
  | .scalarType s => .scalarType (erScalarType s)
  | .arrayRefType _ => .arrayRefType z

def erTypedParam (p : Ast.TypedParam) : Ast.TypedParam :=
  ⟨z, p.paramType.map erParamType, p.oldTypedParam, p.name.map erName⟩

def erTypedParamList (l : Ast.TypedParamList) : Ast.TypedParamList := ⟨z, l.typedParams.map erTypedParam⟩

def erReturnSignature (r : Ast.ReturnSignature) : Ast.ReturnSignature := ⟨z, erOScalarType r.scalarType⟩

def erQubitType (q : Ast.QubitType) : Ast.QubitType := ⟨z, erODesignator q.designator⟩

def erForIterable (f : Ast.ForIterable) : Ast.ForIterable :=
  ⟨z, f.setExpression.map erSet, f.rangeExpr.map erRange, erOExpr f.forIterableExpr⟩

mutual
def erStmt : Ast.Stmt → Ast.Stmt
  | .ifStmt _ c t f => .ifStmt z (erOExpr c) (erAccBos t) (erOBos f)
  | .whileStmt _ c b => .whileStmt z (erOExpr c) (erAccBos b)
  | .forStmt _ v st it b => .forStmt z (v.map erName) (erOScalarType st) (it.map erForIterable) (erAccBos b)
  | .switchCaseStmt _ c cs d => .switchCaseStmt z (erOExpr c) (erCases cs) (erOBlock d)
  | .classicalDeclarationStatement _ a st k n e =>
    .classicalDeclarationStatement z a (erOScalarType st) k (n.map erName) (erOExpr e)
  | .ioDeclarationStatement _ a st n i => .ioDeclarationStatement z a (erOScalarType st) (n.map erName) i
  | .quantumDeclarationStatement _ n h q =>
    .quantumDeclarationStatement z (n.map erName) (h.map erHw) (q.map erQubitType)
  | .assignmentStmt _ i rhs ii => .assignmentStmt z (i.map erIdent) (erOExpr rhs) (ii.map erIndexedIdent)
  | .breakStmt _ => .breakStmt z
  | .continueStmt _ => .continueStmt z
  | .endStmt _ => .endStmt z
  | .gate _ n a q b => .gate z (n.map erName) (a.map erParamList) (q.map erParamList) (erOBlock b)
  | .defStmt _ n tp b rs =>
    .defStmt z (n.map erName) (tp.map erTypedParamList) (erOBlock b) (rs.map erReturnSignature)
  | .barrier _ q => .barrier z (erOQubitList q)
  | .delayStmt _ q d => .delayStmt z (erOQubitList q) (erODesignator d)
  | .reset _ g => .reset z (erOGateOperand g)
  | .includeStmt _ f => .includeStmt z (f.map erFilePath)
  | .exprStmt _ e => .exprStmt z (erOExpr e)
  | .versionString _ => .versionString z
  | .pragmaStatement _ t => .pragmaStatement z t
  | .annotationStatement _ t => .annotationStatement z t
  | .aliasDeclarationStatement _ n e => .aliasDeclarationStatement z (n.map erName) (erOExpr e)
  | .notImpl k _ => .notImpl k z
def erStmts : List Ast.Stmt → List Ast.Stmt
  | [] => []
  | s :: ss => erStmt s :: erStmts ss
def erBlock : Ast.BlockExpr → Ast.BlockExpr
  | .mk _ ss => .mk z (erStmts ss)
def erOBlock : Option Ast.BlockExpr → Option Ast.BlockExpr
  | none => none
  | some b => some (erBlock b)
def erBos : Ast.BlockOrStmt → Ast.BlockOrStmt
  | .blockExpr b => .blockExpr (erBlock b)
  | .stmt s => .stmt (erStmt s)
def erOBos : Option Ast.BlockOrStmt → Option Ast.BlockOrStmt
  | none => none
  | some b => some (erBos b)
def erAccBos : Ast.Acc Ast.BlockOrStmt → Ast.Acc Ast.BlockOrStmt
  | .ok b => .ok (erBos b)
  | .panicked => .panicked
def erCase : Ast.CaseExpr → Ast.CaseExpr
  | .mk _ el b => .mk z (erOExprList el) (erOBlock b)
def erCases : List Ast.CaseExpr → List Ast.CaseExpr
  | [] => []
  | c :: cs => erCase c :: erCases cs
end

/-- `Ast.eraseSpans`: the same program with every text range replaced by `0..0` -/
def eraseSpans (p : Ast.Program) : Ast.Program := ⟨z, erStmts p.statements⟩

def erErr (e : SemErr) : SemErr := ⟨e.kind, 0, 0⟩

def erCtx (c : Ctx) : Ctx := { c with semanticErrors := c.semanticErrors.map erErr }

/-- `Sema.Comm erCtx` (`Lemmas/SemaMap.lean`); no proof uses it, nor the two instances after it -/
structure Comm {α β} (g : α → β) (x : M α) (y : M β) : Prop where
  run : ∀ c, y (erCtx c) = (x c).map (fun r => (g r.1, erCtx r.2))

theorem Comm.unwrap {α β} (g : α → β) (site : String) (o : Option α) :
    Comm g (Sema.unwrap site o) (Sema.unwrap site (o.map g)) :=
  ⟨(Sema.Comm.unwrap g site o).run⟩

theorem negativeInt_comm (text : String) : Comm id (negativeIntToAsgType text) (negativeIntToAsgType text) :=
  ⟨(Sema.Comm.negativeIntToAsgType text).run⟩

theorem erCtx_idem (c : Ctx) : erCtx (erCtx c) = erCtx c := by
  simp [erCtx, erErr, Function.comp_def]

theorem erOExpr_eq (o : Option Ast.Expr) : erOExpr o = o.map erExpr := by cases o <;> rfl
theorem erExprs_eq (l : List Ast.Expr) : erExprs l = l.map erExpr := by
  induction l with
  | nil => rfl
  | cons x xs ih => simp [erExprs, ih]
theorem erOParen_eq (o : Option Ast.ParenExpr) : erOParen o = o.map erParen := by cases o <;> rfl
theorem erODesignator_eq (o : Option Ast.Designator) : erODesignator o = o.map erDesignator := by cases o <;> rfl
theorem erOScalarType_eq (o : Option Ast.ScalarType) : erOScalarType o = o.map erScalarType := by cases o <;> rfl
theorem erOExprList_eq (o : Option Ast.ExpressionList) : erOExprList o = o.map erExprList := by cases o <;> rfl
theorem erOIndexKind_eq (o : Option Ast.IndexKind) : erOIndexKind o = o.map erIndexKind := by cases o <;> rfl
theorem erOIndexOp_eq (o : Option Ast.IndexOperator) : erOIndexOp o = o.map erIndexOp := by cases o <;> rfl
theorem erIndexOps_eq (l : List Ast.IndexOperator) : erIndexOps l = l.map erIndexOp := by
  induction l with
  | nil => rfl
  | cons x xs ih => simp [erIndexOps, ih]
theorem erOGateOperand_eq (o : Option Ast.GateOperand) : erOGateOperand o = o.map erGateOperand := by cases o <;> rfl
theorem erGateOperands_eq (l : List Ast.GateOperand) : erGateOperands l = l.map erGateOperand := by
  induction l with
  | nil => rfl
  | cons x xs ih => simp [erGateOperands, ih]
theorem erOQubitList_eq (o : Option Ast.QubitList) : erOQubitList o = o.map erQubitList := by cases o <;> rfl
theorem erOArgList_eq (o : Option Ast.ArgList) : erOArgList o = o.map erArgList := by cases o <;> rfl
theorem erOGateCall_eq (o : Option Ast.GateCallExpr) : erOGateCall o = o.map erGateCall := by cases o <;> rfl
theorem erOGPhase_eq (o : Option Ast.GPhaseCallExpr) : erOGPhase o = o.map erGPhase := by cases o <;> rfl
theorem erModifiers_eq (l : List Ast.Modifier) : erModifiers l = l.map erModifier := by
  induction l with
  | nil => rfl
  | cons x xs ih => simp [erModifiers, ih]
theorem erStmts_eq (l : List Ast.Stmt) : erStmts l = l.map erStmt := by
  induction l with
  | nil => rfl
  | cons x xs ih => simp [erStmts, ih]
theorem erOBlock_eq (o : Option Ast.BlockExpr) : erOBlock o = o.map erBlock := by cases o <;> rfl
theorem erOBos_eq (o : Option Ast.BlockOrStmt) : erOBos o = o.map erBos := by cases o <;> rfl
theorem erCases_eq (l : List Ast.CaseExpr) : erCases l = l.map erCase := by
  induction l with
  | nil => rfl
  | cons x xs ih => simp [erCases, ih]


@[simp] theorem erName_text (n : Ast.Name) : (erName n).text = n.text := rfl
@[simp] theorem erName_span (n : Ast.Name) : (erName n).span = z := rfl
@[simp] theorem erIdent_text (n : Ast.Identifier) : (erIdent n).text = n.text := rfl
@[simp] theorem erIdent_span (n : Ast.Identifier) : (erIdent n).span = z := rfl
@[simp] theorem erHw_text (n : Ast.HardwareQubit) : (erHw n).text = n.text := rfl
@[simp] theorem erHw_span (n : Ast.HardwareQubit) : (erHw n).span = z := rfl
@[simp] theorem erParam_text (n : Ast.Param) : (erParam n).text = n.text := rfl
@[simp] theorem erParam_span (n : Ast.Param) : (erParam n).span = z := rfl
@[simp] theorem erParamList_params (n : Ast.ParamList) : (erParamList n).params = n.params.map erParam := rfl
@[simp] theorem erFilePath_toString (n : Ast.FilePath) : (erFilePath n).toString? = n.toString? := rfl
@[simp] theorem erLiteral_kind (n : Ast.Literal) : (erLiteral n).kind = n.kind := rfl
@[simp] theorem erLiteral_span (n : Ast.Literal) : (erLiteral n).span = z := rfl
@[simp] theorem erTypedParam_paramType (p : Ast.TypedParam) : (erTypedParam p).paramType = p.paramType.map erParamType := rfl
@[simp] theorem erTypedParam_old (p : Ast.TypedParam) : (erTypedParam p).oldTypedParam = p.oldTypedParam := rfl
@[simp] theorem erTypedParam_name (p : Ast.TypedParam) : (erTypedParam p).name = p.name.map erName := rfl
@[simp] theorem erTypedParam_span (p : Ast.TypedParam) : (erTypedParam p).span = z := rfl
@[simp] theorem erTypedParamList_params (l : Ast.TypedParamList) : (erTypedParamList l).typedParams = l.typedParams.map erTypedParam := rfl
@[simp] theorem erForIterable_set (f : Ast.ForIterable) : (erForIterable f).setExpression = f.setExpression.map erSet := rfl
@[simp] theorem erForIterable_range (f : Ast.ForIterable) : (erForIterable f).rangeExpr = f.rangeExpr.map erRange := rfl

def erMap : Ast.Map where
  span := fun _ => z
  text := id
  name := erName
  identifier := erIdent
  hardwareQubit := erHw
  param := erParam
  paramList := erParamList
  literal := erLiteral
  filePath := erFilePath
  expr := erExpr
  parenExpr := erParen
  rangeExpr := erRange
  designator := erDesignator
  scalarType := erScalarType
  expressionList := erExprList
  setExpression := erSet
  indexKind := erIndexKind
  indexOperator := erIndexOp
  indexedIdentifier := erIndexedIdent
  gateOperand := erGateOperand
  qubitList := erQubitList
  argList := erArgList
  gateCallExpr := erGateCall
  gPhaseCallExpr := erGPhase
  modifier := erModifier
  paramType := erParamType
  typedParam := erTypedParam
  typedParamList := erTypedParamList
  returnSignature := erReturnSignature
  qubitType := erQubitType
  forIterable := erForIterable
  stmt := erStmt
  blockExpr := erBlock
  blockOrStmt := erBos
  accBos := erAccBos
  caseExpr := erCase
  program := eraseSpans

theorem erMap_lawful : erMap.Lawful := by
  constructor <;> intros <;>
    simp [erMap, erName, erIdent, erHw, erParam, erParamList, erLiteral, erFilePath, erExpr, erParen,
      erRange, erDesignator, erScalarType, erExprList, erSet, erIndexKind, erIndexOp, erIndexedIdent,
      erGateOperand, erQubitList, erArgList, erGateCall, erGPhase, erModifier, erParamType,
      erTypedParam, erTypedParamList, erReturnSignature, erQubitType, erForIterable, erStmt, erBlock,
      erBos, erAccBos, erCase, eraseSpans, erOExpr_eq, erExprs_eq, erOParen_eq, erODesignator_eq,
      erOScalarType_eq, erOExprList_eq, erOIndexKind_eq, erOIndexOp_eq, erIndexOps_eq,
      erOGateOperand_eq, erGateOperands_eq, erOQubitList_eq, erOArgList_eq, erOGateCall_eq,
      erOGPhase_eq, erModifiers_eq, erStmts_eq, erOBlock_eq, erOBos_eq, erCases_eq]

theorem symStep_comm (site : String) (op : Op) : Sema.Comm erCtx id (symStep site op) (symStep site op) := by
  refine ⟨fun c => ?_⟩
  unfold symStep
  simp only [erCtx]
  show (StateT.bind _ _) _ = Except.map _ ((StateT.bind _ _) _)
  unfold StateT.bind
  simp only [get, getThe, MonadStateOf.get, StateT.get, bind, Except.bind, pure, Except.pure]
  generalize c.symbolTable.step op = so
  obtain ⟨t', o⟩ := so
  cases o <;> rfl

theorem insertError_comm (k : SemanticErrorKind) (sp : Ast.Span) :
    Sema.Comm erCtx id (insertError k sp) (insertError k z) := by
  refine ⟨fun c => ?_⟩
  simp [insertError, erCtx, erErr, z, modify, modifyGet, MonadStateOf.modifyGet, StateT.modifyGet, Except.map, pure, Except.pure]

theorem erNatural : Natural erCtx erMap where
  toLawful := erMap_lawful
  insertError := insertError_comm
  enterScope k := Sema.Comm.bind (symStep_comm _ _) fun _ => Sema.Comm.pure rfl
  exitScope := Sema.Comm.bind (symStep_comm _ _) fun _ => Sema.Comm.pure rfl
  newBinding n t sp := by
    refine Sema.Comm.bind (symStep_comm _ _) fun o => ?_
    cases o <;> first
      | exact Sema.Comm.pure rfl
      | exact Sema.Comm.fail _
      | exact Sema.Comm.bind (insertError_comm _ _) fun _ => Sema.Comm.pure rfl
  tableLookup n := by
    refine Sema.Comm.bind (symStep_comm _ _) fun o => ?_
    cases o <;> first | exact Sema.Comm.pure rfl | exact Sema.Comm.fail _
  currentScopeType := by
    refine ⟨fun c => ?_⟩
    obtain ⟨prog, errs, ⟨stack, all, counter⟩, cv, anns⟩ := c
    cases stack <;> rfl
  insertConstValue _ _ := ⟨fun _ => rfl⟩
  getConstValue _ := ⟨fun _ => rfl⟩
  pushAnnotation _ := ⟨fun _ => rfl⟩

theorem erNaturalTop : NaturalTop erCtx erMap where
  toNatural := erNatural
  annotationsIsEmpty := ⟨fun _ => rfl⟩
  takeAnnotations := ⟨fun _ => rfl⟩
  insertStmt _ := ⟨fun _ => rfl⟩
  standardLibraryGates sp := by
    refine ⟨fun c => ?_⟩
    generalize hg : c.symbolTable.standardLibraryGates = g
    rw [standardLibraryGates_eq sp c g hg, standardLibraryGates_eq _ (erCtx c) g hg]
    exact (erNatural.redeclLoop sp g.2).run { c with symbolTable := g.1 }
  empty := rfl

theorem analyze_eraseSpans (fuel : Nat) (p : Ast.Program) :
    analyzeWith fuel (eraseSpans p) = (analyzeWith fuel p).map erCtx :=
  erNaturalTop.analyzeWith fuel p

/-- **span irrelevance**: two typed ASTs that differ only in text ranges are analysed alike — the
results are equal up to the positions stored in the diagnostics (and both panic alike).  This is
the semantic-layer half of layout invariance: a re-layout changes nothing in the AST but ranges. -/
theorem span_irrelevant (fuel : Nat) {p p' : Ast.Program} (h : eraseSpans p = eraseSpans p') :
    (analyzeWith fuel p).map erCtx = (analyzeWith fuel p').map erCtx := by
  rw [← analyze_eraseSpans, ← analyze_eraseSpans, h]

/-- in particular the graph, the symbols and the kinds of the diagnostics agree -/
theorem span_irrelevant_ok (fuel : Nat) {p p' : Ast.Program} (h : eraseSpans p = eraseSpans p') {c : Ctx}
    (hc : analyzeWith fuel p = .ok c) :
    ∃ c', analyzeWith fuel p' = .ok c' ∧ c'.program = c.program ∧ c'.symbolTable = c.symbolTable ∧
      c'.semanticErrors.map (·.kind) = c.semanticErrors.map (·.kind) := by
  have e := span_irrelevant fuel h
  rw [hc] at e
  cases h' : analyzeWith fuel p' with
  | error x => rw [h'] at e; cases e
  | ok c' =>
    rw [h'] at e
    simp only [Except.map, Except.ok.injEq] at e
    refine ⟨c', rfl, ?_, ?_, ?_⟩
    · have := congrArg Ctx.program e; simpa [erCtx] using this.symm
    · have := congrArg Ctx.symbolTable e; simpa [erCtx] using this.symm
    · have := congrArg (fun c => c.semanticErrors.map (·.kind)) e
      simpa [erCtx, erErr, Function.comp_def] using this.symm


end Oq3.C17
