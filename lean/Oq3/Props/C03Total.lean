/-
C03 — totality of the semantic analysis on a purely syntactic, recursive fragment.

`suppStmt : Ast.Stmt → Bool` (decidable; no reference to the symbol table) accepts:

* classical declarations (not arrays) of a fragment type, named, with no initializer or a fragment
  expression (literal or identifier) as initializer;
* quantum declarations `qubit q;` / `qubit[n] q;` (literal `n`) / `qubit $k;`;
* gate definitions with a name, any parameter lists (qubit list present) and a body whose statements
  are again in the fragment;
* gate calls `name(args) operands;` — any callee name, declared or not, gate or not —, arguments
  fragment expressions, operands identifiers / hardware qubits / indexed identifiers with
  expression-list indices;
* `measure op;`, `reset op;`, `barrier ops;`;
* assignments `x = e;` with `e` a fragment expression;
* `if (c) { … }`, `if (c) { … } else { … }`, `while (c) { … }` with `c` a fragment expression and
  block bodies of the fragment;
* `break; continue; end;`, pragmas, annotations.

Excluded (each reaches, or may reach depending on the table, a panic of the unchanged code):
subroutine calls, designators that are identifiers or expressions, casts, binary and unary
operators, timing literals, `complex[float[w]]`, arrays, single-statement bodies, `for`, `switch`,
`def`, `delay`, `let`, `include`, io declarations.

`sema_total_partial`: for every program all of whose statements are in the fragment and every
`fuel ≥ fuelFor p` (an explicit structural bound), `analyzeWith fuel p` returns `.ok`.
-/
import Oq3.Props.C03TotalStep

namespace Oq3.Sema
open Oq3.Types Oq3.Symbols Oq3.Props

def costIndexOp : Ast.IndexOperator → Nat
  | .mk _ (some (.expressionList (.mk _ es))) => es.length + 5
  | _ => 0

def costIndexOps : List Ast.IndexOperator → Nat
  | [] => 1
  | ix :: r => costIndexOp ix + costIndexOps r + 1

def costOperand : Ast.GateOperand → Nat
  | .indexedIdentifier (.mk _ _ ixs) => costIndexOps ixs + 2
  | _ => 1

def costOperands : List Ast.GateOperand → Nat
  | [] => 1
  | o :: r => costOperand o + costOperands r + 1

def suppArgList : Option Ast.ArgList → Bool
  | none => true
  | some (.mk _ (some (.mk _ es))) => es.all suppExpr
  | _ => false

def costArgList : Option Ast.ArgList → Nat
  | some (.mk _ (some (.mk _ es))) => es.length + 3
  | _ => 0

/-- `exprs().filter_map(..)` over fragment expressions -/
theorem exprsLoop_succ (es : List Ast.Expr) (h : es.all suppExpr = true) (fuel : Nat)
    (hf : es.length + 2 ≤ fuel) : Succ Any (exprsLoop fuel es) := by
  induction es generalizing fuel with
  | nil =>
    obtain ⟨f, rfl⟩ : ∃ f, fuel = f + 1 := ⟨fuel - 1, by omega⟩
    unfold exprsLoop; exact Succ.pure _ trivial
  | cons x rest ih =>
    simp only [List.length_cons] at hf
    obtain ⟨f, rfl⟩ : ∃ f, fuel = f + 2 := ⟨fuel - 2, by omega⟩
    simp only [List.all_cons, Bool.and_eq_true] at h
    exact exprsLoop_cons (exprToAsgTexpr_succ f x h.1) (ih h.2 (f + 1) (by omega))

theorem expressionListToAsgTexpr_succ (sp : Ast.Span) (es : List Ast.Expr)
    (h : es.all suppExpr = true) (fuel : Nat) (hf : es.length + 3 ≤ fuel) :
    Succ Any (expressionListToAsgTexpr fuel (.mk sp es)) := by
  obtain ⟨f, rfl⟩ : ∃ f, fuel = f + 1 := ⟨fuel - 1, by omega⟩
  unfold expressionListToAsgTexpr
  exact exprsLoop_succ es h f (by omega)

theorem indexOperatorToAsgType_succ (io : Ast.IndexOperator) (h : suppIndexOp io = true)
    (fuel : Nat) (hf : costIndexOp io ≤ fuel) : Succ Any (indexOperatorToAsgType fuel io) := by
  unfold suppIndexOp at h
  split at h
  · rename_i s sp es
    simp only [costIndexOp] at hf
    obtain ⟨f, rfl⟩ : ∃ f, fuel = f + 2 := ⟨fuel - 2, by omega⟩
    refine indexOperator_list ?_
    unfold expressionListToAsgType
    exact expressionListToAsgTexpr_succ sp es h f (by omega)
  · simp at h

theorem indexOperatorsLoop_succ (ixs : List Ast.IndexOperator) (h : ixs.all suppIndexOp = true)
    (fuel : Nat) (hf : costIndexOps ixs ≤ fuel) : Succ Any (indexOperatorsLoop fuel ixs) := by
  induction ixs generalizing fuel with
  | nil =>
    simp only [costIndexOps] at hf
    obtain ⟨f, rfl⟩ : ∃ f, fuel = f + 1 := ⟨fuel - 1, by omega⟩
    unfold indexOperatorsLoop; exact Succ.pure _ trivial
  | cons ix rest ih =>
    simp only [costIndexOps] at hf
    obtain ⟨f, rfl⟩ : ∃ f, fuel = f + 1 := ⟨fuel - 1, by omega⟩
    simp only [List.all_cons, Bool.and_eq_true] at h
    exact indexOperatorsLoop_cons (indexOperatorToAsgType_succ ix h.1 f (by omega)) (ih h.2 f (by omega))

theorem gateOperandToAsgTexpr_succ (op : Ast.GateOperand) (h : suppOperand op = true)
    (fuel : Nat) (hf : costOperand op ≤ fuel) : Succ Any (gateOperandToAsgTexpr fuel op) := by
  obtain ⟨f, rfl⟩ : ∃ f, fuel = f + 1 := ⟨fuel - 1, by unfold costOperand at hf; split at hf <;> omega⟩
  refine gateOperand_step (fun ii hii => ?_)
  subst hii
  obtain ⟨s, i, ixs⟩ := ii
  cases i with
  | none => simp [suppOperand] at h
  | some i =>
    simp only [suppOperand] at h
    simp only [costOperand] at hf
    obtain ⟨f', rfl⟩ : ∃ f', f = f' + 1 := ⟨f - 1, by omega⟩
    exact indexedIdentifier_step (indexOperatorsLoop_succ ixs h f' (by omega))

theorem gateOperandsLoop_succ (ops : List Ast.GateOperand) (h : ops.all suppOperand = true)
    (fuel : Nat) (hf : costOperands ops ≤ fuel) : Succ Any (gateOperandsLoop fuel ops) := by
  induction ops generalizing fuel with
  | nil =>
    simp only [costOperands] at hf
    obtain ⟨f, rfl⟩ : ∃ f, fuel = f + 1 := ⟨fuel - 1, by omega⟩
    unfold gateOperandsLoop; exact Succ.pure _ trivial
  | cons o rest ih =>
    simp only [costOperands] at hf
    obtain ⟨f, rfl⟩ : ∃ f, fuel = f + 1 := ⟨fuel - 1, by omega⟩
    simp only [List.all_cons, Bool.and_eq_true] at h
    exact gateOperandsLoop_cons (gateOperandToAsgTexpr_succ o h.1 f (by omega)) (ih h.2 f (by omega))

theorem qubitListToAsgTexpr_succ (s : Ast.Span) (ops : List Ast.GateOperand)
    (h : ops.all suppOperand = true) (fuel : Nat) (hf : costOperands ops + 1 ≤ fuel) :
    Succ Any (qubitListToAsgTexpr fuel (some (.mk s ops))) := by
  obtain ⟨f, rfl⟩ : ∃ f, fuel = f + 1 := ⟨fuel - 1, by omega⟩
  exact qubitList_step (gateOperandsLoop_succ ops h f (by omega))

theorem gateCallExprToAsgStmt_succ (span s : Ast.Span) (ops : List Ast.GateOperand)
    (al : Option Ast.ArgList) (id : Ast.Identifier) (mods : List GateModifier)
    (hops : ops.all suppOperand = true) (hal : suppArgList al = true) (fuel : Nat)
    (hf : costOperands ops + costArgList al + 2 ≤ fuel) :
    Succ SomeNotAnn (gateCallExprToAsgStmt fuel (.mk span (some (.mk s ops)) al (some id)) mods) := by
  obtain ⟨f, rfl⟩ : ∃ f, fuel = f + 1 := ⟨fuel - 1, by omega⟩
  refine gateCall_step (qubitListToAsgTexpr_succ s ops hops f (by omega)) ?_
  unfold suppArgList at hal
  split at hal
  · exact .inl rfl
  · rename_i sa se es
    simp only [costArgList] at hf
    exact .inr ⟨_, _, rfl, expressionListToAsgTexpr_succ se es hal f (by omega)⟩
  · simp at hal

mutual
/-- **the fragment** (see the header of this file) -/
def suppStmt : Ast.Stmt → Bool
  | .classicalDeclarationStatement _ false (some st) _ (some _) e =>
    suppScalarType st && (match e with | none => true | some e => suppExpr e)
  | .quantumDeclarationStatement _ (some _) _ (some qt) => suppDesignator qt.designator
  | .quantumDeclarationStatement _ none (some _) _ => true
  | .gate _ (some _) _ (some _) b => suppOptBlock b
  | .exprStmt _ (some (.gateCallExpr (.mk _ (some (.mk _ ops)) al (some _)))) =>
    ops.all suppOperand && suppArgList al
  | .exprStmt _ (some (.measureExpression _ (some op))) => suppOperand op
  | .reset _ (some op) => suppOperand op
  | .barrier _ (some (.mk _ ops)) => ops.all suppOperand
  | .assignmentStmt _ (some _) (some e) _ => suppExpr e
  | .ifStmt _ (some c) t f => suppExpr c && (suppAccBos t && suppOptBos f)
  | .whileStmt _ (some c) t => suppExpr c && suppAccBos t
  | .breakStmt _ | .continueStmt _ | .endStmt _ | .pragmaStatement .. | .annotationStatement .. => true
  | _ => false
def suppBlock : Ast.BlockExpr → Bool
  | .mk _ ss => suppStmts ss
def suppStmts : List Ast.Stmt → Bool
  | [] => true
  | s :: ss => suppStmt s && suppStmts ss
def suppOptBlock : Option Ast.BlockExpr → Bool
  | some b => suppBlock b
  | none => false
def suppBos : Ast.BlockOrStmt → Bool
  | .blockExpr b => suppBlock b
  | .stmt _ => false
def suppAccBos : Ast.Acc Ast.BlockOrStmt → Bool
  | .ok b => suppBos b
  | .panicked => false
def suppOptBos : Option Ast.BlockOrStmt → Bool
  | none => true
  | some b => suppBos b
end

mutual
/-- fuel that suffices for `stmtToAsgStmt` on a fragment statement -/
def needStmt : Ast.Stmt → Nat
  | .classicalDeclarationStatement .. => 3
  | .gate _ _ _ _ b => needOptBlock b + 3
  | .exprStmt _ (some (.gateCallExpr (.mk _ (some (.mk _ ops)) al _))) =>
    costOperands ops + costArgList al + 4
  | .exprStmt _ (some (.measureExpression _ (some op))) => costOperand op + 3
  | .reset _ (some op) => costOperand op + 1
  | .barrier _ (some (.mk _ ops)) => costOperands ops + 2
  | .assignmentStmt .. => 3
  | .ifStmt _ _ t f => needAccBos t + needOptBos f + 2
  | .whileStmt _ _ t => needAccBos t + 2
  | _ => 1
def needBlock : Ast.BlockExpr → Nat
  | .mk _ ss => needStmts ss + 2
def needStmts : List Ast.Stmt → Nat
  | [] => 1
  | s :: ss => needStmt s + needStmts ss + 1
def needOptBlock : Option Ast.BlockExpr → Nat
  | some b => needBlock b
  | none => 0
def needBos : Ast.BlockOrStmt → Nat
  | .blockExpr b => needBlock b + 1
  | .stmt _ => 0
def needAccBos : Ast.Acc Ast.BlockOrStmt → Nat
  | .ok b => needBos b
  | .panicked => 0
def needOptBos : Option Ast.BlockOrStmt → Nat
  | none => 0
  | some b => needBos b
end


theorem needStmt_pos (st : Ast.Stmt) : 1 ≤ needStmt st := by
  unfold needStmt; split <;> omega

theorem needStmts_pos (ss : List Ast.Stmt) : 1 ≤ needStmts ss := by
  cases ss <;> simp only [needStmts] <;> omega

structure AllSucc (fuel : Nat) : Prop where
  stmt : ∀ st, suppStmt st = true → needStmt st ≤ fuel → Succ NotAnn (stmtToAsgStmt fuel st)
  loop : ∀ ss, suppStmts ss = true → needStmts ss ≤ fuel → Succ Any (stmtsLoop fuel ss)
  list : ∀ b, suppBlock b = true → needBlock b ≤ fuel + 1 → Succ Any (blockExprToAsgStmtList fuel b)
  blockT : ∀ b, suppBlock b = true → needBlock b ≤ fuel → Succ Any (blockExprToAsgType fuel b)
  bos : ∀ b, suppBos b = true → needBos b ≤ fuel → Succ Any (blockOrStmtToAsgType fuel b)

theorem loop_step (fuel : Nat) (ih : AllSucc fuel) (ss : List Ast.Stmt) (hs : suppStmts ss = true)
    (hf : needStmts ss ≤ fuel + 1) : Succ Any (stmtsLoop (fuel + 1) ss) := by
  cases ss with
  | nil => unfold stmtsLoop; exact Succ.pure _ trivial
  | cons s rest =>
    simp only [suppStmts, Bool.and_eq_true] at hs
    simp only [needStmts] at hf
    exact stmtsLoop_cons (ih.stmt s hs.1 (by omega)) (ih.loop rest hs.2 (by omega))

theorem list_step (fuel : Nat) (ih : AllSucc fuel) (b : Ast.BlockExpr) (hs : suppBlock b = true)
    (hf : needBlock b ≤ fuel + 2) : Succ Any (blockExprToAsgStmtList (fuel + 1) b) := by
  cases b with
  | mk sp ss =>
    simp only [suppBlock] at hs
    simp only [needBlock] at hf
    unfold blockExprToAsgStmtList
    exact ih.loop ss hs (by omega)

theorem blockT_step (fuel : Nat) (ih : AllSucc fuel) (b : Ast.BlockExpr) (hs : suppBlock b = true)
    (hf : needBlock b ≤ fuel + 1) : Succ Any (blockExprToAsgType (fuel + 1) b) := by
  unfold blockExprToAsgType
  exact Succ.bindAny (ih.list b hs hf) (fun _ => Succ.pure _ trivial)

theorem bos_step (fuel : Nat) (ih : AllSucc fuel) (b : Ast.BlockOrStmt) (hs : suppBos b = true)
    (hf : needBos b ≤ fuel + 1) : Succ Any (blockOrStmtToAsgType (fuel + 1) b) := by
  cases b with
  | blockExpr bl =>
    simp only [suppBos] at hs
    simp only [needBos] at hf
    unfold blockOrStmtToAsgType
    exact ih.blockT bl hs (by omega)
  | stmt st => simp [suppBos] at hs

theorem stmt_step (fuel : Nat) (ih : AllSucc fuel) (st : Ast.Stmt) (hs : suppStmt st = true)
    (hf : needStmt st ≤ fuel + 1) : Succ NotAnn (stmtToAsgStmt (fuel + 1) st) := by
  unfold suppStmt at hs
  split at hs
  · -- classical declaration
    rename_i sp st' c nm e
    simp only [needStmt] at hf
    simp only [Bool.and_eq_true] at hs
    obtain ⟨f, rfl⟩ : ∃ f, fuel = f + 2 := ⟨fuel - 2, by omega⟩
    refine (stmt_classicalDeclaration ?_).notAnn
    cases e with
    | none => exact classicalDeclaration_step hs.1 (exprToAsgTexpr_none f)
    | some e => exact classicalDeclaration_step hs.1 (exprToAsgTexpr_succ f e hs.2)
  · exact (stmt_qubit hs).notAnn
  · exact stmt_hardwareQubit.notAnn
  · -- gate definition
    rename_i sp nm ap qp b
    simp only [needStmt] at hf
    cases b with
    | none => simp [suppOptBlock] at hs
    | some body =>
      simp only [suppOptBlock] at hs
      simp only [needOptBlock] at hf
      exact (stmt_gate (ih.blockT _ hs (by omega))).notAnn
  · -- gate call
    rename_i sp sg sq ops al id
    simp only [needStmt] at hf
    simp only [Bool.and_eq_true] at hs
    obtain ⟨f, rfl⟩ : ∃ f, fuel = f + 1 := ⟨fuel - 1, by omega⟩
    unfold stmtToAsgStmt exprStmtToAsgStmt
    exact (gateCallExprToAsgStmt_succ sg sq ops al id [] hs.1 hs.2 f (by omega)).notAnn
  · -- measure op;
    rename_i sp sm op
    simp only [needStmt] at hf
    obtain ⟨f, rfl⟩ : ∃ f, fuel = f + 2 := ⟨fuel - 2, by omega⟩
    unfold stmtToAsgStmt
    exact (exprStmt_expr (exprToAsgTexpr_measure (gateOperandToAsgTexpr_succ op hs f (by omega)))
      nofun nofun nofun).notAnn
  · -- reset
    simp only [needStmt] at hf
    exact (stmt_reset (gateOperandToAsgTexpr_succ _ hs fuel (by omega))).notAnn
  · -- barrier
    rename_i sp sq ops
    simp only [needStmt] at hf
    exact (stmt_barrier (qubitListToAsgTexpr_succ sq ops hs fuel (by omega))).notAnn
  · -- assignment
    rename_i sp id e ii
    simp only [needStmt] at hf
    obtain ⟨f, rfl⟩ : ∃ f, fuel = f + 2 := ⟨fuel - 2, by omega⟩
    unfold stmtToAsgStmt
    exact (assignment_step (exprToAsgTexpr_succ f e hs)).notAnn
  · -- if
    rename_i sp c t f
    simp only [needStmt] at hf
    simp only [Bool.and_eq_true] at hs
    obtain ⟨hc, ht, hfb⟩ := hs
    obtain ⟨f', rfl⟩ : ∃ f', fuel = f' + 1 := ⟨fuel - 1, by omega⟩
    cases t with
    | panicked => simp [suppAccBos] at ht
    | ok tb =>
      simp only [suppAccBos] at ht
      simp only [needAccBos] at hf
      refine (stmt_if (exprToAsgTexpr_succ f' c hc) (ih.bos tb ht (by omega)) (fun eb he => ?_)).notAnn
      subst he
      simp only [suppOptBos] at hfb
      simp only [needOptBos] at hf
      exact ih.bos eb hfb (by omega)
  · -- while
    rename_i sp c t
    simp only [needStmt] at hf
    simp only [Bool.and_eq_true] at hs
    obtain ⟨f', rfl⟩ : ∃ f', fuel = f' + 1 := ⟨fuel - 1, by omega⟩
    cases t with
    | panicked => simp [suppAccBos] at hs
    | ok tb =>
      simp only [suppAccBos] at hs
      simp only [needAccBos] at hf
      exact (stmt_while (exprToAsgTexpr_succ f' c hs.1) (ih.bos tb hs.2 (by omega))).notAnn
  · unfold stmtToAsgStmt; exact Succ.pure _ (by not_ann)
  · unfold stmtToAsgStmt; exact Succ.pure _ (by not_ann)
  · unfold stmtToAsgStmt; exact Succ.pure _ (by not_ann)
  · unfold stmtToAsgStmt; exact Succ.pure _ (by not_ann)
  · unfold stmtToAsgStmt
    exact Succ.bindAny (pushAnnotation_succ _) (fun _ => Succ.pure _ (by not_ann))
  · simp at hs

theorem allSucc (fuel : Nat) : AllSucc fuel := by
  induction fuel with
  | zero =>
    refine ⟨?_, ?_, ?_, ?_, ?_⟩
    · intro st _ hf; have := needStmt_pos st; omega
    · intro ss _ hf; have := needStmts_pos ss; omega
    · intro b _ hf; cases b with | mk sp ss => simp only [needBlock] at hf; have := needStmts_pos ss; omega
    · intro b _ hf; cases b with | mk sp ss => simp only [needBlock] at hf; omega
    · intro b hs hf
      cases b with
      | blockExpr bl => cases bl with | mk sp ss => simp only [needBos, needBlock] at hf; omega
      | stmt st => simp [suppBos] at hs
  | succ fuel ih =>
    exact ⟨stmt_step fuel ih, loop_step fuel ih, list_step fuel ih, blockT_step fuel ih, bos_step fuel ih⟩

theorem syntaxToSemanticLoop_succ (ss : List Ast.Stmt) (h : ∀ s ∈ ss, suppStmt s = true) (fuel : Nat)
    (hf : needStmts ss ≤ fuel) : Succ Any (syntaxToSemanticLoop fuel ss) := by
  induction ss generalizing fuel with
  | nil =>
    obtain ⟨f, rfl⟩ : ∃ f, fuel = f + 1 := ⟨fuel - 1, by simp only [needStmts] at hf; omega⟩
    unfold syntaxToSemanticLoop; exact Succ.pure _ trivial
  | cons st rest ih =>
    simp only [needStmts] at hf
    obtain ⟨f, rfl⟩ : ∃ f, fuel = f + 1 := ⟨fuel - 1, by omega⟩
    obtain ⟨hst, hrest⟩ := List.forall_mem_cons.mp h
    refine syntaxToSemanticLoop_cons (fun sp fp he => ?_) ((allSucc f).stmt st hst (by omega))
      (ih hrest f (by omega))
    subst he
    simp [suppStmt] at hst

def fuelFor (p : Ast.Program) : Nat := needStmts p.statements

end Oq3.Sema

namespace Oq3.Props.C03
open Oq3 Oq3.Sema Oq3.Types Oq3.Symbols

/-- **C03 on the fragment**: a program all of whose statements are in the syntactic fragment
`suppStmt` is analysed without panic, for every fuel from the explicit bound `fuelFor p` on -/
theorem sema_total_partial (p : Ast.Program) (h : ∀ s ∈ p.statements, suppStmt s = true)
    (fuel : Nat) (hf : fuelFor p ≤ fuel) : ∃ c, analyzeWith fuel p = .ok c := by
  refine analyzeWith_ok (parseIncludedFiles_false _ (fun sp fp hm => ?_) _)
    (syntaxToSemanticLoop_succ p.statements h fuel hf)
  have := h _ hm
  simp [suppStmt] at this

theorem sema_total_partial' (p : Ast.Program) (h : ∀ s ∈ p.statements, suppStmt s = true) :
    ∃ c, analyzeWith (fuelFor p) p = .ok c :=
  sema_total_partial p h _ (Nat.le_refl _)


/-- the default fuel of the model is enough whenever it dominates the structural bound (it does on
every program tried; the inequality itself is decidable per program) -/
theorem sema_total_partial_default (p : Ast.Program) (h : ∀ s ∈ p.statements, suppStmt s = true)
    (hd : fuelFor p ≤ defaultFuel p) : ∃ c, analyze p = .ok c :=
  sema_total_partial p h _ hd

/-! ### non-vacuity: a closed program of the fragment -/

/-- `qubit[2] q; int[8] x = 3; gate g a { U(1, 2, 3) a; } if (x) { g q[0]; x = 4; } else { reset q; }
while (true) { break; } h q;` (ranges elided) -/
def exampleProgram : Ast.Program :=
  let sp : Ast.Span := ⟨0, 0⟩
  let lit (t : String) (v : Nat) : Ast.Expr := .literal ⟨sp, .intNumber t (some v)⟩
  let idn (n : String) : Ast.Identifier := ⟨sp, n⟩
  let call (g : String) (args : Option Ast.ArgList) (ops : List Ast.GateOperand) : Ast.Stmt :=
    .exprStmt sp (some (.gateCallExpr (.mk sp (some (.mk sp ops)) args (some (idn g)))))
  ⟨sp,
   [.quantumDeclarationStatement sp (some ⟨sp, "q"⟩) none
      (some ⟨sp, some (.mk sp (some (lit "2" 2)))⟩),
    .classicalDeclarationStatement sp false
      (some (.mk sp .int (some (.mk sp (some (lit "8" 8)))) none)) false (some ⟨sp, "x"⟩) (some (lit "3" 3)),
    .gate sp (some ⟨sp, "g"⟩) none (some ⟨sp, [⟨sp, "a"⟩]⟩)
      (some (.mk sp [call "U" (some (.mk sp (some (.mk sp [lit "1" 1, lit "2" 2, lit "3" 3]))))
        [.identifier (idn "a")]])),
    .ifStmt sp (some (.identifier (idn "x")))
      (.ok (.blockExpr (.mk sp
        [call "g" none [.indexedIdentifier (.mk sp (some (idn "q"))
            [.mk sp (some (.expressionList (.mk sp [lit "0" 0])))])],
         .assignmentStmt sp (some (idn "x")) (some (lit "4" 4)) none])))
      (some (.blockExpr (.mk sp [.reset sp (some (.identifier (idn "q")))]))),
    .whileStmt sp (some (.literal ⟨sp, .bool true⟩)) (.ok (.blockExpr (.mk sp [.breakStmt sp]))),
    call "h" none [.identifier (idn "q")]]⟩

theorem example_in_fragment : exampleProgram.statements.all suppStmt = true := by decide +kernel

theorem example_fuel : fuelFor exampleProgram ≤ defaultFuel exampleProgram := by decide +kernel

/-- the theorem applies to it … -/
theorem example_analyzes : ∃ c, analyze exampleProgram = .ok c :=
  sema_total_partial_default exampleProgram
    (fun s hs => List.all_eq_true.mp example_in_fragment s hs) example_fuel

/-- … and, independently, the kernel evaluates the run: it returns with one diagnostic
(`h` is not declared: `UndefGateError`) -/
theorem example_runs :
    (match analyze exampleProgram with
     | .ok c => c.semanticErrors.map (·.kind)
     | .error _ => []) = [.undefGateError] := by
  decide +kernel

end Oq3.Props.C03
