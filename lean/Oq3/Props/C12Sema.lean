/-
C12, semantic clause — every semantic diagnostic carries the range of a node of the analysed
file's typed AST.

`Ast.spans p` (`Props/C12SemaSpans.lean`) lists every range that occurs anywhere in the I5 tree of
`p`.  The invariant `ErrIn L x` ("on success `x` only appends diagnostics, each with a range of
`L`") holds for every function of the semantic model with `L ⊇` the ranges of the function's AST
argument(s): the non-recursive functions and the 25 functions of the mutual block are in the
generated `Props/C12SemaGen.lean` (`allErrIn`, induction on the fuel); this file adds the three
functions after the block and the property theorems.

* `errors_in_spans_*`: for every function of the block, AST, fuel and context — the diagnostics
  appended by a successful call have ranges of the argument's subtree.
* `semantic_error_ranges` (the property): `analyzeWith fuel p = .ok c →
  ∀ e ∈ c.semanticErrors, ⟨e.start, e.stop⟩ ∈ Ast.spans p`.  Only successful runs matter: a
  panicking run returns no diagnostics.
* `example_two_diagnostics`: a closed AST of two statements whose analysis succeeds with five
  diagnostics at four ranges, all of them ranges of the tree (`example_ranges_in_tree`; non-vacuity).
-/
import Oq3.Props.C12SemaGen

namespace Oq3.Sema
open Oq3.Types Oq3.Symbols

theorem parseIncludedFiles_errIn {L : List Ast.Span} (l : List Ast.Stmt) :
    ErrIn L (parseIncludedFiles l) := by
  induction l with
  | nil => unfold parseIncludedFiles; errin
  | cons st rest ih =>
    cases st <;> (unfold parseIncludedFiles; repeat' (first | with_reducible exact ih | errin_step))

theorem syntaxToSemanticLoop_errIn {L : List Ast.Span} (fuel : Nat) (l : List Ast.Stmt)
    (hL : Ast.stmtsSpans l ⊆ L) : ErrIn L (syntaxToSemanticLoop fuel l) := by
  induction l generalizing fuel with
  | nil => cases fuel <;> (unfold syntaxToSemanticLoop; errin)
  | cons st rest ih =>
    have hst : st.spans ⊆ L := fun x hx => hL (by simp [Ast.stmtsSpans, hx])
    have hrest : Ast.stmtsSpans rest ⊆ L := fun x hx => hL (by simp [Ast.stmtsSpans, hx])
    cases fuel with
    | zero => unfold syntaxToSemanticLoop; errin
    | succ fuel =>
      have ihh := ih fuel hrest
      have hs := (allErrIn fuel).stmtToAsgStmt
      clear hL hrest ih
      unfold syntaxToSemanticLoop
      repeat' (first | with_reducible exact ihh
                     | (with_reducible apply hs; span_side)
                     | errin_step)

theorem syntaxToSemantic_errIn (fuel : Nat) (p : Ast.Program) :
    ErrIn (Ast.spans p) (syntaxToSemantic fuel p) := by
  have hl : Ast.stmtsSpans p.statements ⊆ Ast.spans p :=
    fun x hx => by simp [Ast.spans, hx]
  have h1 := syntaxToSemanticLoop_errIn (L := Ast.spans p) fuel p.statements hl
  have h2 := parseIncludedFiles_errIn (L := Ast.spans p) p.statements
  clear hl
  unfold syntaxToSemantic
  repeat' (first | with_reducible exact h1 | with_reducible exact h2 | errin_step)

end Oq3.Sema

namespace Oq3.Props.C12Sema
open Oq3 Oq3.Sema Oq3.Types Oq3.Symbols

abbrev range (e : SemErr) : Ast.Span := ⟨e.start, e.stop⟩

theorem appended_in {L : List Ast.Span} {α} {x : M α} (h : ErrIn L x) (s : Ctx) (r : α × Ctx)
    (hr : x s = .ok r) :
    ∃ new, r.2.semanticErrors = s.semanticErrors ++ new ∧ ∀ e ∈ new, range e ∈ L :=
  h.run s r hr

/-- **statements**: the diagnostics appended by analysing a statement (any fuel, any context) carry
ranges of nodes of that statement -/
theorem errors_in_spans_stmt (fuel : Nat) (stmt : Ast.Stmt) (s : Ctx) (r : Option Stmt × Ctx)
    (h : stmtToAsgStmt fuel stmt s = .ok r) :
    ∃ new, r.2.semanticErrors = s.semanticErrors ++ new ∧ ∀ e ∈ new, range e ∈ stmt.spans :=
  appended_in ((allErrIn fuel).stmtToAsgStmt stmt stmt.spans (fun _ h => h)) s r h

theorem errors_in_spans_expr (fuel : Nat) (e : Option Ast.Expr) (s : Ctx) (r : Option TExpr × Ctx)
    (h : exprToAsgTexpr fuel e s = .ok r) :
    ∃ new, r.2.semanticErrors = s.semanticErrors ++ new ∧
      ∀ d ∈ new, range d ∈ Ast.optExprSpans e :=
  appended_in ((allErrIn fuel).exprToAsgTexpr e _ (fun _ h => h)) s r h

/-- **every function of the mutual block** (one field per function, each for all supersets `L` of
the ranges of its arguments) -/
theorem errors_in_spans_all (fuel : Nat) : AllErrIn fuel := allErrIn fuel

/-- **C12, semantic clause**: after a successful analysis every semantic diagnostic has the range
of a node of the analysed program's typed AST -/
theorem semantic_error_ranges (fuel : Nat) (p : Ast.Program) (c : Ctx)
    (h : analyzeWith fuel p = .ok c) : ∀ e ∈ c.semanticErrors, range e ∈ Ast.spans p := by
  unfold analyzeWith at h
  split at h
  · rename_i u c' hrun
    simp only [Except.ok.injEq] at h; subst h
    obtain ⟨new, he, hm⟩ := (syntaxToSemantic_errIn fuel p).run {} (u, c') hrun
    intro e hmem
    have : e ∈ new := by
      have h0 : ({} : Ctx).semanticErrors = [] := rfl
      rw [he, h0, List.nil_append] at hmem
      exact hmem
    exact hm e this
  · simp at h

theorem semantic_error_ranges_default (p : Ast.Program) (c : Ctx) (h : analyze p = .ok c) :
    ∀ e ∈ c.semanticErrors, range e ∈ Ast.spans p :=
  semantic_error_ranges _ p c h

/-! ### non-vacuity -/

/-- `int x = y; z q;` — an undeclared initializer (plus the ensuing type diagnostic at the
statement), an undeclared operand (plus operand kind) and an undeclared gate -/
def example2 : Ast.Program := ⟨⟨0, 15⟩,
  [.classicalDeclarationStatement ⟨0, 10⟩ false (some (.mk ⟨0, 3⟩ .int none none)) false
     (some ⟨⟨4, 5⟩, "x"⟩) (some (.identifier ⟨⟨8, 9⟩, "y"⟩)),
   .exprStmt ⟨11, 15⟩ (some (.gateCallExpr (.mk ⟨11, 14⟩
     (some (.mk ⟨13, 14⟩ [.identifier ⟨⟨13, 14⟩, "q"⟩])) none (some ⟨⟨11, 12⟩, "z"⟩))))]⟩

def errorTriples : Except Outcome Ctx → List (SemanticErrorKind × Nat × Nat)
  | .ok c => c.semanticErrors.map fun e => (e.kind, e.start, e.stop)
  | .error _ => []

theorem example_two_diagnostics :
    errorTriples (analyze example2) =
      [(.undefVarError, 8, 9), (.incompatibleTypesError, 0, 10), (.undefVarError, 13, 14),
       (.incompatibleTypesError, 13, 14), (.undefGateError, 11, 12)] := by
  decide +kernel

/-- … and every one of those ranges is a range of the tree, as the theorem says -/
theorem example_ranges_in_tree :
    ([⟨8, 9⟩, ⟨0, 10⟩, ⟨13, 14⟩, ⟨11, 12⟩] : List Ast.Span).all (fun sp => (Ast.spans example2).contains sp)
      = true := by
  decide +kernel

end Oq3.Props.C12Sema
