/-
C06 — the semantic graph preserves the program's structure, order and operators.

Model: `Oq3/Model/Sema.lean` (`M = StateT Ctx (Except Outcome)`, one fuel).  Every theorem is
about an arbitrary SUCCESSFUL run (`… c = .ok (r, c')`), for every fuel and every start context.

* `Skel`; `Asg.stmt` / `Asg.texpr` (skeleton of the graph); `expectedW nm` / `Ast.expr nm` (the
  expectation, computed from the AST alone, `nm` naming the binary operators): kinds, order,
  roles, operator identity, literal class; no types, no symbol ids; casts (explicit and implicit)
  and parentheses are transparent; a minus sign in front of a numeric literal belongs to it.
* `op_translation`, `op_translation_arith/_eq/_concat`, `op_translation_panics`,
  `witness_power_maps_to_concat` (finding F08b: `**` is stored as ConcatenationOp).
* `roles_preserved_*`: one inversion lemma per statement / expression kind — the ASG node's fields
  are the translations of the corresponding AST accessor results, run in the stated order and
  contexts (if/else, while, for, switch + cases, gate, def, gate call, modifiers, assignment,
  indexed identifiers / index operators, calls, expression lists, qubit operands, binary
  expressions, ranges, block-or-statement bodies).  For an indexed assignment the right-hand side
  is translated from SOME context: the checks between the two sides are not described.
* `block_order_preserved` (a block is the in-order `filterMap` of its statements' translations),
  `top_level_order_preserved`, `top_level_program`, `pending_annotations_attach`,
  `annotation_attached_to_following`, `pragma_verbatim`, `annotation_pushes`.
* `Frame`: no function of the translation touches `program`; symbols, diagnostics and
  pending annotations only grow (`Frame.closed`, through `Lemmas/SemaClosed.lean`; `topStmtM_frame`
  is what `top_level_program` and C17 use).
* `skeleton_preserved_stmt/_block/_expr/_top`, `skeleton_preserved`: the skeleton of what is
  produced is the expected skeleton with `**` read as concatenation (`astBinaryOpNameActual`;
  `actual_name_eq`: that is the only difference from the declarative `astBinaryOpName`).
  Proof: `Post` triples pushed through the 25-function mutual block (`AllSk`, `<fn>_sk_step`,
  induction on fuel).
* `witness_nested_annotation_leaks` (finding): an annotation inside a block is attached to the
  enclosing TOP-LEVEL statement, because only the top-level loop consumes pending annotations.

Known defect F07 (`true_body_block_or_stmt` / `false_body_block_or_stmt` of `if (c) a; else b;`
return the wrong nodes) lives in oq3_syntax, below this layer: the semantic pass consumes what the
accessors return, and so do these theorems (`roles_preserved_if` is about `trueBody` / `falseBody`
AS RETURNED).  The oracle `vf/oracle_sema_c.py` detects it from the spans of the I5 dump.
-/
import Oq3.Lemmas.SemaClosed
import Oq3.Lemmas.SemaInv

namespace Oq3.C06
open Oq3.Sema Oq3.Types Oq3.Symbols

theorem bind_ok {α β} (x : M α) (f : α → M β) (c : Ctx) (r : β × Ctx) :
    (x >>= f) c = .ok r ↔ ∃ a c1, x c = .ok (a, c1) ∧ f a c1 = .ok r :=
  M.bind_ok x f c r

@[simp] theorem exists2_eq {α β : Type} {a0 : α} {b0 : β} {Q : α → β → Prop} :
    (∃ a b, (a, b) = (a0, b0) ∧ Q a b) ↔ Q a0 b0 := by
  constructor
  · rintro ⟨_, _, h, q⟩; cases h; exact q
  · intro h; exact ⟨a0, b0, rfl, h⟩

theorem unwrap_ok_ex {α} (site : String) (o : Option α) (c : Ctx) (r : α × Ctx) :
    unwrap site o c = .ok r ↔ ∃ a, o = some a ∧ r = (a, c) := by
  cases o <;> simp [unwrap]

@[simp] theorem unwrap_some {α} (site : String) (a : α) : unwrap site (some a) = pure a := rfl
@[simp] theorem unwrap_none {α} (site : String) : unwrap site (none : Option α) = fail site := rfl

/-- Hoare triple with an exact pre-state: every successful run of `x` from `c` ends in `Q` -/
def Runs {α} (x : M α) (c : Ctx) (Q : α → Ctx → Prop) : Prop := ∀ a c', x c = .ok (a, c') → Q a c'

theorem Runs.bind {α β} {x : M α} {f : α → M β} {c : Ctx} {Q : β → Ctx → Prop}
    (h : ∀ a c1, x c = .ok (a, c1) → Runs (f a) c1 Q) : Runs (x >>= f) c Q := by
  intro b c' hb
  obtain ⟨a, c1, h1, h2⟩ := (bind_ok x f c (b, c')).mp hb
  exact h a c1 h1 b c' h2

theorem Runs.pure {α} {a : α} {c : Ctx} {Q : α → Ctx → Prop} (h : Q a c) : Runs (pure a) c Q := by
  intro b c' hb
  simp at hb; obtain ⟨rfl, rfl⟩ := hb; exact h

theorem Runs.fail {α} {site : String} {c : Ctx} {Q : α → Ctx → Prop} : Runs (fail site) c Q := by
  intro b c' hb; simp at hb

theorem Runs.of_run {α} {x : M α} {c : Ctx} {Q : α → Ctx → Prop} (h : ∀ a c', x c = .ok (a, c') → Q a c') :
    Runs x c Q := h

/-- the common skeleton: a labelled rose tree.  The label is the kind (with operator identity and
literal class), the children are the roles in a fixed order. -/
inductive Skel
  | node (label : String) (children : List Skel)
  deriving Repr, Inhabited

namespace Skel
def leaf (l : String) : Skel := .node l []
/-- an optional role -/
def opt : Option Skel → Skel
  | none => leaf "_"
  | some s => s
end Skel
open Skel

def arithOpName : Types.ArithOp → String
  | .add => "Add" | .sub => "Sub" | .mul => "Mul" | .div => "Div" | .mod => "Mod" | .rem => "Rem"
  | .shl => "Shl" | .shr => "Shr" | .bitXOr => "BitXor" | .bitOr => "BitOr" | .bitAnd => "BitAnd"

def binaryOpName : Sema.BinaryOp → String
  | .arithOp a => "Arith." ++ arithOpName a
  | .cmpOp .eq => "Cmp.Eq"
  | .cmpOp .neq => "Cmp.Neq"
  | .concatenationOp => "Concat"
  | .powerOp => "Power"

def unaryOpName : Sema.UnaryOp → String
  | .minus => "Minus" | .not => "Not" | .bitNot => "BitNot"

def timeUnitName : Sema.TimeUnit → String
  | .second => "Second" | .milliSecond => "MilliSecond" | .microSecond => "MicroSecond"
  | .nanoSecond => "NanoSecond" | .cycle => "Cycle"

def signName : Bool → String
  | true => "" | false => ".neg"

def intLabel (base : String) (sign : Bool) : String := base ++ signName sign

def timingLabel (base : String) (sign : Bool) (u : Sema.TimeUnit) : String :=
  base ++ signName sign ++ "." ++ timeUnitName u

/-- literal class: constructor, sign of integers, unit of timing literals (values are C10's) -/
def literalClass : Sema.Literal → String
  | .bool _ => "Bool"
  | .int _ s => intLabel "Int" s
  | .float _ => "Float"
  | .imaginaryInt _ s => intLabel "ImInt" s
  | .imaginaryFloat _ => "ImFloat"
  | .bitString _ => "BitString"
  | .timingIntLiteral _ s u => timingLabel "TimingInt" s u
  | .timingFloatLiteral _ s u => timingLabel "TimingFloat" s u
  | .array => "Array"

mutual
def Asg.texpr : TExpr → Skel
  | .mk e _ => Asg.expr e
def Asg.expr : Sema.Expr → Skel
  | .binaryExpr op l r => .node ("Bin." ++ binaryOpName op) [Asg.texpr l, Asg.texpr r]
  | .unaryExpr op e => .node ("Un." ++ unaryOpName op) [Asg.texpr e]
  | .literal l => leaf ("Lit." ++ literalClass l)
  | .cast e _ => Asg.texpr e
  | .identifier _ => leaf "Ident"
  | .hardwareQubit _ => leaf "HwQubit"
  | .indexExpression e ix => .node "IndexExpr" [Asg.texpr e, Asg.indexOp ix]
  | .indexedIdentifier ii => Asg.indexedIdent ii
  | .gateOperand g => .node "GateOperand" [Asg.gateOperand g]
  | .returnExpr v => .node "Return" [Asg.optTexpr v]
  | .subroutineCall _ ps => .node "Call" [Asg.optArgs ps]
  | .measureExpression e => .node "Measure" [Asg.texpr e]
  | .setExpression es => .node "Set" (Asg.texprs es)
  | .rangeExpression a b c => .node "Range" [Asg.texpr a, Asg.optTexpr b, Asg.texpr c]
  | .nullExpr => leaf "NullExpr"
def Asg.optTexpr : Option TExpr → Skel
  | none => leaf "_"
  | some e => Asg.texpr e
def Asg.optArgs : Option (List TExpr) → Skel
  | none => leaf "_"
  | some ps => .node "Args" (Asg.texprs ps)
def Asg.texprs : List TExpr → List Skel
  | [] => []
  | e :: es => Asg.texpr e :: Asg.texprs es
def Asg.indexOp : Sema.IndexOperator → Skel
  | .setExpression es => .node "IxSet" (Asg.texprs es)
  | .expressionList es => .node "IxList" (Asg.texprs es)
def Asg.indexOps : List Sema.IndexOperator → List Skel
  | [] => []
  | i :: is => Asg.indexOp i :: Asg.indexOps is
def Asg.indexedIdent : Sema.IndexedIdentifier → Skel
  | .mk _ ixs => .node "IndexedIdent" (Asg.indexOps ixs)
def Asg.gateOperand : Sema.GateOperand → Skel
  | .identifier _ => leaf "Ident"
  | .hardwareQubit _ => leaf "HwQubit"
  | .indexedIdentifier ii => Asg.indexedIdent ii
end

def Asg.modifier : GateModifier → Skel
  | .inv => leaf "Inv"
  | .pow e => .node "Pow" [Asg.texpr e]
  | .ctrl e => .node "Ctrl" [Asg.optTexpr e]
  | .negCtrl e => .node "NegCtrl" [Asg.optTexpr e]

def Asg.modifiers : List GateModifier → List Skel
  | [] => []
  | m :: ms => Asg.modifier m :: Asg.modifiers ms

def Asg.lvalue : LValue → Skel
  | .identifier _ => leaf "LIdent"
  | .indexedIdentifier ii => .node "LIndexed" [Asg.indexedIdent ii]

def Asg.forIterable : Sema.ForIterable → Skel
  | .setExpression es => .node "IterSet" (Asg.texprs es)
  | .rangeExpression a b c => .node "IterRange" [Asg.texpr a, Asg.optTexpr b, Asg.texpr c]
  | .expr e => .node "IterExpr" [Asg.texpr e]

def Asg.optQubits : Option (List TExpr) → Skel
  | none => leaf "_"
  | some qs => .node "Qubits" (Asg.texprs qs)

/-- declared symbols (parameters, qubits): only their number and position -/
def syms {α} (l : List α) : List Skel := l.map fun _ => leaf "Sym"

def optSyms {α} : Option (List α) → Skel
  | none => leaf "_"
  | some ps => .node "Params" (syms ps)

mutual
def Asg.stmt : Sema.Stmt → Skel
  | .alias _ rhs => .node "Alias" [Asg.texpr rhs]
  | .annotatedStmt s anns => .node "Annotated" [Asg.stmt s, .node "Annotations" (anns.map leaf)]
  | .assignment lv rv => .node "Assignment" [Asg.lvalue lv, Asg.texpr rv]
  | .barrier qs => .node "Barrier" [Asg.optQubits qs]
  | .block b => .node "BlockStmt" (Asg.block b)
  | .box => leaf "Box"
  | .breakStmt => leaf "Break"
  | .cal => leaf "Cal"
  | .continueStmt => leaf "Continue"
  | .declareClassical _ init => .node "DeclareClassical" [Asg.optTexpr init]
  | .declareQuantum _ => leaf "DeclareQuantum"
  | .declareHardwareQubit _ => leaf "DeclareHardwareQubit"
  | .defStmt _ params b _ => .node "DefStmt" [.node "Params" (syms params), .node "Body" (Asg.block b)]
  | .defCal => leaf "DefCal"
  | .delay d qs => .node "Delay" [Asg.texpr d, .node "Qubits" (Asg.texprs qs)]
  | .endStmt => leaf "End"
  | .exprStmt e => .node "ExprStmt" [Asg.texpr e]
  | .extern => leaf "Extern"
  | .forStmt _ it b => .node "For" [Asg.forIterable it, .node "Body" (Asg.block b)]
  | .gPhaseCall a => .node "GPhaseCall" [Asg.texpr a]
  | .gateCall _ ps qs ms => .node "GateCall"
      [Asg.optArgs ps, .node "Qubits" (Asg.texprs qs), .node "Modifiers" (Asg.modifiers ms)]
  | .gateDefinition _ ps qs b => .node "GateDefinition"
      [optSyms ps, .node "Qubits" (syms qs), .node "Body" (Asg.block b)]
  | .inputDeclaration _ => leaf "InputDeclaration"
  | .outputDeclaration _ => leaf "OutputDeclaration"
  | .ifStmt c t e => .node "If" [Asg.texpr c, .node "Then" (Asg.block t), Asg.optElse e]
  | .includeStmt _ => leaf "Include"
  | .modifiedGPhaseCall a ms => .node "ModifiedGPhaseCall" [Asg.texpr a, .node "Modifiers" (Asg.modifiers ms)]
  | .nullStmt => leaf "NullStmt"
  | .oldStyleDeclaration => leaf "OldStyleDeclaration"
  | .pragma t => .node "Pragma" [leaf t]
  | .reset g => .node "Reset" [Asg.texpr g]
  | .switchCaseStmt c cs d => .node "Switch" [Asg.texpr c, .node "Cases" (Asg.cases cs), Asg.optDefault d]
  | .whileStmt c b => .node "While" [Asg.texpr c, .node "Body" (Asg.block b)]
def Asg.stmts : List Sema.Stmt → List Skel
  | [] => []
  | s :: ss => Asg.stmt s :: Asg.stmts ss
def Asg.block : Sema.Block → List Skel
  | .mk ss => Asg.stmts ss
def Asg.optElse : Option Sema.Block → Skel
  | none => leaf "NoElse"
  | some b => .node "Else" (Asg.block b)
def Asg.optDefault : Option (List Sema.Stmt) → Skel
  | none => leaf "NoDefault"
  | some ss => .node "Default" (Asg.stmts ss)
def Asg.case : Sema.CaseExpr → Skel
  | .mk vs ss => .node "Case" [.node "Values" (Asg.texprs vs), .node "Body" (Asg.stmts ss)]
def Asg.cases : List Sema.CaseExpr → List Skel
  | [] => []
  | c :: cs => Asg.case c :: Asg.cases cs
end

abbrev Asg.skel (p : List Sema.Stmt) : List Skel := Asg.stmts p

def astArithOpName : Ast.ArithOp → String
  | .add => "Add" | .mul => "Mul" | .sub => "Sub" | .div => "Div" | .rem => "Rem" | .shl => "Shl"
  | .shr => "Shr" | .bitXor => "BitXor" | .bitOr => "BitOr" | .bitAnd => "BitAnd"

/-- the operator a source operator SHOULD become (the declarative side of `op_translation`) -/
def astBinaryOpName : Ast.BinaryOp → String
  | .arithOp a => "Arith." ++ astArithOpName a
  | .cmpOp (.eq false) => "Cmp.Eq"
  | .cmpOp (.eq true) => "Cmp.Neq"
  | .cmpOp (.ord true true) => "Cmp.Lt"
  | .cmpOp (.ord true false) => "Cmp.Le"
  | .cmpOp (.ord false true) => "Cmp.Gt"
  | .cmpOp (.ord false false) => "Cmp.Ge"
  | .concatenationOp => "Concat"
  | .powerOp => "Power"
  | .logicOp .and => "Logic.And"
  | .logicOp .or => "Logic.Or"
  | .assignment none => "Assign"
  | .assignment (some a) => "Assign." ++ astArithOpName a

/-- the operator names the pass ACTUALLY produces: `**` is stored as concatenation (F08b) -/
def astBinaryOpNameActual : Ast.BinaryOp → String
  | .powerOp => "Concat"
  | op => astBinaryOpName op

def optOpName (nm : Ast.BinaryOp → String) : Option Ast.BinaryOp → String
  | some op => nm op
  | none => "?"

/-- class of a plain literal; `none` for a bit string whose `str()` is `None` (dropped by `?`) -/
def astLiteralClass (neg : Bool) : Ast.LiteralKind → Option String
  | .bool _ => some "Bool"
  | .intNumber _ _ => some (intLabel "Int" (!neg))
  | .floatNumber _ _ => some "Float"
  | .bitString text _ => (TokenExt.bitStringStr text).map fun _ => "BitString"
  | .byte => some "Byte" | .char => some "Char" | .string => some "String"

def astLiteral (neg : Bool) (l : Ast.Literal) : Option Skel :=
  (astLiteralClass neg l.kind).map fun c => leaf ("Lit." ++ c)

/-- class of a timing / imaginary literal (`time_unit()`, `literal()`) -/
def astTimingClass (neg : Bool) (u : Option TokenExt.TimeUnit) (l : Option Ast.Literal) : String :=
  match u, l with
  | some u, some l =>
    match timeUnitToAsg u, l.kind with
    | none, .intNumber _ _ => intLabel "ImInt" (!neg)
    | none, .floatNumber _ _ => "ImFloat"
    | some au, .intNumber _ _ => timingLabel "TimingInt" (!neg) au
    | some au, .floatNumber _ _ => timingLabel "TimingFloat" (!neg) au
    | _, _ => "?"
  | _, _ => "?"

/-- `op_kind()`, `expr()` of a prefix expression; `operand` = the skeleton of `expr()` -/
def prefixSk (op : Option Ast.UnaryOp) (e : Option Ast.Expr) (operand : Option Skel) : Option Skel :=
  match op, e with
  | some .neg, some (.literal l) => astLiteral true l
  | some .neg, some (.timingLiteral _ u _ l) => some (leaf ("Lit." ++ astTimingClass true u l))
  | some .neg, _ => some (.node "Un.Minus" [opt operand])
  | some .not, _ => some (.node "Un.BitNot" [opt operand])
  | some .logicNot, _ => some (.node "Un.Not" [opt operand])
  | none, _ => some (.node "Un.?" [opt operand])

mutual
/-- skeleton an expression should translate to; `none` = the translation yields no expression.
Parentheses and casts are transparent; a minus sign in front of a numeric literal is part of the
literal. -/
def Ast.expr (nm : Ast.BinaryOp → String) : Ast.Expr → Option Skel
  | .prefixExpr _ op e => prefixSk op e (Ast.optExpr nm e)
  | .parenExpr p => Ast.paren nm p
  | .binExpr _ op l r => some (.node ("Bin." ++ optOpName nm op) [opt (Ast.optExpr nm l), opt (Ast.optExpr nm r)])
  | .literal l => astLiteral false l
  | .timingLiteral _ u _ l => some (leaf ("Lit." ++ astTimingClass false u l))
  | .identifier _ => some (leaf "Ident")
  | .hardwareQubit _ => some (leaf "HwQubit")
  | .rangeExpr r => some (.node "Range" (Ast.range nm r))
  | .indexExpr _ e ix => some (.node "IndexExpr" [opt (Ast.optExpr nm e), Ast.optIndexOp nm ix])
  | .indexedIdentifier ii => some (Ast.indexedIdent nm ii)
  | .measureExpression _ g => some (.node "Measure" [.node "GateOperand" [Ast.optGateOperand nm g]])
  | .returnExpr _ e => some (.node "Return" [opt (Ast.optExpr nm e)])
  | .castExpression _ _ e => Ast.optExpr nm e
  | .callExpr _ al _ => some (.node "Call" [Ast.optArgList nm al])
  | .gateCallExpr _ => some (leaf "?")
  | .gPhaseCallExpr _ => some (leaf "?")
  | .modifiedGateCallExpr .. => some (leaf "?")
  | .unsupported .. => some (leaf "?")
def Ast.optExpr (nm : Ast.BinaryOp → String) : Option Ast.Expr → Option Skel
  | none => none
  | some e => Ast.expr nm e
/-- `filter_map`: expressions that translate to nothing are dropped, order kept -/
def Ast.exprs (nm : Ast.BinaryOp → String) : List Ast.Expr → List Skel
  | [] => []
  | e :: es => (Ast.expr nm e).toList ++ Ast.exprs nm es
def Ast.paren (nm : Ast.BinaryOp → String) : Ast.ParenExpr → Option Skel
  | .mk _ e => Ast.optExpr nm e
def Ast.range (nm : Ast.BinaryOp → String) : Ast.RangeExpr → List Skel
  | .mk _ a b c => [opt (Ast.optExpr nm a), opt (Ast.optExpr nm b), opt (Ast.optExpr nm c)]
def Ast.exprList (nm : Ast.BinaryOp → String) : Ast.ExpressionList → List Skel
  | .mk _ es => Ast.exprs nm es
def Ast.optExprList (nm : Ast.BinaryOp → String) : Option Ast.ExpressionList → List Skel
  | none => []
  | some el => Ast.exprList nm el
def Ast.setExpr (nm : Ast.BinaryOp → String) : Ast.SetExpression → List Skel
  | .mk _ el => Ast.optExprList nm el
def Ast.indexKind (nm : Ast.BinaryOp → String) : Option Ast.IndexKind → Skel
  | some (.setExpression s) => .node "IxSet" (Ast.setExpr nm s)
  | some (.expressionList el) => .node "IxList" (Ast.exprList nm el)
  | none => leaf "?"
def Ast.indexOp (nm : Ast.BinaryOp → String) : Ast.IndexOperator → Skel
  | .mk _ k => Ast.indexKind nm k
def Ast.optIndexOp (nm : Ast.BinaryOp → String) : Option Ast.IndexOperator → Skel
  | none => leaf "?"
  | some ix => Ast.indexOp nm ix
def Ast.indexOps (nm : Ast.BinaryOp → String) : List Ast.IndexOperator → List Skel
  | [] => []
  | i :: is => Ast.indexOp nm i :: Ast.indexOps nm is
def Ast.indexedIdent (nm : Ast.BinaryOp → String) : Ast.IndexedIdentifier → Skel
  | .mk _ _ ixs => .node "IndexedIdent" (Ast.indexOps nm ixs)
def Ast.gateOperand (nm : Ast.BinaryOp → String) : Ast.GateOperand → Skel
  | .hardwareQubit _ => leaf "HwQubit"
  | .identifier _ => leaf "Ident"
  | .indexedIdentifier ii => Ast.indexedIdent nm ii
def Ast.optGateOperand (nm : Ast.BinaryOp → String) : Option Ast.GateOperand → Skel
  | none => leaf "?"
  | some g => Ast.gateOperand nm g
def Ast.gateOperands (nm : Ast.BinaryOp → String) : List Ast.GateOperand → List Skel
  | [] => []
  | g :: gs => .node "GateOperand" [Ast.gateOperand nm g] :: Ast.gateOperands nm gs
def Ast.optQubitList (nm : Ast.BinaryOp → String) : Option Ast.QubitList → List Skel
  | none => []
  | some (.mk _ gs) => Ast.gateOperands nm gs
def Ast.optArgList (nm : Ast.BinaryOp → String) : Option Ast.ArgList → Skel
  | none => leaf "_"
  | some (.mk _ el) => .node "Args" (Ast.optExprList nm el)
def Ast.optParen (nm : Ast.BinaryOp → String) : Option Ast.ParenExpr → Skel
  | none => leaf "_"
  | some p => opt (Ast.paren nm p)
def Ast.modifier (nm : Ast.BinaryOp → String) : Ast.Modifier → Skel
  | .invModifier _ => leaf "Inv"
  | .powModifier _ p => .node "Pow" [Ast.optParen nm p]
  | .ctrlModifier _ p => .node "Ctrl" [Ast.optParen nm p]
  | .negCtrlModifier _ p => .node "NegCtrl" [Ast.optParen nm p]
def Ast.modifiers (nm : Ast.BinaryOp → String) : List Ast.Modifier → List Skel
  | [] => []
  | m :: ms => Ast.modifier nm m :: Ast.modifiers nm ms
def Ast.gateCall (nm : Ast.BinaryOp → String) : Ast.GateCallExpr → List Skel → Skel
  | .mk _ ql al _, ms => .node "GateCall"
      [Ast.optArgList nm al, .node "Qubits" (Ast.optQubitList nm ql), .node "Modifiers" ms]
def Ast.gphaseArg (nm : Ast.BinaryOp → String) : Option Ast.GPhaseCallExpr → Skel
  | some (.mk _ a) => opt (Ast.optExpr nm a)
  | none => leaf "?"
end

/-- an expression statement: gate calls (with modifiers), gphase calls, plain expressions -/
def Ast.exprStmt (nm : Ast.BinaryOp → String) : Option Ast.Expr → Skel
  | some (.gateCallExpr g) => Ast.gateCall nm g []
  | some (.modifiedGateCallExpr _ ms (some g) _) => Ast.gateCall nm g (Ast.modifiers nm ms)
  | some (.modifiedGateCallExpr _ ms none gp) =>
    .node "ModifiedGPhaseCall" [Ast.gphaseArg nm gp, .node "Modifiers" (Ast.modifiers nm ms)]
  | some (.gPhaseCallExpr gp) => .node "GPhaseCall" [Ast.gphaseArg nm (some gp)]
  | e => .node "ExprStmt" [opt (Ast.optExpr nm e)]

def Ast.designatorExpr (nm : Ast.BinaryOp → String) : Option Ast.Designator → Option Skel
  | some (.mk _ e) => Ast.optExpr nm e
  | none => none

def Ast.forIterableOf (nm : Ast.BinaryOp → String) (it : Ast.ForIterable) : Skel :=
  match it.setExpression with
  | some s => .node "IterSet" (Ast.setExpr nm s)
  | none =>
    match it.rangeExpr with
    | some r => .node "IterRange" (Ast.range nm r)
    | none =>
      match it.forIterableExpr with
      | some e => .node "IterExpr" [opt (Ast.expr nm e)]
      | none => leaf "?"

def Ast.forIterable (nm : Ast.BinaryOp → String) : Option Ast.ForIterable → Skel
  | none => leaf "?"
  | some it => Ast.forIterableOf nm it

def Ast.params : Option Ast.ParamList → Skel
  | none => leaf "_"
  | some l => .node "Params" (syms l.params)

def Ast.qubitParams : Option Ast.ParamList → List Skel
  | none => []
  | some l => syms l.params

def Ast.typedParams : Option Ast.TypedParamList → List Skel
  | none => []
  | some l => syms l.typedParams

def Ast.lvalue (nm : Ast.BinaryOp → String) (ident : Option Ast.Identifier)
    (ii : Option Ast.IndexedIdentifier) : Skel :=
  match ident with
  | some _ => leaf "LIdent"
  | none => .node "LIndexed" [match ii with | some ii => Ast.indexedIdent nm ii | none => leaf "?"]

mutual
/-- the skeleton of the ASG statement a source statement should become; `none` for the
statements that produce no ASG statement (include, annotation, version string) -/
def expectedW (nm : Ast.BinaryOp → String) : Ast.Stmt → Option Skel
  | .ifStmt _ c t e => some (.node "If" [opt (Ast.optExpr nm c), .node "Then" (accBody nm t), optElse nm e])
  | .whileStmt _ c b => some (.node "While" [opt (Ast.optExpr nm c), .node "Body" (accBody nm b)])
  | .forStmt _ _ _ it b => some (.node "For" [Ast.forIterable nm it, .node "Body" (accBody nm b)])
  | .switchCaseStmt _ c cs d =>
    some (.node "Switch" [opt (Ast.optExpr nm c), .node "Cases" (cases nm cs), optDefault nm d])
  | .classicalDeclarationStatement _ _ _ _ _ e => some (.node "DeclareClassical" [opt (Ast.optExpr nm e)])
  | .ioDeclarationStatement _ _ _ _ i => some (leaf (if i then "InputDeclaration" else "OutputDeclaration"))
  | .quantumDeclarationStatement _ n _ _ =>
    some (leaf (match n with | none => "DeclareHardwareQubit" | some _ => "DeclareQuantum"))
  | .assignmentStmt _ i rhs ii => some (.node "Assignment" [Ast.lvalue nm i ii, opt (Ast.optExpr nm rhs)])
  | .breakStmt _ => some (leaf "Break")
  | .continueStmt _ => some (leaf "Continue")
  | .endStmt _ => some (leaf "End")
  | .gate _ _ ap qp b => some (.node "GateDefinition"
      [Ast.params ap, .node "Qubits" (Ast.qubitParams qp), .node "Body" (optBlock nm b)])
  | .defStmt _ _ tp b _ => some (.node "DefStmt"
      [.node "Params" (Ast.typedParams tp), .node "Body" (optBlock nm b)])
  | .barrier _ ql => some (.node "Barrier" [.node "Qubits" (Ast.optQubitList nm ql)])
  | .delayStmt _ ql d => some (.node "Delay" [opt (Ast.designatorExpr nm d), .node "Qubits" (Ast.optQubitList nm ql)])
  | .reset _ g => some (.node "Reset" [.node "GateOperand" [Ast.optGateOperand nm g]])
  | .includeStmt .. => none
  | .exprStmt _ e => some (Ast.exprStmt nm e)
  | .versionString _ => none
  | .pragmaStatement _ t => some (.node "Pragma" [leaf t])
  | .annotationStatement .. => none
  | .aliasDeclarationStatement _ _ e => some (.node "Alias" [opt (Ast.optExpr nm e)])
  | .notImpl .. => some (leaf "NullStmt")
/-- a block holds exactly the translations of its statements, in order -/
def stmts (nm : Ast.BinaryOp → String) : List Ast.Stmt → List Skel
  | [] => []
  | s :: ss => (expectedW nm s).toList ++ stmts nm ss
def block (nm : Ast.BinaryOp → String) : Ast.BlockExpr → List Skel
  | .mk _ ss => stmts nm ss
def optBlock (nm : Ast.BinaryOp → String) : Option Ast.BlockExpr → List Skel
  | none => []
  | some b => block nm b
/-- a block-or-statement body is normalised to a block -/
def body (nm : Ast.BinaryOp → String) : Ast.BlockOrStmt → List Skel
  | .blockExpr b => block nm b
  | .stmt s => (expectedW nm s).toList
def accBody (nm : Ast.BinaryOp → String) : Ast.Acc Ast.BlockOrStmt → List Skel
  | .ok b => body nm b
  | .panicked => []
def optElse (nm : Ast.BinaryOp → String) : Option Ast.BlockOrStmt → Skel
  | none => leaf "NoElse"
  | some b => .node "Else" (body nm b)
def optDefault (nm : Ast.BinaryOp → String) : Option Ast.BlockExpr → Skel
  | none => leaf "NoDefault"
  | some b => .node "Default" (block nm b)
def cases (nm : Ast.BinaryOp → String) : List Ast.CaseExpr → List Skel
  | [] => []
  | (.mk _ el b) :: cs => .node "Case" [.node "Values" (Ast.optExprList nm el), .node "Body" (optBlock nm b)] :: cases nm cs
end

/-- **the declarative expectation**: `**` is the power operator -/
abbrev expected : Ast.Stmt → Option Skel := expectedW astBinaryOpName

abbrev Ast.skel (ss : List Ast.Stmt) : List Skel := stmts astBinaryOpName ss

example : expected (.whileStmt ⟨0,0⟩ (some (.identifier ⟨⟨0,0⟩, "c"⟩)) (.ok (.stmt (.breakStmt ⟨0,0⟩)))) =
  some (.node "While" [leaf "Ident", .node "Body" [leaf "Break"]]) := rfl

/-- every arithmetic operator maps to the operator of the same name -/
theorem op_translation_arith (a : Ast.ArithOp) (c : Ctx) :
    ∃ b, binaryOpToAsgType (.arithOp a) c = .ok (.arithOp b, c) ∧ arithOpName b = astArithOpName a := by
  cases a <;> exact ⟨_, rfl, rfl⟩

theorem op_translation_eq (c : Ctx) :
    binaryOpToAsgType (.cmpOp (.eq false)) c = .ok (.cmpOp .eq, c) ∧
    binaryOpToAsgType (.cmpOp (.eq true)) c = .ok (.cmpOp .neq, c) := ⟨rfl, rfl⟩

theorem op_translation_concat (c : Ctx) :
    binaryOpToAsgType .concatenationOp c = .ok (.concatenationOp, c) := rfl

/-- FINDING F08b: `**` is stored as the concatenation operator -/
theorem witness_power_maps_to_concat (c : Ctx) :
    binaryOpToAsgType .powerOp c = .ok (.concatenationOp, c) := rfl

/-- the operators every use of which is a `panic!` -/
theorem op_translation_panics (op : Ast.BinaryOp) (c : Ctx) :
    (∃ site, binaryOpToAsgType op c = .error (.panic site)) ↔
      (∃ l s, op = .cmpOp (.ord l s)) ∨ (∃ l, op = .logicOp l) ∨ (∃ a, op = .assignment a) := by
  cases op with
  | logicOp l => simp [binaryOpToAsgType, fail, throw, throwThe, MonadExceptOf.throw, StateT.lift, Except.bind, bind]
  | arithOp a => cases a <;> simp [binaryOpToAsgType, pure, StateT.pure, Except.pure]
  | cmpOp o =>
    cases o with
    | eq n => cases n <;> simp [binaryOpToAsgType, pure, StateT.pure, Except.pure]
    | ord l s => simp [binaryOpToAsgType, fail, throw, throwThe, MonadExceptOf.throw, StateT.lift, Except.bind, bind]
  | concatenationOp => simp [binaryOpToAsgType, pure, StateT.pure, Except.pure]
  | powerOp => simp [binaryOpToAsgType, pure, StateT.pure, Except.pure]
  | assignment a => simp [binaryOpToAsgType, fail, throw, throwThe, MonadExceptOf.throw, StateT.lift, Except.bind, bind]

/-- **operator translation**: whenever the translation of an operator succeeds, the context is
untouched and — except for `**` — the ASG operator is the one of the same name -/
theorem op_translation {op : Ast.BinaryOp} {c : Ctx} {r : BinaryOp} {c' : Ctx}
    (h : binaryOpToAsgType op c = .ok (r, c')) :
    c' = c ∧ (op ≠ .powerOp → binaryOpName r = astBinaryOpName op) := by
  cases op with
  | logicOp l => simp [binaryOpToAsgType] at h
  | arithOp a =>
    cases a <;> (simp only [binaryOpToAsgType, M.pure_ok] at h; cases h; exact ⟨rfl, fun _ => rfl⟩)
  | cmpOp o =>
    cases o with
    | eq n => cases n <;> (simp only [binaryOpToAsgType, M.pure_ok] at h; cases h; exact ⟨rfl, fun _ => rfl⟩)
    | ord l s => simp [binaryOpToAsgType] at h
  | concatenationOp => simp only [binaryOpToAsgType, M.pure_ok] at h; cases h; exact ⟨rfl, fun _ => rfl⟩
  | powerOp => simp only [binaryOpToAsgType, M.pure_ok] at h; cases h; exact ⟨rfl, fun h => absurd rfl h⟩
  | assignment a => simp [binaryOpToAsgType] at h

/-- what the else role is translated by -/
def elseM (fuel : Nat) (fb : Option Ast.BlockOrStmt) : M (Option Block) :=
  match fb with
  | some bors => do pure (some (← blockOrStmtToAsgType fuel bors))
  | none => pure none

theorem roles_preserved_if {fuel sp cond tb fb c r c'}
    (h : stmtToAsgStmt (fuel+1) (.ifStmt sp cond tb fb) c = .ok (r, c')) :
    ∃ b cond' thenB elseB c1 c2, tb = .ok b ∧
      exprToAsgTexpr fuel cond c = .ok (some cond', c1) ∧
      withScope .localS (blockOrStmtToAsgType fuel b) c1 = .ok (thenB, c2) ∧
      withScope .localS (elseM fuel fb) c2 = .ok (elseB, c') ∧
      r = some (.ifStmt cond' thenB elseB) := by
  unfold stmtToAsgStmt at h
  simp only [bind_ok, M.pure_ok, unwrap_ok_ex] at h
  obtain ⟨a, c1, h1, thenB, c2, h2, elseB, c3, h3, cond', _, ⟨_, rfl, h4⟩, h5⟩ := h
  cases h4; cases h5
  cases tb with
  | panicked => simp [withScope_ok, bind_ok] at h2
  | ok b =>
    refine ⟨b, cond', thenB, elseB, c1, c2, rfl, h1, ?_, h3, rfl⟩
    simpa [bind_ok] using h2

theorem roles_preserved_while {fuel sp cond body c r c'}
    (h : stmtToAsgStmt (fuel+1) (.whileStmt sp cond body) c = .ok (r, c')) :
    ∃ b cond' loopBody c1, body = .ok b ∧
      exprToAsgTexpr fuel cond c = .ok (some cond', c1) ∧
      withScope .localS (blockOrStmtToAsgType fuel b) c1 = .ok (loopBody, c') ∧
      r = some (.whileStmt cond' loopBody) := by
  unfold stmtToAsgStmt at h
  simp only [bind_ok, M.pure_ok, unwrap_ok_ex] at h
  obtain ⟨a, c1, h1, loopBody, c2, h2, cond', _, ⟨_, rfl, h4⟩, h5⟩ := h
  cases h4; cases h5
  cases body with
  | panicked => simp [withScope_ok, bind_ok] at h2
  | ok b =>
    refine ⟨b, cond', loopBody, c1, rfl, h1, ?_, rfl⟩
    simpa [bind_ok] using h2

/-- what the iterable role of a `for` is translated by (the three accessors, in the order the
pass consults them) -/
def forIterableM (fuel : Nat) (it : Ast.ForIterable) : M ForIterable :=
  match it.setExpression with
  | some s => do pure (ForIterable.setExpression (← setExpressionToAsgType fuel s))
  | none =>
    match it.rangeExpr with
    | some r => do
      let (start, step, stop) ← rangeExpressionToAsgType fuel r
      pure (ForIterable.rangeExpression start step stop)
    | none =>
      match it.forIterableExpr with
      | some e => do
        let e ← exprToAsgTexpr fuel (some e)
        let e ← unwrap "stmt_to_asg_stmt: ForStmt iterable expression unwrap() on None" e
        pure (ForIterable.expr e)
      | none => fail "stmt_to_asg_stmt: ForStmt unreachable!() no iterable"

theorem forStmt_eq (fuel : Nat) (sp : Ast.Span) (loopVar : Option Ast.Name)
    (scalarType : Option Ast.ScalarType) (forIterable : Option Ast.ForIterable)
    (body : Ast.Acc Ast.BlockOrStmt) :
    stmtToAsgStmt (fuel+1) (.forStmt sp loopVar scalarType forIterable body) = (do
      let v ← unwrap "stmt_to_asg_stmt: ForStmt loop_var() is None" loopVar
      let st ← unwrap "stmt_to_asg_stmt: ForStmt scalar_type() is None" scalarType
      let ty ← scalarTypeToType st false
      let it ← unwrap "stmt_to_asg_stmt: ForStmt for_iterable() is None" forIterable
      let iterable ← forIterableM fuel it
      let (id, loopBody) ← withScope .localS do
        let id ← newBinding v.text ty v.span
        let b ← match body with
          | .ok b => pure b
          | .panicked => fail "block_or_stmt: Error in oq3_syntax"
        let loopBody ← blockOrStmtToAsgType fuel b
        pure (id, loopBody)
      pure (some (.forStmt id iterable loopBody))) := by
  conv => lhs; unfold stmtToAsgStmt
  unfold forIterableM
  dsimp only
  congr 1; funext v; congr 1; funext st; congr 1; funext ty; congr 1; funext it
  -- the model has the rest of the statement inside every branch of the iterable
  cases it.setExpression with
  | some s => simp only [bind_assoc, pure_bind]; cases body <;> rfl
  | none =>
    cases it.rangeExpr with
    | some r => simp only [bind_assoc, pure_bind]; cases body <;> rfl
    | none => cases it.forIterableExpr <;> simp only [bind_assoc, pure_bind] <;> cases body <;> rfl

theorem roles_preserved_for {fuel sp loopVar scalarType forIterable body c r c'}
    (h : stmtToAsgStmt (fuel+1) (.forStmt sp loopVar scalarType forIterable body) c = .ok (r, c')) :
    ∃ v st it b ty iterable id loopBody c1 c2 c3 c4 c5,
      loopVar = some v ∧ scalarType = some st ∧ forIterable = some it ∧ body = .ok b ∧
      scalarTypeToType st false c = .ok (ty, c1) ∧
      forIterableM fuel it c1 = .ok (iterable, c2) ∧
      enterScope .localS c2 = .ok (⟨⟩, c3) ∧
      newBinding v.text ty v.span c3 = .ok (id, c4) ∧
      blockOrStmtToAsgType fuel b c4 = .ok (loopBody, c5) ∧
      exitScope c5 = .ok (⟨⟩, c') ∧
      r = some (.forStmt id iterable loopBody) := by
  rw [forStmt_eq] at h
  simp only [bind_ok, unwrap_ok_ex, withScope_ok, M.pure_ok] at h
  obtain ⟨v, _, ⟨_, rfl, h0⟩, st, _, ⟨_, rfl, h1⟩, ty, c1, h2, it, _, ⟨_, rfl, h3⟩, iterable, c2, hit,
    x, c6, ⟨c3, _, c5, he, ⟨id, c4, hn, hb⟩, hx, rfl⟩, hr⟩ := h
  cases h0; cases h1; cases h3; cases hr
  cases body with
  | panicked => simp [bind_ok] at hb
  | ok b =>
    simp only [bind_ok, M.pure_ok] at hb
    obtain ⟨_, _, hb0, loopBody, _, hb1, hb2⟩ := hb
    cases hb0; cases hb2
    exact ⟨v, st, it, b, ty, iterable, id, loopBody, c1, c2, c3, c4, c5, rfl, rfl, rfl, rfl, h2, hit,
      he, hn, hb1, hx, rfl⟩

/-- what the default role of a `switch` is translated by -/
def defaultM (fuel : Nat) (d : Option Ast.BlockExpr) : M (Option (List Stmt)) :=
  match d with
  | some block => do pure (some (← blockExprToAsgStmtList fuel block))
  | none => pure none

theorem roles_preserved_switch {fuel sp control caseExprs defaultBlock c r c'}
    (h : stmtToAsgStmt (fuel+1) (.switchCaseStmt sp control caseExprs defaultBlock) c = .ok (r, c')) :
    ∃ control' cases dflt c1 c2,
      exprToAsgTexpr fuel control c = .ok (some control', c1) ∧
      caseExprsLoop fuel caseExprs c1 = .ok (cases, c2) ∧
      withScope .localS (defaultM fuel defaultBlock) c2 = .ok (dflt, c') ∧
      r = some (.switchCaseStmt control' cases dflt) := by
  unfold stmtToAsgStmt at h
  simp only [bind_ok, M.pure_ok, unwrap_ok_ex] at h
  obtain ⟨a, c1, h1, cases, c2, h2, dflt, c3, h3, control', _, ⟨_, rfl, h4⟩, h5⟩ := h
  cases h4; cases h5
  exact ⟨control', cases, dflt, c1, c2, h1, h2, h3, rfl⟩

/-- cases in order, each with its value list and its body -/
theorem roles_preserved_cases_cons {fuel sp expressionList blockExpr rest c r c'}
    (h : caseExprsLoop (fuel+1) (.mk sp expressionList blockExpr :: rest) c = .ok (r, c')) :
    ∃ el blk values statements cs c1 c2,
      expressionList = some el ∧ blockExpr = some blk ∧
      expressionListToAsgTexpr fuel el c = .ok (values, c1) ∧
      withScope .localS (blockExprToAsgStmtList fuel blk) c1 = .ok (statements, c2) ∧
      caseExprsLoop fuel rest c2 = .ok (cs, c') ∧
      r = CaseExpr.mk values statements :: cs := by
  unfold caseExprsLoop at h
  simp only [bind_ok, M.pure_ok, unwrap_ok_ex] at h
  obtain ⟨el, _, ⟨_, rfl, h0⟩, values, c1, h1, statements, c2, h2, cs, c3, h3, h4⟩ := h
  cases h0; cases h4
  cases blockExpr with
  | none => simp [withScope_ok, bind_ok] at h2
  | some blk =>
    refine ⟨el, blk, values, statements, cs, c1, c2, rfl, rfl, h1, ?_, h3, rfl⟩
    simpa using h2

theorem roles_preserved_cases_nil {fuel c r c'}
    (h : caseExprsLoop (fuel+1) [] c = .ok (r, c')) : r = [] ∧ c' = c := by
  unfold caseExprsLoop at h
  simp only [M.pure_ok] at h
  cases h; exact ⟨rfl, rfl⟩

theorem roles_preserved_gate {fuel sp name angleParams qubitParams body c r c'}
    (h : stmtToAsgStmt (fuel+1) (.gate sp name angleParams qubitParams body) c = .ok (r, c')) :
    ∃ n b params qubits block id c0 c1 c2 c3 c4 c5,
      name = some n ∧ body = some b ∧
      gateNotGlobalCheck name c = .ok (⟨⟩, c0) ∧
      enterScope .subroutine c0 = .ok (⟨⟩, c1) ∧
      bindParameterList angleParams (.angle none true) c1 = .ok (params, c2) ∧
      bindParameterList qubitParams .qubit c2 = .ok (some qubits, c3) ∧
      blockExprToAsgType fuel b c3 = .ok (block, c4) ∧
      exitScope c4 = .ok (⟨⟩, c5) ∧
      newBinding n.text (.gate (match params with | some ps => ps.length | none => 0) qubits.length)
        n.span c5 = .ok (id, c') ∧
      r = some (.gateDefinition id params qubits block) := by
  unfold stmtToAsgStmt at h
  simp only [bind_ok, M.pure_ok, unwrap_ok_ex, withScope_ok] at h
  obtain ⟨_, c0, h0, n, _, ⟨_, rfl, hn⟩, x, c5, ⟨c1, _, c4, he, ⟨params, c2, hp, q, c3, hq, qubits, _,
    ⟨_, rfl, hq'⟩, b, _, ⟨_, rfl, hb'⟩, block, _, hblk, hx⟩, hexit, rfl⟩, id, _, hid, hr⟩ := h
  cases hn; cases hq'; cases hb'; cases hx; cases hr
  exact ⟨n, b, params, qubits, block, id, c0, c1, c2, c3, c4, c5, rfl, rfl, h0, he, hp, hq, hblk,
    hexit, hid, rfl⟩

/-- what the return-type role of a `def` is translated by -/
def returnTypeM (rs : Option Ast.ReturnSignature) : M T :=
  match rs with
  | some rs =>
    match rs.scalarType with
    | some st => scalarTypeToType st true
    | none => pure T.void
  | none => pure T.void

theorem defStmt_eq (fuel : Nat) (sp : Ast.Span) (name : Option Ast.Name)
    (typedParamList : Option Ast.TypedParamList) (body : Option Ast.BlockExpr)
    (returnSignature : Option Ast.ReturnSignature) :
    stmtToAsgStmt (fuel+1) (.defStmt sp name typedParamList body returnSignature) = (do
      let nameNode ← unwrap "stmt_to_asg_stmt: Def name() is None" name
      notGlobalCheck nameNode.span
      let (params, block) ← withScope .subroutine do
        let params ← bindTypedParameterList typedParamList
        let body ← unwrap "stmt_to_asg_stmt: Def body() is None" body
        let block ← blockExprToAsgType fuel body
        pure (params, block)
      let numParams := match params with
        | some ps => ps.length
        | none => 0
      let returnType ← returnTypeM returnSignature
      let defNameSymbolId ← newBinding nameNode.text (.subroutine numParams returnType) nameNode.span
      let params ← unwrap "stmt_to_asg_stmt: Def params.unwrap() on None" params
      pure (some (.defStmt defNameSymbolId params block returnType))) := by
  conv => lhs; unfold stmtToAsgStmt
  unfold returnTypeM
  rcases returnSignature with _ | ⟨_, _ | st⟩ <;> (simp only [pure_bind]; try rfl)

theorem roles_preserved_def {fuel sp name typedParamList body returnSignature c r c'}
    (h : stmtToAsgStmt (fuel+1) (.defStmt sp name typedParamList body returnSignature) c = .ok (r, c')) :
    ∃ n b params block returnType id c0 c1 c2 c3 c4 c5,
      name = some n ∧ body = some b ∧
      notGlobalCheck n.span c = .ok (⟨⟩, c0) ∧
      enterScope .subroutine c0 = .ok (⟨⟩, c1) ∧
      bindTypedParameterList typedParamList c1 = .ok (some params, c2) ∧
      blockExprToAsgType fuel b c2 = .ok (block, c3) ∧
      exitScope c3 = .ok (⟨⟩, c4) ∧
      returnTypeM returnSignature c4 = .ok (returnType, c5) ∧
      newBinding n.text (.subroutine params.length returnType) n.span c5 = .ok (id, c') ∧
      r = some (.defStmt id params block returnType) := by
  rw [defStmt_eq] at h
  simp only [bind_ok, M.pure_ok, unwrap_ok_ex, withScope_ok] at h
  obtain ⟨n, _, ⟨_, rfl, hn⟩, _, c0, h0, x, c4, ⟨c1, _, c3, he, ⟨ps, c2, hp, b, _, ⟨_, rfl, hb'⟩,
    block, _, hblk, hx⟩, hexit, rfl⟩, returnType, c5, hrt, id, c6, hid, params, _, ⟨_, hps, hq⟩, hr⟩ := h
  cases hn; cases hb'; cases hx; cases hq; cases hr
  dsimp only at hps
  subst hps
  exact ⟨n, b, params, block, returnType, id, c0, c1, c2, c3, c4, c5, rfl, rfl, h0, he, hp, hblk,
    hexit, hrt, hid, rfl⟩

/-- what the parameter role of a gate call / subroutine call is translated by -/
def argsM (fuel : Nat) (site : String) (argList : Option Ast.ArgList) : M (Option (List TExpr)) :=
  match argList with
  | some (.mk _ el) => do
    let el ← unwrap site el
    pure (some (← expressionListToAsgTexpr fuel el))
  | none => pure none

theorem gateCall_eq (fuel : Nat) (sp : Ast.Span) (qubitList : Option Ast.QubitList)
    (argList : Option Ast.ArgList) (identifier : Option Ast.Identifier) (modifiers : List GateModifier) :
    gateCallExprToAsgStmt (fuel+1) (.mk sp qubitList argList identifier) modifiers = (do
      let gateOperands ← qubitListToAsgTexpr fuel qubitList
      let paramList ← argsM fuel "gate_call_expr_to_asg_stmt: arg_list expression_list() is None" argList
      let numParams := match paramList with
        | some ps => ps.length
        | none => 0
      let gateId ← unwrap "gate_call_expr_to_asg_stmt: identifier() is None" identifier
      let (symbolResult, gateType) ← lookupGateSymbol gateId.text gateId.span
      gateCallCheck sp qubitList argList gateId symbolResult gateType numParams gateOperands.length
      pure (some (.gateCall symbolResult paramList gateOperands modifiers))) := by
  conv => lhs; unfold gateCallExprToAsgStmt
  unfold argsM
  rcases argList with _ | ⟨_, _⟩ <;> (simp only [bind_assoc, pure_bind]; try rfl)

theorem roles_preserved_gate_call {fuel sp qubitList argList identifier modifiers c r c'}
    (h : gateCallExprToAsgStmt (fuel+1) (.mk sp qubitList argList identifier) modifiers c = .ok (r, c')) :
    ∃ g qubits params sym ty c1 c2 c3,
      identifier = some g ∧
      qubitListToAsgTexpr fuel qubitList c = .ok (qubits, c1) ∧
      argsM fuel "gate_call_expr_to_asg_stmt: arg_list expression_list() is None" argList c1
        = .ok (params, c2) ∧
      lookupGateSymbol g.text g.span c2 = .ok ((sym, ty), c3) ∧
      gateCallCheck sp qubitList argList g sym ty (match params with | some ps => ps.length | none => 0)
        qubits.length c3 = .ok (⟨⟩, c') ∧
      r = some (.gateCall sym params qubits modifiers) := by
  rw [gateCall_eq] at h
  simp only [bind_ok, M.pure_ok, unwrap_ok_ex] at h
  obtain ⟨qubits, c1, h1, params, c2, h2, g, _, ⟨_, rfl, hg⟩, ⟨sym, ty⟩, c3, h3, _, c4, h4, h5⟩ := h
  cases hg; cases h5
  exact ⟨g, qubits, params, sym, ty, c1, c2, c3, rfl, h1, h2, h3, h4, rfl⟩

/-- modifiers are translated left to right and attached in that order -/
theorem roles_preserved_modified_gate_call {fuel sp sp' modifiers g gp c r c'}
    (h : stmtToAsgStmt (fuel+2) (.exprStmt sp (some (.modifiedGateCallExpr sp' modifiers (some g) gp))) c
      = .ok (r, c')) :
    ∃ ms c1, modifiersLoop fuel modifiers c = .ok (ms, c1) ∧
      gateCallExprToAsgStmt fuel g ms c1 = .ok (r, c') := by
  unfold stmtToAsgStmt at h
  unfold exprStmtToAsgStmt at h
  simp only [bind_ok] at h
  exact h

theorem roles_preserved_gate_call_stmt {fuel sp g c r c'}
    (h : stmtToAsgStmt (fuel+2) (.exprStmt sp (some (.gateCallExpr g))) c = .ok (r, c')) :
    gateCallExprToAsgStmt fuel g [] c = .ok (r, c') := by
  unfold stmtToAsgStmt at h
  unfold exprStmtToAsgStmt at h
  exact h

/-- what one gate modifier is translated by -/
def modifierM (fuel : Nat) (m : Ast.Modifier) : M GateModifier :=
  match m with
  | .invModifier _ => pure GateModifier.inv
  | .powModifier _ parenExpr => do
    let p ← unwrap "expr_stmt_to_asg_stmt: PowModifier paren_expr() is None" parenExpr
    let exponent ← parenExprToAsgTexpr fuel p
    let exponent ← unwrap "expr_stmt_to_asg_stmt: PowModifier exponent unwrap() on None" exponent
    pure (GateModifier.pow exponent)
  | .ctrlModifier _ parenExpr =>
    match parenExpr with
    | some p => do pure (GateModifier.ctrl (← parenExprToAsgTexpr fuel p))
    | none => pure (GateModifier.ctrl none)
  | .negCtrlModifier _ parenExpr =>
    match parenExpr with
    | some p => do pure (GateModifier.negCtrl (← parenExprToAsgTexpr fuel p))
    | none => pure (GateModifier.negCtrl none)

theorem modifiersLoop_cons_eq (fuel : Nat) (m : Ast.Modifier) (rest : List Ast.Modifier) :
    modifiersLoop (fuel+1) (m :: rest) = (do
      let gm ← modifierM fuel m
      let gms ← modifiersLoop fuel rest
      pure (gm :: gms)) := by
  conv => lhs; unfold modifiersLoop
  unfold modifierM
  rcases m with _ | ⟨_, p⟩ | ⟨_, _ | p⟩ | ⟨_, _ | p⟩ <;> simp only [bind_assoc, pure_bind]

theorem roles_preserved_modifiers_cons {fuel m rest c r c'}
    (h : modifiersLoop (fuel+1) (m :: rest) c = .ok (r, c')) :
    ∃ gm gms c1, modifierM fuel m c = .ok (gm, c1) ∧ modifiersLoop fuel rest c1 = .ok (gms, c') ∧
      r = gm :: gms := by
  rw [modifiersLoop_cons_eq] at h
  simp only [bind_ok, M.pure_ok] at h
  obtain ⟨gm, c1, h1, gms, c2, h2, h3⟩ := h
  cases h3
  exact ⟨gm, gms, c1, h1, h2, rfl⟩

theorem roles_preserved_modifiers_nil {fuel c r c'}
    (h : modifiersLoop (fuel+1) [] c = .ok (r, c')) : r = [] ∧ c' = c := by
  unfold modifiersLoop at h
  simp only [M.pure_ok] at h
  cases h; exact ⟨rfl, rfl⟩

/-- assignment to a plain identifier: the lvalue is the looked-up symbol, the rvalue is the
translation of `rhs()`, possibly wrapped in one implicit cast -/
theorem roles_preserved_assignment_ident {fuel sp name rhs ii c r c'}
    (h : assignmentStmtToAsgStmt (fuel+1) sp (some name) rhs ii c = .ok (r, c')) :
    ∃ e sym ty e' c1 c2,
      exprToAsgTexpr fuel rhs c = .ok (some e, c1) ∧
      lookupSymbol name.text name.span c1 = .ok ((sym, ty), c2) ∧
      (e' = e ∨ ∃ t, e' = castToTexpr e t) ∧
      r = some (.assignment (.identifier sym) e') := by
  revert r c'
  show Runs _ c _
  unfold assignmentStmtToAsgStmt
  dsimp only
  refine Runs.bind fun a c1 h1 => ?_
  cases a with
  | none => exact Runs.bind fun _ _ hu => by simp at hu
  | some e =>
    simp only [unwrap_some, pure_bind]
    refine Runs.bind fun st c2 h2 => ?_
    obtain ⟨sym, ty⟩ := st
    dsimp only
    have fin : ∀ (e' : TExpr) (c3 : Ctx), (e' = e ∨ ∃ t, e' = castToTexpr e t) →
        Runs (do mutateConstCheck sym.isOk ty sp
                 pure (some (Stmt.assignment (LValue.identifier sym) e')) : M (Option Stmt)) c3
          (fun r _ => ∃ e0 sym ty e' c1 c2,
            exprToAsgTexpr fuel rhs c = .ok (some e0, c1) ∧
            lookupSymbol name.text name.span c1 = .ok ((sym, ty), c2) ∧
            (e' = e0 ∨ ∃ t, e' = castToTexpr e0 t) ∧
            r = some (Stmt.assignment (.identifier sym) e')) := by
      intro e' c3 he'
      refine Runs.bind fun _ _ _ => Runs.pure ?_
      exact ⟨e, sym, ty, e', c1, c2, h1, h2, he', rfl⟩
    repeat' first
      | exact fin _ _ (Or.inl rfl)
      | exact fin _ _ (Or.inr ⟨_, rfl⟩)
      | (refine Runs.bind fun _ _ hp => ?_; first | (simp only [M.pure_ok] at hp; obtain ⟨rfl, rfl⟩ := hp) | skip)
      | split

/-- assignment to an indexed identifier: lvalue = translation of `indexed_identifier()`,
rvalue = translation of `rhs()` from SOME context `c2` (no cast is ever inserted) -/
theorem roles_preserved_assignment_indexed {fuel sp rhs ii c r c'}
    (h : assignmentStmtToAsgStmt (fuel+1) sp none rhs ii c = .ok (r, c')) :
    ∃ iiAst lv ty e c1 c2,
      ii = some iiAst ∧
      indexedIdentifierToAsgType fuel iiAst c = .ok ((lv, ty), c1) ∧
      exprToAsgTexpr fuel rhs c2 = .ok (some e, c') ∧
      r = some (.assignment (.indexedIdentifier lv) e) := by
  revert r c'
  show Runs _ c _
  unfold assignmentStmtToAsgStmt
  dsimp only
  cases ii with
  | none => exact Runs.bind fun _ _ hu => by simp at hu
  | some iiAst =>
    simp only [unwrap_some, pure_bind]
    refine Runs.bind fun st c1 h1 => ?_
    obtain ⟨lv, ty⟩ := st
    dsimp only
    have fin : ∀ c2, Runs (do
          let expr ← exprToAsgTexpr fuel rhs
          let expr ← unwrap "assignment_stmt_to_asg_stmt: rhs unwrap() on None" expr
          pure (some (Stmt.assignment (LValue.indexedIdentifier lv) expr)) : M (Option Stmt)) c2
        (fun r c' => ∃ iiAst' lv ty e c1 c2,
          some iiAst = some iiAst' ∧
          indexedIdentifierToAsgType fuel iiAst' c = .ok ((lv, ty), c1) ∧
          exprToAsgTexpr fuel rhs c2 = .ok (some e, c') ∧
          r = some (Stmt.assignment (.indexedIdentifier lv) e)) := by
      intro c2
      refine Runs.bind fun a c3 h3 => ?_
      cases a with
      | none => exact Runs.fail
      | some e =>
        simp only [unwrap_some, pure_bind]
        exact Runs.pure ⟨iiAst, lv, ty, e, c1, c2, rfl, h1, h3, rfl⟩
    repeat' first
      | exact fin _
      | refine Runs.bind fun _ _ _ => ?_
      | split

/-- index lists: the identifier is looked up, then the index operators are translated left to
right and stored in that order -/
theorem roles_preserved_indexed_identifier {fuel sp identifier indexOperators c r c'}
    (h : indexedIdentifierToAsgType (fuel+1) (.mk sp identifier indexOperators) c = .ok (r, c')) :
    ∃ id sym ty indexes c1,
      identifier = some id ∧
      lookupSymbol id.text sp c = .ok ((sym, ty), c1) ∧
      indexOperatorsLoop fuel indexOperators c1 = .ok (indexes, c') ∧
      r = (IndexedIdentifier.mk sym indexes, ty) := by
  unfold indexedIdentifierToAsgType at h
  simp only [bind_ok, M.pure_ok, unwrap_ok_ex] at h
  obtain ⟨id, _, ⟨_, rfl, hid⟩, ⟨sym, ty⟩, c1, h1, indexes, c2, h2, h3⟩ := h
  cases hid; cases h3
  exact ⟨id, sym, ty, indexes, c1, rfl, h1, h2, rfl⟩

theorem roles_preserved_index_operators_cons {fuel ix rest c r c'}
    (h : indexOperatorsLoop (fuel+1) (ix :: rest) c = .ok (r, c')) :
    ∃ i is c1, indexOperatorToAsgType fuel ix c = .ok (i, c1) ∧
      indexOperatorsLoop fuel rest c1 = .ok (is, c') ∧ r = i :: is := by
  unfold indexOperatorsLoop at h
  simp only [bind_ok, M.pure_ok] at h
  obtain ⟨i, c1, h1, is, c2, h2, h3⟩ := h
  cases h3
  exact ⟨i, is, c1, h1, h2, rfl⟩

theorem roles_preserved_index_operators_nil {fuel c r c'}
    (h : indexOperatorsLoop (fuel+1) [] c = .ok (r, c')) : r = [] ∧ c' = c := by
  unfold indexOperatorsLoop at h
  simp only [M.pure_ok] at h
  cases h; exact ⟨rfl, rfl⟩

theorem roles_preserved_index_operator_set {fuel sp s c r c'}
    (h : indexOperatorToAsgType (fuel+1) (.mk sp (some (.setExpression s))) c = .ok (r, c')) :
    ∃ es, setExpressionToAsgType fuel s c = .ok (es, c') ∧ r = .setExpression es := by
  unfold indexOperatorToAsgType at h
  simp only [unwrap_some, pure_bind, bind_ok, M.pure_ok] at h
  obtain ⟨es, c1, h1, h2⟩ := h
  cases h2
  exact ⟨es, h1, rfl⟩

theorem roles_preserved_index_operator_list {fuel sp el c r c'}
    (h : indexOperatorToAsgType (fuel+1) (.mk sp (some (.expressionList el))) c = .ok (r, c')) :
    ∃ es, expressionListToAsgType fuel el c = .ok (es, c') ∧ r = .expressionList es := by
  unfold indexOperatorToAsgType at h
  simp only [unwrap_some, pure_bind, bind_ok, M.pure_ok] at h
  obtain ⟨es, c1, h1, h2⟩ := h
  cases h2
  exact ⟨es, h1, rfl⟩

theorem roles_preserved_index_expr {fuel sp inner indexOperator c r c'}
    (h : exprToAsgTexpr (fuel+1) (some (.indexExpr sp inner indexOperator)) c = .ok (r, c')) :
    ∃ e ix index c1, indexOperator = some ix ∧
      exprToAsgTexpr fuel inner c = .ok (some e, c1) ∧
      indexOperatorToAsgType fuel ix c1 = .ok (index, c') ∧
      r = some (indexExpressionToTexpr e index) := by
  unfold exprToAsgTexpr at h
  simp only [bind_ok, M.pure_ok, unwrap_ok_ex] at h
  obtain ⟨a, c1, h1, ix, _, ⟨_, rfl, hix⟩, index, c2, h2, e, _, ⟨_, rfl, he⟩, h3⟩ := h
  cases hix; cases he; cases h3
  exact ⟨e, ix, index, c1, rfl, h1, h2, rfl⟩

theorem callExpr_eq (fuel : Nat) (sp : Ast.Span) (argList : Option Ast.ArgList)
    (identifier : Option Ast.Identifier) :
    callExprToAsgTexpr (fuel+1) sp argList identifier = (do
      let paramList ← argsM fuel "call_expr_to_asg_texpr: arg_list expression_list() is None" argList
      let subroutineId ← unwrap "call_expr_to_asg_texpr: identifier() is None" identifier
      let (symbolResult, callType) ← lookupSymbol subroutineId.text subroutineId.span
      match callType with
      | .subroutine expectedNumParams returnType =>
        let numParams := match paramList with
          | some ps => ps.length
          | none => 0
        defArityCheck expectedNumParams numParams argList
        pure (subroutineCallToTexpr symbolResult paramList returnType)
      | _ => fail "call_expr_to_asg_texpr: programming error: expected Type::Def variant") := by
  conv => lhs; unfold callExprToAsgTexpr
  unfold argsM
  rcases argList with _ | ⟨_, _⟩ <;> (simp only [bind_assoc, pure_bind]; try rfl)

/-- call arguments: the argument list is translated first (in order), then the callee is looked
up; the call node holds that symbol and exactly that list -/
theorem roles_preserved_call {fuel sp argList identifier c r c'}
    (h : callExprToAsgTexpr (fuel+1) sp argList identifier c = .ok (r, c')) :
    ∃ id params sym n ret c1 c2,
      identifier = some id ∧
      argsM fuel "call_expr_to_asg_texpr: arg_list expression_list() is None" argList c = .ok (params, c1) ∧
      lookupSymbol id.text id.span c1 = .ok ((sym, .subroutine n ret), c2) ∧
      r = subroutineCallToTexpr sym params ret := by
  rw [callExpr_eq] at h
  simp only [bind_ok, unwrap_ok_ex] at h
  obtain ⟨params, c1, h1, id, _, ⟨_, rfl, hid⟩, ⟨sym, ty⟩, c2, h2, h3⟩ := h
  cases hid
  cases ty <;> simp only [M.fail_ok, bind_ok, M.pure_ok] at h3
  obtain ⟨_, _, _, h4⟩ := h3
  cases h4
  exact ⟨id, params, sym, _, _, c1, c2, rfl, h1, h2, rfl⟩

/-- `filter_map` over an expression list: order kept, only the `None` translations dropped -/
theorem roles_preserved_exprs_cons {fuel x rest c r c'}
    (h : exprsLoop (fuel+1) (x :: rest) c = .ok (r, c')) :
    ∃ t ts c1, exprToAsgTexpr fuel (some x) c = .ok (t, c1) ∧ exprsLoop fuel rest c1 = .ok (ts, c') ∧
      r = t.toList ++ ts := by
  unfold exprsLoop at h
  simp only [bind_ok] at h
  obtain ⟨t, c1, h1, ts, c2, h2, h3⟩ := h
  cases t with
  | none => simp only [M.pure_ok] at h3; cases h3; exact ⟨none, _, c1, h1, h2, rfl⟩
  | some t => simp only [M.pure_ok] at h3; cases h3; exact ⟨some t, _, c1, h1, h2, rfl⟩

theorem roles_preserved_exprs_nil {fuel c r c'}
    (h : exprsLoop (fuel+1) [] c = .ok (r, c')) : r = [] ∧ c' = c := by
  unfold exprsLoop at h
  simp only [M.pure_ok] at h
  cases h; exact ⟨rfl, rfl⟩

/-- qubit operands: translated left to right, stored in that order, none dropped -/
theorem roles_preserved_gate_operands_cons {fuel q rest c r c'}
    (h : gateOperandsLoop (fuel+1) (q :: rest) c = .ok (r, c')) :
    ∃ t ts c1, gateOperandToAsgTexpr fuel q c = .ok (t, c1) ∧ gateOperandsLoop fuel rest c1 = .ok (ts, c') ∧
      r = t :: ts := by
  unfold gateOperandsLoop at h
  simp only [bind_ok, M.pure_ok] at h
  obtain ⟨t, c1, h1, ts, c2, h2, h3⟩ := h
  cases h3
  exact ⟨t, ts, c1, h1, h2, rfl⟩

theorem roles_preserved_gate_operands_nil {fuel c r c'}
    (h : gateOperandsLoop (fuel+1) [] c = .ok (r, c')) : r = [] ∧ c' = c := by
  unfold gateOperandsLoop at h
  simp only [M.pure_ok] at h
  cases h; exact ⟨rfl, rfl⟩

theorem gateOperandsLoop_length {fuel gs c r c'} (h : gateOperandsLoop fuel gs c = .ok (r, c')) :
    r.length = gs.length := by
  induction gs generalizing fuel c r with
  | nil =>
    cases fuel with
    | zero => unfold gateOperandsLoop at h; simp at h
    | succ fuel => rw [(roles_preserved_gate_operands_nil h).1]; rfl
  | cons g gs ih =>
    cases fuel with
    | zero => unfold gateOperandsLoop at h; simp at h
    | succ fuel =>
      obtain ⟨t, ts, c1, _, h2, rfl⟩ := roles_preserved_gate_operands_cons h
      simp [ih h2]

/-- operands of a binary expression: the operator is translated, then the left operand, then the
right operand; the node is built from them in that order (each possibly wrapped in one cast) -/
theorem roles_preserved_bin_expr {fuel sp opKind lhs rhs c r c'}
    (h : exprToAsgTexpr (fuel+1) (some (.binExpr sp opKind lhs rhs)) c = .ok (r, c')) :
    ∃ synOp op left right c0 c1 c2,
      opKind = some synOp ∧
      binaryOpToAsgType synOp c = .ok (op, c0) ∧
      exprToAsgTexpr fuel lhs c0 = .ok (some left, c1) ∧
      exprToAsgTexpr fuel rhs c1 = .ok (some right, c2) ∧
      quantumBinopCheck left right lhs rhs c2 = .ok (⟨⟩, c') ∧
      r = some (newTexprWithCast op left right) := by
  unfold exprToAsgTexpr at h
  simp only [bind_ok, M.pure_ok, unwrap_ok_ex] at h
  obtain ⟨synOp, _, ⟨_, rfl, h0⟩, op, c0, hop, l, c1, hl, left, _, ⟨_, rfl, hl'⟩, r', c2, hr, right, _,
    ⟨_, rfl, hr'⟩, _, c3, hq, h3⟩ := h
  cases h0; cases hl'; cases hr'; cases h3
  exact ⟨synOp, op, left, right, c0, c1, c2, rfl, hop, hl, hr, hq, rfl⟩

/-- a range keeps its three roles (evaluation order: start, stop, step) -/
theorem roles_preserved_range {fuel sp start step stop c r c'}
    (h : rangeExpressionToAsgType (fuel+1) (.mk sp start step stop) c = .ok (r, c')) :
    ∃ a b z c1 c2,
      exprToAsgTexpr fuel start c = .ok (some a, c1) ∧
      exprToAsgTexpr fuel stop c1 = .ok (some z, c2) ∧
      exprToAsgTexpr fuel step c2 = .ok (b, c') ∧
      r = (a, b, z) := by
  unfold rangeExpressionToAsgType at h
  simp only [bind_ok, M.pure_ok, unwrap_ok_ex] at h
  obtain ⟨a', c1, h1, a, _, ⟨_, rfl, ha⟩, z', c2, h2, z, _, ⟨_, rfl, hz⟩, b, c3, h3, h4⟩ := h
  cases ha; cases hz; cases h4
  exact ⟨a, b, z, c1, c2, h1, h2, h3, rfl⟩

/-- a body that is a block is translated as that block; a single-statement body becomes a block
holding exactly the translation of that statement -/
theorem roles_preserved_body_block {fuel b c r c'}
    (h : blockOrStmtToAsgType (fuel+2) (.blockExpr b) c = .ok (r, c')) :
    ∃ ss, blockExprToAsgStmtList fuel b c = .ok (ss, c') ∧ r = Block.mk ss := by
  unfold blockOrStmtToAsgType at h
  unfold blockExprToAsgType at h
  simp only [bind_ok, M.pure_ok] at h
  obtain ⟨ss, c1, h1, h2⟩ := h
  cases h2
  exact ⟨ss, h1, rfl⟩

theorem roles_preserved_body_stmt {fuel s c r c'}
    (h : blockOrStmtToAsgType (fuel+1) (.stmt s) c = .ok (r, c')) :
    ∃ t, stmtToAsgStmt fuel s c = .ok (some t, c') ∧ r = Block.mk [t] := by
  unfold blockOrStmtToAsgType at h
  simp only [bind_ok, M.pure_ok, unwrap_ok_ex] at h
  obtain ⟨a, c1, h1, t, _, ⟨_, rfl, ht⟩, h2⟩ := h
  cases ht; cases h2
  exact ⟨t, h1, rfl⟩

/-- what no function of the statement/expression translation may do to the context: it never
touches `program`, and only appends to the symbol vector, the diagnostics and the pending
annotations.  `symbols` and `errors` are also clauses of `Sema.Ext` (`Lemmas/SemaInv.lean`, which has
the scope stack instead of `program` and `annotations`); `symbols` alone is `C08.Ext`. -/
structure Ext (c c' : Ctx) : Prop where
  program : c'.program = c.program
  symbols : c.symbolTable.all <+: c'.symbolTable.all
  errors : c.semanticErrors <+: c'.semanticErrors
  annotations : c.annotations <+: c'.annotations

theorem Ext.refl (c : Ctx) : Ext c c :=
  ⟨rfl, List.prefix_refl _, List.prefix_refl _, List.prefix_refl _⟩

theorem Ext.trans {a b c : Ctx} (h1 : Ext a b) (h2 : Ext b c) : Ext a c :=
  ⟨h2.program.trans h1.program, h1.symbols.trans h2.symbols, h1.errors.trans h2.errors,
   h1.annotations.trans h2.annotations⟩

structure Frame {α} (x : M α) : Prop where
  run : ∀ c a c', x c = .ok (a, c') → Ext c c'

theorem Frame.bind {α β} {x : M α} {f : α → M β} (hx : Frame x) (hf : ∀ a, Frame (f a)) :
    Frame (x >>= f) := by
  refine ⟨fun c b c' h => ?_⟩
  obtain ⟨a, c1, h1, h2⟩ := (bind_ok x f c (b, c')).mp h
  exact (hx.run _ _ _ h1).trans ((hf a).run _ _ _ h2)

theorem Frame.pure {α} (a : α) : Frame (pure a : M α) := by
  refine ⟨fun c b c' h => ?_⟩; simp at h; obtain ⟨_, rfl⟩ := h; exact Ext.refl _

theorem Frame.fail {α} (site : String) : Frame (fail site : M α) := by
  refine ⟨fun c b c' h => ?_⟩; simp at h

theorem Frame.throw {α} (o : Outcome) : Frame (throw o : M α) := by
  refine ⟨fun c b c' h => ?_⟩; simp at h

theorem Frame.unwrap {α} (site : String) (o : Option α) : Frame (unwrap site o) := by
  cases o
  · exact Frame.fail _
  · exact Frame.pure _

theorem Frame.of_readOnly {α} {x : M α} (h : ReadOnly x) : Frame x :=
  ⟨fun c a c' hr => by rw [show c' = c from h c _ hr]; exact Ext.refl _⟩

theorem insertError_frame (k : SemanticErrorKind) (n : Ast.Span) : Frame (insertError k n) := by
  refine ⟨fun c a c' h => ?_⟩
  simp [insertError] at h
  obtain ⟨_, rfl⟩ := h
  exact ⟨rfl, List.prefix_refl _, List.prefix_append _ _, List.prefix_refl _⟩

theorem symStep_frame (site : String) (op : Op) : Frame (symStep site op) := by
  refine ⟨fun c a c' h => ?_⟩
  obtain ⟨_, h⟩ := (symStep_ok _ _ _ _).mp h
  cases h
  exact ⟨rfl, Oq3.Props.C19.all_prefix_step c.symbolTable op, List.prefix_refl _, List.prefix_refl _⟩

theorem insertConstValue_frame (id : Nat) (v : TExpr) : Frame (insertConstValue id v) := by
  refine ⟨fun c a c' h => ?_⟩
  simp [insertConstValue] at h
  obtain ⟨_, rfl⟩ := h
  exact ⟨rfl, List.prefix_refl _, List.prefix_refl _, List.prefix_refl _⟩

theorem pushAnnotation_frame (a : String) : Frame (pushAnnotation a) := by
  refine ⟨fun c a c' h => ?_⟩
  simp [pushAnnotation] at h
  obtain ⟨_, rfl⟩ := h
  exact ⟨rfl, List.prefix_refl _, List.prefix_refl _, List.prefix_append _ _⟩

theorem annotationsIsEmpty_frame  : Frame (annotationsIsEmpty ) :=
  Frame.of_readOnly annotationsIsEmpty_readOnly

theorem Frame.closed : Closed @Frame :=
  .of_symStep Frame.pure Frame.bind (fun site _ => Frame.fail site) (Frame.throw _) insertError_frame
    (fun site op _ => symStep_frame site op) (.of_readOnly currentScopeType_readOnly)
    insertConstValue_frame (fun id => .of_readOnly (getConstValue_readOnly id)) pushAnnotation_frame

theorem allFrame (fuel : Nat) : All @Frame fuel := Frame.closed.all fuel

theorem redeclLoop_frame (sp : Ast.Span) (ns : List String) : Frame (redeclLoop sp ns) := by
  induction ns with
  | nil => exact Frame.pure _
  | cons n ns ih => exact Frame.bind (insertError_frame _ _) fun _ => ih

theorem standardLibraryGates_frame (sp : Ast.Span) : Frame (standardLibraryGates sp) := by
  refine ⟨fun c a c' h => ?_⟩
  unfold standardLibraryGates at h
  simp only [M.get_bind_ok, M.set_bind_ok] at h
  have hp := (symExt_standardLibraryGates c.symbolTable).all
  -- the table is kept opaque: the anonymous constructor below must not unfold it
  generalize c.symbolTable.standardLibraryGates = g at h hp
  refine Ext.trans ?_ ((redeclLoop_frame _ _).run _ _ _ h)
  exact ⟨rfl, hp, List.prefix_refl _, List.prefix_refl _⟩

/-- the per-statement trace of a statement list: statement `i` is translated with fuel
`fuel - 1 - i` from the context its predecessor left; `os` are the per-statement results -/
inductive BlockRun : Nat → List Ast.Stmt → Ctx → List (Option Stmt) → Ctx → Prop
  | nil {fuel c} : BlockRun (fuel+1) [] c [] c
  | cons {fuel s rest c o c1 os c'} : stmtToAsgStmt fuel s c = .ok (o, c1) →
      BlockRun fuel rest c1 os c' → BlockRun (fuel+1) (s :: rest) c (o :: os) c'

theorem BlockRun.length {fuel ss c os c'} (h : BlockRun fuel ss c os c') : os.length = ss.length := by
  induction h with
  | nil => rfl
  | cons _ _ ih => simp [ih]

/-- **block order**: the statement list a block is translated to is exactly the list of the
translations of its statements, in order, with only the `None` translations dropped -/
theorem block_order_preserved {fuel ss c r c'} :
    stmtsLoop fuel ss c = .ok (r, c') ↔ ∃ os, BlockRun fuel ss c os c' ∧ r = os.filterMap id := by
  induction ss generalizing fuel c r c' with
  | nil =>
    cases fuel with
    | zero =>
      unfold stmtsLoop; simp only [M.throw_ok, false_iff]
      rintro ⟨os, h, _⟩; cases h
    | succ fuel =>
      unfold stmtsLoop; simp only [M.pure_ok]
      constructor
      · intro h; cases h; exact ⟨[], .nil, rfl⟩
      · rintro ⟨os, h, rfl⟩; cases h; rfl
  | cons s rest ih =>
    cases fuel with
    | zero =>
      unfold stmtsLoop; simp only [M.throw_ok, false_iff]
      rintro ⟨os, h, _⟩; cases h
    | succ fuel =>
      unfold stmtsLoop; simp only [bind_ok]
      constructor
      · rintro ⟨o, c1, h1, rs, c2, h2, h3⟩
        obtain ⟨os, hos, rfl⟩ := ih.mp h2
        cases o with
        | none => simp only [M.pure_ok] at h3; cases h3; exact ⟨none :: os, .cons h1 hos, rfl⟩
        | some t => simp only [M.pure_ok] at h3; cases h3; exact ⟨some t :: os, .cons h1 hos, rfl⟩
      · rintro ⟨os, h, rfl⟩
        cases h with
        | cons h1 hos =>
          rename_i o c1 os
          refine ⟨o, c1, h1, os.filterMap id, c', ih.mpr ⟨os, hos, rfl⟩, ?_⟩
          cases o <;> simp

theorem block_expr_is_its_statements (fuel : Nat) (sp : Ast.Span) (ss : List Ast.Stmt) :
    blockExprToAsgStmtList (fuel+1) (.mk sp ss) = stmtsLoop fuel ss := by
  unfold blockExprToAsgStmtList; rfl

/-- pragma text is carried verbatim; the statement does nothing else -/
theorem pragma_verbatim (fuel : Nat) (sp : Ast.Span) (text : String) (c : Ctx) :
    stmtToAsgStmt (fuel+1) (.pragmaStatement sp text) c = .ok (some (.pragma text), c) := by
  unfold stmtToAsgStmt; rfl

/-- an annotation statement only appends its text to the pending annotations -/
theorem annotation_pushes (fuel : Nat) (sp : Ast.Span) (text : String) (c : Ctx) :
    stmtToAsgStmt (fuel+1) (.annotationStatement sp text) c =
      .ok (none, { c with annotations := c.annotations ++ [text] }) := by
  unfold stmtToAsgStmt; rfl

/-- the translation the top-level loop applies to one statement: `include "stdgates.inc"` binds
the standard gates and yields nothing; every other statement goes through `stmt_to_asg_stmt` -/
def topStmtM (fuel : Nat) (s : Ast.Stmt) : M (Option Stmt) :=
  match s with
  | .includeStmt span file => do
    let file ← unwrap "syntax_to_semantic: include.file() is None" file
    let filePath ← unwrap "syntax_to_semantic: file.to_string() is None" file.toString?
    if filePath == "stdgates.inc" then
      standardLibraryGates span
    else
      throw Outcome.unsupportedInclude
    pure none
  | stmt => stmtToAsgStmt fuel stmt

/-- what the loop does with the result: a statement is appended to the program, wrapped with ALL
pending annotations (which are thereby consumed) if there are any -/
def attachM (o : Option Stmt) : M Unit :=
  match o with
  | some stmt => do
    if ← annotationsIsEmpty then insertStmt stmt
    else
      match stmt with
      | .annotatedStmt .. => fail "AnnotatedStmt::new: annotation of annotated statement is not allowed"
      | _ => do insertStmt (.annotatedStmt stmt (← takeAnnotations))
  | none => pure ()

theorem attachM_bind (o : Option Stmt) (L : M Unit) :
    (attachM o >>= fun _ => L) = (match o with
      | some stmt => do
        if ← annotationsIsEmpty then do insertStmt stmt; L
        else
          match stmt with
          | .annotatedStmt .. => do
            fail "AnnotatedStmt::new: annotation of annotated statement is not allowed"; L
          | _ => do insertStmt (.annotatedStmt stmt (← takeAnnotations)); L
      | none => L) := by
  cases o with
  | none => simp only [attachM, pure_bind]
  | some t =>
    simp only [attachM, bind_assoc]
    congr 1; funext b
    cases b
    · cases t <;> simp only [bind_assoc, Bool.false_eq_true, if_false]
    · rfl

theorem topLoop_cons_eq (fuel : Nat) (s : Ast.Stmt) (rest : List Ast.Stmt) :
    syntaxToSemanticLoop (fuel+1) (s :: rest) = (do
      let o ← topStmtM fuel s
      attachM o
      syntaxToSemanticLoop fuel rest) := by
  conv => lhs; unfold syntaxToSemanticLoop
  simp only [attachM_bind]
  unfold topStmtM
  cases s <;> simp only [bind_assoc, pure_bind] <;> first | rfl | skip
  congr 1; funext f; congr 1; funext p
  split <;> simp only [bind_assoc, pure_bind]

/-- the statement emitted for a translated statement `t` when `anns` are pending -/
def wrap (t : Stmt) (anns : List String) : Stmt :=
  match anns with
  | [] => t
  | _ :: _ => .annotatedStmt t anns

def IsAnnotated : Stmt → Prop
  | .annotatedStmt .. => True
  | _ => False

theorem attachM_none (c : Ctx) : attachM none c = .ok (⟨⟩, c) := rfl

theorem attachM_some {t : Stmt} {c1 : Ctx} {r : Unit × Ctx} :
    attachM (some t) c1 = .ok r ↔
      (c1.annotations ≠ [] → ¬ IsAnnotated t) ∧
      r = (⟨⟩, { c1 with program := c1.program ++ [wrap t c1.annotations], annotations := [] }) := by
  obtain ⟨prog, errs, tab, cv, anns⟩ := c1
  cases anns with
  | nil =>
    have e : attachM (some t) ⟨prog, errs, tab, cv, []⟩ = .ok (⟨⟩, ⟨prog ++ [t], errs, tab, cv, []⟩) := rfl
    rw [e]
    simp only [wrap, ne_eq, not_true_eq_false, false_imp_iff, true_and, Except.ok.injEq]
    exact eq_comm
  | cons a anns =>
    by_cases ht : IsAnnotated t
    · have e : attachM (some t) ⟨prog, errs, tab, cv, a :: anns⟩ = .error (.panic
          "AnnotatedStmt::new: annotation of annotated statement is not allowed") := by
        cases t <;> first | rfl | exact absurd ht (by simp [IsAnnotated])
      rw [e]
      simp [ht]
    · have e : attachM (some t) ⟨prog, errs, tab, cv, a :: anns⟩ =
          .ok (⟨⟩, ⟨prog ++ [.annotatedStmt t (a :: anns)], errs, tab, cv, []⟩) := by
        cases t <;> first | rfl | exact absurd trivial ht
      rw [e]
      simp only [wrap, ne_eq, reduceCtorEq, not_false_eq_true, ht, imp_self, true_and, Except.ok.injEq]
      exact eq_comm

theorem topStmtM_closed {P : ∀ {α : Type}, M α → Prop} (hP : Closed @P)
    (hinc : P (throw Outcome.unsupportedInclude : M Unit)) (hstd : ∀ sp, P (standardLibraryGates sp))
    (fuel : Nat) (s : Ast.Stmt) : P (topStmtM fuel s) := by
  unfold topStmtM
  split
  · refine hP.bind (hP.unwrap _ _ (by site_mem)) fun _ =>
      hP.bind (hP.unwrap _ _ (by site_mem)) fun _ => ?_
    dsimp only
    split
    · exact hP.bind (hstd _) fun _ => hP.pure _
    · exact hP.bind hinc fun _ => hP.pure _
  · exact (hP.all fuel).stmtToAsgStmt _

theorem topStmtM_frame (fuel : Nat) (s : Ast.Stmt) : Frame (topStmtM fuel s) :=
  topStmtM_closed Frame.closed (Frame.throw _) standardLibraryGates_frame fuel s

/-- the trace of the top-level loop: `out` = the statements appended to the program, in order -/
inductive TopRun : Nat → List Ast.Stmt → Ctx → List Stmt → Ctx → Prop
  | nil {fuel c} : TopRun (fuel+1) [] c [] c
  | skip {fuel s rest c c1 out c'} : topStmtM fuel s c = .ok (none, c1) → TopRun fuel rest c1 out c' →
      TopRun (fuel+1) (s :: rest) c out c'
  | emit {fuel s rest c t c1 out c'} : topStmtM fuel s c = .ok (some t, c1) →
      (c1.annotations ≠ [] → ¬ IsAnnotated t) →
      TopRun fuel rest { c1 with program := c1.program ++ [wrap t c1.annotations], annotations := [] }
        out c' →
      TopRun (fuel+1) (s :: rest) c (wrap t c1.annotations :: out) c'

/-- **top-level order**: the loop succeeds exactly along a trace in which every source statement
is translated in source order, a `None` translation emits nothing, and a translated statement is
appended wrapped with ALL annotations pending at that moment (which it consumes) -/
theorem top_level_order_preserved {fuel ss c c'} :
    syntaxToSemanticLoop fuel ss c = .ok (⟨⟩, c') ↔ ∃ out, TopRun fuel ss c out c' := by
  induction ss generalizing fuel c c' with
  | nil =>
    cases fuel with
    | zero =>
      unfold syntaxToSemanticLoop; simp only [M.throw_ok, false_iff]
      rintro ⟨out, h⟩; cases h
    | succ fuel =>
      unfold syntaxToSemanticLoop; simp only [M.pure_ok]
      constructor
      · intro h; cases h; exact ⟨[], .nil⟩
      · rintro ⟨out, h⟩; cases h; rfl
  | cons s rest ih =>
    cases fuel with
    | zero =>
      unfold syntaxToSemanticLoop; simp only [M.throw_ok, false_iff]
      rintro ⟨out, h⟩; cases h
    | succ fuel =>
      rw [topLoop_cons_eq]
      simp only [bind_ok]
      constructor
      · rintro ⟨o, c1, h1, _, c2, h2, h3⟩
        obtain ⟨out, hout⟩ := ih.mp h3
        cases o with
        | none => rw [attachM_none] at h2; cases h2; exact ⟨out, .skip h1 hout⟩
        | some t =>
          obtain ⟨ha, hc⟩ := attachM_some.mp h2
          cases hc
          exact ⟨_, .emit h1 ha hout⟩
      · rintro ⟨out, h⟩
        cases h with
        | skip h1 hout => exact ⟨none, _, h1, ⟨⟩, _, attachM_none _, ih.mpr ⟨_, hout⟩⟩
        | emit h1 ha hout => exact ⟨some _, _, h1, ⟨⟩, _, attachM_some.mpr ⟨ha, rfl⟩, ih.mpr ⟨_, hout⟩⟩

theorem TopRun.program {fuel ss c out c'} (h : TopRun fuel ss c out c') :
    c'.program = c.program ++ out := by
  induction h with
  | nil => simp
  | skip h1 _ ih => rw [ih, ((topStmtM_frame _ _).run _ _ _ h1).program]
  | emit h1 _ _ ih =>
    rw [ih]; simp only [List.append_assoc, List.singleton_append]
    rw [((topStmtM_frame _ _).run _ _ _ h1).program]

theorem top_level_program {fuel ss c c'} (h : syntaxToSemanticLoop fuel ss c = .ok (⟨⟩, c')) :
    ∃ out, TopRun fuel ss c out c' ∧ c'.program = c.program ++ out := by
  obtain ⟨out, hout⟩ := top_level_order_preserved.mp h
  exact ⟨out, hout, hout.program⟩

/-- annotations pending before a statement are still pending, first and in order, after its
translation (`TopRun.emit` attaches them to the statement emitted for it) -/
theorem pending_annotations_attach {fuel s c t c1} (h : topStmtM fuel s c = .ok (some t, c1)) :
    c.annotations <+: c1.annotations :=
  ((topStmtM_frame _ _).run _ _ _ h).annotations

/-- a statement that translates to nothing leaves the pending annotations pending -/
theorem pending_annotations_kept {fuel s c c1} (h : topStmtM fuel s c = .ok (none, c1)) :
    c.annotations <+: c1.annotations :=
  ((topStmtM_frame _ _).run _ _ _ h).annotations

/-- `@a` directly before a statement at top level: the emitted statement is annotated, and `a`
follows whatever was pending before -/
theorem annotation_attached_to_following {fuel sp text s rest c out c'}
    (h : TopRun (fuel+2) (.annotationStatement sp text :: s :: rest) c out c')
    {t c1} (ht : topStmtM fuel s { c with annotations := c.annotations ++ [text] } = .ok (some t, c1)) :
    ∃ anns out', out = .annotatedStmt t anns :: out' ∧ c.annotations ++ [text] <+: anns := by
  cases h with
  | skip h1 h2 =>
    have e := annotation_pushes fuel sp text c
    simp only [topStmtM] at h1
    rw [e] at h1; cases h1
    cases h2 with
    | skip h3 _ => rw [ht] at h3; cases h3
    | emit h3 _ _ =>
      rw [ht] at h3; cases h3
      have hp := pending_annotations_attach ht
      simp only at hp
      cases hc : c1.annotations with
      | nil => rw [hc] at hp; simp at hp
      | cons a as => exact ⟨a :: as, _, by simp only [wrap]; rfl, by rw [← hc]; exact hp⟩
  | emit h1 _ _ =>
    have e := annotation_pushes fuel sp text c
    simp only [topStmtM] at h1
    rw [e] at h1; cases h1

/-- `Runs x c fun a _ => Q a` for every `c` -/
def Post {α} (x : M α) (Q : α → Prop) : Prop := ∀ c a c', x c = .ok (a, c') → Q a

theorem Post.bind {α β} {x : M α} {f : α → M β} {P : α → Prop} {Q : β → Prop}
    (hx : Post x P) (hf : ∀ a, P a → Post (f a) Q) : Post (x >>= f) Q := by
  intro c b c' h
  obtain ⟨a, c1, h1, h2⟩ := (bind_ok x f c (b, c')).mp h
  exact hf a (hx _ _ _ h1) _ _ _ h2

theorem Post.bind_any {α β} {x : M α} {f : α → M β} {Q : β → Prop}
    (hf : ∀ a, Post (f a) Q) : Post (x >>= f) Q :=
  Post.bind (P := fun _ => True) (fun _ _ _ _ => trivial) (fun a _ => hf a)

theorem Post.pure {α} {a : α} {Q : α → Prop} (h : Q a) : Post (pure a) Q := by
  intro c b c' hb; simp at hb; obtain ⟨rfl, _⟩ := hb; exact h

theorem Post.fail {α} (site : String) {Q : α → Prop} : Post (fail site) Q := by
  intro c b c' hb; simp at hb

theorem Post.throw {α} (o : Outcome) {Q : α → Prop} : Post (throw o) Q := by
  intro c b c' hb; simp at hb

theorem Post.unwrap {α} (site : String) (o : Option α) : Post (unwrap site o) (fun a => o = some a) := by
  intro c a c' h
  obtain ⟨a', h1, h2⟩ := (unwrap_ok_ex _ _ _ _).mp h
  cases h2; exact h1

@[simp] theorem texpr_castToTexpr (e : TExpr) (t : T) : Asg.texpr (castToTexpr e t) = Asg.texpr e := by
  simp [castToTexpr, Asg.texpr, Asg.expr]

@[simp] theorem texpr_newTexprWithCast (op : BinaryOp) (l r : TExpr) :
    Asg.texpr (newTexprWithCast op l r) = .node ("Bin." ++ binaryOpName op) [Asg.texpr l, Asg.texpr r] := by
  unfold newTexprWithCast
  cases op <;> simp only [Asg.texpr, Asg.expr]
  split <;> split <;> simp [texpr_castToTexpr]


abbrev NM := astBinaryOpNameActual

theorem literal_post (l : Ast.Literal) :
    Post (literalToAsgTexpr l) (fun r => astLiteral false l = r.map Asg.texpr) := by
  unfold literalToAsgTexpr astLiteral
  cases hk : l.kind <;> simp only
  · exact Post.bind_any fun _ => Post.pure (by simp [astLiteralClass, intLiteralToTexpr, Asg.texpr, Asg.expr, literalClass])
  · exact Post.bind_any fun _ => Post.pure (by simp [astLiteralClass, floatLiteralToTexpr, Asg.texpr, Asg.expr, literalClass])
  · split
    · rename_i h; exact Post.pure (by simp [astLiteralClass, h, bitStringLiteralToTexpr, Asg.texpr, Asg.expr, literalClass])
    · rename_i h; exact Post.pure (by simp [astLiteralClass, h])
  · exact Post.pure (by simp [astLiteralClass, boolLiteralToTexpr, Asg.texpr, Asg.expr, literalClass])
  · exact Post.fail _
  · exact Post.fail _
  · exact Post.fail _

theorem binaryOp_post (op : Ast.BinaryOp) :
    Post (binaryOpToAsgType op) (fun r => NM op = binaryOpName r) := by
  intro c r c' h
  rcases op with l | a | (n | ⟨l, s⟩) | _ | _ | a
  · simp [binaryOpToAsgType] at h
  · cases a <;> (simp only [binaryOpToAsgType, M.pure_ok] at h; cases h; rfl)
  · cases n <;> (simp only [binaryOpToAsgType, M.pure_ok] at h; cases h; rfl)
  · simp [binaryOpToAsgType] at h
  · simp only [binaryOpToAsgType, M.pure_ok] at h; cases h; rfl
  · simp only [binaryOpToAsgType, M.pure_ok] at h; cases h; rfl
  · simp [binaryOpToAsgType] at h


theorem Post.mono {α} {x : M α} {P Q : α → Prop} (h : Post x P) (hpq : ∀ a, P a → Q a) : Post x Q :=
  fun c a c' hr => hpq a (h c a c' hr)

theorem syms_eq {α β} {a : List α} {b : List β} (h : a.length = b.length) : syms a = syms b := by
  induction a generalizing b with
  | nil => cases b <;> simp_all [syms]
  | cons x xs ih =>
    cases b with
    | nil => simp at h
    | cons y ys => simp only [List.length_cons, Nat.add_right_cancel_iff] at h; simp [syms] at ih ⊢; exact ih h

/-- extensible: what is known of the non-recursive functions -/
syntax "post_lemma" : tactic
macro_rules | `(tactic| post_lemma) => `(tactic| fail "no lemma")
/-- extensible: the induction hypothesis `ih : AllSk fuel` -/
syntax "post_ih" : tactic
macro_rules | `(tactic| post_ih) => `(tactic| fail "no ih")
/-- extensible: closes a pure goal from the collected facts -/
syntax "post_close" : tactic
macro_rules | `(tactic| post_close) => `(tactic| fail "no closer")

theorem Post.pure_bind {α β} {a : α} {f : α → M β} {Q : β → Prop} (h : Post (f a) Q) :
    Post (Pure.pure a >>= f) Q := by simp only [LawfulMonad.pure_bind]; exact h

theorem Post.fail_bind {α β} (site : String) {f : α → M β} {Q : β → Prop} :
    Post (Sema.fail site >>= f) Q := by
  intro c b c' h; simp [bind_ok] at h

@[simp] theorem opt_map_texpr (o : Option TExpr) : Skel.opt (o.map Asg.texpr) = Asg.optTexpr o := by
  cases o <;> rfl
@[simp] theorem opt_some (s : Skel) : Skel.opt (some s) = s := rfl
@[simp] theorem opt_none : Skel.opt none = leaf "_" := rfl

theorem Post.assoc {α β γ} {x : M α} {f : α → M β} {g : β → M γ} {Q : γ → Prop}
    (h : Post (x >>= fun a => f a >>= g) Q) : Post ((x >>= f) >>= g) Q := by
  rw [bind_assoc]; exact h

/-- one step of a `Post` proof.  `apply` throughout: a rule that does not fit fails at once, where
`refine`/`exact` would first look for a coercion. -/
macro "post_step" : tactic => `(tactic| first
  | cases ‹_ + 1 = Nat.succ _›
  | with_reducible apply Post.fail
  | with_reducible apply Post.throw
  | with_reducible apply Post.fail_bind
  | with_reducible apply Post.pure_bind
  | with_reducible apply Post.pure
  | with_reducible apply Post.assoc
  | (with_reducible apply Post.bind (Post.unwrap _ _)); intro _ hu
  | post_lemma
  | post_ih
  | split
  | (with_reducible apply Post.bind_any); intro _
  | post_close
  | dsimp only)

macro "post" : tactic => `(tactic| repeat' post_step)

-- the first set keeps `Ast.optExpr`, `Ast.expr`, `Ast.paren`, `astLiteral`, … folded, as the facts
-- collected from `literal_post` and the induction hypothesis state them; the second unfolds them too,
-- for the goals in which the shape of the expression is known, and alone does not close the rest
set_option hygiene false in
macro_rules | `(tactic| post_close) => `(tactic| first
  | (try clear ih
     subst_vars
     simp_all [Ast.range, Ast.exprs, Ast.exprList, Ast.optExprList, Ast.setExpr,
     Ast.indexKind, Ast.indexOp, Ast.optIndexOp, Ast.indexOps, Ast.indexedIdent, Ast.gateOperand, Ast.optGateOperand,
     Ast.gateOperands, Ast.optQubitList, Ast.optArgList, Ast.optParen, Ast.modifier, Ast.modifiers, Ast.gateCall,
     Ast.gphaseArg, Ast.exprStmt, Ast.designatorExpr, Ast.forIterable, Ast.forIterableOf, Ast.lvalue,
     expectedW, stmts, block, optBlock, body, accBody, optElse, optDefault, cases,
     Asg.texpr, Asg.expr, Asg.optTexpr, Asg.optArgs, Asg.texprs, Asg.indexOp, Asg.indexOps, Asg.indexedIdent,
     Asg.gateOperand, Asg.modifier, Asg.modifiers, Asg.lvalue, Asg.forIterable, Asg.optQubits, Asg.stmt, Asg.stmts,
     Asg.block, Asg.optElse, Asg.optDefault, Asg.case, Asg.cases, optOpName,
     unaryExprToTexpr, hardwareQubitToAsgTexpr, hardwareQubitToTexpr, rangeExpressionToTexpr, indexExpressionToTexpr,
     indexedIdentifierToTexpr, measureExpressionToTexpr, returnExpressionToTexpr, unaryOpName, gateOperandToTexpr,
     subroutineCallToTexpr, IndexedIdentifier.indexes]
     done)
  | (try clear ih
     subst_vars
     simp_all [Ast.optExpr, Ast.expr, Ast.paren, prefixSk, astLiteral, astLiteralClass, astTimingClass, literalClass, timeUnitToAsg, intLiteralToTexpr, floatLiteralToTexpr,
     intLiteralToImaginaryTexpr, floatLiteralToImaginaryTexpr, timingIntLiteralToTexpr, timingFloatLiteralToTexpr,
     Ast.range, Ast.exprs, Ast.exprList, Ast.optExprList, Ast.setExpr,
     Ast.indexKind, Ast.indexOp, Ast.optIndexOp, Ast.indexOps, Ast.indexedIdent, Ast.gateOperand, Ast.optGateOperand,
     Ast.gateOperands, Ast.optQubitList, Ast.optArgList, Ast.optParen, Ast.modifier, Ast.modifiers, Ast.gateCall,
     Ast.gphaseArg, Ast.exprStmt, Ast.designatorExpr, Ast.forIterable, Ast.forIterableOf, Ast.lvalue,
     expectedW, stmts, block, optBlock, body, accBody, optElse, optDefault, cases,
     Asg.texpr, Asg.expr, Asg.optTexpr, Asg.optArgs, Asg.texprs, Asg.indexOp, Asg.indexOps, Asg.indexedIdent,
     Asg.gateOperand, Asg.modifier, Asg.modifiers, Asg.lvalue, Asg.forIterable, Asg.optQubits, Asg.stmt, Asg.stmts,
     Asg.block, Asg.optElse, Asg.optDefault, Asg.case, Asg.cases, optOpName,
     unaryExprToTexpr, hardwareQubitToAsgTexpr, hardwareQubitToTexpr, rangeExpressionToTexpr, indexExpressionToTexpr,
     indexedIdentifierToTexpr, measureExpressionToTexpr, returnExpressionToTexpr, unaryOpName, gateOperandToTexpr,
     subroutineCallToTexpr, IndexedIdentifier.indexes]))

macro_rules | `(tactic| post_lemma) => `(tactic| (with_reducible apply Post.bind (binaryOp_post _)); intro _ he)
macro_rules | `(tactic| post_lemma) => `(tactic| with_reducible apply literal_post)
macro_rules | `(tactic| post_lemma) => `(tactic| (with_reducible apply Post.mono (literal_post _)); intro _ he)

theorem bindParams_post (t : T) (ps : List Ast.Param) :
    Post (bindParams t ps) (fun r => r.length = ps.length) := by
  induction ps with
  | nil => unfold bindParams; exact Post.pure rfl
  | cons p ps ih =>
    unfold bindParams
    exact Post.bind_any fun _ => Post.bind ih fun _ h => Post.pure (by simp [h])

theorem bindParameterList_post (l : Option Ast.ParamList) (t : T) :
    Post (bindParameterList l t) (fun r => Ast.params l = optSyms r ∧ (∀ qs, r = some qs → Ast.qubitParams l = syms qs)) := by
  unfold bindParameterList
  cases l with
  | none => exact Post.pure ⟨rfl, by simp⟩
  | some pl =>
    refine Post.bind (bindParams_post _ _) fun _ h => Post.pure ?_
    exact ⟨by simp [Ast.params, optSyms, syms_eq h.symm], by
      intro qs hq; cases hq; simp [Ast.qubitParams, syms_eq h.symm]⟩
macro_rules | `(tactic| post_lemma) => `(tactic| (with_reducible apply Post.bind (bindParameterList_post _ _)); intro _ he)

theorem bindTypedParams_post (ps : List Ast.TypedParam) :
    Post (bindTypedParams ps) (fun r => r.length = ps.length) := by
  induction ps with
  | nil => unfold bindTypedParams; exact Post.pure rfl
  | cons p ps ih =>
    unfold bindTypedParams
    have h_ih := ih
    repeat' first
      | exact Post.fail _
      | refine Post.bind h_ih (fun _ he => ?_)
      | refine Post.bind_any (fun _ => ?_)
      | (refine Post.pure ?_; simp [he])
      | split
      | dsimp only

theorem bindTypedParameterList_post (l : Option Ast.TypedParamList) :
    Post (bindTypedParameterList l) (fun r => ∀ ps, r = some ps → Ast.typedParams l = syms ps) := by
  unfold bindTypedParameterList
  cases l with
  | none => exact Post.pure (by simp)
  | some pl =>
    refine Post.bind (bindTypedParams_post _) fun _ h => Post.pure ?_
    intro ps hp; cases hp; simp [Ast.typedParams, syms_eq h.symm]
macro_rules | `(tactic| post_lemma) => `(tactic| (with_reducible apply Post.bind (bindTypedParameterList_post _)); intro _ he)

theorem declareClassicalHelper_post (id : SymbolIdResult) (i : Option TExpr) :
    Post (declareClassicalHelper id i) (fun r => r = .declareClassical id i) := by
  unfold declareClassicalHelper
  repeat' first
    | exact Post.fail _
    | refine Post.bind_any (fun _ => ?_)
    | exact Post.pure rfl
    | split
    | dsimp only
macro_rules | `(tactic| post_lemma) => `(tactic| (with_reducible apply Post.bind (declareClassicalHelper_post _ _)); intro _ he)
macro_rules | `(tactic| post_lemma) => `(tactic| (with_reducible apply Post.mono (declareClassicalHelper_post _ _)); intro _ he)

theorem ioDeclaration_post (a : Bool) (st : Option Ast.ScalarType) (n : Option Ast.Name) (i : Bool) :
    Post (ioDeclarationStatementToAsgStmt a st n i)
      (fun r => leaf (if i then "InputDeclaration" else "OutputDeclaration") = Asg.stmt r) := by
  unfold ioDeclarationStatementToAsgStmt
  repeat' first
    | exact Post.fail _
    | refine Post.bind_any (fun _ => ?_)
    | (refine Post.pure ?_; simp_all [Asg.stmt])
    | split
    | dsimp only
macro_rules | `(tactic| post_lemma) => `(tactic| (with_reducible apply Post.bind (ioDeclaration_post _ _ _ _)); intro _ he)

theorem notImpl_post (sp : Ast.Span) : Post (notImpl sp) (fun r => r = some .nullStmt) := by
  unfold notImpl
  exact Post.bind_any fun _ => Post.pure rfl
macro_rules | `(tactic| post_lemma) => `(tactic| (with_reducible apply Post.mono (notImpl_post _)); intro _ he)

structure AllSk (fuel : Nat) : Prop where
  stmtToAsgStmt : ∀ (s : Ast.Stmt), Post (Oq3.Sema.stmtToAsgStmt fuel s) (fun r => expectedW NM s = r.map Asg.stmt)
  caseExprsLoop : ∀ (cs : List Ast.CaseExpr), Post (Oq3.Sema.caseExprsLoop fuel cs) (fun r => cases NM cs = Asg.cases r)
  exprStmtToAsgStmt : ∀ (e : Option Ast.Expr), Post (Oq3.Sema.exprStmtToAsgStmt fuel e) (fun r => some (Ast.exprStmt NM e) = r.map Asg.stmt)
  modifiersLoop : ∀ (ms : List Ast.Modifier), Post (Oq3.Sema.modifiersLoop fuel ms) (fun r => Ast.modifiers NM ms = Asg.modifiers r)
  parenExprToAsgTexpr : ∀ (p : Ast.ParenExpr), Post (Oq3.Sema.parenExprToAsgTexpr fuel p) (fun r => Ast.paren NM p = r.map Asg.texpr)
  exprToAsgTexpr : ∀ (e : Option Ast.Expr), Post (Oq3.Sema.exprToAsgTexpr fuel e) (fun r => Ast.optExpr NM e = r.map Asg.texpr)
  setExpressionToAsgType : ∀ (s : Ast.SetExpression), Post (Oq3.Sema.setExpressionToAsgType fuel s) (fun r => Ast.setExpr NM s = Asg.texprs r)
  rangeExpressionToAsgType : ∀ (r : Ast.RangeExpr), Post (Oq3.Sema.rangeExpressionToAsgType fuel r) (fun x => Ast.range NM r = [Asg.texpr x.1, Asg.optTexpr x.2.1, Asg.texpr x.2.2])
  gateCallExprToAsgStmt : ∀ (g : Ast.GateCallExpr) (ms : List GateModifier), Post (Oq3.Sema.gateCallExprToAsgStmt fuel g ms) (fun r => some (Ast.gateCall NM g (Asg.modifiers ms)) = r.map Asg.stmt)
  callExprToAsgTexpr : ∀ (sp : Ast.Span) (al : Option Ast.ArgList) (i : Option Ast.Identifier), Post (Oq3.Sema.callExprToAsgTexpr fuel sp al i) (fun r => Skel.node "Call" [Ast.optArgList NM al] = Asg.texpr r)
  gateOperandToAsgTexpr : ∀ (g : Ast.GateOperand), Post (Oq3.Sema.gateOperandToAsgTexpr fuel g) (fun r => Skel.node "GateOperand" [Ast.gateOperand NM g] = Asg.texpr r)
  indexOperatorToAsgType : ∀ (i : Ast.IndexOperator), Post (Oq3.Sema.indexOperatorToAsgType fuel i) (fun r => Ast.indexOp NM i = Asg.indexOp r)
  expressionListToAsgType : ∀ (el : Ast.ExpressionList), Post (Oq3.Sema.expressionListToAsgType fuel el) (fun r => Ast.exprList NM el = Asg.texprs r)
  qubitListToAsgTexpr : ∀ (ql : Option Ast.QubitList), Post (Oq3.Sema.qubitListToAsgTexpr fuel ql) (fun r => Ast.optQubitList NM ql = Asg.texprs r)
  gateOperandsLoop : ∀ (gs : List Ast.GateOperand), Post (Oq3.Sema.gateOperandsLoop fuel gs) (fun r => Ast.gateOperands NM gs = Asg.texprs r)
  expressionListToAsgTexpr : ∀ (el : Ast.ExpressionList), Post (Oq3.Sema.expressionListToAsgTexpr fuel el) (fun r => Ast.exprList NM el = Asg.texprs r)
  exprsLoop : ∀ (es : List Ast.Expr), Post (Oq3.Sema.exprsLoop fuel es) (fun r => Ast.exprs NM es = Asg.texprs r)
  blockExprToAsgStmtList : ∀ (b : Ast.BlockExpr), Post (Oq3.Sema.blockExprToAsgStmtList fuel b) (fun r => block NM b = Asg.stmts r)
  stmtsLoop : ∀ (ss : List Ast.Stmt), Post (Oq3.Sema.stmtsLoop fuel ss) (fun r => stmts NM ss = Asg.stmts r)
  blockExprToAsgType : ∀ (b : Ast.BlockExpr), Post (Oq3.Sema.blockExprToAsgType fuel b) (fun r => block NM b = Asg.block r)
  blockOrStmtToAsgType : ∀ (b : Ast.BlockOrStmt), Post (Oq3.Sema.blockOrStmtToAsgType fuel b) (fun r => body NM b = Asg.block r)
  classicalDeclarationStatementToAsgStmt : ∀ (sp : Ast.Span) (a : Bool) (st : Option Ast.ScalarType) (k : Bool) (n : Option Ast.Name) (e : Option Ast.Expr), Post (Oq3.Sema.classicalDeclarationStatementToAsgStmt fuel sp a st k n e) (fun r => Skel.node "DeclareClassical" [opt (Ast.optExpr NM e)] = Asg.stmt r)
  assignmentStmtToAsgStmt : ∀ (sp : Ast.Span) (i : Option Ast.Identifier) (rhs : Option Ast.Expr) (ii : Option Ast.IndexedIdentifier), Post (Oq3.Sema.assignmentStmtToAsgStmt fuel sp i rhs ii) (fun r => some (Skel.node "Assignment" [Ast.lvalue NM i ii, opt (Ast.optExpr NM rhs)]) = r.map Asg.stmt)
  indexedIdentifierToAsgType : ∀ (ii : Ast.IndexedIdentifier), Post (Oq3.Sema.indexedIdentifierToAsgType fuel ii) (fun r => Ast.indexedIdent NM ii = Asg.indexedIdent r.1)
  indexOperatorsLoop : ∀ (ixs : List Ast.IndexOperator), Post (Oq3.Sema.indexOperatorsLoop fuel ixs) (fun r => Ast.indexOps NM ixs = Asg.indexOps r)

set_option hygiene false in
macro_rules | `(tactic| post_ih) => `(tactic| first
  | (with_reducible apply Post.bind (ih.stmtToAsgStmt _)); intro _ he
  | with_reducible apply ih.stmtToAsgStmt
  | (with_reducible apply Post.mono (ih.stmtToAsgStmt _)); intro _ he
  | (with_reducible apply Post.bind (ih.caseExprsLoop _)); intro _ he
  | with_reducible apply ih.caseExprsLoop
  | (with_reducible apply Post.mono (ih.caseExprsLoop _)); intro _ he
  | (with_reducible apply Post.bind (ih.exprStmtToAsgStmt _)); intro _ he
  | with_reducible apply ih.exprStmtToAsgStmt
  | (with_reducible apply Post.mono (ih.exprStmtToAsgStmt _)); intro _ he
  | (with_reducible apply Post.bind (ih.modifiersLoop _)); intro _ he
  | with_reducible apply ih.modifiersLoop
  | (with_reducible apply Post.mono (ih.modifiersLoop _)); intro _ he
  | (with_reducible apply Post.bind (ih.parenExprToAsgTexpr _)); intro _ he
  | with_reducible apply ih.parenExprToAsgTexpr
  | (with_reducible apply Post.mono (ih.parenExprToAsgTexpr _)); intro _ he
  | (with_reducible apply Post.bind (ih.exprToAsgTexpr _)); intro _ he
  | with_reducible apply ih.exprToAsgTexpr
  | (with_reducible apply Post.mono (ih.exprToAsgTexpr _)); intro _ he
  | (with_reducible apply Post.bind (ih.setExpressionToAsgType _)); intro _ he
  | with_reducible apply ih.setExpressionToAsgType
  | (with_reducible apply Post.mono (ih.setExpressionToAsgType _)); intro _ he
  | (with_reducible apply Post.bind (ih.rangeExpressionToAsgType _)); intro _ he
  | with_reducible apply ih.rangeExpressionToAsgType
  | (with_reducible apply Post.mono (ih.rangeExpressionToAsgType _)); intro _ he
  | (with_reducible apply Post.bind (ih.gateCallExprToAsgStmt _ _)); intro _ he
  | with_reducible apply ih.gateCallExprToAsgStmt
  | (with_reducible apply Post.mono (ih.gateCallExprToAsgStmt _ _)); intro _ he
  | (with_reducible apply Post.bind (ih.callExprToAsgTexpr _ _ _)); intro _ he
  | with_reducible apply ih.callExprToAsgTexpr
  | (with_reducible apply Post.mono (ih.callExprToAsgTexpr _ _ _)); intro _ he
  | (with_reducible apply Post.bind (ih.gateOperandToAsgTexpr _)); intro _ he
  | with_reducible apply ih.gateOperandToAsgTexpr
  | (with_reducible apply Post.mono (ih.gateOperandToAsgTexpr _)); intro _ he
  | (with_reducible apply Post.bind (ih.indexOperatorToAsgType _)); intro _ he
  | with_reducible apply ih.indexOperatorToAsgType
  | (with_reducible apply Post.mono (ih.indexOperatorToAsgType _)); intro _ he
  | (with_reducible apply Post.bind (ih.expressionListToAsgType _)); intro _ he
  | with_reducible apply ih.expressionListToAsgType
  | (with_reducible apply Post.mono (ih.expressionListToAsgType _)); intro _ he
  | (with_reducible apply Post.bind (ih.qubitListToAsgTexpr _)); intro _ he
  | with_reducible apply ih.qubitListToAsgTexpr
  | (with_reducible apply Post.mono (ih.qubitListToAsgTexpr _)); intro _ he
  | (with_reducible apply Post.bind (ih.gateOperandsLoop _)); intro _ he
  | with_reducible apply ih.gateOperandsLoop
  | (with_reducible apply Post.mono (ih.gateOperandsLoop _)); intro _ he
  | (with_reducible apply Post.bind (ih.expressionListToAsgTexpr _)); intro _ he
  | with_reducible apply ih.expressionListToAsgTexpr
  | (with_reducible apply Post.mono (ih.expressionListToAsgTexpr _)); intro _ he
  | (with_reducible apply Post.bind (ih.exprsLoop _)); intro _ he
  | with_reducible apply ih.exprsLoop
  | (with_reducible apply Post.mono (ih.exprsLoop _)); intro _ he
  | (with_reducible apply Post.bind (ih.blockExprToAsgStmtList _)); intro _ he
  | with_reducible apply ih.blockExprToAsgStmtList
  | (with_reducible apply Post.mono (ih.blockExprToAsgStmtList _)); intro _ he
  | (with_reducible apply Post.bind (ih.stmtsLoop _)); intro _ he
  | with_reducible apply ih.stmtsLoop
  | (with_reducible apply Post.mono (ih.stmtsLoop _)); intro _ he
  | (with_reducible apply Post.bind (ih.blockExprToAsgType _)); intro _ he
  | with_reducible apply ih.blockExprToAsgType
  | (with_reducible apply Post.mono (ih.blockExprToAsgType _)); intro _ he
  | (with_reducible apply Post.bind (ih.blockOrStmtToAsgType _)); intro _ he
  | with_reducible apply ih.blockOrStmtToAsgType
  | (with_reducible apply Post.mono (ih.blockOrStmtToAsgType _)); intro _ he
  | (with_reducible apply Post.bind (ih.classicalDeclarationStatementToAsgStmt _ _ _ _ _ _)); intro _ he
  | with_reducible apply ih.classicalDeclarationStatementToAsgStmt
  | (with_reducible apply Post.mono (ih.classicalDeclarationStatementToAsgStmt _ _ _ _ _ _)); intro _ he
  | (with_reducible apply Post.bind (ih.assignmentStmtToAsgStmt _ _ _ _)); intro _ he
  | with_reducible apply ih.assignmentStmtToAsgStmt
  | (with_reducible apply Post.mono (ih.assignmentStmtToAsgStmt _ _ _ _)); intro _ he
  | (with_reducible apply Post.bind (ih.indexedIdentifierToAsgType _)); intro _ he
  | with_reducible apply ih.indexedIdentifierToAsgType
  | (with_reducible apply Post.mono (ih.indexedIdentifierToAsgType _)); intro _ he
  | (with_reducible apply Post.bind (ih.indexOperatorsLoop _)); intro _ he
  | with_reducible apply ih.indexOperatorsLoop
  | (with_reducible apply Post.mono (ih.indexOperatorsLoop _)); intro _ he)

theorem stmtToAsgStmt_sk_step {fuel : Nat} (ih : AllSk fuel) (s : Ast.Stmt) :
    Post (Oq3.Sema.stmtToAsgStmt (fuel + 1) s) (fun r => expectedW NM s = r.map Asg.stmt) := by
  unfold Oq3.Sema.stmtToAsgStmt
  simp only [withScope, bind_assoc, pure_bind]
  post

theorem caseExprsLoop_sk_step {fuel : Nat} (ih : AllSk fuel) (cs : List Ast.CaseExpr) :
    Post (Oq3.Sema.caseExprsLoop (fuel + 1) cs) (fun r => cases NM cs = Asg.cases r) := by
  unfold Oq3.Sema.caseExprsLoop
  simp only [withScope, bind_assoc, pure_bind]
  post

theorem exprStmtToAsgStmt_sk_step {fuel : Nat} (ih : AllSk fuel) (e : Option Ast.Expr) :
    Post (Oq3.Sema.exprStmtToAsgStmt (fuel + 1) e) (fun r => some (Ast.exprStmt NM e) = r.map Asg.stmt) := by
  rcases e with _ | e
  · unfold Oq3.Sema.exprStmtToAsgStmt; post
  cases e <;> (try cases ‹Ast.GPhaseCallExpr›) <;> (unfold Oq3.Sema.exprStmtToAsgStmt; post)

theorem modifiersLoop_sk_step {fuel : Nat} (ih : AllSk fuel) (ms : List Ast.Modifier) :
    Post (Oq3.Sema.modifiersLoop (fuel + 1) ms) (fun r => Ast.modifiers NM ms = Asg.modifiers r) := by
  unfold Oq3.Sema.modifiersLoop
  simp only [pure_bind]
  post

theorem parenExprToAsgTexpr_sk_step {fuel : Nat} (ih : AllSk fuel) (p : Ast.ParenExpr) :
    Post (Oq3.Sema.parenExprToAsgTexpr (fuel + 1) p) (fun r => Ast.paren NM p = r.map Asg.texpr) := by
  unfold Oq3.Sema.parenExprToAsgTexpr
  post

theorem exprToAsgTexpr_sk_step {fuel : Nat} (ih : AllSk fuel) (e : Option Ast.Expr) :
    Post (Oq3.Sema.exprToAsgTexpr (fuel + 1) e) (fun r => Ast.optExpr NM e = r.map Asg.texpr) := by
  rcases e with _ | e <;> (unfold Oq3.Sema.exprToAsgTexpr; post)

theorem setExpressionToAsgType_sk_step {fuel : Nat} (ih : AllSk fuel) (s : Ast.SetExpression) :
    Post (Oq3.Sema.setExpressionToAsgType (fuel + 1) s) (fun r => Ast.setExpr NM s = Asg.texprs r) := by
  unfold Oq3.Sema.setExpressionToAsgType
  post

theorem rangeExpressionToAsgType_sk_step {fuel : Nat} (ih : AllSk fuel) (r : Ast.RangeExpr) :
    Post (Oq3.Sema.rangeExpressionToAsgType (fuel + 1) r) (fun x => Ast.range NM r = [Asg.texpr x.1, Asg.optTexpr x.2.1, Asg.texpr x.2.2]) := by
  unfold Oq3.Sema.rangeExpressionToAsgType
  post

theorem gateCallExprToAsgStmt_sk_step {fuel : Nat} (ih : AllSk fuel) (g : Ast.GateCallExpr) (ms : List GateModifier) :
    Post (Oq3.Sema.gateCallExprToAsgStmt (fuel + 1) g ms) (fun r => some (Ast.gateCall NM g (Asg.modifiers ms)) = r.map Asg.stmt) := by
  unfold Oq3.Sema.gateCallExprToAsgStmt
  simp only [pure_bind]
  post

theorem callExprToAsgTexpr_sk_step {fuel : Nat} (ih : AllSk fuel) (sp : Ast.Span) (al : Option Ast.ArgList) (i : Option Ast.Identifier) :
    Post (Oq3.Sema.callExprToAsgTexpr (fuel + 1) sp al i) (fun r => Skel.node "Call" [Ast.optArgList NM al] = Asg.texpr r) := by
  unfold Oq3.Sema.callExprToAsgTexpr
  simp only [pure_bind]
  post

theorem gateOperandToAsgTexpr_sk_step {fuel : Nat} (ih : AllSk fuel) (g : Ast.GateOperand) :
    Post (Oq3.Sema.gateOperandToAsgTexpr (fuel + 1) g) (fun r => Skel.node "GateOperand" [Ast.gateOperand NM g] = Asg.texpr r) := by
  unfold Oq3.Sema.gateOperandToAsgTexpr
  post

theorem indexOperatorToAsgType_sk_step {fuel : Nat} (ih : AllSk fuel) (i : Ast.IndexOperator) :
    Post (Oq3.Sema.indexOperatorToAsgType (fuel + 1) i) (fun r => Ast.indexOp NM i = Asg.indexOp r) := by
  unfold Oq3.Sema.indexOperatorToAsgType
  post

theorem expressionListToAsgType_sk_step {fuel : Nat} (ih : AllSk fuel) (el : Ast.ExpressionList) :
    Post (Oq3.Sema.expressionListToAsgType (fuel + 1) el) (fun r => Ast.exprList NM el = Asg.texprs r) := by
  unfold Oq3.Sema.expressionListToAsgType
  post

theorem qubitListToAsgTexpr_sk_step {fuel : Nat} (ih : AllSk fuel) (ql : Option Ast.QubitList) :
    Post (Oq3.Sema.qubitListToAsgTexpr (fuel + 1) ql) (fun r => Ast.optQubitList NM ql = Asg.texprs r) := by
  unfold Oq3.Sema.qubitListToAsgTexpr
  post

theorem gateOperandsLoop_sk_step {fuel : Nat} (ih : AllSk fuel) (gs : List Ast.GateOperand) :
    Post (Oq3.Sema.gateOperandsLoop (fuel + 1) gs) (fun r => Ast.gateOperands NM gs = Asg.texprs r) := by
  unfold Oq3.Sema.gateOperandsLoop
  post

theorem expressionListToAsgTexpr_sk_step {fuel : Nat} (ih : AllSk fuel) (el : Ast.ExpressionList) :
    Post (Oq3.Sema.expressionListToAsgTexpr (fuel + 1) el) (fun r => Ast.exprList NM el = Asg.texprs r) := by
  unfold Oq3.Sema.expressionListToAsgTexpr
  post

theorem exprsLoop_sk_step {fuel : Nat} (ih : AllSk fuel) (es : List Ast.Expr) :
    Post (Oq3.Sema.exprsLoop (fuel + 1) es) (fun r => Ast.exprs NM es = Asg.texprs r) := by
  unfold Oq3.Sema.exprsLoop
  post

theorem blockExprToAsgStmtList_sk_step {fuel : Nat} (ih : AllSk fuel) (b : Ast.BlockExpr) :
    Post (Oq3.Sema.blockExprToAsgStmtList (fuel + 1) b) (fun r => block NM b = Asg.stmts r) := by
  unfold Oq3.Sema.blockExprToAsgStmtList
  post

theorem stmtsLoop_sk_step {fuel : Nat} (ih : AllSk fuel) (ss : List Ast.Stmt) :
    Post (Oq3.Sema.stmtsLoop (fuel + 1) ss) (fun r => stmts NM ss = Asg.stmts r) := by
  unfold Oq3.Sema.stmtsLoop
  post

theorem blockExprToAsgType_sk_step {fuel : Nat} (ih : AllSk fuel) (b : Ast.BlockExpr) :
    Post (Oq3.Sema.blockExprToAsgType (fuel + 1) b) (fun r => block NM b = Asg.block r) := by
  unfold Oq3.Sema.blockExprToAsgType
  post

theorem blockOrStmtToAsgType_sk_step {fuel : Nat} (ih : AllSk fuel) (b : Ast.BlockOrStmt) :
    Post (Oq3.Sema.blockOrStmtToAsgType (fuel + 1) b) (fun r => body NM b = Asg.block r) := by
  unfold Oq3.Sema.blockOrStmtToAsgType
  post

theorem classicalDeclarationStatementToAsgStmt_sk_step {fuel : Nat} (ih : AllSk fuel) (sp : Ast.Span) (a : Bool) (st : Option Ast.ScalarType) (k : Bool) (n : Option Ast.Name) (e : Option Ast.Expr) :
    Post (Oq3.Sema.classicalDeclarationStatementToAsgStmt (fuel + 1) sp a st k n e) (fun r => Skel.node "DeclareClassical" [opt (Ast.optExpr NM e)] = Asg.stmt r) := by
  unfold Oq3.Sema.classicalDeclarationStatementToAsgStmt
  simp only [pure_bind]
  post

theorem assignmentStmtToAsgStmt_sk_step {fuel : Nat} (ih : AllSk fuel) (sp : Ast.Span) (i : Option Ast.Identifier) (rhs : Option Ast.Expr) (ii : Option Ast.IndexedIdentifier) :
    Post (Oq3.Sema.assignmentStmtToAsgStmt (fuel + 1) sp i rhs ii) (fun r => some (Skel.node "Assignment" [Ast.lvalue NM i ii, opt (Ast.optExpr NM rhs)]) = r.map Asg.stmt) := by
  unfold Oq3.Sema.assignmentStmtToAsgStmt
  simp only [pure_bind]
  post

theorem indexedIdentifierToAsgType_sk_step {fuel : Nat} (ih : AllSk fuel) (ii : Ast.IndexedIdentifier) :
    Post (Oq3.Sema.indexedIdentifierToAsgType (fuel + 1) ii) (fun r => Ast.indexedIdent NM ii = Asg.indexedIdent r.1) := by
  unfold Oq3.Sema.indexedIdentifierToAsgType
  post

theorem indexOperatorsLoop_sk_step {fuel : Nat} (ih : AllSk fuel) (ixs : List Ast.IndexOperator) :
    Post (Oq3.Sema.indexOperatorsLoop (fuel + 1) ixs) (fun r => Ast.indexOps NM ixs = Asg.indexOps r) := by
  unfold Oq3.Sema.indexOperatorsLoop
  post

theorem allSk (fuel : Nat) : AllSk fuel := by
  induction fuel with
  | zero =>
    constructor
    · intros; unfold Oq3.Sema.stmtToAsgStmt; post
    · intros; unfold Oq3.Sema.caseExprsLoop; post
    · intros; unfold Oq3.Sema.exprStmtToAsgStmt; post
    · intros; unfold Oq3.Sema.modifiersLoop; post
    · intros; unfold Oq3.Sema.parenExprToAsgTexpr; post
    · intros; unfold Oq3.Sema.exprToAsgTexpr; post
    · intros; unfold Oq3.Sema.setExpressionToAsgType; post
    · intros; unfold Oq3.Sema.rangeExpressionToAsgType; post
    · intros; unfold Oq3.Sema.gateCallExprToAsgStmt; post
    · intros; unfold Oq3.Sema.callExprToAsgTexpr; post
    · intros; unfold Oq3.Sema.gateOperandToAsgTexpr; post
    · intros; unfold Oq3.Sema.indexOperatorToAsgType; post
    · intros; unfold Oq3.Sema.expressionListToAsgType; post
    · intros; unfold Oq3.Sema.qubitListToAsgTexpr; post
    · intros; unfold Oq3.Sema.gateOperandsLoop; post
    · intros; unfold Oq3.Sema.expressionListToAsgTexpr; post
    · intros; unfold Oq3.Sema.exprsLoop; post
    · intros; unfold Oq3.Sema.blockExprToAsgStmtList; post
    · intros; unfold Oq3.Sema.stmtsLoop; post
    · intros; unfold Oq3.Sema.blockExprToAsgType; post
    · intros; unfold Oq3.Sema.blockOrStmtToAsgType; post
    · intros; unfold Oq3.Sema.classicalDeclarationStatementToAsgStmt; post
    · intros; unfold Oq3.Sema.assignmentStmtToAsgStmt; post
    · intros; unfold Oq3.Sema.indexedIdentifierToAsgType; post
    · intros; unfold Oq3.Sema.indexOperatorsLoop; post
  | succ fuel ih =>
    constructor
    · exact stmtToAsgStmt_sk_step ih
    · exact caseExprsLoop_sk_step ih
    · exact exprStmtToAsgStmt_sk_step ih
    · exact modifiersLoop_sk_step ih
    · exact parenExprToAsgTexpr_sk_step ih
    · exact exprToAsgTexpr_sk_step ih
    · exact setExpressionToAsgType_sk_step ih
    · exact rangeExpressionToAsgType_sk_step ih
    · exact gateCallExprToAsgStmt_sk_step ih
    · exact callExprToAsgTexpr_sk_step ih
    · exact gateOperandToAsgTexpr_sk_step ih
    · exact indexOperatorToAsgType_sk_step ih
    · exact expressionListToAsgType_sk_step ih
    · exact qubitListToAsgTexpr_sk_step ih
    · exact gateOperandsLoop_sk_step ih
    · exact expressionListToAsgTexpr_sk_step ih
    · exact exprsLoop_sk_step ih
    · exact blockExprToAsgStmtList_sk_step ih
    · exact stmtsLoop_sk_step ih
    · exact blockExprToAsgType_sk_step ih
    · exact blockOrStmtToAsgType_sk_step ih
    · exact classicalDeclarationStatementToAsgStmt_sk_step ih
    · exact assignmentStmtToAsgStmt_sk_step ih
    · exact indexedIdentifierToAsgType_sk_step ih
    · exact indexOperatorsLoop_sk_step ih

/-- **skeleton preservation, statements**: whenever the translation of a statement returns
normally (any fuel, any context), the skeleton of what it returns is the skeleton predicted from
the AST alone — kinds, roles, order of operands / arguments / qubit operands / index lists /
modifiers, operator identity (with `**` read as concatenation: F08b), literal class, nested
blocks. -/
theorem skeleton_preserved_stmt {fuel s c r c'} (h : stmtToAsgStmt fuel s c = .ok (r, c')) :
    r.map Asg.stmt = expectedW astBinaryOpNameActual s :=
  ((allSk fuel).stmtToAsgStmt s c r c' h).symm

theorem skeleton_preserved_block {fuel ss c r c'} (h : stmtsLoop fuel ss c = .ok (r, c')) :
    Asg.stmts r = stmts astBinaryOpNameActual ss :=
  ((allSk fuel).stmtsLoop ss c r c' h).symm

theorem skeleton_preserved_expr {fuel e c r c'} (h : exprToAsgTexpr fuel e c = .ok (r, c')) :
    r.map Asg.texpr = Ast.optExpr astBinaryOpNameActual e :=
  ((allSk fuel).exprToAsgTexpr e c r c' h).symm

theorem actual_name_eq (op : Ast.BinaryOp) (h : op ≠ .powerOp) :
    astBinaryOpNameActual op = astBinaryOpName op := by
  cases op <;> first | rfl | exact absurd rfl h

/-- the skeleton of the statement emitted for a translation `k` with `anns` pending -/
def wrapSk (k : Skel) (anns : List String) : Skel :=
  match anns with
  | [] => k
  | _ :: _ => .node "Annotated" [k, .node "Annotations" (anns.map leaf)]

theorem stmt_wrap (t : Stmt) (anns : List String) : Asg.stmt (wrap t anns) = wrapSk (Asg.stmt t) anns := by
  cases anns <;> simp [wrap, wrapSk, Asg.stmt]


inductive Forall₂ {α β : Type} (R : α → β → Prop) : List α → List β → Prop
  | nil : Forall₂ R [] []
  | cons {a b as bs} : R a b → Forall₂ R as bs → Forall₂ R (a :: as) (b :: bs)

theorem topStmtM_sk {fuel s c r c1} (h : topStmtM fuel s c = .ok (r, c1)) :
    r.map Asg.stmt = expectedW astBinaryOpNameActual s := by
  cases s
  case includeStmt sp file =>
    have hn : Post (topStmtM fuel (.includeStmt sp file)) (fun r => r = none) := by
      unfold topStmtM
      repeat' first
        | with_reducible exact Post.fail _
        | with_reducible exact Post.throw _
        | with_reducible exact Post.fail_bind _
        | with_reducible refine Post.bind_any (fun _ => ?_)
        | with_reducible exact Post.pure rfl
        | split
        | dsimp only
    rw [hn c r c1 h]; rfl
  all_goals (simp only [topStmtM] at h; exact skeleton_preserved_stmt h)

/-- **skeleton preservation, program**: the statements the top-level loop appends are, in source
order, the statements that have a translation, each with the expected skeleton, possibly wrapped
with annotations (`wrapSk`; which ones: `TopRun.emit`) -/
theorem skeleton_preserved_top {fuel ss c out c'} (h : TopRun fuel ss c out c') :
    Forall₂ (fun k t => ∃ anns, Asg.stmt t = wrapSk k anns)
      (ss.filterMap (expectedW astBinaryOpNameActual)) out := by
  induction h with
  | nil => exact .nil
  | skip h1 _ ih =>
    have := topStmtM_sk h1
    simp only [Option.map_none] at this
    simp only [List.filterMap_cons, ← this]
    exact ih
  | emit h1 _ _ ih =>
    have := topStmtM_sk h1
    simp only [Option.map_some] at this
    simp only [List.filterMap_cons, ← this]
    exact .cons ⟨_, stmt_wrap _ _⟩ ih

theorem skeleton_preserved {fuel ss c c'} (h : syntaxToSemanticLoop fuel ss c = .ok (⟨⟩, c')) :
    ∃ out, c'.program = c.program ++ out ∧
      Forall₂ (fun k t => ∃ anns, Asg.stmt t = wrapSk k anns)
        (ss.filterMap (expectedW astBinaryOpNameActual)) out := by
  obtain ⟨out, hrun, hprog⟩ := top_level_program h
  exact ⟨out, hprog, skeleton_preserved_top hrun⟩



/-- `if (true) { @a ⏎ break; }` -/
def nestedAnnotationProgram : List Ast.Stmt :=
  [.ifStmt ⟨0, 30⟩ (some (.literal ⟨⟨4, 8⟩, .bool true⟩))
    (.ok (.blockExpr (.mk ⟨10, 30⟩ [.annotationStatement ⟨12, 14⟩ "@a", .breakStmt ⟨15, 21⟩]))) none]

/-- FINDING (nested annotation): an annotation inside a block is not attached to the statement
that follows it in the block; it stays pending and ends up on the ENCLOSING top-level statement -/
theorem witness_nested_annotation_leaks :
    (match syntaxToSemanticLoop 20 nestedAnnotationProgram {} with
     | .ok (_, c) => some c.program
     | .error _ => none) =
    some [.annotatedStmt (.ifStmt (boolLiteralToTexpr true) (.mk [.breakStmt]) none) ["@a"]] := by
  rfl

end Oq3.C06
