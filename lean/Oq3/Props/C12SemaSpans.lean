/-
C12, semantic clause — definitions and base lemmas.

* `Ast.*.spans`: every text range that occurs anywhere in an I5 subtree (statements, expressions,
  names, identifiers, designators, types, operands, parameter lists, …), recursively — exactly the
  `(start end)` pairs the `ast` dump carries.
* `ErrIn L x`: on every successful run of `x` the diagnostics are only appended, and every appended
  diagnostic carries a range of `L`.  It composes along `>>=` and is monotone in `L`.
* one lemma per primitive of `Model/SemaCtx.lean` (`unwrap` … `standardLibraryGates`,
  `lookupIdentifier`), in the form "`<range the diagnostic is put at> ∈ L → ErrIn L (f args)`".

The lemmas of the non-recursive functions of `Model/SemaCtx.lean` (`notImpl` … `mutateConstCheck`),
in the form "`<ranges of the arguments> ⊆ L → ErrIn L (f args)`", and the closure over the mutual
block are generated (`Props/C12SemaGen.lean`), the property theorem is in
`Props/C12Sema.lean`.
-/
import Oq3.Lemmas.SpanNf
import Oq3.Lemmas.SemaInv

namespace Oq3.Ast

def optNameSpans : Option Name → List Span
  | some n => [n.span] | none => []

def optIdentifierSpans : Option Identifier → List Span
  | some n => [n.span] | none => []

def optLiteralSpans : Option Literal → List Span
  | some n => [n.span] | none => []

def ParamList.spans (p : ParamList) : List Span := p.span :: p.params.map (·.span)

def optParamListSpans : Option ParamList → List Span
  | some p => p.spans | none => []

mutual
def Expr.spans : Expr → List Span
  | .prefixExpr s _ e => s :: optExprSpans e
  | .parenExpr p => p.spans
  | .binExpr s _ l r => s :: (optExprSpans l ++ optExprSpans r)
  | .literal l => [l.span]
  | .timingLiteral s _ _ lit => s :: optLiteralSpans lit
  | .identifier i => [i.span]
  | .hardwareQubit h => [h.span]
  | .rangeExpr r => r.spans
  | .indexExpr s e i => s :: (optExprSpans e ++ optIndexOperatorSpans i)
  | .indexedIdentifier i => i.spans
  | .measureExpression s g => s :: optGateOperandSpans g
  | .returnExpr s e => s :: optExprSpans e
  | .castExpression s st e => s :: (optScalarTypeSpans st ++ optExprSpans e)
  | .callExpr s a i => s :: (optArgListSpans a ++ optIdentifierSpans i)
  | .gateCallExpr g => g.spans
  | .gPhaseCallExpr g => g.spans
  | .modifiedGateCallExpr s ms g p =>
    s :: (modifiersSpans ms ++ (optGateCallExprSpans g ++ optGPhaseCallExprSpans p))
  | .unsupported _ s => [s]
def ParenExpr.spans : ParenExpr → List Span
  | .mk s e => s :: optExprSpans e
def RangeExpr.spans : RangeExpr → List Span
  | .mk s a b c => s :: (optExprSpans a ++ (optExprSpans b ++ optExprSpans c))
def Designator.spans : Designator → List Span
  | .mk s e => s :: optExprSpans e
def ScalarType.spans : ScalarType → List Span
  | .mk s _ d st => s :: (optDesignatorSpans d ++ optScalarTypeSpans st)
def ExpressionList.spans : ExpressionList → List Span
  | .mk s es => s :: exprsSpans es
def SetExpression.spans : SetExpression → List Span
  | .mk s el => s :: optExpressionListSpans el
def IndexKind.spans : IndexKind → List Span
  | .setExpression s => s.spans
  | .expressionList e => e.spans
def IndexOperator.spans : IndexOperator → List Span
  | .mk s k => s :: optIndexKindSpans k
def IndexedIdentifier.spans : IndexedIdentifier → List Span
  | .mk s i ixs => s :: (optIdentifierSpans i ++ indexOperatorsSpans ixs)
def GateOperand.spans : GateOperand → List Span
  | .hardwareQubit h => [h.span]
  | .identifier i => [i.span]
  | .indexedIdentifier i => i.spans
def QubitList.spans : QubitList → List Span
  | .mk s gs => s :: gateOperandsSpans gs
def ArgList.spans : ArgList → List Span
  | .mk s el => s :: optExpressionListSpans el
def GateCallExpr.spans : GateCallExpr → List Span
  | .mk s q a i => s :: (optQubitListSpans q ++ (optArgListSpans a ++ optIdentifierSpans i))
def GPhaseCallExpr.spans : GPhaseCallExpr → List Span
  | .mk s e => s :: optExprSpans e
def Modifier.spans : Modifier → List Span
  | .invModifier s => [s]
  | .powModifier s p | .ctrlModifier s p | .negCtrlModifier s p => s :: optParenExprSpans p
def optExprSpans : Option Expr → List Span
  | none => [] | some e => e.spans
def exprsSpans : List Expr → List Span
  | [] => [] | e :: es => e.spans ++ exprsSpans es
def optParenExprSpans : Option ParenExpr → List Span
  | none => [] | some e => e.spans
def optDesignatorSpans : Option Designator → List Span
  | none => [] | some e => e.spans
def optScalarTypeSpans : Option ScalarType → List Span
  | none => [] | some e => e.spans
def optExpressionListSpans : Option ExpressionList → List Span
  | none => [] | some e => e.spans
def optIndexKindSpans : Option IndexKind → List Span
  | none => [] | some e => e.spans
def optIndexOperatorSpans : Option IndexOperator → List Span
  | none => [] | some e => e.spans
def indexOperatorsSpans : List IndexOperator → List Span
  | [] => [] | e :: es => e.spans ++ indexOperatorsSpans es
def optGateOperandSpans : Option GateOperand → List Span
  | none => [] | some e => e.spans
def gateOperandsSpans : List GateOperand → List Span
  | [] => [] | e :: es => e.spans ++ gateOperandsSpans es
def optQubitListSpans : Option QubitList → List Span
  | none => [] | some e => e.spans
def optArgListSpans : Option ArgList → List Span
  | none => [] | some e => e.spans
def optGateCallExprSpans : Option GateCallExpr → List Span
  | none => [] | some e => e.spans
def optGPhaseCallExprSpans : Option GPhaseCallExpr → List Span
  | none => [] | some e => e.spans
def modifiersSpans : List Modifier → List Span
  | [] => [] | e :: es => e.spans ++ modifiersSpans es
end

def ParamType.spans : ParamType → List Span
  | .scalarType s => s.spans
  | .arrayRefType s => [s]

def optParamTypeSpans : Option ParamType → List Span
  | some p => p.spans | none => []

def TypedParam.spans (p : TypedParam) : List Span :=
  p.span :: (optParamTypeSpans p.paramType ++ optNameSpans p.name)

def typedParamsSpans : List TypedParam → List Span
  | [] => [] | p :: ps => p.spans ++ typedParamsSpans ps

def optTypedParamListSpans : Option TypedParamList → List Span
  | some l => l.span :: typedParamsSpans l.typedParams | none => []

def optReturnSignatureSpans : Option ReturnSignature → List Span
  | some r => r.span :: optScalarTypeSpans r.scalarType | none => []

def optQubitTypeSpans : Option QubitType → List Span
  | some q => q.span :: optDesignatorSpans q.designator | none => []

def optForIterableSpans : Option ForIterable → List Span
  | some f => f.span :: ((match f.setExpression with | some s => s.spans | none => []) ++
      ((match f.rangeExpr with | some s => s.spans | none => []) ++ optExprSpans f.forIterableExpr))
  | none => []

def optHardwareQubitSpans : Option HardwareQubit → List Span
  | some h => [h.span] | none => []

def optFilePathSpans : Option FilePath → List Span
  | some h => [h.span] | none => []

def optIndexedIdentifierSpans : Option IndexedIdentifier → List Span
  | some i => i.spans | none => []

mutual
def Stmt.spans : Stmt → List Span
  | .ifStmt s c t f => s :: (optExprSpans c ++ (accBosSpans t ++ optBosSpans f))
  | .whileStmt s c b => s :: (optExprSpans c ++ accBosSpans b)
  | .forStmt s v st it b =>
    s :: (optNameSpans v ++ (optScalarTypeSpans st ++ (optForIterableSpans it ++ accBosSpans b)))
  | .switchCaseStmt s c cs d => s :: (optExprSpans c ++ (casesSpans cs ++ optBlockSpans d))
  | .classicalDeclarationStatement s _ st _ n e =>
    s :: (optScalarTypeSpans st ++ (optNameSpans n ++ optExprSpans e))
  | .ioDeclarationStatement s _ st n _ => s :: (optScalarTypeSpans st ++ optNameSpans n)
  | .quantumDeclarationStatement s n h qt =>
    s :: (optNameSpans n ++ (optHardwareQubitSpans h ++ optQubitTypeSpans qt))
  | .assignmentStmt s i rhs ii =>
    s :: (optIdentifierSpans i ++ (optExprSpans rhs ++ optIndexedIdentifierSpans ii))
  | .breakStmt s | .continueStmt s | .endStmt s => [s]
  | .gate s n a q b =>
    s :: (optNameSpans n ++ (optParamListSpans a ++ (optParamListSpans q ++ optBlockSpans b)))
  | .defStmt s n tp b rs =>
    s :: (optNameSpans n ++ (optTypedParamListSpans tp ++ (optBlockSpans b ++ optReturnSignatureSpans rs)))
  | .barrier s q => s :: optQubitListSpans q
  | .delayStmt s q d => s :: (optQubitListSpans q ++ optDesignatorSpans d)
  | .reset s g => s :: optGateOperandSpans g
  | .includeStmt s f => s :: optFilePathSpans f
  | .exprStmt s e => s :: optExprSpans e
  | .versionString s => [s]
  | .pragmaStatement s _ => [s]
  | .annotationStatement s _ => [s]
  | .aliasDeclarationStatement s n e => s :: (optNameSpans n ++ optExprSpans e)
  | .notImpl _ s => [s]
def BlockExpr.spans : BlockExpr → List Span
  | .mk s ss => s :: stmtsSpans ss
def BlockOrStmt.spans : BlockOrStmt → List Span
  | .blockExpr b => b.spans
  | .stmt s => s.spans
def CaseExpr.spans : CaseExpr → List Span
  | .mk s el b => s :: (optExpressionListSpans el ++ optBlockSpans b)
def stmtsSpans : List Stmt → List Span
  | [] => [] | s :: ss => s.spans ++ stmtsSpans ss
def casesSpans : List CaseExpr → List Span
  | [] => [] | s :: ss => s.spans ++ casesSpans ss
def optBlockSpans : Option BlockExpr → List Span
  | none => [] | some b => b.spans
def optBosSpans : Option BlockOrStmt → List Span
  | none => [] | some b => b.spans
def accBosSpans : Acc BlockOrStmt → List Span
  | .panicked => [] | .ok b => b.spans
end

/-- **every range that occurs in the I5 tree of a program** -/
def spans (p : Program) : List Span := p.span :: stmtsSpans p.statements

theorem ParenExpr.span_mem (p : ParenExpr) : p.span ∈ p.spans := by
  cases p; simp [ParenExpr.span, ParenExpr.spans]
theorem RangeExpr.span_mem (p : RangeExpr) : p.span ∈ p.spans := by
  cases p; simp [RangeExpr.span, RangeExpr.spans]
theorem Designator.span_mem (p : Designator) : p.span ∈ p.spans := by
  cases p; simp [Designator.span, Designator.spans]
theorem IndexedIdentifier.span_mem (p : IndexedIdentifier) : p.span ∈ p.spans := by
  cases p; simp [IndexedIdentifier.span, IndexedIdentifier.spans]
theorem QubitList.span_mem (p : QubitList) : p.span ∈ p.spans := by
  cases p; simp [QubitList.span, QubitList.spans]
theorem ArgList.span_mem (p : ArgList) : p.span ∈ p.spans := by
  cases p; simp [ArgList.span, ArgList.spans]
theorem GateCallExpr.span_mem (p : GateCallExpr) : p.span ∈ p.spans := by
  cases p; simp [GateCallExpr.span, GateCallExpr.spans]
theorem GPhaseCallExpr.span_mem (p : GPhaseCallExpr) : p.span ∈ p.spans := by
  cases p; simp [GPhaseCallExpr.span, GPhaseCallExpr.spans]
theorem GateOperand.span_mem (p : GateOperand) : p.span ∈ p.spans := by
  cases p <;> simp [GateOperand.span, GateOperand.spans, IndexedIdentifier.span_mem]
theorem Expr.span_mem (e : Expr) : e.span ∈ e.spans := by
  cases e <;> simp [Expr.span, Expr.spans, ParenExpr.span_mem, RangeExpr.span_mem,
    IndexedIdentifier.span_mem, GateCallExpr.span_mem, GPhaseCallExpr.span_mem]

@[simp] theorem ParenExpr.span_mk (s : Span) {x0} : (ParenExpr.mk s x0).span = s := rfl
@[simp] theorem RangeExpr.span_mk (s : Span) {x0 x1 x2} : (RangeExpr.mk s x0 x1 x2).span = s := rfl
@[simp] theorem Designator.span_mk (s : Span) {x0} : (Designator.mk s x0).span = s := rfl
@[simp] theorem ExpressionList.span_mk (s : Span) {x0} : (ExpressionList.mk s x0).span = s := rfl
@[simp] theorem SetExpression.span_mk (s : Span) {x0} : (SetExpression.mk s x0).span = s := rfl
@[simp] theorem IndexOperator.span_mk (s : Span) {x0} : (IndexOperator.mk s x0).span = s := rfl
@[simp] theorem IndexedIdentifier.span_mk (s : Span) {x0 x1} : (IndexedIdentifier.mk s x0 x1).span = s := rfl
@[simp] theorem QubitList.span_mk (s : Span) {x0} : (QubitList.mk s x0).span = s := rfl
@[simp] theorem ArgList.span_mk (s : Span) {x0} : (ArgList.mk s x0).span = s := rfl
@[simp] theorem GateCallExpr.span_mk (s : Span) {x0 x1 x2} : (GateCallExpr.mk s x0 x1 x2).span = s := rfl
@[simp] theorem GPhaseCallExpr.span_mk (s : Span) {x0} : (GPhaseCallExpr.mk s x0).span = s := rfl
@[simp] theorem BlockExpr.span_mk (s : Span) {x0} : (BlockExpr.mk s x0).span = s := rfl
@[simp] theorem CaseExpr.span_mk (s : Span) {x0 x1} : (CaseExpr.mk s x0 x1).span = s := rfl
@[simp] theorem GateOperand.span_hardwareQubit (h : HardwareQubit) :
    (GateOperand.hardwareQubit h).span = h.span := rfl
@[simp] theorem GateOperand.span_identifier (i : Identifier) :
    (GateOperand.identifier i).span = i.span := rfl
@[simp] theorem GateOperand.span_indexedIdentifier (i : IndexedIdentifier) :
    (GateOperand.indexedIdentifier i).span = i.span := rfl

/-! conditional rewrite rules for `span_side` -/
theorem Expr.span_mem_of {e : Expr} {L : List Span} (h : e.spans ⊆ L) : e.span ∈ L := h e.span_mem
theorem ParenExpr.span_mem_of {e : ParenExpr} {L : List Span} (h : e.spans ⊆ L) : e.span ∈ L := h e.span_mem
theorem RangeExpr.span_mem_of {e : RangeExpr} {L : List Span} (h : e.spans ⊆ L) : e.span ∈ L := h e.span_mem
theorem Designator.span_mem_of {e : Designator} {L : List Span} (h : e.spans ⊆ L) : e.span ∈ L := h e.span_mem
theorem IndexedIdentifier.span_mem_of {e : IndexedIdentifier} {L : List Span} (h : e.spans ⊆ L) :
    e.span ∈ L := h e.span_mem
theorem QubitList.span_mem_of {e : QubitList} {L : List Span} (h : e.spans ⊆ L) : e.span ∈ L := h e.span_mem
theorem ArgList.span_mem_of {e : ArgList} {L : List Span} (h : e.spans ⊆ L) : e.span ∈ L := h e.span_mem
theorem GateCallExpr.span_mem_of {e : GateCallExpr} {L : List Span} (h : e.spans ⊆ L) : e.span ∈ L :=
  h e.span_mem
theorem GateOperand.span_mem_of {e : GateOperand} {L : List Span} (h : e.spans ⊆ L) : e.span ∈ L :=
  h e.span_mem

end Oq3.Ast

namespace Oq3.Sema
open Oq3.Types Oq3.Symbols Oq3.Ast

open Lean Elab Tactic Meta in
/-- proof-script helper: give the (unique) hypothesis of the form `_ ⊆ _` the accessible name `hsub`
(after `split` the hypothesis may have become inaccessible) -/
elab "name_subset_hyp" : tactic => withMainContext do
  let lctx ← getLCtx
  for decl in lctx do
    if decl.isImplementationDetail then continue
    let ty ← instantiateMVars decl.type
    if ty.isAppOf ``HasSubset.Subset then
      let g ← getMainGoal
      let g' ← g.rename decl.fvarId `hsub
      replaceMainGoal [g']
      return
  throwError "no hypothesis of the form _ ⊆ _"

def SemErr.range (e : SemErr) : Ast.Span := ⟨e.start, e.stop⟩

structure ErrIn (L : List Ast.Span) {α} (x : M α) : Prop where
  run : ∀ s r, x s = .ok r →
    ∃ new, r.2.semanticErrors = s.semanticErrors ++ new ∧ ∀ e ∈ new, e.range ∈ L

theorem ErrIn.of_errs_eq {L} {α} {x : M α}
    (h : ∀ s r, x s = .ok r → r.2.semanticErrors = s.semanticErrors) : ErrIn L x :=
  ⟨fun s r hr => ⟨[], by simp [h s r hr], by simp⟩⟩

theorem ErrIn.of_readOnly {L} {α} {x : M α} (h : ReadOnly x) : ErrIn L x :=
  ErrIn.of_errs_eq (fun s r hr => by rw [h s r hr])

theorem ErrIn.bind {L} {α β} {x : M α} {f : α → M β} (hx : ErrIn L x) (hf : ∀ a, ErrIn L (f a)) :
    ErrIn L (x >>= f) := by
  refine ⟨fun s r h => ?_⟩
  obtain ⟨a, s1, h1, h2⟩ := (M.bind_ok x f s r).mp h
  obtain ⟨n1, e1, m1⟩ := hx.run s (a, s1) h1
  obtain ⟨n2, e2, m2⟩ := (hf a).run s1 r h2
  refine ⟨n1 ++ n2, by rw [e2, e1, List.append_assoc], ?_⟩
  intro e he
  rcases List.mem_append.mp he with h | h
  · exact m1 e h
  · exact m2 e h

theorem ErrIn.mono {L L'} {α} {x : M α} (h : ErrIn L x) (hs : L ⊆ L') : ErrIn L' x :=
  ⟨fun s r hr => let ⟨n, e, m⟩ := h.run s r hr; ⟨n, e, fun x hx => hs (m x hx)⟩⟩

theorem ErrIn.pure {L} {α} (a : α) : ErrIn L (pure a : M α) :=
  ErrIn.of_errs_eq (fun s r h => by simp at h; subst h; rfl)

theorem ErrIn.fail {L} {α} (site : String) : ErrIn L (fail site : M α) :=
  ⟨fun s r h => by simp at h⟩

theorem ErrIn.throw {L} {α} (o : Outcome) : ErrIn L (throw o : M α) :=
  ⟨fun s r h => by simp at h⟩

theorem ErrIn.ite {L} {α} (c : Prop) [Decidable c] {x y : M α} (hx : ErrIn L x) (hy : ErrIn L y) :
    ErrIn L (if c then x else y) := by
  split <;> assumption

theorem unwrap_errIn {L} {α} (site : String) (o : Option α) : ErrIn L (unwrap site o) := by
  cases o <;> unfold unwrap
  · exact ErrIn.fail _
  · exact ErrIn.pure _

/-- the option that was unwrapped is known in the continuation -/
theorem unwrap_bind_errIn {L} {α β} (site : String) (o : Option α) (f : α → M β)
    (h : ∀ a, o = some a → ErrIn L (f a)) : ErrIn L (unwrap site o >>= f) := by
  refine ⟨fun s r hr => ?_⟩
  obtain ⟨b, s1, h1, h2⟩ := (M.bind_ok _ _ s r).mp hr
  obtain ⟨hb, hs⟩ := (unwrap_ok _ _ _ _).mp h1
  simp only at hb hs
  rw [hs] at h2
  exact (h b hb).run s r h2

/-- the value bound from a `pure` is known in the continuation -/
theorem pure_bind_errIn {L} {α β} (a : α) (f : α → M β) (h : ErrIn L (f a)) :
    ErrIn L (pure a >>= f) := by
  refine ⟨fun s r hr => ?_⟩
  rw [M.pure_bind_ok] at hr
  exact h.run s r hr

/-- nothing runs after a panic -/
theorem fail_bind_errIn {L} {α β} (site : String) (f : α → M β) :
    ErrIn L ((fail site : M α) >>= f) := by
  refine ⟨fun s r hr => ?_⟩
  obtain ⟨a, s1, h1, _⟩ := (M.bind_ok _ _ s r).mp hr
  simp at h1

theorem insertError_errIn {L} (k : SemanticErrorKind) (node : Ast.Span) (h : node ∈ L) :
    ErrIn L (insertError k node) := by
  refine ⟨fun s r hr => ?_⟩
  rw [insertError_ok] at hr; subst hr
  exact ⟨[⟨k, node.start, node.stop⟩], rfl, by simpa [SemErr.range] using h⟩

theorem symStep_errs (site : String) (op : Op) (s : Ctx) (r : Out × Ctx)
    (h : symStep site op s = .ok r) : r.2.semanticErrors = s.semanticErrors := by
  obtain ⟨_, hr⟩ := (symStep_ok _ _ _ _).mp h
  subst hr; rfl

theorem symStep_errIn {L} (site : String) (op : Op) : ErrIn L (symStep site op) :=
  ErrIn.of_errs_eq (symStep_errs site op)

theorem newBinding_errIn {L} (name : String) (typ : T) (node : Ast.Span) (h : node ∈ L) :
    ErrIn L (newBinding name typ node) := by
  unfold newBinding
  refine ErrIn.bind (symStep_errIn _ _) (fun out => ?_)
  cases out
  case alreadyBound => exact ErrIn.bind (insertError_errIn _ _ h) (fun _ => ErrIn.pure _)
  all_goals first | exact ErrIn.pure _ | exact ErrIn.fail _

theorem tableLookup_errIn {L} (name : String) : ErrIn L (tableLookup name) :=
  ErrIn.of_readOnly (tableLookup_readOnly name)

theorem lookupSymbol_errIn {L} (name : String) (node : Ast.Span) (h : node ∈ L) :
    ErrIn L (lookupSymbol name node) := by
  unfold lookupSymbol
  refine ErrIn.bind (tableLookup_errIn _) (fun r => ?_)
  dsimp only
  split
  · exact ErrIn.bind (insertError_errIn _ _ h) (fun _ => ErrIn.pure _)
  · exact ErrIn.pure _

theorem lookupGateSymbol_errIn {L} (name : String) (node : Ast.Span) (h : node ∈ L) :
    ErrIn L (lookupGateSymbol name node) := by
  unfold lookupGateSymbol
  refine ErrIn.bind (tableLookup_errIn _) (fun r => ?_)
  dsimp only
  split
  · exact ErrIn.bind (insertError_errIn _ _ h) (fun _ => ErrIn.pure _)
  · exact ErrIn.pure _

theorem lookupIdentifier_errIn {L} (i : Ast.Identifier) (h : i.span ∈ L) :
    ErrIn L (lookupIdentifier i) := by
  unfold lookupIdentifier; exact lookupSymbol_errIn _ _ h

theorem currentScopeType_errIn {L} : ErrIn L currentScopeType :=
  ErrIn.of_readOnly currentScopeType_readOnly

theorem inGlobalScope_errIn {L} : ErrIn L inGlobalScope := by
  unfold inGlobalScope
  exact ErrIn.bind currentScopeType_errIn (fun _ => ErrIn.pure _)

theorem insertConstValue_errIn {L} (id : Nat) (v : TExpr) : ErrIn L (insertConstValue id v) :=
  ErrIn.of_errs_eq (fun s r h => by unfold insertConstValue at h; simp at h; subst h; rfl)

theorem getConstValue_errIn {L} (id : Nat) : ErrIn L (getConstValue id) :=
  ErrIn.of_readOnly (getConstValue_readOnly id)

theorem pushAnnotation_errIn {L} (a : String) : ErrIn L (pushAnnotation a) :=
  ErrIn.of_errs_eq (fun s r h => by unfold pushAnnotation at h; simp at h; subst h; rfl)

theorem annotationsIsEmpty_errIn {L} : ErrIn L annotationsIsEmpty :=
  ErrIn.of_readOnly annotationsIsEmpty_readOnly

theorem takeAnnotations_errIn {L} : ErrIn L takeAnnotations :=
  ErrIn.of_errs_eq (fun s r h => by
    unfold takeAnnotations at h
    simp only [M.get_bind_ok, M.set_bind_ok, M.pure_ok] at h
    subst h; rfl)

theorem insertStmt_errIn {L} (st : Stmt) : ErrIn L (insertStmt st) :=
  ErrIn.of_errs_eq (fun s r h => by unfold insertStmt at h; simp at h; subst h; rfl)

theorem withScope_errIn {L} {α} (k : ScopeType) (body : M α) (hb : ErrIn L body) :
    ErrIn L (withScope k body) := by
  unfold withScope enterScope exitScope
  refine ErrIn.bind (ErrIn.bind (symStep_errIn _ _) (fun _ => ErrIn.pure _)) (fun _ => ?_)
  refine ErrIn.bind hb (fun _ => ?_)
  exact ErrIn.bind (ErrIn.bind (symStep_errIn _ _) (fun _ => ErrIn.pure _)) (fun _ => ErrIn.pure _)

theorem redeclLoop_errIn {L} (node : Ast.Span) (ns : List String) (h : node ∈ L) :
    ErrIn L (redeclLoop node ns) := by
  induction ns with
  | nil => unfold redeclLoop; exact ErrIn.pure _
  | cons n ns ih => unfold redeclLoop; exact ErrIn.bind (insertError_errIn _ _ h) (fun _ => ih)

attribute [local irreducible] SymTab.standardLibraryGates in
theorem standardLibraryGates_errIn {L} (node : Ast.Span) (h : node ∈ L) :
    ErrIn L (standardLibraryGates node) := by
  refine ⟨fun s r hr => ?_⟩
  unfold standardLibraryGates at hr
  simp only [M.get_bind_ok, M.set_bind_ok] at hr
  obtain ⟨n, e, m⟩ := (redeclLoop_errIn node _ h).run _ _ hr
  exact ⟨n, e, m⟩

end Oq3.Sema

namespace Oq3

/- the simp sets of `span_side` (`Props/C12SemaGen.lean`) -/
attribute [span_defs]
  Ast.Expr.spans Ast.ParenExpr.spans Ast.RangeExpr.spans Ast.Designator.spans Ast.ScalarType.spans Ast.ExpressionList.spans Ast.SetExpression.spans
  Ast.IndexKind.spans Ast.IndexOperator.spans Ast.IndexedIdentifier.spans Ast.GateOperand.spans Ast.QubitList.spans Ast.ArgList.spans
  Ast.GateCallExpr.spans Ast.GPhaseCallExpr.spans Ast.Modifier.spans Ast.optExprSpans Ast.exprsSpans Ast.optParenExprSpans Ast.optDesignatorSpans
  Ast.optScalarTypeSpans Ast.optExpressionListSpans Ast.optIndexKindSpans Ast.optIndexOperatorSpans Ast.indexOperatorsSpans Ast.optGateOperandSpans
  Ast.gateOperandsSpans Ast.optQubitListSpans Ast.optArgListSpans Ast.optGateCallExprSpans Ast.optGPhaseCallExprSpans Ast.modifiersSpans
  Ast.ParamType.spans Ast.optParamTypeSpans Ast.TypedParam.spans Ast.typedParamsSpans Ast.optTypedParamListSpans Ast.optReturnSignatureSpans
  Ast.optQubitTypeSpans Ast.optForIterableSpans Ast.optHardwareQubitSpans Ast.optFilePathSpans Ast.optIndexedIdentifierSpans Ast.Stmt.spans
  Ast.BlockExpr.spans Ast.BlockOrStmt.spans Ast.CaseExpr.spans Ast.stmtsSpans Ast.casesSpans Ast.optBlockSpans Ast.optBosSpans Ast.accBosSpans
  Ast.optNameSpans Ast.optIdentifierSpans Ast.optLiteralSpans Ast.ParamList.spans Ast.optParamListSpans

attribute [span_fns]
  Ast.ParenExpr.span_mk Ast.RangeExpr.span_mk Ast.Designator.span_mk Ast.ExpressionList.span_mk Ast.SetExpression.span_mk Ast.IndexOperator.span_mk
  Ast.IndexedIdentifier.span_mk Ast.QubitList.span_mk Ast.ArgList.span_mk Ast.GateCallExpr.span_mk Ast.GPhaseCallExpr.span_mk Ast.BlockExpr.span_mk
  Ast.CaseExpr.span_mk Ast.GateOperand.span_hardwareQubit Ast.GateOperand.span_identifier Ast.GateOperand.span_indexedIdentifier

end Oq3
