/-
C18 — includes act as in-place textual inclusion.

`syntaxToSemanticInc fuel stmts included` (`Model/Includes.lean`) analyses one file's statements; on a
real `include` it saves the diagnostics, analyses the included file's statements in the SAME
context with an empty diagnostics list, stores that file's diagnostics in an `ErrTree`, restores the
saved list, and goes on.  Here: this is analysing the textually spliced statement list.

* `splice`: the statement list with every top-level non-`stdgates.inc` include replaced, recursively,
  by the statements of its (clean) included source, consuming `included` in lock step.
* `splice_cons_some`: `splice` succeeds on `s :: rest` in two ways: `s` is kept (`Kept s`: no include, or
  `stdgates.inc`; then both runs take the same step, `Kept.stepEq`), or `s` includes a clean source whose
  splice takes its place.  Every induction over `splice` here and in `C18Conv`, `C18Panic` is this case split.
* `Woven own kids m`: the diagnostics `m` of the flat run are the file's own diagnostics `own` with,
  at each include point, the (recursively woven) diagnostics of the included file inserted as one
  contiguous block — the precise interleaving in source order; `Woven.perm` reads it as a
  permutation of `own ++ treeErrs kids`.
* `inclusion_equiv`: include run ok ⇒ the flat run (`Sema.syntaxToSemanticLoop`, any fuel
  `≥ fuel + flat.length`) is ok, ends in the same context up to diagnostics, and its diagnostics
  are the woven ones.  The converse (flat run ok ⇒ include run ok) is `inclusion_conv` in
  `Props/C18Conv.lean`.
* `one_clean_include`, `example_one_include`.

Uses `ErrFrame` (the diagnostics are write-only, `C18Frame.lean`) and fuel monotonicity
(`C18Mono.lean`).
-/
import Oq3.Props.C18Mono
import Oq3.Props.C17
import Oq3.Props.C03
import Oq3.Model.Includes

namespace Oq3.C18E
open Oq3 Oq3.Types Oq3.Symbols Oq3.Sema Oq3.Includes

/-- the statement list with the included files spliced in (same recursion as `syntaxToSemanticInc`;
`none`: out of fuel, an include without path, fewer sources than includes, or a source that is
unreadable or not cleanly parsed) -/
def splice : Nat → List Ast.Stmt → List PSrc → Option (List Ast.Stmt)
  | 0, _, _ => none
  | _ + 1, [], _ => some []
  | fuel + 1, s :: rest, inc =>
    match s with
    | .includeStmt _ (some f) =>
      match f.toString? with
      | some path =>
        if path == "stdgates.inc" then (splice fuel rest inc).map (s :: ·)
        else
          match inc with
          | [] => none
          | src :: inc' =>
            match src.includeError, src.parsed with
            | none, some (.clean ast) =>
              match splice fuel ast.statements src.included, splice fuel rest inc' with
              | some a, some b => some (a ++ b)
              | _, _ => none
            | _, _ => none
      | none => none
    | .includeStmt _ none => none
    | _ => (splice fuel rest inc).map (s :: ·)

def NotInclude (s : Ast.Stmt) : Prop := ∀ sp f, s ≠ .includeStmt sp f

theorem splice_cons_other (fuel : Nat) (s : Ast.Stmt) (rest : List Ast.Stmt) (inc : List PSrc)
    (h : NotInclude s) : splice (fuel + 1) (s :: rest) inc = (splice fuel rest inc).map (s :: ·) := by
  cases s <;> first
    | exact absurd rfl (h _ _)
    | rfl

/-- `C06.attachM_bind` for a continuation of any result type -/
theorem attachM_bind' {β} (o : Option Stmt) (L : M β) :
    (C06.attachM o >>= fun _ => L) = (match o with
      | some stmt => do
        if ← annotationsIsEmpty then do insertStmt stmt; L
        else
          match stmt with
          | .annotatedStmt .. => do
            fail "AnnotatedStmt::new: annotation of annotated statement is not allowed"; L
          | _ => do insertStmt (.annotatedStmt stmt (← takeAnnotations)); L
      | none => L) := by
  cases o with
  | none => simp only [C06.attachM, pure_bind]
  | some t =>
    simp only [C06.attachM, bind_assoc]
    congr 1; funext b
    cases b
    · cases t <;> simp only [bind_assoc, Bool.false_eq_true, if_false]
    · rfl

theorem inc_cons_other (fuel : Nat) (s : Ast.Stmt) (rest : List Ast.Stmt) (inc : List PSrc)
    (h : NotInclude s) :
    syntaxToSemanticInc (fuel + 1) (s :: rest) inc = (do
      let o ← stmtToAsgStmt fuel s
      C06.attachM o
      syntaxToSemanticInc fuel rest inc) := by
  conv => lhs; unfold syntaxToSemanticInc
  cases s <;> first
    | exact absurd rfl (h _ _)
    | (simp only []
       congr 1; funext o
       exact (attachM_bind' o _).symm)

theorem topStmtM_other (fuel : Nat) (s : Ast.Stmt) (h : NotInclude s) :
    C06.topStmtM fuel s = stmtToAsgStmt fuel s := by
  cases s <;> first
    | exact absurd rfl (h _ _)
    | rfl

/-- `include "stdgates.inc";` is an ordinary statement for both runs -/
theorem inc_cons_std (k : Nat) (sp : Ast.Span) (f : Ast.FilePath) (p : String)
    (hf : f.toString? = some p) (hp : (p == "stdgates.inc") = true) (rest : List Ast.Stmt)
    (inc : List PSrc) :
    syntaxToSemanticInc (k + 1) (.includeStmt sp (some f) :: rest) inc = (do
      let o ← C06.topStmtM k (.includeStmt sp (some f))
      C06.attachM o
      syntaxToSemanticInc k rest inc) := by
  conv => lhs; unfold syntaxToSemanticInc
  simp only [C06.topStmtM, unwrap, hf, pure_bind, hp, if_true, bind_assoc, C06.attachM]

theorem inc_cons_other_all (s : Ast.Stmt) (rest : List Ast.Stmt) (inc : List PSrc) (h : NotInclude s)
    (K : Nat) : syntaxToSemanticInc (K + 1) (s :: rest) inc = (do
      let o ← C06.topStmtM K s
      C06.attachM o
      syntaxToSemanticInc K rest inc) := by
  rw [inc_cons_other K s rest inc h, topStmtM_other K s h]

def Kept (s : Ast.Stmt) : Prop :=
  NotInclude s ∨
    ∃ sp f p, s = .includeStmt sp (some f) ∧ f.toString? = some p ∧ (p == "stdgates.inc") = true

theorem Kept.splice {s : Ast.Stmt} (h : Kept s) (k : Nat) (rest : List Ast.Stmt) (inc : List PSrc) :
    splice (k + 1) (s :: rest) inc = (splice k rest inc).map (s :: ·) := by
  rcases h with h | ⟨sp, f, p, rfl, hf, hp⟩
  · exact splice_cons_other k s rest inc h
  · simp only [C18E.splice, hf, hp, if_true]

theorem Kept.stepEq {s : Ast.Stmt} (h : Kept s) (rest : List Ast.Stmt) (inc : List PSrc) (K : Nat) :
    syntaxToSemanticInc (K + 1) (s :: rest) inc = (do
      let o ← C06.topStmtM K s
      C06.attachM o
      syntaxToSemanticInc K rest inc) := by
  rcases h with h | ⟨sp, f, p, rfl, hf, hp⟩
  · exact inc_cons_other_all s rest inc h K
  · exact inc_cons_std K sp f p hf hp rest inc

theorem splice_cons_some {k : Nat} {s : Ast.Stmt} {rest : List Ast.Stmt} {inc : List PSrc}
    {flat : List Ast.Stmt} (hs : splice (k + 1) (s :: rest) inc = some flat) :
    (Kept s ∧ ∃ fr, splice k rest inc = some fr ∧ flat = s :: fr) ∨
    (∃ sp f p src inc' ast af rf, s = .includeStmt sp (some f) ∧ f.toString? = some p ∧
      (p == "stdgates.inc") = false ∧ inc = src :: inc' ∧ src.includeError = none ∧
      src.parsed = some (.clean ast) ∧ splice k ast.statements src.included = some af ∧
      splice k rest inc' = some rf ∧ flat = af ++ rf) := by
  have kept (hk : Kept s) : Kept s ∧ ∃ fr, splice k rest inc = some fr ∧ flat = s :: fr := by
    rw [hk.splice] at hs
    cases hfr : splice k rest inc with
    | none => rw [hfr] at hs; cases hs
    | some fr =>
      rw [hfr] at hs
      simp only [Option.map_some, Option.some.injEq] at hs
      exact ⟨hk, fr, rfl, hs.symm⟩
  cases s with
  | includeStmt sp file =>
    cases file with
    | none => simp [splice] at hs
    | some f =>
      cases hf : f.toString? with
      | none => simp [splice, hf] at hs
      | some p =>
        by_cases hp : (p == "stdgates.inc") = true
        · exact .inl (kept (.inr ⟨sp, f, p, rfl, hf, hp⟩))
        · have hp' : (p == "stdgates.inc") = false := by simpa using hp
          simp only [splice, hf, hp', Bool.false_eq_true, if_false] at hs
          cases inc with
          | nil => simp at hs
          | cons src inc' =>
            simp only at hs
            split at hs
            · rename_i ast he hpar
              split at hs
              · rename_i af rf haf hrf
                simp only [Option.some.injEq] at hs
                exact .inr ⟨sp, f, p, src, inc', ast, af, rf, rfl, hf, hp', rfl, he, hpar, haf, hrf,
                  hs.symm⟩
              · cases hs
            · cases hs
  | _ => exact .inl (kept (.inl (fun _ _ e => by cases e)))

/-- **the precise interleaving.**  `Woven own kids m`: `m` is the file's own diagnostics `own`
with, for each included file in order, its (recursively woven) diagnostics inserted as one
contiguous block at the point of the include -/
inductive Woven : List SemErr → List ErrTree → List SemErr → Prop
  | done (own : List SemErr) : Woven own [] own
  | kid {o0 rest : List SemErr} {p : String} {errs' : List SemErr} {kids' kids : List ErrTree}
      {km m' : List SemErr} : Woven errs' kids' km → Woven rest kids m' →
      Woven (o0 ++ rest) (.mk p errs' kids' :: kids) (o0 ++ km ++ m')

theorem Woven.prepend (o : List SemErr) {own : List SemErr} {kids : List ErrTree} {m : List SemErr}
    (h : Woven own kids m) : Woven (o ++ own) kids (o ++ m) := by
  cases h with
  | done => exact .done _
  | kid h1 h2 =>
    rw [← List.append_assoc, ← List.append_assoc, ← List.append_assoc]
    exact .kid h1 h2

theorem Woven.nil_kids {own m : List SemErr} (h : Woven own [] m) : m = own := by
  cases h; rfl

mutual
def treeErrs : ErrTree → List SemErr
  | .mk _ errs kids => errs ++ treesErrs kids
def treesErrs : List ErrTree → List SemErr
  | [] => []
  | t :: ts => treeErrs t ++ treesErrs ts
end

/-- read as a multiset: the flat diagnostics are the own ones plus those of all included files -/
theorem Woven.perm {own : List SemErr} {kids : List ErrTree} {m : List SemErr} (h : Woven own kids m) :
    m.Perm (own ++ treesErrs kids) := by
  induction h with
  | done own => simp [treesErrs]
  | @kid o0 rest p errs' kids' kids km m' _ _ ih1 ih2 =>
    rw [List.perm_iff_count] at ih1 ih2 ⊢
    intro a
    have a1 := ih1 a
    have a2 := ih2 a
    simp only [treesErrs, treeErrs, List.count_append] at a1 a2 ⊢
    omega

def IsGlobal (c : Ctx) : Prop := ∃ top, c.symbolTable.stack.head? = some top ∧ top.kind = .global

theorem IsGlobal.of_ext {c c' : Ctx} (h : Sema.Ext c c') (hg : IsGlobal c) : IsGlobal c' := by
  obtain ⟨top, h1, h2⟩ := hg
  obtain ⟨top', h3, h4, -⟩ := h.sym.head top (by simp [h1])
  exact ⟨top', by simpa using h3, by rw [h4, h2]⟩

theorem IsGlobal.of_symtab {c c' : Ctx} (h : c'.symbolTable = c.symbolTable) (hg : IsGlobal c) :
    IsGlobal c' := by
  unfold IsGlobal; rw [h]; exact hg

theorem currentScopeType_global {c : Ctx} (hg : IsGlobal c) :
    currentScopeType c = .ok (.global, c) := by
  obtain ⟨top, h1, h2⟩ := hg
  simp only [currentScopeType, bind_run, get_run, bindRes]
  cases hs : c.symbolTable.stack with
  | nil => simp [hs] at h1
  | cons s rest =>
    simp only [hs, List.head?_cons, Option.some.injEq] at h1
    subst h1
    simp [pure_run, h2]

theorem bind_ok' {α β} (x : M α) (f : α → M β) (c : Ctx) (r : β × Ctx) :
    (x >>= f) c = .ok r ↔ ∃ a c1, x c = .ok (a, c1) ∧ f a c1 = .ok r :=
  M.bind_ok x f c r

theorem attachM_ok {o : Option Stmt} {c1 c2 : Ctx} {u : Unit} (h : C06.attachM o c1 = .ok (u, c2)) :
    c2.semanticErrors = c1.semanticErrors ∧ c2.symbolTable = c1.symbolTable := by
  cases o with
  | none =>
    simp only [C06.attachM, pure_run, Except.ok.injEq, Prod.mk.injEq] at h
    rw [← h.2]; exact ⟨rfl, rfl⟩
  | some t =>
    simp only [C06.attachM, annotationsIsEmpty, bind_run, get_run, pure_run, bindRes] at h
    by_cases he : c1.annotations.isEmpty = true
    · simp only [he, if_true, insertStmt, modify_run, Except.ok.injEq, Prod.mk.injEq] at h
      rw [← h.2]; exact ⟨rfl, rfl⟩
    · simp only [he, Bool.false_eq_true, if_false] at h
      cases t <;> first
        | (simp only [fail_run] at h; cases h; done)
        | (simp only [takeAnnotations, insertStmt, bind_run, get_run, set_run, pure_run, modify_run,
             bindRes, Except.ok.injEq, Prod.mk.injEq] at h
           rw [← h.2]; exact ⟨rfl, rfl⟩)

theorem topStmtM_pres (fuel : Nat) (s : Ast.Stmt) : Sema.Pres (C06.topStmtM fuel s) :=
  C06.topStmtM_closed Pres.closed.toClosed (Pres.throw _) standardLibraryGates_pres fuel s

theorem topStmtM_errFrame (fuel : Nat) (s : Ast.Stmt) : ErrFrame (C06.topStmtM fuel s) :=
  C06.topStmtM_closed ErrFrame.closed.toClosed (ErrFrame.throw _) ErrFrame.standardLibraryGates fuel s

theorem topStmtM_mono2 {fuel fuel' : Nat} (h : fuel ≤ fuel') (s : Ast.Stmt) :
    Le2 (C06.topStmtM fuel s) (C06.topStmtM fuel' s) := by
  cases s with
  | includeStmt sp file => exact Le2.refl _
  | _ => exact stmtToAsgStmt_mono2_le h _

theorem topStmtM_mono {fuel fuel' : Nat} (h : fuel ≤ fuel') (s : Ast.Stmt) :
    Le (C06.topStmtM fuel s) (C06.topStmtM fuel' s) :=
  (topStmtM_mono2 h s).toLe

theorem loop_nil_run (F : Nat) (c : Ctx) (h : 1 ≤ F) : syntaxToSemanticLoop F [] c = .ok ((), c) := by
  cases F with
  | zero => omega
  | succ F => exact (C17.loop_nil F c _).mpr rfl

/-- what the flat run has to deliver: from `c`, for every sufficient fuel, it ends in `c'` with the
diagnostics `c.semanticErrors ++ m` -/
def FlatOK (fuel : Nat) (flat : List Ast.Stmt) (c c' : Ctx) (m : List SemErr) : Prop :=
  ∀ F, fuel + flat.length ≤ F →
    syntaxToSemanticLoop F flat c = .ok ((), { c' with semanticErrors := c.semanticErrors ++ m })

def IncFlat (fuel : Nat) : Prop :=
  ∀ (stmts : List Ast.Stmt) (inc : List PSrc) (flat : List Ast.Stmt) (c : Ctx)
    (trees : List ErrTree) (c' : Ctx),
    splice fuel stmts inc = some flat → IsGlobal c →
    syntaxToSemanticInc fuel stmts inc c = .ok (trees, c') →
    ∃ own m, c'.semanticErrors = c.semanticErrors ++ own ∧ Woven own trees m ∧ IsGlobal c' ∧
      FlatOK fuel flat c c' m

theorem step_simple (k : Nat) (ih : IncFlat k) (s : Ast.Stmt) (hk : Kept s) (rest : List Ast.Stmt)
    (inc : List PSrc) (fr : List Ast.Stmt) (c : Ctx) (trees : List ErrTree) (c' : Ctx)
    (hfr : splice k rest inc = some fr) (hg : IsGlobal c)
    (hrun : syntaxToSemanticInc (k + 1) (s :: rest) inc c = .ok (trees, c')) :
    ∃ own m, c'.semanticErrors = c.semanticErrors ++ own ∧ Woven own trees m ∧ IsGlobal c' ∧
      FlatOK (k + 1) (s :: fr) c c' m := by
  rw [hk.stepEq rest inc k, bind_ok'] at hrun
  obtain ⟨o, c1, h1, hrun⟩ := hrun
  rw [bind_ok'] at hrun
  obtain ⟨u, c2, h2, h3⟩ := hrun
  obtain ⟨n1, hn1⟩ := (topStmtM_errFrame k s).errs_append h1
  obtain ⟨he2, hs2⟩ := attachM_ok h2
  have hg2 : IsGlobal c2 := (hg.of_ext ((topStmtM_pres k s).run c _ h1)).of_symtab hs2
  obtain ⟨own, m, ho, hw, hg', hflat⟩ := ih rest inc fr c2 trees c' hfr hg2 h3
  refine ⟨n1 ++ own, n1 ++ m, ?_, hw.prepend n1, hg', ?_⟩
  · rw [ho, he2, hn1, List.append_assoc]
  · intro F hF
    simp only [List.length_cons] at hF
    obtain ⟨F', rfl⟩ : ∃ F', F = F' + 1 := ⟨F - 1, by omega⟩
    rw [C17.loop_cons]
    refine ⟨c2, ?_, ?_⟩
    · unfold C17.topStepM
      rw [bind_ok']
      exact ⟨o, c1, (topStmtM_mono (by omega) s).run c _ h1, h2⟩
    · have := hflat F' (by omega)
      rw [this, he2, hn1, List.append_assoc]

/-- **the include arm, evaluated** (global scope, readable and cleanly parsed source): the outcome of
the arm in terms of the outcomes of its two sub-runs -/
theorem include_arm_eval (k : Nat) (sp : Ast.Span) (f : Ast.FilePath) (p : String)
    (hf : f.toString? = some p) (hp : (p == "stdgates.inc") = false) (rest : List Ast.Stmt)
    (src : PSrc) (inc' : List PSrc) (ast : Ast.Program) (he : src.includeError = none)
    (hpar : src.parsed = some (.clean ast)) (c : Ctx) (hg : IsGlobal c) :
    syntaxToSemanticInc (k + 1) (.includeStmt sp (some f) :: rest) (src :: inc') c =
      match syntaxToSemanticInc k ast.statements src.included (eraseErrs c) with
      | .error e => .error e
      | .ok (kids, c1) =>
        match syntaxToSemanticInc k rest inc' { c1 with semanticErrors := c.semanticErrors } with
        | .error e => .error e
        | .ok (more, c') => .ok (.mk src.path c1.semanticErrors kids :: more, c') := by
  conv => lhs; unfold syntaxToSemanticInc
  simp only [unwrap, hf, pure_bind, hp, Bool.false_eq_true, if_false]
  rw [bind_run, currentScopeType_global hg]
  simp only [bindRes, bne_self_eq_false, Bool.false_eq_true, if_false, he, hpar]
  simp only [getErrors, setErrors, bind_run, get_run, pure_run, modify_run, bindRes]
  unfold eraseErrs
  cases syntaxToSemanticInc k ast.statements src.included { c with semanticErrors := [] } with
  | error e => rfl
  | ok r =>
    obtain ⟨kids, c1⟩ := r
    dsimp only
    cases syntaxToSemanticInc k rest inc' { c1 with semanticErrors := c.semanticErrors } with
    | error e => rfl
    | ok r2 => rfl

/-- **the include arm, as a run.**  In global scope, for a readable and cleanly parsed source:
the included statements are analysed from the context with the diagnostics erased; their
diagnostics become the tree's; the rest of the file goes on from the resulting context with the
saved diagnostics put back. -/
theorem include_arm_run (k : Nat) (sp : Ast.Span) (f : Ast.FilePath) (p : String)
    (hf : f.toString? = some p) (hp : (p == "stdgates.inc") = false) (rest : List Ast.Stmt)
    (src : PSrc) (inc' : List PSrc) (ast : Ast.Program) (he : src.includeError = none)
    (hpar : src.parsed = some (.clean ast)) (c : Ctx) (hg : IsGlobal c) (trees : List ErrTree)
    (c' : Ctx)
    (h : syntaxToSemanticInc (k + 1) (.includeStmt sp (some f) :: rest) (src :: inc') c =
      .ok (trees, c')) :
    ∃ kids c1 more,
      syntaxToSemanticInc k ast.statements src.included (eraseErrs c) = .ok (kids, c1) ∧
      syntaxToSemanticInc k rest inc' { c1 with semanticErrors := c.semanticErrors } = .ok (more, c') ∧
      trees = .mk src.path c1.semanticErrors kids :: more := by
  rw [include_arm_eval k sp f p hf hp rest src inc' ast he hpar c hg] at h
  split at h
  · cases h
  · rename_i kids c1 h1
    split at h
    · cases h
    · rename_i more c2 h2
      cases h
      exact ⟨kids, c1, more, h1, h2, rfl⟩

/-- the flat run over a spliced include: the included statements (transported from the erased
context), then the rest (transported from the context with the saved diagnostics) -/
theorem flat_include {k : Nat} {af rf : List Ast.Stmt} {c c1 c' : Ctx} {m1 m2 : List SemErr}
    (hflat1 : FlatOK k af (eraseErrs c) c1 m1)
    (hflat2 : FlatOK k rf { c1 with semanticErrors := c.semanticErrors } c' m2) :
    FlatOK (k + 1) (af ++ rf) c c' (m1 ++ m2) := by
  intro F hF
  simp only [List.length_append] at hF
  rw [C17.loop_append]
  have e1 := hflat1 F (by omega)
  obtain ⟨n1, hn1, t1⟩ := (syntaxToSemanticLoop_errFrame F af).transport (d := c) e1 rfl
  simp only [eraseErrs_errs, List.nil_append] at hn1
  subst hn1
  refine ⟨_, t1, ?_⟩
  have e2 := hflat2 (F - af.length) (by omega)
  obtain ⟨n2, hn2, t2⟩ :=
    (syntaxToSemanticLoop_errFrame (F - af.length) rf).transport
      (d := { c1 with semanticErrors := c.semanticErrors ++ m1 }) e2 rfl
  simp only [List.append_cancel_left_eq] at hn2
  subst hn2
  rw [t2]
  simp [List.append_assoc]

theorem notInclude_of_ne {s : Ast.Stmt} (h : ∀ sp f, s = .includeStmt sp f → False) : NotInclude s :=
  fun sp f e => h sp f e

theorem incFlat (fuel : Nat) : IncFlat fuel := by
  induction fuel with
  | zero =>
    intro stmts inc flat c trees c' hs
    simp [splice] at hs
  | succ k ih =>
    intro stmts inc flat c trees c' hs hg hrun
    cases stmts with
    | nil =>
      simp only [splice, Option.some.injEq] at hs
      subst hs
      simp only [syntaxToSemanticInc, pure_run, Except.ok.injEq, Prod.mk.injEq] at hrun
      obtain ⟨rfl, rfl⟩ := hrun
      refine ⟨[], [], by simp, .done [], hg, ?_⟩
      intro F hF
      rw [loop_nil_run F c (by omega), ctx_errs_self]
    | cons s rest =>
      rcases splice_cons_some hs with ⟨hk, fr, hfr, rfl⟩ |
        ⟨sp, f, p, src, inc', ast, af, rf, rfl, hf, hp, rfl, he, hpar, haf, hrf, rfl⟩
      · exact step_simple k ih s hk rest inc fr c trees c' hfr hg hrun
      · obtain ⟨kids, c1, more, h1, h2, rfl⟩ :=
          include_arm_run k sp f p hf hp rest src inc' ast he hpar c hg trees c' hrun
        -- the included file, from the erased context
        obtain ⟨own1, m1, ho1, hw1, hg1, hflat1⟩ :=
          ih ast.statements src.included af (eraseErrs c) kids c1 haf (hg.of_symtab rfl) h1
        simp only [eraseErrs_errs, List.nil_append] at ho1
        -- the rest of the file
        obtain ⟨own2, m2, ho2, hw2, hg2, hflat2⟩ :=
          ih rest inc' rf { c1 with semanticErrors := c.semanticErrors } more c' hrf
            (hg1.of_symtab rfl) h2
        simp only at ho2
        refine ⟨own2, m1 ++ m2, ho2, ?_, hg2, flat_include hflat1 hflat2⟩
        have := Woven.kid (o0 := []) (p := src.path) (ho1 ▸ hw1) hw2
        simpa using this

/-- **C18: includes act as in-place textual inclusion.**  If the include-aware analysis of
`stmts` (with the parsed sources `inc`) returns — trees `trees`, context `c'` — from a context `c`
in global scope, and `flat` is the spliced statement list, then the plain top-level loop over
`flat`, for EVERY fuel `F ≥ fuel + flat.length`, returns from the same `c` in a context `d'` with
* `eraseErrs d' = eraseErrs c'`: the same program, symbol table (symbols, scopes), const values and
  pending annotations;
* diagnostics `c.semanticErrors ++ m` where `m` is the precise interleaving (`Woven`) of the main
  file's new diagnostics `own` (`c'.semanticErrors = c.semanticErrors ++ own`) with the
  diagnostics recorded in `trees`, in source order. -/
theorem inclusion_equiv (fuel : Nat) (stmts : List Ast.Stmt) (inc : List PSrc) (flat : List Ast.Stmt)
    (c : Ctx) (trees : List ErrTree) (c' : Ctx)
    (hs : splice fuel stmts inc = some flat) (hg : IsGlobal c)
    (h : (syntaxToSemanticInc fuel stmts inc).run c = .ok (trees, c')) :
    ∃ own m, c'.semanticErrors = c.semanticErrors ++ own ∧ Woven own trees m ∧
      ∀ F, fuel + flat.length ≤ F →
        ∃ d', (syntaxToSemanticLoop F flat).run c = .ok ((), d') ∧ eraseErrs d' = eraseErrs c' ∧
          d'.semanticErrors = c.semanticErrors ++ m := by
  obtain ⟨own, m, ho, hw, -, hflat⟩ := incFlat fuel stmts inc flat c trees c' hs hg h
  exact ⟨own, m, ho, hw, fun F hF => ⟨_, hflat F hF, rfl, rfl⟩⟩

/-- the same with an existential fuel and the diagnostics as a multiset -/
theorem inclusion_equiv_perm (fuel : Nat) (stmts : List Ast.Stmt) (inc : List PSrc)
    (flat : List Ast.Stmt) (c : Ctx) (trees : List ErrTree) (c' : Ctx)
    (hs : splice fuel stmts inc = some flat) (hg : IsGlobal c)
    (h : (syntaxToSemanticInc fuel stmts inc).run c = .ok (trees, c')) :
    ∃ fuel' d', (syntaxToSemanticLoop fuel' flat).run c = .ok ((), d') ∧
      eraseErrs d' = eraseErrs c' ∧
      d'.semanticErrors.Perm (c'.semanticErrors ++ treesErrs trees) := by
  obtain ⟨own, m, ho, hw, hF⟩ := inclusion_equiv fuel stmts inc flat c trees c' hs hg h
  obtain ⟨d', h1, h2, h3⟩ := hF _ (Nat.le_refl _)
  refine ⟨_, d', h1, h2, ?_⟩
  rw [h3, ho, List.append_assoc]
  exact List.Perm.append_left _ hw.perm

theorem splice_noinclude (l : List Ast.Stmt) (inc : List PSrc) (hl : ∀ s, s ∈ l → NotInclude s)
    (fuel : Nat) (hf : l.length < fuel) : splice fuel l inc = some l := by
  induction l generalizing fuel with
  | nil => cases fuel with
    | zero => omega
    | succ k => rfl
  | cons s rest ih =>
    cases fuel with
    | zero => omega
    | succ k =>
      rw [splice_cons_other k s rest inc (hl s (List.mem_cons_self ..)),
        ih (fun t ht => hl t (List.mem_cons_of_mem _ ht)) k (by simp at hf; omega)]
      rfl

theorem inc_noinclude_trees (fuel : Nat) (l : List Ast.Stmt) (inc : List PSrc)
    (hl : ∀ s, s ∈ l → NotInclude s) (c c' : Ctx) (trees : List ErrTree)
    (h : syntaxToSemanticInc fuel l inc c = .ok (trees, c')) : trees = [] := by
  induction fuel generalizing l c with
  | zero => simp [syntaxToSemanticInc, throw_run] at h
  | succ k ih =>
    cases l with
    | nil =>
      simp only [syntaxToSemanticInc, pure_run, Except.ok.injEq, Prod.mk.injEq] at h
      exact h.1.symm
    | cons s rest =>
      rw [inc_cons_other k s rest inc (hl s (List.mem_cons_self ..)), bind_ok'] at h
      obtain ⟨o, c1, -, h⟩ := h
      rw [bind_ok'] at h
      obtain ⟨u, c2, -, h⟩ := h
      exact ih rest (fun t ht => hl t (List.mem_cons_of_mem _ ht)) c2 h

/-- **one include of a clean file, readable form.**  `include "p"; post…` where neither the included
file (statements `ast.statements`) nor `post` contains an include: the include run yields exactly one
tree, holding the included file's diagnostics `errsA`, and the plain loop over
`ast.statements ++ post` ends in the same context with the diagnostics `… ++ errsA ++ own`. -/
theorem one_clean_include (k : Nat) (sp : Ast.Span) (f : Ast.FilePath) (p : String)
    (hf : f.toString? = some p) (hp : (p == "stdgates.inc") = false)
    (path : String) (ast : Ast.Program) (post : List Ast.Stmt)
    (ha : ∀ s, s ∈ ast.statements → NotInclude s) (hpost : ∀ s, s ∈ post → NotInclude s)
    (hk : ast.statements.length < k ∧ post.length < k) (c : Ctx) (hg : IsGlobal c)
    (trees : List ErrTree) (c' : Ctx)
    (h : (syntaxToSemanticInc (k + 1) (.includeStmt sp (some f) :: post)
      [PSrc.mk path (some (.clean ast)) none []]).run c = .ok (trees, c')) :
    ∃ errsA own, trees = [ErrTree.mk path errsA []] ∧
      c'.semanticErrors = c.semanticErrors ++ own ∧
      ∀ F, k + 1 + (ast.statements.length + post.length) ≤ F →
        (syntaxToSemanticLoop F (ast.statements ++ post)).run c =
          .ok ((), { c' with semanticErrors := c.semanticErrors ++ (errsA ++ own) }) := by
  obtain ⟨kids, c1, more, h1, h2, rfl⟩ :=
    include_arm_run k sp f p hf hp post _ [] ast rfl rfl c hg trees c' h
  have hk1 := inc_noinclude_trees k _ _ ha _ _ _ h1
  have hk2 := inc_noinclude_trees k _ _ hpost _ _ _ h2
  subst hk1 hk2
  obtain ⟨own1, m1, ho1, hw1, hg1, hflat1⟩ :=
    incFlat k ast.statements [] ast.statements (eraseErrs c) [] c1
      (splice_noinclude _ _ ha k hk.1) (hg.of_symtab rfl) h1
  obtain ⟨own2, m2, ho2, hw2, -, hflat2⟩ :=
    incFlat k post [] post { c1 with semanticErrors := c.semanticErrors } [] c'
      (splice_noinclude _ _ hpost k hk.2) (hg1.of_symtab rfl) h2
  simp only [eraseErrs_errs, List.nil_append] at ho1
  rw [hw1.nil_kids] at hflat1
  rw [hw2.nil_kids] at hflat2
  refine ⟨c1.semanticErrors, own2, rfl, ho2, ?_⟩
  intro F hF
  have := flat_include hflat1 hflat2 F (by simp only [List.length_append]; omega)
  rw [ho1]
  exact this

/-- a spliced list has no real include left -/
def OnlyStd (l : List Ast.Stmt) : Prop :=
  ∀ s, s ∈ l → NotInclude s ∨
    ∃ sp f p, s = .includeStmt sp (some f) ∧ f.toString? = some p ∧ (p == "stdgates.inc") = true

theorem OnlyStd.nil : OnlyStd [] := by intro s h; cases h

theorem OnlyStd.cons {s : Ast.Stmt} {l : List Ast.Stmt} (h1 : Kept s) (h2 : OnlyStd l) :
    OnlyStd (s :: l) := by
  intro t ht
  cases ht with
  | head => exact h1
  | tail _ h => exact h2 t h

theorem OnlyStd.append {a b : List Ast.Stmt} (h1 : OnlyStd a) (h2 : OnlyStd b) : OnlyStd (a ++ b) := by
  intro t ht
  rcases List.mem_append.mp ht with h | h
  · exact h1 t h
  · exact h2 t h

theorem splice_onlyStd (fuel : Nat) : ∀ (stmts : List Ast.Stmt) (inc : List PSrc) (flat : List Ast.Stmt),
    splice fuel stmts inc = some flat → OnlyStd flat := by
  induction fuel with
  | zero => intro stmts inc flat h; simp [splice] at h
  | succ k ih =>
    intro stmts inc flat hs
    cases stmts with
    | nil => simp only [splice, Option.some.injEq] at hs; subst hs; exact .nil
    | cons s rest =>
      rcases splice_cons_some hs with ⟨hk, fr, hfr, rfl⟩ |
        ⟨sp, f, p, src, inc', ast, af, rf, rfl, hf, hp, rfl, he, hpar, haf, hrf, rfl⟩
      · exact .cons hk (ih _ _ _ hfr)
      · exact (ih _ _ _ haf).append (ih _ _ _ hrf)

/-- the include scan of `Sema.syntaxToSemantic` finds nothing to refuse in a spliced list -/
theorem parseIncludedFiles_onlyStd (l : List Ast.Stmt) (h : OnlyStd l) (c : Ctx) :
    Sema.parseIncludedFiles l c = .ok (false, c) := by
  induction l with
  | nil => rfl
  | cons s rest ih =>
    have hr := ih (fun t ht => h t (List.mem_cons_of_mem _ ht))
    rcases h s (List.mem_cons_self ..) with hni | ⟨sp, f, p, rfl, hf, hp⟩
    · cases s <;> first
        | exact absurd rfl (hni _ _)
        | (simp only [Sema.parseIncludedFiles]; exact hr)
    · simp only [Sema.parseIncludedFiles, hf, bind_run, hr, bindRes, pure_run]
      have : p = "stdgates.inc" := by simpa using hp
      subst this
      simp

theorem isGlobal_init : IsGlobal ({} : Ctx) := by
  have h : (({} : Ctx).symbolTable.stack.head?.map (·.kind)) = some ScopeType.global := by
    decide +kernel
  unfold IsGlobal
  cases hh : ({} : Ctx).symbolTable.stack.head? with
  | none => rw [hh] at h; cases h
  | some top =>
    rw [hh] at h
    simp only [Option.map_some, Option.some.injEq] at h
    exact ⟨top, rfl, h⟩

/-- **whole analyses.**  If `analyze_source` on a clean main file with its parsed includes returns
`(c', trees)`, then `analyze` on the spliced program (same text range, statements spliced)
returns, for every sufficient fuel, a context with the same program, symbol table, const values
and pending annotations, whose diagnostics are a permutation of the main file's and all included
files' diagnostics (precisely: woven, `inclusion_equiv`). -/
theorem analyzeSource_spliced (fuel : Nat) (ast : Ast.Program) (inc : List PSrc) (c' : Ctx)
    (trees : List ErrTree) (flat : List Ast.Stmt)
    (h : analyzeSource fuel (.clean ast) inc = .ok (some (c', trees)))
    (hs : splice fuel ast.statements inc = some flat) :
    ∀ F, fuel + flat.length ≤ F → ∃ d', Sema.analyzeWith F ⟨ast.span, flat⟩ = .ok d' ∧
      eraseErrs d' = eraseErrs c' ∧
      d'.semanticErrors.Perm (c'.semanticErrors ++ treesErrs trees) := by
  unfold analyzeSource at h
  split at h
  · cases h
  · simp only at h
    split at h
    · rename_i trees0 c0 hrun
      simp only [Except.ok.injEq, Option.some.injEq, Prod.mk.injEq] at h
      obtain ⟨rfl, rfl⟩ := h
      obtain ⟨own, m, ho, hw, hF⟩ :=
        inclusion_equiv fuel ast.statements inc flat {} trees0 c0 hs isGlobal_init hrun
      intro F hle
      obtain ⟨d', h1, h2, h3⟩ := hF F hle
      refine ⟨d', ?_, h2, ?_⟩
      · unfold Sema.analyzeWith Sema.syntaxToSemantic
        simp only [StateT.run] at h1 ⊢
        rw [bind_run, parseIncludedFiles_onlyStd flat (splice_onlyStd fuel _ _ _ hs)]
        simp only [bindRes, Bool.false_eq_true, if_false, h1]
      · rw [h3, ho, List.append_assoc]
        exact List.Perm.append_left _ hw.perm
    · cases h

/-- `include "a.inc"; int y = x;` -/
def exMain : Ast.Program :=
  ⟨⟨0, 27⟩, [(.includeStmt ⟨0, 16⟩ (some ⟨⟨8, 15⟩, (some "a.inc")⟩)), (.classicalDeclarationStatement ⟨17, 27⟩ false (some (.mk ⟨17, 20⟩ .int none none)) false (some ⟨⟨21, 22⟩, "y"⟩) (some (.identifier ⟨⟨25, 26⟩, "x"⟩)))]⟩

/-- a.inc: `int x = 1;` -/
def exA : Ast.Program :=
  ⟨⟨0, 10⟩, [(.classicalDeclarationStatement ⟨0, 10⟩ false (some (.mk ⟨0, 3⟩ .int none none)) false (some ⟨⟨4, 5⟩, "x"⟩) (some (.literal ⟨⟨8, 9⟩, .intNumber "1" (some 1)⟩)))]⟩

/-- a.inc, second version: `int x = 1.5;` (a diagnostic inside the included file) -/
def exB : Ast.Program :=
  ⟨⟨0, 12⟩, [(.classicalDeclarationStatement ⟨0, 12⟩ false (some (.mk ⟨0, 3⟩ .int none none)) false (some ⟨⟨4, 5⟩, "x"⟩) (some (.literal ⟨⟨8, 11⟩, .floatNumber "1.5" (some "1.5")⟩)))]⟩

/-- what is compared: symbol table, number of statements, diagnostics -/
def obs (c : Ctx) : SymTab × Nat × List SemErr := (c.symbolTable, c.program.length, c.semanticErrors)

/-- run both analyses and compare: the include run's tree must be `[a.inc ↦ treeErrs]`, its own
diagnostics `own`, and the flat run must agree with it up to diagnostics and report
`treeErrs ++ own` -/
def exCheck (a : Ast.Program) (treeErrs own : List SemErr) : Bool :=
  match (syntaxToSemanticInc 50 exMain.statements [PSrc.mk "a.inc" (some (.clean a)) none []]).run {},
        (Sema.syntaxToSemanticLoop 50 (a.statements ++ exMain.statements.drop 1)).run {} with
  | .ok ([ErrTree.mk path errs []], c), .ok (_, d) =>
    path == "a.inc" && errs == treeErrs && c.semanticErrors == own &&
      decide (obs d = (c.symbolTable, c.program.length, treeErrs ++ own)) &&
      (splice 50 exMain.statements [PSrc.mk "a.inc" (some (.clean a)) none []]).isSome
  | _, _ => false

/-- main `include "a.inc"; int y = x;`, a.inc `int x = 1;`: no diagnostics anywhere, same table -/
theorem example_one_include : exCheck exA [] [] = true := by decide +kernel

/-- a.inc `int x = 1.5;`: the included file's `IncompatibleTypesError` sits in its tree in the
include run and in front of the main file's diagnostics in the flat run -/
theorem example_one_include_with_diagnostic :
    exCheck exB [⟨.incompatibleTypesError, 0, 12⟩] [] = true := by decide +kernel

end Oq3.C18E
