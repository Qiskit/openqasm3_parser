/-
C18 — panics correspond.

`inclusion_outcome_iff`: for a splice `flat` of `stmts` with the sources `inc` and a start context in
global scope, the include-aware analysis ends with an outcome `o` other than "out of fuel" — a
panic at some site, in particular — (for some fuel `≥ fuel`) iff the plain analysis of the spliced
list does (for some fuel); and then both do so for every larger fuel.  With `inclusion_iff`
(`C18Conv.lean`): textual inclusion is an equivalence for normal AND abnormal termination.
-/
import Oq3.Props.C18Conv
import Oq3.Props.C18MonoErr

namespace Oq3.C18E
open Oq3 Oq3.Types Oq3.Symbols Oq3.Sema Oq3.Includes

theorem loop_zero_err (l : List Ast.Stmt) (c : Ctx) : syntaxToSemanticLoop 0 l c = .error .fuel := by
  unfold syntaxToSemanticLoop; rfl

theorem loop_cons_err (F : Nat) (s : Ast.Stmt) (rest : List Ast.Stmt) (c : Ctx) (o : Sema.Outcome) :
    syntaxToSemanticLoop (F + 1) (s :: rest) c = .error o ↔
      C17.topStepM F s c = .error o ∨
        ∃ c1, C17.topStepM F s c = .ok ((), c1) ∧ syntaxToSemanticLoop F rest c1 = .error o := by
  rw [C06.topLoop_cons_eq]
  unfold C17.topStepM
  rw [← bind_assoc, M.bind_err]
  constructor
  · rintro (h | ⟨u, c1, h1, h2⟩)
    · exact .inl h
    · exact .inr ⟨c1, h1, h2⟩
  · rintro (h | ⟨c1, h1, h2⟩)
    · exact .inl h
    · exact .inr ⟨(), c1, h1, h2⟩

theorem loop_append_err {F : Nat} {p q : List Ast.Stmt} {c : Ctx} {o : Sema.Outcome} :
    syntaxToSemanticLoop F (p ++ q) c = .error o ↔
      syntaxToSemanticLoop F p c = .error o ∨
        ∃ c', syntaxToSemanticLoop F p c = .ok ((), c') ∧
          syntaxToSemanticLoop (F - p.length) q c' = .error o := by
  induction p generalizing F c with
  | nil =>
    cases F with
    | zero => simp [loop_zero_err]
    | succ F => simp [loop_nil_run (F + 1) c (Nat.le_add_left 1 F)]
  | cons s rest ih =>
    cases F with
    | zero => simp [loop_zero_err]
    | succ F =>
      simp only [List.cons_append, loop_cons_err, C17.loop_cons, List.length_cons,
        Nat.add_sub_add_right]
      constructor
      · rintro (h | ⟨c1, h1, h2⟩)
        · exact .inl (.inl h)
        · rcases ih.mp h2 with h3 | ⟨c', h3, h4⟩
          · exact .inl (.inr ⟨c1, h1, h3⟩)
          · exact .inr ⟨c', ⟨c1, h1, h3⟩, h4⟩
      · rintro ((h | ⟨c1, h1, h3⟩) | ⟨c', ⟨c1, h1, h3⟩, h4⟩)
        · exact .inl h
        · exact .inr ⟨c1, h1, ih.mpr (.inl h3)⟩
        · exact .inr ⟨c1, h1, ih.mpr (.inr ⟨c', h3, h4⟩)⟩

def FlatIncErr (fuel : Nat) : Prop :=
  ∀ (stmts : List Ast.Stmt) (inc : List PSrc) (flat : List Ast.Stmt) (c : Ctx) (F : Nat)
    (o : Sema.Outcome), o ≠ .fuel →
    splice fuel stmts inc = some flat → IsGlobal c →
    syntaxToSemanticLoop F flat c = .error o →
    ∀ K, fuel + F ≤ K → syntaxToSemanticInc K stmts inc c = .error o

theorem step_simple_conv_err (k : Nat) (ih : FlatIncErr k) (s : Ast.Stmt) (hk : Kept s)
    (rest : List Ast.Stmt) (inc : List PSrc) (fr : List Ast.Stmt) (c : Ctx) (F : Nat)
    (o : Sema.Outcome) (ho : o ≠ .fuel) (hfr : splice k rest inc = some fr) (hg : IsGlobal c)
    (hrun : syntaxToSemanticLoop F (s :: fr) c = .error o) :
    ∀ K, k + 1 + F ≤ K → syntaxToSemanticInc K (s :: rest) inc c = .error o := by
  cases F with
  | zero => rw [loop_zero_err] at hrun; cases hrun; exact absurd rfl ho
  | succ F' =>
    intro K hK
    obtain ⟨K', rfl⟩ : ∃ K', K = K' + 1 := ⟨K - 1, by omega⟩
    rw [hk.stepEq rest inc K']
    have hm := topStmtM_mono2 (show F' ≤ K' by omega) s
    rw [loop_cons_err] at hrun
    rcases hrun with h | ⟨c2, h, hrest⟩
    · unfold C17.topStepM at h
      rw [M.bind_err] at h
      rcases h with h | ⟨o1, c1, h1, h2⟩
      · exact (M.bind_err _ _ _ _).mpr (.inl (hm.err c o h ho))
      · exact (M.bind_err _ _ _ _).mpr (.inr ⟨o1, c1, hm.ok c _ h1,
          (M.bind_err _ _ _ _).mpr (.inl h2)⟩)
    · unfold C17.topStepM at h
      rw [bind_ok'] at h
      obtain ⟨o1, c1, h1, h2⟩ := h
      obtain ⟨he2, hs2⟩ := attachM_ok h2
      have hg2 : IsGlobal c2 := (hg.of_ext ((topStmtM_pres F' s).run c _ h1)).of_symtab hs2
      have := ih rest inc fr c2 F' o ho hfr hg2 hrest K' (by omega)
      exact (M.bind_err _ _ _ _).mpr (.inr ⟨o1, c1, hm.ok c _ h1,
        (M.bind_err _ _ _ _).mpr (.inr ⟨(), c2, h2, this⟩)⟩)

theorem flatIncErr (fuel : Nat) : FlatIncErr fuel := by
  induction fuel with
  | zero =>
    intro stmts inc flat c F o ho hs
    simp [splice] at hs
  | succ k ih =>
    intro stmts inc flat c F o ho hs hg hrun
    cases stmts with
    | nil =>
      simp only [splice, Option.some.injEq] at hs
      subst hs
      cases F with
      | zero => rw [loop_zero_err] at hrun; cases hrun; exact absurd rfl ho
      | succ F' => rw [loop_nil_run (F' + 1) c (Nat.le_add_left 1 F')] at hrun; cases hrun
    | cons s rest =>
      rcases splice_cons_some hs with ⟨hk, fr, hfr, rfl⟩ |
        ⟨sp, f, p, src, inc', ast, af, rf, rfl, hf, hp, rfl, he, hpar, haf, hrf, rfl⟩
      · exact step_simple_conv_err k ih s hk rest inc fr c F o ho hfr hg hrun
      · intro K hK
        obtain ⟨K', rfl⟩ : ∃ K', K = K' + 1 := ⟨K - 1, by omega⟩
        rw [include_arm_eval K' sp f p hf hp rest src inc' ast he hpar c hg]
        rw [loop_append_err] at hrun
        rcases hrun with hA | ⟨cm, hA, hR⟩
        · -- the failure is inside the included file
          have tA := (syntaxToSemanticLoop_errFrame F af).transport_err (d := eraseErrs c) hA rfl
          rw [ih ast.statements src.included af (eraseErrs c) F o ho haf (hg.of_symtab rfl) tA K'
            (by omega)]
        · -- the included file is fine, the failure is in the rest
          obtain ⟨nA, hnA, tA⟩ :=
            (syntaxToSemanticLoop_errFrame F af).transport (d := eraseErrs c) hA rfl
          simp only [eraseErrs_errs, List.nil_append] at tA
          obtain ⟨kids, c1, own1, m1, hinc1, ho1, hd1, hw1, hg1⟩ :=
            flatInc k ast.statements src.included af (eraseErrs c) F _ haf (hg.of_symtab rfl) tA
          rw [hinc1 K' (by omega)]
          dsimp only
          have tR := (syntaxToSemanticLoop_errFrame (F - af.length) rf).transport_err
            (d := { c1 with semanticErrors := c.semanticErrors }) hR (ctx_split hd1).1.symm
          rw [ih rest inc' rf { c1 with semanticErrors := c.semanticErrors } (F - af.length) o ho hrf
            (hg1.of_symtab rfl) tR K' (by omega)]

def IncFlatErr (fuel : Nat) : Prop :=
  ∀ (stmts : List Ast.Stmt) (inc : List PSrc) (flat : List Ast.Stmt) (c : Ctx)
    (o : Sema.Outcome), o ≠ .fuel →
    splice fuel stmts inc = some flat → IsGlobal c →
    syntaxToSemanticInc fuel stmts inc c = .error o →
    ∀ F, fuel + flat.length ≤ F → syntaxToSemanticLoop F flat c = .error o

theorem step_simple_err (k : Nat) (ih : IncFlatErr k) (s : Ast.Stmt) (hk : Kept s)
    (rest : List Ast.Stmt) (inc : List PSrc) (fr : List Ast.Stmt) (c : Ctx) (o : Sema.Outcome)
    (ho : o ≠ .fuel) (hfr : splice k rest inc = some fr) (hg : IsGlobal c)
    (hrun : syntaxToSemanticInc (k + 1) (s :: rest) inc c = .error o) :
    ∀ F, k + 1 + (s :: fr).length ≤ F → syntaxToSemanticLoop F (s :: fr) c = .error o := by
  intro F hF
  simp only [List.length_cons] at hF
  obtain ⟨F', rfl⟩ : ∃ F', F = F' + 1 := ⟨F - 1, by omega⟩
  have hm := topStmtM_mono2 (show k ≤ F' by omega) s
  rw [hk.stepEq rest inc k, M.bind_err] at hrun
  rw [loop_cons_err]
  rcases hrun with h | ⟨o1, c1, h1, h⟩
  · left
    unfold C17.topStepM
    exact (M.bind_err _ _ _ _).mpr (.inl (hm.err c o h ho))
  · rw [M.bind_err] at h
    rcases h with h2 | ⟨u, c2, h2, hrest⟩
    · left
      unfold C17.topStepM
      exact (M.bind_err _ _ _ _).mpr (.inr ⟨o1, c1, hm.ok c _ h1, h2⟩)
    · right
      obtain ⟨he2, hs2⟩ := attachM_ok h2
      have hg2 : IsGlobal c2 := (hg.of_ext ((topStmtM_pres k s).run c _ h1)).of_symtab hs2
      refine ⟨c2, ?_, ih rest inc fr c2 o ho hfr hg2 hrest F' (by omega)⟩
      unfold C17.topStepM
      exact (bind_ok' _ _ _ _).mpr ⟨o1, c1, hm.ok c _ h1, h2⟩

theorem incFlatErr (fuel : Nat) : IncFlatErr fuel := by
  induction fuel with
  | zero =>
    intro stmts inc flat c o ho hs
    simp [splice] at hs
  | succ k ih =>
    intro stmts inc flat c o ho hs hg hrun
    cases stmts with
    | nil =>
      simp [syntaxToSemanticInc, pure_run] at hrun
    | cons s rest =>
      rcases splice_cons_some hs with ⟨hk, fr, hfr, rfl⟩ |
        ⟨sp, f, p, src, inc', ast, af, rf, rfl, hf, hp, rfl, he, hpar, haf, hrf, rfl⟩
      · exact step_simple_err k ih s hk rest inc fr c o ho hfr hg hrun
      · intro F hF
        simp only [List.length_append] at hF
        rw [include_arm_eval k sp f p hf hp rest src inc' ast he hpar c hg] at hrun
        rw [loop_append_err]
        cases h1 : syntaxToSemanticInc k ast.statements src.included (eraseErrs c) with
        | error e =>
          rw [h1] at hrun
          simp only [Except.error.injEq] at hrun
          subst hrun
          left
          have := ih ast.statements src.included af (eraseErrs c) e ho haf (hg.of_symtab rfl) h1 F
            (by omega)
          exact (syntaxToSemanticLoop_errFrame F af).transport_err (d := c) this rfl
        | ok r =>
          obtain ⟨kids, c1⟩ := r
          rw [h1] at hrun
          dsimp only at hrun
          obtain ⟨own1, m1, ho1, hw1, hg1, hflat1⟩ :=
            incFlat k ast.statements src.included af (eraseErrs c) kids c1 haf (hg.of_symtab rfl) h1
          have e1 := hflat1 F (by omega)
          obtain ⟨n1, hn1, t1⟩ := (syntaxToSemanticLoop_errFrame F af).transport (d := c) e1 rfl
          right
          refine ⟨_, t1, ?_⟩
          cases h2 : syntaxToSemanticInc k rest inc' { c1 with semanticErrors := c.semanticErrors } with
          | ok r2 => rw [h2] at hrun; cases hrun
          | error e =>
            rw [h2] at hrun
            simp only [Except.error.injEq] at hrun
            subst hrun
            have := ih rest inc' rf { c1 with semanticErrors := c.semanticErrors } e ho hrf
              (hg1.of_symtab rfl) h2 (F - af.length) (by omega)
            exact (syntaxToSemanticLoop_errFrame (F - af.length) rf).transport_err this rfl

/-- **abnormal termination corresponds (include ⇒ flat).**  If the include run ends with an outcome
`o` other than "out of fuel" — a panic at a site, in particular — so does the flat run, for every
fuel `F ≥ fuel + flat.length`. -/
theorem inclusion_fails (fuel : Nat) (stmts : List Ast.Stmt) (inc : List PSrc) (flat : List Ast.Stmt)
    (c : Ctx) (o : Sema.Outcome) (ho : o ≠ .fuel)
    (hs : splice fuel stmts inc = some flat) (hg : IsGlobal c)
    (h : (syntaxToSemanticInc fuel stmts inc).run c = .error o) :
    ∀ F, fuel + flat.length ≤ F → (syntaxToSemanticLoop F flat).run c = .error o :=
  incFlatErr fuel stmts inc flat c o ho hs hg h

/-- **abnormal termination corresponds (flat ⇒ include)** -/
theorem inclusion_fails_conv (fuel : Nat) (stmts : List Ast.Stmt) (inc : List PSrc)
    (flat : List Ast.Stmt) (c : Ctx) (F : Nat) (o : Sema.Outcome) (ho : o ≠ .fuel)
    (hs : splice fuel stmts inc = some flat) (hg : IsGlobal c)
    (h : (syntaxToSemanticLoop F flat).run c = .error o) :
    ∀ K, fuel + F ≤ K → (syntaxToSemanticInc K stmts inc).run c = .error o :=
  flatIncErr fuel stmts inc flat c F o ho hs hg h

/-- **abnormal outcomes correspond**: every outcome but "out of fuel" (`unsupportedInclude` cannot
occur on either side: it is covered for uniformity) -/
theorem inclusion_outcome_iff (fuel : Nat) (stmts : List Ast.Stmt) (inc : List PSrc)
    (flat : List Ast.Stmt) (c : Ctx) (hs : splice fuel stmts inc = some flat) (hg : IsGlobal c)
    (o : Sema.Outcome) (ho : o ≠ .fuel) :
    (∃ K, fuel ≤ K ∧ (syntaxToSemanticInc K stmts inc).run c = .error o) ↔
    (∃ F, (syntaxToSemanticLoop F flat).run c = .error o) := by
  constructor
  · rintro ⟨K, hK, h⟩
    exact ⟨_, inclusion_fails K stmts inc flat c _ ho (splice_mono hK _ _ _ hs) hg h _
      (Nat.le_refl _)⟩
  · rintro ⟨F, h⟩
    exact ⟨fuel + F, by omega,
      inclusion_fails_conv fuel stmts inc flat c F _ ho hs hg h _ (Nat.le_refl _)⟩

/-- **panics correspond.**  The include-aware analysis panics at site `σ` (for some fuel `≥ fuel`)
iff the plain analysis of the spliced list panics at `σ` (for some fuel). -/
theorem inclusion_panic_iff (fuel : Nat) (stmts : List Ast.Stmt) (inc : List PSrc)
    (flat : List Ast.Stmt) (c : Ctx) (hs : splice fuel stmts inc = some flat) (hg : IsGlobal c)
    (site : String) :
    (∃ K, fuel ≤ K ∧ (syntaxToSemanticInc K stmts inc).run c = .error (.panic site)) ↔
    (∃ F, (syntaxToSemanticLoop F flat).run c = .error (.panic site)) :=
  inclusion_outcome_iff fuel stmts inc flat c hs hg _ (by simp)

end Oq3.C18E
