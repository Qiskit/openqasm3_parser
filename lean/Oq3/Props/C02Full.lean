/-
C02 — the syntax tree is lossless, END TO END.

`lossless_end_to_end`: for every text `s` and all Unicode class functions `uc`: lex
(`LexedStr::new`), build the parser input (`to_input`), parse (`source_file`), `process` the
events, build the tree (`build_tree` = `intersperse_trivia` + the rowan builder) — if the parser
returns normally, then `intersperse_trivia` fails none of its assertions, reports `is_eof`, the
builder returns exactly one root, and the text of the tree is exactly `s`.

What makes the token steps fit the token table (`parse_fits`): the raw tokens that the parser
glues into one composite token event (all but the last one of each event) carry joint bits
(`glueOK`) and are not `FLOAT_NUMBER`s (`glueK`; `Parser::eat` glues only after `at_composite2/3`
has compared the kinds with the composite's pieces, which are punctuation: `pieces_not_float`).
Both are recorded by the parser-state invariant of `Lemmas/ParserInv.lean`.  The second matters
because `to_input` ALSO sets the joint bit of a `FLOAT_NUMBER` with a fractional part when trivia
follows; for every other kind the joint bit means adjacency (`Bridge.joint_exact`).
-/
import Oq3.Lemmas.Bridge
import Oq3.Props.C01

namespace Oq3.Props.C02
open Oq3.Gen Oq3.Lexer Oq3.Lexed Oq3.Parser Oq3.Grammar Oq3.Builder Oq3.Bridge
open Oq3.Lemmas.Lexed

/-- the glued raw tokens (all but the last of each token item) are not floats;
`c` = raw tokens consumed before -/
def glueK (K : List SyntaxKind) : Nat → List Item → Bool
  | _, [] => true
  | c, .token _ n :: is =>
    (List.range (n - 1)).all (fun j => K.getD (c + j) .EOF != .FLOAT_NUMBER) && glueK K (c + n) is
  | c, .error _ :: is => glueK K c is

/-- why the invariant's `gluek` holds: `Parser::eat` glues only pieces of a composite token -/
theorem pieces_not_float : ∀ p ∈ Ops.compositeTable, ∀ k ∈ p.2, k ≠ SyntaxKind.FLOAT_NUMBER := by
  decide

theorem glueOK_items (joint : List Bool) (c : Nat) (evs : List Ev) :
    glueOK joint.toArray c evs = glueI joint c (itemsE evs) := by
  induction evs generalizing c with
  | nil => rfl
  | cons e es ih => cases e <;> simp [glueOK, glueI, itemsE, ih]

theorem sumTok_items (evs : List Ev) : sumTok evs = sumI (itemsE evs) := by
  induction evs with
  | nil => rfl
  | cons e es ih => cases e <;> simp [sumTok, sumI, itemsE, ih]

/-- joint bits + "glued tokens are not floats" + joint exactness ⇒ glued tokens are adjacent -/
theorem glueI_adj (J A : List Bool) (K : List SyntaxKind)
    (hex : ∀ i, J.getD i false = true → K.getD i .EOF ≠ .FLOAT_NUMBER → A.getD i false = true)
    (is : List Item) : ∀ c, glueI J c is = true → glueK K c is = true → glueI A c is = true := by
  induction is with
  | nil => intro c _ _; rfl
  | cons i is ih =>
    intro c hj hk
    cases i with
    | error m => simp only [glueI, glueK] at hj hk ⊢; exact ih c hj hk
    | token k n =>
      simp only [glueI, glueK, Bool.and_eq_true, decide_eq_true_eq, List.all_eq_true, List.mem_range,
        bne_iff_ne, ne_eq] at hj hk ⊢
      exact ⟨⟨hj.1.1, fun j hjn => hex _ (hj.1.2 j hjn) (hk.1 j hjn)⟩, ih _ hj.2 hk.2⟩

theorem glueKE_items (K : List SyntaxKind) (c : Nat) (evs : List Ev) :
    glueKE K.toArray c evs = glueK K c (itemsE evs) := by
  induction evs generalizing c with
  | nil => rfl
  | cons e es ih => cases e <;> simp [glueKE, glueK, itemsE, ih]

theorem parse_fits (uc : UC) (s : List Char) (inp : Input) (fuel npl : Nat) (events : Array Ev)
    (pos : Nat) (steps : List Step) (hi : (lexedOf uc s).toInput = some inp)
    (hp : parseSourceFile fuel inp.kind.toArray inp.joint.toArray npl = .ok (events, pos))
    (hs : process events.toList = some steps) :
    rooted steps = true ∧ fitsGo (rawToksOf (lexedOf uc s)) (itemsS steps) = true := by
  have hinp := toInput_exact uc s
  rw [hi] at hinp
  simp only [Option.some.injEq] at hinp
  subst hinp
  have hpok := Oq3.Props.C01.parse_ok fuel _ _ npl events pos hp
  have hne : ∀ i, (hi : i < (ntKinds (rawToksOf (lexedOf uc s))).toArray.size) →
      (ntKinds (rawToksOf (lexedOf uc s))).toArray[i] ≠ SyntaxKind.EOF := by
    intro i hi
    have hmem : (ntKinds (rawToksOf (lexedOf uc s))).toArray[i] ∈ ntKinds (rawToksOf (lexedOf uc s)) := by
      simp
    simp only [ntKinds, List.mem_map, List.mem_filter] at hmem
    obtain ⟨t, ⟨ht, _⟩, hkt⟩ := hmem
    intro he
    exact rawToks_kind_ne_eof uc s t ht (hkt.trans he)
  obtain ⟨_, hsum⟩ := Oq3.Props.C01.parse_consumes_all fuel _ _ npl events pos hp hne
  -- glued tokens carry joint bits and are not floats, hence adjacent
  have hadj := glueI_adj _ (adjBits (rawToksOf (lexedOf uc s))) _
    (fun i h1 h2 => joint_exact _ i h1 h2) _ 0
    (by rw [← glueOK_items]; exact hpok.glue) (by rw [← glueKE_items]; exact hpok.gluek)
  refine ⟨process_rooted _ _ hpok.rootedE hs, ?_⟩
  rw [process_items _ _ hs]
  apply fits_of_adj _ _ hadj
  rw [← sumTok_items, hsum]; simp

theorem lossless_end_to_end (uc : UC) (s : List Char) (l : LexedStr) (inp : Input)
    (fuel npl : Nat) (events : Array Ev) (pos : Nat) (steps : List Step)
    (hl : LexedStr.new uc s = some l) (hi : l.toInput = some inp)
    (hp : parseSourceFile fuel inp.kind.toArray inp.joint.toArray npl = .ok (events, pos))
    (hs : process events.toList = some steps) :
    ∃ tree errs, buildTree (rawToksOf l) steps = .ok (tree, errs, true) ∧ tree.text = s := by
  have hle : l = lexedOf uc s := Oq3.Props.C14.lexed_eq uc s l hl
  subst hle
  obtain ⟨hrooted, hfit⟩ := parse_fits uc s inp fuel npl events pos steps hi hp hs
  obtain ⟨out, hout⟩ := intersperse_fits _ steps hrooted hfit
  obtain ⟨k, cs, n, hbt, _, _, htext, heof⟩ := buildTree_spec _ steps hrooted out true hout
  refine ⟨.node k cs, errorsOf out, hbt, ?_⟩
  rw [htext, heof rfl, List.take_length]
  exact rawText_rawToksOf uc s

/-- the same, stated on the implementation's own `is_eof` check: `build_tree` never returns
`is_eof = false` on such a run.  `hglued` holds of every run (`parse_ok`, field `gluek`) and the
proof does not use it. -/
theorem build_tree_reports_eof (uc : UC) (s : List Char) (l : LexedStr) (inp : Input)
    (fuel npl : Nat) (events : Array Ev) (pos : Nat) (steps : List Step)
    (hl : LexedStr.new uc s = some l) (hi : l.toInput = some inp)
    (hp : parseSourceFile fuel inp.kind.toArray inp.joint.toArray npl = .ok (events, pos))
    (hs : process events.toList = some steps)
    (hglued : glueK inp.kind 0 (itemsE events.toList) = true)
    (r : Tree × List SynErr × Bool) (hr : buildTree (rawToksOf l) steps = .ok r) : r.2.2 = true := by
  have _ := hglued
  obtain ⟨tree, errs, hb, _⟩ := lossless_end_to_end uc s l inp fuel npl events pos steps hl hi hp hs
  rw [hb] at hr
  simp only [Except.ok.injEq] at hr
  rw [← hr]

/-- the case without composite tokens (every token event spans one raw token): an instance of
`lossless_end_to_end` -/
theorem lossless_end_to_end_partial (uc : UC) (s : List Char) (l : LexedStr) (inp : Input)
    (fuel npl : Nat) (events : Array Ev) (pos : Nat) (steps : List Step)
    (hl : LexedStr.new uc s = some l) (hi : l.toInput = some inp)
    (hp : parseSourceFile fuel inp.kind.toArray inp.joint.toArray npl = .ok (events, pos))
    (hs : process events.toList = some steps)
    (h1 : ∀ k n, Ev.token k n ∈ events.toList → n ≤ 1) :
    ∃ tree errs, buildTree (rawToksOf l) steps = .ok (tree, errs, true) ∧ tree.text = s :=
  have _ := h1
  lossless_end_to_end uc s l inp fuel npl events pos steps hl hi hp hs

end Oq3.Props.C02
