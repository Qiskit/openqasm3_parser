/-
C11 (second half): the two gates with the real model stages, end to end over texts.

`Props/C11.lean` proves the two gates over `Model/Pipeline.lean`, where the lexer, the parser and the
analysis are parameters.  Here nothing is a parameter: the composites of
`Lemmas/C11StagesDefs.lean` (its header lists which Rust function each definition mirrors) are built
from the model lexer (`LexedStr.new`), `to_input`, the grammar (`parseSourceFile`), `event::process`,
the balance assertions, `build_tree`, `validation::validate`, the typed accessors
(`Acc.Build.program`), the include layer (`Includes.parseIncludedFiles`, `analyzeSource`) and the
semantic pass (`Sema.analyzeWith`):

  `checkLexParse uc fuel npl text`   = `oq3_syntax::SourceFile::parse_check_lex(text)`
                                        (`parsing::parse_text_check_lex` + `validate` + the root assert)
  `analyzeTextInc fs … text`          = `oq3_semantics::parse_source_string_with_path_search(text, …)`
                                        (`oq3_source_file::parse_source_string` + `analyze_source`)
  `analyzeText afuel uc fuel npl text` = `oq3_semantics::parse_source_string(text, None)` where no include
                                        file can be read (`noFS`): the entry point for texts without real
                                        includes

`(lexedOf uc text).error` is the error list of the model `LexedStr` (`LexedStr.new uc text =
some (lexedOf uc text)`, `Lemmas.Lexed.new_eq`); `fuel`/`npl` are the grammar model's fuel and the
no-progress limit of the `oq3_verif` hook, `afuel` the fuel of the semantic model.  All statements
hold for EVERY value of these (no "enough fuel" hypothesis): a stage that does not return is an
explicit `Fail` outcome and the theorems say what happens then.

(1) The lex-checked parse (`check_lex_iff_stages`): a lexer error ⇒ no tree and the lexer's
    diagnostics, the parser is not run; no lexer error ⇒ exactly the parser stages' outcome, with the
    diagnostics `parserDiagnostics` (the grammar's `Error` events as `build_tree` places them, then
    `validate`'s).  It fails only inside the grammar (panic / hang detector / fuel), inside `validate`,
    or at the root assert (`checkLexParse_fails_only`): `LexedStr::new`, the lexer-error loop,
    `to_input`, `process`, the balance assertions and `build_tree` never fail (C14, C12, C01, C02).
(2) The analysis gate (`analyze_gate_fs` for any file system and any parse of included texts,
    `analyzeText_skipped_iff` without real includes): analysis is skipped iff `have_syntax_errors()`
    holds for the parsed source with its included sources; skipped ⇒ the result context is
    `Context::new` (`skipped_is_empty`).
(3) With C11Lex: a flagged token at a token boundary (`flagged_token_rejected`), in particular after
    any admissible layout of well-formed lexemes (`malformed_in_context_rejected`), makes
    `checkLexParse` return no tree with the token's message on the token's range, and the analysis
    skipped; instances for the classes of `Props/C11Lex.lean` (`rejected_*`; none for
    `malformed_flagged_pound_p`, which states the kind only).

`Props/C11StagesTotal.lean` adds that the stages RETURN for texts of up to 789 473 characters with the
fuel of C01Term/C01Work2.  Non-vacuity: section `Examples` at the end (closed texts, kernel-evaluated).

NOT covered (stated exactly): in the branch "tree with diagnostics" the include scan over the
erroneous tree is modelled through the accessor model and may report an accessor panic
(`Fail.accessor`) — that outcome is kept explicit, not excluded; the included files' texts go through
the parameter `parseInc` of the include model (only the TOP-LEVEL text goes through the concrete
stages; `analyzeText` reads no file, so for it nothing is a parameter).
-/
import Oq3.Lemmas.C11StagesGate
import Oq3.Props.C11
import Oq3.Props.C11Lex

namespace Oq3.Props.C11Stages
open Oq3.Gen Oq3.Lexer Oq3.Lexed Oq3.Builder Oq3.Acc Oq3.Includes Oq3.Stages
open Oq3.Lemmas.Lexer Oq3.Lemmas.Lexed Oq3.Lemmas.LexLocal Oq3.Props.C15 Oq3.Props.C11 Oq3.Ref

/-- **`parse_check_lex` over texts.** -/
theorem check_lex_iff_stages (uc : UC) (fuel npl : Nat) (text : List Char) :
    ((lexedOf uc text).error ≠ [] →
      checkLexParse uc fuel npl text = .ok (none, lexErrorsOf (lexedOf uc text))) ∧
    ((lexedOf uc text).error = [] →
      checkLexParse uc fuel npl text =
        (parserDiagnostics uc fuel npl text).map fun r => (some r.1, r.2)) ∧
    (∀ r, checkLexParse uc fuel npl text = .ok r →
      (r.1.isSome = true ↔ (lexedOf uc text).error = [])) := by
  refine ⟨checkLexParse_lex_error uc fuel npl text, checkLexParse_clean uc fuel npl text, ?_⟩
  intro r hr
  by_cases he : (lexedOf uc text).error = []
  · rw [checkLexParse_clean uc fuel npl text he] at hr
    cases hd : parserDiagnostics uc fuel npl text with
    | error f => rw [hd] at hr; cases hr
    | ok pr =>
      rw [hd] at hr
      simp only [Except.map, Except.ok.injEq] at hr
      subst hr
      simp [he]
  · rw [checkLexParse_lex_error uc fuel npl text he] at hr
    simp only [Except.ok.injEq] at hr
    subst hr
    simp [he]

/-- the lexer-error diagnostics: one per error record, in order, each the record's message on the
text range of its token (in bounds, ordered) -/
theorem lex_diagnostics_exact (uc : UC) (text : List Char) :
    (lexErrorsOf (lexedOf uc text)).length = (lexedOf uc text).error.length ∧
    ∀ e ∈ (lexedOf uc text).error, ∃ lo hi, (lexedOf uc text).textRange e.token = some (lo, hi) ∧
      (⟨e.msg, lo, hi⟩ : SyntaxError) ∈ lexErrorsOf (lexedOf uc text) ∧ lo ≤ hi ∧
      hi ≤ Oq3.Lexer.utf8Len text :=
  ⟨lexErrorsOf_length _, lexErrors_spec uc text⟩

/-- a tree is returned iff no token of the text is flagged by `inner_extend_token` -/
theorem check_lex_tree_iff_no_flagged_token (uc : UC) (fuel npl : Nat) (text : List Char)
    (r : Option Tree × List SyntaxError) (h : checkLexParse uc fuel npl text = .ok r) :
    r.1.isSome = true ↔
      ∀ t ∈ tokenize uc text, (innerExtendToken t.kind t.text).1.isEmpty = true := by
  rw [(check_lex_iff_stages uc fuel npl text).2.2 r h]
  exact error_nil_iff uc text _ (new_eq uc text)

/-- **the concrete composite is an instance of the parametric gate of `Props/C11.lean`**: whenever
the parser stages return `pr` (needed only if there is no lexer error) -/
theorem checkLexParse_is_pipeline_instance (uc : UC) (fuel npl : Nat) (text : List Char)
    (pr : Tree × List SyntaxError)
    (h : (lexedOf uc text).error = [] → parserDiagnostics uc fuel npl text = .ok pr) :
    checkLexParse uc fuel npl text =
      .ok (Oq3.Pipeline.parseTextCheckLex (lexErrorsOf (lexedOf uc text)) (fun _ => pr)) := by
  by_cases he : (lexedOf uc text).error = []
  · rw [checkLexParse_clean uc fuel npl text he, h he]
    simp [Oq3.Pipeline.parseTextCheckLex, lexErrorsOf_nil _ he, Except.map]
  · rw [checkLexParse_lex_error uc fuel npl text he]
    have hne := lexErrorsOf_ne_nil _ he
    unfold Oq3.Pipeline.parseTextCheckLex
    cases hl : lexErrorsOf (lexedOf uc text) with
    | nil => exact absurd hl hne
    | cons a b => rfl

/-- `C11.check_lex_iff` instantiated with the real stages -/
theorem check_lex_iff_instance (uc : UC) (fuel npl : Nat) (text : List Char)
    (pr : Tree × List SyntaxError)
    (h : (lexedOf uc text).error = [] → parserDiagnostics uc fuel npl text = .ok pr) :
    ∃ r, checkLexParse uc fuel npl text = .ok r ∧
      (r.1.isSome = true ↔ lexErrorsOf (lexedOf uc text) = []) ∧
      (lexErrorsOf (lexedOf uc text) ≠ [] → r = (none, lexErrorsOf (lexedOf uc text))) ∧
      (lexErrorsOf (lexedOf uc text) = [] → r = (some pr.1, pr.2)) := by
  refine ⟨_, checkLexParse_is_pipeline_instance uc fuel npl text pr h, ?_⟩
  exact Oq3.Props.C11.check_lex_iff (lexErrorsOf (lexedOf uc text)) (fun _ => pr)

/-- **which stage can fail.**  `checkLexParse` returns unless there is no lexer error AND the grammar
does not return (parser panic, hang detector, model fuel), `validate` panics, or the root is not a
`SOURCE_FILE` -/
theorem checkLexParse_fails_only (uc : UC) (fuel npl : Nat) (text : List Char) (f : Fail)
    (h : checkLexParse uc fuel npl text = .error f) :
    (lexedOf uc text).error = [] ∧
      ((∃ o, f = .parser o) ∨ (∃ site, f = .validate site) ∨ f = .rootKind) := by
  by_cases he : (lexedOf uc text).error = []
  · refine ⟨he, ?_⟩
    rw [checkLexParse_clean uc fuel npl text he] at h
    rcases parserDiagnostics_cases uc fuel npl text with
      ⟨f', hp, hd⟩ | ⟨t, e, -, ⟨site, hd⟩ | hd | ⟨d, hd⟩⟩ <;> rw [hd] at h <;> cases h
    · exact Or.inl (parseLexed_fails_only_in_grammar uc fuel npl text _ hp)
    · exact Or.inr (Or.inl ⟨site, rfl⟩)
    · exact Or.inr (Or.inr rfl)
  · rw [checkLexParse_lex_error uc fuel npl text he] at h
    cases h

/-- a returned tree spells exactly the text (C02 through the gate) -/
theorem checkLexParse_tree_text (uc : UC) (fuel npl : Nat) (text : List Char) (t : Tree)
    (d : List SyntaxError) (h : checkLexParse uc fuel npl text = .ok (some t, d)) : t.text = text := by
  have he : (lexedOf uc text).error = [] :=
    ((check_lex_iff_stages uc fuel npl text).2.2 _ h).mp rfl
  rw [checkLexParse_clean uc fuel npl text he] at h
  rcases parserDiagnostics_cases uc fuel npl text with
    ⟨f', -, hd⟩ | ⟨t', e, hp, ⟨site, hd⟩ | hd | ⟨d', hd⟩⟩ <;> rw [hd] at h <;> cases h
  exact parseLexed_ok_text uc fuel npl text _ e hp

section FS
variable (fs : FS) (parseInc : String → Parsed) (search env : Option (List String))
  (ifuel afuel : Nat) (uc : UC) (fuel npl : Nat) (text : List Char)

theorem parseSourceString_counted (p : Parsed) (incs : List PSrc)
    (h : parseSourceString fs parseInc search env ifuel uc fuel npl text = .ok (p, incs)) :
    Counted p := by
  unfold parseSourceString at h
  cases hp : parseChecked uc fuel npl text with
  | error f => rw [hp] at h; cases h
  | ok p' =>
    rw [hp] at h
    have hc := parseChecked_counted uc fuel npl text p' hp
    simp only at h
    split at h
    · split at h
      · simp only [Except.ok.injEq, Prod.mk.injEq] at h; rw [← h.1]; exact hc
      · cases h
    · simp only [Except.ok.injEq, Prod.mk.injEq] at h; rw [← h.1]; exact hc

/-- **the analysis gate, any file system.**  Semantic analysis is skipped (empty result) exactly when
the parsed source with its included sources has a syntax diagnostic somewhere —
`have_syntax_errors()`, equivalently `num_syntax_errors() > 0` -/
theorem analyze_gate_fs :
    analyzeTextInc fs parseInc search env ifuel afuel uc fuel npl text = .ok none ↔
      ∃ p incs, parseSourceString fs parseInc search env ifuel uc fuel npl text = .ok (p, incs) ∧
        haveSyntaxErrors (.mk "" (some p) none incs) = true := by
  unfold analyzeTextInc
  cases hs : parseSourceString fs parseInc search env ifuel uc fuel npl text with
  | error f => simp
  | ok r =>
    obtain ⟨p, incs⟩ := r
    have hc := parseSourceString_counted fs parseInc search env ifuel uc fuel npl text p incs hs
    have hiff := analyzeSource_none_iff afuel p hc incs
    simp only [Except.ok.injEq, Prod.mk.injEq]
    constructor
    · intro h
      refine ⟨p, incs, ⟨rfl, rfl⟩, hiff.mp ?_⟩
      cases ha : analyzeSource afuel p incs with
      | error o => rw [ha] at h; cases h
      | ok r => rw [ha] at h; simp only [Except.ok.injEq] at h; rw [h]
    · rintro ⟨p', incs', ⟨rfl, rfl⟩, hg⟩
      rw [hiff.mpr hg]

theorem analyze_gate_fs_count (p : Parsed) (incs : List PSrc)
    (h : parseSourceString fs parseInc search env ifuel uc fuel npl text = .ok (p, incs)) :
    analyzeTextInc fs parseInc search env ifuel afuel uc fuel npl text = .ok none ↔
      0 < numSyntaxErrors (.mk "" (some p) none incs) := by
  rw [analyze_gate_fs, ← Oq3.Props.C18Entry.haveSyntaxErrors_iff_num]
  constructor
  · rintro ⟨p', incs', h', hg⟩
    rw [h] at h'
    simp only [Except.ok.injEq, Prod.mk.injEq] at h'
    rw [h'.1, h'.2]; exact hg
  · intro hg; exact ⟨p, incs, h, hg⟩

/-- … and runs otherwise: no diagnostic anywhere ⇒ the main source is clean and the result is the
include-aware pass over its typed AST -/
theorem analyze_runs_fs (p : Parsed) (incs : List PSrc)
    (h : parseSourceString fs parseInc search env ifuel uc fuel npl text = .ok (p, incs))
    (hg : haveSyntaxErrors (.mk "" (some p) none incs) = false) :
    ∃ ast, p = .clean ast ∧
      analyzeTextInc fs parseInc search env ifuel afuel uc fuel npl text =
        match (syntaxToSemanticInc afuel ast.statements incs).run {} with
        | .ok (trees, c) => .ok (some (c, trees))
        | .error o => .error (.sema o) := by
  have hc := parseSourceString_counted fs parseInc search env ifuel uc fuel npl text p incs h
  obtain ⟨ast, rfl, ha⟩ := analyzeSource_run afuel p hc incs hg
  refine ⟨ast, rfl, ?_⟩
  unfold analyzeTextInc
  rw [h]
  simp only [ha]
  cases (syntaxToSemanticInc afuel ast.statements incs).run {} with
  | error o => rfl
  | ok r => rfl

/-- **tie to the include model**: for any total `parse` of texts that agrees with the concrete stages
on this text, `parseSourceString` is `Includes.parseSourceAndIncludes` (the function the C18 theorems
are about) on it -/
theorem parseSourceString_is_model (p : Parsed)
    (hp : parseChecked uc fuel npl text = .ok p) (hagree : parseInc (String.ofList text) = p) :
    parseSourceString fs parseInc search env ifuel uc fuel npl text =
      match parseSourceAndIncludes fs parseInc search env (ifuel + (includesOf p).length + 1 + 1)
          (String.ofList text) with
      | .ok r => .ok r
      | .error o => .error (.includes o) := by
  unfold parseSourceString parseSourceAndIncludes
  simp only [hp, hagree]
  by_cases hh : p.haveParse = true
  · simp only [hh, if_true]
    cases parseIncludedFiles fs parseInc search env (ifuel + (includesOf p).length + 1) (includesOf p) with
    | ok incs => rfl
    | error o => rfl
  · simp only [hh, Bool.false_eq_true, if_false]

end FS

/-- `analyzeText` in terms of what the syntax layers hand over: nothing is read; the include scan
returns one unreadable source per real include statement, none with a syntax diagnostic -/
theorem analyzeText_eq (afuel : Nat) (uc : UC) (fuel npl : Nat) (text : List Char) :
    (∀ f, parseChecked uc fuel npl text = .error f → analyzeText afuel uc fuel npl text = .error f) ∧
    (∀ p, parseChecked uc fuel npl text = .ok p →
      ∃ incs, anyHaveSyntaxErrors incs = false ∧
        incs.length = (if p.haveParse then Oq3.Props.C18.nonStd (includesOf p) else 0) ∧
        analyzeText afuel uc fuel npl text =
          match analyzeSource afuel p incs with
          | .error o => .error (.sema o)
          | .ok r => .ok r) := by
  constructor
  · intro f hf
    simp only [analyzeText, analyzeTextInc, parseSourceString, hf]
  · intro p hp
    by_cases hh : p.haveParse = true
    · obtain ⟨res, hr, hs, hl⟩ := parseIncludedFiles_noFS (fun _ => Parsed.lexErrors 0)
        (0 + (includesOf p).length + 1) (includesOf p) (by omega)
      refine ⟨res, hs, by simp [hh, hl], ?_⟩
      simp only [analyzeText, analyzeTextInc, parseSourceString, hp, hh, if_true, hr]
      rfl
    · refine ⟨[], rfl, by simp [hh], ?_⟩
      simp only [analyzeText, analyzeTextInc, parseSourceString, hp, hh, Bool.false_eq_true, if_false]
      rfl

/-- **skipped iff the top-level text is not clean** (on `noFS` no included source can have a
diagnostic) -/
theorem analyzeText_none_iff (afuel : Nat) (uc : UC) (fuel npl : Nat) (text : List Char) :
    analyzeText afuel uc fuel npl text = .ok none ↔
      ∃ p, parseChecked uc fuel npl text = .ok p ∧ ∀ ast, p ≠ .clean ast := by
  obtain ⟨h1, h2⟩ := analyzeText_eq afuel uc fuel npl text
  cases hp : parseChecked uc fuel npl text with
  | error f => rw [h1 f hp]; simp
  | ok p =>
    obtain ⟨incs, hs, -, ha⟩ := h2 p hp
    have hc := parseChecked_counted uc fuel npl text p hp
    have hiff := analyzeSource_none_iff afuel p hc incs
    rw [haveSyntaxErrors_main p hc incs, hs, Bool.or_false] at hiff
    rw [ha]
    simp only [Except.ok.injEq, exists_eq_left']
    constructor
    · intro h
      have : analyzeSource afuel p incs = .ok none := by
        cases hx : analyzeSource afuel p incs with
        | error o => rw [hx] at h; cases h
        | ok r => rw [hx] at h; simp only [Except.ok.injEq] at h; rw [h]
      have := hiff.mp this
      intro ast hast
      subst hast
      simp at this
    · intro h
      have : analyzeSource afuel p incs = .ok none := by
        apply hiff.mpr
        cases p with
        | clean ast => exact absurd rfl (h ast)
        | lexErrors n => rfl
        | syntaxErrors n i => rfl
      rw [this]

/-- **a lexical error skips the analysis** (whatever the fuels: neither the parser nor the pass runs) -/
theorem analyzeText_lex_error (afuel : Nat) (uc : UC) (fuel npl : Nat) (text : List Char)
    (h : (lexedOf uc text).error ≠ []) : analyzeText afuel uc fuel npl text = .ok none :=
  (analyzeText_none_iff afuel uc fuel npl text).mpr
    ⟨_, parseChecked_lex_error uc fuel npl text h, fun _ he => by cases he⟩

/-- **a parser diagnostic skips the analysis** (the include scan of the tree having returned) -/
theorem analyzeText_syntax_error (afuel : Nat) (uc : UC) (fuel npl : Nat) (text : List Char)
    (t : Tree) (d : List SyntaxError) (incs : List (Option (Option String)))
    (he : (lexedOf uc text).error = [])
    (hp : parserDiagnostics uc fuel npl text = .ok (t, d)) (hd : d ≠ [])
    (hi : includesOfTree (cnodeOf t) = .ok incs) :
    analyzeText afuel uc fuel npl text = .ok none := by
  apply (analyzeText_none_iff afuel uc fuel npl text).mpr
  refine ⟨.syntaxErrors d.length incs, ?_, fun _ h => by cases h⟩
  rw [parseChecked_clean uc fuel npl text he, hp]
  have : (d.length != 0) = true := by
    cases d with
    | nil => exact absurd rfl hd
    | cons x xs => simp
  simp only [parsedOfChecked, this, if_true, hi]

/-- **otherwise the analysis runs, and it is `Sema.analyzeWith` of the typed AST of the tree** -/
theorem analyzeText_clean (afuel : Nat) (uc : UC) (fuel npl : Nat) (text : List Char)
    (t : Tree) (ast : Ast.Program)
    (he : (lexedOf uc text).error = [])
    (hp : parserDiagnostics uc fuel npl text = .ok (t, []))
    (ha : Build.program (cnodeOf t) = .ok ast)
    (hn : Oq3.Props.C18.nonStd (includesOf (.clean ast)) = 0) :
    analyzeText afuel uc fuel npl text =
      match Sema.analyzeWith afuel ast with
      | .ok c => .ok (some (c, []))
      | .error o => .error (.sema o) := by
  have hpc : parseChecked uc fuel npl text = .ok (.clean ast) := by
    rw [parseChecked_clean uc fuel npl text he, hp]
    simp only [parsedOfChecked, List.length_nil, bne_self_eq_false, Bool.false_eq_true, if_false, ha]
  obtain ⟨incs, -, hl, hx⟩ := (analyzeText_eq afuel uc fuel npl text).2 _ hpc
  have : incs = [] := by
    apply List.eq_nil_of_length_eq_zero
    rw [hl]; simp [Parsed.haveParse, hn]
  subst this
  rw [hx, analyzeSource_noReal afuel ast (noReal_of_nonStd ast hn)]
  cases Sema.analyzeWith afuel ast with
  | error o => rfl
  | ok c => rfl

/-- with the default fuel of the semantic model: `Sema.analyze` -/
theorem analyzeText_clean_default (uc : UC) (fuel npl : Nat) (text : List Char)
    (t : Tree) (ast : Ast.Program)
    (he : (lexedOf uc text).error = [])
    (hp : parserDiagnostics uc fuel npl text = .ok (t, []))
    (ha : Build.program (cnodeOf t) = .ok ast)
    (hn : Oq3.Props.C18.nonStd (includesOf (.clean ast)) = 0) :
    analyzeText (Sema.defaultFuel ast) uc fuel npl text =
      match Sema.analyze ast with
      | .ok c => .ok (some (c, []))
      | .error o => .error (.sema o) :=
  analyzeText_clean (Sema.defaultFuel ast) uc fuel npl text t ast he hp ha hn

/-- **the gate over texts, as one equivalence**: the analysis of a text without readable includes is
skipped iff the lexer reports an error, or the parser stages return with a diagnostic (and the
include scan over that tree returns) -/
theorem analyzeText_skipped_iff (afuel : Nat) (uc : UC) (fuel npl : Nat) (text : List Char) :
    analyzeText afuel uc fuel npl text = .ok none ↔
      (lexedOf uc text).error ≠ [] ∨
      ∃ t d incs, parserDiagnostics uc fuel npl text = .ok (t, d) ∧ d ≠ [] ∧
        includesOfTree (cnodeOf t) = .ok incs := by
  constructor
  · intro h
    by_cases he : (lexedOf uc text).error = []
    · right
      obtain ⟨p, hp, hnc⟩ := (analyzeText_none_iff afuel uc fuel npl text).mp h
      rw [parseChecked_clean uc fuel npl text he] at hp
      cases hd : parserDiagnostics uc fuel npl text with
      | error f => rw [hd] at hp; cases hp
      | ok r =>
        obtain ⟨t, d⟩ := r
        rw [hd] at hp
        simp only at hp
        obtain ⟨h1, h2⟩ := parsedOfChecked_tree_counted t d p hp
        by_cases hdn : d = []
        · obtain ⟨ast, -, rfl⟩ := h2 hdn
          exact absurd rfl (hnc ast)
        · obtain ⟨incs, hi, -, -⟩ := h1 hdn
          exact ⟨t, d, incs, rfl, hdn, hi⟩
    · exact Or.inl he
  · rintro (h | ⟨t, d, incs, hp, hd, hi⟩)
    · exact analyzeText_lex_error afuel uc fuel npl text h
    · by_cases he : (lexedOf uc text).error = []
      · exact analyzeText_syntax_error afuel uc fuel npl text t d incs he hp hd hi
      · exact analyzeText_lex_error afuel uc fuel npl text he

/-- skipped ⇒ `Context::new`: empty program, no semantic diagnostic, flag set; and the summary
accessors of `Model/EntryPoints.lean` say the same -/
theorem skipped_is_empty :
    (resultContext none).program = [] ∧ (resultContext none).semanticErrors = [] ∧
    resultHaveSyntaxErrors none = true ∧
    ∀ main inc, (summarize main inc none).anySemantic = false ∧ (summarize main inc none).numStmts = 0 :=
  ⟨rfl, rfl, rfl, fun _ _ => ⟨rfl, rfl⟩⟩

/-- the text is rejected by the lexical gate, for all fuels: `parse_check_lex` returns no tree and a
non-empty list of (lexer) diagnostics, and `parse_source_string` skips the analysis -/
def LexRejected (uc : UC) (text : List Char) : Prop :=
  ∀ fuel npl afuel,
    checkLexParse uc fuel npl text = .ok (none, lexErrorsOf (lexedOf uc text)) ∧
    lexErrorsOf (lexedOf uc text) ≠ [] ∧
    analyzeText afuel uc fuel npl text = .ok none

theorem lexRejected_of_error (uc : UC) (text : List Char) (h : (lexedOf uc text).error ≠ []) :
    LexRejected uc text := fun fuel npl afuel =>
  ⟨checkLexParse_lex_error uc fuel npl text h, lexErrorsOf_ne_nil _ h,
    analyzeText_lex_error afuel uc fuel npl text h⟩

/-- **a flagged token at a token boundary** (`C11.error_at_boundary`): the text is rejected, and the
diagnostics contain the token's message on exactly the token's range -/
theorem flagged_token_rejected (uc : UC) (pre s : List Char) (tp : List Token) (hs : s ≠ [])
    (hb : tokenize uc (pre ++ s) = tp ++ tokenize uc s)
    (herr : Flagged (tokenAt uc s).kind (tokenAt uc s).text) :
    LexRejected uc (pre ++ s) ∧
    (⟨errMsg (tokenAt uc s), Oq3.Lexer.utf8Len pre, Oq3.Lexer.utf8Len pre + (tokenAt uc s).len⟩ : SyntaxError) ∈
      lexErrorsOf (lexedOf uc (pre ++ s)) := by
  obtain ⟨l, hl, ⟨e, he, het, hem⟩, hr⟩ := error_at_boundary uc pre s tp hs hb herr
  have hle := Oq3.Props.C14.lexed_eq uc _ l hl
  subst hle
  refine ⟨lexRejected_of_error uc _ (fun h => by rw [h] at he; cases he), ?_⟩
  unfold lexErrorsOf
  refine List.mem_map.mpr ⟨e, he, ?_⟩
  rw [het, hr, hem]

/-- **a malformed lexeme after any admissible layout of well-formed lexemes**
(`C11.malformed_in_context`) -/
theorem malformed_in_context_rejected {uc : UC} (hu : AsciiUC uc) (lead : Sep)
    (items : List (Lexeme × Sep)) (s : List Char) (hs : s ≠ [])
    (hlead : sepOK lead (itemsTextK items s) = true) (hitems : itemsOKK uc items s = true)
    (herr : Flagged (tokenAt uc s).kind (tokenAt uc s).text) :
    LexRejected uc (sepText lead ++ itemsTextK items s) := by
  obtain ⟨l, hl, ⟨e, he, -, -⟩, -⟩ := malformed_in_context hu lead items s hs hlead hitems herr
  have hle := Oq3.Props.C14.lexed_eq uc _ l hl
  subst hle
  exact lexRejected_of_error uc _ (fun h => by rw [h] at he; cases he)

section Classes
variable {uc : UC} (hu : AsciiUC uc) (lead : Sep) (items : List (Lexeme × Sep))
include hu

theorem rejected_of_advance (s : List Char) (hs : s ≠ [])
    (hlead : sepOK lead (itemsTextK items s) = true) (hitems : itemsOKK uc items s = true)
    (herr : ∀ text, Flagged (advanceToken uc s).kind text) :
    LexRejected uc (sepText lead ++ itemsTextK items s) :=
  malformed_in_context_rejected hu lead items s hs hlead hitems (herr _)

/-- unterminated block comment (`/*` with no `*/` after it) -/
theorem rejected_block_comment (body : List Char) (h : hasStarSlash body = false)
    (hlead : sepOK lead (itemsTextK items ('/' :: '*' :: body)) = true)
    (hitems : itemsOKK uc items ('/' :: '*' :: body) = true) :
    LexRejected uc (sepText lead ++ itemsTextK items ('/' :: '*' :: body)) := by
  refine rejected_of_advance hu lead items _ (by simp) hlead hitems ?_
  obtain ⟨term, hk, hf, ht⟩ := malformed_flagged_block_comment (uc := uc) body
  intro text
  rw [hk]
  exact (hf (ht h)).2 text

/-- unterminated string / bit string (a quote, then no further quote of that kind) -/
theorem rejected_string (q : Char) (hq : q = '"' ∨ q = '\'') (body : List Char)
    (h : body.all (fun c => c != q) = true)
    (hlead : sepOK lead (itemsTextK items (q :: body)) = true)
    (hitems : itemsOKK uc items (q :: body) = true) :
    LexRejected uc (sepText lead ++ itemsTextK items (q :: body)) := by
  refine rejected_of_advance hu lead items _ (by simp) hlead hitems ?_
  obtain ⟨k, hk, -, hcase, -⟩ := malformed_flagged_string hu q hq body h
  intro text
  rw [hk]
  rcases hcase with rfl | ⟨c, rfl⟩
  · rfl
  · rfl

/-- `0b` / `0o` / `0x` without digits -/
theorem rejected_empty_int (r : Radix) (rest : List Char)
    (h : headSat (if r = .hex then isHexU else isDigitU) rest = false)
    (hlead : sepOK lead (itemsTextK items ('0' :: r.char :: rest)) = true)
    (hitems : itemsOKK uc items ('0' :: r.char :: rest) = true) :
    LexRejected uc (sepText lead ++ itemsTextK items ('0' :: r.char :: rest)) :=
  rejected_of_advance hu lead items _ (by simp) hlead hitems
    (malformed_flagged_empty_int hu r rest h).2.2

/-- exponent marker without digits (`1e`, `1.5e-`, …) -/
theorem rejected_empty_exponent (ip : List Char) (fp : Option (List Char)) (marker : Char)
    (sign : Option Char) (rest : List Char)
    (hip : digitRun isDecDigit ip = true)
    (hfp : (match fp with | some f => digitRun isDecDigit f | none => true) = true)
    (hm : (marker == 'e' || marker == 'E') = true)
    (hs : sign.all (fun c => c == '+' || c == '-') = true)
    (hr : headSat isDigitU rest = false)
    (hns : sign = none → (first rest == '-' || first rest == '+') = false)
    (hlead : sepOK lead (itemsTextK items (ip ++ (fracText fp ++ marker :: sign.toList) ++ rest)) = true)
    (hitems : itemsOKK uc items (ip ++ (fracText fp ++ marker :: sign.toList) ++ rest) = true) :
    LexRejected uc (sepText lead ++ itemsTextK items (ip ++ (fracText fp ++ marker :: sign.toList) ++ rest)) := by
  have hne : ip ++ (fracText fp ++ marker :: sign.toList) ++ rest ≠ [] := by
    cases ip with
    | nil => simp [digitRun, headSat] at hip
    | cons c t => simp
  exact malformed_in_context_rejected hu lead items _ hne hlead hitems
    ((malformed_flagged_empty_exponent hu ip fp marker sign rest hip hfp hm hs hr hns).2.2 _)

/-- `OPENQASM` without a version number -/
theorem rejected_version_no_number (ws tail : List Char) (hne : ws ≠ [])
    (hws : ws.all Oq3.Lexer.isWhitespace = true) (ht : headSat Oq3.Lexer.isWhitespace tail = false)
    (hd : headSat isDigitU tail = false)
    (hlead : sepOK lead (itemsTextK items (openqasmWord ++ ws ++ tail)) = true)
    (hitems : itemsOKK uc items (openqasmWord ++ ws ++ tail) = true) :
    LexRejected uc (sepText lead ++ itemsTextK items (openqasmWord ++ ws ++ tail)) :=
  rejected_of_advance hu lead items _ (by simp [openqasmWord]) hlead hitems
    (malformed_flagged_version_no_number ws tail hne hws ht hd).2

/-- `OPENQASM 3.` without minor digits -/
theorem rejected_version_no_minor (ws major tail : List Char) (hne : ws ≠ [])
    (hws : ws.all Oq3.Lexer.isWhitespace = true) (hmne : major ≠ []) (hmaj : major.all isDecDigit = true)
    (hd : headSat isDigitU tail = false)
    (hlead : sepOK lead (itemsTextK items (openqasmWord ++ ws ++ (major ++ '.' :: tail))) = true)
    (hitems : itemsOKK uc items (openqasmWord ++ ws ++ (major ++ '.' :: tail)) = true) :
    LexRejected uc (sepText lead ++ itemsTextK items (openqasmWord ++ ws ++ (major ++ '.' :: tail))) :=
  rejected_of_advance hu lead items _ (by simp [openqasmWord]) hlead hitems
    (malformed_flagged_version_no_minor ws major tail hne hws hmne hmaj hd).2

/-- `OPENQASM 3x`, `OPENQASM 3.0x`, and a version number at the very end of the input -/
theorem rejected_version_junk (ws major : List Char) (minor : Option (List Char)) (tail : List Char)
    (hne : ws ≠ []) (hws : ws.all Oq3.Lexer.isWhitespace = true) (hmne : major ≠ [])
    (hmaj : major.all isDecDigit = true)
    (hmin : (match minor with | some m => !m.isEmpty && m.all isDecDigit | none => true) = true)
    (ht : headSat (fun c => isDigitU c || c == ';' || Oq3.Lexer.isWhitespace c) tail = false)
    (hdot : minor = none → (first tail == '.') = false)
    (hlead : sepOK lead (itemsTextK items (openqasmWord ++ ws ++ (major ++ (minorText minor ++ tail)))) = true)
    (hitems : itemsOKK uc items (openqasmWord ++ ws ++ (major ++ (minorText minor ++ tail))) = true) :
    LexRejected uc (sepText lead ++ itemsTextK items (openqasmWord ++ ws ++ (major ++ (minorText minor ++ tail)))) :=
  rejected_of_advance hu lead items _ (by simp [openqasmWord]) hlead hitems
    (malformed_flagged_version_junk ws major minor tail hne hws hmne hmaj hmin ht hdot).2

/-- an identifier with an emoji inside or right after it -/
theorem rejected_ident_emoji (c : Char) (t : List Char) (e : Char) (more : List Char)
    (hc : isIdStart uc c = true) (ht : t.all (isIdContinue uc) = true)
    (hp : c :: t ≠ pragmaWord) (hO : c :: t ≠ openqasmWord)
    (he : isNonAsciiEmoji uc e = true) (hec : isIdContinue uc e = false)
    (hlead : sepOK lead (itemsTextK items (c :: t ++ e :: more)) = true)
    (hitems : itemsOKK uc items (c :: t ++ e :: more) = true) :
    LexRejected uc (sepText lead ++ itemsTextK items (c :: t ++ e :: more)) :=
  rejected_of_advance hu lead items _ (by simp) hlead hitems
    (malformed_flagged_ident_emoji hu c t e more hc ht hp hO he hec).2.2

/-- an emoji where a token starts -/
theorem rejected_emoji_start (c : Char) (cs : List Char)
    (he : isNonAsciiEmoji uc c = true) (hc : isIdStart uc c = false)
    (hlead : sepOK lead (itemsTextK items (c :: cs)) = true)
    (hitems : itemsOKK uc items (c :: cs) = true) :
    LexRejected uc (sepText lead ++ itemsTextK items (c :: cs)) :=
  rejected_of_advance hu lead items _ (by simp) hlead hitems
    (malformed_flagged_emoji_start hu c cs he hc).2

/-- a bare `#` -/
theorem rejected_pound (cs : List Char) (hp : (first cs == 'p') = false) (hd : (first cs == 'd') = false)
    (hlead : sepOK lead (itemsTextK items ('#' :: cs)) = true)
    (hitems : itemsOKK uc items ('#' :: cs) = true) :
    LexRejected uc (sepText lead ++ itemsTextK items ('#' :: cs)) := by
  refine rejected_of_advance hu lead items _ (by simp) hlead hitems ?_
  intro text
  rw [(malformed_flagged_pound hu cs hp hd).1]
  rfl

end Classes

/-- checker for the hypotheses of `analyzeText_clean` -/
def cleanWitness (uc : UC) (fuel npl : Nat) (text : List Char) : Bool :=
  (lexedOf uc text).error.isEmpty &&
  match parserDiagnostics uc fuel npl text with
  | .ok (t, []) =>
    (match Build.program (cnodeOf t) with
     | .ok ast => Oq3.Props.C18.nonStd (includesOf (.clean ast)) == 0
     | .error _ => false)
  | _ => false

theorem cleanWitness_sound (uc : UC) (fuel npl : Nat) (text : List Char)
    (h : cleanWitness uc fuel npl text = true) :
    (lexedOf uc text).error = [] ∧ ∃ t ast, parserDiagnostics uc fuel npl text = .ok (t, []) ∧
      Build.program (cnodeOf t) = .ok ast ∧ Oq3.Props.C18.nonStd (includesOf (.clean ast)) = 0 := by
  unfold cleanWitness at h
  simp only [Bool.and_eq_true, List.isEmpty_iff] at h
  refine ⟨h.1, ?_⟩
  have h2 := h.2
  split at h2
  · rename_i t hp
    split at h2
    · rename_i ast ha
      exact ⟨t, ast, hp, ha, by simpa using h2⟩
    · cases h2
  · cases h2

/-- checker for the hypotheses of `analyzeText_syntax_error` -/
def syntaxErrorWitness (uc : UC) (fuel npl : Nat) (text : List Char) : Bool :=
  (lexedOf uc text).error.isEmpty &&
  match parserDiagnostics uc fuel npl text with
  | .ok (t, _ :: _) => (match includesOfTree (cnodeOf t) with | .ok _ => true | .error _ => false)
  | _ => false

theorem syntaxErrorWitness_sound (uc : UC) (fuel npl : Nat) (text : List Char)
    (h : syntaxErrorWitness uc fuel npl text = true) :
    (lexedOf uc text).error = [] ∧ ∃ t d incs, parserDiagnostics uc fuel npl text = .ok (t, d) ∧
      d ≠ [] ∧ includesOfTree (cnodeOf t) = .ok incs := by
  unfold syntaxErrorWitness at h
  simp only [Bool.and_eq_true, List.isEmpty_iff] at h
  refine ⟨h.1, ?_⟩
  have h2 := h.2
  split at h2
  · rename_i t x xs hp
    split at h2
    · rename_i incs hi
      exact ⟨t, x :: xs, incs, hp, by simp, hi⟩
    · cases h2
  · cases h2

section Examples
open Oq3.Props.C14 (ucAscii)

/-- `int x = 1;`: no lexer error, no parser diagnostic, an AST, no include -/
theorem ex_clean : cleanWitness ucAscii 200 2000 "int x = 1;".toList = true := by decide +kernel

/-- … so `analyzeText_clean` applies to it (hypotheses satisfiable), and the analysis really runs -/
example : ∃ ast, analyzeText 1000 ucAscii 200 2000 "int x = 1;".toList =
    match Sema.analyzeWith 1000 ast with
    | .ok c => .ok (some (c, []))
    | .error o => .error (.sema o) := by
  obtain ⟨he, t, ast, hp, ha, hn⟩ := cleanWitness_sound _ _ _ _ ex_clean
  exact ⟨ast, analyzeText_clean 1000 ucAscii 200 2000 _ t ast he hp ha hn⟩

example : (match analyzeText 1000 ucAscii 200 2000 "int x = 1; x = 2;".toList with
    | .ok (some (c, [])) => c.program.length == 2 && c.semanticErrors.isEmpty
    | _ => false) = true := by decide +kernel

/-- a text with `include "stdgates.inc";` only: still "without real includes" -/
example : cleanWitness ucAscii 400 4000 "include \"stdgates.inc\"; qubit q; h q;".toList = true := by
  decide +kernel

/-- `int x = 0b;`: a lexer error (`0b` without digits) -/
theorem ex_lex_error : (lexedOf ucAscii "int x = 0b;".toList).error ≠ [] := by decide +kernel

example : LexRejected ucAscii "int x = 0b;".toList := lexRejected_of_error _ _ ex_lex_error

example : (match checkLexParse ucAscii 200 2000 "int x = 0b;".toList with
    | .ok (none, [e]) => e.start == 8 && e.stop == 10 &&
        e.msg == "Missing digits after the integer base prefix"
    | _ => false) = true := by decide +kernel

/-- `int x` (no semicolon): no lexer error, a tree, one parser diagnostic -/
theorem ex_syntax_error : syntaxErrorWitness ucAscii 200 2000 "int x".toList = true := by
  decide +kernel

example : analyzeText 1000 ucAscii 200 2000 "int x".toList = .ok none := by
  obtain ⟨he, t, d, incs, hp, hd, hi⟩ := syntaxErrorWitness_sound _ _ _ _ ex_syntax_error
  exact analyzeText_syntax_error 1000 ucAscii 200 2000 _ t d incs he hp hd hi

example : (match checkLexParse ucAscii 200 2000 "int x".toList with
    | .ok (some _, d) => d.length
    | _ => 0) = 1 := by decide +kernel

/-- an instance of a class theorem of (3): `0b` right after the admissible layout `x =␣` -/
example : LexRejected ucAscii
    (sepText [] ++ itemsTextK [(.word ['x'], [.ws [' ']]), (.punct '=', [.ws [' ']])] ['0', 'b', ';']) :=
  rejected_empty_int ucAscii_ok [] _ .bin [';'] (by decide) (by decide +kernel) (by decide +kernel)

end Examples

end Oq3.Props.C11Stages
