/-
C18 / C11 — the entry points and the summary accessors around the include model.

* `file_entry_eq_string_entry`: analysing a FILE is analysing the STRING that the file contains: when the top-level path
  resolves to a readable file with content `text`, `parse_source_file_with_search` yields the same parsed source and the
  same included sources as `parse_source_string` on `text`, for every file system, search list, environment list and
  fuel; only the path tag differs (the resolved path instead of "no file").  An unreadable top-level file is the one
  documented panic (`file_entry_unreadable`).
* `file_entry_resolution`: the top-level path is resolved by the same rule as include paths (absolute: itself; else the
  first directory of the explicit list that has the file; the environment list only when no list is given).
* `haveSyntaxErrors_iff_num` / `anyErrors_iff_count`: the boolean accessors are exact at EVERY depth of the include
  tree: `have_syntax_errors()` is true iff some parsed source of the tree recorded a diagnostic
  (`num_syntax_errors() > 0`), `any_semantic_errors()` is true iff some per-file list of the tree is non-empty.
* `summary_*`: `any_errors = any_syntax ∨ any_semantic`; when analysis is skipped there is no semantic diagnostic and the
  program is empty (the C11 gate seen through the accessors).
-/
import Oq3.Model.EntryPoints
import Oq3.Props.C18

namespace Oq3.Props.C18Entry
open Oq3.Includes Oq3.Sema

theorem file_entry_eq_string_entry (fs : FS) (parse : String → Parsed) (search env : Option (List String))
    (fuel : Nat) (path text : String)
    (h : fs.read (resolveFilePath fs path search env) = .ok text) :
    parseEntry fs parse search env fuel (.file path) =
      (parseEntry fs parse search env fuel (.string text)).map
        (fun r => (resolveFilePath fs path search env, r.2.1, r.2.2)) := by
  simp only [parseEntry, h]
  cases parseSourceAndIncludes fs parse search env fuel text with
  | error e => rfl
  | ok r => rfl

theorem file_entry_unreadable (fs : FS) (parse : String → Parsed) (search env : Option (List String))
    (fuel : Nat) (path : String)
    (h : ∀ text, fs.read (resolveFilePath fs path search env) ≠ .ok text) :
    parseEntry fs parse search env fuel (.file path) = .error (.panic "read_source_file") := by
  have hr : ∀ r, fs.read (resolveFilePath fs path search env) = r →
      parseEntry fs parse search env fuel (.file path) = .error (.panic "read_source_file") := by
    intro r hr
    cases r with
    | ok content => exact absurd hr (h content)
    | notFound => simp only [parseEntry, hr]
    | permissionDenied => simp only [parseEntry, hr]
    | other => simp only [parseEntry, hr]
  exact hr _ rfl

/-- the top-level path of the file entry point goes through `resolve_file_path` -/
theorem file_entry_resolution (fs : FS) (parse : String → Parsed) (search env : Option (List String))
    (fuel : Nat) (path : String) (tag : String) (p : Parsed) (incs : List PSrc)
    (h : parseEntry fs parse search env fuel (.file path) = .ok (tag, p, incs)) :
    tag = resolveFilePath fs path search env := by
  simp only [parseEntry] at h
  split at h
  · split at h
    · cases h; rfl
    · cases h
  · cases h

theorem resolve_absolute (fs : FS) (path : String) (search env : Option (List String))
    (h : isAbsolute path = true) : resolveFilePath fs path search env = path :=
  C18.resolve_absolute fs path search env h

theorem resolve_explicit_list_ignores_env (fs : FS) (path : String) (l : List String) (env env' : Option (List String)) :
    resolveFilePath fs path (some l) env = resolveFilePath fs path (some l) env' :=
  C18.resolve_search_shadows_env fs path l env env'

mutual
theorem haveSyntaxErrors_iff_num : ∀ s : PSrc, haveSyntaxErrors s = true ↔ 0 < numSyntaxErrors s
  | .mk _ parsed _ included => by
    have ih := anyHave_iff_numL included
    unfold haveSyntaxErrors numSyntaxErrors
    cases parsed with
    | none => simp [ih]
    | some p =>
      cases p with
      | lexErrors n => simp [ih]; omega
      | syntaxErrors n incs => simp [ih]; omega
      | clean ast => simp [ih]
theorem anyHave_iff_numL : ∀ l : List PSrc, anyHaveSyntaxErrors l = true ↔ 0 < numSyntaxErrorsL l
  | [] => by simp [anyHaveSyntaxErrors, numSyntaxErrorsL]
  | s :: ss => by
    have h1 := haveSyntaxErrors_iff_num s
    have h2 := anyHave_iff_numL ss
    simp [anyHaveSyntaxErrors, numSyntaxErrorsL, h1, h2]; omega
end

mutual
theorem anyErrors_iff_count : ∀ t : ErrTree, t.anyErrors = true ↔ 0 < t.count
  | .mk _ errs kids => by
    have ih := anyErrorsL_iff_countL kids
    unfold ErrTree.anyErrors ErrTree.count
    cases errs with
    | nil => simp [ih]
    | cons e es => simp; omega
theorem anyErrorsL_iff_countL : ∀ l : List ErrTree, anyErrorsL l = true ↔ 0 < countL l
  | [] => by simp [anyErrorsL, countL]
  | t :: ts => by
    have h1 := anyErrors_iff_count t
    have h2 := anyErrorsL_iff_countL ts
    simp [anyErrorsL, countL, h1, h2]; omega
end

/-- a diagnostic at any depth behind files without diagnostics of their own is seen by the accessor -/
theorem anyErrors_nested (p1 p2 p3 : String) (e : SemErr) :
    (ErrTree.mk p1 [] [ErrTree.mk p2 [] [ErrTree.mk p3 [e] []]]).anyErrors = true := by
  simp [ErrTree.anyErrors, anyErrorsL]

theorem haveSyntaxErrors_nested (p1 p2 p3 : String) (n : Nat) (hn : n ≠ 0) (a1 a2 : Ast.Program) :
    haveSyntaxErrors (.mk p1 (some (.clean a1)) none [.mk p2 (some (.clean a2)) none [.mk p3 (some (.lexErrors n)) none []]]) = true := by
  simp [haveSyntaxErrors, anyHaveSyntaxErrors, hn]

theorem summary_any (main : Parsed) (inc : List PSrc) (r : Option (Ctx × List ErrTree)) :
    (summarize main inc r).anyErrors = ((summarize main inc r).anySyntax || (summarize main inc r).anySemantic) := rfl

theorem summary_syntax_exact (main : Parsed) (inc : List PSrc) (r : Option (Ctx × List ErrTree)) :
    (summarize main inc r).anySyntax = true ↔ 0 < (summarize main inc r).numSyntax := by
  simp only [summarize]
  exact haveSyntaxErrors_iff_num _

theorem summary_semantic_exact (main : Parsed) (inc : List PSrc) (c : Ctx) (trees : List ErrTree) :
    (summarize main inc (some (c, trees))).anySemantic = true ↔ 0 < c.semanticErrors.length + countL trees := by
  simp only [summarize]
  exact anyErrors_iff_count (ErrTree.mk "" c.semanticErrors trees)

/-- the gate seen through the accessors: analysis skipped ⇒ no semantic diagnostic, empty program -/
theorem summary_skipped (main : Parsed) (inc : List PSrc) :
    (summarize main inc none).anySemantic = false ∧ (summarize main inc none).numStmts = 0 := ⟨rfl, rfl⟩

/-- one direction (the name says more): the syntax accessor true ⇒ `analyze_source` skips, for a main text
that has a tree (`C18.analysis_skipped_iff` at `.clean ast`) -/
theorem analyze_skips_iff (fuel : Nat) (ast : Ast.Program) (inc : List PSrc) :
    (haveSyntaxErrors (.mk "" (some (.clean ast)) none inc) = true → analyzeSource fuel (.clean ast) inc = .ok none) :=
  C18.analysis_skipped_iff fuel (.clean ast) inc

example : (summarize (.lexErrors 2) [] none).anySyntax = true := by decide
example : (summarize (.syntaxErrors 0 []) [.mk "a" (some (.syntaxErrors 1 [])) none []] none).numSyntax = 1 := by decide

end Oq3.Props.C18Entry
